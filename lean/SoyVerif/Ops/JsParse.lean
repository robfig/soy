/-
  Protocol operation tying the READER of JavaScript text (Spec/JsParse: tokenizer, parser, reading as the ASTs of
  Spec/JsSemRef / Spec/JsStmt) to a JavaScript engine's parser and to the generator.

  jsparse  fields: JavaScript text (hex), compiled files `(files (file NAME cmds…) …)` or `(files)`, file name (hex),
           [globals `(m (KEY value)…)` as in jsgen: the table the bundle was compiled with]
           The text (REAL soyjs.Write output, or a corrupted variant) is read with `jsParseFile`.  When the compiled
           file is given and every template of it is in the fragment (Props/C04fFile `toFile`), the functions read are
           compared with the model's translation (in the canonical form of Props/C14c).
           answer:  `ACCEPT <n> SAME`            read as n functions, equal to the translation
                    `ACCEPT <n> DIFF <read> <translation>`   (S-expressions)
                    `ACCEPT <n> NOAST`           read as n functions; no translation to compare with
                    `REJECT LEX|PARSE|READ  AST|NOAST`   not a text of the fragment (no tokens / no parse / a program
                        the fragment's ASTs do not describe); `AST`: the model HAS a translation of the file
                    `BADREQ` / `BADTREE`
-/
import SoyVerif.Ops.Common
import SoyVerif.Ops.Check
import SoyVerif.Ops.JsGen
import SoyVerif.Props.C14c

namespace SoyVerif.Ops.JsParse
open SoyVerif SoyVerif.Ops SoyVerif.Model SoyVerif.Spec.JsParse
open SoyVerif.Spec.JsSemRef (JsExpr Fn1 Fn2)
open SoyVerif.Spec.JsSem (JsOp)
open SoyVerif.Spec.JsStmt
open SoyVerif.Props.C04f (toFile)
open SoyVerif.Props.C14c (canonF)

def hx (b : Bytes) : String := Bytes.toHexWire b

def showOp : JsOp → String
  | .mul => "mul" | .mod => "mod" | .add => "add" | .sub => "sub" | .eq => "eq" | .ne => "ne"
  | .lt => "lt" | .le => "le" | .gt => "gt" | .ge => "ge" | .and => "and" | .or => "or"

def showE : JsExpr → String
  | .null => "null"
  | .bool b => if b then "true" else "false"
  | .num i => s!"(num {i})"
  | .str s => s!"(str {hx s})"
  | .neg a => s!"(neg {showE a})"
  | .not a => s!"(not {showE a})"
  | .bin op a b => s!"(bin {showOp op} {showE a} {showE b})"
  | .cond c a b => s!"(cond {showE c} {showE a} {showE b})"
  | .nonNullElse a a' b => s!"(elvis {showE a} {showE a'} {showE b})"
  | .local g => s!"(local {hx g})"
  | .optData k => s!"(optData {hx k})"
  | .ijData => "ijData"
  | .member x k => s!"(member {showE x} {hx k})"
  | .index x i => s!"(index {showE x} {i})"
  | .guard g r => s!"(guard {showE g} {showE r})"
  | .paren x => s!"(paren {showE x})"
  | .call1 .floor a => s!"(floor {showE a})"
  | .call1 .ceil a => s!"(ceil {showE a})"
  | .call1 .round a => s!"(round {showE a})"
  | .call1 .length a => s!"(length {showE a})"
  | .call1 .nonNull a => s!"(nonNull {showE a})"
  | .call2 .min a b => s!"(min {showE a} {showE b})"
  | .call2 .max a b => s!"(max {showE a} {showE b})"
  | .loopFirst i => s!"(loopFirst {hx i})"
  | .loopLastEach i l => s!"(loopLastEach {hx i} {hx l})"
  | .loopLastRange v s l => s!"(loopLastRange {hx v} {hx s} {hx l})"

/-- a literal directive argument (anything else: its constructor) -/
def showArg : Expr → String
  | .null p => s!"(null@{p})"
  | .bool p b => s!"(bool@{p} {b})"
  | .int p v => s!"(int@{p} {v})"
  | .str p q v => s!"(str@{p} {hx q} {hx v})"
  | _ => "(other)"

def showDir (d : Directive) : String := s!"(dir@{d.pos} {hx d.name} {" ".intercalate (d.args.map showArg)})"

def showBase : DataBase → String
  | .empty => "empty"
  | .all => "all"
  | .expr e => s!"(expr {showE e})"

mutual
  def showS : JsStmt → String
    | .appendLit b t => s!"(appendLit {hx b} {hx t})"
    | .append b e ds => s!"(append {hx b} {showE e} [{" ".intercalate (ds.map showDir)}])"
    | .var x e => s!"(var {hx x} {showE e})"
    | .varEmpty x => s!"(varEmpty {hx x})"
    | .ifs conds => s!"(ifs {showConds conds})"
    | .varLength x l => s!"(varLength {hx x} {hx l})"
    | .varIndex x l i => s!"(varIndex {hx x} {hx l} {hx i})"
    | .forUp i lim body => s!"(forUp {hx i} {hx lim} {showSs body})"
    | .ifPos lim body els => s!"(ifPos {hx lim} {showSs body} {showSs els})"
    | .forStep i lim step idx init body => s!"(forStep {hx i} {hx lim} {hx step} {hx idx} {showE init} {showSs body})"
    | .switchS e cases => s!"(switch {showE e} {showCases cases})"
    | .call b callee base params =>
      s!"(call {hx b} {hx callee} {showBase base} [{" ".intercalate (params.map fun kv => s!"({hx kv.1} {showE kv.2})")}])"
    | .ifZero idx body => s!"(ifZero {hx idx} {showSs body})"
    | .pluralS e cases dflt => s!"(plural {showE e} {showPlural cases} {showSs dflt})"
    | .appendCss b e => s!"(appendCss {hx b} {showE e})"
    | .debuggerS => "debugger"
  def showSs : JsStmts → String
    | .nil => "()"
    | .cons s r => s!"({showS s} . {showSs r})"
  def showConds : JsConds → String
    | .nil => "()"
    | .els body => s!"(else {showSs body})"
    | .cons c body rest => s!"(if {showE c} {showSs body} {showConds rest})"
  def showCases : JsCases → String
    | .nil => "()"
    | .dflt body => s!"(default {showSs body})"
    | .cons labels body rest => s!"(case [{" ".intercalate (labels.map showE)}] {showSs body} {showCases rest})"
  def showPlural : JsPlural → String
    | .nil => "()"
    | .cons v body rest => s!"(case {v} {showSs body} {showPlural rest})"
end

def showF (f : JsFunc) : String := s!"(func {hx f.name} {f.optional} {showSs f.body})"

def showFs (fs : List JsFunc) : String := "[" ++ " ".intercalate (fs.map showF) ++ "]"

/-- the translation of the file, if the model has one -/
def translation [SoyVerif.Props.C04c.Globals] (files fname : String) : Option (Option (List JsFunc)) :=
  match Check.decFiles files, Bytes.ofHex fname with
  | some fs, some fnm =>
    (match fs.find? (·.name == fnm) with
      | some file => some ((toFile file).map fun r => r.1.map canonF)
      | none => some none)
  | _, _ => none

/-- the answer for a decoded request -/
def run (text : Bytes) (files fname : String) (gs : List (Bytes × Value)) : String :=
  letI : SoyVerif.Props.C04c.Globals := ⟨gs⟩
  match translation files fname with
  | none => "BADTREE"
  | some tr =>
    let tag := if tr.isSome then "AST" else "NOAST"
    match jsLex text with
    | none => "REJECT LEX " ++ tag
    | some ts =>
      match parseProgram ts with
      | none => "REJECT PARSE " ++ tag
      | some p =>
        match readProgram p with
        | none => "REJECT READ " ++ tag
        | some fs =>
          match tr with
          | none => s!"ACCEPT {fs.length} NOAST"
          | some want =>
            if showFs fs == showFs want then s!"ACCEPT {fs.length} SAME"
            else s!"ACCEPT {fs.length} DIFF {showFs fs} {showFs want}"

def ops : List Op := [
  ("jsparse", fun f => match f with
    | [textH, files, fname] =>
      (match Bytes.ofHex textH with
        | some text => run text files fname []
        | none => "BADTREE")
    | [textH, files, fname, globalsS] =>
      (match Bytes.ofHex textH, Ops.JsGen.decGlobals globalsS with
        | some text, some gs => run text files fname gs
        | _, _ => "BADTREE")
    | _ => "BADREQ")
]

end SoyVerif.Ops.JsParse
