/-
  Lemmas about the render model (Model/MsgRender.lean): `Placeholder(name)` on flat bodies
  and on PO-shaped plurals, compositionality of `evalMsgParts`, and the core of the identity
  translation: rendering `Parts(placeholder string)` reproduces the source render (`expectedParts`, the
  guard `NoMatch` / `FlatOK` and `partsGo_writeFP` are those of Lemmas/MsgParts).
-/
import SoyVerif.Model.MsgRender
import SoyVerif.Lemmas.MsgParts

namespace SoyVerif.Model.Msg

def RPart.isPlural : RPart → Bool
  | .plural _ _ _ _ => true
  | _ => false

/-- no plural among the (top-level) parts of a compiled body (`bodyFlat` says it of the source body) -/
def isFlat (ps : List RPart) : Bool := ps.all (!·.isPlural)

/-- first top-level placeholder with the given name -/
def findSrc (name : Bytes) : List RPart → Option Bytes
  | [] => none
  | .ph n s :: r => if n == name then some s else findSrc name r
  | _ :: r => findSrc name r

theorem phSearch_nil (name : Bytes) : ∀ f, phSearch name f [] = none
  | 0 => rfl
  | _ + 1 => rfl

theorem isFlat_cons {p : RPart} {ps : List RPart} (h : isFlat (p :: ps) = true) :
    p.isPlural = false ∧ isFlat ps = true := by
  simpa [isFlat] using h

theorem phSearch_flat (name : Bytes) : ∀ (ps : List RPart), isFlat ps = true → ∀ (f : Nat) (rest : List PItem),
    phSearch name (f + ps.length) (ps.map .part ++ rest) = (findSrc name ps).or (phSearch name f rest)
  | [], _, f, rest => by simp [findSrc]
  | p :: ps, h, f, rest => by
    obtain ⟨hp, hps⟩ := isFlat_cons h
    have ih := phSearch_flat name ps hps f rest
    cases p with
    | text b =>
      simp only [List.length_cons, List.map_cons, List.cons_append, ← Nat.add_assoc, phSearch, findSrc]
      exact ih
    | ph n s =>
      simp only [List.length_cons, List.map_cons, List.cons_append, ← Nat.add_assoc, phSearch, findSrc]
      split
      · simp
      · exact ih
    | plural _ _ _ _ => simp [RPart.isPlural] at hp

theorem weightList_flat : ∀ ps : List RPart, isFlat ps = true → weightList ps = ps.length
  | [], _ => rfl
  | p :: ps, h => by
    obtain ⟨hp, hps⟩ := isFlat_cons h
    cases p with
    | text b => simp [weightList, RPart.weight, weightList_flat ps hps]; omega
    | ph n s => simp [weightList, RPart.weight, weightList_flat ps hps]; omega
    | plural _ _ _ _ => simp [RPart.isPlural] at hp

theorem placeholder_flat (name : Bytes) (R : List RPart) (h : isFlat R = true) :
    placeholder name R = findSrc name R := by
  unfold placeholder
  have := phSearch_flat name R h 1 []
  rw [weightList_flat R h, Nat.add_comm]
  simp only [List.append_nil] at this
  rw [this, phSearch_nil]
  cases findSrc name R <;> rfl

/-- on a PO-shaped plural the search visits the default body first, then the case body -/
theorem placeholder_poPlural (name N s : Bytes) (k : Int) (C D : List RPart)
    (hC : isFlat C = true) (hD : isFlat D = true) :
    placeholder name [.plural N s [(k, C)] D] = findSrc name (D ++ C) := by
  have hflat : isFlat (D ++ C) = true := by
    simp only [isFlat, List.all_append, Bool.and_eq_true] at hC hD ⊢
    exact ⟨hD, hC⟩
  have hw : weightList [.plural N s [(k, C)] D] + 1 = (1 + (D ++ C).length) + 4 := by
    simp [weightList, RPart.weight, weightCases, weightList_flat C hC, weightList_flat D hD]
    omega
  unfold placeholder
  rw [hw]
  simp only [List.map_cons, List.map_nil, phSearch, List.nil_append, List.cons_append]
  have := phSearch_flat name (D ++ C) hflat 1 []
  simp only [List.append_nil, List.map_append] at this
  rw [this, phSearch_nil]
  cases findSrc name (D ++ C) <;> rfl

theorem findSrc_of_mem (name s : Bytes) : ∀ (L : List RPart), .ph name s ∈ L →
    ∃ s', findSrc name L = some s' ∧ .ph name s' ∈ L
  | [], h => by simp at h
  | p :: L, h => by
    cases p with
    | ph n s₀ =>
      simp only [findSrc]
      by_cases hn : n = name
      · subst hn
        exact ⟨s₀, by simp, by simp⟩
      · have hb : (n == name) = false := by simpa using hn
        simp only [hb]
        rcases List.mem_cons.mp h with h | h
        · injection h with h1 _; exact absurd h1.symm hn
        · obtain ⟨s', h1, h2⟩ := findSrc_of_mem name s L h
          exact ⟨s', by simpa using h1, List.mem_cons_of_mem _ h2⟩
    | text b =>
      rcases List.mem_cons.mp h with h | h
      · cases h
      · obtain ⟨s', h1, h2⟩ := findSrc_of_mem name s L h
        exact ⟨s', by simpa [findSrc] using h1, List.mem_cons_of_mem _ h2⟩
    | plural v s₀ cs d =>
      rcases List.mem_cons.mp h with h | h
      · cases h
      · obtain ⟨s', h1, h2⟩ := findSrc_of_mem name s L h
        exact ⟨s', by simpa [findSrc] using h1, List.mem_cons_of_mem _ h2⟩

theorem mapM_of_isSome {α β : Type} (f : α → Option β) (d : β) : ∀ l : List α, (∀ a ∈ l, (f a).isSome = true) →
    l.mapM f = some (l.map fun a => (f a).getD d)
  | [], _ => rfl
  | a :: l, h => by
    obtain ⟨b, hb⟩ := Option.isSome_iff_exists.mp (h a (by simp))
    simp [List.mapM_cons, hb, mapM_of_isSome f d l (fun x hx => h x (List.mem_cons_of_mem _ hx))]

variable (ρ : Bytes → Bytes) (ν : Bytes → Int) (sel : Int → Int) (R : List RPart)

theorem renderTs_append : ∀ (a b : List TPart),
    renderTs ρ ν sel R (a ++ b) =
      (renderTs ρ ν sel R a).bind fun x => (renderTs ρ ν sel R b).map fun y => x ++ y
  | [], b => by
    simp only [List.nil_append, renderTs, Option.bind_some]
    cases renderTs ρ ν sel R b <;> simp
  | t :: a, b => by
    simp only [List.cons_append, renderTs, renderTs_append a b]
    cases renderT ρ ν sel R t <;> cases renderTs ρ ν sel R a <;> cases renderTs ρ ν sel R b <;> simp

theorem renderTs_flush (pend : Bytes) (ts : List TPart) :
    renderTs ρ ν sel R (liftParts (flushText pend) ++ ts) = (renderTs ρ ν sel R ts).map fun y => pend ++ y := by
  unfold flushText liftParts
  cases pend with
  | nil => cases h : renderTs ρ ν sel R ts <;> simp [h]
  | cons b p =>
    simp only [List.isEmpty_cons, Bool.false_eq_true, if_false, List.map_cons, List.map_nil, List.cons_append,
      List.nil_append, renderTs, TPart.ofMsgPart, renderT]
    cases renderTs ρ ν sel R ts <;> simp

theorem toNList_cons (p : RPart) (ps : List RPart) : toNList (p :: ps) = p.toN :: toNList ps := by
  simp [toNList]

/-- Let `L` be the flat list in which `Placeholder` searches, with at most one source text
    per name.  Rendering the expected parts of a flat sub-body `rs ⊆ L` gives the pending
    text followed by the source render of `rs`. -/
theorem render_expected (L : List RPart)
    (hlook : ∀ n, placeholder n R = findSrc n L)
    (huniq : ∀ n s s', RPart.ph n s ∈ L → RPart.ph n s' ∈ L → ρ s = ρ s') :
    ∀ (rs : List RPart) (pend : Bytes), isFlat rs = true → (∀ x ∈ rs, x ∈ L) →
      renderTs ρ ν sel R (liftParts (expectedParts (toNList rs) pend)) = some (pend ++ renderSrcList ρ ν rs)
  | [], pend, _, _ => by
    have := renderTs_flush ρ ν sel R pend []
    simp only [List.append_nil] at this
    simp [toNList, expectedParts, renderSrcList, this, renderTs]
  | p :: rs, pend, hf, hsub => by
    obtain ⟨hp, hrs⟩ := isFlat_cons hf
    have hsub' : ∀ x ∈ rs, x ∈ L := fun x hx => hsub x (List.mem_cons_of_mem _ hx)
    cases p with
    | text b =>
      simp only [toNList_cons, RPart.toN, expectedParts, renderSrcList, renderSrc]
      rw [render_expected L hlook huniq rs (pend ++ b) hrs hsub']
      simp
    | ph n s =>
      simp only [toNList_cons, RPart.toN, expectedParts, renderSrcList, renderSrc]
      have hl : liftParts (flushText pend ++ MsgPart.ph n :: expectedParts (toNList rs) []) =
          liftParts (flushText pend) ++ (TPart.ph n :: liftParts (expectedParts (toNList rs) [])) := by
        simp [liftParts, TPart.ofMsgPart]
      rw [hl, renderTs_flush]
      obtain ⟨s', h1, h2⟩ := findSrc_of_mem n s L (hsub _ (by simp))
      have hρ : ρ s' = ρ s := huniq n s' s h2 (hsub _ (by simp))
      simp only [renderTs, renderT, hlook, h1, Option.map_some, hρ,
        render_expected L hlook huniq rs [] hrs hsub']
      simp
    | plural _ _ _ _ => simp [RPart.isPlural] at hp

theorem writephList_flat : ∀ R : List RPart, isFlat R = true → writephList R = writeFPList true (toNList R)
  | [], _ => rfl
  | p :: R, hf => by
    obtain ⟨hp, hR⟩ := isFlat_cons hf
    have ih := writephList_flat R hR
    unfold writephList at ih ⊢
    cases p with
    | plural _ _ _ _ => simp [RPart.isPlural] at hp
    | text b => simp [writeph, toNList, RPart.toN, writeFPList, writeFP, ih]
    | ph n s => simp [writeph, toNList, RPart.toN, writeFPList, writeFP, ih]

/-- The PO round trip of a flat sub-body `rs ⊆ L` (as in `render_expected`): its msgid text, cut into parts by
    `Parts` and rendered as a translation, gives the source render of `rs`. -/
theorem render_parts_writeph (L : List RPart)
    (hlook : ∀ n, placeholder n R = findSrc n L)
    (huniq : ∀ n s s', RPart.ph n s ∈ L → RPart.ph n s' ∈ L → ρ s = ρ s')
    (rs : List RPart) (hf : isFlat rs = true) (hsub : ∀ x ∈ rs, x ∈ L)
    (hguard : NoMatch (leadText (toNList rs))) (hok : FlatOK (toNList rs)) :
    renderTs ρ ν sel R (liftParts (parts (writephList rs))) = some (renderSrcList ρ ν rs) := by
  rw [writephList_flat rs hf, parts, partsGo_writeFP _ [] hguard hok]
  exact render_expected ρ ν sel R L hlook huniq rs [] hf hsub

/-- a two-form translation `[tc | td]` of `{plural}{case 1}C{default}D{/plural}` under a two-form selector
    (1 ↦ form 0, everything else ↦ form 1), each form rendering what its source body renders: the translation
    renders what the source renders, whatever the plural value -/
theorem renderTranslated_twoForms (N s : Bytes) (C D : List RPart) (tc td : List TPart)
    (hsel1 : sel 1 = 0) (hselN : ∀ n, n ≠ 1 → sel n = 1)
    (rc : renderTs ρ ν sel [.plural N s [(1, C)] D] tc = some (renderSrcList ρ ν C))
    (rd : renderTs ρ ν sel [.plural N s [(1, C)] D] td = some (renderSrcList ρ ν D)) :
    renderTranslated ρ ν sel [.plural N s [(1, C)] D] [.plural N [tc, td]] =
      some (renderSource ρ ν [.plural N s [(1, C)] D]) := by
  simp only [renderTranslated, renderTs, renderT, findPluralNode, beq_self_eq_true, if_true,
    renderSource, renderSrcList, renderSrc, renderSrcCases]
  by_cases hv : ν s = 1
  · simp only [hv, hsel1, Int.lt_irrefl, if_false, Int.toNat_zero, renderTCase, rc, beq_self_eq_true, if_true]
  · have hb : (ν s == 1) = false := by simpa using hv
    simp only [hselN _ hv, hb]
    have : ¬ ((1 : Int) < 0) := by decide
    simp only [this, if_false]
    simp [renderTCase, rd]

end SoyVerif.Model.Msg
