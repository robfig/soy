/-
  File level of the generator model: the header comment, the namespace declarations, one function
  per template (the import block is Props/C14 `importPieces_ok`).  `TSpec` is the logic `Spec` of Lemmas/JsGenSpec, at
  the body-level instance of Lemmas/JsGenSafe (`POk`, `J`), extended with an exact account of the function headers written.
-/
import SoyVerif.Lemmas.JsGenSafe
import SoyVerif.Spec.JsString

namespace SoyVerif.Lemmas.JsGenTop
open SoyVerif SoyVerif.Model SoyVerif.Model.JsGen SoyVerif.Lemmas.JsGenSpec SoyVerif.Lemmas.JsGenSafe

/-- no line terminator: the text stays inside a `//` comment -/
def CommentSafe (b : Bytes) : Prop := (∀ c ∈ b, c ≠ 10 ∧ c ≠ 13) ∧ SoyVerif.Spec.noLineSep b = true

namespace Comment
open SoyVerif.Spec (isLineSep noLineSep utf8Encode)

theorem encodeRune_eq (r : Int) : Utf8.encodeRune r = utf8Encode (if Utf8.validRune r then r.toNat else Utf8.runeError) := rfl

theorem ofNat_ne {k : Nat} {c : Nat} (hk : k < 256) (hc : k ≠ c) (hc2 : c < 256) : UInt8.ofNat k ≠ UInt8.ofNat c := by
  intro h
  have := congrArg UInt8.toNat h
  simp at this
  omega

theorem isLineSep_ne (b : UInt8) (X : Bytes) (h : b ≠ 0xE2) : isLineSep (b :: X) = false := by
  cases X with
  | nil => simp [isLineSep]
  | cons x X => cases X <;> simp [isLineSep, h]

theorem isLineSep_ne2 (a b c : UInt8) (X : Bytes) (h : b ≠ 0x80) : isLineSep (a :: b :: c :: X) = false := by
  simp [isLineSep, h]

theorem isLineSep_ne3 (a b c : UInt8) (X : Bytes) (h1 : c ≠ 0xA8) (h2 : c ≠ 0xA9) : isLineSep (a :: b :: c :: X) = false := by
  simp [isLineSep, h1, h2]

theorem noLineSep_cons {c : UInt8} (hc : c ≠ 0xE2) (r : Bytes) : noLineSep (c :: r) = noLineSep r := by
  simp [noLineSep, isLineSep_ne c r hc]

-- `hn`: the arithmetic below needs the lead byte `0xF0 + n / 262144` to stay a byte
theorem utf8Encode_bytes (n : Nat) (hn : n < 0x110000) (h10 : n ≠ 10) (h13 : n ≠ 13) : ∀ c ∈ utf8Encode n, c ≠ 10 ∧ c ≠ 13 := by
  intro c hc
  unfold utf8Encode at hc
  split at hc
  · simp only [List.mem_singleton] at hc; subst hc
    exact ⟨ofNat_ne (c := 10) (by omega) h10 (by omega), ofNat_ne (c := 13) (by omega) h13 (by omega)⟩
  · split at hc
    · simp only [List.mem_cons, List.not_mem_nil, or_false] at hc
      rcases hc with rfl | rfl <;> exact ⟨ofNat_ne (c := 10) (by omega) (by omega) (by omega), ofNat_ne (c := 13) (by omega) (by omega) (by omega)⟩
    · split at hc
      · simp only [List.mem_cons, List.not_mem_nil, or_false] at hc
        rcases hc with rfl | rfl | rfl <;> exact ⟨ofNat_ne (c := 10) (by omega) (by omega) (by omega), ofNat_ne (c := 13) (by omega) (by omega) (by omega)⟩
      · simp only [List.mem_cons, List.not_mem_nil, or_false] at hc
        rcases hc with rfl | rfl | rfl | rfl <;> exact ⟨ofNat_ne (c := 10) (by omega) (by omega) (by omega), ofNat_ne (c := 13) (by omega) (by omega) (by omega)⟩

theorem utf8Encode_lineSep (n : Nat) (hn : n < 0x110000) (h1 : n ≠ 0x2028) (h2 : n ≠ 0x2029) (rest : Bytes) :
    noLineSep (utf8Encode n ++ rest) = noLineSep rest := by
  unfold utf8Encode
  split
  · exact noLineSep_cons (ofNat_ne (c := 0xE2) (by omega) (by omega) (by omega)) _
  · split
    · simp only [List.cons_append, List.nil_append]
      rw [noLineSep_cons (ofNat_ne (c := 0xE2) (by omega) (by omega) (by omega)), noLineSep_cons (ofNat_ne (c := 0xE2) (by omega) (by omega) (by omega))]
    · split
      · simp only [List.cons_append, List.nil_append]
        have hsep : isLineSep (UInt8.ofNat (0xE0 + n / 4096) :: UInt8.ofNat (0x80 + (n / 64) % 64) :: UInt8.ofNat (0x80 + n % 64) :: rest) = false := by
          by_cases he : n / 4096 = 2
          · by_cases h3 : (n / 64) % 64 = 0
            · have hne1 : UInt8.ofNat (0x80 + n % 64) ≠ 0xA8 := ofNat_ne (c := 0xA8) (by omega) (by omega) (by omega)
              have hne2 : UInt8.ofNat (0x80 + n % 64) ≠ 0xA9 := ofNat_ne (c := 0xA9) (by omega) (by omega) (by omega)
              exact isLineSep_ne3 _ _ _ _ hne1 hne2
            · have hne : UInt8.ofNat (0x80 + (n / 64) % 64) ≠ 0x80 := ofNat_ne (c := 0x80) (by omega) (by omega) (by omega)
              exact isLineSep_ne2 _ _ _ _ hne
          · exact isLineSep_ne _ _ (ofNat_ne (c := 0xE2) (by omega) (by omega) (by omega))
        rw [noLineSep, hsep, noLineSep_cons (ofNat_ne (c := 0xE2) (by omega) (by omega) (by omega)), noLineSep_cons (ofNat_ne (c := 0xE2) (by omega) (by omega) (by omega))]
        simp
      · simp only [List.cons_append, List.nil_append]
        rw [noLineSep_cons (ofNat_ne (c := 0xE2) (by omega) (by omega) (by omega)), noLineSep_cons (ofNat_ne (c := 0xE2) (by omega) (by omega) (by omega)),
          noLineSep_cons (ofNat_ne (c := 0xE2) (by omega) (by omega) (by omega)), noLineSep_cons (ofNat_ne (c := 0xE2) (by omega) (by omega) (by omega))]


theorem commentRune_ok (r : Nat) :
    commentRune r ≠ 10 ∧ commentRune r ≠ 13 ∧ commentRune r ≠ 0x2028 ∧ commentRune r ≠ 0x2029 := by
  unfold commentRune
  split
  · decide
  · rename_i h
    simp only [Bool.or_eq_true, beq_iff_eq, not_or] at h
    omega

theorem enc_safe (k : Nat) (h : k ≠ 10 ∧ k ≠ 13 ∧ k ≠ 0x2028 ∧ k ≠ 0x2029) :
    (∀ c ∈ Utf8.encodeRune k, c ≠ 10 ∧ c ≠ 13) ∧ ∀ rest, noLineSep (Utf8.encodeRune k ++ rest) = noLineSep rest := by
  rw [encodeRune_eq]
  have hn : (if Utf8.validRune (k : Int) then (k : Int).toNat else Utf8.runeError) < 0x110000 ∧
      ((if Utf8.validRune (k : Int) then (k : Int).toNat else Utf8.runeError) = k ∨
       (if Utf8.validRune (k : Int) then (k : Int).toNat else Utf8.runeError) = 0xFFFD) := by
    by_cases hv : Utf8.validRune (k : Int) = true
    · rw [if_pos hv]
      simp only [Utf8.validRune, Bool.or_eq_true, Bool.and_eq_true, decide_eq_true_eq] at hv
      omega
    · rw [if_neg hv]; exact ⟨by decide, Or.inr rfl⟩
  generalize (if Utf8.validRune (k : Int) then (k : Int).toNat else Utf8.runeError) = n at hn
  have h' : n ≠ 10 ∧ n ≠ 13 ∧ n ≠ 0x2028 ∧ n ≠ 0x2029 := by omega
  exact ⟨utf8Encode_bytes n hn.1 h'.1 h'.2.1, utf8Encode_lineSep n hn.1 h'.2.2.1 h'.2.2.2⟩

theorem flat_safe : ∀ L : List Nat, CommentSafe (L.flatMap fun r => Utf8.encodeRune (commentRune r))
  | [] => ⟨fun _ h => (nomatch h), rfl⟩
  | r :: L => by
    have ⟨h1, h2⟩ := enc_safe (commentRune r) (commentRune_ok r)
    have ih := flat_safe L
    simp only [List.flatMap_cons]
    refine ⟨fun c hc => ?_, ?_⟩
    · rcases List.mem_append.mp hc with hc | hc
      · exact h1 c hc
      · exact ih.1 c hc
    · rw [h2]; exact ih.2

end Comment

/-- `strings.Map(commentRune, …)` leaves no line terminator: the header comment holds ANY file name -/
theorem commentName_safe (s : Bytes) : CommentSafe (commentName s) := Comment.flat_safe _

-- hostile names: LF, CR, U+2028, U+2029 become a space; a byte that is not UTF-8 becomes U+FFFD (as strings.Map writes it)
example : commentName b!"a\nb\r.soy" = b!"a b .soy" := by decide
example : commentName [97, 0xE2, 0x80, 0xA8, 98, 0xE2, 0x80, 0xA9, 0xC3, 0xA9] = [97, 32, 98, 32, 0xC3, 0xA9] := by decide
example : commentName [0xFF, 0xE2, 0x80, 10] = [0xEF, 0xBF, 0xBD, 0xEF, 0xBF, 0xBD, 0xEF, 0xBF, 0xBD, 32] := by decide
example : commentName b!"dir/f.soy" = b!"dir/f.soy" := by decide
example : ¬ CommentSafe b!"a\nb" := fun h => absurd rfl (h.1 10 (by decide)).1

/-- what a piece written anywhere in a file may be -/
def POkTop : Piece → Prop
  | .fixed _ => True
  | .escaped _ => True
  | .ident b => IsIdent b
  | .qname b => QChars b
  | .es6name b => QChars b
  | .int _ => True
  | .float _ => True
  | .header _ n => QChars n
  | .comment b => CommentSafe b

theorem pok_top {p : Piece} (h : POk p) : POkTop p := by
  cases p <;> first | exact h | exact h.elim

/-- the function headers among the pieces, in order: (ES6 form?, template name) -/
def hdrs : List Piece → List (Bool × Bytes)
  | [] => []
  | .header e n :: r => (e, n) :: hdrs r
  | _ :: r => hdrs r

theorem hdrs_append : ∀ (a b : List Piece), hdrs (a ++ b) = hdrs a ++ hdrs b
  | [], b => rfl
  | p :: r, b => by
    cases p <;> simp [hdrs, hdrs_append r b]

theorem hdrs_of_pok : ∀ (ps : List Piece), AllP POk ps → hdrs ps = []
  | [], _ => rfl
  | p :: r, h => by
    have hp : POk p := h p (by simp)
    have hr := hdrs_of_pok r (fun q hq => h q (by simp [hq]))
    cases p <;> first | simpa [hdrs] using hr | exact hp.elim

/-- `Spec POkTop I J m Q`, and the function headers among the pieces written are exactly `names` -/
def TSpec {α : Type} (I J : St → Prop) (m : M α) (names : List (Bool × Bytes)) (Q : α → Prop) : Prop :=
  ∀ s a ps s', I s → m s = .ok (a, ps, s') → AllP POkTop ps ∧ hdrs ps = names ∧ J s' ∧ Q a

theorem TSpec.ofSpec {α : Type} {I J : St → Prop} {m : M α} {Q : α → Prop} (h : Spec POk I J m Q) :
    TSpec I J m [] Q := by
  intro s a ps s' hI hh
  have ⟨p, j, q⟩ := h _ _ _ _ hI hh
  exact ⟨fun x hx => pok_top (p x hx), hdrs_of_pok ps p, j, q⟩

theorem TSpec.bind {α β : Type} {I J K : St → Prop} {m : M α} {k : α → M β} {n1 n2 : List (Bool × Bytes)}
    {Q : α → Prop} {R : β → Prop}
    (hm : TSpec I J m n1 Q) (hk : ∀ a, Q a → TSpec J K (k a) n2 R) : TSpec I K (m >>= k) (n1 ++ n2) R := by
  intro s b ps s' hI h
  obtain ⟨a, ps1, s1, ps2, h1, h2, rfl⟩ := bind_inv h
  have ⟨p1, e1, j1, qa⟩ := hm _ _ _ _ hI h1
  have ⟨p2, e2, k2, rb⟩ := hk a qa _ _ _ _ j1 h2
  exact ⟨AllP.append POkTop p1 p2, by rw [hdrs_append, e1, e2], k2, rb⟩

theorem TSpec.seq {α β : Type} {I J K : St → Prop} {m : M α} {k : M β} {n1 n2 : List (Bool × Bytes)}
    {Q : α → Prop} {R : β → Prop}
    (hm : TSpec I J m n1 Q) (hk : TSpec J K k n2 R) : TSpec I K (m >>= fun _ => k) (n1 ++ n2) R :=
  TSpec.bind hm (fun _ _ => hk)

theorem TSpec.seq0 {α β : Type} {I J K : St → Prop} {m : M α} {k : M β} {n : List (Bool × Bytes)}
    {Q : α → Prop} {R : β → Prop}
    (hm : Spec POk I J m Q) (hk : TSpec J K k n R) : TSpec I K (m >>= fun _ => k) n R := by
  have := TSpec.seq (TSpec.ofSpec hm) hk
  simpa using this

theorem TSpec.names_eq {α : Type} {I J : St → Prop} {m : M α} {n n' : List (Bool × Bytes)} {Q : α → Prop}
    (h : TSpec I J m n Q) (e : n = n') : TSpec I J m n' Q := e ▸ h

theorem TSpec.inv {α : Type} {I J : St → Prop} {m : M α} {names : List (Bool × Bytes)} {Q : α → Prop} (h : TSpec I J m names Q)
    {s s' : St} {a : α} {ps : List Piece} (hs : I s) (hm : m s = .ok (a, ps, s')) : J s' := (h s a ps s' hs hm).2.2.1

theorem TSpec.emitTop {I : St → Prop} {p : Piece} (hp : POkTop p) : TSpec I I (emit p) (hdrs [p]) (fun _ => True) := by
  intro s a ps s' hI hh
  simp only [emit, emits, Except.ok.injEq, Prod.mk.injEq] at hh
  obtain ⟨_, rfl, rfl⟩ := hh
  exact ⟨AllP.single POkTop hp, rfl, hI, trivial⟩

section
variable (sk : List Bytes → List Bytes) (o : Options)

theorem qchars_take {name : Bytes} (h : QChars name) (i : Nat) : QChars (name.take i) :=
  fun c hc => h c (List.mem_of_mem_take hc)

theorem s_nsLoop (b : Bytes) {name : Bytes} (h : QChars name) : ∀ (fuel i : Nat), SU b (nsLoop name fuel i)
  | 0, _ => by unfold nsLoop; exact s_pure
  | fuel + 1, i => by
    unfold nsLoop
    split
    · dsimp only
      have ih := s_nsLoop b h fuel (match indexOfDot (name.drop (i + 1)) with | none => name.length | some j => j + (i + 1))
      have e := fun k => s_emit (b := b) (p := .qname (name.take k)) (qchars_take h k)
      have e1 := e (match indexOfDot (name.drop (i + 1)) with | none => name.length | some j => j + (i + 1))
      msteps
    · exact s_pure

theorem namespace_top (b : Bytes) (p : Nat) (name : Bytes) (ae : Autoescape) (h : QChars name) :
    SU b (walkCmd sk o (.namespace p name ae)) := by
  sunfold walkCmd
  have h1 : SU b (JsGen.modify fun s => { s with ns := name, autoescape := ae }) := Spec.modify (fun _ h => h)
  have := s_nsLoop b h (name.length + 1) 0
  msteps

theorem soyDoc_top (b : Bytes) (p : Nat) (params : List SoyDocParam) : SU b (walkCmd sk o (.soyDoc p params)) := by
  sunfold walkCmd
  exact s_atNode _

theorem template_top (b : Bytes) (p : Nat) (name : Bytes) (body : Block) (ae : Autoescape) (pr : Bool)
    (hn : QChars name) (hb : BlockWN body) :
    TSpec (J b) (J b!"output") (walkCmd sk o (.template p name body ae pr)) [(isEs6 o, name)] (fun _ => True) := by
  sunfold walkCmd
  refine TSpec.seq0 s_atOther ?_
  refine TSpec.names_eq (TSpec.bind (n1 := []) (n2 := [(isEs6 o, name)]) (TSpec.ofSpec s_getSt) ?_) (by simp)
  intro s hs
  dsimp only
  refine TSpec.seq0 (Spec.whenM (Spec.modify (I := J b) (J := J b) fun _ h => h)) ?_
  refine TSpec.seq0 s_indentP ?_
  refine TSpec.seq0 s_nl ?_
  refine TSpec.seq0 s_indentP ?_
  refine TSpec.names_eq (TSpec.seq (n2 := []) (TSpec.emitTop (p := .header (isEs6 o) name) hn) ?_) (by simp [hdrs])
  refine TSpec.ofSpec ?_
  have hout : SU b!"output" (walkBody sk o body) := s_walkBody sk o body hb _ isIdent_output
  have hset : S b b!"output" (setBuf b!"output") (fun _ => True) := s_setBuf _
  have hmod2 : SU b!"output" (JsGen.modify fun s' => { s' with autoescape := s.autoescape }) := Spec.modify (fun _ h => h)
  have hwhen : SU b (whenM (allOptional s.lastNode) (do indentP; fx b!"opt_data = opt_data || {};"; nl)) := by
    apply Spec.whenM
    msteps
  -- by hand up to `setBuf`, where the buffer name of the judgement changes; `msteps` keeps it
  refine Spec.seq s_nl ?_
  refine Spec.seq (s_addInFile _) ?_
  refine Spec.seq s_incIndent ?_
  refine Spec.seq hwhen ?_
  refine Spec.seq s_indentP ?_
  refine Spec.seq (s_fx _) ?_
  refine Spec.seq s_nl ?_
  refine Spec.seq hset ?_
  msteps

/-- file-level well-namedness of a node: namespace, soydoc or template with dotted names and a
    well-named body -/
def TopWN : Cmd → Prop
  | .namespace _ name _ => QChars name
  | .template _ name body _ _ => QChars name ∧ BlockWN body
  | .soyDoc _ _ => True
  | _ => False

def templateName? : Cmd → Option Bytes
  | .template _ name _ _ _ => some name
  | _ => none

def templateNames (cmds : List Cmd) : List Bytes := cmds.filterMap templateName?

/-- the headers a file must contain: one per template node, in order, in the formatter's form -/
def expectedHdrs (o : Options) (cmds : List Cmd) : List (Bool × Bytes) := (templateNames cmds).map fun n => (isEs6 o, n)

/-- file level: the invariant without a named buffer (a template node ends with "output", whatever it started with) -/
abbrev TSpecI {α : Type} (m : M α) (names : List (Bool × Bytes)) : Prop :=
  TSpec JsGenSafe.Inv JsGenSafe.Inv m names (fun _ => True)

theorem TSpecI.of {α : Type} {m : M α} {names : List (Bool × Bytes)} {Q : α → Prop}
    (h : ∀ b0, ∃ b1, TSpec (J b0) (J b1) m names Q) : TSpecI m names := by
  intro s a ps s' hI hh
  obtain ⟨b1, hb1⟩ := h s.bufferName
  have ⟨x, y, z, _⟩ := hb1 _ _ _ _ ⟨hI, rfl⟩ hh
  exact ⟨x, y, z.1, trivial⟩

theorem top_cmd (c : Cmd) (h : TopWN c) : TSpecI (walkCmd sk o c) (expectedHdrs o [c]) := by
  cases c with
  | «namespace» p name ae =>
    exact TSpecI.of (fun b0 => ⟨b0, TSpec.ofSpec (namespace_top sk o b0 p name ae h)⟩)
  | soyDoc p params =>
    exact TSpecI.of (fun b0 => ⟨b0, TSpec.ofSpec (soyDoc_top sk o b0 p params)⟩)
  | template p name body ae pr =>
    exact TSpecI.of (fun b0 => ⟨_, template_top sk o b0 p name body ae pr h.1 h.2⟩)
  | _ => exact h.elim

theorem expectedHdrs_cons (c : Cmd) (r : List Cmd) : expectedHdrs o (c :: r) = expectedHdrs o [c] ++ expectedHdrs o r := by
  unfold expectedHdrs templateNames
  cases h : templateName? c <;> simp [h]

theorem top_walkTop : ∀ (cmds : List Cmd), (∀ c ∈ cmds, TopWN c) → TSpecI (walkTop sk o cmds) (expectedHdrs o cmds)
  | [], _ => TSpecI.of (Q := fun _ => True) fun b0 => ⟨b0, TSpec.ofSpec s_pure⟩
  | c :: r, h => by
    unfold walkTop
    rw [expectedHdrs_cons]
    exact TSpec.seq (top_cmd sk o c (h c (by simp))) (top_walkTop r (fun x hx => h x (by simp [hx])))

/-- what is assumed of a file (the shape the parser delivers; not derived here): file-level nodes only, dotted names.
    Nothing is asked of the file's name: visitSoyFile replaces its line terminators, `commentName_safe`. -/
def FileWN (f : SoyFile) : Prop := ∀ c ∈ f.body, TopWN c

theorem TSpecI.stepTop {α β : Type} {m : M α} {k : M β} {n : List (Bool × Bytes)} {Q : α → Prop}
    (hm : ∀ b, TSpec (J b) (J b) m [] Q) (hk : TSpecI k n) : TSpecI (m >>= fun _ => k) n := by
  simpa using TSpec.seq (TSpecI.of fun b0 => ⟨b0, hm b0⟩) hk

theorem TSpecI.step {α β : Type} {m : M α} {k : M β} {n : List (Bool × Bytes)} {Q : α → Prop}
    (hm : ∀ b, Spec POk (J b) (J b) m Q) (hk : TSpecI k n) : TSpecI (m >>= fun _ => k) n :=
  TSpecI.stepTop (fun b => TSpec.ofSpec (hm b)) hk

theorem top_visitSoyFile (f : SoyFile) (h : FileWN f) : TSpecI (visitSoyFile sk o f) (expectedHdrs o f.body) := by
  unfold visitSoyFile
  refine TSpecI.step (fun _ => s_atOther) ?_
  refine TSpecI.step (fun _ => s_indentP) ?_
  refine TSpecI.step (fun _ => s_fx _) ?_
  refine TSpecI.stepTop (fun _ => TSpec.emitTop (p := .comment (commentName f.name)) (commentName_safe f.name)) ?_
  refine TSpecI.step (fun _ => s_fx _) ?_
  refine TSpecI.step (fun _ => s_nl) ?_
  refine TSpecI.step (fun _ => s_indentP) ?_
  refine TSpecI.step (fun _ => s_fx _) ?_
  refine TSpecI.step (fun _ => s_nl) ?_
  refine TSpecI.step (fun _ => s_indentP) ?_
  refine TSpecI.step (fun _ => s_nl) ?_
  exact top_walkTop sk o f.body h

end

end SoyVerif.Lemmas.JsGenTop
