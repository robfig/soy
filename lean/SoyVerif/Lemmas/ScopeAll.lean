/-
  Invariants of the generator's scope (scope.go; Model/JsGen `Scope`) of the form "every entry `(key, name)` of every
  frame satisfies `P key name`", and what each scope operation needs to keep one.  Instances, each `StackAll P sc.stack`
  by unfolding: `ScopeOk` (Lemmas/JsGenSpec), `Bounded` and `Fresh` (Props/C04dInv), `Covers` (Props/C14b), `ScImg`
  (Props/C14d).  `FrameAll.*` / `StackAll.*` are about a bare list of frames (a stack put together by hand), `Scope.all_*`
  about the operations on a `Scope`.
-/
import SoyVerif.Model.JsGen

namespace SoyVerif.Model.JsGen
open SoyVerif

variable {P Q : Bytes → Bytes → Prop}

def FrameAll (P : Bytes → Bytes → Prop) (f : Frame) : Prop := ∀ kv ∈ f, P kv.1 kv.2

def StackAll (P : Bytes → Bytes → Prop) (st : List Frame) : Prop := ∀ f ∈ st, FrameAll P f

theorem FrameAll.nil : FrameAll P [] := fun _ h => nomatch h

theorem FrameAll.set : ∀ {f : Frame} {k v : Bytes}, FrameAll P f → P k v → FrameAll P (frameSet f k v)
  | [], _, _, _, hv => by
    intro kv hkv
    simp only [frameSet, List.mem_singleton] at hkv
    subst hkv; exact hv
  | (k', v') :: r, k, v, hf, hv => by
    intro kv hkv
    unfold frameSet at hkv
    split at hkv
    · rcases List.mem_cons.mp hkv with rfl | h
      · exact hv
      · exact hf kv (List.mem_cons_of_mem _ h)
    · rcases List.mem_cons.mp hkv with rfl | h
      · exact hf _ List.mem_cons_self
      · exact FrameAll.set (fun x hx => hf x (List.mem_cons_of_mem _ hx)) hv kv h

theorem FrameAll.get : ∀ {f : Frame} {k v : Bytes}, FrameAll P f → frameGet? f k = some v → P k v
  | [], _, _, _, h => by simp [frameGet?] at h
  | (k', v') :: r, k, v, hf, h => by
    unfold frameGet? at h
    split at h
    · rename_i hk
      have : k' = k := by simpa using hk
      subst this
      simp only [Option.some.injEq] at h
      subst h
      exact hf (k', v') List.mem_cons_self
    · exact FrameAll.get (fun x hx => hf x (List.mem_cons_of_mem _ hx)) h

theorem StackAll.mono (h : ∀ k v, P k v → Q k v) {st : List Frame} (hs : StackAll P st) : StackAll Q st :=
  fun f hf kv hkv => h _ _ (hs f hf kv hkv)

theorem StackAll.nil : StackAll P [] := fun _ h => nomatch h

theorem StackAll.cons {f : Frame} {st : List Frame} (hf : FrameAll P f) (hs : StackAll P st) : StackAll P (f :: st) := by
  intro g hg
  rcases List.mem_cons.mp hg with rfl | hg
  · exact hf
  · exact hs g hg

theorem StackAll.tail {st : List Frame} (hs : StackAll P st) : StackAll P st.tail :=
  fun f hf => hs f (List.mem_of_mem_tail hf)

theorem StackAll.lookupIn : ∀ {st : List Frame} {k v : Bytes}, StackAll P st → Scope.lookupIn st k = some v → P k v
  | [], _, _, _, h => by simp [Scope.lookupIn] at h
  | f :: r, k, v, hs, h => by
    unfold Scope.lookupIn at h
    split at h
    · rename_i v' hv'
      simp only [Option.some.injEq] at h
      subst h
      exact (hs f List.mem_cons_self).get hv'
    · exact StackAll.lookupIn (fun x hx => hs x (List.mem_cons_of_mem _ hx)) h

theorem Scope.loopFrame_mem : ∀ {st : List Frame} {v : Bytes} {f : Frame}, Scope.loopFrame st v = some f → f ∈ st
  | [], _, _, h => by simp [Scope.loopFrame] at h
  | g :: r, v, f, h => by
    unfold Scope.loopFrame at h
    split at h
    · simp only [Option.some.injEq] at h; subst h; exact List.mem_cons_self
    · exact List.mem_cons_of_mem _ (Scope.loopFrame_mem h)

theorem StackAll.loopFrame {st : List Frame} {v : Bytes} {f : Frame} (hs : StackAll P st) (h : Scope.loopFrame st v = some f) :
    FrameAll P f :=
  hs f (Scope.loopFrame_mem h)

theorem StackAll.setTop : ∀ {st : List Frame} {k v : Bytes}, StackAll P st → P k v → StackAll P (Scope.setTop st k v)
  | [], _, _, _, _ => fun _ hf => nomatch hf
  | _ :: _, _, _, hs, hv => StackAll.cons ((hs _ List.mem_cons_self).set hv) fun x hx => hs x (List.mem_cons_of_mem _ hx)

namespace Scope
variable {sc : Scope}

theorem all_lookup {k v : Bytes} (h : StackAll P sc.stack) (hl : sc.lookup k = some v) : P k v := h.lookupIn hl

theorem all_push (h : StackAll P sc.stack) : StackAll P sc.push.stack := StackAll.cons FrameAll.nil h

theorem all_pop (h : StackAll P sc.stack) : StackAll P sc.pop.stack := h.tail

theorem all_bind {x g : Bytes} (h : StackAll P sc.stack) (hg : P x g) : StackAll P (sc.bind x g).stack := h.setTop hg

theorem all_makevar {x : Bytes} (h : StackAll P sc.stack) (hx : P x (sc.makevar x).1) : StackAll P (sc.makevar x).2.stack :=
  all_bind h hx

theorem all_genname {x : Bytes} (h : StackAll P sc.stack) : StackAll P (sc.genname x).2.stack := h

/-- `(sc.pushForEach v).1` is (item, list, limit, index); the list has no entry in the frame -/
theorem all_pushForEach {v : Bytes} (h : StackAll P sc.stack) (h1 : P v (sc.pushForEach v).1.1)
    (h2 : P (kLimit ++ v) (sc.pushForEach v).1.2.2.1) (h3 : P (kIndex ++ v) (sc.pushForEach v).1.2.2.2) :
    StackAll P (sc.pushForEach v).2.stack :=
  StackAll.cons (((FrameAll.nil.set h1).set h2).set h3) h

/-- `(sc.pushForRange v).1` is (variable, limit, step, index) — another order than a `{foreach}`'s; the variable's local
    stands in the frame twice, under `v` and under `kVar ++ v` (for Model/JsGen `looplast`) -/
theorem all_pushForRange {v : Bytes} (h : StackAll P sc.stack) (h1 : P v (sc.pushForRange v).1.1)
    (h2 : P (kLimit ++ v) (sc.pushForRange v).1.2.1) (h3 : P (kStep ++ v) (sc.pushForRange v).1.2.2.1)
    (h4 : P (kIndex ++ v) (sc.pushForRange v).1.2.2.2) (h5 : P (kVar ++ v) (sc.pushForRange v).1.1) :
    StackAll P (sc.pushForRange v).2.stack :=
  StackAll.cons (((((FrameAll.nil.set h1).set h2).set h3).set h4).set h5) h

end Scope

end SoyVerif.Model.JsGen
