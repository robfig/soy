/-
  ONE induction over the tree walk (`Law.cmd` and its siblings) for every property of the form "the state after
  a run is related to the state before it by `T`", for any relation `T` that each primitive step of the
  interpreter respects (`Law`).  `T` is indexed by the set `W` of cells — among those that exist before — which
  may be written; `Pre` is what a scope needs for `set` to be a step, `Sh` what it needs for `noteImpossible` to
  be one, `A` the positions `s.node` may move to, `K` the classes a run may end in.

  Instances: the heap frame `Ext` (Lemmas/EvalGood: `Good`), the counter of alldata failures
  (Lemmas/EvalShaped: `NoImp`, together with the heap frame: `Law.and`), the positions of `s.node`
  (Lemmas/EvalPos: `Tracks`).
-/
import SoyVerif.Lemmas.EvalErrPos
import SoyVerif.Lemmas.PickPh
import SoyVerif.Lemmas.ExecEqns

namespace SoyVerif.Model.Eval
open SoyVerif SoyVerif.Model

/-- the cells a command may write among those that exist when it starts: a {let} binds in the top frame of
    the scope, every other command writes none (blocks, loops and calls work in frames of their own) -/
def letTop : Cmd → Scope → Nat → Prop
  | .letValue .., ctx, i => i = top ctx
  | .letContent .., ctx, i => i = top ctx
  | _, _, _ => False

theorem letTop_le (c : Cmd) (ctx : Scope) : ∀ i, letTop c ctx i → i = top ctx := by
  intro i hi
  cases c with
  | letValue => exact hi
  | letContent => exact hi
  | _ => exact hi.elim

structure Post (K : Cls → Prop) (T : St → St → Prop) (ctx : Scope) (st : St) (r : R) : Prop where
  cls : K r.cls
  ctx_eq : r.cls = .ok → r.ctx = ctx
  rel : T st r.st

/-- What the walk needs of a relation `T`; each field answers one primitive of the interpreter.  Reflexivity is
    `data` at the state's own values and monotonicity in `W` is `chain` with a reflexive second stretch
    (`Law.refl`, `Law.mono`).  `K` is other than `True` only for the heap frame (no panic), `Pre` only for the heap
    frame (`Own`: the top frame is a cell of the render's own), `Sh` only for the counter of alldata failures
    (`Shaped`), `A` only for the positions of `s.node`. -/
structure Law (K : Cls → Prop) (T : (Nat → Prop) → St → St → Prop) (Pre : Scope → St → Prop) (Sh : Scope → Prop)
    (A : Nat → Prop) : Prop where
  /-- the classes the clauses of the walk produce themselves -/
  ok : K .ok
  err : K .err
  /-- sequencing: the second stretch may write what the first may, and cells that did not exist before the first -/
  chain : ∀ {W W' W'' : Nat → Prop} {a b c : St}, T W a b → T W' b c → (∀ i, W i → W'' i) →
    (∀ i, i < a.heap.length → W' i → W'' i) → T W'' a c
  /-- `s.eval` (fresh identities), `Write`, the swap of the writer for a buffer and back -/
  data : ∀ W (s : St) n o, T W s { s with next := n, out := o }
  /-- `push`, `newScope`, `enter`: new cells after the existing ones -/
  grow : ∀ W (s : St) cells, T W s { s with heap := s.heap ++ cells }
  /-- `s.at(node)` for a node of the tree, and `s.node = prev` at the end of `renderBlock` / the caller's state
      after `evalCall`: the node goes to an allowed position or back to where it was -/
  move : ∀ {W : Nat → Prop} {s s' : St} (p : Nat), T W s s' → p = s.node ∨ A p → T W s (atNode s' p)
  /-- the ghost count of a failed `scope.alldata` -/
  imp : ∀ W a ctx s, Sh ctx → T W s (noteImpossible a ctx s)
  /-- `scope.set`: writes the top frame -/
  set : ∀ {ctx : Scope} {s s2 : St} {k : Bytes} {v : Value}, Pre ctx s → Eval.set ctx s k v = some s2 →
    T (fun i => i = top ctx) s s2
  /-- a scope that allows `set` still does after a stretch of the walk -/
  pre_T : ∀ {W : Nat → Prop} {ctx : Scope} {s s' : St}, Pre ctx s → T W s s' → Pre ctx s'
  /-- after `scope.push` (also `newScope []` and the second half of `enter`) `set` is allowed -/
  pre_push : ∀ ctx s, Pre (push ctx s).1 (push ctx s).2
  /-- `scope.push`: walkBlock, a loop iteration -/
  sh_push : ∀ ctx (s : St), Sh ctx → Sh (push ctx s).1
  /-- `scope.enter` -/
  sh_enter : ∀ (f : SFrame) r (s : St), Sh (push ({ f with entered := true } :: r) s).1

/-- on every scope that allows `set` and `noteImpossible`, the run writes at most the top frame -/
def RunOk (K : Cls → Prop) (T : (Nat → Prop) → St → St → Prop) (Pre : Scope → St → Prop) (Sh : Scope → Prop)
    (run : Run) : Prop :=
  ∀ ctx st, Pre ctx st → Sh ctx → Post K (T (fun i => i = top ctx)) ctx st (run ctx st)

section
variable {K : Cls → Prop} {T : (Nat → Prop) → St → St → Prop} {Pre : Scope → St → Prop} {Sh : Scope → Prop}
  {A : Nat → Prop} (L : Law K T Pre Sh A)
include L

theorem Law.refl (W : Nat → Prop) (s : St) : T W s s := L.data W s s.next s.out

theorem Law.trans {W W' : Nat → Prop} {a b c : St} (h1 : T W a b) (h2 : T W' b c)
    (hw : ∀ i, i < a.heap.length → W' i → W i) : T W a c := L.chain h1 h2 (fun _ h => h) hw

theorem Law.mono {W W' : Nat → Prop} {a b : St} (h : T W a b) (hw : ∀ i, W i → W' i) : T W' a b :=
  L.chain h (L.refl W' b) hw (fun _ _ h => h)

theorem Law.back {W : Nat → Prop} {s s' : St} (h : T W s s') : T W s (atNode s' s.node) := L.move _ h (Or.inl rfl)

theorem Law.step {W : Nat → Prop} {a b c : St} (h1 : T W a b) (h2 : T W b c) : T W a c := L.trans h1 h2 (fun _ _ h => h)

theorem Law.next (W : Nat → Prop) (s : St) (n : Nat) : T W s { s with next := n } := L.data W s n s.out

theorem Law.out (W : Nat → Prop) (s : St) (o : List Bytes) : T W s { s with out := o } := L.data W s s.next o

theorem Law.evalIn (W : Nat → Prop) {g : GEnv} {e : Expr} {ctx : Scope} {st st1 : St} {v : Value}
    (h : evalIn g e ctx st = some (v, st1)) : T W st st1 := by
  obtain ⟨n, rfl⟩ := evalIn_next h; exact L.next W st n

theorem Law.evalList (W : Nat → Prop) {g : GEnv} {ctx : Scope} {es : List Expr} {st st1 : St} {vs : List Value}
    (h : evalList g ctx es st = some (vs, st1)) : T W st st1 := by
  obtain ⟨n, rfl⟩ := evalList_next _ h; exact L.next W st n

theorem Law.matchCase (W : Nat → Prop) {g : GEnv} {ctx : Scope} {sv : Value} {es : List Expr} {st st1 : St} {b : Bool}
    (h : matchCase g ctx sv es st = some (b, st1)) : T W st st1 := by
  obtain ⟨n, rfl⟩ := matchCase_next _ h; exact L.next W st n

theorem Law.runDirectives (W : Nat → Prop) {g : GEnv} {ctx : Scope} {ds : List Directive} {v v' : Value} {esc esc' : Bool}
    {st st1 : St} (h : runDirectives g ctx ds v esc st = some (v', esc', st1)) : T W st st1 := by
  obtain ⟨n, rfl⟩ := runDirectives_next _ h; exact L.next W st n

theorem Law.writeAll (W : Nat → Prop) (st : St) (cs : List Bytes) : T W st (writeAll st cs) := by
  obtain ⟨o, h⟩ := writeAll_out st cs; rw [h]; exact L.out W st o

theorem Law.at (W : Nat → Prop) (s : St) {p : Nat} (h : p = s.node ∨ A p) : T W s (atNode s p) := L.move p (L.refl W s) h

theorem Law.node (W : Nat → Prop) (s : St) (p : Nat) (h : A p) : T W s (atNode s p) := L.at W s (Or.inr h)

theorem Law.leaf {W : Nat → Prop} {ctx : Scope} {st st' : St} (e : T W st st') : Post K (T W) ctx st ⟨.ok, ctx, st'⟩ :=
  ⟨L.ok, fun _ => rfl, e⟩

theorem Law.fail {W : Nat → Prop} {ctx ctx' : Scope} {st st' : St} (e : T W st st') : Post K (T W) ctx st ⟨.err, ctx', st'⟩ :=
  ⟨L.err, (fun h => nomatch h), e⟩

theorem Law.after {W : Nat → Prop} {ctx : Scope} {st st1 : St} {r : R} (e : T W st st1) (h : Post K (T W) ctx st1 r) :
    Post K (T W) ctx st r := ⟨h.cls, h.ctx_eq, L.step e h.rel⟩

theorem Law.widen {W W' : Nat → Prop} {ctx : Scope} {st : St} {r : R} (h : Post K (T W) ctx st r) (hw : ∀ i, W i → W' i) :
    Post K (T W') ctx st r := ⟨h.cls, h.ctx_eq, L.mono h.rel hw⟩

theorem Law.seq {W : Nat → Prop} {ctx : Scope} {st : St} {r : R} {k : Scope → St → R}
    (h1 : Post K (T W) ctx st r) (hk : r.cls = .ok → Post K (T W) ctx r.st (k ctx r.st)) :
    Post K (T W) ctx st (match r.cls with | .ok => k r.ctx r.st | _ => r) := by
  split
  · rename_i hok
    rw [h1.ctx_eq hok]
    exact L.after h1.rel (hk hok)
  · rename_i hnok
    exact ⟨h1.cls, fun e => absurd e (by intro h; exact hnok h), h1.rel⟩

/-- what happens in a frame pushed after `st` writes no cell of `st` -/
theorem Law.fresh {ctx : Scope} {st s' : St} (h : T (fun i => i = top (push ctx st).1) (push ctx st).2 s') :
    T (fun _ => False) st s' :=
  L.trans (L.grow _ st [⟨[], false⟩]) h (fun i hi hw => by
    have : top (push ctx st).1 = st.heap.length := rfl
    omega)

theorem Law.block {body : Run} (hb : RunOk K T Pre Sh body) (ctx : Scope) (st : St) (hs : Sh ctx) :
    Post K (T (fun _ => False)) ctx st (walkBlockOf body ctx st) := by
  unfold walkBlockOf
  have hg := hb (push ctx st).1 (push ctx st).2 (L.pre_push ctx st) (L.sh_push ctx st hs)
  have hext := L.fresh hg.rel
  simp only
  split
  · rename_i hok
    rw [hg.ctx_eq hok]
    exact L.leaf hext
  · rename_i hnok
    exact ⟨hg.cls, fun e => absurd e hnok, hext⟩

theorem Law.render {body : Run} (hb : RunOk K T Pre Sh body) (ctx : Scope) (st : St) (hs : Sh ctx) :
    Post K (T (fun _ => False)) ctx st (renderBlockOf body ctx st).1 := by
  unfold renderBlockOf
  have h := L.block hb ctx { st with out := [] } hs
  refine ⟨h.cls, h.ctx_eq, ?_⟩
  have e : T (fun _ => False) st { (walkBlockOf body ctx { st with out := [] }).st with out := st.out } :=
    L.step (L.step (L.out _ st []) h.rel) (L.out _ _ st.out)
  simp only [restoreNode]
  split
  · exact L.back e
  · exact e

theorem Law.loop {body : Run} (hb : RunOk K T Pre Sh body) (var : Bytes) (last : Int) :
    ∀ (xs : List Value) (i : Nat) (ctx : Scope) (st : St), Sh ctx →
      Post K (T (fun _ => False)) ctx st (forLoop body var last xs i ctx st)
  | [], i, ctx, st, _ => by unfold forLoop; exact L.leaf (L.refl _ _)
  | x :: rest, i, ctx, st, hs => by
    obtain ⟨st2, st3, st4, h2, h3, h4, heq⟩ := forLoop_cons body var last x rest i ctx st
    rw [heq]
    have p1 := L.pre_push ctx st
    have e2 := L.set p1 h2
    have e3 := L.step e2 (L.set (L.pre_T p1 e2) h3)
    have e4 := L.step e3 (L.set (L.pre_T p1 e3) h4)
    have hg := hb _ st4 (L.pre_T p1 e4) (L.sh_push ctx st hs)
    have e5 := L.fresh (L.step e4 hg.rel)
    split
    · rename_i hok
      rw [hg.ctx_eq hok]
      exact L.after e5 (Law.loop hb var last rest (i + 1) ctx _ hs)
    · rename_i hnok
      exact ⟨hg.cls, fun e => absurd e hnok, e5⟩

theorem Law.print (W : Nat → Prop) (g : GEnv) (esc : Bool) (pos : Nat) (arg : Expr) (dirs : List Directive)
    (ha : Sub A (posE arg)) (hd : Sub A (posDirs dirs)) (ctx : Scope) (st : St) :
    Post K (T W) ctx st (evalPrint g esc pos arg dirs ctx st) := by
  unfold evalPrint
  refine L.after (L.node W st _ (ha _ (own_mem_posE arg))) ?_
  generalize atNode st (Expr.pos arg) = st
  unfold evalPrintAt
  split
  · exact L.fail (L.node W st _ (ha _ (evalInPos_mem g arg ctx st)))
  · rename_i st1 he; exact L.fail (L.evalIn W he)
  · rename_i v st1 _ he
    refine L.after (L.evalIn W he) ?_
    split
    · have hd' : Sub A (posDirs (dirs ++ obligDirs pos g.oblig)) := by
        rw [posDirs_append, posDirs_oblig, List.append_nil]; exact hd
      exact L.fail (L.at W _ (runDirectivesPos_step (g := g) (ctx := ctx) _ v esc _ hd'))
    · rename_i r esc' st2 hdd
      refine L.after (L.runDirectives W hdd) ?_
      split
      · exact L.fail (L.refl W _)
      · split
        · exact L.leaf (L.writeAll W _ _)
        · exact L.leaf (L.out W _ _)

theorem Law.callData {g : GEnv} {allData : Bool} {data : Option Expr} {ctx cd : Scope} {st st1 : St}
    (h : callData g allData data ctx st = some (cd, st1)) :
    T (fun _ => False) st st1 ∧ Pre cd st1 ∧ st.heap.length ≤ top cd := by
  unfold Eval.callData at h
  split at h
  · split at h
    · cases h
    · rename_i sc _
      simp only [push, Option.some.injEq, Prod.mk.injEq] at h
      obtain ⟨rfl, rfl⟩ := h
      exact ⟨L.grow _ st _, L.pre_push sc st, Nat.le_refl _⟩
  · split at h
    · split at h
      · rename_i id kvs sta he
        obtain ⟨n, rfl⟩ := evalIn_next he
        simp only [newScope, push, Option.some.injEq, Prod.mk.injEq] at h
        obtain ⟨rfl, rfl⟩ := h
        refine ⟨L.step (L.step (L.next _ st n) (L.grow _ _ [⟨kvs, true⟩])) (L.grow _ _ [⟨[], false⟩]),
          L.pre_push (newScope kvs true { st with next := n }).1 (newScope kvs true { st with next := n }).2, ?_⟩
        show st.heap.length ≤ (st.heap ++ [(⟨kvs, true⟩ : Cell)]).length
        simp
      · cases h
    · simp only [newScope, Option.some.injEq, Prod.mk.injEq] at h
      obtain ⟨rfl, rfl⟩ := h
      exact ⟨L.grow _ st _, L.pre_push [] st, Nat.le_refl _⟩

section
variable (g : GEnv) (phs : List (Nat × Bytes × Run)) (body : MsgParts) (hphs : ∀ e ∈ phs, RunOk K T Pre Sh e.2.2)
  (hbody : Sub A (posParts body))
include hphs hbody

mutual
theorem Law.mparts : (parts : MParts) → RunOk K T Pre Sh (evalMParts g phs body parts)
  | .nil => by intro ctx st _ _; unfold evalMParts; exact L.leaf (L.refl _ _)
  | .cons (.raw t) rest => by
    intro ctx st hp hs
    unfold evalMParts
    exact L.after (L.out _ st _) (Law.mparts rest ctx _ (L.pre_T hp (L.out (fun _ => False) st _)) hs)
  | .cons (.ph name) rest => by
    intro ctx st hp hs
    unfold evalMParts
    split
    · exact L.fail (L.refl _ _)
    · rename_i run hpk
      have hrun : RunOk K T Pre Sh run := by
        rcases pickPh_mem name phs none run hpk with ⟨e, he, her⟩ | ⟨d, hd⟩
        · rw [← her]; exact hphs e he
        · cases hd
      have hg := hrun ctx st hp hs
      exact L.seq hg (fun _ => Law.mparts rest ctx _ (L.pre_T hp hg.rel) hs)
  | .cons (.plural vn cases) rest => by
    intro ctx st hp hs
    unfold evalMParts
    split
    · exact L.fail (L.refl _ _)
    · rename_i ve hve
      split
      · rename_i i st1 he
        have e1 := L.evalIn (fun i => i = top ctx) he
        split
        · exact L.fail e1
        · simp only
          split
          · exact L.fail e1
          · rename_i b _ _
            have hg := Law.mcases cases (b.pluralCase i.toInt).toNat ctx st1 (L.pre_T hp e1) hs
            exact L.after e1 (L.seq hg (fun _ => Law.mparts rest ctx _ (L.pre_T (L.pre_T hp e1) hg.rel) hs))
      · rename_i st1 he; exact L.fail (L.evalIn _ he)
      · exact L.fail (L.node _ st _ (findPlural_sub body vn ve hve hbody _ (evalInPos_mem g ve ctx st)))
theorem Law.mcases : (cases : MCases) → (i : Nat) → RunOk K T Pre Sh (evalMCases g phs body cases i)
  | .nil, _ => by intro ctx st _ _; unfold evalMCases; exact L.fail (L.refl _ _)
  | .cons parts _, 0 => by intro ctx st hp hs; unfold evalMCases; exact Law.mparts parts ctx st hp hs
  | .cons _ rest, i + 1 => by intro ctx st hp hs; unfold evalMCases; exact Law.mcases rest i ctx st hp hs
end
end

theorem RunOk.at {run : Run} (h : RunOk K T Pre Sh run) (ctx : Scope) (st : St) {p : Nat} (hA : A p) (hp : Pre ctx st)
    (hs : Sh ctx) : Post K (T (fun i => i = top ctx)) ctx st (run ctx (atNode st p)) :=
  L.after (L.node _ st p hA) (h ctx _ (L.pre_T hp (L.node (fun _ => False) st p hA)) hs)

/- The one hypothesis about callees.  It is stated over `push sc s` because that is what a callee starts on:
   `enter (f :: r) s` is `push ({ f with entered := true } :: r) s` by definition (the `.call` case of `Law.cmd`
   closes its goal, which still shows `match enter …`, by that reduction).  The state it concludes about is
   `atNode (call …).st s.node`: evalCall drops the callee's state and the caller's `s.node` is where it was. -/
section
variable (g : GEnv) (esc : Bool) (call : Registry.Tmpl → Run)
  (hcall : ∀ t sc (s : St), Sh (push sc s).1 → K (call t (push sc s).1 (push sc s).2).cls ∧
    T (fun _ => False) s (atNode (call t (push sc s).1 (push sc s).2).st s.node))
include hcall

omit hcall in
/-- outside the mutual block, over any `ifEmpty`: inside it `Law.cmd` matches the Option in its patterns (a clause
    for `none`, one for `some b`) so that the recursion through it is structural -/
theorem Law.forc (p : Nat) (var : Bytes) (list : Expr) (body : Block) (ifEmpty : Option Block) (hl : Sub A (posE list))
    (hbody : RunOk K T Pre Sh (execBody g esc call body))
    (hempty : ∀ b, ifEmpty = some b → RunOk K T Pre Sh (execBody g esc call b)) (ctx : Scope) (st : St) (hs : Sh ctx) :
    Post K (T (fun _ => False)) ctx st (execCmd g esc call (.forc p var list body ifEmpty) ctx st) := by
  rw [execCmd]
  split
  · rename_i id xs st1 he
    refine L.after (L.evalIn _ he) ?_
    split
    · split
      · rename_i b; exact L.block (hempty b rfl) ctx st1 hs
      · exact L.leaf (L.refl _ _)
    · exact L.loop hbody var _ xs 0 ctx st1 hs
  · rename_i st1 he; exact L.fail (L.evalIn _ he)
  · exact L.fail (L.node _ st _ (hl _ (evalInPos_mem g list ctx st)))

mutual
/-- `letTop c ctx` is `fun _ => False` for every command but the two {let}s, by unfolding: the other cases prove
    `T (fun _ => False)` and are accepted as they stand. -/
theorem Law.cmd : (c : Cmd) → Sub A (posCmd c) → (ctx : Scope) → (st : St) → Pre ctx st → Sh ctx →
    Post K (T (letTop c ctx)) ctx st (execCmd g esc call c ctx st)
  | .rawText _ _, _, ctx, st, _, _ => by rw [execCmd]; exact L.leaf (L.out _ st _)
  | .print pos arg dirs, hA, ctx, st, _, _ => by
    rw [posCmd] at hA; rw [execCmd]; exact L.print _ g esc pos arg dirs hA.tail.left hA.tail.right ctx st
  | .msg _ id _ _ _ body, hA, ctx, st, _, hs => by
    rw [posCmd] at hA
    rw [execCmd]
    refine L.block ?_ ctx st hs
    intro ctx1 st1 hp1 hs1
    simp only
    split
    · exact Law.parts body hA.tail _ _ hp1 hs1
    · split
      · exact Law.parts body hA.tail _ _ hp1 hs1
      · exact L.mparts g _ body (Law.phAll body 0 hA.tail) hA.tail _ _ _ hp1 hs1
  | .css _ none suffix, _, ctx, st, _, _ => by rw [execCmd]; exact L.leaf (L.out _ st _)
  | .css _ (some e) suffix, hA, ctx, st, _, _ => by
    rw [posCmd, posOpt] at hA
    rw [execCmd]
    split
    · exact L.fail (L.node _ st _ (hA.tail _ (evalInPos_mem g e ctx st)))
    · rename_i v st1 he
      split
      · exact L.fail (L.evalIn _ he)
      · exact L.leaf (L.step (L.evalIn _ he) (L.out _ st1 _))
  | .log _ body, hA, ctx, st, _, hs => by
    rw [posCmd] at hA
    rw [execCmd]
    have h := L.render (Law.body body hA.tail) ctx st hs
    exact ⟨h.cls, h.ctx_eq, h.rel⟩
  | .ifc _ conds, hA, ctx, st, _, hs => by rw [posCmd] at hA; rw [execCmd]; exact Law.conds conds hA.tail ctx st hs
  | .forc p var list body none, hA, ctx, st, _, hs => by
    rw [posCmd] at hA
    exact L.forc g esc call p var list body none hA.tail.left (Law.body body hA.tail.right.left) nofun ctx st hs
  | .forc p var list body (some b), hA, ctx, st, _, hs => by
    rw [posCmd] at hA
    exact L.forc g esc call p var list body (some b) hA.tail.left (Law.body body hA.tail.right.left)
      (fun _ h => Option.some.inj h ▸ Law.body b hA.tail.right.right) ctx st hs
  | .switch _ value cases, hA, ctx, st, hp, hs => by
    rw [posCmd] at hA
    rw [execCmd]
    split
    · exact L.fail (L.node _ st _ (hA.tail.left _ (evalInPos_mem g value ctx st)))
    · rename_i sv st1 he
      have e1 := L.evalIn (fun _ => False) he
      exact L.after e1 (Law.cases (fun ctx => Post K (T (fun _ => False)) ctx) id L.after cases none nofun sv hA.tail.right ctx st1
        (L.pre_T hp e1) hs)
  | .call _ name allData data params, hA, ctx, st, _, hs => by
    rw [posCmd] at hA
    rw [execCmd]
    split
    · exact L.fail (L.refl _ _)
    · rename_i callee _
      split
      · exact L.fail (L.step (L.imp _ allData ctx st hs)
          (L.at _ _ (noteImpossible_node allData ctx st ▸ callDataPos_step g allData data ctx st hA.tail.left)))
      · rename_i cd st1 hcd
        obtain ⟨e1, pcd, hfresh⟩ := L.callData hcd
        have hp := Law.params params hA.tail.right cd ctx st1 pcd hs
        -- relative to `st`, the callee's param frame is new
        have e2 : T (fun _ => False) st (execParams g esc call params cd ctx st1).st :=
          L.trans e1 hp.rel (fun i hi hw => by omega)
        simp only
        split
        · rename_i hok
          cases cd with
          | nil => exact L.fail e2
          | cons f rr =>
            have hc := hcall callee ({ f with entered := true } :: rr) (execParams g esc call params (f :: rr) ctx st1).st
              (L.sh_enter f rr _)
            exact ⟨hc.1, fun _ => hp.ctx_eq hok, L.step e2 hc.2⟩
        · rename_i hnok
          exact ⟨hp.cls, fun e => absurd e (by intro h; exact hnok h), e2⟩
  | .letValue _ name e, hA, ctx, st, hp, _ => by
    rw [posCmd] at hA
    rw [execCmd]
    split
    · exact L.fail (L.node _ st _ (hA.tail _ (evalInPos_mem g e ctx st)))
    · rename_i v st1 he
      have e1 := L.evalIn (fun i => i = top ctx) he
      split
      · exact L.fail e1
      · rename_i st2 hset
        exact L.leaf (L.step e1 (L.set (L.pre_T hp e1) hset))
  | .letContent _ name body, hA, ctx, st, hp, hs => by
    rw [posCmd] at hA
    rw [execCmd]
    have h := L.widen (W' := fun i => i = top ctx) (L.render (Law.body body hA.tail) ctx st hs) (fun _ h => h.elim)
    split
    · rename_i hok
      rw [h.ctx_eq hok]
      split
      · exact L.fail h.rel
      · rename_i st2 hset
        exact L.leaf (L.step h.rel (L.set (L.pre_T hp h.rel) hset))
    · rename_i hnok
      exact ⟨h.cls, fun e => absurd e (by intro h; exact hnok h), h.rel⟩
  | .debugger .., _, ctx, st, _, _ | .headerParam .., _, ctx, st, _, _ | .soyDoc .., _, ctx, st, _, _ => by
    rw [execCmd]; exact L.leaf (L.refl _ _)
  | .namespace .., _, ctx, st, _, _ | .template .., _, ctx, st, _, _ => by rw [execCmd]; exact L.fail (L.refl _ _)
theorem Law.body : (b : Block) → Sub A (posBlock b) → RunOk K T Pre Sh (execBody g esc call b)
  | .mk p cmds, hA => by
    rw [posBlock] at hA
    intro ctx st hp hs; rw [execBody]; exact RunOk.at L (Law.cmds cmds hA.tail) ctx st hA.head hp hs
theorem Law.cmds : (cs : CmdList) → Sub A (posCmds cs) → RunOk K T Pre Sh (execCmds g esc call cs)
  | .nil, _ => by intro ctx st _ _; rw [execCmds]; exact L.leaf (L.refl _ _)
  | .cons c rest, hA => by
    rw [posCmds] at hA
    intro ctx st hp hs
    rw [execCmds]
    have h1 := RunOk.at L (fun ctx st hp hs => L.widen (Law.cmd c hA.left ctx st hp hs) (letTop_le c ctx)) ctx st
      (hA.left _ (cmdPos_mem c)) hp hs
    exact L.seq h1 (fun _ => Law.cmds rest hA.right ctx _ (L.pre_T hp h1.rel) hs)
theorem Law.conds : (cs : CondList) → Sub A (posConds cs) → (ctx : Scope) → (st : St) → Sh ctx →
    Post K (T (fun _ => False)) ctx st (execConds g esc call cs ctx st)
  | .nil, _, ctx, st, _ => by rw [execConds]; exact L.leaf (L.refl _ _)
  | .cons _ none body _, hA, ctx, st, hs => by
    rw [posConds, posOpt] at hA
    rw [execConds]; exact L.block (Law.body body hA.right.left) ctx st hs
  | .cons _ (some c) body rest, hA, ctx, st, hs => by
    rw [posConds, posOpt] at hA
    rw [execConds]
    split
    · exact L.fail (L.node _ st _ (hA.left _ (evalInPos_mem g c ctx st)))
    · rename_i v st1 he
      refine L.after (L.evalIn _ he) ?_
      split
      · exact L.block (Law.body body hA.right.left) ctx st1 hs
      · exact Law.conds rest hA.right.right ctx st1 hs
/-- `Q` is what is known of the remembered {default} `dflt` — any run, as far as `execCases` goes — and so what is
    concluded: `Post …` itself in `Law.cmd`, the `Good` of `execCases_good` in Lemmas/EvalGood.  Likewise `Law.pl`. -/
theorem Law.cases (Q : Scope → St → R → Prop) (hQ : ∀ {ctx st r}, Post K (T (fun _ => False)) ctx st r → Q ctx st r)
    (hstep : ∀ {ctx st st1 r}, T (fun _ => False) st st1 → Q ctx st1 r → Q ctx st r) : (cs : CaseList) → (dflt : Option Run) →
    (∀ d, dflt = some d → ∀ ctx st, Pre ctx st → Sh ctx → Q ctx st (d ctx st)) → (sv : Value) →
    Sub A (posCases cs) → (ctx : Scope) → (st : St) → Pre ctx st → Sh ctx → Q ctx st (execCases g esc call cs dflt sv ctx st)
  | .nil, dflt, hd, _, _, ctx, st, hp, hs => by
    rw [execCases]
    cases dflt with
    | none => exact hQ (L.leaf (L.refl _ _))
    | some d => exact hd d rfl ctx st hp hs
  | .cons _ values body rest, dflt, hd, sv, hA, ctx, st, hp, hs => by
    rw [posCases] at hA
    have hb : ∀ ctx st, Pre ctx st → Sh ctx → Q ctx st (walkBlockOf (execBody g esc call body) ctx st) :=
      fun ctx st _ hs => hQ (L.block (Law.body body hA.right.left) ctx st hs)
    rw [execCases]
    split
    · exact hQ (L.fail (L.at _ _ (matchCasePos_step values st hA.left)))
    · rename_i st1 hm
      have e1 := L.matchCase (fun _ => False) hm
      exact hstep e1 (hb ctx st1 (L.pre_T hp e1) hs)
    · rename_i st1 hm
      have e1 := L.matchCase (fun _ => False) hm
      exact hstep e1 (Law.cases Q hQ hstep rest _
        (pickDefault_all (P := fun d => ∀ ctx st, Pre ctx st → Sh ctx → Q ctx st (d ctx st)) hb hd) sv
        hA.right.right ctx st1 (L.pre_T hp e1) hs)
theorem Law.params : (ps : ParamList) → Sub A (posParams ps) → (cd ctx : Scope) → (st : St) → Pre cd st → Sh ctx →
    Post K (T (fun i => i = top cd)) ctx st (execParams g esc call ps cd ctx st)
  | .nil, _, _, _, _, _, _ => by rw [execParams]; exact L.leaf (L.refl _ _)
  | .value _ key e rest, hA, cd, ctx, st, pcd, hs => by
    rw [posParams] at hA
    rw [execParams]
    split
    · exact L.fail (L.node _ st _ (hA.left _ (evalInPos_mem g e ctx st)))
    · rename_i v st1 he
      have e1 := L.evalIn (fun i => i = top cd) he
      split
      · exact L.fail e1
      · rename_i st2 hset
        have e2 := L.step e1 (L.set (L.pre_T pcd e1) hset)
        exact L.after e2 (Law.params rest hA.right cd ctx st2 (L.pre_T pcd e2) hs)
  | .content _ key body rest, hA, cd, ctx, st, pcd, hs => by
    rw [posParams] at hA
    rw [execParams]
    have h := L.widen (W' := fun i => i = top cd) (L.render (Law.body body hA.left) ctx st hs) (fun _ h => h.elim)
    split
    · rename_i hok
      rw [h.ctx_eq hok]
      split
      · exact L.fail h.rel
      · rename_i st2 hset
        have e2 := L.step h.rel (L.set (L.pre_T pcd h.rel) hset)
        exact L.after e2 (Law.params rest hA.right cd ctx st2 (L.pre_T pcd e2) hs)
    · rename_i hnok
      exact ⟨h.cls, fun e => absurd e (by intro h; exact hnok h), h.rel⟩
theorem Law.parts : (ps : MsgParts) → Sub A (posParts ps) → RunOk K T Pre Sh (walkMsgBody g esc call ps)
  | .nil, _ => by intro ctx st _ _; rw [walkMsgBody]; exact L.leaf (L.refl _ _)
  | .text p t rest, hA => by
    rw [posParts] at hA
    intro ctx st hp hs
    rw [walkMsgBody]
    have e : ∀ W, T W st (write (atNode st p) t) := fun W => L.step (L.node W st p hA.head) (L.out W _ _)
    exact L.after (e _) (Law.parts rest hA.tail ctx _ (L.pre_T hp (e (fun _ => False))) hs)
  | .ph _ _ body rest, hA => by
    rw [posParts] at hA
    intro ctx st hp hs
    rw [walkMsgBody]
    have h1 := Law.ph body hA.left ctx st hp hs
    exact L.seq h1 (fun _ => Law.parts rest hA.right ctx _ (L.pre_T hp h1.rel) hs)
  | .plural _ _ value cases _ dflt rest, hA => by
    rw [posParts] at hA
    intro ctx st hp hs
    rw [walkMsgBody]
    split
    · rename_i i st1 he
      have e1 := L.evalIn (fun i => i = top ctx) he
      have h1 := Law.pl (fun ctx => Post K (T (fun i => i = top ctx)) ctx) id cases hA.right.left (walkMsgBody g esc call dflt)
        (Law.parts dflt hA.right.right.left) i.toInt ctx st1
        (L.pre_T hp e1) hs
      exact L.after e1 (L.seq h1 (fun _ => Law.parts rest hA.right.right.right ctx _ (L.pre_T (L.pre_T hp e1) h1.rel) hs))
    · rename_i st1 he; exact L.fail (L.evalIn _ he)
    · exact L.fail (L.node _ st _ (hA.left _ (evalInPos_mem g value ctx st)))
theorem Law.pl (Q : Scope → St → R → Prop) (hQ : ∀ {ctx st r}, Post K (T (fun i => i = top ctx)) ctx st r → Q ctx st r) :
    (cs : PluralCases) → Sub A (posPl cs) → (dflt : Run) → (∀ ctx st, Pre ctx st → Sh ctx → Q ctx st (dflt ctx st)) → (i : Int) →
    (ctx : Scope) → (st : St) → Pre ctx st → Sh ctx → Q ctx st (walkPluralCases g esc call cs dflt i ctx st)
  | .nil, _, dflt, hd, _, ctx, st, hp, hs => by rw [walkPluralCases]; exact hd ctx st hp hs
  | .cons _ v _ body rest, hA, dflt, hd, i, ctx, st, hp, hs => by
    rw [posPl] at hA
    rw [walkPluralCases]
    split
    · exact hQ (Law.parts body hA.left ctx st hp hs)
    · exact Law.pl Q hQ rest hA.right dflt hd i ctx st hp hs
theorem Law.ph : (b : MsgPhBody) → Sub A (posPh b) → RunOk K T Pre Sh (execPh g esc call b)
  | .htmlTag p text, hA => by
    rw [posPh] at hA
    intro ctx st _ _; rw [execPh]; exact L.leaf (L.step (L.node _ st p hA.head) (L.out _ _ _))
  | .cmd c, hA => by
    rw [posPh] at hA
    intro ctx st hp hs; rw [execPh]
    exact RunOk.at L (fun ctx st hp hs => L.widen (Law.cmd c hA ctx st hp hs) (letTop_le c ctx)) ctx st
      (hA _ (cmdPos_mem c)) hp hs
theorem Law.phAll : (ps : MsgParts) → (d : Nat) → Sub A (posParts ps) → ∀ e ∈ phAll g esc call ps d, RunOk K T Pre Sh e.2.2
  | .nil, _, _ => by intro e he; rw [Eval.phAll] at he; cases he
  | .text _ _ rest, d, hA => by
    rw [posParts] at hA
    intro e he; rw [Eval.phAll] at he; exact Law.phAll rest d hA.tail e he
  | .ph _ name body rest, d, hA => by
    rw [posParts] at hA
    intro e he
    rw [Eval.phAll] at he
    rcases List.mem_cons.mp he with rfl | h
    · exact Law.ph body hA.left
    · exact Law.phAll rest d hA.right e h
  | .plural _ _ _ cases _ dflt rest, d, hA => by
    rw [posParts] at hA
    intro e he
    rw [Eval.phAll] at he
    rcases List.mem_append.mp he with h | h
    · rcases List.mem_append.mp h with h | h
      · exact Law.phAllCases cases (d + 3) hA.right.left e h
      · exact Law.phAll dflt (d + 2) hA.right.right.left e h
    · exact Law.phAll rest d hA.right.right.right e h
theorem Law.phAllCases : (cs : PluralCases) → (d : Nat) → Sub A (posPl cs) →
    ∀ e ∈ phAllCases g esc call cs d, RunOk K T Pre Sh e.2.2
  | .nil, _, _ => by intro e he; rw [Eval.phAllCases] at he; cases he
  | .cons _ _ _ body rest, d, hA => by
    rw [posPl] at hA
    intro e he
    rw [Eval.phAllCases] at he
    rcases List.mem_append.mp he with h | h
    · exact Law.phAll body d hA.left e h
    · exact Law.phAllCases rest d hA.right e h
end

theorem Law.cmdOk (c : Cmd) (hA : Sub A (posCmd c)) : RunOk K T Pre Sh (execCmd g esc call c) :=
  fun ctx st hp hs => L.widen (L.cmd g esc call hcall c hA ctx st hp hs) (letTop_le c ctx)
end

end

theorem Law.and {K K' : Cls → Prop} {T T' : (Nat → Prop) → St → St → Prop} {Pre Pre' : Scope → St → Prop}
    {Sh Sh' : Scope → Prop} {A : Nat → Prop} (L : Law K T Pre Sh A) (L' : Law K' T' Pre' Sh' A) :
    Law (fun c => K c ∧ K' c) (fun W s s' => T W s s' ∧ T' W s s') (fun ctx s => Pre ctx s ∧ Pre' ctx s)
      (fun ctx => Sh ctx ∧ Sh' ctx) A where
  ok := ⟨L.ok, L'.ok⟩
  err := ⟨L.err, L'.err⟩
  chain h1 h2 hw hw' := ⟨L.chain h1.1 h2.1 hw hw', L'.chain h1.2 h2.2 hw hw'⟩
  data W s n o := ⟨L.data W s n o, L'.data W s n o⟩
  grow W s c := ⟨L.grow W s c, L'.grow W s c⟩
  move p h hp := ⟨L.move p h.1 hp, L'.move p h.2 hp⟩
  imp W a ctx s h := ⟨L.imp W a ctx s h.1, L'.imp W a ctx s h.2⟩
  set hp h := ⟨L.set hp.1 h, L'.set hp.2 h⟩
  pre_T hp h := ⟨L.pre_T hp.1 h.1, L'.pre_T hp.2 h.2⟩
  pre_push ctx s := ⟨L.pre_push ctx s, L'.pre_push ctx s⟩
  sh_push ctx s h := ⟨L.sh_push ctx s h.1, L'.sh_push ctx s h.2⟩
  sh_enter f r s := ⟨L.sh_enter f r s, L'.sh_enter f r s⟩

end SoyVerif.Model.Eval
