/-
  The tokenizer of Spec/JsParse, one input element at a time: `jsLex` without its fuel, and what it does on the
  pieces a JavaScript text is written from (white space, identifiers, decimal integers, string literals written by
  the escaper, punctuators).
-/
import SoyVerif.Lemmas.NatDigits
import SoyVerif.Spec.JsParse
import SoyVerif.Props.C16

namespace SoyVerif.Lemmas.JsParseLex
open SoyVerif SoyVerif.Spec SoyVerif.Spec.JsParse
open SoyVerif.Spec.Json (digitsVal isDigit)

theorem strBody_len : ∀ (s body t : Bytes), strBody s = some (body, t) → t.length < s.length
  | [], _, _, h => by simp [strBody] at h
  | [c], body, t, h => by
    unfold strBody at h
    split at h
    · cases h; simp
    · split at h
      · simp at h
      · simp [strBody] at h
  | c :: d :: r, body, t, h => by
    unfold strBody at h
    split at h
    · cases h; simp
    · split at h
      · simp only [Option.map_eq_some_iff] at h
        obtain ⟨x, hx, e⟩ := h
        cases e
        have := strBody_len r x.1 x.2 hx
        simp; omega
      · simp only [Option.map_eq_some_iff] at h
        obtain ⟨x, hx, e⟩ := h
        cases e
        have := strBody_len (d :: r) x.1 x.2 hx
        simp at this ⊢; omega

theorem lexOne_lt {s : Bytes} {t : Option Tok} {r : Bytes} (h : lexOne s = some (t, r)) : r.length < s.length := by
  revert h
  -- one case per branch of `lexOne`; those that return something: white space, comment, identifier, number, string, punctuator
  fun_cases lexOne s <;> intro h
  · cases h
  · cases h; exact Nat.lt_succ_self _
  · cases h; exact Nat.lt_succ_of_le (List.dropWhile_sublist _).length_le
  · cases h
  · cases h; exact Nat.lt_succ_of_le (List.dropWhile_sublist _).length_le
  · cases h
  · rw [← (Prod.mk.inj (Option.some.inj h)).2]; exact Nat.lt_succ_of_le (List.dropWhile_sublist _).length_le
  · rename_i hb
    simp only [Option.map_eq_some_iff] at h
    obtain ⟨v, _, e⟩ := h
    cases e
    exact Nat.lt_succ_of_lt (strBody_len _ _ _ hb)
  · cases h
  · cases h
  · cases h
  · cases h; simp; omega

/-- the tokens of a text whose first piece has the tokens `toks`; `none` when the rest does not lex -/
def pre (toks : List Tok) (o : Option (List Tok)) : Option (List Tok) := o.map (toks ++ ·)

@[simp] theorem pre_nil (o : Option (List Tok)) : pre [] o = o := by cases o <;> rfl
@[simp] theorem pre_pre (a b : List Tok) (o : Option (List Tok)) : pre a (pre b o) = pre (a ++ b) o := by
  cases o <;> simp [pre]

theorem lexN_step {n : Nat} {s : Bytes} {t : Option Tok} {r : Bytes} (h : lexOne s = some (t, r)) :
    lexN (n + 1) s = pre t.toList (lexN n r) := by
  cases s with
  | nil => simp [lexOne] at h
  | cons c s =>
    simp only [lexN, h]
    cases lexN n r <;> cases t <;> rfl

/-- every input element takes at least one byte -/
theorem lexN_enough : ∀ (n : Nat) (s : Bytes), s.length ≤ n → lexN n s = lexN s.length s := by
  intro n
  induction n using Nat.strongRecOn with
  | _ n ih =>
    intro s hs
    cases s with
    | nil => cases n <;> rfl
    | cons c s =>
      cases n with
      | zero => simp at hs
      | succ n =>
        simp only [List.length_cons]
        cases h : lexOne (c :: s) with
        | none => simp [lexN, h]
        | some x =>
          obtain ⟨t, r⟩ := x
          have hl := lexOne_lt h
          simp only [List.length_cons] at hl hs
          rw [lexN_step h, lexN_step h, ih n (by omega) r (by omega), ih s.length (by omega) r (by omega)]

theorem jsLex_nil : jsLex [] = some [] := rfl

/-- the tokens of a whole text, from its tokens in front of any rest -/
theorem lex_whole {bs : Bytes} {ts : List Tok} (h : jsLex (bs ++ []) = pre ts (jsLex [])) : jsLex bs = some ts := by
  simpa [pre, jsLex_nil] using h

theorem jsLex_step {s : Bytes} {t : Option Tok} {r : Bytes} (h : lexOne s = some (t, r)) :
    jsLex s = pre t.toList (jsLex r) := by
  have hl := lexOne_lt h
  unfold jsLex
  obtain ⟨k, e⟩ : ∃ k, s.length = k + 1 := ⟨s.length - 1, by omega⟩
  rw [e, lexN_step h, lexN_enough k r (by omega)]

theorem jsLex_none {s : Bytes} (h : lexOne s = none) (hs : s ≠ []) : jsLex s = none := by
  cases s with
  | nil => exact absurd rfl hs
  | cons c s => simp [jsLex, lexN, h]

theorem lex_tok {s : Bytes} {t : Tok} {r : Bytes} (h : lexOne s = some (some t, r)) : jsLex s = pre [t] (jsLex r) :=
  jsLex_step h

theorem lex_skip {s : Bytes} {r : Bytes} (h : lexOne s = some (none, r)) : jsLex s = jsLex r :=
  (jsLex_step h).trans (pre_nil _)

theorem lex_ws {c : UInt8} (h : isWs c = true) (r : Bytes) : jsLex (c :: r) = jsLex r :=
  lex_skip (by rw [lexOne, if_pos h])

@[simp] theorem lex_sp (r : Bytes) : jsLex (32 :: r) = jsLex r := lex_ws rfl r
@[simp] theorem lex_nl (r : Bytes) : jsLex (10 :: r) = jsLex r := lex_ws rfl r

/-- the punctuators of one character that no other punctuator begins with (`~`, which the generator does not write, left out) -/
def single (c : UInt8) : Bool :=
  c == 123 || c == 125 || c == 40 || c == 41 || c == 91 || c == 93 || c == 59 || c == 44 || c == 63 || c == 58

theorem lex_single {c : UInt8} (h : single c = true) (r : Bytes) : jsLex (c :: r) = pre [.p [c]] (jsLex r) := by
  apply lex_tok
  simp only [single, Bool.or_eq_true, beq_iff_eq] at h
  rcases h with ((((((((h | h) | h) | h) | h) | h) | h) | h) | h) | h <;> subst h <;> rfl

@[simp] theorem lex_lparen (r : Bytes) : jsLex (40 :: r) = pre [.p b!"("] (jsLex r) := lex_single rfl r
@[simp] theorem lex_rparen (r : Bytes) : jsLex (41 :: r) = pre [.p b!")"] (jsLex r) := lex_single rfl r
@[simp] theorem lex_lbrack (r : Bytes) : jsLex (91 :: r) = pre [.p b!"["] (jsLex r) := lex_single rfl r
@[simp] theorem lex_rbrack (r : Bytes) : jsLex (93 :: r) = pre [.p b!"]"] (jsLex r) := lex_single rfl r
@[simp] theorem lex_lbrace (r : Bytes) : jsLex (123 :: r) = pre [.p b!"{"] (jsLex r) := lex_single rfl r
@[simp] theorem lex_rbrace (r : Bytes) : jsLex (125 :: r) = pre [.p b!"}"] (jsLex r) := lex_single rfl r
@[simp] theorem lex_semi (r : Bytes) : jsLex (59 :: r) = pre [.p b!";"] (jsLex r) := lex_single rfl r
@[simp] theorem lex_comma (r : Bytes) : jsLex (44 :: r) = pre [.p b!","] (jsLex r) := lex_single rfl r
@[simp] theorem lex_quest (r : Bytes) : jsLex (63 :: r) = pre [.p b!"?"] (jsLex r) := lex_single rfl r
@[simp] theorem lex_colon (r : Bytes) : jsLex (58 :: r) = pre [.p b!":"] (jsLex r) := lex_single rfl r

theorem lex_p_sp {p : Bytes} {r : Bytes} (h : lexOne (p ++ 32 :: r) = some (some (.p p), 32 :: r)) :
    jsLex (p ++ 32 :: r) = pre [.p p] (jsLex r) := by
  rw [lex_tok h, lex_sp]

/-- an ASCII IdentifierName -/
def JsIdent (g : Bytes) : Prop := ∃ c r, g = c :: r ∧ isIdStart c = true ∧ ∀ b ∈ r, isIdPart b = true

/-- what may follow an identifier: no identifier character, which would go on with it (in Props/C14c: the next fixed byte
    of the generator's text) -/
def Sep1 (rest : Bytes) : Prop := ∀ c r, rest = c :: r → isIdPart c = false

theorem Sep1.nil : Sep1 [] := fun _ _ e => by cases e
/-- with `decide`, this and `sepN_cons_iff` discharge the separator conditions in the `simp +decide` calls of Props/C14c -/
@[simp] theorem sep1_cons_iff (c : UInt8) (r : Bytes) : Sep1 (c :: r) ↔ isIdPart c = false :=
  ⟨fun h => h c r rfl, fun h c' r' e => by cases e; exact h⟩
theorem sep1_cons {c : UInt8} (h : isIdPart c = false) (r : Bytes) : Sep1 (c :: r) := (sep1_cons_iff c r).mpr h

theorem idStart_class {c : UInt8} (h : isIdStart c = true) : isWs c = false ∧ (c == 47) = false := by
  simp only [isIdStart, isWs, Bool.or_eq_true, Bool.and_eq_true, decide_eq_true_eq, beq_iff_eq, Bool.or_eq_false_iff,
    beq_eq_false_iff_ne, ne_eq, UInt8.le_iff_toNat_le, ← UInt8.toNat_inj] at h ⊢
  simp at h ⊢
  omega

theorem lex_ident {g : Bytes} (hg : JsIdent g) {rest : Bytes} (hs : Sep1 rest) :
    jsLex (g ++ rest) = pre [.id g] (jsLex rest) := by
  obtain ⟨c, r, rfl, hc, hr⟩ := hg
  obtain ⟨h1, h2⟩ := idStart_class hc
  obtain ⟨e1, e2⟩ := NatDigits.takeWhile_sep isIdPart r rest hr hs
  apply lex_tok
  rw [List.cons_append, lexOne, h1, h2, hc, e1, e2]
  rfl

/-- what may follow a number: no identifier character (§7.8.3), and no `.`, which would go on with a fraction -/
def SepN (rest : Bytes) : Prop := ∀ c r, rest = c :: r → isIdPart c = false ∧ c ≠ 46

theorem SepN.nil : SepN [] := fun _ _ e => by cases e
theorem SepN.sep1 {rest : Bytes} (h : SepN rest) : Sep1 rest := fun c r e => (h c r e).1
@[simp] theorem sepN_cons_iff (c : UInt8) (r : Bytes) : SepN (c :: r) ↔ isIdPart c = false ∧ c ≠ 46 :=
  ⟨fun h => h c r rfl, fun h c' r' e => by cases e; exact h⟩
theorem sepN_cons {c : UInt8} (h : isIdPart c = false) (h' : c ≠ 46) (r : Bytes) : SepN (c :: r) :=
  (sepN_cons_iff c r).mpr ⟨h, h'⟩

theorem digit_class {c : UInt8} (h : isDigit c = true) : isWs c = false ∧ (c == 47) = false ∧ isIdStart c = false := by
  simp only [isDigit, isIdStart, isWs, Bool.and_eq_true, decide_eq_true_eq, Bool.or_eq_false_iff,
    Bool.and_eq_false_iff, decide_eq_false_iff_not,
    beq_eq_false_iff_ne, ne_eq, UInt8.le_iff_toNat_le, ← UInt8.toNat_inj] at h ⊢
  simp at h ⊢
  omega

theorem lex_nat (n : Nat) {rest : Bytes} (hs : SepN rest) :
    jsLex (F64.natDigits n ++ rest) = pre [.num n] (jsLex rest) := by
  obtain ⟨hne, hall, h0, hval⟩ := SoyVerif.Lemmas.NatDigits.natDigits_shape n
  cases hd : F64.natDigits n with
  | nil => exact absurd hd hne
  | cons c r =>
    rw [hd] at hall h0 hval
    have hc : isDigit c = true := hall c (List.mem_cons_self ..)
    obtain ⟨h1, h2, h3⟩ := digit_class hc
    have hsep : ∀ c' r', rest = c' :: r' → isDigit c' = false := by
      intro c' r' e
      have := (hs c' r' e).1
      simp only [isIdPart, Bool.or_eq_false_iff] at this
      exact this.2
    obtain ⟨e1, e2⟩ := NatDigits.takeWhile_sep isDigit r rest (fun b hb => hall b (List.mem_cons_of_mem _ hb)) hsep
    have hz : (c == 48 && !r.isEmpty) = false := by
      rcases h0 with h0 | h0
      · cases h0; rfl
      · simp only [List.head?_cons, ne_eq, Option.some.injEq] at h0
        simp [h0]
    have ht : rest.head?.any (fun b => isIdStart b || b == 46) = false := by
      cases rest with
      | nil => rfl
      | cons c' r' =>
        obtain ⟨ha, hb⟩ := hs c' r' rfl
        simp only [isIdPart, Bool.or_eq_false_iff] at ha
        simp [ha.1, hb]
    apply lex_tok
    simp [lexOne, h1, h2, h3, hc, e1, e2, hz, ht, hval]

theorem strBody_cons (c : UInt8) (r : Bytes) : strBody (c :: r) =
    if c == 39 then some ([], r)
    else if c == 92 then
      match r with
      | [] => none
      | d :: r' => (strBody r').map fun x => (c :: d :: x.1, x.2)
    else (strBody r).map fun x => (c :: x.1, x.2) := by
  cases r <;> rfl

/-- `k` bounds the length of the body: the recursion takes two bytes at a backslash -/
theorem strBody_escaped (rest : Bytes) : ∀ (k : Nat) (body : Bytes), body.length ≤ k → jsQuotesEscapedGo false body = true →
    strBody (body ++ 39 :: rest) = some (body, rest)
  | _, [], _, _ => by simp [strBody_cons]
  | 0, _ :: _, hk, _ => by simp at hk
  | k + 1, c :: r, hk, h => by
    simp only [jsQuotesEscapedGo] at h
    by_cases h92 : c = 92
    · subst h92
      simp only [beq_self_eq_true, if_true] at h
      cases r with
      | nil => simp [jsQuotesEscapedGo] at h
      | cons d r' =>
        simp only [jsQuotesEscapedGo] at h
        simp only [List.length_cons] at hk
        have := strBody_escaped rest k r' (by omega) h
        simp [strBody_cons, this]
    · have hb : (c == 92) = false := by simp [h92]
      simp only [hb, Bool.false_eq_true, if_false, Bool.and_eq_true, bne_iff_ne, ne_eq] at h
      simp only [List.length_cons] at hk
      have := strBody_escaped rest k r (by omega) h.2
      have h39 : (c == 39) = false := by simp [h.1.1]
      simp [strBody_cons, this, h39, hb]

/-- a string literal the escaper wrote -/
theorem lex_str {s : Bytes} (hv : ValidUtf8 s) (rest : Bytes) :
    jsLex (39 :: (Model.jsEscapeFixed s ++ 39 :: rest)) = pre [.str s] (jsLex rest) := by
  have hq := (SoyVerif.Props.C16.jsEscapeFixed_roundtrip_safe Model.isPrint s).2.1
  have hb := strBody_escaped rest _ (Model.jsEscapeFixed s) (Nat.le_refl _) hq
  have hu := SoyVerif.Props.C16.jsEscapeFixed_roundtrip s hv
  apply lex_tok
  rw [lexOne]
  simp only [show isWs 39 = false from rfl, show ((39 : UInt8) == 47) = false from rfl, show isIdStart 39 = false from rfl,
    show isDigit 39 = false from rfl, Bool.false_eq_true, if_false, beq_self_eq_true, if_true, hb, hu, Option.map_some]

/-- an identifier whose end is in sight: for the fixed text of the generator (keywords, `Math`, `opt_data`), where
    `takeWhile` evaluates -/
theorem lex_id_cons {c : UInt8} (hc : isIdStart c = true) (r : Bytes) :
    jsLex (c :: r) = pre [.id (c :: r.takeWhile isIdPart)] (jsLex (r.dropWhile isIdPart)) := by
  obtain ⟨h1, h2⟩ := idStart_class hc
  apply lex_tok
  rw [lexOne, h1, h2, hc]
  rfl

/-- the punctuator `.` (before a digit it would begin a number) -/
theorem lex_dot {c : UInt8} (hc : isDigit c = false) (r : Bytes) : jsLex (46 :: c :: r) = pre [.p b!"."] (jsLex (c :: r)) := by
  apply lex_tok
  rw [lexOne]
  simp only [show isWs 46 = false from rfl, show ((46 : UInt8) == 47) = false from rfl, show isIdStart 46 = false from rfl,
    show isDigit 46 = false from rfl, show ((46 : UInt8) == 39) = false from rfl, List.head?_cons, Option.any_some, hc,
    Bool.and_false, Bool.false_eq_true, if_false]
  rfl

theorem lex_dot_ident {k : Bytes} (hk : JsIdent k) {rest : Bytes} (hs : Sep1 rest) :
    jsLex (46 :: (k ++ rest)) = pre [.p b!".", .id k] (jsLex rest) := by
  obtain ⟨c, r, rfl, hc, hr⟩ := hk
  have hd : isDigit c = false := by
    cases hdc : isDigit c with
    | false => rfl
    | true => have := (digit_class hdc).2.2; rw [hc] at this; cases this
  rw [List.cons_append, lex_dot hd, ← List.cons_append, lex_ident ⟨c, r, rfl, hc, hr⟩ hs, pre_pre]
  rfl

theorem lex_minus_digit {d : UInt8} (hd : isDigit d = true) (r : Bytes) :
    jsLex (45 :: d :: r) = pre [.p b!"-"] (jsLex (d :: r)) := by
  apply lex_tok
  have h1 : d ≠ 45 := by rintro rfl; cases hd
  have h2 : d ≠ 61 := by rintro rfl; cases hd
  rw [lexOne]
  simp [isWs, isIdStart, isDigit, punctLen, h1, h2]

@[simp] theorem lex_ne_sp (r : Bytes) : jsLex (33 :: 61 :: 32 :: r) = pre [.p b!"!="] (jsLex r) := lex_p_sp (p := b!"!=") rfl
@[simp] theorem lex_eq_sp (r : Bytes) : jsLex (61 :: 61 :: 32 :: r) = pre [.p b!"=="] (jsLex r) := lex_p_sp (p := b!"==") rfl
@[simp] theorem lex_set_sp (r : Bytes) : jsLex (61 :: 32 :: r) = pre [.p b!"="] (jsLex r) := lex_p_sp (p := b!"=") rfl
@[simp] theorem lex_addset_sp (r : Bytes) : jsLex (43 :: 61 :: 32 :: r) = pre [.p b!"+="] (jsLex r) := lex_p_sp (p := b!"+=") rfl
@[simp] theorem lex_minus_sp (r : Bytes) : jsLex (45 :: 32 :: r) = pre [.p b!"-"] (jsLex r) := lex_p_sp (p := b!"-") rfl
@[simp] theorem lex_plus_sp (r : Bytes) : jsLex (43 :: 32 :: r) = pre [.p b!"+"] (jsLex r) := lex_p_sp (p := b!"+") rfl
@[simp] theorem lex_ge_sp (r : Bytes) : jsLex (62 :: 61 :: 32 :: r) = pre [.p b!">="] (jsLex r) := lex_p_sp (p := b!">=") rfl
@[simp] theorem lex_gt_sp (r : Bytes) : jsLex (62 :: 32 :: r) = pre [.p b!">"] (jsLex r) := lex_p_sp (p := b!">") rfl
@[simp] theorem lex_lt_sp (r : Bytes) : jsLex (60 :: 32 :: r) = pre [.p b!"<"] (jsLex r) := lex_p_sp (p := b!"<") rfl
@[simp] theorem lex_or_sp (r : Bytes) : jsLex (124 :: 124 :: 32 :: r) = pre [.p b!"||"] (jsLex r) := lex_p_sp (p := b!"||") rfl
@[simp] theorem lex_not_lparen (r : Bytes) : jsLex (33 :: 40 :: r) = pre [.p b!"!", .p b!"("] (jsLex r) := by
  rw [lex_tok (t := .p b!"!") (r := 40 :: r) rfl, lex_lparen, pre_pre]; rfl
@[simp] theorem lex_inc_rparen (r : Bytes) : jsLex (43 :: 43 :: 41 :: r) = pre [.p b!"++", .p b!")"] (jsLex r) := by
  rw [lex_tok (t := .p b!"++") (r := 41 :: r) rfl, lex_rparen, pre_pre]; rfl

end SoyVerif.Lemmas.JsParseLex
