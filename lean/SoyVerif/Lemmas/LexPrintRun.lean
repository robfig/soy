/-
  From tokens to token lists: `TokOk t rest` collects, per token kind, the condition under which
  `lexInsideTag` started at `t.val ++ rest` emits exactly `t` (`tok_step`; of the token before it the lexer asks
  something only if `t` begins with `-`: `MinusOK`); `Adj ps tail` asks it of every token of a piece list; `pieces_run`
  runs the machine over the whole list, in front of any `tail` and in any tag; `lex_pieces` / `lexAll_pieces`: an
  expression on its own, where — the input being exhausted inside a "tag" — the Error item "unclosed tag" follows.
-/
import SoyVerif.Lemmas.LexPrintNum
import SoyVerif.Lemmas.LexPrintStr
import SoyVerif.Lemmas.LexPrintDelim


namespace SoyVerif.Lemmas.LexPrint
open SoyVerif SoyVerif.Model SoyVerif.Model.Lex SoyVerif.Model.PrintTokens
open SoyVerif.Lemmas.ParserAdj SoyVerif.Lemmas.ParserToks

variable {tg : Int}

/-- `|` -/
def tPipe : Tk := ⟨.tPipe, [124]⟩

/-- the token `t`, followed by the bytes `rest`, is one the lexer reads back as `t` -/
inductive TokOk : Tk → Bytes → Prop
  | lp (rest) : TokOk tLP rest
  | rp (rest) : TokOk tRP rest
  | lb (rest) : TokOk tLB rest
  | rb (rest) : TokOk tRB rest
  | comma (rest) : TokOk tComma rest
  | colon (rest) : TokOk tColon rest
  /-- `|` in front of a print directive -/
  | pipe (rest) : TokOk tPipe rest
  | qkey (rest) : TokOk tQKey rest
  /-- `?` with a space behind it, as printed: `?.`, `?[` and `?:` are other tokens -/
  | ternif (rest) : TokOk tTernIf (32 :: rest)
  | neg (rest) (ha : AsciiHd rest) (hd : hdRune rest < 48 ∨ 57 < hdRune rest) : TokOk tNeg rest
  /-- a binary operator symbol, followed by a space -/
  | op (o : BinOp) (rest) (ho : o ≠ .and ∧ o ≠ .or) : TokOk (tOp o) (32 :: rest)
  /-- identifiers and every word of `builtinIdents` but `literal` and `css` (`null true false not and or`, and the
      command names of a tag): an ASCII letter or `_`, then letters /
      digits / `_` (any Unicode letter or digit, in UTF-8) -/
  | word (c : UInt8) (k : Bytes) (rt : ItemType) (rest) (hc : isIdStart c = true) (hk : alnumBytes k = true)
      (hr : WordEnd rest)
      (hl : (Gen.builtinIdents.lookup (c :: k) = some rt ∧ rt ≠ .tLiteral ∧ rt ≠ .tCss) ∨
            (Gen.builtinIdents.lookup (c :: k) = none ∧ rt = .tIdent)) : TokOk ⟨rt, c :: k⟩ rest
  | dollar (c : UInt8) (k : Bytes) (rest) (hk : alnumBytes (c :: k) = true)
      (hl : ∀ r w, runeAt (c :: k) = some (r, w) → letterR r = true)
      (hr : WordEnd rest) : TokOk ⟨.tDollarIdent, 36 :: c :: k⟩ rest
  /-- `.3` / `.name`: an index begins with an ASCII digit, a name with a letter (of any script) or `_`
      (`$a.` and `.٣` are not names: /repo 8984077) -/
  | dot (c : UInt8) (k : Bytes) (rest) (hk : alnumBytes (c :: k) = true)
      (hl : isDig c = false → ∀ r w, runeAt (c :: k) = some (r, w) → letterR r = true) (hr : WordEnd rest) :
      TokOk ⟨if isDig c then .tDotIndex else .tDotIdent, 46 :: c :: k⟩ rest
  | qdot (c : UInt8) (k : Bytes) (rest) (hk : alnumBytes (c :: k) = true)
      (hl : isDig c = false → ∀ r w, runeAt (c :: k) = some (r, w) → letterR r = true) (hr : WordEnd rest) :
      TokOk ⟨if isDig c then .tQuestionDotIndex else .tQuestionDotIdent, 63 :: 46 :: c :: k⟩ rest
  | num (val : Bytes) (typ : ItemType) (rest) (hs : NumShape val typ) (hr : NumEnd rest) : TokOk ⟨typ, val⟩ rest
  | str (val : Bytes) (rest) (hs : strOk val = true) : TokOk ⟨.tString, val⟩ rest

/-- the first byte of a token: ASCII, none of `{` `\`; `/` only as the operator, a digit only in a number, `-` only as
    an operator or the sign of a number -/
theorem tok_first {t : Tk} {rest : Bytes} (h : TokOk t rest) :
    ∃ c r, t.val = c :: r ∧ c < 128 ∧ c ≠ 123 ∧ c ≠ 92 ∧ (c = 47 → t.typ = .tDiv) ∧
      (isDig c = true → t.typ = .tInteger ∨ t.typ = .tFloat) ∧
      (c = 45 → t.typ = .tNegate ∨ t.typ = .tSub ∨ t.typ = .tInteger ∨ t.typ = .tFloat) := by
  cases h with
  | word c k rt rest hc hk hr hl =>
    have := isIdStart_nat hc
    refine ⟨c, k, rfl, by show c.toNat < 128; omega, ?_, ?_, ?_, fun hd => by have := isDig_nat hd; omega, ?_⟩
    all_goals (intro e; subst e; exact absurd hc (by decide))
  | num val typ rest hs hr =>
    obtain ⟨sg, ds, frac, ex, rfl, hsg, hds, hd, _, _, _, rfl⟩ := hs
    rcases hsg with rfl | rfl
    · cases ds with
      | nil => exact absurd rfl hds
      | cons a b =>
        have ha := hd a (List.mem_cons_self ..)
        have := isDig_nat ha
        refine ⟨a, _, rfl, by show a.toNat < 128; omega, ?_, ?_, ?_, fun _ => by split <;> simp, ?_⟩
        all_goals (intro e; subst e; exact absurd ha (by decide))
    · exact ⟨45, _, rfl, by decide, by decide, by decide, by simp, by simp [isDig], fun _ => by split <;> simp⟩
  | str val rest hs =>
    obtain ⟨q, body, rfl, hq, _⟩ := strOk_parts hs
    rcases hq with rfl | rfl <;> exact ⟨_, _, rfl, by simp [isDig]⟩
  | op o => cases o <;> exact ⟨_, _, rfl, by decide⟩
  | dollar c k => exact ⟨36, _, rfl, by simp [isDig]⟩
  | dot c k => exact ⟨46, _, rfl, by simp [isDig]⟩
  | qdot c k => exact ⟨63, _, rfl, by simp [isDig]⟩
  | _ => exact ⟨_, _, rfl, by decide⟩

/-- the state after the token `t` that started at `p` -/
def After (tg : Int) (inp : Array UInt8) (p : Nat) (w : Int) (its : Array Item) (t : Tk) : Lexer :=
  L tg inp (p + t.val.length) (p + t.val.length) w (itemOf t (p + t.val.length)) (its.push (itemOf t (p + t.val.length)))

theorem run_of_step1 {inp p le its t} (h : Step1 tg inp p le its t) :
    ∀ w n, ∃ w', run (n + 1) .insideTag (L tg inp p p w le its) = run n .insideTag (After tg inp p w' its t) := by
  intro w n
  obtain ⟨w', hw⟩ := h w
  exact ⟨w', run_step hw⟩

theorem run_of_step2 {inp p le its t} (h : Step2 tg inp p le its t) :
    ∀ w n, ∃ w', run (n + 2) .insideTag (L tg inp p p w le its) = run n .insideTag (After tg inp p w' its t) := by
  intro w n
  obtain ⟨w', s1, l1, h1, h2⟩ := h w
  exact ⟨w', (run_step h1).trans (run_step h2)⟩

/-- what `lexNegative` needs of the token sent before a token `t` that begins with `-`: a unary minus and the sign of a
    number stand where `-` is unary, the binary operator where it is not.  No other token looks at its predecessor. -/
def MinusOK (prev : ItemType) (t : Tk) : Prop :=
  t.val.head? = some 45 → Gen.unaryMinusAfter.contains prev = (t.typ != .tSub)

theorem minusOK_of_pair (T : LexTableOK) {prev : ItemType} {t : Tk} {rest : Bytes} (hok : TokOk t rest)
    (h : pairOK prev t.typ = true) : MinusOK prev t := by
  intro h45
  obtain ⟨c, r, hv, _, _, _, _, _, hm⟩ := tok_first hok
  rw [hv] at h45
  cases h45
  rcases hm rfl with e | e | e | e <;> rw [e] at h ⊢
  · rw [T.unaryBefore _ (by simpa [pairOK] using h)]; rfl
  · rw [T.unaryAfter _ (by simpa [pairOK] using h)]; rfl
  · rw [T.unaryBefore _ (by simpa [pairOK] using h)]; rfl
  · rw [T.unaryBefore _ (by simpa [pairOK] using h)]; rfl

/-- one token: at most two transitions, exactly this item -/
theorem tok_step (T : LexTableOK) {inp : Array UInt8} {p : Nat} {t : Tk} {rest : Bytes} {le : Item} {its : Array Item}
    (h : InpAt inp p (t.val ++ rest)) (hok : TokOk t rest) (hprev : MinusOK le.typ t) :
    ∃ k, k ≤ 2 ∧ ∀ w n, ∃ w',
      run (n + k) .insideTag (L tg inp p p w le its) = run n .insideTag (After tg inp p w' its t) := by
  cases hok with
  | lp => exact ⟨1, by omega, run_of_step1 (step_single (s := rest) h .tLeftParen (by simp) T.sym1.1 le its)⟩
  | rp => exact ⟨1, by omega, run_of_step1 (step_single (s := rest) h .tRightParen (by simp) T.sym1.2.1 le its)⟩
  | lb => exact ⟨1, by omega, run_of_step1 (step_bracket (s := rest) h .tLeftBracket (by simp) le its)⟩
  | rb => exact ⟨1, by omega, run_of_step1 (step_bracket (s := rest) h .tRightBracket (by simp) le its)⟩
  | comma => exact ⟨1, by omega, run_of_step1 (step_bracket (s := rest) h .tComma (by simp) le its)⟩
  | colon => exact ⟨1, by omega, run_of_step1 (step_single (s := rest) h .tColon (by simp) T.sym1.2.2.2.2.2.1 le its)⟩
  | pipe => exact ⟨1, by omega, run_of_step1 (step_bracket (s := rest) h .tPipe (by simp) le its)⟩
  | qkey => exact ⟨1, by omega, run_of_step1 (step_qkey (s := rest) h le its)⟩
  | ternif r => exact ⟨1, by omega, run_of_step1 (step_ternif (s := r) h le its)⟩
  | neg _ ha hd => exact ⟨1, by omega, run_of_step1 (step_neg (s := rest) h ha hd le its (hprev rfl))⟩
  | op o r ho =>
    refine ⟨1, by omega, run_of_step1 ?_⟩
    cases o with
    | mul => exact step_single (s := 32 :: r) h .tMul (by simp) T.sym1.2.2.1 le its
    | div => exact step_div T (s := r) h le its
    | mod => exact step_single (s := 32 :: r) h .tMod (by simp) T.sym1.2.2.2.1 le its
    | add => exact step_single (s := 32 :: r) h .tAdd (by simp) T.sym1.2.2.2.2.1 le its
    | sub => exact step_sub (s := 32 :: r) h le its (hprev rfl)
    | eq => exact step_eq (s := 32 :: r) h T.sym2.2.2.2.2.2 le its
    | ne => exact step_cmp2 (s := 32 :: r) h .tNotEq (by simp) T.sym2.2.2.2.2.1 le its
    | gt => exact step_cmp1 (s := r) h .tGt (by simp) T.sym2.2.1 le its
    | ge => exact step_cmp2 (s := 32 :: r) h .tGte (by simp) T.sym2.2.2.2.1 le its
    | lt => exact step_cmp1 (s := r) h .tLt (by simp) T.sym2.1 le its
    | le => exact step_cmp2 (s := 32 :: r) h .tLte (by simp) T.sym2.2.2.1 le its
    | or => exact absurd rfl ho.2
    | and => exact absurd rfl ho.1
    | elvis => exact step_elvis (s := 32 :: r) h le its
  | word c k rt _ hc hk hr hl => exact ⟨2, by omega, run_of_step2 (step_word T h hc hk hr rt hl le its)⟩
  | dollar c k _ hk hl hr => exact ⟨2, by omega, run_of_step2 (step_dollar T h hk hl hr le its)⟩
  | dot c k _ hk hl hr => exact ⟨2, by omega, run_of_step2 (step_dot T h hk hl hr le its)⟩
  | qdot c k _ hk hl hr => exact ⟨2, by omega, run_of_step2 (step_qdot T h hk hl hr le its)⟩
  | num val typ _ hs hr =>
    refine ⟨2, by omega, run_of_step2 (step_number T h hs hr le its fun h45 => ?_)⟩
    rw [hprev h45]
    obtain ⟨sg, ds, frac, ex, _, _, _, _, _, _, _, rfl⟩ := hs
    split <;> rfl
  | str val _ hs => exact ⟨2, by omega, run_of_step2 (step_string h hs le its)⟩

theorem step_space {inp p s} (h : InpAt inp p (32 :: s)) (w le its) :
    step .insideTag (L tg inp p p w le its) = some (some .insideTag, L tg inp (p + 1) (p + 1) 1 le its) := by
  simp only [step, lexInsideTag, next_L h (by decide), Option.bind_eq_bind, Option.bind_some]
  simp [isSpaceEOL, isSpace, ignore_L]

/-- the Error item `lexInsideTag` sends at the end of the input ("unclosed tag", at `tagStart = 0`;
    the model keeps the CLASS of the message in `val`, not its text: `clsTag`) -/
def errItem : Item := { typ := .tError, pos := 0, val := [clsTag] }

theorem errItem_typ : errItem.typ = .tError := rfl

/-- the end of the input: the only step of the walk that goes through an error exit of the lexer —
    `errorfAt l l.tagStart clsTag` with `tagStart = 0` -/
theorem step_eof {inp p} (h : InpAt inp p []) (w le its) :
    ∃ l', step .insideTag (L 0 inp p p w le its) = some (none, l') ∧ l'.items = its.push errItem := by
  refine ⟨{ L 0 inp p p 0 le its with items := its.push errItem }, ?_, rfl⟩
  simp only [step, lexInsideTag, next_eof_L h, Option.bind_eq_bind, Option.bind_some]
  simp [isSpaceEOL, isSpace, isEndOfLine, lexInsideTagMid, lexInsideTagRest, eof, errorfAt, L, errItem]

/-- every token of the piece list, in front of `tail`, is followed by bytes that do not extend it -/
def Adj : List Piece → Bytes → Prop
  | [], _ => True
  | .sp :: r, tail => Adj r tail
  | .tok t :: r, tail => TokOk t (spell r ++ tail) ∧ Adj r tail

theorem adj_append : (a b : List Piece) → (tail : Bytes) → (Adj (a ++ b) tail ↔ Adj a (spell b ++ tail) ∧ Adj b tail)
  | [], b, tail => by simp [Adj]
  | .sp :: r, b, tail => by simp only [List.cons_append, Adj]; exact adj_append r b tail
  | .tok t :: r, b, tail => by
    simp only [List.cons_append, Adj, spell_append, List.append_assoc]
    rw [adj_append r b tail]
    exact and_assoc.symm

/-- `tok_first` for the text of a piece list that begins with the token `t` -/
theorem adj_first {ps : List Piece} {t : Tk} {tail : Bytes} (h : Adj ps tail) (hh : ps.head? = some (.tok t)) :
    ∃ c s, spell ps = c :: s ∧ c < 128 ∧ c ≠ 123 ∧ c ≠ 92 ∧ (c = 47 → t.typ = .tDiv) ∧
      (isDig c = true → t.typ = .tInteger ∨ t.typ = .tFloat) := by
  cases ps with
  | nil => cases hh
  | cons x r =>
    cases hh
    obtain ⟨c, s, hv, h1, h2, h3, h4, h5, _⟩ := tok_first h.1
    exact ⟨c, s ++ spell r, by simp [spell, hv], h1, h2, h3, h4, h5⟩

/-- the items the lexer sends for the piece list that starts at offset `p`: each token with its
    text and END offset (`item.pos` of lexer.go), then the Error item of the end of input -/
def emitAll : Nat → List Piece → List Item
  | _, [] => [errItem]
  | p, .sp :: r => emitAll (p + 1) r
  | p, .tok t :: r => itemOf t (p + t.val.length) :: emitAll (p + t.val.length) r

end SoyVerif.Lemmas.LexPrint

namespace SoyVerif.Props.C17c
open SoyVerif SoyVerif.Model SoyVerif.Model.PrintTokens SoyVerif.Lemmas.LexPrint

/-- the items of a piece list that starts at offset `p` (each with its END offset) -/
def emitT : Nat → List Piece → List Item
  | _, [] => []
  | p, .sp :: r => emitT (p + 1) r
  | p, .tok t :: r => itemOf t (p + t.val.length) :: emitT (p + t.val.length) r

theorem emitT_tk : (p : Nat) → (ps : List Piece) → (emitT p ps).map Item.tk = unsp ps
  | _, [] => rfl
  | p, .sp :: r => by simp only [emitT, unsp]; exact emitT_tk (p + 1) r
  | p, .tok t :: r => by
    simp only [emitT, unsp, List.map_cons, emitT_tk (p + t.val.length) r]
    rfl

end SoyVerif.Props.C17c

namespace SoyVerif.Lemmas.LexPrint
open SoyVerif SoyVerif.Model SoyVerif.Model.Lex SoyVerif.Model.PrintTokens
open SoyVerif.Lemmas.ParserAdj SoyVerif.Lemmas.ParserToks SoyVerif.Props.C17c

variable {tg : Int}

theorem emitAll_eq : ∀ (p : Nat) (ps : List Piece), emitAll p ps = emitT p ps ++ [errItem]
  | _, [] => rfl
  | p, .sp :: r => emitAll_eq (p + 1) r
  | p, .tok t :: r => by simp only [emitAll, emitT, emitAll_eq (p + t.val.length) r, List.cons_append]

theorem emitAll_tk (p : Nat) (ps : List Piece) : (emitAll p ps).map Item.tk = unsp ps ++ [errItem.tk] := by
  rw [emitAll_eq, List.map_append, emitT_tk]
  rfl

/-- every `-` of the token list stands behind a token that makes `lexNegative` read it as meant.  `pieces_run` does not
    say which item was sent last, so two of its runs are not put together: a piece list is run as a whole (`adj_append`
    splits its `Adj`). -/
def Chain : ItemType → List Tk → Prop
  | _, [] => True
  | x, t :: r => MinusOK x t ∧ Chain t.typ r

/-- from the check on token types the printer's lists pass; `Adj` says which spelling a type has (`MinusOK` asks for the
    first byte) -/
theorem chain_of_chainOK (T : LexTableOK) : ∀ (ps : List Piece) (tail : Bytes) (x : ItemType), Adj ps tail →
    chainOK x (typs (unsp ps)) = true → Chain x (unsp ps)
  | [], _, _, _, _ => trivial
  | .sp :: r, tail, x, ha, hc => chain_of_chainOK T r tail x ha hc
  | .tok t :: r, tail, x, ha, hc => by
    have hc' : pairOK x t.typ = true ∧ chainOK t.typ (typs (unsp r)) = true := by
      simpa [unsp, typs, chainOK] using hc
    exact ⟨minusOK_of_pair T ha.1 hc'.1, chain_of_chainOK T r tail t.typ ha.2 hc'.2⟩

section
variable (T : LexTableOK)
include T

/-- `lexInsideTag` over a piece list followed by `tail`, in the tag that began at `tg`: the items of the pieces, and the
    machine stands in front of `tail` -/
theorem pieces_run {inp : Array UInt8} (tail : Bytes) : ∀ (ps : List Piece) (p : Nat) (le : Item) (its : Array Item),
    InpAt inp p (spell ps ++ tail) → Adj ps tail → Chain le.typ (unsp ps) →
    ∃ k, k ≤ 2 * ps.length ∧ ∀ (w : Int) (n : Nat), ∃ w' le' its',
      run (n + k) .insideTag (L tg inp p p w le its) =
        run n .insideTag (L tg inp (p + (spell ps).length) (p + (spell ps).length) w' le' its') ∧
      its'.toList = its.toList ++ emitT p ps
  | [], p, le, its, h, _, _ => ⟨0, by simp, fun w n => ⟨w, le, its, by simp [spell], by simp [emitT]⟩⟩
  | .sp :: r, p, le, its, h, ha, hc => by
    have h' : InpAt inp p (32 :: (spell r ++ tail)) := by simpa [spell] using h
    obtain ⟨k, hk, hrun⟩ := pieces_run tail r (p + 1) le its (inpAt_tail h') ha hc
    refine ⟨k + 1, by simp; omega, fun w n => ?_⟩
    obtain ⟨w', le', its', h1, h2⟩ := hrun 1 n
    refine ⟨w', le', its', ?_, by simpa [emitT] using h2⟩
    rw [show n + (k + 1) = (n + k) + 1 by omega, run_step (step_space h' w le its), h1]
    simp [spell, Nat.add_assoc, Nat.add_comm 1]
  | .tok t :: r, p, le, its, h, ha, hc => by
    have h' : InpAt inp p (t.val ++ (spell r ++ tail)) := by simpa [spell] using h
    obtain ⟨k0, hk2, hrun0⟩ := tok_step (tg := tg) T h' ha.1 hc.1 (le := le) (its := its)
    obtain ⟨k, hk, hrun⟩ := pieces_run tail r (p + t.val.length) (itemOf t (p + t.val.length))
      (its.push (itemOf t (p + t.val.length))) (inpAt_append h') ha.2 hc.2
    refine ⟨k + k0, by simp; omega, fun w n => ?_⟩
    obtain ⟨w1, hw1⟩ := hrun0 w (n + k)
    obtain ⟨w', le', its', h1, h3⟩ := hrun w1 n
    refine ⟨w', le', its', ?_, by simpa [emitT] using h3⟩
    rw [show n + (k + k0) = (n + k) + k0 by omega, hw1]
    unfold After
    rw [h1]
    simp [spell, Nat.add_assoc]

/-- an expression on its own: behind the last token the input ends inside the "tag" -/
theorem lex_pieces {inp : Array UInt8} (ps : List Piece) (p : Nat) (w : Int) (le : Item) (its : Array Item) (F : Nat)
    (h : InpAt inp p (spell ps)) (ha : Adj ps []) (hc : chainOK le.typ (typs (unsp ps)) = true) (hF : 2 * ps.length + 1 ≤ F) :
    run F .insideTag (L 0 inp p p w le its) = .items (its.toList ++ emitAll p ps) := by
  obtain ⟨k, hk, hrun⟩ := pieces_run (tg := 0) T [] ps p le its (by simpa using h) ha (chain_of_chainOK T ps [] _ ha hc)
  obtain ⟨w', le', its', h1, h2⟩ := hrun w (F - k - 1 + 1)
  obtain ⟨l', hs, hi⟩ := step_eof (inp := inp) (p := p + (spell ps).length)
    (by have := inpAt_append (s := []) (by simpa using h); simpa using this) w' le' its'
  rw [show F = F - k - 1 + 1 + k by omega, h1, run_stop hs, hi, emitAll_eq]
  simp [h2]

end

/-- every piece spells at least one byte: the fuel of `lexAll` (7 per byte + 8) covers the two
    transitions a token needs -/
theorem adj_length : (ps : List Piece) → (tail : Bytes) → Adj ps tail → ps.length ≤ (spell ps).length
  | [], _, _ => Nat.le_refl _
  | .sp :: r, tail, h => by
    have := adj_length r tail h
    simp only [List.length_cons, spell]; omega
  | .tok t :: r, tail, h => by
    have := adj_length r tail h.2
    obtain ⟨c, s, hv, _⟩ := tok_first h.1
    have : 0 < t.val.length := by simp [hv]
    simp only [List.length_cons, spell, List.length_append]; omega

/-- `lexExpr` (`lexAll … true`) on the spelling of a piece list: its tokens in order, then the Error item "unclosed tag" -/
theorem lexAll_pieces (T : LexTableOK) (ps : List Piece) (ha : Adj ps [])
    (hc : chainOK .tInvalid (typs (unsp ps)) = true) :
    lexAll (spell ps) true = .items (emitAll 0 ps) := by
  unfold lexAll
  rw [initLexer_eq]
  have hl := adj_length ps [] ha
  have := lex_pieces T (inp := (spell ps).toArray) ps 0 0 Item.zero #[] (fuelFor (spell ps).length)
    (inpAt_zero _) ha hc (by unfold fuelFor; omega)
  simpa using this

end SoyVerif.Lemmas.LexPrint
