/-
  Resolution: the function `Spec.resolve` computes the relation `Spec.Resolves`; the leaves of the checker's walk
  in terms of it and of the specification's rules: `markUsed` / `visitKey`, `checkLet`, `isLoopVar` /
  `checkLoopFunc`, `checkCall`.
-/
import SoyVerif.Lemmas.CheckState

namespace SoyVerif.Lemmas.Check
open SoyVerif SoyVerif.Model SoyVerif.Model.Check SoyVerif.Spec

theorem lastIndex_eq_none {k : Bytes} {env : Env} : lastIndex k env = none ↔ ∀ b ∈ env, b.name ≠ k := by
  induction env with
  | nil => simp [lastIndex]
  | cons b r ih =>
    simp only [lastIndex]
    cases h : lastIndex k r with
    | some i =>
      simp only [reduceCtorEq, false_iff]
      intro hall
      exact absurd (ih.mpr fun b' hb' => hall b' (List.mem_cons_of_mem _ hb')) (by simp [h])
    | none =>
      have := ih.mp h
      by_cases hb : b.name = k
      · simp [hb]
      · simpa [hb] using this

theorem lastIndex_eq_some {k : Bytes} {env : Env} {i : Nat} (h : lastIndex k env = some i) :
    (∃ b, env[i]? = some b ∧ b.name = k) ∧ ∀ j b', i < j → env[j]? = some b' → b'.name ≠ k := by
  induction env generalizing i with
  | nil => simp [lastIndex] at h
  | cons b r ih =>
    simp only [lastIndex] at h
    cases hr : lastIndex k r with
    | some i' =>
      simp only [hr, Option.some.injEq] at h
      subst h
      obtain ⟨h1, h2⟩ := ih hr
      refine ⟨by simpa using h1, ?_⟩
      intro j b' hj hb'
      cases j with
      | zero => omega
      | succ j => exact h2 j b' (by omega) (by simpa using hb')
    | none =>
      simp only [hr] at h
      by_cases hb : b.name = k
      · simp only [hb, if_true, Option.some.injEq] at h
        subst h
        refine ⟨⟨b, by simp, hb⟩, ?_⟩
        intro j b' hj hb'
        cases j with
        | zero => omega
        | succ j =>
          simp only [List.getElem?_cons_succ] at hb'
          exact lastIndex_eq_none.mp hr b' (List.mem_of_getElem? hb')
      · simp [hb] at h

theorem lastIndex_lt {k : Bytes} {env : Env} {i : Nat} (h : lastIndex k env = some i) : i < env.length := by
  obtain ⟨⟨b, hb, _⟩, _⟩ := lastIndex_eq_some h
  exact (List.getElem?_eq_some_iff.mp hb).1

theorem resolve_eq_some_iff {params : List Bytes} {env : Env} {k : Bytes} {t : Target} :
    resolve params env k = some t ↔ Resolves params env k t := by
  constructor
  · intro h
    unfold resolve at h
    by_cases hij : k = ijName
    · simp only [hij, if_true, Option.some.injEq] at h
      subst h
      exact .ij hij
    · simp only [hij, if_false] at h
      cases hl : lastIndex k env with
      | some i =>
        simp only [hl, Option.some.injEq] at h
        subst h
        obtain ⟨⟨b, hb, hn⟩, hlast⟩ := lastIndex_eq_some hl
        exact .var i b hij hb hn hlast
      | none =>
        simp only [hl] at h
        by_cases hp : k ∈ params
        · simp only [hp, if_true, Option.some.injEq] at h
          subst h
          exact .param hij (lastIndex_eq_none.mp hl) hp
        · simp [hp] at h
  · intro h
    cases h with
    | ij hij => simp [resolve, hij]
    | var i b hij hb hn hlast =>
      simp only [resolve, hij, if_false]
      cases hl : lastIndex k env with
      | none => exact absurd hn (lastIndex_eq_none.mp hl b (List.mem_of_getElem? hb))
      | some i' =>
        obtain ⟨⟨b', hb', hn'⟩, hlast'⟩ := lastIndex_eq_some hl
        have : i' = i := by
          rcases Nat.lt_trichotomy i' i with hlt | heq | hgt
          · exact absurd hn (hlast' i b hlt hb)
          · exact heq
          · exact absurd hn' (hlast i' b' hgt hb')
        simp [this]
    | param hij hnone hp =>
      simp [resolve, hij, lastIndex_eq_none.mpr hnone, hp]

theorem resolve_isSome_iff {params : List Bytes} {env : Env} {k : Bytes} :
    (resolve params env k).isSome ↔ RefBound params env k := by
  simp only [RefBound, ← resolve_eq_some_iff, Option.isSome_iff_exists]

theorem resolve_below {params : List Bytes} {env : Env} {k : Bytes} {t : Target}
    (h : resolve params env k = some t) : t.below env.length = true := by
  unfold resolve at h
  split at h
  · cases h; rfl
  · split at h
    · rename_i i hl
      cases h
      simp [Target.below, lastIndex_lt hl]
    · split at h
      · cases h; rfl
      · cases h

/-- flipped, to read `st' = …` as `Framed` does -/
theorem some_eq_some_comm (a b : CState) : some a = some b ↔ b = a := by
  rw [Option.some.injEq]; exact eq_comm

theorem markAll_var_succ (i : Nat) (v : Check.Binding) (rest : List Check.Binding) :
    markAll [.var (i + 1)] (v :: rest) = v :: markAll [.var i] rest := by
  simp only [markAll, List.mapIdx_cons]
  congr 1
  · simp
  · rw [List.mapIdx_eq_mapIdx_iff]
    intro j _
    simp

theorem markAll_var_zero (v : Check.Binding) (rest : List Check.Binding) :
    markAll [.var 0] (v :: rest) = { v with used := true } :: rest := by
  simp only [markAll, List.mapIdx_cons]
  congr 1
  · simp
  · conv => rhs; rw [← markAll_nil rest]
    simp only [markAll]
    rw [List.mapIdx_eq_mapIdx_iff]
    intro j _
    simp

theorem markUsed_eq (key : Bytes) (vs : List Check.Binding) :
    markUsed key vs = (lastIndex key (envOf vs)).map fun i => markAll [.var i] vs := by
  induction vs with
  | nil => rfl
  | cons v rest ih =>
    simp only [markUsed, envOf, List.map_cons, lastIndex]
    simp only [envOf] at ih
    rw [ih]
    cases lastIndex key (List.map (fun v => ({ name := v.name, isLet := v.isLet } : Spec.Binding)) rest) with
    | some i => simp [markAll_var_succ]
    | none =>
      by_cases hv : v.name = key <;> simp [hv, markAll_var_zero]

@[simp] theorem after_ij (st : CState) : after st [] [Target.ij] = st := by
  have hk : keysOf [Target.ij] = [] := rfl
  simp [after, markAll_no_var, hk]

@[simp] theorem after_var (st : CState) (i : Nat) :
    after st [] [Target.var i] = { st with vars := markAll [Target.var i] st.vars } := by
  have hk : keysOf [Target.var i] = [] := rfl
  simp [after, hk]

@[simp] theorem after_param (st : CState) (k : Bytes) :
    after st [] [Target.param k] = { st with usedKeys := st.usedKeys ++ [k] } := by
  simp [after, markAll_no_var, keysOf, keyOf]

theorem Framed.visitKey (params : List Bytes) (k : Bytes) :
    Framed (visitKey params k) (fun env => KeysBound params env [k]) (fun env => refsKeys params env [k]) [] := by
  intro st st'
  have hb : KeysBound params (envOf st.vars) [k] ↔ (resolve params (envOf st.vars) k).isSome := by
    simp [KeysBound, resolve_isSome_iff]
  show _ ↔ KeysBound params (envOf st.vars) [k] ∧ st' = after st [] (refsKeys params (envOf st.vars) [k])
  rw [hb]
  simp only [Check.visitKey, refsKeys, List.filterMap_cons, List.filterMap_nil]
  by_cases hij : k = ijName
  · have : (k == [105, 106]) = true := by simp [hij, ijName]
    simp only [this, if_true, exec_pure, some_eq_some_comm]
    simp [resolve, hij]
  · have : (k == [105, 106]) = false := by simpa [ijName] using hij
    simp only [this, Bool.false_eq_true, if_false, exec_get_bind, markUsed_eq, resolve, hij]
    cases hl : lastIndex k (envOf st.vars) with
    | some i =>
      simp only [Option.map_some, exec_set, some_eq_some_comm]
      simp
    | none =>
      by_cases hp : k ∈ params
      · have hc : params.contains k = true := by simpa using hp
        simp only [Option.map_none, hc, if_true, exec_set, some_eq_some_comm, hp]
        simp
      · have hc : params.contains k = false := by simpa using hp
        simp [hp, exec_reject]

theorem Framed.checkLet (name : Bytes) :
    Framed (checkLet name) (fun _ => LetNameOk name) (fun _ => []) [] := by
  intro st st'
  show _ ↔ name ≠ [105, 106] ∧ st' = after st [] []
  simp only [Check.checkLet, after_nil]
  by_cases h : name = [105, 106]
  · have : (name == [105, 106]) = true := by simpa using h
    rw [this]
    simp [h, exec_reject]
  · have : (name == [105, 106]) = false := by simpa using h
    rw [this]
    simp only [Bool.false_eq_true, if_false, exec_pure, some_eq_some_comm]
    simp [h]

theorem isLoopVar_iff (vs : List Check.Binding) (k : Bytes) :
    isLoopVar vs k = true ↔ ∃ b ∈ envOf vs, b.name = k ∧ b.isLet = false := by
  simp only [isLoopVar, envOf, List.any_eq_true, Bool.and_eq_true, beq_iff_eq, Bool.not_eq_true',
    List.mem_map]
  constructor
  · rintro ⟨v, hv, h1, h2⟩
    exact ⟨_, ⟨v, hv, rfl⟩, h1, h2⟩
  · rintro ⟨b, ⟨v, hv, rfl⟩, h1, h2⟩
    exact ⟨v, hv, h1, h2⟩

/-- (`name`: the function's name as `Spec.exprLoops` records it; `LoopArgOk` does not look at it) -/
theorem Framed.checkLoopFunc (name : Bytes) (args : ExprList) :
    Framed (checkLoopFunc args) (fun env => LoopArgOk env (name, args)) (fun _ => []) [] := by
  intro st st'
  show _ ↔ LoopArgOk (envOf st.vars) (name, args) ∧ st' = after st [] []
  simp only [Check.checkLoopFunc, after_nil, LoopArgOk]
  cases loopArg args with
  | none => simp [exec_reject]
  | some key =>
    simp only [exec_get_bind]
    by_cases hv : isLoopVar st.vars key = true
    · have hx := (isLoopVar_iff st.vars key).mp hv
      simp only [hv, if_true, exec_pure, some_eq_some_comm]
      exact ⟨fun h => ⟨⟨key, rfl, hx⟩, h⟩, fun h => h.2⟩
    · have hx := mt (isLoopVar_iff st.vars key).mpr hv
      simp only [hv, Bool.false_eq_true, if_false, exec_reject]
      constructor
      · intro h; cases h
      · rintro ⟨⟨x, hx1, hx2⟩, _⟩
        cases hx1
        exact absurd hx2 hx

theorem find_callee (reg : List Check.Template) (name : Bytes) :
    reg.find? (fun t => t.name == name) = callee reg name := by
  simp only [callee]
  congr 1
  funext t
  rw [Bool.eq_iff_iff]
  simp

theorem keysOf_map_param (ks : List Bytes) : keysOf (ks.map Target.param) = ks := by
  induction ks with
  | nil => rfl
  | cons k r ih => simpa [keysOf, keyOf] using ih

theorem markAll_map_param (ks : List Bytes) (vs : List Check.Binding) :
    markAll (ks.map Target.param) vs = vs := markAll_no_var (by simp) vs

theorem after_map_param (st : CState) (ks : List Bytes) :
    after st [] (ks.map Target.param) = { st with usedKeys := st.usedKeys ++ ks } := by
  simp [after, markAll_map_param, keysOf_map_param]

theorem any_not_contains (l m : List Bytes) :
    l.any (fun k => !m.contains k) = true ↔ ¬ ∀ k ∈ l, k ∈ m := by
  rw [List.any_eq_true]
  simp

theorem Framed.checkCall (reg : List Check.Template) (params : List Bytes) (name : Bytes)
    (allData hasData : Bool) (keys : List Bytes) :
    Framed (checkCall reg params name allData hasData keys)
      (fun _ => CallOk reg params name allData hasData keys)
      (fun _ => (passedByAll reg params name allData).map Target.param) [] := by
  intro st st'
  show _ ↔ CallOk reg params name allData hasData keys ∧ st' = after st [] _
  simp only [Check.checkCall, find_callee, CallOk, after_map_param]
  cases hc : callee reg name with
  | none => simp [exec_reject]
  | some c =>
    have hpass : (if allData = true then params.filter (fun p => (c.params.map (·.name)).contains p) else [])
        = passedByAll reg params name allData := by
      cases allData <;> simp [passedByAll, hc]
    simp only [hpass, exec_bind, exec_modify, Option.bind_some, Option.some.injEq, exists_eq_left']
    have hsub : ∀ k ∈ passedByAll reg params name allData, k ∈ c.params.map (·.name) := by
      intro k hk
      cases allData
      · simp [passedByAll] at hk
      · simp only [passedByAll, hc, List.mem_filter] at hk
        simpa using hk.2
    have hA : (∀ k ∈ passedByAll reg params name allData ++ keys, k ∈ c.params.map (·.name))
        ↔ ∀ k ∈ keys, k ∈ c.params.map (·.name) := by
      constructor
      · intro h k hk
        exact h k (List.mem_append_right _ hk)
      · intro h k hk
        rcases List.mem_append.mp hk with hk | hk
        · exact hsub k hk
        · exact h k hk
    have hB : (∀ r ∈ (c.params.filter (fun p => !p.optional)).map (·.name),
          r ∈ passedByAll reg params name allData ++ keys)
        ↔ ∀ p ∈ c.params, p.optional = false → p.name ∈ passedByAll reg params name allData ++ keys := by
      constructor
      · intro h p hp hopt
        exact h _ (List.mem_map.mpr ⟨p, List.mem_filter.mpr ⟨hp, by simp [hopt]⟩, rfl⟩)
      · intro h r hr
        obtain ⟨p, hp, rfl⟩ := List.mem_map.mp hr
        rw [List.mem_filter] at hp
        exact h p hp.1 (by simpa using hp.2)
    simp only [any_not_contains, hA, hB]
    by_cases h1 : ∀ k ∈ keys, k ∈ c.params.map (·.name)
    · rw [if_neg (not_not_intro h1)]
      simp only [iff_true_intro h1, true_and]
      cases hasData with
      | true => simp only [if_true, exec_pure, some_eq_some_comm, Bool.true_eq_false, false_implies, true_and]
      | false =>
        simp only [Bool.false_eq_true, if_false, true_implies]
        by_cases h2 : ∀ p ∈ c.params, p.optional = false →
            p.name ∈ passedByAll reg params name allData ++ keys
        · rw [if_neg (not_not_intro h2)]
          simp only [iff_true_intro h2, exec_pure, some_eq_some_comm, true_and]
        · rw [if_pos h2]
          simp only [iff_false_intro h2, exec_reject, false_and, reduceCtorEq]
    · rw [if_pos h1]
      simp only [iff_false_intro h1, exec_reject, false_and, reduceCtorEq]

end SoyVerif.Lemmas.Check
