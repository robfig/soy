/-
  The file parser's side of the program logic: `FSafe`, the judgement `Safe` (Lemmas/ParserSafe.lean) with the errors
  of the file parser (`fsafe_iff`), and the rules of `Tri` (Lemmas/ParserTri.lean) that exist only at the host `fHost` —
  the fields of `FileSpecs` as judgements and back, `rawtext`, `errorfAt`, and the two calls of the expression parser,
  `parseExpr0` and `parseQuotedExpr` (for which `lex_wf` stands here, in front of the walks).
-/
import SoyVerif.Lemmas.ParserExprSafe
import SoyVerif.Props.C15
import SoyVerif.Props.C05

namespace SoyVerif.Props.C05
open SoyVerif SoyVerif.Model SoyVerif.Lemmas.ParserSafe

theorem wf_of_itemOK {it : Item} (h : Lex.itemOK it = true) : WFItem it := by
  simp only [Lex.itemOK, Lex.sliced1, Lex.sliced2, Bool.and_eq_true, Bool.or_eq_true, Bool.not_eq_true',
    decide_eq_true_eq] at h
  replace h := h.1
  constructor
  · intro ht hv
    rcases h.1 with h1 | h1
    · rcases ht with ht | ht | ht <;> simp [ht] at h1
    · rw [hv] at h1; simp at h1
  · intro ht
    rcases h.2 with h2 | h2
    · rcases ht with ht | ht <;> simp [ht] at h2
    · exact h2

/-- every token the lexer model sends is long enough for the slices the parser takes of it -/
theorem lex_wf (input : Bytes) (exprMode : Bool) (is : List Item)
    (h : Lex.lexAll input exprMode = .items is) : ∀ it ∈ is, WFItem it := by
  obtain ⟨⟨e, hlast, hty⟩, _, hok, _⟩ := lexAll_items h
  intro it hit
  rcases mem_dropLast_or_getLast is it hit with h1 | h1
  · exact wf_of_itemOK (hok it h1).1
  · rw [hlast] at h1
    simp only [Option.some.injEq] at h1
    subst h1
    constructor <;> intro ht <;> rcases hty with h | h <;> simp [h] at ht

end SoyVerif.Props.C05

namespace SoyVerif.Lemmas.ParserSafe
open SoyVerif SoyVerif.Model SoyVerif.Model.Parser SoyVerif.Model.FileParser

def FSafe {α : Type} (AP : Prop) (EL : Lvl) (S : Item → Prop) (x : FP α) (st : FState) (Q : α → FState → Prop) : Prop :=
  match x st with
  | .ok (a, st') => Q a st'
  | .error (.err p) => ErrOK EL S p
  | .error .panic => AP
  | .error .fuelOut => False

theorem fsafe_iff {α : Type} {S : Item → Prop} {x : FP α} {st : FState} {Q : α → FState → Prop} :
    FSafe AP EL S x st Q ↔ Safe (ferr AP EL S) x st Q := by
  unfold FSafe Safe
  cases x st with
  | ok r => exact Iff.rfl
  | error e => cases e <;> exact Iff.rfl

theorem FSafe.bind {α β : Type} {S : Item → Prop} {x : FP α} {f : α → FP β} {st : FState}
    {Q : β → FState → Prop} (h : FSafe AP EL S x st (fun a st' => FSafe AP EL S (f a) st' Q)) :
    FSafe AP EL S (x >>= f) st Q :=
  fsafe_iff.mpr (Safe.bind ((fsafe_iff.mp h).mono fun _ _ => fsafe_iff.mp))

theorem FSafe.pure {α : Type} {S : Item → Prop} {a : α} {st : FState} {Q : α → FState → Prop}
    (h : Q a st) : FSafe AP EL S (pure a : FP α) st Q := h

theorem FSafe.mono {α : Type} {S : Item → Prop} {x : FP α} {st : FState} {Q Q' : α → FState → Prop}
    (h : FSafe AP EL S x st Q) (hq : ∀ a st', Q a st' → Q' a st') : FSafe AP EL S x st Q' :=
  fsafe_iff.mpr ((fsafe_iff.mp h).mono hq)

theorem FSafe.ite {α : Type} {S : Item → Prop} {c : Prop} [Decidable c] {a b : FP α} {st : FState}
    {Q : α → FState → Prop} (ht : c → FSafe AP EL S a st Q) (hf : ¬c → FSafe AP EL S b st Q) :
    FSafe AP EL S (if c then a else b) st Q := by
  split
  · exact ht ‹_›
  · exact hf ‹_›

theorem FSafe.panic {α : Type} {AP : Prop} {S : Item → Prop} {st : FState} {Q : α → FState → Prop} (h : AP) :
    FSafe AP EL S (ffail FErr.panic : FP α) st Q := h

/-- a token-level action in the file parser; the post may speak of the whole state (`fHost.safe`: of the token state) -/
theorem FSafe.lift {α : Type} {S : Item → Prop} {x : P α} {st : FState} {Q : α → FState → Prop}
    (h : PSafe AP EL S x st.p (fun a p' => Q a { st with p := p' })) : FSafe AP EL S (liftP x) st Q := by
  unfold PSafe at h
  unfold FSafe liftP
  cases hx : x st.p with
  | error e => rw [hx] at h; cases e <;> exact h
  | ok r => rw [hx] at h; exact h

section
variable {AP : Prop} {EL : Lvl} {S : Item → Prop} {N F : Nat} {α β : Type} {c d : Nat} {m : Mode}
variable {x : FP α} {f : α → FP β} {Q : α → Mode → Prop} {R : β → Mode → Prop} {A : α → Prop}

/-- the judgement at a state, in the continuation form of the rules of `FSafe`: for the proofs that leave it -/
theorem Tri.run {st : FState} {Q' : α → FState → Prop} (h : Tri (fHost AP EL S) N F c m x d Q) (hok : m.ok EL S st.p)
    (hn : m.mu st.p ≤ N) (hF : 8 * m.mu st.p + c ≤ F)
    (hq : ∀ a st' m', Q a m' → m'.ok EL S st'.p → m'.mu st'.p + d ≤ m.mu st.p → Q' a st') : FSafe AP EL S x st Q' :=
  fsafe_iff.mpr ((h st hok hn hF).mono fun a st' ⟨m', h1, h2, h3⟩ => hq a st' m' h1 h2 h3)

/-- a specification in the form of the fields of `FileSpecs` (start and end between two tokens) -/
theorem Tri.of_field
    (h : ∀ st, Inv EL S st.p → ParserSafe.mu st.p ≤ N → 8 * ParserSafe.mu st.p + c ≤ F →
      FSafe AP EL S x st fun r st' => A r ∧ Inv EL S st'.p ∧ ParserSafe.mu st'.p ≤ ParserSafe.mu st.p) :
    Tri (fHost AP EL S) N F c .b x 0 (B A) :=
  fun st hok hn hF => (fsafe_iff.mp (h st hok hn hF)).mono fun _ _ ⟨ha, hi, hm⟩ => ⟨.b, ⟨rfl, ha⟩, hi, hm⟩

theorem Tri.field (h : Tri (fHost AP EL S) N F c .b x 0 (B A)) (st : FState) (hi : Inv EL S st.p)
    (hn : ParserSafe.mu st.p ≤ N) (hF : 8 * ParserSafe.mu st.p + c ≤ F) :
    FSafe AP EL S x st fun r st' => A r ∧ Inv EL S st'.p ∧ ParserSafe.mu st'.p ≤ ParserSafe.mu st.p :=
  h.run hi hn hF fun r st' m' ⟨hm, ha⟩ hok hmu => by subst hm; exact ⟨ha, hok, hmu⟩

/-- `rawtext` never indexes out of range (Props/C15 `rawtext_no_panic`) -/
theorem Tri.rawtext_then {s : Bytes} {tb ta : Bool} {f : Bytes → FP β} (hf : ∀ r, Tri (fHost AP EL S) N F c m (f r) d R) :
    Tri (fHost AP EL S) N F c m (rawtextP s tb ta >>= f) d R := by
  intro st hok hn hF
  apply Safe.bind
  unfold rawtextP
  split
  · exact hf _ st hok hn hF
  · rename_i hnone
    have := Props.C15.rawtext_no_panic s tb ta
    rw [hnone] at this
    simp at this

/-- `t.errorfAt(pos, …)`: `Safe` of an action that fails with `err pos` unfolds to `ErrOK EL S pos`, i.e. `VPos` -/
theorem Tri.errorfAt {pos : Nat} (hp : VPos EL S pos) : Tri (fHost AP EL S) N F c m (FileParser.errorfAt pos : FP α) d Q :=
  fun _ _ _ _ => hp

variable (hz : S Item.zero) {pf : Bytes → Option UInt64} {ef : Nat} (hN : 8 * N + 10 ≤ ef)
variable (hwf : ∀ it, S it → AP ∨ WFItem it)

include hz hN hwf in
/-- `t.parseExpr(0)` inside the file parser: at least one token is accepted -/
theorem Tri.parseExpr0 : Tri (fHost AP EL S) N F 0 .b (parseExpr0 pf ef) 1 (B (EP S)) := by
  intro st hok hn _
  have hn : ParserSafe.mu st.p ≤ N := hn
  unfold FileParser.parseExpr0
  apply ((fHost AP EL S).safe ((exprSpecs_all pf AP EL S hz hwf ef).parseExpr 0 st.p hok (by omega))).mono
  intro e p' ⟨hi, hm, he⟩
  exact ⟨.b, ⟨rfl, he⟩, hi, hm⟩

/-- `parseQuotedExpr(str)` leaves the enclosing parser where it is.  The nested `parse.Expr` on the tokens `is` of `str`
    is a run of its own: `exprSpecs_all` at `S := membership in is`, level `⟨False, False⟩`, says it neither panics
    without `AP` (`lex_wf`) nor runs out of fuel.  The enclosing parser sees the tree moved to its own current position
    (`errPos_ok`, `EP_reposition`), or `errorf` at that position whatever the nested error's (`errorf_safe`). -/
theorem Tri.parseQuotedExpr (str : Bytes) : Tri (fHost AP EL S) N F 0 .b (parseQuotedExpr pf str) 0 (B (EP S)) := by
  intro st hok _ _
  have hi : Inv EL S st.p := hok
  unfold Safe FileParser.parseQuotedExpr
  obtain ⟨is, hl, _⟩ := Props.C05.lex_items str true
  rw [hl]
  have hwf' : ∀ it, (it ∈ is ∨ it = Item.zero) → AP ∨ WFItem it := by
    intro it h
    rcases h with h | h
    · exact Or.inr (Props.C05.lex_wf str true is hl it h)
    · subst h; exact Or.inr wf_zero
  have hspec := (exprSpecs_all pf AP ⟨False, False⟩ (fun it => it ∈ is ∨ it = Item.zero) (Or.inr rfl) hwf'
    (Parser.fuelFor is.length)).parseExpr 0
    (initState is) ((inv_init _ is (Or.inr rfl) (fun x hx => Or.inl hx) (fun h => absurd h id) (fun h => absurd h id)).crude id)
    (by have := mu_init is; unfold Parser.fuelFor; omega)
  unfold PSafe at hspec
  simp only [StateT.run]
  cases hx : Parser.parseExpr pf (Parser.fuelFor is.length) 0 (initState is) with
  | ok r =>
    obtain ⟨e, s'⟩ := r
    obtain ⟨p, hp, hpo⟩ := errPos_ok (S := S) hi.pc hi.toks
    simp only [hp]
    exact ⟨.b, ⟨rfl, EP_reposition hpo e⟩, hok, Nat.le_refl _⟩
  | error e =>
    rw [hx] at hspec
    cases e with
    | err p =>
      have := (Tri.errorf (Hs := fHost AP EL S) (α := Expr) (N := Mode.b.mu st.p) (F := 8 * Mode.b.mu st.p) (c := 0)
        (m := .b) (d := 0) (Q := B (EP S))) st hok (Nat.le_refl _) (Nat.le_refl _)
      unfold Safe at this
      exact this
    | panic => exact hspec
    | fuelOut => exact hspec

end
end SoyVerif.Lemmas.ParserSafe
