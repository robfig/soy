/-
  Round-trip steps for the primaries with structure: data references (all access forms),
  globals with dotted names, function calls, list literals and map literals
  (continuation of Lemmas/ParserRound.lean, in its namespace).

  * `slot0`: an expression at level 0 in front of a terminator (`isTerm`), the form in which every collection reads
    its members; `AccA`, `AllAcc`, `AllA`, `AllM`: `AStmt` for every expression inside an access, an access list, an
    expression list, a map — the induction hypotheses of the steps;
  * for maps: the parser builds a map by `MapItems.set` entry by entry, the printer prints a map whose keys ascend
    (`SortedKeys`, order `Bytes.lt`); `set` of a key above all present keys appends (`set_last`), so setting the
    entries of a sorted map in order rebuilds it (`setAll_sorted`).
-/
import SoyVerif.Lemmas.ParserRound

namespace SoyVerif.Lemmas.ParserRound
open SoyVerif SoyVerif.Model SoyVerif.Model.Parser SoyVerif.Model.PrintTokens SoyVerif.Model.Printer
open SoyVerif.Lemmas.ParserBasic

theorem tail1_cons (a : UInt8) (r : Bytes) : tail1 (a :: r) = pure r := rfl

/-- closing brackets, the comma and the end of input may follow any expression — the end of input
    being `tEOF` in a file and the Error item "unclosed tag" of `lexInsideTag` in `parse.Expr`
    (expression mode: the lexer starts inside a "tag" that never closes) -/
def isTerm (t : ItemType) : Prop := t = .tRightParen ∨ t = .tRightBracket ∨ t = .tComma ∨ t = .tEOF ∨ t = .tError

theorem isTerm.rp : isTerm tRP.typ := Or.inl rfl
theorem isTerm.rb : isTerm tRB.typ := Or.inr (Or.inl rfl)
theorem isTerm.comma : isTerm tComma.typ := Or.inr (Or.inr (Or.inl rfl))
theorem isTerm.eof : isTerm tEOF.typ := Or.inr (Or.inr (Or.inr (Or.inl rfl)))

section
variable (pf : Bytes → Option UInt64) (T : TableOK)
include T

theorem ends_term {t : ItemType} (ht : isTerm t) (m p : Nat) (e : Expr) : Ends m p e t :=
  ends_stop (by rw [isBinaryOp_eq T]; rcases ht with rfl | rfl | rfl | rfl | rfl <;> rfl)
    (by rcases ht with rfl | rfl | rfl | rfl | rfl <;> simp) (by rcases ht with rfl | rfl | rfl | rfl | rfl <;> simp [noAccess])

theorem slot0 {e : Expr} (hA : AStmt pf e) {te : List Tk} {h : Tk} {rest : List Tk} {F : Nat} {st : PState}
    (hS : Slot 0 e (Renders pf e) te) (ht : isTerm h.typ) (hst : At st (te ++ h :: rest)) (hF : 1 + 8 * te.length ≤ F) :
    Ok (parseExpr pf F 0) st (Post e (h :: rest)) :=
  hA.ends hS (Nat.zero_le _) (ends_term T ht 0 0 e) hst hF

def AccA : Access → Prop
  | .expr _ _ e => AStmt pf e
  | _ => True

def AllAcc : AccessList → Prop
  | .nil => True
  | .cons a r => AccA pf a ∧ AllAcc r

theorem accs_ok : (l : AccessList) → AllAcc pf l →
    ∀ (ts : List Tk) (h : Tk) (rest : List Tk) (F : Nat) (st : PState),
      RendersAccs pf l ts → noAccess h.typ → At st (ts ++ h :: rest) → 8 * ts.length + 1 ≤ F →
      Ok (parseDataRef pf F) st fun l' st2 => eraseAL l' = eraseAL l ∧ At1 st2 (h :: rest)
  | .nil, _, ts, h, rest, F, st, hR, hna, hst, hF => by
    rw [RendersAccs] at hR; subst hR
    obtain ⟨F', rfl⟩ : ∃ F', F = F' + 1 := ⟨F - 1, by omega⟩
    unfold parseDataRef
    refine Ok.next (by simpa using hst) fun it st1 ht hv hj => ?_
    obtain ⟨n1, n2, n3, n4, n5, n6, n7⟩ := hna
    rw [← ht] at n1 n2 n3 n4 n5 n6
    -- none of the six access tokens: the `match` is its last alternative
    split
    any_goals contradiction
    exact Ok.backup hj fun st2 h2 => Ok.pure ⟨rfl, tk_eq ht hv ▸ h2⟩
  | .cons a r, hall, ts, h, rest, F, st, hR, hna, hst, hF => by
    rw [RendersAccs] at hR; obtain ⟨ta, tr, hRa, hRr, rfl⟩ := hR
    obtain ⟨F', rfl⟩ : ∃ F', F = F' + 1 := ⟨F - 1, by omega⟩
    simp at hF
    -- the rest of the chain behind the access `a'` that was read
    have fin : ∀ (a' : Access) (st1 : PState), eraseA a' = eraseA a → At st1 (tr ++ h :: rest) → 8 * tr.length + 1 ≤ F' →
        Ok (parseDataRef pf F' >>= fun r => pure (AccessList.cons a' r)) st1
          fun l' st2 => eraseAL l' = eraseAL (.cons a r) ∧ At1 st2 (h :: rest) :=
      fun a' st1 ha hat hF' => Ok.seq (accs_ok r hall.2 tr h rest F' st1 hRr hna hat hF')
        fun l' st2 ⟨he, h2⟩ => Ok.pure ⟨by simp [eraseAL, ha, he], h2⟩
    unfold parseDataRef
    cases a with
    | key pos ns k =>
      rw [RendersAcc] at hRa; subst hRa
      cases ns with
      | true =>
        refine Ok.next (t := ⟨.tQuestionDotIdent, 63 :: 46 :: k⟩) (by simpa using hst) fun it st1 ht hv hj => ?_
        simp only [show it.typ = .tQuestionDotIdent from ht, show it.val = 63 :: 46 :: k from hv, tail1_cons, pure_bind]
        exact fin _ st1 rfl hj.at (by simp at hF; omega)
      | false =>
        refine Ok.next (t := ⟨.tDotIdent, 46 :: k⟩) (by simpa using hst) fun it st1 ht hv hj => ?_
        simp only [show it.typ = .tDotIdent from ht, show it.val = 46 :: k from hv, tail1_cons, pure_bind]
        exact fin _ st1 rfl hj.at (by simp at hF; omega)
    | index pos ns i =>
      rw [RendersAcc] at hRa; obtain ⟨d, hd, rfl⟩ := hRa
      cases ns with
      | true =>
        refine Ok.next (t := ⟨.tQuestionDotIndex, 63 :: 46 :: d⟩) (by simpa using hst) fun it st1 ht hv hj => ?_
        simp only [show it.typ = .tQuestionDotIndex from ht, show it.val = 63 :: 46 :: d from hv, tail1_cons, pure_bind, hd]
        exact fin _ st1 rfl hj.at (by simp at hF; omega)
      | false =>
        refine Ok.next (t := ⟨.tDotIndex, 46 :: d⟩) (by simpa using hst) fun it st1 ht hv hj => ?_
        simp only [show it.typ = .tDotIndex from ht, show it.val = 46 :: d from hv, tail1_cons, pure_bind, hd]
        exact fin _ st1 rfl hj.at (by simp at hF; omega)
    | expr pos ns e =>
      rw [RendersAcc] at hRa; obtain ⟨te, hS, rfl⟩ := hRa
      simp at hF
      -- `[e]` / `?[e]` behind the opening token
      have idx : ∀ (st1 : PState) (mk : Expr → Access), (∀ re, erase re = erase e → eraseA (mk re) = eraseA (.expr pos ns e)) →
          At st1 (te ++ tRB :: (tr ++ h :: rest)) →
          Ok (parseExpr pf F' 0 >>= fun e => Parser.expect .tRightBracket >>= fun _ => parseDataRef pf F' >>= fun r =>
            pure (AccessList.cons (mk e) r)) st1 fun l' st2 => eraseAL l' = eraseAL (.cons (.expr pos ns e) r) ∧ At1 st2 (h :: rest) :=
        fun st1 mk hmk hat => Ok.seq (slot0 pf T hall.1 hS isTerm.rb hat (by omega)) fun re st2 ⟨hee, h2⟩ =>
          Ok.expect (t := tRB) h2.at fun _ st3 _ _ hj3 => fin _ st3 (hmk re hee) hj3.at (by omega)
      cases ns with
      | true =>
        refine Ok.next (t := tQKey) (by simpa using hst) fun it st1 ht _ hj => ?_
        simp only [show it.typ = .tQuestionKey from ht]
        exact idx st1 _ (fun re hee => by simp [eraseA, hee]) hj.at
      | false =>
        refine Ok.next (t := tLB) (by simpa using hst) fun it st1 ht _ hj => ?_
        simp only [show it.typ = .tLeftBracket from ht]
        exact idx st1 _ (fun re hee => by simp [eraseA, hee]) hj.at

theorem ft_dataRef (p : Nat) (k : Bytes) {acc : AccessList} (hall : AllAcc pf acc) : FTStmt pf (.dataRef p k acc) := by
  intro ts h rest F st hR hok hst hF
  rw [Renders] at hR; obtain ⟨ta, hRa, rfl⟩ := hR
  simp at hF
  obtain ⟨F2, rfl⟩ : ∃ F2, F = F2 + 2 := ⟨F - 2, by omega⟩
  refine ft_value pf T (t := ⟨.tDollarIdent, 36 :: k⟩) (by simpa using hst) rfl rfl rfl fun it st1 ht hv hj => ?_
  unfold newValueNode
  simp only [show it.typ = .tDollarIdent from ht, show it.val = 36 :: k from hv, tail1_cons, pure_bind]
  exact Ok.seq (accs_ok pf T acc hall ta h rest F2 st1 hRa hok.1 hj.at (by omega))
    fun l' st2 ⟨he, h2⟩ => Ok.pure ⟨by simp [erase, he], h2.at⟩

omit T in
theorem segs_head (segs : List Bytes) (h : Tk) (rest : List Tk) :
    ∃ t ts'', segs.map tDotIdent ++ h :: rest = t :: ts'' := by
  cases segs with
  | nil => exact ⟨h, rest, rfl⟩
  | cons s2 segs2 => exact ⟨tDotIdent s2, segs2.map tDotIdent ++ h :: rest, rfl⟩

omit T in
theorem global_loop (pos : Nat) (h : Tk) (rest : List Tk) (hna : noAccess h.typ) :
    ∀ (segs : List Bytes) (name : Bytes) (nxt : Item) (ts' : List Tk) (st : PState) (F : Nat),
      Just st nxt ts' → nxt.tk :: ts' = segs.map tDotIdent ++ h :: rest → segs.length + 1 ≤ F →
      Ok (newGlobalNode pf F pos name nxt) st fun r st2 => r = .global pos (name ++ segs.flatten) ∧ At1 st2 (h :: rest) := by
  intro segs
  induction segs with
  | nil =>
    intro name nxt ts' st F hj heq hF
    obtain ⟨F', rfl⟩ : ∃ F', F = F' + 1 := ⟨F - 1, by omega⟩
    simp at heq
    unfold newGlobalNode
    simp only [show (nxt.typ == ItemType.tDotIdent) = false by
      rw [show nxt.typ = h.typ by rw [← heq.1]; rfl]; simp [hna.1], Bool.false_eq_true, if_false]
    exact Ok.backup hj fun st2 h2 => Ok.pure ⟨by simp, by rw [heq.1, heq.2] at h2; exact h2⟩
  | cons s segs ih =>
    intro name nxt ts' st F hj heq hF
    obtain ⟨F', rfl⟩ : ∃ F', F = F' + 1 := ⟨F - 1, by omega⟩
    simp at heq
    obtain ⟨t, ts'', hts⟩ := segs_head segs h rest
    unfold newGlobalNode
    simp only [show nxt.typ = ItemType.tDotIdent by rw [show nxt.typ = (tDotIdent s).typ by rw [← heq.1]; rfl]; rfl,
      show nxt.val = s by rw [show nxt.val = (tDotIdent s).val by rw [← heq.1]; rfl]; rfl, beq_self_eq_true, if_true]
    refine Ok.next (t := t) (ts := ts'') (by rw [← hts, ← heq.2]; exact hj.at) fun n2 st1 ht hv hj1 => ?_
    exact Ok.mono (ih (name ++ s) n2 ts'' st1 F' hj1 (by rw [tk_eq ht hv, hts]) (by simp at hF; omega))
      fun r st2 ⟨hr, h2⟩ => ⟨by simp [hr], h2⟩

theorem ft_global (p : Nat) (n : Bytes) : FTStmt pf (.global p n) := by
  intro ts h rest F st hR hok hst hF
  rw [Renders] at hR; obtain ⟨n0, segs, rfl, rfl⟩ := hR
  simp at hF
  obtain ⟨F2, rfl⟩ : ∃ F2, F = F2 + 2 := ⟨F - 2, by omega⟩
  refine ft_value pf T (t := tIdent n0) (by simpa using hst) rfl rfl rfl fun it st1 ht hv hj => ?_
  unfold newValueNode
  simp only [show it.typ = .tIdent from ht, show it.val = n0 from hv]
  obtain ⟨t, ts'', hts⟩ := segs_head segs h rest
  refine Ok.next (t := t) (ts := ts'') (by rw [← hts]; exact hj.at) fun nxt st2 hnt hnv hj2 => ?_
  have hnlp : (nxt.typ != ItemType.tLeftParen) = true := by
    rw [hnt]
    cases segs with
    | nil => simp at hts; rw [← hts.1]; simp [hok.1.2.2.2.2.2.2]
    | cons s2 segs2 => simp at hts; rw [← hts.1]; simp [tDotIdent]
  simp only [hnlp, if_true]
  exact Ok.mono (global_loop pf it.pos h rest hok.1 segs n0 nxt ts'' st2 F2 hj2 (by rw [tk_eq hnt hnv, hts]) (by omega))
    fun r st3 ⟨hr, h3⟩ => ⟨by rw [hr]; rfl, h3.at⟩

def AllA : ExprList → Prop
  | .nil => True
  | .cons e r => AStmt pf e ∧ AllA r

theorem args_ok : (r : ExprList) → AllA pf r →
    ∀ (e : Expr) (te tr rest : List Tk) (F : Nat) (st : PState),
      AStmt pf e → Slot 0 e (Renders pf e) te → RendersSeq pf r tr → At st (te ++ tr ++ tRP :: rest) →
      8 * (te.length + tr.length) + 2 ≤ F →
      Ok (parseFuncArgs pf F) st fun l' st2 => eraseL l' = eraseL (.cons e r) ∧ At st2 rest
  | .nil, _, e, te, tr, rest, F, st, hA, hS, hR, hst, hF => by
    rw [RendersSeq] at hR; subst hR
    obtain ⟨F', rfl⟩ : ∃ F', F = F' + 1 := ⟨F - 1, by omega⟩
    unfold parseFuncArgs
    refine Ok.seq (slot0 pf T hA hS (rest := rest) isTerm.rp (by simpa using hst) (by simp at hF; omega))
      fun re st2 ⟨hee, h2⟩ => ?_
    refine Ok.next h2.at fun it st3 ht _ hj => ?_
    simp only [show it.typ = .tRightParen from ht]
    exact Ok.pure ⟨by simp [eraseL, hee], hj.at⟩
  | .cons e2 r2, hall, e, te, tr, rest, F, st, hA, hS, hR, hst, hF => by
    rw [RendersSeq] at hR; obtain ⟨te2, tr2, hS2, hR2, rfl⟩ := hR
    obtain ⟨F', rfl⟩ : ∃ F', F = F' + 1 := ⟨F - 1, by omega⟩
    simp at hF
    unfold parseFuncArgs
    refine Ok.seq (slot0 pf T hA hS (rest := te2 ++ tr2 ++ tRP :: rest) isTerm.comma
      (by simpa using hst) (by omega)) fun re st2 ⟨hee, h2⟩ => ?_
    refine Ok.next h2.at fun it st3 ht _ hj => ?_
    simp only [show it.typ = .tComma from ht, beq_self_eq_true, if_true]
    refine Ok.seq (args_ok r2 hall.2 e2 te2 tr2 rest F' st3 hall.1 hS2 hR2 hj.at (by omega)) fun l' st4 ⟨he, h4⟩ => ?_
    exact Ok.pure ⟨by simp [eraseL] at he ⊢; simp [hee, he], h4⟩

omit T in
/-- `peek` in front of an operand slot: the token seen can start an expression -/
theorem _root_.SoyVerif.Lemmas.ParserBasic.Ok.peek_slot {β : Type} {f : Item → P β} {st : PState} {Q : β → PState → Prop} {m : Nat} {e : Expr} {te tl : List Tk}
    (hS : Slot m e (Renders pf e) te) (h : At st (te ++ tl))
    (hf : ∀ it st', startTok it.typ → At st' (te ++ tl) → Ok (f it) st' Q) : Ok (peek >>= f) st Q := by
  obtain ⟨t0, te', rfl, hstart⟩ := slot_head pf hS
  exact Ok.peek (t := t0) (ts := te' ++ tl) (by simpa using h) fun it st' ht _ h1 => hf it st' (ht ▸ hstart) (by simpa using h1.at)

theorem items_ok : (r : ExprList) → AllA pf r →
    ∀ (e : Expr) (te tr rest : List Tk) (F : Nat) (st : PState),
      AStmt pf e → Slot 0 e (Renders pf e) te → RendersSeq pf r tr → At st (te ++ tr ++ tRB :: rest) →
      8 * (te.length + tr.length) + 2 ≤ F →
      Ok (parseListItems pf F) st fun l' st2 => eraseL l' = eraseL (.cons e r) ∧ At st2 rest
  | .nil, _, e, te, tr, rest, F, st, hA, hS, hR, hst, hF => by
    rw [RendersSeq] at hR; subst hR
    obtain ⟨F', rfl⟩ : ∃ F', F = F' + 1 := ⟨F - 1, by omega⟩
    unfold parseListItems
    refine Ok.peek_slot pf hS (tl := tRB :: rest) (by simpa using hst) fun pk st0 hstart h0 => ?_
    simp only [show (pk.typ == ItemType.tRightBracket) = false by simp [hstart.2.2], Bool.false_eq_true, if_false]
    refine Ok.seq (slot0 pf T hA hS (rest := rest) isTerm.rb h0 (by simp at hF; omega))
      fun re st2 ⟨hee, h2⟩ => ?_
    refine Ok.next h2.at fun it st3 ht _ hj => ?_
    simp only [show it.typ = .tRightBracket from ht, beq_self_eq_true, if_true]
    exact Ok.pure ⟨by simp [eraseL, hee], hj.at⟩
  | .cons e2 r2, hall, e, te, tr, rest, F, st, hA, hS, hR, hst, hF => by
    rw [RendersSeq] at hR; obtain ⟨te2, tr2, hS2, hR2, rfl⟩ := hR
    obtain ⟨F', rfl⟩ : ∃ F', F = F' + 1 := ⟨F - 1, by omega⟩
    simp at hF
    unfold parseListItems
    refine Ok.peek_slot pf hS (tl := tComma :: (te2 ++ tr2 ++ tRB :: rest)) (by simpa using hst) fun pk st0 hstart h0 => ?_
    simp only [show (pk.typ == ItemType.tRightBracket) = false by simp [hstart.2.2], Bool.false_eq_true, if_false]
    refine Ok.seq (slot0 pf T hA hS isTerm.comma h0 (by omega)) fun re st2 ⟨hee, h2⟩ => ?_
    refine Ok.next h2.at fun it st3 ht _ hj => ?_
    simp only [show it.typ = .tComma from ht, show (ItemType.tComma == ItemType.tRightBracket) = false from rfl,
      show (ItemType.tComma != ItemType.tComma) = false from rfl, Bool.false_eq_true, if_false]
    refine Ok.seq (items_ok r2 hall.2 e2 te2 tr2 rest F' st3 hall.1 hS2 hR2 hj.at (by omega)) fun l' st4 ⟨he, h4⟩ => ?_
    exact Ok.pure ⟨by simp [eraseL] at he ⊢; simp [hee, he], h4⟩

/-- `newValueNode` on the Ident token of a function call: "(" is read, `newFunctionNode` takes over -/
theorem ft_func (p : Nat) (n : Bytes) {args : ExprList} (hall : AllA pf args) : FTStmt pf (.func p n args) := by
  intro ts h rest F st hR hok hst hF
  cases args with
  | nil =>
    rw [Renders] at hR; subst hR
    simp at hF
    obtain ⟨F3, rfl⟩ : ∃ F3, F = F3 + 3 := ⟨F - 3, by omega⟩
    refine ft_value pf T (t := tIdent n) (by simpa using hst) rfl rfl rfl fun it st1 ht hv hj => ?_
    unfold newValueNode
    simp only [show it.typ = .tIdent from ht]
    refine Ok.next hj.at fun nxt st2 hnt _ hj2 => ?_
    simp only [show nxt.typ = .tLeftParen from hnt, bne_self_eq_false, Bool.false_eq_true, if_false]
    unfold newFunctionNode
    refine Ok.peek hj2.at fun pk st3 hpt _ h3 => ?_
    simp only [show pk.typ = .tRightParen from hpt, beq_self_eq_true, if_true]
    refine Ok.next h3.at fun _ st4 _ _ hj4 => ?_
    exact Ok.pure ⟨by rw [show it.val = n from hv]; rfl, hj4.at⟩
  | cons e r =>
    rw [Renders] at hR; obtain ⟨te, tr, hS, hRr, rfl⟩ := hR
    simp at hF
    obtain ⟨F3, rfl⟩ : ∃ F3, F = F3 + 3 := ⟨F - 3, by omega⟩
    refine ft_value pf T (t := tIdent n) (ts := tLP :: (te ++ tr ++ tRP :: h :: rest)) (by simpa using hst) rfl rfl rfl
      fun it st1 ht hv hj => ?_
    unfold newValueNode
    simp only [show it.typ = .tIdent from ht]
    refine Ok.next hj.at fun nxt st2 hnt _ hj2 => ?_
    simp only [show nxt.typ = .tLeftParen from hnt, bne_self_eq_false, Bool.false_eq_true, if_false]
    unfold newFunctionNode
    refine Ok.peek_slot pf hS (tl := tr ++ tRP :: h :: rest) (by simpa using hj2.at) fun pk st3 hstart h3 => ?_
    simp only [show (pk.typ == ItemType.tRightParen) = false by simp [hstart.1], Bool.false_eq_true, if_false]
    refine Ok.seq (args_ok pf T r hall.2 e te tr (h :: rest) F3 st3 hall.1 hS hRr (by simpa using h3) (by omega))
      fun l' st4 ⟨he, h4⟩ => ?_
    exact Ok.pure ⟨by rw [show it.val = n from hv]; simp [erase, he], h4⟩

/-- `newValueNode` on "[": `parseListOrMap` reads the first expression and decides at the token behind it -/
theorem ft_list (p : Nat) {items : ExprList} (hall : AllA pf items) : FTStmt pf (.list p items) := by
  intro ts h rest F st hR hok hst hF
  cases items with
  | nil =>
    rw [Renders] at hR; subst hR
    simp at hF
    obtain ⟨F3, rfl⟩ : ∃ F3, F = F3 + 3 := ⟨F - 3, by omega⟩
    refine ft_value pf T (t := tLB) (by simpa using hst) rfl rfl rfl fun it st1 ht hv hj => ?_
    unfold newValueNode
    simp only [show it.typ = .tLeftBracket from ht]
    unfold parseListOrMap
    refine Ok.next hj.at fun t1 st2 hnt _ hj2 => ?_
    simp only [show t1.typ = .tRightBracket from hnt, show (ItemType.tRightBracket == ItemType.tColon) = false from rfl,
      Bool.false_eq_true, if_false, beq_self_eq_true, if_true]
    exact Ok.pure ⟨rfl, hj2.at⟩
  | cons e r =>
    rw [Renders] at hR; obtain ⟨te, tr, hS, hRr, rfl⟩ := hR
    simp at hF
    obtain ⟨F3, rfl⟩ : ∃ F3, F = F3 + 3 := ⟨F - 3, by omega⟩
    refine ft_value pf T (t := tLB) (ts := te ++ tr ++ tRB :: h :: rest) (by simpa using hst) rfl rfl rfl
      fun it st1 ht hv hj => ?_
    unfold newValueNode
    simp only [show it.typ = .tLeftBracket from ht]
    unfold parseListOrMap
    -- the first token of the first item is read and pushed back
    obtain ⟨t0, te', hte, hstart⟩ := slot_head pf hS
    refine Ok.next (t := t0) (ts := te' ++ tr ++ tRB :: h :: rest) (by rw [hte] at hj; simpa using hj.at) fun t1 st2 hnt hnv hj2 => ?_
    simp only [show (t1.typ == ItemType.tColon) = false by rw [hnt]; simp [hstart.2.1],
      show (t1.typ == ItemType.tRightBracket) = false by rw [hnt]; simp [hstart.2.2], Bool.false_eq_true, if_false]
    refine Ok.backup hj2 fun st3 h3 => ?_
    have h3 : At st3 (te ++ (tr ++ tRB :: h :: rest)) := by rw [tk_eq hnt hnv] at h3; rw [hte]; simpa using h3.at
    cases r with
    | nil =>
      rw [RendersSeq] at hRr; subst hRr
      refine Ok.seq (slot0 pf T hall.1 hS (rest := h :: rest) isTerm.rb (by simpa using h3) (by simp at hF; omega))
        fun re st4 ⟨hee, h4⟩ => ?_
      refine Ok.next h4.at fun tok st5 h5t _ hj5 => ?_
      simp only [show tok.typ = .tRightBracket from h5t, show (ItemType.tRightBracket == ItemType.tColon) = false from rfl,
        show (ItemType.tRightBracket == ItemType.tComma) = false from rfl, Bool.false_eq_true, if_false, beq_self_eq_true, if_true]
      exact Ok.pure ⟨by simp [erase, eraseL, hee], hj5.at⟩
    | cons e2 r2 =>
      rw [RendersSeq] at hRr; obtain ⟨te2, tr2, hS2, hR2, rfl⟩ := hRr
      simp at hF
      refine Ok.seq (slot0 pf T hall.1 hS (rest := te2 ++ tr2 ++ tRB :: h :: rest)
        isTerm.comma (by simpa using h3) (by omega)) fun re st4 ⟨hee, h4⟩ => ?_
      refine Ok.next h4.at fun tok st5 h5t _ hj5 => ?_
      simp only [show tok.typ = .tComma from h5t, show (ItemType.tComma == ItemType.tColon) = false from rfl,
        Bool.false_eq_true, if_false, beq_self_eq_true, if_true]
      refine Ok.seq (items_ok pf T r2 hall.2.2 e2 te2 tr2 (h :: rest) F3 st5 hall.2.1 hS2 hR2 hj5.at (by omega))
        fun l' st6 ⟨he, h6⟩ => ?_
      exact Ok.pure ⟨by simp [erase, eraseL] at he ⊢; simp [hee, he], h6⟩

end

theorem lt_irrefl : (a : Bytes) → Bytes.lt a a = false
  | [] => rfl
  | x :: r => by simp [Bytes.lt, lt_irrefl r]

theorem lt_asymm : (a b : Bytes) → Bytes.lt a b = true → Bytes.lt b a = false
  | [], [], h => by simp [Bytes.lt] at h
  | [], _ :: _, _ => rfl
  | _ :: _, [], h => by simp [Bytes.lt] at h
  | x :: r, y :: s, h => by
    simp [Bytes.lt] at h ⊢
    rcases h with h | ⟨rfl, h⟩
    · refine ⟨?_, fun hxy => ?_⟩
      · rw [UInt8.lt_iff_toNat_lt] at h; rw [UInt8.le_iff_toNat_le]; omega
      · subst hxy; rw [UInt8.lt_iff_toNat_lt] at h; omega
    · exact ⟨UInt8.le_refl _, fun _ => lt_asymm r s h⟩

def mapApp : MapItems → MapItems → MapItems
  | .nil, m => m
  | .cons k v r, m => .cons k v (mapApp r m)

def setAll : MapItems → MapItems → MapItems
  | m, .nil => m
  | m, .cons k v r => setAll (m.set k v) r

theorem eraseM_set : (m : MapItems) → (k : Bytes) → (v : Expr) → eraseM (m.set k v) = (eraseM m).set k (erase v)
  | .nil, k, v => rfl
  | .cons k' v' r, k, v => by
    simp only [MapItems.set, eraseM]
    split
    · simp [eraseM]
    · split
      · simp [eraseM]
      · simp [eraseM, eraseM_set r k v]

theorem keysOf_eraseM : (m : MapItems) → keysOf (eraseM m) = keysOf m
  | .nil => rfl
  | .cons k v r => by simp [eraseM, keysOf, keysOf_eraseM r]

theorem sortedKeys_eraseM : (m : MapItems) → SortedKeys m → SortedKeys (eraseM m)
  | .nil, _ => trivial
  | .cons k v r, h => by
    simp only [eraseM, SortedKeys]
    exact ⟨by rw [keysOf_eraseM]; exact h.1, sortedKeys_eraseM r h.2⟩

theorem keysOf_mapApp : (a b : MapItems) → keysOf (mapApp a b) = keysOf a ++ keysOf b
  | .nil, b => rfl
  | .cons k v r, b => by simp [mapApp, keysOf, keysOf_mapApp r b]

theorem mapApp_assoc : (a b c : MapItems) → mapApp (mapApp a b) c = mapApp a (mapApp b c)
  | .nil, b, c => rfl
  | .cons k v r, b, c => by simp [mapApp, mapApp_assoc r b c]

theorem mapApp_nil : (a : MapItems) → mapApp a .nil = a
  | .nil => rfl
  | .cons k v r => by simp [mapApp, mapApp_nil r]

theorem set_last : (acc : MapItems) → (k : Bytes) → (v : Expr) → (∀ a ∈ keysOf acc, Bytes.lt a k = true) →
    acc.set k v = mapApp acc (.cons k v .nil)
  | .nil, k, v, _ => rfl
  | .cons k' v' r, k, v, h => by
    have hk : Bytes.lt k' k = true := h k' (by simp [keysOf])
    have h1 : (k == k') = false := by
      cases hkk : (k == k') with
      | false => rfl
      | true =>
        have : k = k' := by simpa using hkk
        subst this; rw [lt_irrefl] at hk; exact absurd hk (by simp)
    have h2 : Bytes.lt k k' = false := lt_asymm k' k hk
    simp only [MapItems.set, h1, h2, Bool.false_eq_true, if_false, mapApp]
    rw [set_last r k v (fun a ha => h a (by simp [keysOf, ha]))]

theorem setAll_sorted : (m acc : MapItems) → SortedKeys m → (∀ a ∈ keysOf acc, ∀ b ∈ keysOf m, Bytes.lt a b = true) →
    setAll acc m = mapApp acc m
  | .nil, acc, _, _ => by
    simp [setAll, mapApp_nil]
  | .cons k v r, acc, hs, hlt => by
    simp only [setAll]
    rw [set_last acc k v (fun a ha => hlt a ha k (by simp [keysOf]))]
    rw [setAll_sorted r _ hs.2]
    · rw [mapApp_assoc]; rfl
    · intro a ha b hb
      rw [keysOf_mapApp] at ha
      simp [keysOf] at ha
      rcases ha with ha | rfl
      · exact hlt a ha b (by simp [keysOf, hb])
      · exact hs.1 b hb


section
variable (pf : Bytes → Option UInt64) (T : TableOK)
include T

def AllM : MapItems → Prop
  | .nil => True
  | .cons _ e r => AStmt pf e ∧ AllM r

theorem entries_ok : (r : MapItems) → AllM pf r →
    ∀ (key : Bytes) (e : Expr) (te tr rest : List Tk) (acc : MapItems) (F : Nat) (st : PState),
      AStmt pf e → Slot 0 e (Renders pf e) te → RendersEntries pf r tr → At st (te ++ tr ++ tRB :: rest) →
      8 * (te.length + tr.length) + 2 ≤ F →
      Ok (parseMapItems pf F key acc) st fun m' st2 =>
        eraseM m' = setAll ((eraseM acc).set key (erase e)) (eraseM r) ∧ At st2 rest
  | .nil, _, key, e, te, tr, rest, acc, F, st, hA, hS, hR, hst, hF => by
    rw [RendersEntries] at hR; subst hR
    obtain ⟨F', rfl⟩ : ∃ F', F = F' + 1 := ⟨F - 1, by omega⟩
    unfold parseMapItems
    refine Ok.seq (slot0 pf T hA hS (rest := rest) isTerm.rb (by simpa using hst) (by simp at hF; omega))
      fun re st2 ⟨hee, h2⟩ => ?_
    refine Ok.next h2.at fun it st3 ht _ hj => ?_
    simp only [show it.typ = .tRightBracket from ht, beq_self_eq_true, if_true]
    exact Ok.pure ⟨by simp [eraseM, setAll, eraseM_set, hee], hj.at⟩
  | .cons k2 e2 r2, hall, key, e, te, tr, rest, acc, F, st, hA, hS, hR, hst, hF => by
    rw [RendersEntries] at hR; obtain ⟨q2, te2, tr2, hq2, hS2, hR2, rfl⟩ := hR
    obtain ⟨F', rfl⟩ : ∃ F', F = F' + 1 := ⟨F - 1, by omega⟩
    simp at hF
    unfold parseMapItems
    refine Ok.seq (slot0 pf T hA hS (rest := tString q2 :: tColon :: (te2 ++ tr2 ++ tRB :: rest))
      isTerm.comma (by simpa using hst) (by omega)) fun re st2 ⟨hee, h2⟩ => ?_
    refine Ok.next h2.at fun it st3 ht _ hj => ?_
    simp only [show it.typ = .tComma from ht, show (ItemType.tComma == ItemType.tRightBracket) = false from rfl,
      show (ItemType.tComma != ItemType.tComma) = false from rfl, Bool.false_eq_true, if_false]
    refine Ok.peek hj.at fun pk st3' hpt _ hpa => ?_
    simp only [show (pk.typ == ItemType.tRightBracket) = false by rw [hpt]; rfl, Bool.false_eq_true, if_false]
    refine Ok.expect (t := tString q2) hpa.at fun tok st4 _ h4v hj4 => ?_
    simp only [show tok.val = q2 from h4v, hq2]
    refine Ok.expect (t := tColon) hj4.at fun _ st5 _ _ hj5 => ?_
    refine Ok.mono (entries_ok r2 hall.2 k2 e2 te2 tr2 rest (acc.set key re) F' st5 hall.1 hS2 hR2 hj5.at (by omega))
      fun m' st6 ⟨he, h6⟩ => ⟨by rw [he]; simp [eraseM, setAll, eraseM_set, hee], h6⟩

omit T in
theorem erase_str_inv {r : Expr} {q k : Bytes} (h : erase r = erase (.str 0 q k)) : ∃ p, r = .str p q k := by
  cases r <;> simp [erase] at h
  case str p q' k' => exact ⟨p, by rw [h.1, h.2]⟩

theorem ft_map (p : Nat) {items : MapItems} (hall : AllM pf items) : FTStmt pf (.map p items) := by
  intro ts h rest F st hR hok hst hF
  cases items with
  | nil =>
    rw [Renders] at hR; subst hR
    simp at hF
    obtain ⟨F3, rfl⟩ : ∃ F3, F = F3 + 3 := ⟨F - 3, by omega⟩
    refine ft_value pf T (t := tLB) (by simpa using hst) rfl rfl rfl fun it st1 ht hv hj => ?_
    unfold newValueNode
    simp only [show it.typ = .tLeftBracket from ht]
    unfold parseListOrMap
    refine Ok.next hj.at fun t1 st2 hnt _ hj2 => ?_
    simp only [show t1.typ = .tColon from hnt, beq_self_eq_true, if_true]
    exact Ok.expect (t := tRB) hj2.at fun _ st3 _ _ hj3 => Ok.pure ⟨rfl, hj3.at⟩
  | cons k e r =>
    rw [Renders] at hR; obtain ⟨q, te, tr, hq, hS, hRr, hsorted, rfl⟩ := hR
    simp at hF
    obtain ⟨F3, rfl⟩ : ∃ F3, F = F3 + 3 := ⟨F - 3, by omega⟩
    refine ft_value pf T (t := tLB) (ts := tString q :: tColon :: (te ++ tr ++ tRB :: h :: rest)) (by simpa using hst) rfl rfl rfl
      fun it st1 ht hv hj => ?_
    unfold newValueNode
    simp only [show it.typ = .tLeftBracket from ht]
    unfold parseListOrMap
    refine Ok.next hj.at fun t1 st2 hnt hnv hj2 => ?_
    simp only [show (t1.typ == ItemType.tColon) = false by rw [hnt]; rfl,
      show (t1.typ == ItemType.tRightBracket) = false by rw [hnt]; rfl, Bool.false_eq_true, if_false]
    refine Ok.backup hj2 fun st3 h3 => ?_
    rw [tk_eq hnt hnv] at h3
    -- the first key: a string literal parsed as an expression
    refine Ok.seq (BStmt.ends (B_of_FT pf (ft_str pf T 0 q k)) (ts := [tString q]) (h := tColon) (rest := te ++ tr ++ tRB :: h :: rest)
      (F := F3) (by rw [Renders]; exact ⟨rfl, hq⟩) (Nat.zero_le _) (ends_colon T 0 0 _) (by simpa using h3.at) (by simp; omega))
      fun r1 st4 ⟨he1, h4⟩ => ?_
    obtain ⟨p1, rfl⟩ := erase_str_inv he1
    refine Ok.next h4.at fun tok st5 h5t _ hj5 => ?_
    simp only [show tok.typ = .tColon from h5t, beq_self_eq_true, if_true]
    refine Ok.seq (entries_ok pf T r hall.2 k e te tr (h :: rest) .nil F3 st5 hall.1 hS hRr hj5.at (by omega))
      fun m' st6 ⟨he, h6⟩ => Ok.pure ⟨?_, h6⟩
    simp only [erase]
    rw [he, show (eraseM MapItems.nil).set k (erase e) = .cons k (erase e) .nil from rfl, setAll_sorted (eraseM r) _]
    · rfl
    · exact sortedKeys_eraseM r hsorted.2
    · intro a ha b hb
      simp [keysOf] at ha; subst ha
      rw [keysOf_eraseM] at hb
      exact hsorted.1 b hb
end
end SoyVerif.Lemmas.ParserRound
