/-
  Termination / error-position specifications of the file parser's loops that contain no
  nested blocks (`skipComments`, `nextNonComment`, `collectText`, `parseAttrs`, the print
  directive loops, `parseAlias`, `soyDocLoop` (parseSoyDoc), `parseNamespace`, `parseHeaderParam`,
  `parseCss`, the head of `parseCall`), as judgements `Tri`.  A loop with fuel `fuel` is specified on the
  budget `fuel` itself, with the constant 1: it needs `8·mu + 1 ≤ fuel`, eight units for each real token ahead and
  one more (`namespaceLoop`, which hands what is left of its fuel to the loop `parseAttrs`: 2).  The functions
  without a loop of their own are specified with the constant 0 on any budget `F`.  (The predicates on trees are those
  of Lemmas/ParserPos.lean and Lemmas/FileParserShape.lean.)
-/
import SoyVerif.Lemmas.FileParserSafe
import SoyVerif.Lemmas.FileParserShape

namespace SoyVerif.Lemmas.ParserSafe
open SoyVerif SoyVerif.Model SoyVerif.Model.Parser SoyVerif.Model.FileParser

section
variable {AP : Prop} {EL : Lvl} {S : Item → Prop} {N : Nat} (hz : S Item.zero)
include hz

/-- `for token.typ == itemComment { token = t.next() }`; `token` is held by the caller -/
theorem skipComments_tri : ∀ (fuel : Nat) (token : Item), Tri (fHost AP EL S) N fuel 1 (.h token) (skipComments fuel token) 0 T
  | 0, _ => Tri.zero
  | f + 1, token => by
    apply Tri.succ (c := 0)
    unfold skipComments
    refine Tri.ite (fun hc => Tri.up (real_of_beq hc (by decide)) ?_) fun _ => Tri.ret rfl
    exact Tri.next_then hz fun t _ => (skipComments_tri f t).weak

theorem nextNonComment_tri : ∀ fuel : Nat, Tri (fHost AP EL S) N fuel 1 .b (nextNonComment fuel) 0 T
  | 0 => Tri.zero
  | f + 1 => by
    apply Tri.succ (c := 0)
    unfold nextNonComment
    refine Tri.next_then hz fun tok _ => Tri.ite (fun _ => Tri.ret rfl) fun hc => ?_
    exact Tri.up (real_of_nbne hc (by decide)) (nextNonComment_tri f).weak

/-- the text-merging loop of textOrTag -/
theorem collectText_tri : ∀ (fuel : Nat) (text : Bytes),
    Tri (fHost AP EL S) N fuel 1 .b (collectText fuel text) 0 (H fun r tok => tok = r.2)
  | 0, _ => Tri.zero
  | f + 1, text => by
    apply Tri.succ (c := 0)
    unfold collectText
    refine Tri.next_then hz fun nxt _ => Tri.ite (fun _ => Tri.ret ⟨nxt, rfl, rfl⟩) fun hc => ?_
    exact Tri.up (real_of_nbne hc (by decide)) (collectText_tri f _).weak

theorem parseAttrs_tri (allowed : List Bytes) : ∀ (fuel : Nat) (res : List (Bytes × Bytes)),
    Tri (fHost AP EL S) N fuel 1 .b (parseAttrs allowed fuel res) 0 (B fun _ => True)
  | 0, _ => Tri.zero
  | f + 1, res => by
    apply Tri.succ (c := 0)
    unfold parseAttrs
    refine Tri.next_then hz fun tok _ => Tri.ite (fun hc => ?_) fun _ => ?_
    · refine Tri.ite (fun _ => Tri.unexpected) fun _ => Tri.up (real_of_beq hc (by decide)) ?_
      refine (Tri.expect hz).seq fun _ _ => (Tri.expect hz).seq fun v _ => ?_
      split
      · exact (parseAttrs_tri allowed f _).weak
      · exact Tri.errorf
    · exact Tri.ite (fun _ => Tri.backup_then (Tri.ret_p trivial)) fun _ => Tri.unexpected

variable {pf : Bytes → Option UInt64} {ef : Nat} (hN : 8 * N + 10 ≤ ef)
variable (hwf : ∀ it, S it → AP ∨ WFItem it)

include hN hwf in
theorem directiveArgs_tri : ∀ (fuel : Nat) (args : List Expr), EPl S args →
    Tri (fHost AP EL S) N fuel 1 .b (directiveArgs pf ef fuel args) 0 (B (EPl S))
  | 0, _, _ => Tri.zero
  | f + 1, args, hargs => by
    apply Tri.succ (c := 0)
    unfold directiveArgs
    refine Tri.next_then hz fun nxt _ => Tri.ite (fun hc => ?_) fun _ => Tri.backup_then (Tri.ret_p hargs)
    refine Tri.up (real_of_or hc (by decide) (by decide)) ((Tri.parseExpr0 hz hN hwf).seq fun e he => ?_)
    exact (directiveArgs_tri f _ (EPl_append hargs (EPl_single he))).weak

include hN hwf in
theorem printLoop_tri (pos : Nat) (expr : Expr) : ∀ (fuel : Nat) (dirs : List Directive),
    (PosOK S pos ∧ EP S expr ∧ DirsP S dirs) →
    Tri (fHost AP EL S) N fuel 1 .b (printLoop pf ef pos expr fuel dirs) 0 (B fun r => childOK r ∧ NP S r)
  | 0, _, _ => Tri.zero
  | f + 1, dirs, hpre => by
    apply Tri.succ (c := 0)
    unfold printLoop
    refine Tri.next_then hz fun tok hs => Tri.ite (fun hc => ?_) fun _ => Tri.ite (fun hc => ?_) fun _ => Tri.unexpected
    · exact Tri.up (real_of_beq hc (by decide)) (Tri.ret ⟨rfl, trivial, by simp only [NP]; exact hpre⟩)
    refine Tri.up (real_of_beq hc (by decide)) ((Tri.expect hz).seq fun id _ => ?_)
    refine (directiveArgs_tri hz hN hwf f [] EPl_nil).seq fun args hargs => ?_
    exact (printLoop_tri pos expr f _ ⟨hpre.1, hpre.2.1, DirsP_append hpre.2.2 (by
      intro d hd; simp only [List.mem_singleton] at hd; subst hd; exact ⟨posOK_of hs, hargs⟩)⟩).weak

include hN hwf in
theorem parsePrint_tri (fuel : Nat) (token : Item) (hs : S token) :
    Tri (fHost AP EL S) N fuel 1 .b (parsePrint pf ef fuel token) 0 (B fun r => childOK r ∧ NP S r) := by
  unfold parsePrint
  exact (Tri.parseExpr0 hz hN hwf).seq fun e he => (printLoop_tri hz hN hwf _ _ fuel [] ⟨posOK_of hs, he, DirsP_nil⟩).weak

include hwf in
theorem aliasLoop_tri : ∀ (fuel : Nat) (name seg : Bytes), Tri (fHost AP EL S) N fuel 1 .b (aliasLoop fuel name seg) 0 (B fun _ => True)
  | 0, _, _ => Tri.zero
  | f + 1, name, seg => by
    apply Tri.succ (c := 0)
    unfold aliasLoop
    refine Tri.next_then hz fun nxt hs => Tri.ite (fun hc => ?_) fun _ => Tri.ite (fun hc => ?_) fun _ => Tri.unexpected
    · refine Tri.up (real_of_beq hc (by decide)) ?_
      exact Tri.tail1_then (val_ne1 (hwf nxt hs) (Or.inr (Or.inl (by simpa using hc)))) fun _ sg _ => (aliasLoop_tri f _ sg).weak
    · rw [← bind_pure (modify _)]
      exact Tri.up (real_of_beq hc (by decide)) (Tri.modify (fun _ => rfl) (Tri.ret ⟨rfl, trivial⟩))

include hwf in
theorem parseAlias_tri (fuel : Nat) : Tri (fHost AP EL S) N fuel 1 .b (parseAlias fuel) 0 (B fun _ => True) := by
  unfold parseAlias
  exact (Tri.expect hz).seq fun name _ => (aliasLoop_tri hz hwf fuel _ _).weak

theorem soyDocLoop_tri (pos : Nat) (hpos : PosOK S pos) : ∀ (fuel : Nat) (params : List SoyDocParam),
    Tri (fHost AP EL S) N fuel 1 .b (soyDocLoop pos fuel params) 0 (B fun r => childOK r ∧ NP S r)
  | 0, _ => Tri.zero
  | f + 1, params => by
    apply Tri.succ (c := 0)
    unfold soyDocLoop
    refine Tri.next_then hz fun nxt _ => Tri.ite (fun hc => ?_) fun _ => Tri.ite (fun hc => ?_) fun _ => ?_
    · exact Tri.up (real_of_beq hc (by decide)) (soyDocLoop_tri pos hpos f params).weak
    · refine Tri.up (real_of_or hc (by decide) (by decide)) ((Tri.expect hz).seq fun _ _ => (soyDocLoop_tri pos hpos f _).weak)
    · refine Tri.ite (fun hc => Tri.up (real_of_beq hc (by decide)) ?_) fun _ => Tri.unexpected
      exact Tri.ret ⟨rfl, trivial, by simp only [NP]; exact hpos⟩

omit hz in
theorem parseAutoescape_tri (attrs : List (Bytes × Bytes)) {F : Nat} :
    Tri (fHost AP EL S) N F 0 .b (parseAutoescape attrs) 0 (B fun _ => True) := by
  unfold parseAutoescape
  simp only
  have r : ∀ a : Autoescape, Tri (fHost AP EL S) N F 0 .b (pure a : FP Autoescape) 0 (B fun _ => True) := fun _ => Tri.ret ⟨rfl, trivial⟩
  exact Tri.ite (fun _ => r _) fun _ => Tri.ite (fun _ => r _) fun _ => Tri.ite (fun _ => r _) fun _ =>
    Tri.ite (fun _ => r _) fun _ => Tri.ite (fun _ => r _) fun _ => Tri.errorf

omit hz in
theorem boolAttr_tri (attrs : List (Bytes × Bytes)) (key : Bytes) (d : Bool) {F : Nat} :
    Tri (fHost AP EL S) N F 0 .b (boolAttr attrs key d) 0 (B fun _ => True) := by
  unfold boolAttr
  split
  · exact Tri.ret ⟨rfl, trivial⟩
  · exact Tri.ite (fun _ => Tri.ret ⟨rfl, trivial⟩) fun _ => Tri.ite (fun _ => Tri.ret ⟨rfl, trivial⟩) fun _ => Tri.errorf

theorem namespaceLoop_tri (pos : Nat) (hpos : PosOK S pos) : ∀ (fuel : Nat) (name : Bytes),
    Tri (fHost AP EL S) N fuel 2 .b (namespaceLoop pos fuel name) 0 (B fun r => childOK r ∧ NP S r)
  | 0, _ => Tri.zero
  | f + 1, name => by
    apply Tri.succ (c := 1)
    unfold namespaceLoop
    refine Tri.next_then hz fun part _ => Tri.ite (fun hc => ?_) fun _ => Tri.backup_then (Tri.of_p ?_)
    · exact Tri.up (real_of_beq hc (by decide)) (namespaceLoop_tri pos hpos f _).weak
    refine (parseAttrs_tri hz _ f []).seq fun attrs _ => (parseAutoescape_tri attrs).seq fun ae _ => ?_
    refine (Tri.expect hz).seq fun _ _ => Tri.modify (fun _ => rfl) ?_
    exact Tri.ret ⟨rfl, trivial, by simp only [NP]; exact hpos⟩

theorem parseNamespace_tri (fuel : Nat) (token : Item) (hst : S token) :
    Tri (fHost AP EL S) N fuel 1 .b (parseNamespace fuel token) 0 (B fun r => childOK r ∧ NP S r) := by
  unfold parseNamespace
  refine Tri.get fun st => Tri.ite (fun _ => Tri.errorf) fun _ => (Tri.expect hz).seq fun name _ => ?_
  exact (namespaceLoop_tri hz _ (posOK_of hst) fuel _).weak


include hN hwf in
theorem parseHeaderParam_tri (token : Item) (hst : S token) {F : Nat} :
    Tri (fHost AP EL S) N F 0 .b (parseHeaderParam pf ef token) 0 (B fun r => childOK r ∧ NP S r) := by
  unfold parseHeaderParam
  simp only
  refine (Tri.expect hz).seq fun name _ => (Tri.expect hz).seq fun _ _ => (Tri.expect hz).seq fun typ _ => ?_
  refine Tri.next_then hz fun tok _ => Tri.sub (A := EPo S) (d1 := 0) ?_ fun dv hdv => ?_
  · refine Tri.ite (fun hc => Tri.up (real_of_beq hc (by decide)) ?_) fun _ => Tri.backup_then (Tri.ret_p trivial)
    exact Tri.weak (c' := 0) (d' := 1) ((Tri.parseExpr0 hz hN hwf).seq fun e he => Tri.ret ⟨rfl, he⟩)
  · exact (Tri.expect hz).seq fun _ _ => Tri.ret ⟨rfl, trivial, by simp only [NP]; exact ⟨posOK_of hst, hdv⟩⟩

theorem parseCss_tri (token : Item) (hst : S token) {F : Nat} :
    Tri (fHost AP EL S) N F 0 .b (parseCss pf token) 0 (B fun r => childOK r ∧ NP S r) := by
  unfold parseCss
  refine (Tri.expect hz).seq fun txt _ => (Tri.expect hz).seq fun _ _ => ?_
  split
  · exact Tri.ret ⟨rfl, trivial, by simp only [NP, EPo]; exact ⟨posOK_of hst, trivial⟩⟩
  · exact (Tri.parseQuotedExpr _).seq fun e he => Tri.ret ⟨rfl, trivial, by simp only [NP, EPo]; exact ⟨posOK_of hst, he⟩⟩

theorem callNameLoop_tri : ∀ (fuel : Nat) (name : Bytes), Tri (fHost AP EL S) N fuel 1 .b (callNameLoop fuel name) 0 (B fun _ => True)
  | 0, _ => Tri.zero
  | f + 1, name => by
    apply Tri.succ (c := 0)
    unfold callNameLoop
    refine Tri.next_then hz fun tokn _ => Tri.ite (fun hc => ?_) fun _ => Tri.backup_then (Tri.ret_p trivial)
    exact Tri.up (real_of_beq hc (by decide)) (callNameLoop_tri f _).weak

/-- parseCall up to the closing of the tag; `{call name …}` or `{call name="…" …}` is decided with two tokens in hand -/
theorem parseCallHead_tri (fuel : Nat) :
    Tri (fHost AP EL S) N fuel 1 .b (parseCallHead pf fuel) 0 (B fun r => EPo S r.2.2) := by
  unfold parseCallHead
  refine Tri.next_then hz fun tok _ => Tri.sub (A := fun _ => True) (d1 := 0) ?_ fun tn _ => ?_
  · refine Tri.ite (fun hc => Tri.up (real_of_beq hc (by decide)) (Tri.ret ⟨rfl, trivial⟩)) fun _ => ?_
    refine Tri.ite (fun hid => ?_) fun _ => Tri.backup_then (Tri.ret_p trivial)
    refine Tri.next_h_then hz (real_of_beq hid (by decide)) fun tok2 _ => Tri.ite (fun hc => ?_) fun _ => ?_
    · exact Tri.up2 (Tri.up (real_of_beq hc (by decide)) (callNameLoop_tri hz fuel _).weak)
    · exact Tri.backup2_then (Tri.ret_p trivial)
  refine (parseAttrs_tri hz _ fuel []).seq fun attrs _ => ?_
  simp only
  generalize (if (tn == []) = true then (lookup attrs kName).getD [] else tn) = tname
  refine Tri.ite (fun _ => Tri.errorf) fun _ => Tri.get fun st => ?_
  refine Tri.sub (A := fun _ => True) (d1 := 0) ?_ fun tn' _ => ?_
  · split
    · rename_i heq; exact absurd rfl heq
    · refine Tri.ite (fun _ => Tri.ret ⟨rfl, trivial⟩) fun _ => ?_
      split
      · split <;> exact Tri.ret ⟨rfl, trivial⟩
      · exact Tri.ret ⟨rfl, trivial⟩
  split
  · refine Tri.ite (fun _ => Tri.ret ⟨rfl, trivial⟩) fun _ => ?_
    exact (Tri.parseQuotedExpr _).seq fun e he => Tri.ret ⟨rfl, he⟩
  · exact Tri.ret ⟨rfl, trivial⟩

omit hz in
/-- the plural cases of parsePlural: the state is not touched; the cases and the default
    built from well-shaped switch cases are well shaped -/
theorem pluralCases_tri {F : Nat} : ∀ (cs acc : NodeList) (d : Option Node), (casesOK cs ∧ NPL S cs ∧ casesV EL S cs) →
    (pcasesOK acc ∧ NPL S acc) → (∀ d0, d = some d0 → listOK d0 ∧ NP S d0) →
    Tri (fHost AP EL S) N F 0 .b (pluralCases cs acc d) 0
      (B fun r => (pcasesOK r.1 ∧ NPL S r.1) ∧ ∀ d0, r.2 = some d0 → listOK d0 ∧ NP S d0)
  | .nil, acc, d, _, hacc, hd => by unfold pluralCases; exact Tri.ret ⟨rfl, hacc, hd⟩
  | .cons c rest, acc, d, ⟨hsc, hnp, hcv⟩, hacc, hd => by
    unfold casesOK at hsc
    simp only [NPL] at hnp
    simp only [casesV] at hcv
    unfold pluralCases
    split
    · rename_i pos values body
      have hb : listOK body := hsc.1
      have hnb := hnp.1
      simp only [NP] at hnb
      split
      · exact pluralCases_tri rest _ _ ⟨hsc.2, hnp.2, hcv.2⟩ hacc
          (fun d0 h => by simp only [Option.some.injEq] at h; subst h; exact ⟨hb, hnb.2.2⟩)
      · split
        · refine pluralCases_tri rest _ _ ⟨hsc.2, hnp.2, hcv.2⟩ ⟨?_, ?_⟩ hd
          · exact pcasesOK_append _ _ hacc.1 ⟨hb, trivial⟩
          · apply NPL_append _ _ hacc.2
            simp only [NPL, NP]
            exact ⟨⟨hnb.1, hnb.2.2⟩, trivial⟩
        · exact Tri.errorfAt hcv.1
    · rename_i hnot
      exfalso
      have := hsc.1
      split at this
      · rename_i p vs b; exact hnot p vs b rfl
      · exact this

end
end SoyVerif.Lemmas.ParserSafe
