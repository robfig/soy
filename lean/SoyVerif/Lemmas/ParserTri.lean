/-
  The program logic of the two parsers in the form the walks use: a judgement `Tri` indexed by where the parser
  stands relative to the next token (`Mode`).  It carries the invariant (`Inv` / `InvW`) and the fuel budget, so a
  walk over a parser function names no state and does no arithmetic: every rule computes the budget and the progress
  of what follows from those of the goal, and the side conditions are comparisons of numerals.

  The judgement is stated once, over a `Host`: a state-and-exception monad that runs the token-level actions of
  Model/Parser.lean on a part `π st` of its state.  The expression parser is the host `pHost` (the state IS the token
  state), the file parser `fHost` (`π := FState.p`, `lift := liftP`); a rule about `Hs.lift Parser.next >>= f` applies
  to `Parser.next >>= f` and to `FileParser.next >>= f` by unification.
-/
import SoyVerif.Lemmas.ParserPos

namespace SoyVerif.Lemmas.ParserSafe
open SoyVerif SoyVerif.Model SoyVerif.Model.Parser SoyVerif.Model.FileParser

/-- the errors `FSafe` (Lemmas/FileParserSafe.lean) admits -/
def ferr (AP : Prop) (EL : Lvl) (S : Item → Prop) : FErr → Prop
  | .err p => ErrOK EL S p
  | .panic => AP
  | .fuelOut => False

/-- where the token state sits in a larger state: what a token-level action is safe for on `π st` (`PSafe`), its lifted
    form is safe for on `st` -/
structure Host (AP : Prop) (EL : Lvl) (S : Item → Prop) (σ ε : Type) where
  π : σ → PState
  E : ε → Prop
  lift : {α : Type} → P α → StateT σ (Except ε) α
  safe : ∀ {α : Type} {x : P α} {st : σ} {Q : α → PState → Prop},
    PSafe AP EL S x (π st) Q → Safe E (lift x) st fun a st' => Q a (π st')

section
variable (AP : Prop) (EL : Lvl) (S : Item → Prop)

@[reducible] def pHost : Host AP EL S PState PErr where
  π := id
  E := perr AP EL S
  lift := id
  safe := psafe_iff.mp

@[reducible] def fHost : Host AP EL S FState FErr where
  π := FState.p
  E := ferr AP EL S
  lift := liftP
  safe := by
    intro α x st Q h
    unfold PSafe at h
    unfold Safe liftP
    cases hx : x st.p with
    | error e => rw [hx] at h; cases e <;> exact h
    | ok r => rw [hx] at h; exact h
end

/-- Where soy's parser stands relative to the token stream:
    * `b` — between two tokens: what comes next has not been looked at;
    * `p tok` — `tok` is the next token and has been looked at (`t.peek()`, or `t.backup()` after `t.next()`);
    * `h tok` — `t.next()` has returned `tok` and nothing has been decided about it: it may still be pushed back
      (`t.backup()`), and it may be the EOF / Error item that ends the stream;
    * `h2 t1 tok` — `t1` and then `tok` have been taken and nothing is backed up, the only position in which
      `t.backup2(t1)` is legal (the two-token look-ahead of parseCall and parseCallParams). -/
inductive Mode where
  | b
  | p (tok : Item)
  | h (tok : Item)
  | h2 (t1 tok : Item)

theorem TokS.top {S : Item → Prop} {st : PState} (h : TokS S st) : S (top st) := by
  unfold ParserSafe.top
  split
  · exact h.1
  · exact h.2.1

section
variable (EL : Lvl) (S : Item → Prop)

/-- the invariant of each position: `Inv` with nothing in hand, `InvW` with a token in hand, and then room to push it
    back (`peekCount ≤ 1` for `backup`, `= 0` for `backup2`); `h2` keeps `real t1 = 1` because the second `next` is only
    taken behind a real token (`Tri.next_h_then`) and `backup2` needs `t1` not to be the EOF item -/
def Mode.ok : Mode → PState → Prop
  | .b, st => Inv EL S st
  | .p tok, st => Inv EL S st ∧ S tok ∧ Hd st tok
  | .h tok, st => InvW EL S st ∧ S tok ∧ st.peekCount ≤ 1 ∧ top st = tok
  | .h2 t1 tok, st => InvW EL S st ∧ S tok ∧ st.peekCount = 0 ∧ top st = tok ∧ S t1 ∧ real t1 = 1

/-- the termination measure: the real tokens not yet accepted — those ahead (`mu`) and those in hand -/
def Mode.mu : Mode → PState → Nat
  | .b, st => ParserSafe.mu st
  | .p _, st => ParserSafe.mu st
  | .h tok, st => ParserSafe.mu st + real tok
  | .h2 _ tok, st => ParserSafe.mu st + real tok + 1
end

section
variable {AP : Prop} {EL : Lvl} {S : Item → Prop} {σ ε : Type}

/-- From mode `m` the action `x` is safe (`Safe`, with the errors of the host) on the budget `F`, provided
    `8·mu + c ≤ F`, and ends in a mode `m'` with `Q a m'`, at least `d` real tokens further on.  `8·mu + c` is the shape
    of every budget of `ExprSpecs` and `FileSpecs`: each loop iteration and each call level of parse.go uses one unit of
    fuel, and between two accepted tokens there are at most 8 of them, so an accepted token pays for 8 (`Tri.bind`,
    `Tri.up`); `c` covers the calls made before the first token is accepted.  `N` bounds the tokens ahead, for the
    separate budget of the expression parser inside the file parser. -/
def Tri (Hs : Host AP EL S σ ε) (N F c : Nat) (m : Mode) {α : Type} (x : StateT σ (Except ε) α) (d : Nat)
    (Q : α → Mode → Prop) : Prop :=
  ∀ st, m.ok EL S (Hs.π st) → m.mu (Hs.π st) ≤ N → 8 * m.mu (Hs.π st) + c ≤ F →
    Safe Hs.E x st fun a st' => ∃ m', Q a m' ∧ m'.ok EL S (Hs.π st') ∧ m'.mu (Hs.π st') + d ≤ m.mu (Hs.π st)
end

/-- exit between two tokens with a result that satisfies `A` -/
def B {α : Type} (A : α → Prop) : α → Mode → Prop := fun a m => m = .b ∧ A a

/-- exit with a token in hand -/
def H {α : Type} (A : α → Item → Prop) : α → Mode → Prop := fun a m => ∃ tok, m = .h tok ∧ A a tok

/-- exit with the token in hand that is returned (`skipComments`, `nextNonComment`, `orphanLoop`) -/
def T : Item → Mode → Prop := fun r m => m = .h r

section
variable {AP : Prop} {EL : Lvl} {S : Item → Prop} {σ ε : Type} {Hs : Host AP EL S σ ε}
variable {N F : Nat} {α β : Type} {c c' d d' d1 : Nat} {m : Mode}
variable {x : StateT σ (Except ε) α} {f : α → StateT σ (Except ε) β} {Q : α → Mode → Prop} {R : β → Mode → Prop}
  {A : α → Prop} {tok t1 : Item}

/-- the judgement used from a state whose measure is that of the state the goal speaks of -/
theorem Tri.at {m' : Mode} {y : StateT σ (Except ε) β} {st st' : σ} (h : Tri Hs N F c m' y d R) (hok : m'.ok EL S (Hs.π st'))
    (e : m'.mu (Hs.π st') = m.mu (Hs.π st)) (hn : m.mu (Hs.π st) ≤ N) (hF : 8 * m.mu (Hs.π st) + c ≤ F) :
    Safe Hs.E y st' fun b st2 => ∃ m2, R b m2 ∧ m2.ok EL S (Hs.π st2) ∧ m2.mu (Hs.π st2) + d ≤ m.mu (Hs.π st) :=
  e ▸ h st' hok (e ▸ hn) (e ▸ hF)

/-- what follows `x` has the budget constant of the whole plus 8 for each token `x` accepted, and owes the
    progress `x` did not make -/
theorem Tri.bind (hx : Tri Hs N F c' m x d1 Q)
    (hf : ∀ a m', Q a m' → Tri Hs N F (c + 8 * d1) m' (f a) (d - d1) R) (hc : c' ≤ c := by decide) :
    Tri Hs N F c m (x >>= f) d R := by
  intro st hok hn hF
  apply Safe.bind
  apply (hx st hok hn (by omega)).mono
  intro a st1 ⟨m1, hq, hok1, hm1⟩
  apply (hf a m1 hq st1 hok1 (by omega) (by omega)).mono
  intro b st2 ⟨m2, hr, hok2, hm2⟩
  exact ⟨m2, hr, hok2, by omega⟩

/-- `Tri.bind` for a first part with exit `B A` (`seqH`, `seqT`: exits `H`, `T`); `c'` is the constant `x` is specified
    at (that of a loop, of a field of `FileSpecs`), at most that of the whole -/
theorem Tri.seq (hx : Tri Hs N F c' m x d1 (B A))
    (hf : ∀ a, A a → Tri Hs N F (c + 8 * d1) .b (f a) (d - d1) R) (hc : c' ≤ c := by decide) :
    Tri Hs N F c m (x >>= f) d R :=
  hx.bind (fun a _ h => h.1 ▸ hf a h.2) hc

/-- `Tri.seq` at `c' = c`: a first part that is itself a block (an `if` that yields a value), walked on the budget of
    the whole -/
theorem Tri.sub (hx : Tri Hs N F c m x d1 (B A))
    (hf : ∀ a, A a → Tri Hs N F (c + 8 * d1) .b (f a) (d - d1) R) : Tri Hs N F c m (x >>= f) d R :=
  hx.seq hf (Nat.le_refl _)

theorem Tri.seqH {A : α → Item → Prop} (hx : Tri Hs N F c' m x d1 (H A))
    (hf : ∀ a tok, A a tok → Tri Hs N F (c + 8 * d1) (.h tok) (f a) (d - d1) R) (hc : c' ≤ c := by decide) :
    Tri Hs N F c m (x >>= f) d R :=
  hx.bind (fun a _ ⟨tok, hm, ha⟩ => hm ▸ hf a tok ha) hc

theorem Tri.seqT {x : StateT σ (Except ε) Item} {f : Item → StateT σ (Except ε) β} (hx : Tri Hs N F c' m x d1 T)
    (hf : ∀ tok, S tok → Tri Hs N F (c + 8 * d1) (.h tok) (f tok) (d - d1) R) (hc : c' ≤ c := by decide) :
    Tri Hs N F c m (x >>= f) d R := by
  intro st hok hn hF
  apply Safe.bind
  apply (hx st hok hn (by omega)).mono
  intro a st1 ⟨m1, hq, hok1, hm1⟩
  subst hq
  apply (hf a hok1.2.1 st1 hok1 (by omega) (by omega)).mono
  intro b st2 ⟨m2, hr, hok2, hm2⟩
  exact ⟨m2, hr, hok2, by omega⟩

theorem Tri.ret {a : α} (h : Q a m) : Tri Hs N F c m (pure a : StateT σ (Except ε) α) 0 Q :=
  fun _ hok _ _ => Safe.pure ⟨m, h, hok, Nat.le_refl _⟩

theorem Tri.map {A' : β → Prop} (h : Tri Hs N F c m x d (B A)) (g : α → β) (hg : ∀ a, A a → A' (g a)) :
    Tri Hs N F c m (x >>= fun a => pure (g a)) d (B A') :=
  fun st hok hn hF => Safe.bind ((h st hok hn hF).mono fun a _ ⟨m', hq, hok', hmu⟩ =>
    Safe.pure ⟨m', ⟨hq.1, hg a hq.2⟩, hok', hmu⟩)

theorem Tri.ret_p {a : α} (h : A a) : Tri Hs N F c (.p tok) (pure a : StateT σ (Except ε) α) 0 (B A) :=
  fun _ hok _ _ => Safe.pure ⟨.b, ⟨rfl, h⟩, hok.1, Nat.le_refl _⟩

theorem Tri.weak (h : Tri Hs N F c' m x d' Q) (hc : c' ≤ c := by decide) (hd : d ≤ d' := by decide) :
    Tri Hs N F c m x d Q := by
  intro st hok hn hF
  apply (h st hok hn (by omega)).mono
  intro a st1 ⟨m1, hq1, hok1, hm1⟩
  exact ⟨m1, hq1, hok1, by omega⟩

theorem Tri.ite {p : Prop} [Decidable p] {y : StateT σ (Except ε) α} (ht : p → Tri Hs N F c m x d Q)
    (hf : ¬p → Tri Hs N F c m y d Q) : Tri Hs N F c m (if p then x else y) d Q := by
  split
  · exact ht ‹_›
  · exact hf ‹_›

theorem Tri.zero : Tri Hs N 0 (c + 1) m x d Q :=
  fun _ _ _ hF => absurd hF (by omega)

/-- the body of a function at budget `F + 1` may spend `F` on its calls -/
theorem Tri.succ (h : Tri Hs N F c m x d Q) : Tri Hs N (F + 1) (c + 1) m x d Q :=
  fun st hok hn hF => h st hok hn (by omega)

theorem Tri.get {f : σ → StateT σ (Except ε) β} (h : ∀ s, Tri Hs N F c m (f s) d R) : Tri Hs N F c m (get >>= f) d R :=
  fun st hok hn hF => Safe.bind (x := MonadState.get) (h st st hok hn hF)

/-- what is changed outside the token state (the file parser's `namespace`, `aliases`, `inmsg`) is no part of the
    invariant -/
theorem Tri.modify {g : σ → σ} {f : PUnit → StateT σ (Except ε) β} (hg : ∀ s, Hs.π (g s) = Hs.π s)
    (h : Tri Hs N F c m (f PUnit.unit) d R) : Tri Hs N F c m (modify g >>= f) d R := by
  intro st hok hn hF
  apply Safe.bind (x := _root_.modify g)
  have e := hg st
  exact (h.at (m := m) (st := st) (e ▸ hok) (by rw [e]) hn hF)

/-- a token that was looked at need not be remembered -/
theorem Tri.of_p (h : Tri Hs N F c .b x d Q) : Tri Hs N F c (.p tok) x d Q :=
  fun st hok hn hF => h st hok.1 hn hF

/-- the token in hand is accepted: it is a real one, and it pays for 8 steps -/
theorem Tri.up (hr : real tok = 1) (h : Tri Hs N F (c + 8) .b x (d - 1) Q) : Tri Hs N F c (.h tok) x d Q := by
  intro st ⟨hi, hs, hpc, ht⟩ hn hF
  have e : (Mode.h tok).mu (Hs.π st) = ParserSafe.mu (Hs.π st) + 1 := by show _ + real tok = _; rw [hr]
  apply (h st (hi.up ht hr) (by show ParserSafe.mu (Hs.π st) ≤ N; omega)
    (by show 8 * ParserSafe.mu (Hs.π st) + (c + 8) ≤ F; omega)).mono
  intro a st1 ⟨m1, hq1, hok1, hm1⟩
  exact ⟨m1, hq1, hok1, by rw [e]; have : m1.mu (Hs.π st1) + (d - 1) ≤ ParserSafe.mu (Hs.π st) := hm1; omega⟩

/-- of two tokens in hand the first is accepted -/
theorem Tri.up2 (h : Tri Hs N F (c + 8) (.h tok) x (d - 1) Q) : Tri Hs N F c (.h2 t1 tok) x d Q := by
  intro st ⟨hi, hs, hpc, ht, _⟩ hn hF
  have e : (Mode.h2 t1 tok).mu (Hs.π st) = (Mode.h tok).mu (Hs.π st) + 1 := rfl
  apply (h st ⟨hi, hs, by omega, ht⟩ (by omega) (by omega)).mono
  intro a st1 ⟨m1, hq1, hok1, hm1⟩
  exact ⟨m1, hq1, hok1, by omega⟩

/-- a token-level action that fails: its rule is proved on `PState` and holds in every host -/
theorem Tri.fails {y : P α} (h : ∀ st, m.ok EL S (Hs.π st) → PSafe AP EL S y (Hs.π st) fun _ _ => False) :
    Tri Hs N F c m (Hs.lift y) d Q :=
  fun st hok _ _ => (Hs.safe (h st hok)).mono fun _ _ h => h.elim

theorem Tri.errorf : Tri Hs N F c m (Hs.lift Parser.errorf : StateT σ (Except ε) α) d Q := by
  refine Tri.fails fun st hok => ?_
  cases m with
  | b => exact errorf_safe (I := Inv EL S (Hs.π st)) hok
  | p tok => exact errorf_safe (I := Inv EL S (Hs.π st)) hok.1
  | h tok => exact errorf_safe (I := InvW EL S (Hs.π st)) hok.1
  | h2 t1 tok => exact errorf_safe (I := InvW EL S (Hs.π st)) hok.1

/-- `t.unexpected(tok, …)` on the token in hand -/
theorem Tri.unexpected : Tri Hs N F c (.h tok) (Hs.lift (Parser.unexpected tok) : StateT σ (Except ε) α) d Q :=
  Tri.fails fun _ ⟨hi, hs, _, ht⟩ => unexpected_safe hi hs ht

/-- … on a token accepted earlier -/
theorem Tri.unexpected_of (hs : S tok) (hv : EL.lex → valid tok) :
    Tri Hs N F c m (Hs.lift (Parser.unexpected tok) : StateT σ (Except ε) α) d Q :=
  Tri.fails fun _ _ => unexpected_safe' hs hv

/-- `t.unexpected(atTextStart(tok), …)` on the Text token in hand -/
theorem Tri.unexpected_textStart (htx : tok.typ = .tText) :
    Tri Hs N F c (.h tok) (Hs.lift (Parser.unexpected (atTextStart tok)) : StateT σ (Except ε) α) d Q :=
  Tri.fails fun _ ⟨hi, hs, _, ht⟩ => unexpected_textStart_safe hs (fun hl => ht ▸ hi.valid_top hl) htx

/-- a token-level action, then the rest: `h` says on `PState` what the action leaves (`next_safe`, `peek_safe`,
    `backup_safe` …), and the rest goes on from any state of the host with that token state -/
theorem Tri.lift_then {y : P α} {st : σ} {Q' : β → σ → Prop} (h : PSafe AP EL S y (Hs.π st) fun a p' =>
    ∀ st', Hs.π st' = p' → Safe Hs.E (f a) st' Q') : Safe Hs.E (Hs.lift y >>= f) st Q' :=
  Safe.bind ((Hs.safe h).mono fun _ st' h => h st' rfl)

/-- `s[1:]`, then the rest: no panic when `s` is not empty -/
theorem Tri.tail1_then {s : Bytes} {f : Bytes → StateT σ (Except ε) β} (hne : s = [] → AP)
    (hf : ∀ b r, s = b :: r → Tri Hs N F c m (f r) d R) : Tri Hs N F c m (Hs.lift (Parser.tail1 s) >>= f) d R :=
  fun st hok hn hF => Tri.lift_then (tail1_safe hne fun b r hs st' e =>
    (hf b r hs).at (m := m) (st := st) (e ▸ hok) (by rw [e]) hn hF)

theorem Tri.backup_then {f : Unit → StateT σ (Except ε) β} (hf : Tri Hs N F c (.p tok) (f ()) d R) :
    Tri Hs N F c (.h tok) (Hs.lift Parser.backup >>= f) d R := by
  intro st ⟨hi, hs, hpc, ht⟩ hn hF
  refine Tri.lift_then (backup_safe hi hpc fun p' hi' hm hd st' e => ?_)
  subst e
  rw [ht] at hm hd
  exact hf.at ⟨hi', hs, hd⟩ hm hn hF

/-- `backup2 t1` with `t1` and `tok` in hand: both are ahead again -/
theorem Tri.backup2_then {f : Unit → StateT σ (Except ε) β} (hf : Tri Hs N F c (.p t1) (f ()) d R) :
    Tri Hs N F c (.h2 t1 tok) (Hs.lift (Parser.backup2 t1) >>= f) d R := by
  intro st ⟨hi, hs, hpc, ht, h1, hr1⟩ hn hF
  refine Tri.lift_then (backup2_safe hi h1 (real_ne_eof hr1) (fun _ => real_valid hr1) hpc fun p' hi' hm hd st' e => ?_)
  subst e
  exact hf.at ⟨hi', h1, hd⟩ (by show ParserSafe.mu (Hs.π st') = _ + real tok + 1; rw [hm, ht, hr1]; omega) hn hF

variable (hz : S Item.zero)
include hz

theorem Tri.next_then {f : Item → StateT σ (Except ε) β} (hf : ∀ tok, S tok → Tri Hs N F c (.h tok) (f tok) d R) :
    Tri Hs N F c .b (Hs.lift Parser.next >>= f) d R := by
  intro st hok hn hF
  refine Tri.lift_then (next_safe hz hok fun it p' hi hs hpc ht hm _ st' e => ?_)
  subst e
  exact (hf it hs).at ⟨hi, hs, by have := hok.pc; omega, ht⟩ hm hn hF

theorem Tri.next_p_then {f : Item → StateT σ (Except ε) β} (hf : Tri Hs N F c (.h tok) (f tok) d R) :
    Tri Hs N F c (.p tok) (Hs.lift Parser.next >>= f) d R := by
  intro st hok hn hF
  refine Tri.lift_then (next_safe hz hok.1 fun it p' hi hs hpc ht hm he st' e => ?_)
  subst e
  have e := he tok hok.2.2
  subst e
  exact hf.at ⟨hi, hs, by have := hok.1.pc; omega, ht⟩ hm hn hF

/-- a second `next` while a real token is in hand: both are in hand -/
theorem Tri.next_h_then {f : Item → StateT σ (Except ε) β} (hr : real t1 = 1)
    (hf : ∀ tok, S tok → Tri Hs N F c (.h2 t1 tok) (f tok) d R) : Tri Hs N F c (.h t1) (Hs.lift Parser.next >>= f) d R := by
  intro st ⟨hi, hs, hpc, ht⟩ hn hF
  refine Tri.lift_then (next_safe hz (hi.up ht hr) fun it p' hi' hs' hpc' ht' hm _ st' e => ?_)
  subst e
  exact (hf it hs').at ⟨hi', hs', by omega, ht', hs, hr⟩
    (by show ParserSafe.mu (Hs.π st') + real it + 1 = ParserSafe.mu (Hs.π st) + real t1; omega) hn hF

theorem Tri.peek_then {f : Item → StateT σ (Except ε) β} (hf : ∀ tok, S tok → Tri Hs N F c (.p tok) (f tok) d R) :
    Tri Hs N F c .b (Hs.lift Parser.peek >>= f) d R := by
  intro st hok hn hF
  refine Tri.lift_then (peek_safe hz hok fun it p' hi hs hm hd _ st' e => ?_)
  subst e
  exact (hf it hs).at ⟨hi, hs, hd⟩ hm hn hF

/-- `expect`, then the rest with the expected token still in hand (parseCallParams may push it back) -/
theorem Tri.expect_then_h {t : ItemType} {f : Item → StateT σ (Except ε) β}
    (hf : ∀ it, S it → it.typ = t → Tri Hs N F c (.h it) (f it) d R) :
    Tri Hs N F c .b (Hs.lift (Parser.expect t) >>= f) d R := by
  intro st hok hn hF
  apply Tri.lift_then
  unfold Parser.expect
  apply PSafe.bind
  apply next_safe hz hok
  intro it p' hi hs hpc ht hm _
  apply PSafe.ite
  · exact fun _ => PSafe.bind (unexpected_safe hi hs)
  · intro hty st' e
    subst e
    exact (hf it hs (by simpa using hty)).at ⟨hi, hs, by have := hok.pc; omega, ht⟩ hm hn hF

/-- `expect` of a token type that does not end the stream: the token is accepted -/
theorem Tri.expect {t : ItemType} (hmid : midT t = true := by decide) :
    Tri Hs N F 0 .b (Hs.lift (Parser.expect t)) 1 (B fun it => S it ∧ it.typ = t) := by
  rw [← bind_pure (Hs.lift (Parser.expect t))]
  exact Tri.expect_then_h hz fun it hs hty => Tri.up (real_of_eq hty hmid) (Tri.ret ⟨rfl, hs, hty⟩)

end
end SoyVerif.Lemmas.ParserSafe
