/-
  The error-reporting walks of Model/CheckErr.lean accept exactly when the walks of Model/Check.lean do,
  and in the same state: `toC` forgets the error, and every function of the walk commutes with it.
-/
import SoyVerif.Model.CheckErr


namespace SoyVerif.Lemmas.CheckErrSim
open SoyVerif SoyVerif.Model SoyVerif.Model.Check SoyVerif.Model.CheckErr

/-- forget which error (`Props.C13c.eo` does it to a bare `Except`) -/
def toC {α : Type} (x : CE α) : C α := fun st =>
  match x st with
  | .ok r => some r
  | .error _ => none

theorem toC_pure {α : Type} (a : α) : toC (pure a : CE α) = (pure a : C α) := rfl

theorem toC_bind {α β : Type} (x : CE α) (f : α → CE β) : toC (x >>= f) = (toC x >>= fun a => toC (f a)) := by
  funext st
  simp only [toC, bind, StateT.bind, Except.bind, Option.bind]
  cases x st with
  | error e => rfl
  | ok r => rfl

theorem toC_get : toC (get : CE CState) = (get : C CState) := rfl
theorem toC_set (s : CState) : toC (set s : CE PUnit) = (set s : C PUnit) := rfl
theorem toC_modify (f : CState → CState) : toC (modify f : CE PUnit) = (modify f : C PUnit) := rfl
theorem toC_fail {α : Type} (k : ErrKind) : toC (CheckErr.fail k : CE α) = (reject : C α) := rfl

theorem toC_ite {α : Type} (c : Prop) [Decidable c] (a b : CE α) : toC (if c then a else b) = if c then toC a else toC b := by
  split <;> rfl

theorem filter_isEmpty {α : Type} (p : α → Bool) (l : List α) : (!(l.filter p).isEmpty) = l.any p := by
  induction l with
  | nil => rfl
  | cons a r ih =>
    simp only [List.filter_cons, List.any_cons]
    cases p a <;> simp [ih]

theorem map_filter_isEmpty {α β : Type} (p : α → Bool) (f : α → β) (l : List α) :
    (!((l.filter p).map f).isEmpty) = l.any p := by
  rw [← filter_isEmpty]; cases l.filter p <;> rfl

theorem toC_leaveScope (outer : Nat) : toC (leaveScopeE outer) = leaveScope outer := by
  funext st
  simp only [leaveScopeE, leaveScope, toC, bind, StateT.bind, get, getThe, MonadStateOf.get, StateT.get, pure, Except.pure,
    Except.bind, Option.bind, map_filter_isEmpty]
  cases (st.vars.drop outer).any (fun v => v.isLet && !v.used) <;> simp [CheckErr.fail, reject, set, StateT.set, pure, Except.pure]

theorem toC_visitKey (params : List Bytes) (key : Bytes) : toC (visitKeyE params key) = visitKey params key := by
  funext st
  unfold visitKeyE visitKey
  by_cases hk : (key == [105, 106]) = true
  · simp only [hk, if_true]; rfl
  · simp only [hk, if_false, Bool.false_eq_true]
    simp only [toC, bind, StateT.bind, get, getThe, MonadStateOf.get, StateT.get, pure, Except.pure, Except.bind, Option.bind]
    cases hm : markUsed key st.vars with
    | some v => simp [set, StateT.set, pure, Except.pure]
    | none =>
      cases params.contains key <;> simp [set, StateT.set, pure, Except.pure, CheckErr.fail, reject]

theorem toC_checkLet (name : Bytes) : toC (checkLetE name) = checkLet name := by
  unfold checkLetE checkLet
  split <;> rfl

theorem toC_checkLoopFunc (name : Bytes) (args : ExprList) :
    toC (checkLoopFuncE name args) = checkLoopFunc args := by
  funext st
  unfold checkLoopFuncE checkLoopFunc
  cases loopArg args with
  | none => rfl
  | some key =>
    simp only [toC, bind, StateT.bind, get, getThe, MonadStateOf.get, StateT.get, pure, Except.pure, Except.bind,
      Option.bind]
    cases isLoopVar st.vars key <;> rfl

theorem toC_declare (name : Bytes) (isLet : Bool) : toC (declareE name isLet) = declare name isLet := rfl

section
variable (reg : List Template) (params : List Bytes)

theorem toC_checkCall (name : Bytes) (allData hasData : Bool) (pk : List Bytes) :
    toC (checkCallE reg params name allData hasData pk) = checkCall reg params name allData hasData pk := by
  unfold checkCallE checkCall
  cases hf : reg.find? (fun t => t.name == name) with
  | none => rfl
  | some callee =>
    simp only [toC_bind, toC_modify]
    congr 1
    funext _
    simp only [filter_isEmpty, toC_ite, toC_fail, toC_pure]

/- In the walks below `show toC (_ >>= _) = (_ >>= _)` states the goal with both `do` blocks unfolded to their first
   bind (the equations of the mutual definitions hold by `rfl`), so that `toC_bind` can rewrite. -/
mutual
  theorem toC_checkExpr : ∀ e : Expr, toC (checkExprE params e) = checkExpr params e
    | .null _ => rfl
    | .bool _ _ => rfl
    | .int _ _ => rfl
    | .float _ _ => rfl
    | .str _ _ _ => rfl
    | .global _ _ => rfl
    | .dataRef _ key acc => by
      show toC (_ >>= _) = (_ >>= _)
      simp only [toC_bind, toC_visitKey, toC_get, toC_leaveScope, toC_checkAccesses acc]
    | .func _ name args => by
      show toC (_ >>= _) = (_ >>= _)
      simp only [toC_bind, toC_ite, toC_pure, toC_checkLoopFunc, toC_checkExprs args]
    | .list _ items => toC_checkExprs items
    | .map _ items => toC_checkMapItems items
    | .not _ a => toC_checkExpr a
    | .neg _ a => toC_checkExpr a
    | .bin _ _ a b => by
      show toC (_ >>= _) = (_ >>= _)
      simp only [toC_bind, toC_checkExpr a, toC_checkExpr b]
    | .tern _ c a b => by
      show toC (_ >>= _) = (_ >>= _)
      simp only [toC_bind, toC_checkExpr c, toC_checkExpr a, toC_checkExpr b]
  theorem toC_checkExprs : ∀ l : ExprList, toC (checkExprsE params l) = checkExprs params l
    | .nil => rfl
    | .cons e r => by
      show toC (_ >>= _) = (_ >>= _)
      simp only [toC_bind, toC_checkExpr e, toC_checkExprs r]
  theorem toC_checkMapItems : ∀ l : MapItems, toC (checkMapItemsE params l) = checkMapItems params l
    | .nil => rfl
    | .cons _ e r => by
      show toC (_ >>= _) = (_ >>= _)
      simp only [toC_bind, toC_checkExpr e, toC_checkMapItems r]
  theorem toC_checkAccesses : ∀ l : AccessList, toC (checkAccessesE params l) = checkAccesses params l
    | .nil => rfl
    | .cons (.expr _ _ e) r => by
      show toC (_ >>= _) = (_ >>= _)
      simp only [toC_bind, toC_checkExpr e, toC_checkAccesses r]
    | .cons (.key _ _ _) r => by
      show toC (_ >>= _) = (_ >>= _)
      simp only [toC_bind, toC_pure, toC_checkAccesses r]
    | .cons (.index _ _ _) r => by
      show toC (_ >>= _) = (_ >>= _)
      simp only [toC_bind, toC_pure, toC_checkAccesses r]
end

theorem toC_checkOptExpr : ∀ e : Option Expr, toC (checkOptExprE params e) = checkOptExpr params e
  | none => rfl
  | some e => toC_checkExpr params e

theorem toC_checkExprList : ∀ l : List Expr, toC (checkExprListE params l) = checkExprList params l
  | [] => rfl
  | e :: r => by
    show toC (_ >>= _) = (_ >>= _)
    simp only [toC_bind, toC_checkExpr params e, toC_checkExprList r]

theorem toC_inScope (x : CE Unit) (y : C Unit) (h : toC x = y) : toC (inScopeE x) = inScope y := by
  unfold inScopeE inScope
  simp only [toC_bind, toC_get, toC_leaveScope, h]

end

section
variable (reg : List Template) (params : List Bytes)

mutual
  theorem toC_checkCmd : ∀ c : Cmd, toC (checkCmdE reg params c) = checkCmd reg params c
    | .rawText .. => rfl
    | .debugger .. => rfl
    | .print _ a dirs =>
      toC_inScope _ _ (by simp only [toC_bind, toC_checkExpr params a, toC_checkDirs dirs])
    | .msg _ _ _ _ _ body => toC_inScope _ _ (toC_checkParts body)
    | .css _ e _ => toC_inScope _ _ (toC_checkOptExpr params e)
    | .log _ b => toC_inScope _ _ (toC_checkBlock b)
    | .ifc _ conds => toC_inScope _ _ (toC_checkConds conds)
    | .forc _ v l b none => by
      show toC (_ >>= _) = (_ >>= _)
      simp only [toC_bind, toC_checkExpr params l, toC_get, toC_declare, toC_checkBlock b, toC_leaveScope, toC_pure]
    | .forc _ v l b (some ie) => by
      show toC (_ >>= _) = (_ >>= _)
      simp only [toC_bind, toC_checkExpr params l, toC_get, toC_declare, toC_checkBlock b, toC_leaveScope, toC_checkBlock ie]
    | .switch _ v cases =>
      toC_inScope _ _ (by simp only [toC_bind, toC_checkExpr params v, toC_checkCases cases])
    | .call _ name allData d ps => by
      show toC (_ >>= _) = (_ >>= _)
      simp only [toC_bind, toC_checkCall]
      congr 1
      funext _
      exact toC_inScope _ _ (by simp only [toC_bind, toC_checkOptExpr params d, toC_checkParams ps])
    | .letValue _ name e => by
      show toC (_ >>= _) = (_ >>= _)
      simp only [toC_bind, toC_checkLet, toC_declare, toC_inScope _ _ (toC_checkExpr params e)]
    | .letContent _ name b => by
      show toC (_ >>= _) = (_ >>= _)
      simp only [toC_bind, toC_checkLet, toC_declare, toC_inScope _ _ (toC_checkBlock b)]
    | .headerParam .. => rfl
    | .namespace .. => rfl
    | .template _ _ b _ _ => toC_inScope _ _ (toC_checkBlock b)
    | .soyDoc .. => rfl
  theorem toC_checkBlock : ∀ b : Block, toC (checkBlockE reg params b) = checkBlock reg params b
    | .mk _ cmds => by
      show toC (_ >>= _) = (_ >>= _)
      simp only [toC_bind, toC_get, toC_leaveScope, toC_checkCmds cmds]
  theorem toC_checkCmds : ∀ cs : CmdList, toC (checkCmdsE reg params cs) = checkCmds reg params cs
    | .nil => rfl
    | .cons c r => by
      show toC (_ >>= _) = (_ >>= _)
      simp only [toC_bind, toC_checkCmd c, toC_checkCmds r]
  theorem toC_checkDirs : ∀ ds : List Directive, toC (checkDirsE reg params ds) = checkDirs reg params ds
    | [] => rfl
    | d :: r => by
      show toC (_ >>= _) = (_ >>= _)
      simp only [toC_bind, toC_inScope _ _ (toC_checkExprList params d.args), toC_checkDirs r]
  theorem toC_checkConds : ∀ cs : CondList, toC (checkCondsE reg params cs) = checkConds reg params cs
    | .nil => rfl
    | .cons _ c b r => by
      show toC (_ >>= _) = (_ >>= _)
      have h : toC (do checkOptExprE params c; checkBlockE reg params b) = (do checkOptExpr params c; checkBlock reg params b) := by
        simp only [toC_bind, toC_checkOptExpr params c, toC_checkBlock b]
      simp only [toC_bind, toC_inScope _ _ h, toC_checkConds r]
  theorem toC_checkCases : ∀ cs : CaseList, toC (checkCasesE reg params cs) = checkCases reg params cs
    | .nil => rfl
    | .cons _ vs b r => by
      show toC (_ >>= _) = (_ >>= _)
      have h : toC (do checkBlockE reg params b; checkExprListE params vs) = (do checkBlock reg params b; checkExprList params vs) := by
        simp only [toC_bind, toC_checkExprList params vs, toC_checkBlock b]
      simp only [toC_bind, toC_inScope _ _ h, toC_checkCases r]
  theorem toC_checkParams : ∀ ps : ParamList, toC (checkParamsE reg params ps) = checkParams reg params ps
    | .nil => rfl
    | .value _ _ e r => by
      show toC (_ >>= _) = (_ >>= _)
      simp only [toC_bind, toC_inScope _ _ (toC_checkExpr params e), toC_checkParams r]
    | .content _ _ b r => by
      show toC (_ >>= _) = (_ >>= _)
      simp only [toC_bind, toC_inScope _ _ (toC_checkBlock b), toC_checkParams r]
  theorem toC_checkParts : ∀ ps : MsgParts, toC (checkPartsE reg params ps) = checkParts reg params ps
    | .nil => rfl
    | .text _ _ r => toC_checkParts r
    | .ph _ _ (.htmlTag ..) r => by
      show toC (_ >>= _) = (_ >>= _)
      simp only [toC_bind, toC_inScope _ _ (toC_pure ()), toC_checkParts r]
    | .ph _ _ (.cmd c) r => by
      show toC (_ >>= _) = (_ >>= _)
      simp only [toC_bind, toC_inScope _ _ (toC_checkCmd c), toC_checkParts r]
    | .plural _ _ v cases _ d r => by
      show toC (_ >>= _) = (_ >>= _)
      have h : toC (do checkExprE params v; checkPlCasesE reg params cases; inScopeE (checkPartsE reg params d)) =
          (do checkExpr params v; checkPlCases reg params cases; inScope (checkParts reg params d)) := by
        simp only [toC_bind, toC_checkExpr params v, toC_checkPlCases cases, toC_inScope _ _ (toC_checkParts d)]
      simp only [toC_bind, toC_inScope _ _ h, toC_checkParts r]
  theorem toC_checkPlCases : ∀ cs : PluralCases, toC (checkPlCasesE reg params cs) = checkPlCases reg params cs
    | .nil => rfl
    | .cons _ _ _ b r => by
      show toC (_ >>= _) = (_ >>= _)
      simp only [toC_bind, toC_inScope _ _ (toC_inScope _ _ (toC_checkParts b)), toC_checkPlCases r]
end

end

theorem checkOneE_ok_iff (reg : List Template) (t : Template) : checkOneE reg t = .ok () ↔ checkOne reg t = true := by
  have h := toC_inScope _ _ (toC_checkBlock reg (t.params.map (·.name)) t.body)
  have hrun := congrFun h { vars := [], usedKeys := [] }
  unfold checkOneE checkOne
  simp only [StateT.run]
  simp only [toC] at hrun
  rw [← hrun]
  cases hx : inScopeE (checkBlockE reg (t.params.map (·.name)) t.body) { vars := [], usedKeys := [] } with
  | error k => simp
  | ok r =>
    obtain ⟨u, st⟩ := r
    simp only
    have := filter_isEmpty (fun p => !st.usedKeys.contains p) (t.params.map (·.name))
    cases hu : ((t.params.map (·.name)).filter (fun p => !st.usedKeys.contains p)).isEmpty
    · rw [hu] at this
      simp only [Bool.not_false] at this
      simp only [Bool.not_false, if_true]
      constructor
      · intro hh; cases hh
      · intro hh
        rw [List.all_eq_true] at hh
        obtain ⟨p, hp, hpn⟩ := List.any_eq_true.1 this.symm
        have := hh p hp
        exact absurd (by simpa using this) (by simpa using hpn)
    · rw [hu] at this
      simp only [Bool.not_true] at this
      simp only [Bool.not_true, Bool.false_eq_true, if_false, true_iff]
      rw [List.all_eq_true]
      intro p hp
      have hn := List.any_eq_false.1 this.symm p hp
      simpa using hn

end SoyVerif.Lemmas.CheckErrSim
