/-
  The checker's walk over commands: `checkCmd` / `checkBlock` / … succeed exactly on the
  constructs the specification calls well-scoped (`Spec.OkCmd` …), and then mark exactly their
  free reference occurrences (`Spec.refsCmd` …).  Mutual structural induction over the tree.
-/
import SoyVerif.Lemmas.CheckRefs

namespace SoyVerif.Lemmas.Check
open SoyVerif SoyVerif.Model SoyVerif.Model.Check SoyVerif.Spec

theorem Framed.of_exec_eq {m m' : C Unit} {P : Env → Prop} {T : Env → List Target} {D : List Spec.Binding}
    (h : Framed m' P T D) (he : ∀ st, exec m st = exec m' st) : Framed m P T D := by
  intro st st'
  rw [he, h st st']

/-- the body of a loop: the loop variable is in scope in the body only and need not be used -/
theorem Framed.loopBody {B : C Unit} {Q : Env → Prop} {U : Env → List Target} (v : Bytes)
    (hB : Framed B Q U []) :
    Framed (get >>= fun st => (Check.declare v false >>= fun _ => B) >>= fun _ => leaveScope st.vars.length)
      (fun env => Q (env ++ [{ name := v, isLet := false }]))
      (fun env => (U (env ++ [{ name := v, isLet := false }])).filter (Target.below env.length)) [] := by
  refine ((Framed.declare v false).seq hB).scope.congr (fun env => ?_) (fun env => by simp)
  have : AllUsed env.length [{ name := v, isLet := false }]
      (U (env ++ [{ name := v, isLet := false }])) := by
    intro j b hj hb
    cases j with
    | zero => simp at hj; subst hj; simp at hb
    | succ j => simp at hj
  simp [this]

/-- `{for}` / `{foreach}`: list, then the body under the loop variable, then `ifempty` -/
theorem Framed.forLoop {L B I : C Unit} {P Q R : Env → Prop} {T U W : Env → List Target} (v : Bytes)
    (hL : Framed L P T []) (hB : Framed B Q U []) (hI : Framed I R W []) :
    Framed (L >>= fun _ => get >>= fun st => Check.declare v false >>= fun _ => B >>= fun _ =>
        leaveScope st.vars.length >>= fun _ => I)
      (fun env => P env ∧ (Q (env ++ [{ name := v, isLet := false }]) ∧ R env))
      (fun env => T env ++ ((U (env ++ [{ name := v, isLet := false }])).filter (Target.below env.length)
        ++ W env)) [] := by
  refine (hL.seq0 ((Framed.loopBody v hB).seq0 hI)).of_exec_eq (fun st => ?_)
  simp only [exec_bind, exec_get_bind, Option.bind_assoc]

def decls : CmdList → List Spec.Binding
  | .nil => []
  | .cons c r => decl c ++ decls r

section
variable (reg : List Check.Template) (params : List Bytes)

/-- every command of the list is well-scoped in its environment: `Spec.OkCmds` without R3, the let-used rule,
    which the checker tests only when it leaves the list (`OkCmds_iff`) -/
def cmdsOk (env : Env) : CmdList → Prop
  | .nil => True
  | .cons c r => OkCmd reg params env c ∧ cmdsOk (env ++ decl c) r

/-- R3 for a command list, as the checker sees it when it leaves the list.  The specification asks for a use of each
    let among the commands AFTER it, the checker looks at the marks left by the whole list: the two agree because
    the references of the let's own command and of those before it lie below the let (`refsCmd_below`). -/
theorem OkCmds_iff : (cs : CmdList) → (env : Env) →
    (OkCmds reg params env cs
      ↔ cmdsOk reg params env cs ∧ AllUsed env.length (decls cs) (refsCmds reg params env cs))
  | .nil, env => by simp [OkCmds, cmdsOk, decls, AllUsed_nil]
  | .cons c r, env => by
    simp only [OkCmds, cmdsOk, decls, refsCmds, OkCmds_iff r (env ++ decl c), LetUsed]
    rw [AllUsed_append_left (refsCmd_below c env)]
    rcases decl_cases c with h | ⟨name, h⟩
    · simp [h, and_assoc]
    · simp only [h, ne_eq, List.cons_ne_self, not_false_eq_true, true_implies, List.length_append,
        List.length_cons, List.length_nil, List.singleton_append, AllUsed_cons]
      constructor
      · rintro ⟨h1, h2, h3, h4⟩
        exact ⟨⟨h1, h3⟩, h2, h4⟩
      · rintro ⟨⟨h1, h3⟩, h2, h4⟩
        exact ⟨h1, h2, h3, h4⟩

theorem paramKeys_eq : (ps : ParamList) → paramKeys ps = callKeys ps
  | .nil => rfl
  | .value _ k _ r => by simp [paramKeys, callKeys, paramKeys_eq r]
  | .content _ k _ r => by simp [paramKeys, callKeys, paramKeys_eq r]

end

section
variable {reg : List Check.Template} {params : List Bytes}

/-- `{let}`: the value or content `m` is walked in a scope of its own, outside the scope of the variable — so its
    targets lie below (`hT`) — and only then is the variable declared -/
theorem Framed.letCmd {m : C Unit} {P : Env → Prop} {T : Env → List Target} (name : Bytes)
    (h : Framed m P T []) (hT : ∀ env, Below env.length (T env)) :
    Framed (Check.checkLet name >>= fun _ => Check.inScope m >>= fun _ => Check.declare name true)
      (fun env => LetNameOk name ∧ P env) T [{ name := name, isLet := true }] := by
  refine ((Framed.checkLet name).seqD (h.inScope.seqD (Framed.declare name true) ?_) ?_).congr ?_ ?_
  · exact fun env => (hT env).mono (Nat.le_add_right _ _)
  · intro env t ht
    cases ht
  · intro env
    simp
  · intro env
    simp

/-- a closed construct inside `inScope`: nothing it declares can be used -/
theorem Framed.scopeCmd {m : C Unit} {c : Cmd}
    (h : Framed m (fun env => OkCmd reg params env c) (fun env => refsCmd reg params env c) (decl c)) :
    Framed (Check.inScope m) (fun env => OkCmd reg params env c ∧ decl c = [])
      (fun env => refsCmd reg params env c) [] := by
  refine h.scope.congr (fun env => ?_) (fun env => ((refsCmd_below c env).filter_eq).symm)
  rcases decl_cases c with hd | ⟨name, hd⟩
  · simp [hd, AllUsed_nil]
  · have : ¬ AllUsed env.length [{ name := name, isLet := true }] (refsCmd reg params env c) := by
      intro hu
      exact (refsCmd_below c env).not_mem (j := 0) (hu 0 { name := name, isLet := true } (by simp) rfl)
    simp [hd, this]

/- Each case below is the matching equation of `checkCmd`, `OkCmd`, `refsCmd` and `decl` read through the rules of
   `Framed`; the equations hold by unfolding, and where the unifier does not find them `simp only` states them. -/
mutual
  theorem framed_cmd : (c : Cmd) →
      Framed (checkCmd reg params c) (fun env => OkCmd reg params env c)
        (fun env => refsCmd reg params env c) (decl c)
    | .rawText .. => Framed.pure
    | .debugger .. => Framed.pure
    | .namespace .. => Framed.pure
    | .soyDoc .. => Framed.pure
    | .headerParam .. => Framed.reject
    | .print _ a dirs =>
      ((framed_expr a).seq (framed_dirs reg dirs)).inScope
    | .msg _ _ _ _ _ body =>
      (framed_parts body).inScope
    | .css _ e _ =>
      (framed_optExpr e).inScope
    | .log _ b =>
      (framed_block b).inScope
    | .ifc _ conds =>
      (framed_conds conds).inScope
    | .forc _ v l b (some b') =>
      Framed.forLoop v (framed_expr l) (framed_block b) (framed_block b')
    | .forc _ v l b none =>
      Framed.forLoop v (framed_expr l) (framed_block b) Framed.pure
    | .switch _ v cases =>
      ((framed_expr v).seq0 (framed_cases cases)).inScope
    | .call _ name allData d ps => by
      simp only [checkCmd, OkCmd, refsCmd, decl, paramKeys_eq]
      exact (Framed.checkCall reg params name allData d.isSome (callKeys ps)).seq0
        ((framed_optExpr d).seq0 (framed_params ps)).inScope
    | .letValue _ name e =>
      Framed.letCmd name (framed_expr e) (fun _ => Below.refsKeys _ _ _)
    | .letContent _ name b =>
      Framed.letCmd name (framed_block b) (fun env => refsBlock_below env b)
    | .template _ _ b _ _ =>
      (framed_block b).inScope
  theorem framed_block : (b : Block) →
      Framed (checkBlock reg params b) (fun env => OkBlock reg params env b)
        (fun env => refsBlock reg params env b) []
    | .mk _ cmds => by
      simp only [checkBlock, OkBlock, refsBlock]
      exact (framed_cmds cmds).scope.congr (fun env => OkCmds_iff reg params cmds env) (fun _ => rfl)
  theorem framed_cmds : (cs : CmdList) →
      Framed (checkCmds reg params cs) (fun env => cmdsOk reg params env cs)
        (fun env => refsCmds reg params env cs) (decls cs)
    | .nil => Framed.pure
    | .cons c r => by
      simp only [checkCmds, cmdsOk, refsCmds, decls]
      refine (framed_cmd c).seqD (framed_cmds r) ?_
      intro env t ht
      exact Target.below_mono (refsCmd_below c env t ht) (Nat.le_add_right _ _)
  theorem framed_conds : (cs : CondList) →
      Framed (checkConds reg params cs) (fun env => OkConds reg params env cs)
        (fun env => refsConds reg params env cs) []
    | .nil => Framed.pure
    | .cons _ c b r =>
      ((framed_optExpr c).seq0 (framed_block b)).inScope.seq0 (framed_conds r)
  theorem framed_cases : (cs : CaseList) →
      Framed (checkCases reg params cs) (fun env => OkCases reg params env cs)
        (fun env => refsCases reg params env cs) []
    | .nil => Framed.pure
    | .cons _ vs b r =>
      ((framed_block b).seq0 (framed_exprList vs)).inScope.seq0 (framed_cases r)
  theorem framed_params : (ps : ParamList) →
      Framed (checkParams reg params ps) (fun env => OkParams reg params env ps)
        (fun env => refsParams reg params env ps) []
    | .nil => Framed.pure
    | .value _ _ e r =>
      (framed_expr e).inScope.seq0 (framed_params r)
    | .content _ _ b r =>
      (framed_block b).inScope.seq0 (framed_params r)
  theorem framed_parts : (ps : MsgParts) →
      Framed (checkParts reg params ps) (fun env => OkParts reg params env ps)
        (fun env => refsParts reg params env ps) []
    | .nil => Framed.pure
    | .text _ _ r => framed_parts r
    | .ph _ _ (.htmlTag ..) r =>
      Framed.pure.inScope.seq0 (framed_parts r)
    | .ph _ _ (.cmd c) r =>
      (framed_cmd c).scopeCmd.seq0 (framed_parts r)
    | .plural _ _ v cases _ d r =>
      ((framed_expr v).seq0 ((framed_plCases cases).seq0 (framed_parts d).inScope)).inScope.seq0
          (framed_parts r)
  theorem framed_plCases : (cs : PluralCases) →
      Framed (checkPlCases reg params cs) (fun env => OkPlCases reg params env cs)
        (fun env => refsPlCases reg params env cs) []
    | .nil => Framed.pure
    | .cons _ _ _ b r =>
      (framed_parts b).inScope.inScope.seq0 (framed_plCases r)
end

end

end SoyVerif.Lemmas.Check
