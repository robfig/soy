/-
  The OUTPUT SHAPE of the soft-float formatters of Base/F64.lean, for every finite double:
  `F64.format` (Go's 'g', -1) and `F64.formatJS` (ECMAScript Number::toString) write
      [-] digits [ . digits ] [ e (+|-) digits ]
  with a non-empty integer part without leading zero — statements about the digit lists produced by
  `shortest` / `natDigits` / `fmtE` / `fmtEJS` / `fmtF`, not about numeric correctness (which the
  bit-for-bit correspondence C20f64 covers).  Consequences: the hypothesis `FloatsOk` of C16b holds of
  every value whose floats are finite, and `floatSpelling` of C17b holds of every finite float literal
  printed with `F64.format`.
-/
import SoyVerif.Base.F64
import SoyVerif.Lemmas.LexPrintNames
import SoyVerif.Lemmas.JsonValue

namespace SoyVerif.Lemmas.F64Shape
open SoyVerif SoyVerif.Lemmas.LexPrint

theorem allDig_of_json {ds : Bytes} (h : SoyVerif.Lemmas.JsonValue.AllDigits ds) : AllDig ds := h

theorem natDigits_noLead {n : Nat} (h : n ≠ 0) : (F64.natDigits n).head? ≠ some 48 := by
  obtain ⟨_, _, hz, hv⟩ := SoyVerif.Lemmas.NatDigits.natDigits_shape n
  rcases hz with e | e
  · rw [e] at hv
    exact absurd hv.symm h
  · exact e

theorem allDig_zeros : ∀ n, AllDig (F64.zeros n)
  | 0 => by intro b hb; simp [F64.zeros] at hb
  | n + 1 => by
    intro b hb
    simp only [F64.zeros, List.mem_cons] at hb
    rcases hb with rfl | hb
    · decide
    · exact allDig_zeros n b hb

theorem allDig_append {a b : Bytes} (ha : AllDig a) (hb : AllDig b) : AllDig (a ++ b) := by
  intro x hx
  rcases List.mem_append.1 hx with h | h
  · exact ha x h
  · exact hb x h

theorem allDig_take {a : Bytes} (n : Nat) (ha : AllDig a) : AllDig (a.take n) :=
  fun x hx => ha x (List.mem_of_mem_take hx)

theorem allDig_drop {a : Bytes} (n : Nat) (ha : AllDig a) : AllDig (a.drop n) :=
  fun x hx => ha x (List.mem_of_mem_drop hx)

/-- a decimal text `[-]int[.frac][e±exp]` with a non-empty integer part without leading zero -/
def DecShape (lit : Bytes) : Prop :=
  ∃ sg ds frac ex, lit = sg ++ (ds ++ (frac ++ ex)) ∧ (sg = [] ∨ sg = [45]) ∧ ds ≠ [] ∧ AllDig ds ∧ NoLeadZero ds ∧
    FracOk frac ∧ ExpOk ex

theorem sign_ok (neg : Bool) : ((if neg then [45] else []) : Bytes) = [] ∨ ((if neg then [45] else []) : Bytes) = [45] := by
  cases neg <;> simp

theorem fmtF_shape (neg : Bool) (digs : Bytes) (dp : Int) (hne : digs ≠ []) (hd : AllDig digs)
    (hz : digs.head? ≠ some 48) : DecShape (F64.fmtF neg digs dp) := by
  unfold F64.fmtF
  simp only
  by_cases h0 : 0 < dp
  · simp only [h0, if_true]
    by_cases h1 : (digs.length : Int) ≤ dp
    · simp only [h1, if_true]
      refine ⟨_, digs ++ F64.zeros (dp - digs.length).toNat, [], [], by simp, sign_ok neg, by simp [hne],
        allDig_append hd (allDig_zeros _), ?_, Or.inl rfl, Or.inl rfl⟩
      right
      cases digs with
      | nil => exact absurd rfl hne
      | cons a r => simpa using hz
    · simp only [h1, if_false]
      have hcast : (dp.toNat : Int) = dp := Int.toNat_of_nonneg (by omega)
      have hlt : dp.toNat < digs.length := by omega
      have hpos : 0 < dp.toNat := by omega
      refine ⟨_, digs.take dp.toNat, 46 :: digs.drop dp.toNat, [], by simp, sign_ok neg, ?_, allDig_take _ hd, ?_,
        Or.inr ⟨_, rfl, ?_, allDig_drop _ hd⟩, Or.inl rfl⟩
      · intro e
        have := congrArg List.length e
        rw [List.length_take, List.length_nil] at this; omega
      · right
        cases digs with
        | nil => exact absurd rfl hne
        | cons a r =>
          obtain ⟨k, hk⟩ : ∃ k, dp.toNat = k + 1 := ⟨dp.toNat - 1, by omega⟩
          rw [hk]; simpa using hz
      · intro e
        have := congrArg List.length e
        rw [List.length_drop, List.length_nil] at this; omega
  · simp only [h0, if_false]
    have hnd : ((digs.length : Int) == 0) = false := by
      cases digs with
      | nil => exact absurd rfl hne
      | cons a r => simp; omega
    simp only [hnd, Bool.false_eq_true, if_false]
    refine ⟨_, [48], 46 :: (F64.zeros (-dp).toNat ++ digs), [], by simp, sign_ok neg, by simp, ?_, Or.inl rfl,
      Or.inr ⟨_, rfl, by simp [hne], allDig_append (allDig_zeros _) hd⟩, Or.inl rfl⟩
    intro b hb; simp at hb; subst hb; decide

theorem single_noLead (d : UInt8) : NoLeadZero [d] := by
  by_cases h : d = 48
  · subst h; exact Or.inl rfl
  · right; simpa using h

/-- the mantissa part `d[.ddd]` of the exponent layouts -/
def mantText : Bytes → Bytes
  | [] => [48]
  | [d] => [d]
  | d :: r => d :: 46 :: r

theorem mant_shape : (digs : Bytes) → digs ≠ [] → AllDig digs →
    ∃ ds frac, mantText digs = ds ++ frac ∧ ds ≠ [] ∧ AllDig ds ∧ NoLeadZero ds ∧ FracOk frac
  | [], hne, _ => absurd rfl hne
  | [d], _, hd => ⟨[d], [], by simp [mantText], by simp, hd, single_noLead d, Or.inl rfl⟩
  | d :: e :: r, _, hd => by
    refine ⟨[d], 46 :: e :: r, by simp [mantText], by simp, ?_, single_noLead d, Or.inr ⟨e :: r, rfl, by simp, ?_⟩⟩
    · intro b hb; simp at hb; subst hb; exact hd b (by simp)
    · intro b hb; exact hd b (by simp [hb])

theorem exp_sign (e : Int) : IsSign [if e < 0 then (45 : UInt8) else 43] := by
  by_cases h : e < 0
  · simp [h, IsSign]
  · simp [h, IsSign]

theorem exp_shape (neg : Bool) (digs ed : Bytes) (e : Int) (hne : digs ≠ []) (hd : AllDig digs) (hen : ed ≠ []) (hea : AllDig ed) :
    DecShape ((if neg then [45] else []) ++ mantText digs ++ [101, if e < 0 then 45 else 43] ++ ed) := by
  obtain ⟨ds, frac, hm, h1, h2, h3, h4⟩ := mant_shape digs hne hd
  rw [hm]
  exact ⟨_, ds, frac, 101 :: ([if e < 0 then 45 else 43] ++ ed), by simp, sign_ok neg, h1, h2, h3, h4,
    Or.inr ⟨_, _, rfl, exp_sign _, hen, hea⟩⟩

theorem fmtE_shape (neg : Bool) (digs : Bytes) (dp : Int) (hne : digs ≠ []) (hd : AllDig digs) :
    DecShape (F64.fmtE neg digs dp) := by
  obtain ⟨en, ea, _, _⟩ := SoyVerif.Lemmas.NatDigits.natDigits_shape (dp - 1).natAbs
  have hE : F64.fmtE neg digs dp = (if neg then [45] else []) ++ mantText digs ++ [101, if dp - 1 < 0 then 45 else 43] ++
      (if (F64.natDigits (dp - 1).natAbs).length < 2 then 48 :: F64.natDigits (dp - 1).natAbs else F64.natDigits (dp - 1).natAbs) := by
    unfold F64.fmtE mantText
    cases digs with
    | nil => rfl
    | cons d r => cases r <;> rfl
  rw [hE]
  apply exp_shape neg digs _ (dp - 1) hne hd
  · split
    · exact List.cons_ne_nil _ _
    · exact en
  · split
    · intro b hb
      rcases List.mem_cons.1 hb with rfl | hb
      · decide
      · exact ea b hb
    · exact ea

theorem fmtEJS_shape (neg : Bool) (digs : Bytes) (dp : Int) (hne : digs ≠ []) (hd : AllDig digs) :
    DecShape (F64.fmtEJS neg digs dp) := by
  obtain ⟨en, ea, _, _⟩ := SoyVerif.Lemmas.NatDigits.natDigits_shape (dp - 1).natAbs
  have hE : F64.fmtEJS neg digs dp = (if neg then [45] else []) ++ mantText digs ++ [101, if dp - 1 < 0 then 45 else 43] ++
      F64.natDigits (dp - 1).natAbs := by
    unfold F64.fmtEJS mantText
    cases digs with
    | nil => rfl
    | cons d r => cases r <;> rfl
  rw [hE]
  exact exp_shape neg digs _ (dp - 1) hne hd en ea


theorem stripZeros_ne : ∀ (fuel c : Nat) (k : Int), c ≠ 0 → (F64.stripZeros fuel c k).1 ≠ 0
  | 0, c, k, h => h
  | fuel + 1, c, k, h => by
    unfold F64.stripZeros
    split
    · rename_i hc
      simp only [Bool.and_eq_true, bne_iff_ne, ne_eq, beq_iff_eq] at hc
      exact stripZeros_ne fuel (c / 10) (k + 1) (by omega)
    · exact h

theorem shortestAt_ne {lo x up dd : Nat} {inc : Bool} {k : Int} {c : Nat}
    (h : F64.shortestAt lo x up dd inc k = some c) : c ≠ 0 := by
  unfold F64.shortestAt at h
  simp only at h
  split at h
  · exact absurd h (by simp)
  · rename_i h0 _
    simp only [Option.some.injEq] at h
    subst h
    simp only [Bool.and_eq_true, bne_iff_ne, ne_eq] at h0
    exact h0.1
  · rename_i _ h1
    simp only [Option.some.injEq] at h
    subst h
    simp only [Bool.and_eq_true, bne_iff_ne, ne_eq] at h1
    exact h1.1
  · rename_i h0 h1
    simp only [Bool.and_eq_true, bne_iff_ne, ne_eq] at h0 h1
    split at h
    · simp only [Option.some.injEq] at h; subst h; exact h0.1
    · split at h
      · simp only [Option.some.injEq] at h; subst h; exact h1.1
      · split at h
        · simp only [Option.some.injEq] at h; subst h; exact h0.1
        · simp only [Option.some.injEq] at h; subst h; exact h1.1

theorem shortestSearch_ne : ∀ (fuel lo x up dd : Nat) (inc : Bool) (k : Int), x ≠ 0 →
    (F64.shortestSearch fuel lo x up dd inc k).1 ≠ 0
  | 0, _, x, _, _, _, _, h => h
  | fuel + 1, lo, x, up, dd, inc, k, h => by
    unfold F64.shortestSearch
    split
    · rename_i c hc; exact shortestAt_ne hc
    · exact shortestSearch_ne fuel lo x up dd inc (k - 1) h

theorem mant_ne (x : F64) (hz : x.isZero = false) : x.mant ≠ 0 := by
  unfold F64.mant
  split
  · rename_i he
    simp only [F64.expField, beq_iff_eq] at he
    simp only [F64.isZero, beq_eq_false_iff_ne, ne_eq] at hz
    simp only [F64.frac]
    have : x.mag < F64.two52 := by
      have h52 : 0 < F64.two52 := by decide
      exact (Nat.div_eq_zero_iff_lt h52).1 he
    rw [Nat.mod_eq_of_lt this]; exact hz
  · simp only [F64.two52]; omega

theorem shortest_ne (x : F64) (hz : x.isZero = false) : (F64.shortest x).1 ≠ 0 := by
  have hm := mant_ne x hz
  unfold F64.shortest
  simp only
  apply stripZeros_ne
  apply shortestSearch_ne
  have : 0 < 2 ^ (x.exp2 - 2).toNat := Nat.pow_pos (by decide)
  exact Nat.ne_of_gt (Nat.mul_pos (by omega) this)

theorem zero_shape (neg : Bool) : DecShape ((if neg then [45, 48] else [48]) : Bytes) := by
  have d0 : AllDig [48] := by intro b hb; simp at hb; subst hb; decide
  cases neg
  · exact ⟨[], [48], [], [], rfl, Or.inl rfl, by simp, d0, Or.inl rfl, Or.inl rfl, Or.inl rfl⟩
  · exact ⟨[45], [48], [], [], rfl, Or.inr rfl, by simp, d0, Or.inl rfl, Or.inl rfl, Or.inl rfl⟩

theorem format_shape (x : F64) (hn : x.isNaN = false) (hi : x.isInf = false) : DecShape x.format := by
  unfold F64.format
  simp only [hn, hi, Bool.false_eq_true, if_false]
  by_cases hz : x.isZero = true
  · simp only [hz, if_true]; exact zero_shape x.sign
  · have hz' : x.isZero = false := by simpa using hz
    simp only [hz', Bool.false_eq_true, if_false]
    have hc := shortest_ne x hz'
    obtain ⟨h1, h2, _, _⟩ := SoyVerif.Lemmas.NatDigits.natDigits_shape (F64.shortest x).1
    have hd := natDigits_noLead hc
    -- name the pair `shortest x` and its components, so that the `let (c, k) := …` of the formatter reduces
    generalize F64.shortest x = ck at *
    obtain ⟨c, k⟩ := ck
    simp only at *
    split
    · exact fmtE_shape _ _ _ h1 h2
    · exact fmtF_shape _ _ _ h1 h2 hd

theorem formatJS_shape (x : F64) (hn : x.isNaN = false) (hi : x.isInf = false) : DecShape x.formatJS := by
  unfold F64.formatJS
  simp only [hn, hi, Bool.false_eq_true, if_false]
  by_cases hz : x.isZero = true
  · simp only [hz, if_true]; exact zero_shape false
  · have hz' : x.isZero = false := by simpa using hz
    simp only [hz', Bool.false_eq_true, if_false]
    have hc := shortest_ne x hz'
    obtain ⟨h1, h2, _, _⟩ := SoyVerif.Lemmas.NatDigits.natDigits_shape (F64.shortest x).1
    have hd := natDigits_noLead hc
    generalize F64.shortest x = ck at *
    obtain ⟨c, k⟩ := ck
    simp only at *
    split
    · exact fmtEJS_shape _ _ _ h1 h2
    · exact fmtF_shape _ _ _ h1 h2 hd


open SoyVerif.Lemmas.JsonValue in
theorem jnum_of_decShape {lit : Bytes} (h : DecShape lit) : JNum lit := by
  obtain ⟨sg, ds, frac, ex, rfl, hsg, hne, hd, hz, hf, hx⟩ := h
  refine ⟨sg, ds, frac, ex, rfl, hsg, hne, hd, hz, ?_, ?_⟩
  · rcases hf with rfl | ⟨fs, rfl, h1, h2⟩
    · exact Or.inl rfl
    · exact Or.inr ⟨fs, rfl, h1, h2⟩
  · rcases hx with rfl | ⟨sgn, es, rfl, h1, h2, h3⟩
    · exact Or.inl rfl
    · exact Or.inr ⟨101, sgn, es, rfl, Or.inl rfl, h1, h2, h3⟩

open SoyVerif.Model.JsonMarshal SoyVerif.Lemmas.JsonValue in
theorem jsonFloat_finite (x : F64) (hn : x.isNaN = false) (hi : x.isInf = false) :
    ∃ lit, jsonFloat x = some lit ∧ JNum lit := by
  unfold jsonFloat
  simp only [hn, hi, Bool.or_self, Bool.false_eq_true, if_false]
  by_cases hz : x.isZero = true
  · simp only [hz, if_true]
    exact ⟨_, rfl, jnum_of_decShape (zero_shape x.sign)⟩
  · simp only [hz]
    exact ⟨_, rfl, jnum_of_decShape (formatJS_shape x hn hi)⟩


theorem dig_ne {d : UInt8} (h : isDig d = true) : d ≠ 45 ∧ d ≠ 46 ∧ d ≠ 101 ∧ d ≠ 43 ∧ d ≠ 73 ∧ d ≠ 78 := by
  have := isDig_nat h
  refine ⟨?_, ?_, ?_, ?_, ?_, ?_⟩ <;> (rintro rfl; simp at this)

theorem expTail_of {ex : Bytes} (hx : ExpOk ex) (allow : Bool) (ha : ex = [] → allow = true) : expTail ex allow = true := by
  rcases hx with rfl | ⟨sgn, es, rfl, hs, hne, hd⟩
  · simp [expTail, ha rfl]
  · obtain ⟨e0, es', rfl⟩ : ∃ e0 es', es = e0 :: es' := by
      cases es with
      | nil => exact absurd rfl hne
      | cons a b => exact ⟨a, b, rfl⟩
    have hn := dig_ne (hd e0 (by simp))
    have hall : (e0 :: es').all isDig = true := List.all_eq_true.2 hd
    rcases hs with rfl | rfl | rfl
    · simp only [List.nil_append]
      unfold expTail
      simp only
      split
      · rename_i heq; simp only [List.cons.injEq] at heq; exact absurd heq.1 hn.2.2.2.1
      · rename_i heq; simp only [List.cons.injEq] at heq; exact absurd heq.1 hn.1
      · simp [hall]
    · simp [expTail, hall]
    · simp [expTail, hall]

theorem floatSpelling_neg (X : Bytes) (h : ∀ r, X ≠ 45 :: r) : floatSpelling (45 :: X) = floatSpelling X := by
  unfold floatSpelling
  simp only

theorem floatSpelling_pos (X : Bytes) (h : ∀ r, X ≠ 45 :: r) : floatSpelling X =
    (!(X.takeWhile isDig).isEmpty &&
      match X.dropWhile isDig with
      | 46 :: t2 => !(t2.takeWhile isDig).isEmpty && expTail (t2.dropWhile isDig) true
      | _ => noLeadZero (X.takeWhile isDig) && expTail (X.dropWhile isDig) false) := by
  unfold floatSpelling
  simp only
  generalize X.dropWhile isDig = Y
  generalize X.takeWhile isDig = Z
  cases Y with
  | nil => rfl
  | cons b t =>
    by_cases hb : b = 46
    · subst hb; rfl
    · congr 1

/-- completeness of the checker `floatSpelling` for the float shape of `scanNumber` -/
theorem floatSpelling_of_shape {lit : Bytes} (h : NumShape lit .tFloat) : floatSpelling lit = true := by
  obtain ⟨sg, ds, frac, ex, rfl, hsg, hne, hd, hf, hx, hz, hty⟩ := h
  obtain ⟨d1, ds', rfl⟩ : ∃ d1 ds', ds = d1 :: ds' := by
    cases ds with
    | nil => exact absurd rfl hne
    | cons a b => exact ⟨a, b, rfl⟩
  have hn := dig_ne (hd d1 (by simp))
  have hX : ∀ r, (d1 :: ds') ++ (frac ++ ex) ≠ 45 :: r := by
    intro r e; simp only [List.cons_append, List.cons.injEq] at e; exact hn.1 e.1
  have hnd : ∀ b t', frac ++ ex = b :: t' → isDig b = false := by
    intro b t' e
    rcases hf with rfl | ⟨fs, rfl, _, _⟩
    · rcases hx with rfl | ⟨sgn, es, rfl, _, _, _⟩
      · simp at e
      · simp only [List.nil_append, List.cons.injEq] at e; rw [← e.1]; decide
    · simp only [List.cons_append, List.cons.injEq] at e; rw [← e.1]; decide
  have hspan := NatDigits.takeWhile_sep isDig (d1 :: ds') (frac ++ ex) hd hnd
  have key : floatSpelling ((d1 :: ds') ++ (frac ++ ex)) = true := by
    rw [floatSpelling_pos _ hX, hspan.1, hspan.2]
    rcases hf with rfl | ⟨fs, rfl, hfs, hfd⟩
    · have hex : ex ≠ [] := by
        intro e; subst e; simp at hty
      have hlead : noLeadZero (d1 :: ds') = true := by
        rcases hz rfl with e | e
        · rw [e]; rfl
        · simp only [noLeadZero, Bool.or_eq_true, bne_iff_ne, ne_eq]; right; simpa using e
      have het := expTail_of hx false (fun e => absurd e hex)
      simp only [List.nil_append]
      rcases hx with rfl | ⟨sgn, es, rfl, _, _, _⟩
      · exact absurd rfl hex
      · simp [hlead, het]
    · have hnd2 : ∀ b t', ex = b :: t' → isDig b = false := by
        intro b t' e
        rcases hx with rfl | ⟨sgn, es, rfl, _, _, _⟩
        · simp at e
        · simp only [List.cons.injEq] at e; rw [← e.1]; decide
      have hspan2 := NatDigits.takeWhile_sep isDig fs ex hfd hnd2
      have hfe : fs.isEmpty = false := by cases fs <;> simp_all
      simp [hspan2.1, hspan2.2, hfe, expTail_of hx true (fun _ => rfl)]
  rcases hsg with rfl | rfl
  · simpa using key
  · have := floatSpelling_neg _ hX
    simp only [List.cons_append, List.nil_append] at this key ⊢
    rw [this]; exact key

theorem fmtFloatLit_shape (bits : UInt64) (hn : (F64.mk bits).isNaN = false) (hi : (F64.mk bits).isInf = false) :
    NumShape (SoyVerif.Model.Printer.fmtFloatLit (fun b => F64.format ⟨b⟩) bits) .tFloat := by
  obtain ⟨sg, ds, frac, ex, hlit, hsg, hne, hd, hz, hf, hx⟩ := format_shape ⟨bits⟩ hn hi
  unfold SoyVerif.Model.Printer.fmtFloatLit
  simp only
  rw [hlit]
  by_cases hfe : frac = [] ∧ ex = []
  · obtain ⟨rfl, rfl⟩ := hfe
    have hany : (sg ++ (ds ++ ([] ++ []))).any (fun c => c == 46 || c == 101 || c == 73 || c == 78) = false := by
      simp only [List.append_nil, List.any_eq_false, Bool.or_eq_true, beq_iff_eq, not_or]
      intro b hb
      rcases List.mem_append.1 hb with h | h
      · rcases hsg with rfl | rfl
        · simp at h
        · simp at h; subst h; decide
      · have := dig_ne (hd b h)
        exact ⟨⟨⟨this.2.1, this.2.2.1⟩, this.2.2.2.2.1⟩, this.2.2.2.2.2⟩
    simp only [hany, Bool.false_eq_true, if_false]
    have d0 : AllDig [48] := by intro b hb; simp at hb; subst hb; decide
    exact ⟨sg, ds, [46, 48], [], by simp, hsg, hne, hd, Or.inr ⟨[48], rfl, by simp, d0⟩, Or.inl rfl,
      fun e => by simp at e, by simp⟩
  · have hany : (sg ++ (ds ++ (frac ++ ex))).any (fun c => c == 46 || c == 101 || c == 73 || c == 78) = true := by
      simp only [List.any_eq_true, Bool.or_eq_true, beq_iff_eq]
      rcases hf with rfl | ⟨fs, rfl, _, _⟩
      · rcases hx with rfl | ⟨sgn, es, rfl, _, _, _⟩
        · exact absurd ⟨rfl, rfl⟩ hfe
        · exact ⟨101, by simp, Or.inl (Or.inl (Or.inr rfl))⟩
      · exact ⟨46, by simp, Or.inl (Or.inl (Or.inl rfl))⟩
    simp only [hany, if_true]
    refine ⟨sg, ds, frac, ex, rfl, hsg, hne, hd, hf, hx, fun _ => hz, ?_⟩
    simp [hfe]

theorem floatSpelling_finite (bits : UInt64) (hn : (F64.mk bits).isNaN = false) (hi : (F64.mk bits).isInf = false) :
    floatSpelling (SoyVerif.Model.Printer.fmtFloatLit (fun b => F64.format ⟨b⟩) bits) = true :=
  floatSpelling_of_shape (fmtFloatLit_shape bits hn hi)

end SoyVerif.Lemmas.F64Shape
