/-
  `scope.lookup`'s search by itself: `scopeFind heap ctx k` is the binding of `k` in the innermost frame that
  has one.  The model's `lookup` (Model/Eval) is its value or Undefined, the miss branch `misses` (Props/C07b) is
  its absence; what `set`, `push` and a stretch of the walk that leaves the frames of the scope alone do to the
  search is proved here once.  (`find_insert` and `heapGet_set`, the two facts about one frame and one cell that
  the search rests on, keep the namespace `SoyVerif.Refine` under which Lemmas/ExecRefine's users know them.)
-/
import SoyVerif.Props.C02

namespace SoyVerif.Refine
open SoyVerif SoyVerif.Model SoyVerif.Model.Eval

theorem find_insert (f : Frame) (k : Bytes) (v : Value) (k' : Bytes) :
    Frame.find (Value.insert f k v) k' = if k' == k then some v else Frame.find f k' := by
  induction f with
  | nil =>
    simp only [Value.insert, Frame.find]
    by_cases h : k = k'
    · subst h; simp
    · have h1 : (k == k') = false := by simpa using h
      have h2 : (k' == k) = false := by simpa using fun e => h e.symm
      simp [h1, h2]
  | cons p r ih =>
    obtain ⟨pk, pv⟩ := p
    simp only [Value.insert]
    by_cases hp : pk = k
    · subst hp
      simp only [beq_self_eq_true, if_true, Frame.find]
      by_cases h : pk = k'
      · subst h; simp
      · have h1 : (pk == k') = false := by simpa using h
        have h2 : (k' == pk) = false := by simpa using fun e => h e.symm
        simp [h1, h2]
    · have hp1 : (pk == k) = false := by simpa using hp
      simp only [hp1, Bool.false_eq_true, if_false, Frame.find, ih]
      by_cases h : pk = k'
      · subst h
        have h2 : (pk == k) = false := hp1
        simp [h2]
      · have h1 : (pk == k') = false := by simpa using h
        simp [h1]

theorem heapGet_set : ∀ (h : List Cell) (i : Nat) (k : Bytes) (v : Value) (j : Nat), i < h.length →
    heapGet (heapSet h i k v).1 j = if j = i then Value.insert (heapGet h i) k v else heapGet h j := by
  intro h
  induction h with
  | nil => intro i k v j hi; simp at hi
  | cons c r ih =>
    intro i k v j hi
    cases i with
    | zero =>
      cases j with
      | zero => simp [heapSet, heapGet]
      | succ m => simp [heapSet, heapGet]
    | succ n =>
      have hn : n < r.length := by simpa using hi
      cases j with
      | zero => simp [heapSet, heapGet]
      | succ m =>
        have := ih n k v m hn
        simp only [heapGet, heapSet, List.getElem?_cons_succ, Nat.add_right_cancel_iff] at this ⊢
        exact this

end SoyVerif.Refine

namespace SoyVerif.Model.Eval
open SoyVerif SoyVerif.Model
open SoyVerif.Props.C02 (ScopeOk)
open SoyVerif.Refine (find_insert heapGet_set)

def scopeFind (heap : List Cell) : Scope → Bytes → Option Value
  | [], _ => none
  | f :: r, k => (Frame.find (heapGet heap f.ref) k).or (scopeFind heap r k)

theorem lookup_eq (heap : List Cell) : ∀ (ctx : Scope) (k : Bytes), lookup heap ctx k = (scopeFind heap ctx k).getD .undefined
  | [], _ => rfl
  | f :: r, k => by
    simp only [lookup, scopeFind]
    cases Frame.find (heapGet heap f.ref) k with
    | some v => rfl
    | none => exact lookup_eq heap r k

theorem scopeFind_ext_W {W : Nat → Prop} {st st' : St} (e : Ext W st st') :
    ∀ (ctx : Scope), ScopeOk ctx st → (∀ f ∈ ctx, ¬ W f.ref) → ∀ k, scopeFind st'.heap ctx k = scopeFind st.heap ctx k := by
  intro ctx
  induction ctx with
  | nil => intro _ _ k; rfl
  | cons f r ih =>
    intro hok hw k
    have hf : f.ref < st.heap.length := hok f List.mem_cons_self
    have hc : st.heap[f.ref]? = some st.heap[f.ref] := List.getElem?_eq_getElem hf
    obtain ⟨c', h1, _, h3⟩ := e.keep f.ref _ hc
    have hg : heapGet st'.heap f.ref = heapGet st.heap f.ref := by
      simp only [heapGet, h1, hc]; exact h3 (hw f List.mem_cons_self)
    simp only [scopeFind, hg, ih (fun x hx => hok x (List.mem_cons_of_mem _ hx)) (fun x hx => hw x (List.mem_cons_of_mem _ hx)) k]

theorem scopeFind_set {ctx : Scope} {st st2 : St} {name : Bytes} {v : Value} (hown : Own ctx st)
    (h : set ctx st name v = some st2) (k : Bytes) :
    scopeFind st2.heap ctx k = if k == name then some v else scopeFind st.heap ctx k := by
  obtain ⟨f, r, c, hctx, hc, _⟩ := hown
  subst hctx
  have hlen : f.ref < st.heap.length := (List.getElem?_eq_some_iff.mp hc).1
  simp only [SoyVerif.Model.Eval.set] at h
  cases hs : heapSet st.heap f.ref name v with
  | mk h' ro =>
    rw [hs] at h
    simp only [Option.some.injEq] at h
    subst h
    have hget : ∀ j, heapGet h' j = if j = f.ref then Value.insert (heapGet st.heap f.ref) name v else heapGet st.heap j := by
      intro j
      have := heapGet_set st.heap f.ref name v j hlen
      rw [hs] at this
      exact this
    -- a frame deeper in the scope may be the same cell again
    have other : ∀ (c : Scope), (k == name) = false → scopeFind h' c k = scopeFind st.heap c k := by
      intro c hk
      induction c with
      | nil => rfl
      | cons g rest ih =>
        simp only [scopeFind, hget g.ref]
        by_cases hg : g.ref = f.ref
        · simp only [hg, if_true, find_insert, hk, Bool.false_eq_true, if_false, ih]
        · simp only [hg, if_false, ih]
    by_cases hk : (k == name) = true
    · simp only [hk, if_true, scopeFind, hget f.ref, find_insert]; rfl
    · have hk' : (k == name) = false := by simpa using hk
      simp only [hk', Bool.false_eq_true, if_false]
      exact other (f :: r) hk'

theorem scopeFind_push (ctx : Scope) (st : St) (hok : ScopeOk ctx st) (k : Bytes) :
    scopeFind (push ctx st).2.heap (push ctx st).1 k = scopeFind st.heap ctx k := by
  obtain ⟨_, _, hext, _⟩ := push_spec ctx st
  have h1 : heapGet (push ctx st).2.heap st.heap.length = [] := by simp [push, heapGet]
  show scopeFind (push ctx st).2.heap (⟨st.heap.length, false⟩ :: ctx) k = _
  simp only [scopeFind, h1, Frame.find, Option.none_or]
  exact scopeFind_ext_W (hext (fun _ => False)) ctx hok (fun _ _ h => h) k

end SoyVerif.Model.Eval
