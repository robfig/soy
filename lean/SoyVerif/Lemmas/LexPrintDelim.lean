/-
  The state functions around a tag with single braces, each on the input it is made for: `lexText` with nothing
  pending in front of `{` or the end of the input, `lexLeftDelim` (from ANY lexer record: it is entered from `lexText`,
  which leaves `doubleDelim` and `tagStart` as the tag before set them), `lexBeginTag`, the closing `}` and `/}`
  with `lexRightDelim` / `lexRightDelimEnd`, and the name `/kw` of a closing command in `lexIdent`.
-/
import SoyVerif.Lemmas.LexPrintTok


namespace SoyVerif.Lemmas.LexPrint
open SoyVerif SoyVerif.Model SoyVerif.Model.Lex SoyVerif.Model.PrintTokens

variable {tg : Int}

theorem step_rbrace {inp q s} (h : InpAt inp q (125 :: s)) (w le its) :
    step .insideTag (L tg inp q q w le its) = some (some .rightDelim, L tg inp (q + 1) q 1 le its) := by
  simp only [step, lexInsideTag, next_L h (by decide), Option.bind_eq_bind, Option.bind_some]
  simp [isSpaceEOL, isSpace, isEndOfLine, lexInsideTagMid]

theorem badDoubleClose_L (inp p st w le its) :
    badDoubleClose (L tg inp p st w le its) = some (false, L tg inp p st w le its) := by
  unfold badDoubleClose L; simp

/-- `lexRightDelim`: the RightDelim item, back to `lexText` -/
theorem step_rightDelim {inp q s} (h : InpAt inp q (125 :: s)) (le its) :
    step .rightDelim (L tg inp (q + 1) q 1 le its) =
      some (some .text, L tg inp (q + 1) (q + 1) 1 ⟨.tRightDelim, q + 1, [125]⟩ (its.push ⟨.tRightDelim, q + 1, [125]⟩)) := by
  have he := emit_L (tg := tg) (inp := inp) (st := q) (v := [125]) (s := s) h (pe := q + 1) rfl 1 le its .tRightDelim
  simp only [step, lexRightDelim, badDoubleClose_L, Option.bind_eq_bind, Option.bind_some, Bool.false_eq_true, if_false, he,
    Option.pure_def]

theorem step_slashClose {inp q s} (h : InpAt inp q (47 :: 125 :: s)) (w le its) :
    step .insideTag (L tg inp q q w le its) = some (some .rightDelimEnd, L tg inp (q + 1) q 1 le its) := by
  have hp := peek_hd (tg := tg) (inpAt_tail h) (asciiHd_cons (by decide)) q 1 le its
  simp only [step, lexInsideTag, next_L h (by decide), Option.bind_eq_bind, Option.bind_some, hp]
  simp [isSpaceEOL, isSpace, isEndOfLine, hdRune, hdW]

/-- `lexRightDelimEnd`: the RightDelimEnd item `/}`, back to `lexText` -/
theorem step_rightDelimEnd {inp q s} (h : InpAt inp q (47 :: 125 :: s)) (le its) :
    step .rightDelimEnd (L tg inp (q + 1) q 1 le its) =
      some (some .text, L tg inp (q + 2) (q + 2) 1 ⟨.tRightDelimEnd, q + 2, [47, 125]⟩
        (its.push ⟨.tRightDelimEnd, q + 2, [47, 125]⟩)) := by
  have he := emit_L (tg := tg) (inp := inp) (st := q) (v := [47, 125]) (s := s) h (pe := q + 2) rfl 1 le its .tRightDelimEnd
  simp only [step, lexRightDelimEnd, next_L (inpAt_tail h) (by decide), badDoubleClose_L, Option.bind_eq_bind, Option.bind_some,
    Bool.false_eq_true, if_false, he, Option.pure_def]

/-- `lexText` in front of `{` with no pending text: on to `lexLeftDelim` -/
theorem step_text_lbrace {inp p s} (h : InpAt inp p (123 :: s)) (w le its) :
    step .text (L tg inp p p w le its) = some (some .leftDelim, L tg inp p p 1 le its) := by
  have hn := next_L (tg := tg) h (by decide) p w le its
  simp only [step, lexText]
  rw [lexTextLoop]
  split
  · rename_i heq; rw [hn] at heq; cases heq
  · rename_i r l1 heq
    rw [hn] at heq
    simp only [Option.some.injEq, Prod.mk.injEq] at heq
    obtain ⟨rfl, rfl⟩ := heq
    have hm : maybeEmitText (L tg inp p p 1 le its) 0 = some (L tg inp p p 1 le its) := by
      unfold maybeEmitText L; simp
    simp [backup_L, hm]

/-- `lexText` at the end of the input with no pending text: EOF, and the machine stops -/
theorem step_text_eof {inp p} (h : InpAt inp p []) (w le its) :
    ∃ l', step .text (L tg inp p p w le its) = some (none, l') ∧ l'.items = its.push ⟨.tEOF, p, []⟩ := by
  have hn := next_eof_L (tg := tg) h p w le its
  have he := emit_L (tg := tg) (inp := inp) (st := p) (v := []) (s := []) (by simpa using h) (pe := p) (by simp) 0 le its .tEOF
  refine ⟨L tg inp p p 0 ⟨.tEOF, p, []⟩ (its.push ⟨.tEOF, p, []⟩), ?_, rfl⟩
  simp only [step, lexText]
  rw [lexTextLoop]
  split
  · rename_i heq; rw [hn] at heq; cases heq
  · rename_i r l1 heq
    rw [hn] at heq
    simp only [Option.some.injEq, Prod.mk.injEq] at heq
    obtain ⟨rfl, rfl⟩ := heq
    have hm : maybeEmitText (L tg inp p p 0 le its) 0 = some (L tg inp p p 0 le its) := by
      unfold maybeEmitText L; simp
    simp [backup_L0, hm, he, eof]

theorem rune_ne {c k : UInt8} (h : c ≠ k) : ¬ ((c.toNat : Int) = k.toNat) := fun e =>
  h (UInt8.toNat_inj.mp (by omega))

/-- `lexLeftDelim` on ANY lexer record at a single `{` at offset `q`: `tagStart` becomes `q`, `doubleDelim` false -/
theorem step_leftDelim {inp q} {c : UInt8} {s : Bytes} (h : InpAt inp q (123 :: c :: s)) (hc : c < 128) (hne : c ≠ 123)
    (w : Int) (dd : Bool) (ts : Int) (le : Item) (its : Array Item) :
    step .leftDelim (Lexer.mk inp q q w dd ts le its) =
      some (some .beginTag, L (q : Int) inp (q + 1) (q + 1) 1 ⟨.tLeftDelim, q + 1, [123]⟩ (its.push ⟨.tLeftDelim, q + 1, [123]⟩)) := by
  have hq := inpAt_get h
  have hq1 := inpAt_get (inpAt_tail h)
  have hlen := inpAt_len h
  have he := emit_L (tg := (q : Int)) (inp := inp) (st := q) (v := [123]) (s := c :: s) h (pe := q + 1) rfl 1 le its .tLeftDelim
  have hcn : ¬ ((c.toNat : Int) = 123) := rune_ne hne
  have n1 : Lexer.next { Lexer.mk inp q q w dd ts le its with tagStart := (q : Int) } =
      some (123, Lexer.mk inp ((q + 1 : Nat) : Int) q 1 dd q le its) := by
    unfold Lexer.next Lexer.len
    simp only [Int.toNat_natCast, decode_ascii hq.2 (by decide)]
    rw [if_neg (by omega), if_neg (by omega)]
    simp
  have n2 : Lexer.next (Lexer.mk inp ((q + 1 : Nat) : Int) q 1 dd q le its) =
      some ((c.toNat : Int), Lexer.mk inp ((q + 1 + 1 : Nat) : Int) q 1 dd q le its) := by
    unfold Lexer.next Lexer.len
    simp only [Int.toNat_natCast, decode_ascii hq1.2 hc]
    rw [if_neg (by omega), if_neg (by omega)]
    simp
  have hb : ({ (Lexer.mk inp ((q + 1 + 1 : Nat) : Int) q 1 dd q le its).backup with doubleDelim := false } : Lexer) =
      L (q : Int) inp (q + 1) q 1 le its := by
    unfold Lexer.backup L; simp
  simp only [step, lexLeftDelim, n1, n2, Option.bind_eq_bind, Option.bind_some, hcn, if_false, hb, he, Option.pure_def]

theorem step_beginTag {inp q} {c : UInt8} {s : Bytes} (h : InpAt inp q (c :: s)) (hc : c < 128) (h1 : c ≠ 47) (h2 : c ≠ 92)
    (w le its) :
    step .beginTag (L tg inp q q w le its) = some (some .insideTag, L tg inp q q 1 le its) := by
  have hp := peek_hd (tg := tg) h (asciiHd_cons hc) q w le its
  have c1 : ¬ ((c.toNat : Int) = 47) := rune_ne h1
  have c2 : ¬ ((c.toNat : Int) = 92) := rune_ne h2
  simp only [step, lexBeginTag, hp, Option.bind_eq_bind, Option.bind_some, hdRune, hdW, c1, c2, or_self, if_false, Option.pure_def]
  rfl

/-- `lexBeginTag` in front of the `/` of a closing command: on to `lexIdent` -/
theorem step_beginTag_close {inp q} {s : Bytes} (h : InpAt inp q (47 :: s)) (w le its) :
    step .beginTag (L tg inp q q w le its) = some (some .ident, L tg inp q q 1 le its) := by
  have hp := peek_hd (tg := tg) h (asciiHd_cons (by decide)) q w le its
  simp only [step, lexBeginTag, hp, Option.bind_eq_bind, Option.bind_some, hdRune, hdW]
  rfl

/-- `lexIdent` on the name `/kw` of a closing command: a key of `builtinIdents` (a word that is none is an error) -/
theorem step_cmdEnd (T : LexTableOK) {inp p} {k rest : Bytes} (h : InpAt inp p ((47 :: k) ++ rest)) (hk : alnumBytes k = true)
    (hr : WordEnd rest) (rt : ItemType) (hl : Gen.builtinIdents.lookup (47 :: k) = some rt ∧ rt ≠ .tLiteral ∧ rt ≠ .tCss)
    (w le its) :
    step .ident (L tg inp p p w le its) =
      some (some .insideTag, L tg inp (p + (47 :: k).length) (p + (47 :: k).length) (hdW rest)
        ⟨rt, p + (47 :: k).length, 47 :: k⟩ (its.push ⟨rt, p + (47 :: k).length, 47 :: k⟩)) := by
  have h0 : InpAt inp p (47 :: (k ++ rest)) := by simpa using h
  have hir := identRest_word (tg := tg) T (pre := [47]) (k := k) (rest := rest) (st := p) h hk hr .tCommandEnd rt (Or.inl hl)
    1 le its
  simp only [step, lexIdent, next_L h0 (by decide), Option.bind_eq_bind, Option.bind_some]
  rw [if_neg (by decide), if_neg (by decide), if_pos (by decide)]
  exact hir

end SoyVerif.Lemmas.LexPrint
