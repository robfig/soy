/-
  Termination / error-position specifications of the mutually recursive block parsers of the
  file parser (`itemListLoop`, `textOrTag`, `beginTag`, `parseTemplate`, `parseLet`, `ifLoop`,
  `parseFor`, `parseSwitch`/`switchLoop`/`caseLoop`, `parseCall`/`callParamsLoop`/`orphanLoop`, `parseMsg`,
  `parsePlural`: parse.go's itemList, parseIf, parseCase, parseCallParams under the names of the model's loops), all at
  once by induction on the fuel.  Each function is walked as a judgement `Tri` (Lemmas/ParserTri.lean); the fields of
  `FileSpecs` are read off with `Tri.field` (`Tri.run` for `orphanLoop`, whose field starts with a token in hand).
-/
import SoyVerif.Lemmas.FileParserLoops

namespace SoyVerif.Lemmas.ParserSafe
open SoyVerif SoyVerif.Model SoyVerif.Model.Parser SoyVerif.Model.FileParser

section
variable (AP : Prop) (EL : Lvl) (S : Item → Prop) (pf : Bytes → Option UInt64) (ef N : Nat)

/-- plain post-condition: invariant kept, no real token un-consumed -/
def FPost (st : FState) {α : Type} : α → FState → Prop :=
  fun _ st' => Inv EL S st'.p ∧ mu st'.p ≤ mu st.p

/-- post-condition of `parseCallParams`: the parameter nodes -/
def PPost (st : FState) : NodeList → FState → Prop :=
  fun r st' => Inv EL S st'.p ∧ mu st'.p ≤ mu st.p ∧ NPL S r

/-- post-condition of `itemList`: a well-shaped list; the token that ended it may be backed up -/
def ListPost (untl : List ItemType) (st : FState) : Node → FState → Prop :=
  fun r st' => (listOK r ∧ NP S r) ∧ InvW EL S st'.p ∧ st'.p.peekCount ≤ 1 ∧ mu st'.p + real (top st'.p) ≤ mu st.p ∧
    untl.contains (top st'.p).typ = true

/-- post-condition of the command parsers: the node may become a child of a message body -/
def NPost (st : FState) : Node → FState → Prop :=
  fun r st' => (childOK r ∧ NP S r) ∧ Inv EL S st'.p ∧ mu st'.p ≤ mu st.p

/-- post-condition of `beginTag`: `none` for a tag that yields no node; else like `NPost` -/
def BPost (st : FState) : Option Node → FState → Prop :=
  fun r st' => (∀ n, r = some n → childOK n ∧ NP S n) ∧ Inv EL S st'.p ∧ mu st'.p ≤ mu st.p

/-- post-condition of `parseSwitch`, `switchLoop`: a switch node with well-shaped cases; errors may be reported at their positions -/
def SwPost (st : FState) : Node → FState → Prop :=
  fun r st' => ((∃ p v cs, r = .switch p v cs ∧ casesOK cs ∧ casesV EL S cs ∧ VPos EL S p) ∧ NP S r) ∧ Inv EL S st'.p ∧ mu st'.p ≤ mu st.p

/-- post-condition of `caseLoop`: a case node with a well-shaped body; errors may be reported at its position -/
def CasePost (st : FState) : Node → FState → Prop :=
  fun r st' => ((∃ p vs b, r = .switchCase p vs b ∧ listOK b ∧ VPos EL S p) ∧ NP S r) ∧ Inv EL S st'.p ∧ mu st'.p ≤ mu st.p

/-- The specifications at one fuel level.  Fuel: 8 per real token ahead (`mu`) plus 20 for the calls and
    iterations that consume none; `textOrTag`, `parseSwitch` and `orphanLoop` are only entered one call
    below a function with `+ 20`, hence `+ 19` (and `mu + real token` where the token is already read).
    `N` bounds the tokens ahead: the embedded expression parser runs on the separate budget `ef`, and
    `parseExpr` needs `8·mu + 10` of it (`ExprSpecs.parseExpr`), which `8·N + 10 ≤ ef` provides. -/
structure FileSpecs (fuel : Nat) : Prop where
  itemListLoop : ∀ untl lpos nodes st, (childrenOK nodes ∧ NPL S nodes ∧ ∀ p, lpos = some p → PosOK S p) → Inv EL S st.p → mu st.p ≤ N → 8 * mu st.p + 20 ≤ fuel →
    FSafe AP EL S (itemListLoop pf ef fuel untl lpos nodes) st (ListPost EL S untl st)
  textOrTag : ∀ token untl st, S token → InvW EL S st.p → st.p.peekCount ≤ 1 → top st.p = token →
    mu st.p + real token ≤ N → 8 * (mu st.p + real token) + 19 ≤ fuel →
    FSafe AP EL S (textOrTag pf ef fuel token untl) st (fun r st' => (∀ n, r.1 = some n → childOK n ∧ NP S n) ∧
      (if r.2 = true then InvW EL S st'.p else Inv EL S st'.p) ∧
      (r.2 = true → st'.p.peekCount ≤ 1 ∧ mu st'.p + real (top st'.p) ≤ mu st.p + real token ∧
        untl.contains (top st'.p).typ = true) ∧
      (r.2 = false → mu st'.p + 1 ≤ mu st.p + real token))
  beginTag : ∀ st, Inv EL S st.p → mu st.p ≤ N → 8 * mu st.p + 20 ≤ fuel →
    FSafe AP EL S (beginTag pf ef fuel) st (BPost EL S st)
  parseTemplate : ∀ token st, S token → Inv EL S st.p → mu st.p ≤ N → 8 * mu st.p + 20 ≤ fuel →
    FSafe AP EL S (parseTemplate pf ef fuel token) st (NPost EL S st)
  parseLet : ∀ token st, S token → Inv EL S st.p → mu st.p ≤ N → 8 * mu st.p + 20 ≤ fuel →
    FSafe AP EL S (parseLet pf ef fuel token) st (NPost EL S st)
  ifLoop : ∀ pos isElse conds st, (PosOK S pos ∧ NPL S conds) → Inv EL S st.p → mu st.p ≤ N → 8 * mu st.p + 20 ≤ fuel →
    FSafe AP EL S (ifLoop pf ef fuel pos isElse conds) st (NPost EL S st)
  parseFor : ∀ token st, S token → Inv EL S st.p → mu st.p ≤ N → 8 * mu st.p + 20 ≤ fuel →
    FSafe AP EL S (parseFor pf ef fuel token) st (NPost EL S st)
  parseSwitch : ∀ token endT st, midT endT = true → (S token ∧ (EL.lex → valid token)) → Inv EL S st.p → mu st.p ≤ N → 8 * mu st.p + 19 ≤ fuel →
    FSafe AP EL S (parseSwitch pf ef fuel token endT) st (SwPost EL S st)
  switchLoop : ∀ pos value endT sd cases st, midT endT = true → (casesOK cases ∧ NPL S cases ∧ PosOK S pos ∧ EP S value ∧ casesV EL S cases ∧ VPos EL S pos) → Inv EL S st.p → mu st.p ≤ N → 8 * mu st.p + 20 ≤ fuel →
    FSafe AP EL S (switchLoop pf ef fuel pos value endT sd cases) st (SwPost EL S st)
  caseLoop : ∀ token values st, (S token ∧ EPl S values ∧ (EL.lex → valid token)) → Inv EL S st.p → mu st.p ≤ N → 8 * mu st.p + 20 ≤ fuel →
    FSafe AP EL S (caseLoop pf ef fuel token values) st (CasePost EL S st)
  parseCall : ∀ token st, S token → Inv EL S st.p → mu st.p ≤ N → 8 * mu st.p + 20 ≤ fuel →
    FSafe AP EL S (parseCall pf ef fuel token) st (NPost EL S st)
  callParamsLoop : ∀ params st, NPL S params → Inv EL S st.p → mu st.p ≤ N → 8 * mu st.p + 20 ≤ fuel →
    FSafe AP EL S (callParamsLoop pf ef fuel params) st (PPost EL S st)
  orphanLoop : ∀ initial st, S initial → InvW EL S st.p → st.p.peekCount ≤ 1 → top st.p = initial →
    8 * (mu st.p + real initial) + 19 ≤ fuel →
    FSafe AP EL S (orphanLoop pf ef fuel initial) st (fun tok st' => S tok ∧ InvW EL S st'.p ∧ st'.p.peekCount ≤ 1 ∧
      top st'.p = tok ∧ mu st'.p + real tok ≤ mu st.p + real initial)
  parseMsg : ∀ token st, S token → (EL.lex → valid token) → Inv EL S st.p → mu st.p ≤ N → 8 * mu st.p + 20 ≤ fuel →
    FSafe AP EL S (parseMsg pf ef fuel token) st (NPost EL S st)
  parsePlural : ∀ tok st, S tok → (EL.lex → valid tok) → Inv EL S st.p → mu st.p ≤ N → 8 * mu st.p + 20 ≤ fuel →
    FSafe AP EL S (parsePlural pf ef fuel tok) st (NPost EL S st)

variable {AP EL S pf ef N}

/-- the body of a block command: `itemList` started on an empty list; it ends with the token that closes the
    block in hand -/
theorem FileSpecs.block_tri {fuel : Nat} (ih : FileSpecs AP EL S pf ef N fuel) (untl : List ItemType) :
    Tri (fHost AP EL S) N fuel 20 .b (FileParser.itemListLoop pf ef fuel untl none .nil) 0
      (H fun r tok => untl.contains tok.typ = true ∧ listOK r ∧ NP S r) :=
  fun st hok hn hf => (fsafe_iff.mp (ih.itemListLoop _ _ _ st ⟨childrenOK_nil, NPL_nil, fun _ h => by cases h⟩ hok hn hf)).mono
    fun r st' ⟨hr, hi, hpc, hm, hu⟩ => ⟨.h (top st'.p), ⟨_, rfl, hu, hr⟩, ⟨hi, hi.toks.top, hpc, rfl⟩, hm⟩

/-- `orphanLoop` parses no expression: the bound on the tokens ahead is arbitrary -/
theorem FileSpecs.orphanLoop_tri {fuel N' : Nat} (ih : FileSpecs AP EL S pf ef N fuel) (initial : Item) :
    Tri (fHost AP EL S) N' fuel 19 (.h initial) (FileParser.orphanLoop pf ef fuel initial) 0 T :=
  fun st ⟨hi, hs, hpc, ht⟩ _ hf => (fsafe_iff.mp (ih.orphanLoop initial st hs hi hpc ht hf)).mono
    fun tok _ ⟨hs', hi', hpc', ht', hm⟩ => ⟨.h tok, rfl, ⟨hi', hs', hpc', ht'⟩, hm⟩

theorem FileSpecs.callParamsLoop_tri {fuel : Nat} (ih : FileSpecs AP EL S pf ef N fuel) (params : NodeList) (hpar : NPL S params) :
    Tri (fHost AP EL S) N fuel 20 .b (FileParser.callParamsLoop pf ef fuel params) 0 (B (NPL S)) :=
  Tri.of_field fun st hi hn hf => (ih.callParamsLoop params st hpar hi hn hf).mono fun _ _ h => ⟨h.2.2, h.1, h.2.1⟩

theorem some_tri {F c d : Nat} {m : Mode} {x : FP Node} (h : Tri (fHost AP EL S) N F c m x d (B fun r => childOK r ∧ NP S r)) :
    Tri (fHost AP EL S) N F c m (x >>= fun n => pure (some n)) d (B fun r => ∀ n, r = some n → childOK n ∧ NP S n) :=
  h.map some fun _ hn _ e => by cases e; exact hn

variable (hz : S Item.zero) (hN : 8 * N + 10 ≤ ef)
variable (hwf : ∀ it, S it → AP ∨ WFItem it)
include hz hN hwf

theorem beginTag_tri {fuel : Nat} (ih : FileSpecs AP EL S pf ef N fuel) :
    Tri (fHost AP EL S) N (fuel + 1) 20 .b (beginTag pf ef (fuel + 1)) 0 (B fun r => ∀ n, r = some n → childOK n ∧ NP S n) := by
  apply Tri.succ (c := 19)
  unfold FileParser.beginTag
  refine Tri.next_then hz fun token hs => ?_
  -- `notmsg`: inside a {msg} the tag is rejected
  have notmsg : ∀ {β : Type} {k : PUnit → FP β} {c d : Nat} {R : β → Mode → Prop}, Tri (fHost AP EL S) N fuel c (.h token) (k PUnit.unit) d R →
      Tri (fHost AP EL S) N fuel c (.h token)
        ((do let st ← get; if st.inmsg = true then FileParser.unexpected token else pure PUnit.unit : FP PUnit) >>= k) d R :=
    fun h => Tri.bind (Q := fun _ m => m = .h token) (d1 := 0)
      (Tri.get fun st => Tri.ite (fun _ => Tri.unexpected) fun _ => Tri.ret rfl) (fun _ _ e => e ▸ h) (Nat.le_refl _)
  -- a command parser, specified by a field of the induction hypothesis, after its first token
  have cmd : ∀ {x : FP Node}, real token = 1 →
      (∀ st, Inv EL S st.p → mu st.p ≤ N → 8 * mu st.p + 20 ≤ fuel → FSafe AP EL S x st (NPost EL S st)) →
      Tri (fHost AP EL S) N fuel 19 (.h token) (x >>= fun n => pure (some n)) 0 _ :=
    fun hr h => Tri.up hr (some_tri (Tri.of_field h).weak)
  have special : real token = 1 → ∀ text, Tri (fHost AP EL S) N fuel 19 (.h token)
      (FileParser.expect .tRightDelim >>= fun _ => pure (some (Node.rawText token.pos text))) 0
      (B fun r => ∀ n, r = some n → childOK n ∧ NP S n) :=
    fun hr text => Tri.up hr ((Tri.expect hz).seq fun _ _ => Tri.ret ⟨rfl, fun n h => by cases h; exact ⟨trivial, by np⟩⟩)
  have implicit : Tri (fHost AP EL S) N fuel 19 (.h token)
      (FileParser.backup >>= fun _ => parsePrint pf ef fuel token >>= fun n => pure (some n)) 0
      (B fun r => ∀ n, r = some n → childOK n ∧ NP S n) :=
    Tri.backup_then (Tri.of_p (some_tri (parsePrint_tri hz hN hwf fuel token hs).weak))
  simp only
  split
  · rename_i ht
    exact Tri.up (real_of_eq ht (by decide)) (some_tri (parseNamespace_tri hz fuel token hs).weak)
  · rename_i ht
    exact cmd (real_of_eq ht (by decide)) fun st => ih.parseTemplate token st hs
  · rename_i ht
    exact Tri.up (real_of_eq ht (by decide)) (some_tri (parseHeaderParam_tri hz hN hwf token hs).weak)
  · rename_i ht
    exact Tri.up (real_of_eq ht (by decide)) (some_tri (parseHeaderParam_tri hz hN hwf token hs).weak)
  · rename_i ht
    exact notmsg (cmd (real_of_eq ht (by decide)) fun st => ih.ifLoop _ _ _ st ⟨posOK_of hs, NPL_nil⟩)
  · rename_i ht
    have hr := real_of_eq ht (by decide)
    exact notmsg (cmd hr fun st => ih.parseMsg token st hs fun _ => real_valid hr)
  · rename_i ht
    have hr := real_of_eq ht (by decide)
    exact cmd hr fun st => ih.parsePlural token st hs fun _ => real_valid hr
  · rename_i ht
    exact notmsg (cmd (real_of_eq ht (by decide)) fun st => ih.parseFor token st hs)
  · rename_i ht
    exact notmsg (cmd (real_of_eq ht (by decide)) fun st => ih.parseFor token st hs)
  · -- switch: a switch node may stand in a message body
    rename_i ht
    have hr := real_of_eq ht (by decide)
    refine notmsg (Tri.up hr (some_tri (Tri.weak (Tri.of_field (c := 19) (A := fun r => childOK r ∧ NP S r) fun st hi hn hf => ?_))))
    exact (ih.parseSwitch token _ st (by decide) ⟨hs, fun _ => real_valid hr⟩ hi hn hf).mono
      fun r st' h => ⟨⟨by obtain ⟨_, _, _, rfl, _⟩ := h.1.1; trivial, h.1.2⟩, h.2⟩
  · rename_i ht
    exact cmd (real_of_eq ht (by decide)) fun st => ih.parseCall token st hs
  · -- literal (the text token is optional: soy accepts an empty literal block)
    rename_i ht
    refine Tri.up (real_of_eq ht (by decide)) ((Tri.expect hz).seq fun _ _ => Tri.next_then hz fun lt hlt => ?_)
    refine Tri.sub (A := fun r => ∀ n, r = some n → childOK n ∧ NP S n) (d1 := 0) ?_ fun n hn => ?_
    · refine Tri.ite (fun htx => Tri.up (real_of_beq htx (by decide)) (Tri.ret ⟨rfl, fun n h => ?_⟩)) fun _ =>
        Tri.backup_then (Tri.ret_p nofun)
      cases h
      exact ⟨trivial, by np⟩
    · exact (Tri.expect hz).seq fun _ _ => (Tri.expect hz).seq fun _ _ => (Tri.expect hz).seq fun _ _ => Tri.ret ⟨rfl, hn⟩
  · rename_i ht
    exact Tri.up (real_of_eq ht (by decide)) (some_tri (parseCss_tri hz token hs).weak)
  · rename_i ht
    refine Tri.up (real_of_eq ht (by decide)) ((Tri.expect hz).seq fun _ _ => ?_)
    refine (ih.block_tri _).seqH fun body t ⟨hu, _, hnp⟩ => ?_
    refine Tri.up (real_of_contains hu (by decide)) ((Tri.expect hz).seq fun _ _ => ?_)
    exact Tri.ret ⟨rfl, fun n h => by cases h; exact ⟨trivial, by np⟩⟩
  · rename_i ht
    refine Tri.up (real_of_eq ht (by decide)) ((Tri.expect hz).seq fun _ _ => ?_)
    exact Tri.ret ⟨rfl, fun n h => by cases h; exact ⟨trivial, by np⟩⟩
  · rename_i ht
    exact cmd (real_of_eq ht (by decide)) fun st => ih.parseLet token st hs
  · rename_i ht
    exact Tri.up (real_of_eq ht (by decide)) ((parseAlias_tri hz hwf fuel).seq fun _ _ => Tri.ret ⟨rfl, nofun⟩)
  -- the seven special characters, then the eleven tokens an implicit print may begin with
  iterate 7 exact special (real_of_eq ‹_› (by decide)) _
  iterate 11 exact implicit
  · rename_i ht
    exact Tri.up (real_of_eq ht (by decide)) (some_tri (parsePrint_tri hz hN hwf fuel token hs).weak)
  · exact Tri.unexpected

omit hN hwf in
theorem parseTemplate_tri {fuel : Nat} (ih : FileSpecs AP EL S pf ef N fuel) (token : Item) (hst : S token) :
    Tri (fHost AP EL S) N (fuel + 1) 20 .b (parseTemplate pf ef (fuel + 1) token) 0 (B fun r => childOK r ∧ NP S r) := by
  apply Tri.succ (c := 19)
  unfold FileParser.parseTemplate
  refine (Tri.expect hz).seq fun id _ => (parseAttrs_tri hz _ fuel []).seq fun attrs _ => ?_
  refine (parseAutoescape_tri attrs).seq fun ae _ => (boolAttr_tri attrs _ _).seq fun priv _ => ?_
  refine (Tri.expect hz).seq fun _ _ => (ih.block_tri _).seqH fun body tok ⟨hu, _, hnp⟩ => Tri.get fun st => ?_
  refine Tri.up (real_of_contains hu (by decide)) ((Tri.expect hz).seq fun _ _ => ?_)
  exact Tri.ret ⟨rfl, trivial, by np⟩

theorem parseLet_tri {fuel : Nat} (ih : FileSpecs AP EL S pf ef N fuel) (token : Item) (hst : S token) :
    Tri (fHost AP EL S) N (fuel + 1) 20 .b (parseLet pf ef (fuel + 1) token) 0 (B fun r => childOK r ∧ NP S r) := by
  apply Tri.succ (c := 19)
  unfold FileParser.parseLet
  refine (Tri.expect hz).seq fun name ⟨hsn, hty⟩ => ?_
  have hnm := val_ne1 (hwf name hsn) (Or.inl hty)
  refine Tri.peek_then hz fun pk _ => Tri.ite (fun hcol => ?_) fun _ => ?_
  · refine Tri.next_p_then hz (Tri.up (real_of_beq hcol (by decide)) ?_)
    refine Tri.tail1_then hnm fun _ nm _ => (Tri.parseExpr0 hz hN hwf).seq fun e he => ?_
    exact (Tri.expect hz).seq fun _ _ => Tri.ret ⟨rfl, trivial, by np⟩
  · refine Tri.of_p ((parseAttrs_tri hz _ fuel []).seq fun attrs _ => ?_)
    refine Tri.next_then hz fun nxt _ => Tri.ite (fun hrd => ?_) fun _ => Tri.unexpected
    refine Tri.up (real_of_beq hrd (by decide)) (Tri.tail1_then hnm fun _ nm _ => ?_)
    refine (ih.block_tri _).seqH fun body tok ⟨hu, _, hnp⟩ => ?_
    refine Tri.up (real_of_contains hu (by decide)) ((Tri.expect hz).seq fun _ _ => ?_)
    exact Tri.ret ⟨rfl, trivial, by np⟩

theorem ifLoop_tri {fuel : Nat} (ih : FileSpecs AP EL S pf ef N fuel) (pos : Nat) (isElse : Bool) (conds : NodeList)
    (hpre : PosOK S pos ∧ NPL S conds) :
    Tri (fHost AP EL S) N (fuel + 1) 20 .b (ifLoop pf ef (fuel + 1) pos isElse conds) 0 (B fun r => childOK r ∧ NP S r) := by
  obtain ⟨hpos, hconds0⟩ := hpre
  apply Tri.succ (c := 19)
  unfold FileParser.ifLoop
  refine Tri.sub (A := EPo S) (d1 := 0) (Tri.ite (fun _ => ?_) fun _ => Tri.ret ⟨rfl, trivial⟩) fun ce hce => ?_
  · exact Tri.weak (c' := 19) (d' := 1) ((Tri.parseExpr0 hz hN hwf).seq fun e he => Tri.ret ⟨rfl, he⟩)
  refine (Tri.expect hz).seq fun _ _ => (ih.block_tri _).seqH fun body tok ⟨hu, _, hnp⟩ => ?_
  have hr : real tok = 1 := real_of_contains hu (by decide)
  have hconds : NPL S (conds.append (.cons (.ifCond pos ce body) .nil)) :=
    NPL_append _ _ hconds0 (by simp only [NPL, NP]; exact ⟨⟨hpos, hce, hnp⟩, trivial⟩)
  have again := fun e => Tri.up (c := 19) (d := 0) hr (Tri.of_field fun st => ih.ifLoop pos e _ st ⟨hpos, hconds⟩).weak
  refine Tri.backup_then (Tri.next_p_then hz ?_)
  refine Tri.ite (fun _ => Tri.ite (fun _ => Tri.unexpected) fun _ => (again _).weak) fun _ => ?_
  refine Tri.ite (fun _ => Tri.ite (fun _ => Tri.unexpected) fun _ => (again _).weak) fun _ => ?_
  refine Tri.ite (fun _ => Tri.up hr ((Tri.expect hz).seq fun _ _ => Tri.ret ⟨rfl, trivial, by np⟩)) fun _ => (again _).weak

theorem parseFor_tri {fuel : Nat} (ih : FileSpecs AP EL S pf ef N fuel) (token : Item) (hst : S token) :
    Tri (fHost AP EL S) N (fuel + 1) 20 .b (parseFor pf ef (fuel + 1) token) 0 (B fun r => childOK r ∧ NP S r) := by
  apply Tri.succ (c := 19)
  unfold FileParser.parseFor
  refine (Tri.expect hz).seq fun v ⟨hsv, hty⟩ => (Tri.expect hz).seq fun intok ⟨hs2, hty2⟩ => ?_
  refine Tri.ite (fun _ => Tri.unexpected_of hs2 fun _ => real_valid (real_of_eq hty2 (by decide))) fun _ => ?_
  refine (Tri.parseExpr0 hz hN hwf).seq fun coll hcoll => (Tri.expect hz).seq fun _ _ => ?_
  refine (ih.block_tri _).seqH fun body tok ⟨hu, _, hnp⟩ => Tri.backup_then (Tri.next_p_then hz ?_)
  have hr : real tok = 1 := real_of_contains hu (by decide)
  refine Tri.sub (A := NPL S) (d1 := 1) (Tri.ite (fun _ => Tri.up hr ?_) fun _ => Tri.up hr (Tri.ret ⟨rfl, NPL_nil⟩)) fun ie hie => ?_
  · refine (Tri.expect hz).seq fun _ _ => (ih.block_tri _).seqH fun b t ⟨hu', _, hnpb⟩ => ?_
    exact Tri.up (real_of_contains hu' (by decide)) (Tri.ret ⟨rfl, by simp only [NPL]; exact ⟨hnpb, trivial⟩⟩)
  refine (Tri.expect hz).seq fun _ _ => Tri.tail1_then (val_ne1 (hwf v hsv) (Or.inl hty)) fun _ vv _ => ?_
  exact Tri.ret ⟨rfl, trivial, by np⟩

theorem parseSwitch_tri {fuel : Nat} (ih : FileSpecs AP EL S pf ef N fuel) (token : Item) (endT : ItemType)
    (hend : midT endT = true) (hst : S token ∧ (EL.lex → valid token)) :
    Tri (fHost AP EL S) N (fuel + 1) 19 .b (parseSwitch pf ef (fuel + 1) token endT) 0
      (B fun r => (∃ p v cs, r = .switch p v cs ∧ casesOK cs ∧ casesV EL S cs ∧ VPos EL S p) ∧ NP S r) := by
  apply Tri.succ (c := 18)
  unfold FileParser.parseSwitch
  refine (Tri.parseExpr0 hz hN hwf).seq fun v hv => (Tri.expect hz).seq fun _ _ => ?_
  exact (Tri.of_field fun st => ih.switchLoop _ _ _ _ _ st hend
    ⟨casesOK_nil, NPL_nil, posOK_of hst.1, hv, trivial, vpos_of hst.1 hst.2⟩).weak

omit hN hwf in
theorem switchLoop_tri {fuel : Nat} (ih : FileSpecs AP EL S pf ef N fuel) (pos : Nat) (value : Expr) (endT : ItemType)
    (sd : Bool) (cases : NodeList) (hend : midT endT = true)
    (hcs : casesOK cases ∧ NPL S cases ∧ PosOK S pos ∧ EP S value ∧ casesV EL S cases ∧ VPos EL S pos) :
    Tri (fHost AP EL S) N (fuel + 1) 20 .b (switchLoop pf ef (fuel + 1) pos value endT sd cases) 0
      (B fun r => (∃ p v cs, r = .switch p v cs ∧ casesOK cs ∧ casesV EL S cs ∧ VPos EL S p) ∧ NP S r) := by
  apply Tri.succ (c := 19)
  unfold FileParser.switchLoop
  have ⟨hco, hnpl, hpos, hval, hcsv, hvp⟩ := hcs
  refine Tri.next_then hz fun tok hs => ?_
  have again : real tok = 1 → Tri (fHost AP EL S) N fuel 19 (.h tok) (FileParser.switchLoop pf ef fuel pos value endT sd cases) 0 _ :=
    fun hr => Tri.up hr (Tri.of_field fun st => ih.switchLoop pos value endT sd cases st hend hcs).weak
  refine Tri.ite (fun hc => again (real_of_beq hc (by decide))) fun _ => ?_
  refine Tri.ite (fun hc => Tri.ite (fun _ => again (real_of_beq hc (by decide))) fun _ => ?_) fun _ => ?_
  · exact Tri.unexpected_textStart (by simpa using hc)
  refine Tri.ite (fun hc => ?_) fun _ => ?_
  · have hr := real_of_or hc (by decide) (by decide)
    refine Tri.ite (fun _ => Tri.unexpected) fun _ => Tri.up hr ?_
    refine (Tri.of_field fun st => ih.caseLoop tok [] st ⟨hs, EPl_nil, fun _ => real_valid hr⟩).seq
      fun c ⟨⟨cp, cvs, cb, hc, hcb, hcv⟩, hnc⟩ => ?_
    subst hc
    exact (Tri.of_field fun st => ih.switchLoop _ _ _ _ _ st hend
      ⟨casesOK_append _ _ hco (show casesOK (.cons (.switchCase cp cvs cb) .nil) from ⟨hcb, trivial⟩),
       NPL_append _ _ hnpl (by simp only [NPL]; exact ⟨hnc, trivial⟩), hpos, hval,
       casesV_append _ _ hcsv (by simp only [casesV]; exact ⟨hcv, trivial⟩), hvp⟩).weak
  refine Tri.ite (fun hce => Tri.up (real_of_beq hce hend) ((Tri.expect hz).seq fun _ _ => ?_)) fun _ => ?_
  · exact Tri.ret ⟨rfl, ⟨_, _, _, rfl, hco, hcsv, hvp⟩, by simp only [NP]; exact ⟨hpos, hval, hnpl⟩⟩
  exact Tri.ite (fun hc => again (real_of_beq hc (by decide))) fun _ => Tri.unexpected

theorem caseLoop_tri {fuel : Nat} (ih : FileSpecs AP EL S pf ef N fuel) (token : Item) (values : List Expr)
    (hpre : S token ∧ EPl S values ∧ (EL.lex → valid token)) :
    Tri (fHost AP EL S) N (fuel + 1) 20 .b (caseLoop pf ef (fuel + 1) token values) 0
      (B fun r => (∃ p vs b, r = .switchCase p vs b ∧ listOK b ∧ VPos EL S p) ∧ NP S r) := by
  apply Tri.succ (c := 19)
  unfold FileParser.caseLoop
  refine Tri.sub (A := EPl S) (d1 := 0) (Tri.ite (fun _ => ?_) fun _ => Tri.ret ⟨rfl, hpre.2.1⟩) fun vs hvs => ?_
  · exact Tri.weak (c' := 19) (d' := 1)
      ((Tri.parseExpr0 hz hN hwf).seq fun e he => Tri.ret ⟨rfl, EPl_append hpre.2.1 (EPl_single he)⟩)
  refine Tri.next_then hz fun tok _ => Tri.ite (fun hc => Tri.up (real_of_beq hc (by decide)) ?_) fun _ => ?_
  · exact (Tri.of_field fun st => ih.caseLoop _ _ st ⟨hpre.1, hvs, hpre.2.2⟩).weak
  refine Tri.ite (fun hc => Tri.up (real_of_beq hc (by decide)) ?_) fun _ => Tri.unexpected
  refine (ih.block_tri _).seqH fun body t ⟨hu, hl, hnp⟩ => Tri.backup_then (Tri.ret_p ?_)
  exact ⟨⟨_, _, _, rfl, hl, vpos_of hpre.1 hpre.2.2⟩, by simp only [NP]; exact ⟨posOK_of hpre.1, hvs, hnp⟩⟩

omit hN hwf in
theorem parseCall_tri {fuel : Nat} (ih : FileSpecs AP EL S pf ef N fuel) (token : Item) (hst : S token) :
    Tri (fHost AP EL S) N (fuel + 1) 20 .b (parseCall pf ef (fuel + 1) token) 0 (B fun r => childOK r ∧ NP S r) := by
  apply Tri.succ (c := 19)
  unfold FileParser.parseCall
  refine (parseCallHead_tri hz fuel).seq fun r hdn => ?_
  obtain ⟨tn, ad, dn⟩ := r
  simp only
  refine Tri.next_then hz fun tok _ => Tri.ite (fun hc => ?_) fun _ => Tri.ite (fun hc => ?_) fun _ => Tri.unexpected
  · exact Tri.up (real_of_beq hc (by decide)) (Tri.ret ⟨rfl, trivial, by np⟩)
  refine Tri.up (real_of_beq hc (by decide)) ((ih.callParamsLoop_tri _ NPL_nil).seq fun body hb => ?_)
  refine (Tri.expect hz).seq fun _ _ => (Tri.expect hz).seq fun _ _ => (Tri.expect hz).seq fun _ _ => ?_
  exact Tri.ret ⟨rfl, trivial, by np⟩

omit hN hwf in
theorem orphanLoop_tri {fuel N' : Nat} (ih : FileSpecs AP EL S pf ef N fuel) (initial : Item) :
    Tri (fHost AP EL S) N' (fuel + 1) 19 (.h initial) (orphanLoop pf ef (fuel + 1) initial) 0 T := by
  apply Tri.succ (c := 18)
  unfold FileParser.orphanLoop
  refine Tri.ite (fun hc => Tri.rawtext_then fun text => ?_) fun _ => Tri.ret rfl
  refine Tri.ite (fun _ => Tri.unexpected_textStart (by simpa using hc)) fun _ => Tri.up (real_of_beq hc (by decide)) ?_
  exact (nextNonComment_tri hz fuel).seqT fun nxt _ => (ih.orphanLoop_tri nxt).weak

theorem callParamsLoop_tri {fuel : Nat} (ih : FileSpecs AP EL S pf ef N fuel) (params : NodeList) (hpar : NPL S params) :
    Tri (fHost AP EL S) N (fuel + 1) 20 .b (callParamsLoop pf ef (fuel + 1) params) 0 (B (NPL S)) := by
  apply Tri.succ (c := 19)
  unfold FileParser.callParamsLoop
  refine (nextNonComment_tri hz fuel).seqT fun init0 _ => (ih.orphanLoop_tri init0).seqT fun initial hsi => ?_
  have hpi := posOK_of hsi
  refine Tri.ite (fun _ => Tri.unexpected) fun hc => ?_
  have hr := real_of_nbne hc (by decide)
  -- the next round, with one more param
  have again := fun (n : Node) (hn : NP S n) =>
    ih.callParamsLoop_tri (params.append (.cons n .nil)) (NPL_append _ _ hpar (by simp only [NPL]; exact ⟨hn, trivial⟩))
  refine Tri.next_h_then hz hr fun cmd _ => Tri.ite (fun _ => Tri.backup2_then (Tri.ret_p hpar)) fun _ => ?_
  refine Tri.ite (fun _ => Tri.errorf) fun hp => Tri.up2 (Tri.up (real_of_nbne hp (by decide)) ?_)
  -- {param key: expr /}, {param key}…{/param} or {param key="…" value="…" /}: decided with the ident in hand
  refine Tri.expect_then_h hz fun firstIdent hsf hty => ?_
  refine Tri.next_h_then hz (real_of_eq hty (by decide)) fun tok _ => ?_
  refine Tri.ite (fun hcol => Tri.up2 (Tri.up (real_of_beq hcol (by decide)) ?_)) fun _ => ?_
  · refine (Tri.parseExpr0 hz hN hwf).seq fun value hv => (Tri.expect hz).seq fun _ _ => ?_
    exact (again _ (by simp only [NP]; exact ⟨hpi, hv⟩)).weak
  have content : ∀ (key : Bytes), Tri (fHost AP EL S) N fuel 20 .b
      (FileParser.itemListLoop pf ef fuel [.tParamEnd] none .nil >>= fun value => FileParser.expect .tRightDelim >>= fun _ =>
        FileParser.callParamsLoop pf ef fuel (params.append (.cons (.paramContent initial.pos key value) .nil))) 0 (B (NPL S)) := by
    intro key
    refine (ih.block_tri _).seqH fun value t ⟨hu, _, hnp⟩ => ?_
    refine Tri.up (real_of_contains hu (by decide)) ((Tri.expect hz).seq fun _ _ => ?_)
    exact (again _ (by simp only [NP]; exact ⟨hpi, hnp⟩)).weak
  refine Tri.ite (fun hrd => Tri.up2 (Tri.up (real_of_beq hrd (by decide)) (content _).weak)) fun _ => ?_
  refine Tri.sub (A := fun _ => True) (d1 := 0) ?_ fun key _ => ?_
  · refine Tri.ite (fun _ => Tri.up2 (Tri.backup_then (Tri.ret_p trivial))) fun _ => ?_
    exact Tri.ite (fun _ => Tri.backup2_then (Tri.ret_p trivial)) fun _ => Tri.up2 Tri.unexpected
  refine (parseAttrs_tri hz _ fuel []).seq fun attrs _ => Tri.sub (A := fun _ => True) (d1 := 0) ?_ fun key2 _ => ?_
  · split
    · split
      · exact Tri.ret ⟨rfl, trivial⟩
      · exact Tri.errorf
    · exact Tri.ret ⟨rfl, trivial⟩
  split
  · exact (Tri.expect hz).seq fun _ _ => (content _).weak
  · refine (Tri.parseQuotedExpr _).seq fun value hv => (Tri.expect hz).seq fun _ _ => ?_
    exact (again _ (by simp only [NP]; exact ⟨hpi, hv⟩)).weak

omit hN hwf in
theorem parseMsg_tri {fuel : Nat} (ih : FileSpecs AP EL S pf ef N fuel) (token : Item) (hst : S token)
    (hvt : EL.lex → valid token) :
    Tri (fHost AP EL S) N (fuel + 1) 20 .b (parseMsg pf ef (fuel + 1) token) 0 (B fun r => childOK r ∧ NP S r) := by
  apply Tri.succ (c := 19)
  unfold FileParser.parseMsg
  refine (parseAttrs_tri hz _ fuel []).seq fun attrs _ => ?_
  split
  · exact Tri.errorf
  refine (Tri.expect hz).seq fun _ _ => Tri.modify (fun _ => rfl) ?_
  refine (ih.block_tri _).seqH fun contents tok ⟨hu, hl, hnp⟩ => Tri.modify (fun _ => rfl) ?_
  split
  · rename_i hnone
    have := placeholderize_isSome hl
    rw [hnone] at this
    simp at this
  · rename_i body hbody
    have hnb : NP S body := NP_placeholderize _ _ hbody hnp
    simp only
    refine Tri.ite (fun _ => Tri.errorfAt (vpos_of hst hvt)) fun _ => ?_
    exact Tri.up (real_of_contains hu (by decide)) ((Tri.expect hz).seq fun _ _ => Tri.ret ⟨rfl, trivial, by np⟩)

omit hz hN hwf in
theorem parsePlural_tri {fuel : Nat} (ih : FileSpecs AP EL S pf ef N fuel) (tok : Item) (hs : S tok)
    (hv : EL.lex → valid tok) :
    Tri (fHost AP EL S) N (fuel + 1) 20 .b (parsePlural pf ef (fuel + 1) tok) 0 (B fun r => childOK r ∧ NP S r) := by
  apply Tri.succ (c := 19)
  unfold FileParser.parsePlural
  refine Tri.get fun st => Tri.ite (fun _ => Tri.unexpected_of hs hv) fun _ => ?_
  refine (Tri.of_field fun st => ih.parseSwitch tok _ st (by decide) ⟨hs, hv⟩).seq
    fun sw ⟨⟨sp, sv, scs, hsw, hscs, hscv, hspv⟩, hnsw⟩ => ?_
  subst hsw
  simp only [NP] at hnsw
  simp only
  refine (pluralCases_tri _ _ _ ⟨hscs, hnsw.2.2, hscv⟩ ⟨pcasesOK_nil, NPL_nil⟩ fun _ h => by cases h).seq fun r ⟨hpcs, hd⟩ => ?_
  obtain ⟨pcs, dflt⟩ := r
  simp only
  split
  · exact Tri.errorfAt hspv
  · rename_i d _
    refine Tri.ret ⟨rfl, ?_, ?_⟩
    · exact ⟨phCases_isSome _ pcs rfl hpcs.1, placeholderize_isSome (hd d rfl).1⟩
    · simp only [NP]
      exact ⟨hnsw.1, hnsw.2.1, hpcs.2, (hd d rfl).2⟩

variable (AP EL S pf ef N)

omit hz hN hwf in
/-- The loop of `itemList`, given what its first `next` does.  Not a `Tri`: the very first read of the channel, at the
    top level, starts from `Inv0`, which is no mode (every other one from `Inv`), and what `textOrTag` leaves (a token
    in hand, or progress) depends on its result. -/
theorem itemListLoop_of_next {fuel : Nat} (ih : FileSpecs AP EL S pf ef N fuel) (untl : List ItemType) (lpos : Option Nat)
    (nodes : NodeList) (st : FState) (hnodes : childrenOK nodes ∧ NPL S nodes ∧ ∀ p, lpos = some p → PosOK S p)
    (hnext : ∀ Q : Item → FState → Prop, (∀ it st', InvW EL S st'.p → S it → st'.p.peekCount = st.p.peekCount - 1 →
      top st'.p = it → mu st'.p + real it = mu st.p → (∀ x, Hd st.p x → it = x) → Q it st') →
      FSafe AP EL S FileParser.next st Q)
    (hpc : st.p.peekCount ≤ 2) (hn : mu st.p ≤ N) (hf : 8 * mu st.p + 20 ≤ fuel + 1) :
    FSafe AP EL S (itemListLoop pf ef (fuel + 1) untl lpos nodes) st (ListPost EL S untl st) := by
  unfold FileParser.itemListLoop
  apply FSafe.bind
  apply hnext
  intro token st1 hi1 hs1 hpc1 ht1 hm1 _
  have hlp : PosOK S (lpos.getD token.pos) := by
    cases lpos with
    | none => exact posOK_of hs1
    | some p => exact hnodes.2.2 p rfl
  simp only
  apply FSafe.bind
  apply (ih.textOrTag token untl st1 hs1 hi1 (by omega) ht1 (by omega) (by omega)).mono
  intro r st2 ⟨hsh, hi2, hh, hc⟩
  obtain ⟨node, halt⟩ := r
  cases halt with
  | true =>
    have := hh rfl
    simp only [if_true] at hi2 ⊢
    exact FSafe.pure ⟨⟨hnodes.1, by simp only [NP]; exact ⟨hlp, hnodes.2.1⟩⟩, hi2, this.1, by omega, this.2.2⟩
  | false =>
    have := hc rfl
    simp only [Bool.false_eq_true, if_false] at hi2 ⊢
    split
    · rename_i n
      have hn1 := hsh n rfl
      apply (ih.itemListLoop _ _ _ st2 ⟨childrenOK_append _ _ hnodes.1 (show childrenOK (.cons n .nil) from ⟨hn1.1, trivial⟩),
        NPL_append _ _ hnodes.2.1 (by simp only [NPL]; exact ⟨hn1.2, trivial⟩), fun p h => by simp only [Option.some.injEq] at h; rw [← h]; exact hlp⟩
        hi2 (by omega) (by omega)).mono
      intro r st3 ⟨l, a, b, c, d⟩
      exact ⟨l, a, b, by omega, d⟩
    · apply (ih.itemListLoop _ _ _ st2 ⟨hnodes.1, hnodes.2.1, fun p h => by simp only [Option.some.injEq] at h; rw [← h]; exact hlp⟩ hi2 (by omega) (by omega)).mono
      intro r st3 ⟨l, a, b, c, d⟩
      exact ⟨l, a, b, by omega, d⟩

omit hN hwf in
theorem itemListLoop_ok {fuel : Nat} (ih : FileSpecs AP EL S pf ef N fuel) (untl : List ItemType) (lpos : Option Nat)
    (nodes : NodeList) (st : FState) (hnodes : childrenOK nodes ∧ NPL S nodes ∧ ∀ p, lpos = some p → PosOK S p)
    (hi : Inv EL S st.p) (hn : mu st.p ≤ N) (hf : 8 * mu st.p + 20 ≤ fuel + 1) :
    FSafe AP EL S (itemListLoop pf ef (fuel + 1) untl lpos nodes) st (ListPost EL S untl st) :=
  itemListLoop_of_next AP EL S pf ef N ih untl lpos nodes st hnodes (fun _ hq => FSafe.lift (next_safe hz hi fun it p' => hq it { st with p := p' })) hi.1 hn hf

omit hN hwf in
theorem itemListLoop_ok0 {fuel : Nat} (ih : FileSpecs AP EL S pf ef N fuel) (untl : List ItemType) (lpos : Option Nat)
    (nodes : NodeList) (st : FState) (hnodes : childrenOK nodes ∧ NPL S nodes ∧ ∀ p, lpos = some p → PosOK S p)
    (hi : Inv0 EL S st.p) (hn : mu st.p ≤ N) (hf : 8 * mu st.p + 20 ≤ fuel + 1) :
    FSafe AP EL S (itemListLoop pf ef (fuel + 1) untl lpos nodes) st (ListPost EL S untl st) :=
  itemListLoop_of_next AP EL S pf ef N ih untl lpos nodes st hnodes (fun _ hq => FSafe.lift (next_safe0 hz hi fun it p' => hq it { st with p := p' })) hi.1 hn hf


omit hN hwf in
/-- What `textOrTag` leaves depends on its result — the token that ended the list in hand, or a node and progress —
    and when the token it holds is the EOF / Error item that ends the stream it still reads one token of look-ahead,
    from the closed channel: that branch is walked at the level without `lex` (`InvW.crude`), outside the modes.
    The rest, with a real token in hand, is a `Tri`. -/
theorem textOrTag_ok {fuel : Nat} (ih : FileSpecs AP EL S pf ef N fuel) (token : Item) (untl : List ItemType)
    (st : FState) (hs : S token) (hi : InvW EL S st.p) (hpc : st.p.peekCount ≤ 1) (htop : top st.p = token)
    (hn : mu st.p + real token ≤ N) (hf : 8 * (mu st.p + real token) + 19 ≤ fuel + 1) :
    FSafe AP EL S (textOrTag pf ef (fuel + 1) token untl) st (fun r st' => (∀ n, r.1 = some n → childOK n ∧ NP S n) ∧
      (if r.2 = true then InvW EL S st'.p else Inv EL S st'.p) ∧
      (r.2 = true → st'.p.peekCount ≤ 1 ∧ mu st'.p + real (top st'.p) ≤ mu st.p + real token ∧
        untl.contains (top st'.p).typ = true) ∧
      (r.2 = false → mu st'.p + 1 ≤ mu st.p + real token)) := by
  unfold FileParser.textOrTag
  simp only
  apply FSafe.bind
  apply (skipComments_tri hz fuel token).run ⟨hi, hs, hpc, htop⟩ hn (Nat.le_of_succ_le_succ (Nat.le_trans (Nat.le_add_right _ 17) hf))
  intro tok st1 m1 hm1 hok1 hmu1
  subst hm1
  obtain ⟨hi1, hs1, hpc1, ht1⟩ := hok1
  have hmu1 : mu st1.p + real tok ≤ mu st.p + real token := hmu1
  apply FSafe.ite
  · intro hu
    exact FSafe.pure ⟨nofun, by simpa using hi1, fun _ => ⟨hpc1, by rw [ht1]; exact hmu1, by rw [ht1]; exact hu⟩, nofun⟩
  · intro _
    by_cases hreal : real tok = 1
    · -- a real token in hand: one more token is read, and whatever follows accepts `tok`
      refine Tri.run (m := .h tok) (c := 18) (d := 1) (Q := fun r m => (∀ n, r.1 = some n → childOK n ∧ NP S n) ∧
          if r.2 = true then ∃ t, m = .h t ∧ untl.contains t.typ = true else m = .b) ?_ ⟨hi1, hs1, hpc1, ht1⟩
        (Nat.le_trans hmu1 hn) (by show 8 * (mu st1.p + real tok) + 18 ≤ fuel; omega) ?_
      · refine Tri.next_h_then hz hreal fun token2 _ => Tri.up2 (Tri.ite (fun hu2 => ?_) fun _ => Tri.backup_then (Tri.of_p ?_))
        · exact Tri.ret ⟨nofun, _, rfl, (Bool.and_eq_true _ _ ▸ hu2).2⟩
        refine Tri.ite (fun _ => ?_) fun _ => Tri.ite (fun _ => ?_) fun _ => Tri.ite (fun _ => ?_) fun _ => ?_
        · refine (collectText_tri hz fuel _).seqH fun r nxt _ => Tri.backup_then (Tri.of_p (Tri.rawtext_then fun tv => ?_))
          refine Tri.ite (fun _ => Tri.ret ⟨nofun, rfl⟩) fun _ => Tri.ret ⟨fun n h => ?_, rfl⟩
          cases h
          exact ⟨trivial, by simp only [NP]; exact posOK_of hs1⟩
        · exact (Tri.of_field fun st => ih.beginTag st).seq fun n hn => Tri.ret ⟨hn, rfl⟩
        · exact (soyDocLoop_tri hz _ (posOK_of hs1) fuel []).seq fun n hn => Tri.ret ⟨fun _ h => by cases h; exact hn, rfl⟩
        · exact Tri.unexpected_of hs1 fun hl => ht1 ▸ hi1.valid_top hl
      · intro r st' m' ⟨hnode, hm'⟩ hok' hmu'
        have hmu' : m'.mu st'.p + 1 ≤ mu st1.p + real tok := hmu'
        cases hr : r.2 with
        | true =>
          rw [hr] at hm'
          obtain ⟨t, rfl, hu⟩ := hm'
          obtain ⟨hi', _, hpc', ht'⟩ := hok'
          have hmu' : mu st'.p + real t + 1 ≤ mu st1.p + real tok := hmu'
          exact ⟨hnode, by simpa using hi', fun _ => ⟨hpc', by rw [ht']; omega, by rw [ht']; exact hu⟩, nofun⟩
        | false =>
          rw [hr] at hm'
          subst hm'
          have hmu' : mu st'.p + 1 ≤ mu st1.p + real tok := hmu'
          have hok' : Inv EL S st'.p := hok'
          exact ⟨hnode, by simpa using hok', nofun, fun _ => by omega⟩
    · -- `tok` is the EOF or Error item that ends the stream: the look-ahead `token2` may be
      -- the zero item of the closed channel, but all that follows is `unexpected(tok)`
      have hv : EL.lex → valid tok := fun hl => ht1 ▸ hi1.valid_top hl
      have hr0 : real tok = 0 := by have := real_le tok; omega
      have no : ∀ {t : ItemType}, (tok.typ == t) = true → midT t = true → False := fun h ht => by
        have := real_of_beq h ht; omega
      apply FSafe.bind
      apply FSafe.lift
      apply next_safe hz hi1.crude
      intro token2 p2 hi2 hs2 hpc2 ht2 hm2 _
      apply FSafe.ite
      · intro hu2
        simp only [Bool.and_eq_true] at hu2
        exact (no hu2.1 (by decide)).elim
      · intro _
        apply FSafe.bind
        apply FSafe.lift
        apply backup_safe hi2 (by omega)
        intro p3 hi3 hm3 _
        apply FSafe.ite
        · exact fun hc => (no hc (by decide)).elim
        intro _
        apply FSafe.ite
        · exact fun hc => (no hc (by decide)).elim
        intro _
        apply FSafe.ite
        · exact fun hc => (no hc (by decide)).elim
        · exact fun _ => FSafe.lift (unexpected_safe' hs1 hv)

theorem fileSpecs_all : ∀ fuel, FileSpecs AP EL S pf ef N fuel := by
  intro fuel
  induction fuel with
  | zero =>
    exact {
      itemListLoop := fun _ _ _ _ _ _ _ h => by omega
      textOrTag := fun _ _ _ _ _ _ _ _ h => by omega
      beginTag := fun _ _ _ h => by omega
      parseTemplate := fun _ _ _ _ _ h => by omega
      parseLet := fun _ _ _ _ _ h => by omega
      ifLoop := fun _ _ _ _ _ _ _ h => by omega
      parseFor := fun _ _ _ _ _ h => by omega
      parseSwitch := fun _ _ _ _ _ _ _ h => by omega
      switchLoop := fun _ _ _ _ _ _ _ _ _ h => by omega
      caseLoop := fun _ _ _ _ _ _ h => by omega
      parseCall := fun _ _ _ _ _ h => by omega
      callParamsLoop := fun _ _ _ _ _ h => by omega
      orphanLoop := fun _ _ _ _ _ _ h => by omega
      parseMsg := fun _ _ _ _ _ _ h => by omega
      parsePlural := fun _ _ _ _ _ _ h => by omega }
  | succ f ih =>
    exact {
      itemListLoop := itemListLoop_ok AP EL S pf ef N hz ih
      textOrTag := textOrTag_ok AP EL S pf ef N hz ih
      beginTag := (beginTag_tri hz hN hwf ih).field
      parseTemplate := fun token st hs => (parseTemplate_tri hz ih token hs).field st
      parseLet := fun token st hs => (parseLet_tri hz hN hwf ih token hs).field st
      ifLoop := fun pos e conds st hpre => (ifLoop_tri hz hN hwf ih pos e conds hpre).field st
      parseFor := fun token st hs => (parseFor_tri hz hN hwf ih token hs).field st
      parseSwitch := fun token endT st hend hst => (parseSwitch_tri hz hN hwf ih token endT hend hst).field st
      switchLoop := fun pos v endT sd cs st hend hcs =>
        (switchLoop_tri hz ih pos v endT sd cs hend hcs).field st
      caseLoop := fun token vs st hpre => (caseLoop_tri hz hN hwf ih token vs hpre).field st
      parseCall := fun token st hs => (parseCall_tri hz ih token hs).field st
      callParamsLoop := fun params st hpar hi hn hf =>
        ((callParamsLoop_tri hz hN hwf ih params hpar).field st hi hn hf).mono fun r st' h => ⟨h.2.1, h.2.2, h.1⟩
      orphanLoop := fun initial st hs hi hpc ht hf =>
        (orphanLoop_tri hz ih initial).run ⟨hi, hs, hpc, ht⟩ (Nat.le_refl _) hf
          fun tok st' m' hm hok hmu => by subst hm; exact ⟨hok.2.1, hok.1, hok.2.2.1, hok.2.2.2, hmu⟩
      parseMsg := fun token st hs hv => (parseMsg_tri hz ih token hs hv).field st
      parsePlural := fun tok st hs hv => (parsePlural_tri ih tok hs hv).field st }

end
end SoyVerif.Lemmas.ParserSafe
