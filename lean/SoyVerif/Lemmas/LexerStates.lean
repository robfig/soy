/-
  The state functions around and inside a tag — `lexLeftDelim`, `lexRightDelim`, `lexRightDelimEnd`, `lexBeginTag`,
  `lexInsideTag` with `lexNegative` and `lexSymbol` — return (no PANIC), re-establish the invariant `Good` and decrease
  the measure `phi` when they hand over (`Post`).  A theorem `…_ok` is the one of a state, from `Good` and `Extra` on
  entry; a theorem `…_at` is about a function called inside a state function, from an `At`.  `step_ok`
  (Lemmas/LexerText.lean) puts the states together.
-/
import SoyVerif.Lemmas.LexerAt

namespace SoyVerif.Model.Lex
open SoyVerif SoyVerif.Model

variable {n : Int} {l0 l : Lexer} {e k j : Int}

theorem lexLeftDelim_ok {n : Int} {l : Lexer} (hg : Good n l) (hx : Extra .leftDelim l) :
    Sat (lexLeftDelim l) (Post n .leftDelim l) := by
  have hx : l.start = l.pos ∧ byteAt l.input l.pos.toNat = 123 := hx
  have hlt : l.pos < n := by
    have := byteAt_pos_lt (a := l.input) (i := l.pos.toNat) (by rw [hx.2]; decide)
    have hl : (l.input.size : Int) = n := hg.1.len
    have := hg.1.start_nonneg
    omega
  unfold lexLeftDelim
  -- `l.tagStart = l.start`: lexText has seen the `{` that stands here
  refine ((At.of_good hg).setTag (by rw [hx.1]; exact hx.2)).next_then fun r1 l1 R1 => ?_
  refine (R1.fwd (R1.ne_eof hlt)).next_then fun r2 l2 R2 => ?_
  dsimp only
  split
  · exact (R2.here.setDouble true).emitTo fun _ => rfl
  · exact (R2.back.setDouble false).emitTo fun _ => rfl

theorem lexRightDelim_ok {n : Int} {l : Lexer} (hg : Good n l) (hx : Extra .rightDelim l) :
    Sat (lexRightDelim l) (Post n .rightDelim l) := by
  have h := At.of_good_pending hg hx
  unfold lexRightDelim
  apply h.badDoubleClose.andThen
  intro (b, l1) ⟨h1, hs1⟩
  dsimp only
  refine Sat.ite' (fun _ => h1.errorfAt_start braces_err) ?_
  apply h1.emit.andThen
  intro l2 ⟨h2, _, _⟩
  exact Sat.ret (h2.post_same trivial)

theorem lexRightDelimEnd_ok {n : Int} {l : Lexer} (hg : Good n l) (hx : Extra .rightDelimEnd l) :
    Sat (lexRightDelimEnd l) (Post n .rightDelimEnd l) := by
  have h := At.of_good_pending hg hx
  unfold lexRightDelimEnd
  refine h.next_then fun r1 l1 R1 => ?_
  apply R1.here.badDoubleClose.andThen
  intro (b, l2) ⟨h2, _⟩
  dsimp only
  refine Sat.ite' (fun _ => h2.errorfAt_start braces_err) ?_
  apply h2.emit.andThen
  intro l3 ⟨h3, _, _⟩
  exact Sat.ret (h3.post_same trivial)

theorem lexBeginTag_ok {n : Int} {l : Lexer} (hg : Good n l) (hx : Extra .beginTag l) :
    Sat (lexBeginTag l) (Post n .beginTag l) := by
  have hx : l.start = l.pos := hx
  unfold lexBeginTag
  refine (At.of_good hg).peek_then fun r l1 h1 hp hs hne _ _ => ?_
  refine Sat.ite' (fun hr => ?_) ?_
  · exact Sat.ret (h1.post_same ⟨by omega, by rw [hp]; exact hne.1 (by omega)⟩)
  · exact Sat.ret (h1.post_same (show l1.start = l1.pos by omega))

/-- `lexNegative`, called by lexInsideTag (`l0`) right after reading '-' -/
theorem lexNegative_at (h : At n l0 l 1 1 0) : Sat (lexNegative l) (Post n .insideTag l0) := by
  unfold lexNegative
  refine Sat.ite' (fun _ => ?_) (h.emitTo fun _ => rfl)
  refine h.peek_then fun p1 l1 h1 hp1 hs1 he1 _ _ => ?_
  dsimp only
  apply Sat.bind
  refine Sat.ite' (fun h48 => ?_) ?_
  · refine h1.peek_then fun p2 l2 h2 hp2 hs2 he2 hn2 ha2 => Sat.ret ?_
    dsimp only
    refine Sat.ite' (fun hnum => ?_) (h2.emitTo fun _ => rfl)
    -- a digit follows: it has width 1, and `backup` steps over it once more, to the '-'
    have hne : p2 ≠ -1 := he2.2 (hp1 ▸ he1.1 (by omega))
    have hw : l2.width = 1 := (ha2 (hn2 hne) (by have := of_decide_eq_true hnum; omega)).2
    have := h2.pend
    have := h2.adv
    refine Sat.ret ((h2.move (l' := l2.backup) rfl rfl rfl (Int.le_refl _) (e' := 0) (k' := 0) (j' := 0) ?_ ?_ ?_).post_same trivial)
    all_goals (simp only [backup_pos, backup_start]; have := h2.le_len; omega)
  · refine Sat.ret ?_
    dsimp only
    rw [if_neg (by simp)]
    exact h1.emitTo fun _ => rfl

theorem isSpaceEOL_nonneg {r : Int} (h : isSpaceEOL r = true) : 0 ≤ r := by
  simp only [isSpaceEOL, isSpace, isEndOfLine, Bool.or_eq_true, beq_iff_eq] at h
  omega

theorem isLetterOrUnderscore_ge {r : Int} (h : isLetterOrUnderscore r = true) : 65 ≤ r := by
  simp only [isLetterOrUnderscore, Bool.or_eq_true, Bool.and_eq_true, decide_eq_true_eq, beq_iff_eq] at h
  omega

theorem lexSymbol_at (h : At n l0 l 1 1 0) : Sat (lexSymbol l) (Post n .insideTag l0) := by
  unfold lexSymbol
  apply h.accept.andThen
  intro (b, l1) ⟨h1, _⟩
  dsimp only
  apply h1.slice.andThen
  intro sym _
  split
  · exact h1.errorf
  · rename_i hsym
    exact h1.emitInside (symbols_lookup_ok hsym)

/-- lexInsideTag has read the rune `r` at `l0`, where nothing was pending, and `l` stands behind it — behind a peek too if
    `r` is '/' or '=', after which `backup` no longer returns to `l0` -/
structure Behind (n : Int) (l0 l : Lexer) (r : Int) : Prop where
  here : At n l0 l 0 0 0
  fwd : r ≠ -1 → At n l0 l 1 1 0
  start : l.start = l0.pos
  back : r ≠ 47 → r ≠ 61 → At n l0 l.backup 0 0 0 ∧ l.backup.pos = l0.pos
  nonneg : r ≠ -1 → 0 ≤ r
  ascii : 0 ≤ r → r < 128 → (byteAt l0.input l0.pos.toNat : Int) = r ∧ l.pos = l0.pos + 1

/-- back to `l0` and on to a state that reads the rune again -/
theorem Behind.rewind {r : Int} {st' : St} (B : Behind n l0 l r) (h47 : r ≠ 47) (h61 : r ≠ 61) (hr : r ≠ -1)
    (hx : l0.pos < n → ExtraAt st' l0.input n l0.pos l0.pos) (ha : rank st' < rank .insideTag := by decide) :
    Sat (pure (some st', l.backup)) (Post n .insideTag l0) := by
  obtain ⟨hb, hp⟩ := B.back h47 h61
  have hlt : l0.pos < n := by have := (B.fwd hr).adv; have := B.here.le_len; omega
  refine Sat.ret (hb.post_same ?_ ha)
  rw [hp, show l.backup.start = l0.pos from B.start]
  exact hx hlt

theorem lexInsideTagRest_at {r : Int} (B : Behind n l0 l r) : Sat (lexInsideTagRest r l) (Post n .insideTag l0) := by
  unfold lexInsideTagRest
  refine Sat.ite' (fun hquote => ?_) ?_
  · -- the opening quote has just been read: `lexString r` starts one byte after `l.start`
    obtain ⟨hb, hp⟩ := B.ascii (by omega) (by omega)
    exact Sat.ret ((B.fwd (by omega)).post ⟨by rw [B.start, hp], by rw [B.start]; exact hb, hquote⟩)
  refine Sat.ite' (fun hr => (B.fwd (by omega)).emitInside) ?_
  refine Sat.ite' (fun _ => B.here.errorfAt_tagStart) ?_
  refine Sat.ite' (fun hr => (B.fwd (by omega)).emitInside) ?_
  refine Sat.ite' (fun hl => ?_) ?_
  · have := isLetterOrUnderscore_ge hl
    exact B.rewind (by omega) (by omega) (by omega) fun hlt => ⟨rfl, hlt⟩
  refine Sat.ite' (fun hr => (B.fwd (by omega)).emitInside) ?_
  refine Sat.ite' (fun hr => Sat.ret ((B.fwd (by omega)).post trivial)) ?_
  exact B.here.errorf

theorem lexInsideTagMid_at {r : Int} (B : Behind n l0 l r) : Sat (lexInsideTagMid r l) (Post n .insideTag l0) := by
  unfold lexInsideTagMid
  refine Sat.ite' (fun hr => B.rewind (by omega) (by omega) (by omega) fun hlt => ⟨rfl, hlt⟩) ?_
  refine Sat.ite' (fun hr => (B.fwd (by omega)).emitInside) ?_
  refine Sat.ite' (fun hr => (B.fwd (by omega)).emitInside) ?_
  refine Sat.ite' (fun hr => ?_) ?_
  · have h1 := B.fwd (by omega)
    obtain ⟨_, hp1⟩ := B.ascii (by omega) (by omega)
    refine h1.next_then fun r2 l2 R2 => ?_
    dsimp only
    refine Sat.ite' (fun h46 => ?_) ?_
    · -- `?.`: `l.pos -= 2`, back to the `?`
      obtain ⟨_, hp2, _⟩ := R2.ascii (by omega) (by omega)
      have hlt : l0.pos < n := by have := h1.adv; have := h1.le_len; omega
      have := R2.here.le_len
      refine Sat.ret ((R2.here.move (l' := l2.addPos (-2)) rfl rfl rfl (Int.le_refl _) (e' := 0) (k' := 0) (j' := 0) ?_ ?_ ?_).post_same
        ⟨?_, ?_⟩)
      all_goals (simp only [addPos_pos, addPos_start]; have := R2.start; have := B.start; omega)
    refine Sat.ite' (fun h91 => (R2.fwd (by omega)).emitInside) ?_
    refine Sat.ite' (fun h58 => (R2.fwd (by omega)).emitInside) ?_
    exact R2.back.emitInside
  refine Sat.ite' (fun hr => lexNegative_at (B.fwd (by omega))) ?_
  refine Sat.ite' (fun hr => Sat.ret ((B.fwd (by omega)).post (B.fwd (by omega)).start_lt)) ?_
  refine Sat.ite' (fun hr => B.rewind (by omega) (by omega) (by omega) fun _ => trivial) ?_
  refine Sat.ite' (fun hsym => (B.fwd (by omega)).emitInside (symbols_getD_ok r _ hsym)) ?_
  refine Sat.ite' (fun hr => lexSymbol_at (B.fwd (by omega))) ?_
  refine Sat.ite' (fun hr => ?_) (lexInsideTagRest_at B)
  have h1 := B.fwd (by omega)
  refine h1.peek_then fun p2 l2 h2 hp2 hs2 _ _ _ => ?_
  dsimp only
  refine Sat.ite' (fun _ => lexSymbol_at h2) (lexInsideTagRest_at ⟨h2.weak (e' := 0) (k' := 0) (j' := 0), fun _ => h2, by rw [hs2, B.start],
    fun _ h61 => absurd hr h61, B.nonneg, fun h0 h128 => ⟨(B.ascii h0 h128).1, by rw [hp2]; exact (B.ascii h0 h128).2⟩⟩)

theorem lexInsideTag_ok {n : Int} {l : Lexer} (hg : Good n l) (hx : Extra .insideTag l) :
    Sat (lexInsideTag l) (Post n .insideTag l) := by
  have hx : l.start = l.pos := hx
  unfold lexInsideTag
  refine (At.of_good hg).next_then fun r l1 R => ?_
  dsimp only
  have B : Behind n l l1 r := ⟨R.here, R.fwd, by rw [R.start, hx], fun _ _ => ⟨R.back, R.back_pos⟩, R.nonneg,
    fun h0 h1 => ⟨(R.ascii h0 h1).1, (R.ascii h0 h1).2.1⟩⟩
  refine Sat.ite' (fun hsp => ?_) (Sat.ite' (fun hr => ?_) (lexInsideTagMid_at B))
  · have := isSpaceEOL_nonneg hsp
    exact Sat.ret ((R.fwd (by omega)).ignore.post rfl)
  · have h1 := R.fwd (by omega)
    refine h1.peek_then fun p2 l2 h2 hp2 hs2 _ _ _ => ?_
    dsimp only
    refine Sat.ite' (fun _ => Sat.ret (h2.post h2.start_lt)) (lexInsideTagMid_at ⟨h2.weak (e' := 0) (k' := 0) (j' := 0), fun _ => h2, by rw [hs2, B.start],
      fun h47 _ => absurd hr h47, B.nonneg, fun h0 h128 => ⟨(B.ascii h0 h128).1, by rw [hp2]; exact (B.ascii h0 h128).2⟩⟩)

end SoyVerif.Model.Lex
