/- The conversion model meets its specification on JSON-like inputs: it never panics there and the
   result has the shape of the input (mutual structural recursion over the nested `GoVal`); and two facts
   about single cases that Props/C20 uses (`uint_guard`, `lower_ascii`). -/
import SoyVerif.Lemmas.Value
import SoyVerif.Spec.Convert

namespace SoyVerif.Convert
open SoyVerif SoyVerif.Spec

theorem listId_ne_zero (len n : Nat) (h : 0 < n) : listId len n ≠ 0 := by
  unfold listId
  split <;> omega

/-- on JSON-like input `NewWith` goes straight to the kind switch: the Marshaler and `data.Value` cases
    that `convM` tests first are excluded, and the interface layers it peels are peeled by `convK` too
    (`JsonLike` takes the key function only to pass it down: any `key` will do) -/
theorem convM_jsonLike (lc : Bool) (key : Bytes → Bytes) (g : GoVal) (n : Nat) (h : JsonLike key g = true) :
    convM lc g n = convK lc g n := by
  cases g with
  | iface g =>
    have h' : JsonLike key g = true := by simpa [JsonLike] using h
    simpa [convM, convK] using convM_jsonLike lc key g n h'
  | ptr g => cases g <;> simp [JsonLike] at h <;> simp [convM, convK]
  | _ => simp [JsonLike] at h <;> simp [convM, convK]

/- `n` is the next fresh identity the conversion hands to a map or a list and `n'` the next one afterwards
   (`n ≤ n'`: identities are never reused); `0 < n` because `Shape.slice` wants the identity `listId … n` of a
   non-nil list to differ from 0, the identity of the nil ones (`listId_ne_zero`).  In `shapeKvs` / `shapeFields`
   `acc` is the association list built so far: the result is `acc ++ m`. -/
mutual
theorem shapeK (lc : Bool) : ∀ (g : GoVal) (n : Nat), 0 < n → JsonLike (fieldKey lc) g = true →
    ∃ v n', convK lc g n = some (v, n') ∧ Shape (fieldKey lc) g v ∧ n ≤ n'
  | .nil, n, _, _ => ⟨.null, n, by simp [convK], .nil, Nat.le_refl _⟩
  | .nilPtr, n, _, _ => ⟨.null, n, by simp [convK], .nilPtr, Nat.le_refl _⟩
  | .bool b, n, _, _ => ⟨.bool b, n, by simp [convK], .bool b, Nat.le_refl _⟩
  | .int k i, n, _, _ => ⟨.int i, n, by simp [convK], .int k i, Nat.le_refl _⟩
  | .uint k u, n, _, _ => ⟨.int u.toInt64, n, by simp [convK], .uint k u, Nat.le_refl _⟩
  | .float32 f, n, _, _ => ⟨.float f, n, by simp [convK], .float32 f, Nat.le_refl _⟩
  | .float64 f, n, _, _ => ⟨.float f, n, by simp [convK], .float64 f, Nat.le_refl _⟩
  | .string b, n, _, _ => ⟨.str b, n, by simp [convK], .string b, Nat.le_refl _⟩
  | .time b, n, _, _ => ⟨.str b, n, by simp [convK], .time b, Nat.le_refl _⟩
  | .nilSlice, n, _, _ => ⟨.list 0 [], n, by simp [convK], .nilSlice, Nat.le_refl _⟩
  | .nilMap, n, hn, _ => ⟨.map n [], n + 1, by simp [convK], .nilMap (by omega), by omega⟩
  | .iface g, n, hn, h => by
    have h' : JsonLike (fieldKey lc) g = true := by simpa [JsonLike] using h
    obtain ⟨v, n', e, s, l⟩ := shapeK lc g n hn h'
    exact ⟨v, n', by simpa [convK] using e, .iface s, l⟩
  | .ptr g, n, hn, h => by
    have h' : JsonLike (fieldKey lc) g = true := by simpa [JsonLike] using h
    obtain ⟨v, n', e, s, l⟩ := shapeK lc g n hn h'
    exact ⟨v, n', by simpa [convK] using e, .ptr s, l⟩
  | .slice xs, n, hn, h => by
    have h' : JsonLikeList (fieldKey lc) xs = true := by simpa [JsonLike] using h
    obtain ⟨vs, n', e, s, l⟩ := shapeList lc xs (n + 1) (by omega) h'
    exact ⟨.list (listId vs.length n) vs, n', by simp [convK, e], .slice (listId_ne_zero _ _ hn) s, by omega⟩
  | .strMap kvs, n, hn, h => by
    have h' : JsonLikeKvs (fieldKey lc) (([] : List (Bytes × Value)).map Prod.fst) kvs = true := by
      simpa [JsonLike] using h
    obtain ⟨m, n', e, s, l⟩ := shapeKvs lc kvs [] (n + 1) (by omega) h'
    exact ⟨.map n m, n', by simp [convK, e], .strMap (by omega) s, by omega⟩
  | .struct fs, n, hn, h => by
    have h' : JsonLikeFields (fieldKey lc) (([] : List (Bytes × Value)).map Prod.fst) fs = true := by
      simpa [JsonLike] using h
    obtain ⟨m, n', e, s, l⟩ := shapeFields lc fs [] (n + 1) (by omega) h'
    exact ⟨.map n m, n', by simp [convK, e], .struct (by omega) s, by omega⟩
  | .keyedMap _, _, _, h => by simp [JsonLike] at h
  | .value _, _, _, h => by simp [JsonLike] at h
  | .marshaler _ _ _, _, _, h => by simp [JsonLike] at h
  | .nilMarshalerPtr, _, _, h => by simp [JsonLike] at h
  | .unsupported, _, _, h => by simp [JsonLike] at h
theorem shapeList (lc : Bool) : ∀ (xs : List GoVal) (n : Nat), 0 < n → JsonLikeList (fieldKey lc) xs = true →
    ∃ vs n', convList lc xs n = some (vs, n') ∧ ShapeList (fieldKey lc) xs vs ∧ n ≤ n'
  | [], n, _, _ => ⟨[], n, by simp [convList], .nil, Nat.le_refl _⟩
  | x :: xs, n, hn, h => by
    have h' : JsonLike (fieldKey lc) x = true ∧ JsonLikeList (fieldKey lc) xs = true := by
      simpa [JsonLikeList] using h
    obtain ⟨v, n1, e1, s1, l1⟩ := shapeK lc x n hn h'.1
    obtain ⟨vs, n2, e2, s2, l2⟩ := shapeList lc xs n1 (by omega) h'.2
    exact ⟨v :: vs, n2, by simp [convList, convM_jsonLike lc _ x n h'.1, e1, e2], .cons s1 s2, by omega⟩
theorem shapeKvs (lc : Bool) : ∀ (kvs : List (Bytes × GoVal)) (acc : List (Bytes × Value)) (n : Nat), 0 < n →
    JsonLikeKvs (fieldKey lc) (acc.map Prod.fst) kvs = true →
    ∃ m n', convKvs lc kvs acc n = some (acc ++ m, n') ∧ ShapeKvs (fieldKey lc) kvs m ∧ n ≤ n'
  | [], acc, n, _, _ => ⟨[], n, by simp [convKvs], .nil, Nat.le_refl _⟩
  | (k, x) :: r, acc, n, hn, h => by
    have h' : (k ∉ acc.map Prod.fst ∧ JsonLike (fieldKey lc) x = true) ∧
        JsonLikeKvs (fieldKey lc) (acc.map Prod.fst ++ [k]) r = true := by
      simpa [JsonLikeKvs] using h
    obtain ⟨v, n1, e1, s1, l1⟩ := shapeK lc x n hn h'.1.2
    have hi : Value.insert acc k v = acc ++ [(k, v)] := Value.insert_of_not_mem acc k v h'.1.1
    have h2 : JsonLikeKvs (fieldKey lc) ((acc ++ [(k, v)]).map Prod.fst) r = true := by
      simpa using h'.2
    obtain ⟨m, n2, e2, s2, l2⟩ := shapeKvs lc r (acc ++ [(k, v)]) n1 (by omega) h2
    refine ⟨(k, v) :: m, n2, ?_, .cons s1 s2, by omega⟩
    simp [convKvs, convM_jsonLike lc _ x n h'.1.2, e1, hi, e2]
theorem shapeFields (lc : Bool) : ∀ (fs : List (Bytes × Bool × GoVal)) (acc : List (Bytes × Value)) (n : Nat), 0 < n →
    JsonLikeFields (fieldKey lc) (acc.map Prod.fst) fs = true →
    ∃ m n', convFields lc fs acc n = some (acc ++ m, n') ∧ ShapeFields (fieldKey lc) fs m ∧ n ≤ n'
  | [], acc, n, _, _ => ⟨[], n, by simp [convFields], .nil, Nat.le_refl _⟩
  | (name, false, x) :: r, acc, n, hn, h => by
    have h' : JsonLikeFields (fieldKey lc) (acc.map Prod.fst) r = true := by simpa [JsonLikeFields] using h
    obtain ⟨m, n2, e2, s2, l2⟩ := shapeFields lc r acc n hn h'
    exact ⟨m, n2, by simp [convFields, e2], .skip s2, l2⟩
  | (name, true, x) :: r, acc, n, hn, h => by
    have h' : (fieldKey lc name ∉ acc.map Prod.fst ∧ JsonLike (fieldKey lc) x = true) ∧
        JsonLikeFields (fieldKey lc) (acc.map Prod.fst ++ [fieldKey lc name]) r = true := by
      simpa [JsonLikeFields] using h
    obtain ⟨v, n1, e1, s1, l1⟩ := shapeK lc x n hn h'.1.2
    have hi : Value.insert acc (fieldKey lc name) v = acc ++ [(fieldKey lc name, v)] :=
      Value.insert_of_not_mem acc _ v h'.1.1
    have h2 : JsonLikeFields (fieldKey lc) ((acc ++ [(fieldKey lc name, v)]).map Prod.fst) r = true := by
      simpa using h'.2
    obtain ⟨m, n2, e2, s2, l2⟩ := shapeFields lc r (acc ++ [(fieldKey lc name, v)]) n1 (by omega) h2
    refine ⟨(fieldKey lc name, v) :: m, n2, ?_, .field s1 s2, by omega⟩
    simp [convFields, convM_jsonLike lc _ x n h'.1.2, e1, hi, e2]
end

theorem shapeM (lc : Bool) (g : GoVal) (n : Nat) (hn : 0 < n) (h : JsonLike (fieldKey lc) g = true) :
    ∃ v n', convM lc g n = some (v, n') ∧ Shape (fieldKey lc) g v ∧ n ≤ n' := by
  rw [convM_jsonLike lc _ g n h]
  exact shapeK lc g n hn h

/-- `Int(v.Uint())` keeps the number exactly when it is below 2^63 -/
theorem uint_guard (u : UInt64) (h : u.toNat < 2 ^ 63) : u.toInt64.toInt = (u.toNat : Int) := by
  have : u.toInt64.toInt = u.toBitVec.toInt := rfl
  rw [this, BitVec.toInt_eq_toNat_cond]
  have h3 : u.toBitVec.toNat = u.toNat := rfl
  rw [h3]
  split <;> omega

theorem lower_ascii (c : UInt8) (h : c < 128) : encodeRune (toLower c.toNat) = [if 65 ≤ c ∧ c ≤ 90 then c + 32 else c] := by
  have hc : c.toNat < 128 := by simpa [UInt8.lt_iff_toNat_lt] using h
  unfold toLower
  simp only [hc, if_true]
  by_cases hu : 65 ≤ c.toNat ∧ c.toNat ≤ 90
  · have : 65 ≤ c ∧ c ≤ 90 := by simpa [UInt8.le_iff_toNat_le] using hu
    have h2 : c.toNat + 32 < 128 := by omega
    simp only [hu, this, and_self, if_true, encodeRune, h2]
    congr 1
  · have : ¬ (65 ≤ c ∧ c ≤ 90) := by simpa [UInt8.le_iff_toNat_le] using hu
    simp only [hu, this, if_false, encodeRune, hc, if_true]
    congr 1
    apply UInt8.toNat_inj.mp
    simp

end SoyVerif.Convert
