/-
  `NamesOk ff e`: the (decidable) condition on the names and literal spellings of a tree under
  which the lexer reads the printed text back token by token —
  * names are identifiers AS THE LEXER READS THEM: runs of letters, digits and `_` in UTF-8
    (`unicode.IsLetter`, `unicode.IsDigit`: `alnumBytes`), where
    - a function name and the first segment of a global begin with an ASCII letter or `_`
      (`isLetterOrUnderscore` in `lexInsideTag`) and are not keys of `builtinIdents`
      (`and`, `true`, `null`, `print`, `sp`, … would lex as the keyword): `identOk`, `notKeyword`;
    - a data-ref key `$k` begins with a letter (any Unicode letter) or `_`: `varOk`;
    - an access key `.k` / `?.k` and a later segment `.seg` of a global are names like that of a variable
      (not empty, not beginning with a digit, which would make it an index token): `keyOk`;
  * index accesses are not negative (`.-3` is not a token);
  * a string literal is spelled `q body q` with `q` one of `'` `"`, no unescaped `q` and no lone
    trailing backslash in the body (`strOk`; map keys are printed by `quoteString`, always fine);
  * a float literal `fmtFloatLit ff bits` has the shape `scanNumber` accepts as a float
    (`floatSpelling`: `[-]digits.digits[e[+-]digits]` or `[-]digits e[+-]digits` without leading
    zero) — a HYPOTHESIS on the parameter `ff` (`strconv.FormatFloat`), violated by NaN and ±Inf.
  Integers need no condition (`fmtInt`).
-/
import SoyVerif.Lemmas.LexPrintRun
import SoyVerif.Lemmas.NatDigits


namespace SoyVerif.Lemmas.LexPrint
open SoyVerif SoyVerif.Model SoyVerif.Model.Lex SoyVerif.Model.PrintTokens SoyVerif.Model.Printer

/-- what `lexInsideTag` + `lexIdent` read as ONE word — `[A-Za-z_][A-Za-z0-9_]*` for ASCII names -/
def identOk : Bytes → Bool
  | [] => false
  | c :: k => isIdStart c && alnumBytes k

def varOk : Bytes → Bool
  | [] => false
  | c :: k =>
    alnumBytes (c :: k) &&
      match runeAt (c :: k) with
      | some (r, _) => letterR r
      | none => false

/-- the key of `.key` / `?.key`: the lexer takes neither the empty key, `$a.`, nor a key beginning with a
    non-ASCII digit, `.٣`, for a name (/repo 8984077) -/
def keyOk (k : Bytes) : Bool := varOk k

/-- not a key of `parse.builtinIdents` -/
def notKeyword (n : Bytes) : Bool := (Gen.builtinIdents.lookup n).isNone

/-- a `.name` segment of a global -/
def segOk : Bytes → Bool
  | 46 :: k => keyOk k
  | _ => false

def globalOk (n : Bytes) : Bool :=
  identOk (splitDots n).1 && notKeyword (splitDots n).1 && (splitDots n).2.all segOk

/-- the exponent part: `e[+-]digits`, or nothing if `allowEmpty` -/
def expTail (t : Bytes) (allowEmpty : Bool) : Bool :=
  match t with
  | [] => allowEmpty
  | 101 :: t' =>
    let t'' := match t' with
      | 43 :: r => r
      | 45 :: r => r
      | _ => t'
    !t''.isEmpty && t''.all isDig
  | _ => false

def noLeadZero (ds : Bytes) : Bool := ds == [48] || ds.head? != some 48

def floatSpelling (v : Bytes) : Bool :=
  let v1 := match v with
    | 45 :: r => r
    | _ => v
  let ds := v1.takeWhile isDig
  let t1 := v1.dropWhile isDig
  !ds.isEmpty &&
    match t1 with
    | 46 :: t2 => !(t2.takeWhile isDig).isEmpty && expTail (t2.dropWhile isDig) true
    | _ => noLeadZero ds && expTail t1 false

section
variable (ff : UInt64 → Bytes)

mutual
  def NamesOk : Expr → Bool
    | .null _ => true
    | .bool _ _ => true
    | .int _ _ => true
    | .float _ bits => floatSpelling (fmtFloatLit ff bits)
    | .str _ q _ => strOk q
    | .global _ n => globalOk n
    | .func _ n args => identOk n && notKeyword n && NamesOkL args
    | .list _ items => NamesOkL items
    | .map _ items => NamesOkM items
    | .dataRef _ k acc => varOk k && NamesOkAL acc
    | .not _ a => NamesOk a
    | .neg _ a => NamesOk a
    | .bin _ _ a b => NamesOk a && NamesOk b
    | .tern _ c a b => NamesOk c && NamesOk a && NamesOk b
  def NamesOkL : ExprList → Bool
    | .nil => true
    | .cons e r => NamesOk e && NamesOkL r
  def NamesOkM : MapItems → Bool
    | .nil => true
    | .cons _ e r => NamesOk e && NamesOkM r
  def NamesOkAL : AccessList → Bool
    | .nil => true
    | .cons a r => NamesOkA a && NamesOkAL r
  def NamesOkA : Access → Bool
    | .key _ _ k => keyOk k
    | .index _ _ i => decide (0 ≤ i)
    | .expr _ _ e => NamesOk e
end

end

theorem identOk_parts {k : Bytes} (h : identOk k = true) :
    ∃ c r, k = c :: r ∧ isIdStart c = true ∧ alnumBytes r = true := by
  cases k with
  | nil => simp [identOk] at h
  | cons c r =>
    simp only [identOk, Bool.and_eq_true] at h
    exact ⟨c, r, rfl, h.1, h.2⟩

theorem varOk_parts {k : Bytes} (h : varOk k = true) :
    ∃ c r, k = c :: r ∧ alnumBytes (c :: r) = true ∧ ∀ x w, runeAt (c :: r) = some (x, w) → letterR x = true := by
  cases k with
  | nil => simp [varOk] at h
  | cons c r =>
    simp only [varOk, Bool.and_eq_true] at h
    refine ⟨c, r, rfl, h.1, ?_⟩
    intro x w hx
    have h2 := h.2
    rw [hx] at h2
    exact h2

theorem keyOk_parts {k : Bytes} (h : keyOk k = true) :
    ∃ c r, k = c :: r ∧ alnumBytes (c :: r) = true ∧ ∀ x w, runeAt (c :: r) = some (x, w) → letterR x = true :=
  varOk_parts h

theorem idStart_idChar {c : UInt8} (h : isIdStart c = true) : isIdChar c = true := by simp [isIdChar, h]

theorem idStart_notDig {c : UInt8} (h : isIdStart c = true) : isDig c = false := by
  have hn := isIdStart_nat h
  cases hd : isDig c with
  | false => rfl
  | true => have := isDig_nat hd; omega

theorem natDigits_shape (n : Nat) : natDigits n ≠ [] ∧ AllDig (natDigits n) ∧ NoLeadZero (natDigits n) :=
  have ⟨hne, hall, hz, _⟩ := NatDigits.printer_natDigits_shape n
  ⟨hne, hall, hz⟩

theorem fmtInt_shape (v : Int) : NumShape (fmtInt v) .tInteger := by
  obtain ⟨hne, hall, hz⟩ := natDigits_shape v.natAbs
  unfold fmtInt
  split
  · exact ⟨[45], natDigits v.natAbs, [], [], by simp, Or.inr rfl, hne, hall, Or.inl rfl, Or.inl rfl, fun _ => hz, by simp⟩
  · exact ⟨[], natDigits v.natAbs, [], [], by simp, Or.inl rfl, hne, hall, Or.inl rfl, Or.inl rfl, fun _ => hz, by simp⟩

/-- the spelling of a non-negative index: digits, so that `.` in front of it begins a DotIndex token -/
theorem fmtInt_nonneg {i : Int} (h : 0 ≤ i) : ∃ c k, fmtInt i = c :: k ∧ isDig c = true ∧ ∀ b ∈ c :: k, isIdChar b = true := by
  obtain ⟨hne, hall, _⟩ := natDigits_shape i.natAbs
  unfold fmtInt
  rw [if_neg (by omega)]
  cases hd : natDigits i.natAbs with
  | nil => exact absurd hd hne
  | cons c k =>
    rw [hd] at hall
    exact ⟨c, k, rfl, hall c (by simp), fun b hb => by simp [isIdChar, hall b hb]⟩

theorem takeWhile_allDig : (v : Bytes) → AllDig (v.takeWhile isDig)
  | [] => by intro b hb; simp at hb
  | a :: r => by
    intro b hb
    rw [List.takeWhile_cons] at hb
    split at hb
    · rename_i ha
      rcases List.mem_cons.mp hb with rfl | hb
      · exact ha
      · exact takeWhile_allDig r b hb
    · simp at hb

theorem expTail_ok {t : Bytes} {allow : Bool} (h : expTail t allow = true) :
    ExpOk t ∧ (allow = false → t ≠ []) := by
  unfold expTail at h
  split at h
  · exact ⟨Or.inl rfl, fun ha => by rw [ha] at h; exact absurd h (by simp)⟩
  · rename_i t'
    refine ⟨Or.inr ?_, fun _ => by simp⟩
    simp only [Bool.and_eq_true, Bool.not_eq_true', List.isEmpty_eq_false_iff, List.all_eq_true] at h
    split at h
    · rename_i r; exact ⟨[43], r, rfl, Or.inr (Or.inl rfl), h.1, h.2⟩
    · rename_i r; exact ⟨[45], r, rfl, Or.inr (Or.inr rfl), h.1, h.2⟩
    · exact ⟨[], t', rfl, Or.inl rfl, h.1, h.2⟩
  · exact absurd h (by simp)

theorem floatSpelling_shape {v : Bytes} (h : floatSpelling v = true) : NumShape v .tFloat := by
  unfold floatSpelling at h
  have key : ∀ (sg v1 : Bytes), v = sg ++ v1 → (sg = [] ∨ sg = [45]) →
      (!(v1.takeWhile isDig).isEmpty &&
        match v1.dropWhile isDig with
        | 46 :: t2 => !(t2.takeWhile isDig).isEmpty && expTail (t2.dropWhile isDig) true
        | _ => noLeadZero (v1.takeWhile isDig) && expTail (v1.dropWhile isDig) false) = true →
      NumShape v .tFloat := by
    intro sg v1 hv hsg hh
    simp only [Bool.and_eq_true, Bool.not_eq_true', List.isEmpty_eq_false_iff] at hh
    obtain ⟨hds, hh⟩ := hh
    have hsplit : v1 = v1.takeWhile isDig ++ v1.dropWhile isDig := (List.takeWhile_append_dropWhile).symm
    split at hh
    · rename_i t2 ht1
      simp only [Bool.and_eq_true, Bool.not_eq_true', List.isEmpty_eq_false_iff] at hh
      obtain ⟨hfs, hex⟩ := hh
      have hx := expTail_ok hex
      have hsplit2 : t2 = t2.takeWhile isDig ++ t2.dropWhile isDig := (List.takeWhile_append_dropWhile).symm
      refine ⟨sg, v1.takeWhile isDig, 46 :: t2.takeWhile isDig, t2.dropWhile isDig, ?_, hsg, hds, takeWhile_allDig _,
        Or.inr ⟨_, rfl, hfs, takeWhile_allDig _⟩, hx.1, fun e => by simp at e, by simp⟩
      rw [hv]
      congr 1
      conv => lhs; rw [hsplit, ht1, hsplit2]
      simp
    · rename_i hnot
      simp only [Bool.and_eq_true] at hh
      obtain ⟨hz, hex⟩ := hh
      have hx := expTail_ok hex
      have hne := hx.2 rfl
      refine ⟨sg, v1.takeWhile isDig, [], v1.dropWhile isDig, ?_, hsg, hds, takeWhile_allDig _, Or.inl rfl, hx.1, ?_, ?_⟩
      · rw [hv]; congr 1
      · intro _
        simp only [noLeadZero, Bool.or_eq_true, beq_iff_eq, bne_iff_ne, ne_eq] at hz
        exact hz
      · simp [hne]
  split at h
  · rename_i r; exact key [45] r rfl (Or.inr rfl) h
  · exact key [] v rfl (Or.inl rfl) h

end SoyVerif.Lemmas.LexPrint
