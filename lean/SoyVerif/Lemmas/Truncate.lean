/-
  Lemmas about directiveTruncate (Model.Directives.truncate): the backwards scan for a rune
  start, the closed form of the function on in-range arguments, and well-formed UTF-8
  (Spec/Utf8.lean) under cutting at a rune start.
-/
import SoyVerif.Model.Directives
import SoyVerif.Spec.Utf8
import SoyVerif.Lemmas.Utf8Seq

namespace SoyVerif.Lemmas.Truncate
open SoyVerif SoyVerif.Model SoyVerif.Model.Directives SoyVerif.Spec SoyVerif.Lemmas.Utf8

/-- the byte at index j is a continuation byte (not a rune start) -/
def contAt (str : Bytes) (j : Nat) : Prop := ∃ b, str[j]? = some b ∧ runeStart b = false
/-- … is a rune start -/
def startAt (str : Bytes) (j : Nat) : Prop := ∃ b, str[j]? = some b ∧ runeStart b = true

theorem scanBack_some (str : Bytes) : ∀ n k, scanBack str n = some k →
    k ≤ n ∧ (k = 0 ∨ startAt str k) ∧ ∀ j, k < j → j ≤ n → contAt str j := by
  intro n
  induction n with
  | zero =>
    intro k h
    simp only [scanBack, Option.some.injEq] at h
    subst h
    exact ⟨Nat.le_refl _, Or.inl rfl, fun j h1 h2 => by omega⟩
  | succ n ih =>
    intro k h
    unfold scanBack at h
    cases h0 : str[n + 1]? with
    | none => simp [h0] at h
    | some b =>
      simp only [h0] at h
      by_cases hs : runeStart b = true
      · simp [hs] at h; subst h
        exact ⟨Nat.le_refl _, Or.inr ⟨b, h0, hs⟩, fun j h1 h2 => by omega⟩
      · simp only [hs] at h
        obtain ⟨h1, h2, h3⟩ := ih k (by simpa using h)
        refine ⟨by omega, h2, fun j hj1 hj2 => ?_⟩
        by_cases hj : j = n + 1
        · subst hj; exact ⟨b, h0, by simpa using hs⟩
        · exact h3 j hj1 (by omega)

theorem scanBack_isSome (str : Bytes) : ∀ n, n < str.length → ∃ k, scanBack str n = some k := by
  intro n
  induction n with
  | zero => intro _; exact ⟨0, rfl⟩
  | succ n ih =>
    intro hl
    unfold scanBack
    have h0 : str[n + 1]? = some str[n + 1] := by simp [hl]
    simp only [h0]
    by_cases hs : runeStart str[n + 1] = true
    · exact ⟨n + 1, by simp [hs]⟩
    · obtain ⟨k, hk⟩ := ih (by omega)
      exact ⟨k, by simp [hs, hk]⟩

/-- where `|truncate:n` cuts: three bytes earlier when the ellipsis `e` is asked for and fits -/
def truncCut (n : Nat) (e : Bool) : Nat := if e && n > 3 then n - 3 else n
/-- what is appended behind the cut: `...` in that case -/
def truncEll (n : Nat) (e : Bool) : Bytes := if e && n > 3 then ellipsisBytes else []

/-- the argument list of `|truncate:n` and of `|truncate:n,e` -/
def truncArgs (n : Nat) : Option Bool → List Arg
  | none => [Arg.int n]
  | some e => [Arg.int n, Arg.bool e]

theorem truncate_eq (str : Bytes) (n : Nat) (oe : Option Bool) :
    truncate str (truncArgs n oe) =
      if str.length ≤ n then .ok str
      else match scanBack str (truncCut n (oe.getD true)) with
        | none => .panic
        | some k => .ok (str.take k ++ truncEll n (oe.getD true)) := by
  have hInt : ((str.length : Int) ≤ (n : Int)) ↔ str.length ≤ n := by omega
  have hn0 : ¬ ((n : Int) < 0) := by omega
  have h3i : ((n : Int) > 3) ↔ n > 3 := by omega
  have key : ∀ e : Bool,
      (if (str.length : Int) ≤ (n : Int) then Res.ok str else
        if (if e && (n : Int) > 3 then (n : Int) - 3 else (n : Int)) < 0 then Res.panic
        else match scanBack str (if e && (n : Int) > 3 then (n : Int) - 3 else (n : Int)).toNat with
          | none => Res.panic
          | some k => Res.ok (str.take k ++ (if (e && (n : Int) > 3) = true then ellipsisBytes else []))) =
      if str.length ≤ n then .ok str
      else match scanBack str (truncCut n e) with
        | none => .panic
        | some k => .ok (str.take k ++ truncEll n e) := by
    intro e
    by_cases hl : str.length ≤ n
    · simp [hl, hInt]
    · simp only [hInt, hl, if_false, truncCut, truncEll]
      by_cases h3 : n > 3
      · have hc : ¬ ((n : Int) - 3 < 0) := by omega
        have ht : ((n : Int) - 3).toNat = n - 3 := by omega
        cases e <;> simp [h3, h3i, hc, ht, hn0]
      · cases e <;> simp [h3, h3i, hn0]
  cases oe with
  | none => exact key true
  | some e => exact key e

theorem ValidUtf8.append {a b : Bytes} (ha : ValidUtf8 a) (hb : ValidUtf8 b) : ValidUtf8 (a ++ b) := by
  induction ha with
  | nil => exact hb
  | seq c t hc _ ih => rw [List.append_assoc]; exact ValidUtf8.seq c _ hc ih

theorem ValidUtf8.take {s : Bytes} (hs : ValidUtf8 s) : ∀ k, (s.length ≤ k ∨ startAt s k) → ValidUtf8 (s.take k) := by
  induction hs with
  | nil => intro k _; simp; exact ValidUtf8.nil
  | seq c t hc _ ih =>
    intro k hk
    obtain ⟨b0, r, rfl, h0, hr⟩ := wellFormedSeq_shape c hc
    by_cases hk0 : k = 0
    · subst hk0; simp; exact ValidUtf8.nil
    by_cases hlt : k < (b0 :: r).length
    · -- inside the sequence: that byte is a tail byte, not a rune start
      exfalso
      rcases hk with hk | ⟨b, hb, hst⟩
      · simp at hk hlt; omega
      · rw [List.getElem?_append_left hlt] at hb
        obtain ⟨k', rfl⟩ : ∃ k', k = k' + 1 := ⟨k - 1, by omega⟩
        simp only [List.getElem?_cons_succ] at hb
        have := hr b (List.mem_of_getElem? hb)
        rw [this] at hst; exact Bool.noConfusion hst
    · have hge : (b0 :: r).length ≤ k := by omega
      rw [List.take_append, List.take_of_length_le hge]
      apply ValidUtf8.seq _ _ hc
      apply ih
      rcases hk with hk | ⟨b, hb, hst⟩
      · left; simp at hk ⊢; omega
      · right
        rw [List.getElem?_append_right hge] at hb
        exact ⟨b, hb, hst⟩

theorem ValidUtf8.startAt_zero {s : Bytes} (hs : ValidUtf8 s) (hne : s ≠ []) : startAt s 0 := by
  induction hs with
  | nil => exact absurd rfl hne
  | seq c t hc _ _ =>
    obtain ⟨b0, r, rfl, h0, _⟩ := wellFormedSeq_shape c hc
    exact ⟨b0, by simp, h0⟩

theorem not_contAt_of_startAt {s : Bytes} {j : Nat} (h : startAt s j) : ¬ contAt s j := by
  rintro ⟨b, hb, hc⟩
  obtain ⟨b', hb', hs⟩ := h
  rw [hb] at hb'; cases hb'
  rw [hc] at hs; exact Bool.noConfusion hs

end SoyVerif.Lemmas.Truncate
