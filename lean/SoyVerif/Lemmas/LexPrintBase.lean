/-
  Exact (functional) behaviour of the lexer primitives on a known input — the base layer of the
  byte-level lemma "lexing the printer's bytes yields the printer's tokens" (Props/C17b.lean) and of the lexer on
  described source text (Props/SrcLex.lean).

  * `InpAt inp p s`  the input from byte offset `p` on is exactly `s`;
  * `L tg inp p st w le its`  the lexer record inside a tag with single braces or in expression mode
    (`doubleDelim = false`) with `tagStart = tg`, `pos = p`, `start = st`, `width = w`, `lastEmit = le`, `items = its`;
  then one equation per lexer primitive on such a record, for ASCII bytes / end of input at the position read, one
  step of the state machine (`run_step`, `run_stop`), and the byte classes of ASCII names.
-/
import SoyVerif.Model.Lexer


namespace SoyVerif.Lemmas.LexPrint
open SoyVerif SoyVerif.Model SoyVerif.Model.Lex

variable {tg : Int}

/-- the bytes of `inp` from offset `p` to the end are `s` -/
def InpAt (inp : Array UInt8) (p : Nat) (s : Bytes) : Prop := ∃ pre, inp = (pre ++ s).toArray ∧ pre.length = p

theorem inpAt_zero (s : Bytes) : InpAt s.toArray 0 s := ⟨[], rfl, rfl⟩

theorem inpAt_get {inp p b s} (h : InpAt inp p (b :: s)) : p < inp.size ∧ inp.getD p 0 = b := by
  obtain ⟨pre, rfl, rfl⟩ := h
  simp

theorem inpAt_extract {inp p v s} (h : InpAt inp p (v ++ s)) : (inp.extract p (p + v.length)).toList = v := by
  obtain ⟨pre, rfl, rfl⟩ := h
  simp

theorem inpAt_end {inp p} (h : InpAt inp p []) : p = inp.size := by
  obtain ⟨pre, rfl, rfl⟩ := h
  simp

theorem inpAt_len {inp p s} (h : InpAt inp p s) : p + s.length = inp.size := by
  obtain ⟨pre, rfl, rfl⟩ := h
  simp

theorem inpAt_append {inp p a s} (h : InpAt inp p (a ++ s)) : InpAt inp (p + a.length) s := by
  obtain ⟨pre, rfl, rfl⟩ := h
  exact ⟨pre ++ a, by simp, by simp⟩

theorem inpAt_tail {inp p b s} (h : InpAt inp p (b :: s)) : InpAt inp (p + 1) s :=
  inpAt_append (a := [b]) h

/-- the lexer record inside a tag with single braces or in expression mode: `doubleDelim = false`, `tagStart = tg` -/
def L (tg : Int) (inp : Array UInt8) (p st : Nat) (w : Int) (le : Item) (its : Array Item) : Lexer :=
  { input := inp, pos := p, start := st, width := w, doubleDelim := false, tagStart := tg, lastEmit := le, items := its }

theorem initLexer_eq (s : Bytes) : initLexer s = L 0 s.toArray 0 0 0 Item.zero #[] := rfl

theorem decode_ascii {inp : Array UInt8} {p : Nat} {b : UInt8} (h : inp.getD p 0 = b) (hb : b < 128) :
    decodeRune inp p = (b.toNat, 1) := by
  unfold decodeRune byteAt
  simp only [h]
  have : b.toNat < 128 := hb
  simp [this]

/-- the rune `next` delivers at the head of `rest` (ASCII bytes only) -/
def hdRune : Bytes → Int
  | [] => -1
  | b :: _ => (b.toNat : Int)

/-- the width `next` records there -/
def hdW : Bytes → Nat
  | [] => 0
  | _ :: _ => 1

/-- the head of `rest`, if any, is an ASCII byte -/
def AsciiHd : Bytes → Prop
  | [] => True
  | b :: _ => b < 128

theorem next_L {inp p b s} (h : InpAt inp p (b :: s)) (hb : b < 128) (st w le its) :
    (L tg inp p st w le its).next = some ((b.toNat : Int), L tg inp (p + 1) st 1 le its) := by
  have ⟨h1, h2⟩ := inpAt_get h
  unfold Lexer.next L Lexer.len
  simp only [Int.toNat_natCast, decode_ascii h2 hb]
  rw [if_neg (by omega), if_neg (by omega)]
  simp

theorem next_eof_L {inp p} (h : InpAt inp p []) (st w le its) :
    (L tg inp p st w le its).next = some (-1, L tg inp p st 0 le its) := by
  have := inpAt_end h
  unfold Lexer.next L Lexer.len
  rw [if_pos (by simp; omega)]
  rfl

theorem next_hd {inp p rest} (h : InpAt inp p rest) (ha : AsciiHd rest) (st w le its) :
    (L tg inp p st w le its).next = some (hdRune rest, L tg inp (p + hdW rest) st (hdW rest) le its) := by
  cases rest with
  | nil => exact next_eof_L h st w le its
  | cons b s => exact next_L h ha st w le its

theorem backup_L (inp p st le its) : (L tg inp (p + 1) st 1 le its).backup = L tg inp p st 1 le its := by
  unfold Lexer.backup L; simp

theorem backup_L0 (inp p st le its) : (L tg inp p st 0 le its).backup = L tg inp p st 0 le its := by
  unfold Lexer.backup L; simp

theorem backup_hd (inp p st le its) (rest : Bytes) :
    (L tg inp (p + hdW rest) st (hdW rest) le its).backup = L tg inp p st (hdW rest) le its := by
  cases rest with
  | nil => exact backup_L0 inp p st le its
  | cons b s => exact backup_L inp p st le its

theorem ignore_L (inp p st w le its) : (L tg inp p st w le its).ignore = L tg inp p p w le its := rfl

theorem addPos_L2 (inp p st w le its) : (L tg inp (p + 2) st w le its).addPos (-2) = L tg inp p st w le its := by
  unfold Lexer.addPos L; simp; omega

theorem peek_hd {inp p rest} (h : InpAt inp p rest) (ha : AsciiHd rest) (st w le its) :
    (L tg inp p st w le its).peek = some (hdRune rest, L tg inp p st (hdW rest) le its) := by
  unfold Lexer.peek
  rw [next_hd h ha]
  simp only [Option.bind_eq_bind, Option.bind_some, Option.pure_def, backup_hd]

theorem emit_eq (l : Lexer) (t : ItemType) (v : Bytes) (h0 : 0 ≤ l.start) (h1 : l.start ≤ l.pos) (h2 : l.pos ≤ l.len)
    (hv : (l.input.extract l.start.toNat l.pos.toNat).toList = v) :
    l.emit t = some { l with lastEmit := ⟨t, l.pos.toNat, v⟩, items := l.items.push ⟨t, l.pos.toNat, v⟩, start := l.pos } := by
  unfold Lexer.emit
  simp only [if_neg (show ¬ l.pos > l.len by omega)]
  unfold sliceOf
  simp only [Lexer.len] at h2
  rw [if_pos ⟨h0, h1, h2⟩]
  simp only [hv]

theorem emit_L {inp st v s} (h : InpAt inp st (v ++ s)) {pe : Nat} (hpe : pe = st + v.length) (w le its) (t : ItemType) :
    (L tg inp pe st w le its).emit t = some (L tg inp pe pe w ⟨t, pe, v⟩ (its.push ⟨t, pe, v⟩)) := by
  subst hpe
  have h1 := inpAt_len h
  have h2 := inpAt_extract h
  rw [emit_eq _ t v]
  · simp only [L, Int.toNat_natCast]
  · simp only [L]; omega
  · simp only [L]; omega
  · simp only [L, Lexer.len, List.length_append] at h1 ⊢; omega
  · simpa only [L, Int.toNat_natCast] using h2

theorem slice_L {inp st v s} (h : InpAt inp st (v ++ s)) {pe : Nat} (hpe : pe = st + v.length) (w le its) :
    sliceOf (L tg inp pe st w le its).input (L tg inp pe st w le its).start (L tg inp pe st w le its).pos = some v := by
  subst hpe
  have h1 := inpAt_len h
  have h2 := inpAt_extract h
  unfold sliceOf
  simp only [L, Int.toNat_natCast, h2]
  rw [if_pos]
  simp only [List.length_append] at h1
  refine ⟨by omega, by omega, by omega⟩

/-- `for P(l.next()) {}` over the ASCII bytes `k` (all in `P`) in front of `rest` (head not in `P`,
    or the end of input): stops after reading the head of `rest` -/
theorem scan_run {P : Int → Bool} {hp : P eof = false} {inp : Array UInt8} :
    ∀ (k : Bytes) {p : Nat} {rest : Bytes}, InpAt inp p (k ++ rest) →
    (∀ b ∈ k, b < 128 ∧ P (b.toNat : Int) = true) → AsciiHd rest → P (hdRune rest) = false →
    ∀ (st : Nat) (w : Int) (le : Item) (its : Array Item),
    scanWhile P hp (L tg inp p st w le its) =
      some (hdRune rest, L tg inp (p + k.length + hdW rest) st (hdW rest) le its)
  | [], p, rest, h, _, ha, hf, st, w, le, its => by
    rw [scanWhile_some (next_hd (by simpa using h) ha st w le its), if_neg (by simp [hf])]
    simp
  | b :: k, p, rest, h, hk, ha, hf, st, w, le, its => by
    have hb := hk b (by simp)
    rw [scanWhile_some (next_L (s := k ++ rest) (by simpa using h) hb.1 st w le its), if_pos hb.2]
    rw [scan_run k (inpAt_tail (by simpa using h)) (fun c hc => hk c (by simp [hc])) ha hf]
    simp only [List.length_cons]
    congr 3
    omega

/-- the same, backed up over the rune that ended the loop -/
theorem scan_run_backup {P : Int → Bool} {hp : P eof = false} {inp : Array UInt8}
    (k : Bytes) {p : Nat} {rest : Bytes} (h : InpAt inp p (k ++ rest))
    (hk : ∀ b ∈ k, b < 128 ∧ P (b.toNat : Int) = true) (ha : AsciiHd rest) (hf : P (hdRune rest) = false)
    (st : Nat) (w : Int) (le : Item) (its : Array Item) :
    ∃ r l', scanWhile P hp (L tg inp p st w le its) = some (r, l') ∧
      l'.backup = L tg inp (p + k.length) st (hdW rest) le its :=
  ⟨_, _, scan_run k h hk ha hf st w le its, backup_hd inp (p + k.length) st le its rest⟩

theorem accept_hd {inp p rest} (h : InpAt inp p rest) (ha : AsciiHd rest) (valid : List Int) (st w le its) :
    accept (L tg inp p st w le its) valid =
      some (if indexRune valid (hdRune rest) = true then (true, L tg inp (p + hdW rest) st (hdW rest) le its)
            else (false, L tg inp p st (hdW rest) le its)) := by
  unfold accept
  rw [next_hd h ha]
  simp only [Option.bind_eq_bind, Option.bind_some, Option.pure_def, backup_hd]
  split <;> rfl

theorem accept_yes {inp p b s} (h : InpAt inp p (b :: s)) (hb : b < 128) (valid : List Int)
    (hv : indexRune valid (b.toNat : Int) = true) (st w le its) :
    accept (L tg inp p st w le its) valid = some (true, L tg inp (p + 1) st 1 le its) := by
  rw [accept_hd h hb]
  simp only [hdRune, hv, if_true, hdW]
  rfl

theorem accept_no {inp p rest} (h : InpAt inp p rest) (ha : AsciiHd rest) (valid : List Int)
    (hv : indexRune valid (hdRune rest) = false) (st w le its) :
    accept (L tg inp p st w le its) valid = some (false, L tg inp p st (hdW rest) le its) := by
  rw [accept_hd h ha]
  simp [hv]

theorem acceptRun_run {inp : Array UInt8} (valid : List Int)
    (k : Bytes) {p : Nat} {rest : Bytes} (h : InpAt inp p (k ++ rest))
    (hk : ∀ b ∈ k, b < 128 ∧ indexRune valid (b.toNat : Int) = true) (ha : AsciiHd rest)
    (hf : indexRune valid (hdRune rest) = false)
    (st : Nat) (w : Int) (le : Item) (its : Array Item) :
    acceptRun (L tg inp p st w le its) valid = some (decide (0 < k.length), L tg inp (p + k.length) st (hdW rest) le its) := by
  unfold acceptRun
  rw [scan_run k h hk ha hf]
  simp only [Option.bind_eq_bind, Option.bind_some, Option.pure_def, backup_hd]
  congr 2
  simp only [L]
  apply decide_eq_decide.mpr
  constructor <;> intro hh <;> omega

theorem run_step {n : Nat} {s s' : St} {l l' : Lexer} (h : step s l = some (some s', l')) :
    run (n + 1) s l = run n s' l' := by
  simp only [run, h]

theorem run_stop {n : Nat} {s : St} {l l' : Lexer} (h : step s l = some (none, l')) :
    run (n + 1) s l = .items l'.items.toList := by
  simp only [run, h]

def isIdStart (b : UInt8) : Bool := (97 ≤ b && b ≤ 122) || (65 ≤ b && b ≤ 90) || b == 95
def isDig (b : UInt8) : Bool := 48 ≤ b && b ≤ 57
def isIdChar (b : UInt8) : Bool := isIdStart b || isDig b

theorem isIdStart_nat {b : UInt8} (h : isIdStart b = true) :
    (97 ≤ b.toNat ∧ b.toNat ≤ 122) ∨ (65 ≤ b.toNat ∧ b.toNat ≤ 90) ∨ b.toNat = 95 := by
  simp only [isIdStart, Bool.or_eq_true, Bool.and_eq_true, decide_eq_true_eq, beq_iff_eq] at h
  rcases h with (⟨h1, h2⟩ | ⟨h1, h2⟩) | h
  · exact Or.inl ⟨h1, h2⟩
  · exact Or.inr (Or.inl ⟨h1, h2⟩)
  · subst h; exact Or.inr (Or.inr rfl)

theorem isDig_nat {b : UInt8} (h : isDig b = true) : 48 ≤ b.toNat ∧ b.toNat ≤ 57 := by
  simp only [isDig, Bool.and_eq_true, decide_eq_true_eq] at h
  exact h

theorem isDig_nat_false {b : UInt8} (h : isDig b = false) : b.toNat < 48 ∨ 57 < b.toNat := by
  simp only [isDig, Bool.and_eq_false_iff, decide_eq_false_iff_not] at h
  rcases h with h | h
  · left; exact Nat.lt_of_not_le h
  · right; exact Nat.lt_of_not_le h

theorem isIdChar_nat {b : UInt8} (h : isIdChar b = true) :
    (97 ≤ b.toNat ∧ b.toNat ≤ 122) ∨ (65 ≤ b.toNat ∧ b.toNat ≤ 90) ∨ b.toNat = 95 ∨ (48 ≤ b.toNat ∧ b.toNat ≤ 57) := by
  simp only [isIdChar, Bool.or_eq_true] at h
  rcases h with h | h
  · rcases isIdStart_nat h with h | h | h
    · exact Or.inl h
    · exact Or.inr (Or.inl h)
    · exact Or.inr (Or.inr (Or.inl h))
  · exact Or.inr (Or.inr (Or.inr (isDig_nat h)))

theorem isIdChar_nat_false {b : UInt8} (h : isIdChar b = false) :
    ¬ ((97 ≤ b.toNat ∧ b.toNat ≤ 122) ∨ (65 ≤ b.toNat ∧ b.toNat ≤ 90) ∨ b.toNat = 95 ∨ (48 ≤ b.toNat ∧ b.toNat ≤ 57)) := by
  intro hc
  have : isIdChar b = true := by
    simp only [isIdChar, isIdStart, isDig, Bool.or_eq_true, Bool.and_eq_true, decide_eq_true_eq, beq_iff_eq]
    rcases hc with h | h | h | h
    · exact Or.inl (Or.inl (Or.inl h))
    · exact Or.inl (Or.inl (Or.inr h))
    · exact Or.inl (Or.inr (UInt8.toNat_inj.mp h))
    · exact Or.inr h
  rw [h] at this; exact absurd this (by simp)

end SoyVerif.Lemmas.LexPrint
