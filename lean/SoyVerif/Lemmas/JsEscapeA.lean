/-
  Lemmas for the JavaScript string escaper of soy (internal/jsescape, Model/JsEscape2.lean), part A:
  hex digits, and the behaviour of the strict evaluator Spec.jsUnescape on each kind of token the
  escaper writes.
-/
import SoyVerif.Model.JsEscape2
import SoyVerif.Spec.JsString
import SoyVerif.Lemmas.Utf8Seq
import SoyVerif.Lemmas.EscapeQuery

namespace SoyVerif.Lemmas.JsEscapeA
open SoyVerif SoyVerif.Model SoyVerif.Spec SoyVerif.Lemmas.Utf8 SoyVerif.Lemmas.EscapeQuery

theorem isCont_eq_isTail (b : UInt8) : isCont b = isTail b := rfl

theorem hex4_digits (hx : Nat → UInt8) (hh : ∀ n : Fin 16, hexDigitVal (hx n.val) = some n.val) (u : Nat) (h : u < 65536) :
    hex4 (hx (u / 4096 % 16)) (hx (u / 256 % 16)) (hx (u / 16 % 16)) (hx (u % 16)) = some u := by
  unfold hex4
  rw [hh ⟨_, by omega⟩, hh ⟨_, by omega⟩, hh ⟨_, by omega⟩, hh ⟨_, by omega⟩]
  simp only [Option.some.injEq]
  omega

theorem jsUnescape_skip (l rest : Bytes) : jsUnescapeGo l.length (l ++ rest) = jsUnescapeGo 0 rest := by
  induction l with
  | nil => rfl
  | cons a l ih => simpa [jsUnescapeGo] using ih

theorem unesc_u4 (u : Nat) (rest : Bytes) (h : u < 65536) (hs : ¬ (0xD800 ≤ u ∧ u < 0xE000)) :
    jsUnescapeGo 0 (jsU4 u ++ rest) = (jsUnescapeGo 0 rest).map (utf8Encode u ++ ·) := by
  have hx := hex4_digits hexUpper hexDigitVal_hexUpper u h
  have h1 : (0xD800 ≤ u && u < 0xDC00) = false := by
    simp only [Bool.and_eq_false_iff, decide_eq_false_iff_not]; omega
  have h2 : (0xDC00 ≤ u && u < 0xE000) = false := by
    simp only [Bool.and_eq_false_iff, decide_eq_false_iff_not]; omega
  have hskip := jsUnescape_skip [117, hexUpper (u / 4096 % 16), hexUpper (u / 256 % 16), hexUpper (u / 16 % 16), hexUpper (u % 16)] rest
  simp only [List.length_cons, List.length_nil, List.cons_append, List.nil_append] at hskip
  simp only [jsU4, hex4Upper, List.cons_append, List.nil_append]
  rw [jsUnescapeGo]
  simp only [beq_self_eq_true, if_true, hx, h1, h2]
  simp [hskip]

theorem unesc_pair (hi lo : Nat) (rest : Bytes) (h1 : 0xD800 ≤ hi) (h2 : hi < 0xDC00) (h3 : 0xDC00 ≤ lo) (h4 : lo < 0xE000) :
    jsUnescapeGo 0 (jsU4 hi ++ jsU4 lo ++ rest) =
      (jsUnescapeGo 0 rest).map (utf8Encode (0x10000 + (hi - 0xD800) * 1024 + (lo - 0xDC00)) ++ ·) := by
  have hx := hex4_digits hexUpper hexDigitVal_hexUpper hi (by omega)
  have hy := hex4_digits hexUpper hexDigitVal_hexUpper lo (by omega)
  have c1 : (0xD800 ≤ hi && hi < 0xDC00) = true := by simp; omega
  have c2 : (0xDC00 ≤ lo && lo < 0xE000) = true := by simp; omega
  have hskip := jsUnescape_skip [117, hexUpper (hi / 4096 % 16), hexUpper (hi / 256 % 16), hexUpper (hi / 16 % 16), hexUpper (hi % 16),
    92, 117, hexUpper (lo / 4096 % 16), hexUpper (lo / 256 % 16), hexUpper (lo / 16 % 16), hexUpper (lo % 16)] rest
  simp only [List.length_cons, List.length_nil, List.cons_append, List.nil_append] at hskip
  simp only [jsU4, hex4Upper, List.cons_append, List.nil_append]
  rw [jsUnescapeGo]
  simp only [beq_self_eq_true, if_true, hx, hy, c1, c2]
  simp [hskip]

theorem unesc_named (c : UInt8) (rest : Bytes) (h : c = 92 ∨ c = 39 ∨ c = 34) :
    jsUnescapeGo 0 (92 :: c :: rest) = (jsUnescapeGo 0 rest).map (c :: ·) := by
  rcases h with rfl | rfl | rfl <;> simp [jsUnescapeGo]

theorem unesc_raw_ascii (b : UInt8) (rest : Bytes) (h : jsIsSpecial b = false) :
    jsUnescapeGo 0 (b :: rest) = (jsUnescapeGo 0 rest).map (b :: ·) := by
  simp only [jsIsSpecial, Bool.or_eq_false_iff, beq_eq_false_iff_ne, ne_eq, decide_eq_false_iff_not] at h
  obtain ⟨⟨⟨⟨⟨⟨⟨⟨h92, h39⟩, h34⟩, h60⟩, h62⟩, h38⟩, h61⟩, h32⟩, h80⟩ := h
  have hlt : b < 0x80 := by
    simp only [UInt8.le_iff_toNat_le, UInt8.lt_iff_toNat_lt] at h80 ⊢; simp at h80 ⊢; omega
  have hf : jsRawForbidden b = false := by
    simp [jsRawForbidden, h39, h34, h60, h62, h38, h61, h32]
  conv => lhs; unfold jsUnescapeGo
  simp [h92, hlt, hf]

theorem unesc_runeEsc (r : Nat) (rest : Bytes) (hs : ¬ (0xD800 ≤ r ∧ r < 0xE000)) (hm : r < 0x110000) :
    jsUnescapeGo 0 (jsRuneEsc r ++ rest) = (jsUnescapeGo 0 rest).map (utf8Encode r ++ ·) := by
  unfold jsRuneEsc
  split
  · rw [unesc_pair _ _ _ (by omega) (by omega) (by omega) (by omega)]
    have : 0x10000 + (0xD800 + (r - 0x10000) / 1024 - 0xD800) * 1024 + (0xDC00 + (r - 0x10000) % 1024 - 0xDC00) = r := by omega
    rw [this]
  · exact unesc_u4 r rest (by omega) hs

theorem isLineSep_ne (b : UInt8) (X : Bytes) (h : b ≠ 0xE2) : isLineSep (b :: X) = false := by
  match X with
  | [] => simp [isLineSep]
  | [x] => simp [isLineSep]
  | x :: y :: _ => simp [isLineSep, h]

theorem isLineSep_head {b : UInt8} {X : Bytes} (h : isLineSep (b :: X) = true) : b = 0xE2 := by
  apply Classical.byContradiction
  intro hb
  rw [isLineSep_ne b X hb] at h
  cases h

theorem isLineSep_wf (c t : Bytes) (hc : wellFormedSeq c = true) (h : isLineSep (c ++ t) = true) :
    c = [0xE2, 0x80, 0xA8] ∨ c = [0xE2, 0x80, 0xA9] := by
  match c, hc with
  | [b0, b1, b2], _ => simpa [isLineSep] using h
  | [b], hc => cases isLineSep_head h; cases hc
  | [b0, b1], hc => cases isLineSep_head h; simp [wellFormedSeq] at hc
  | [b0, b1, b2, b3], hc => cases isLineSep_head h; simp [wellFormedSeq] at hc
  | [], hc => cases hc
  | _ :: _ :: _ :: _ :: _ :: _, hc => simp [wellFormedSeq] at hc

theorem isLineSep_raw {b0 : UInt8} {c' t : Bytes} {r n : Nat} (hc : wellFormedSeq (b0 :: c') = true)
    (hd : decodeRune (b0 :: (c' ++ t)) = (r, n)) (h28 : r ≠ 0x2028) (h29 : r ≠ 0x2029) (X : Bytes) :
    isLineSep (b0 :: (c' ++ X)) = false := by
  cases hls : isLineSep (b0 :: (c' ++ X))
  · rfl
  · rcases isLineSep_wf (b0 :: c') X hc hls with e | e <;> cases e <;> simp [decodeRune, accept3, isCont] at hd
    · exact absurd hd.1.symm h28
    · exact absurd hd.1.symm h29

theorem unesc_raw_multi (b0 : UInt8) (c' rest : Bytes) (hc : wellFormedSeq (b0 :: c') = true) (hl : 1 ≤ c'.length)
    (hls : isLineSep (b0 :: (c' ++ rest)) = false) :
    jsUnescapeGo 0 (b0 :: (c' ++ rest)) = (jsUnescapeGo 0 rest).map ((b0 :: c') ++ ·) := by
  have hb := wf_high b0 c' hc hl
  have n92 : (b0 == 92) = false := high_bne hb (by decide)
  have nlt := high_not_lt hb
  have hlen : utf8SeqLen (b0 :: (c' ++ rest)) = c'.length + 1 := by
    simpa using seqLen_of_wf (b0 :: c') rest hc
  have hne : (c'.length + 1 == 0) = false := by apply beq_false_of_ne; omega
  have htk : (b0 :: (c' ++ rest)).take (c'.length + 1) = b0 :: c' := by simp
  conv => lhs; unfold jsUnescapeGo
  simp only [n92, nlt, hlen, hne, hls, htk, Bool.false_eq_true, if_false, Bool.or_self, Nat.add_sub_cancel,
    jsUnescape_skip]

end SoyVerif.Lemmas.JsEscapeA
