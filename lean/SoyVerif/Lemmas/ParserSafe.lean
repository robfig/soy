/-
  A small program logic for the parser models (`Model/Parser.lean`, `Model/FileParser.lean`)
  used to prove that they TERMINATE (never `fuelOut`) and that every error they report is
  positioned at one of the tokens they were given — on an arbitrary token list possibly at the
  zero item of the closed channel, on a lexer-shaped list (`Lvl.lex`) never.

  * `stream st` — the tokens the parser will see next: the backed-up ones, then the channel;
    `mu st` — how many of them are `real`: of a type other than `tInvalid` (the zero item a
    closed channel yields), `tEOF` and `tError` (the items that end a stream) — the
    termination measure: every loop of the parser consumes such a token per iteration;
    `top st` — the token `t.backup()` would push back (the one `next` returned last).
  * `PSafe AP EL S x st Q` — running `x` from `st` either returns a value and a state
    satisfying `Q`, or fails with an error positioned at an `S`-token (`ErrOK`: a valid one at
    level `lex`), or panics (only if `AP`); it does NOT run out of fuel.  It is `Safe`, the judgement of any
    state-and-exception monad, at the errors `perr` (`psafe_iff`).
  * `Inv` / `InvW` / `Inv0` — the state invariant in general / right after a `next` (the
    token returned may be the one that ends the stream; `backup` is legal) / before the first
    read.  At level `lex` they say that the parser has not gone on after consuming the end
    item, hence never reads the closed channel, and that no token in use is the zero item.
  * `stream_next`, `stream_peek`, `stream_backup` — the three primitives on `(stream, top, peekCount)`, with no
    invariant (`At` / `Just` of Lemmas/ParserBasic.lean, `fnext_stream` / `fbackup_stream` of Props/C15b and `Strm` of
    Props/C15c are readings of them);
  * `ErrAt`, `ErrOK` — where an error about a token is reported; one rule of `PSafe` per primitive (the walks use them through
    the rules of `Tri`, Lemmas/ParserTri.lean); `WFItem` keeps `tail1` from the panic.
-/
import SoyVerif.Model.FileParser
import SoyVerif.Lemmas.ParserRun

namespace SoyVerif.Lemmas.ParserSafe
open SoyVerif SoyVerif.Model SoyVerif.Model.Parser

def midT (t : ItemType) : Bool := t != .tInvalid && t != .tEOF && t != .tError

def real (it : Item) : Nat := if midT it.typ then 1 else 0

def pending (st : PState) : List Item :=
  if st.peekCount = 0 then [] else if st.peekCount = 1 then [st.tok0] else [st.tok1, st.tok0]

def stream (st : PState) : List Item := pending st ++ st.rest

def cnt : List Item → Nat
  | [] => 0
  | x :: r => real x + cnt r

def mu (st : PState) : Nat := cnt (stream st)

/-- the token at `t.token[t.peekCount]` -/
def top (st : PState) : Item := if st.peekCount = 0 then st.tok0 else st.tok1

theorem stream_next {st : PState} {x : Item} {s : List Item} (hpc : st.peekCount ≤ 2) (h : stream st = x :: s) :
    ∃ st', next st = .ok (x, st') ∧ stream st' = s ∧ top st' = x ∧ st'.peekCount = st.peekCount - 1 := by
  by_cases hp0 : st.peekCount = 0
  · have hr : st.rest = x :: s := by simpa [stream, pending, hp0] using h
    exact ⟨_, next_run0 hp0 hr, by simp [stream, pending, hp0], by simp [top, hp0], by simp [hp0]⟩
  · by_cases hp1 : st.peekCount = 1
    · have hx : st.tok0 = x ∧ st.rest = s := by simpa [stream, pending, hp1] using h
      exact ⟨_, hx.1 ▸ next_run1 hp1, by simp [stream, pending, hx.2], by simp [top], by simp [hp1]⟩
    · have hp2 : st.peekCount = 2 := by omega
      have hx : st.tok1 = x ∧ st.tok0 :: st.rest = s := by simpa [stream, pending, hp2] using h
      exact ⟨_, hx.1 ▸ next_run2 hp2, by simp [stream, pending, hx.2], by simp [top], by simp [hp2]⟩

theorem stream_peek {st : PState} {x : Item} {s : List Item} (hpc : st.peekCount ≤ 2) (h : stream st = x :: s) :
    ∃ st', peek st = .ok (x, st') ∧ stream st' = x :: s ∧ st'.peekCount = max 1 st.peekCount := by
  by_cases hp0 : st.peekCount = 0
  · have hr : st.rest = x :: s := by simpa [stream, pending, hp0] using h
    exact ⟨_, peek_run0 hp0 hr, by simp [stream, pending], by simp [hp0]⟩
  · by_cases hp1 : st.peekCount = 1
    · have hx : st.tok0 = x := by have : st.tok0 = x ∧ st.rest = s := by simpa [stream, pending, hp1] using h
                                  exact this.1
      exact ⟨st, hx ▸ peek_run1 hp1, h, by omega⟩
    · have hp2 : st.peekCount = 2 := by omega
      have hx : st.tok1 = x := by have : st.tok1 = x ∧ st.tok0 :: st.rest = s := by simpa [stream, pending, hp2] using h
                                  exact this.1
      exact ⟨st, hx ▸ peek_run2 hp2, h, by omega⟩

theorem stream_backup {st : PState} (hpc : st.peekCount ≤ 1) :
    ∃ st', backup st = .ok ((), st') ∧ stream st' = top st :: stream st ∧ st'.peekCount = st.peekCount + 1 := by
  refine ⟨{ st with peekCount := st.peekCount + 1 }, rfl, ?_, rfl⟩
  by_cases hp0 : st.peekCount = 0
  · simp [stream, pending, hp0, top]
  · have hp1 : st.peekCount = 1 := by omega
    simp [stream, pending, hp1, top]

def Hd (st : PState) (it : Item) : Prop := ∃ s, stream st = it :: s

def TokS (S : Item → Prop) (st : PState) : Prop := S st.tok0 ∧ S st.tok1 ∧ ∀ x ∈ st.rest, S x

/-- not the zero item of the closed channel (nor any other item of type `itemInvalid`) -/
def valid (it : Item) : Prop := it.typ ≠ .tInvalid

/-- what is assumed of the token stream, two independent flags:
    `eof` — an EOF item is only ever the last one;
    `lex` — the stream has the shape the lexer gives it: it ends with an EOF or Error item
    and holds no EOF, Error or invalid item before that. -/
structure Lvl where
  eof : Prop
  lex : Prop

/-- with "EOF only last" (`EL.eof`): the channel holds no EOF item except possibly its last one,
    and once an EOF item has been received the channel is empty -/
def EofJ (st : PState) : Prop :=
  (∀ x ∈ st.rest.dropLast, x.typ ≠ .tEOF) ∧ (st.tok0.typ = .tEOF → st.rest = []) ∧ (st.tok1.typ = .tEOF → st.rest = [])

/-- the channel part of the `lex` invariant: only its last item is an end item, and when it
    is empty the item received last was that end item -/
def LexC (st : PState) : Prop :=
  (∀ x ∈ st.rest.dropLast, real x = 1) ∧
  (∀ x, st.rest.getLast? = some x → valid x ∧ real x = 0) ∧
  (st.rest = [] → real st.tok0 = 0) ∧ valid st.tok0

/-- `lex` invariant right after a `next`: the token just returned (`top`) may be the end
    token; it and whatever is backed up are valid tokens -/
def LexJW (st : PState) : Prop := LexC st ∧ (1 ≤ st.peekCount → valid st.tok1)

/-- `lex` invariant in general: the parser has not consumed the end token, so the channel
    is never read after it was closed, and no token in use is the zero item -/
def LexJ (st : PState) : Prop := LexC st ∧ (st.peekCount = 2 → valid st.tok1) ∧ (st.peekCount = 0 → real st.tok0 = 1)

/-- `lex` invariant before the first token is read -/
def LexJ0 (st : PState) : Prop :=
  st.peekCount = 0 ∧ st.rest ≠ [] ∧ (∀ x ∈ st.rest.dropLast, real x = 1) ∧
  (∀ x, st.rest.getLast? = some x → valid x ∧ real x = 0)

/-- invariant: at most two tokens are backed up, all tokens are `S`-tokens (and `EofJ`, `LexJ`
    at the levels assumed) -/
def Inv (EL : Lvl) (S : Item → Prop) (st : PState) : Prop :=
  st.peekCount ≤ 2 ∧ (EL.eof → EofJ st) ∧ TokS S st ∧ (EL.lex → LexJ st)

/-- the invariant right after a `next` (`t.backup()` is legal in exactly these states) -/
def InvW (EL : Lvl) (S : Item → Prop) (st : PState) : Prop :=
  st.peekCount ≤ 2 ∧ (EL.eof → EofJ st) ∧ TokS S st ∧ (EL.lex → LexJW st)

def Inv0 (EL : Lvl) (S : Item → Prop) (st : PState) : Prop :=
  st.peekCount ≤ 2 ∧ (EL.eof → EofJ st) ∧ TokS S st ∧ (EL.lex → LexJ0 st)

theorem InvW.pc {EL : Lvl} {S : Item → Prop} {st : PState} (h : InvW EL S st) : st.peekCount ≤ 2 := h.1
theorem InvW.eofj {EL : Lvl} {S : Item → Prop} {st : PState} (h : InvW EL S st) : EL.eof → EofJ st := h.2.1
theorem InvW.toks {EL : Lvl} {S : Item → Prop} {st : PState} (h : InvW EL S st) : TokS S st := h.2.2.1
theorem InvW.lex {EL : Lvl} {S : Item → Prop} {st : PState} (h : InvW EL S st) : EL.lex → LexJW st := h.2.2.2
theorem Inv.pc {EL : Lvl} {S : Item → Prop} {st : PState} (h : Inv EL S st) : st.peekCount ≤ 2 := h.1
theorem Inv.toks {EL : Lvl} {S : Item → Prop} {st : PState} (h : Inv EL S st) : TokS S st := h.2.2.1
theorem Inv.lex {EL : Lvl} {S : Item → Prop} {st : PState} (h : Inv EL S st) : EL.lex → LexJ st := h.2.2.2
theorem LexC.empty {st : PState} (h : LexC st) : st.rest = [] → real st.tok0 = 0 := h.2.2.1
theorem LexC.valid0 {st : PState} (h : LexC st) : valid st.tok0 := h.2.2.2

def Lvl.crude (EL : Lvl) : Lvl := ⟨EL.eof, False⟩

theorem InvW.crude {EL : Lvl} {S : Item → Prop} {st : PState} (h : InvW EL S st) : Inv EL.crude S st :=
  ⟨h.pc, h.eofj, h.toks, fun hf => absurd hf id⟩

theorem real_valid {it : Item} (h : real it = 1) : valid it := by
  unfold real at h; unfold valid
  intro e; rw [e] at h; simp [midT] at h

theorem real_ne_eof {it : Item} (h : real it = 1) : it.typ ≠ .tEOF := by
  unfold real at h
  intro e; rw [e] at h; simp [midT] at h

theorem InvW.up {EL : Lvl} {S : Item → Prop} {st : PState} {it : Item} (h : InvW EL S st)
    (ht : top st = it) (hr : real it = 1) : Inv EL S st := by
  refine ⟨h.pc, h.eofj, h.toks, fun hl => ?_⟩
  obtain ⟨hc, h1⟩ := h.lex hl
  refine ⟨hc, fun h2 => h1 (by omega), fun h0 => ?_⟩
  rw [← ht] at hr
  simpa [top, h0] using hr

theorem InvW.valid_top {EL : Lvl} {S : Item → Prop} {st : PState} (h : InvW EL S st) (hl : EL.lex) : valid (top st) := by
  obtain ⟨hc, h1⟩ := h.lex hl
  unfold top
  split
  · exact hc.valid0
  · exact h1 (by omega)

theorem mem_dropLast_or_getLast {α : Type} (l : List α) (x : α) (h : x ∈ l) :
    x ∈ l.dropLast ∨ l.getLast? = some x := by
  induction l with
  | nil => simp at h
  | cons a r ih =>
    cases r with
    | nil => simp at h; subst h; right; rfl
    | cons b r' =>
      simp only [List.dropLast_cons_cons, List.mem_cons, List.getLast?_cons_cons]
      rcases List.mem_cons.mp h with h | h
      · exact Or.inl (Or.inl h)
      · rcases ih h with h' | h'
        · exact Or.inl (Or.inr h')
        · exact Or.inr h'

theorem eofJ_pop {st : PState} {x : Item} {r : List Item} (h : EofJ st) (hr : st.rest = x :: r) :
    EofJ { st with rest := r, tok0 := x } := by
  obtain ⟨h1, h2, h3⟩ := h
  rw [hr] at h1 h2 h3
  refine ⟨?_, ?_, ?_⟩
  · intro y hy
    apply h1 y
    cases r with
    | nil => simp at hy
    | cons z r' => simp only [List.dropLast_cons_cons, List.mem_cons]; exact Or.inr hy
  · intro hx
    cases r with
    | nil => rfl
    | cons z r' => exact absurd hx (h1 x (by simp [List.dropLast]))
  · intro ht; exact absurd (h3 ht) (by simp)

theorem eofJ_zero {st : PState} (h : EofJ st) (hr : st.rest = []) : EofJ { st with tok0 := Item.zero } := by
  obtain ⟨h1, h2, h3⟩ := h
  exact ⟨h1, fun _ => hr, h3⟩

theorem lexC_pop {rest : List Item} {x : Item} {r : List Item}
    (h1 : ∀ y ∈ rest.dropLast, real y = 1) (h2 : ∀ y, rest.getLast? = some y → valid y ∧ real y = 0)
    (hr : rest = x :: r) :
    (∀ y ∈ r.dropLast, real y = 1) ∧ (∀ y, r.getLast? = some y → valid y ∧ real y = 0) ∧
    (r = [] → real x = 0) ∧ valid x := by
  subst hr
  refine ⟨?_, ?_, ?_, ?_⟩
  · intro y hy
    apply h1 y
    cases r with
    | nil => simp at hy
    | cons z r' => simp only [List.dropLast_cons_cons, List.mem_cons]; exact Or.inr hy
  · intro y hy
    apply h2 y
    cases r with
    | nil => simp at hy
    | cons z r' => simpa [List.getLast?_cons_cons] using hy
  · intro he; subst he; exact (h2 x rfl).2
  · rcases mem_dropLast_or_getLast (x :: r) x (by simp) with h | h
    · exact real_valid (h1 x h)
    · exact (h2 x h).1

theorem cnt_append (a b : List Item) : cnt (a ++ b) = cnt a + cnt b := by
  induction a with
  | nil => simp [cnt]
  | cons x r ih => simp [cnt, ih]; omega

theorem real_le (it : Item) : real it ≤ 1 := by unfold real; split <;> omega
theorem real_zero : real Item.zero = 0 := by simp [real, Item.zero, midT]

def PosOK (S : Item → Prop) (p : Nat) : Prop := ∃ it, S it ∧ it.pos = p

/-- `p` is where an error about the token `it` is reported: its position (a token's position is its
    END) — or, ONLY for a Text token (stray text between the params of a {call} / the cases of a
    {switch}, which soy reports through `atTextStart`), the position of its first non-blank character -/
def ErrAt (it : Item) (p : Nat) : Prop := it.pos = p ∨ (it.typ = .tText ∧ (atTextStart it).pos = p)

theorem atTextStart_pos_le (it : Item) : (atTextStart it).pos ≤ it.pos := by
  unfold atTextStart
  split
  · rename_i i h
    obtain ⟨hi, _⟩ := List.findIdx?_eq_some_iff_getElem.mp h
    show it.pos + i - it.val.length ≤ it.pos
    omega
  · exact Nat.le_refl _

theorem not_blank {b : UInt8} :
    (!(b == 32 || b == 9 || b == 13 || b == 10)) = true ↔ b ≠ 32 ∧ b ≠ 9 ∧ b ≠ 13 ∧ b ≠ 10 := by
  simp only [Bool.not_eq_true', Bool.or_eq_false_iff, beq_eq_false_iff_ne, and_assoc]

theorem blank_of {b : UInt8} (h : ¬ (!(b == 32 || b == 9 || b == 13 || b == 10)) = true) :
    b = 32 ∨ b = 9 ∨ b = 13 ∨ b = 10 := by
  simp only [Decidable.or_iff_not_imp_left]
  exact fun h1 h2 h3 => Decidable.byContradiction fun h4 => h (not_blank.mpr ⟨h1, h2, h3, h4⟩)

/-- where `atTextStart` puts the token: at its first byte that is not a space, tab, CR or LF (counted
    from the start `pos - len(val)` of the token), inside the token; a token of blanks only stays put -/
theorem atTextStart_spec (it : Item) :
    (∃ i, ∃ h : i < it.val.length, (atTextStart it).pos = it.pos + i - it.val.length ∧
        (it.val[i] ≠ 32 ∧ it.val[i] ≠ 9 ∧ it.val[i] ≠ 13 ∧ it.val[i] ≠ 10) ∧
        ∀ j (hj : j < i), it.val[j] = 32 ∨ it.val[j] = 9 ∨ it.val[j] = 13 ∨ it.val[j] = 10) ∨
    (atTextStart it = it ∧ ∀ b ∈ it.val, b = 32 ∨ b = 9 ∨ b = 13 ∨ b = 10) := by
  unfold atTextStart
  split
  · rename_i i h
    obtain ⟨hi, hp, hb⟩ := List.findIdx?_eq_some_iff_getElem.mp h
    exact Or.inl ⟨i, hi, rfl, not_blank.mp hp, fun j hj => blank_of (hb j hj)⟩
  · rename_i h
    exact Or.inr ⟨rfl, fun b hb => blank_of (Bool.eq_false_iff.mp (List.findIdx?_eq_none_iff.mp h b hb))⟩

theorem ErrAt.le {it : Item} {p : Nat} (h : ErrAt it p) : p ≤ it.pos := by
  rcases h with h | h
  · omega
  · have := atTextStart_pos_le it; have := h.2; omega

theorem ErrAt.zero {p : Nat} (h : ErrAt Item.zero p) : p = 0 := by
  have := h.le
  have : Item.zero.pos = 0 := rfl
  omega

/-- an error position: that of an `S`-token, and on a lexer-shaped stream not that of the
    zero item a closed channel yields -/
def ErrOK (EL : Lvl) (S : Item → Prop) (p : Nat) : Prop :=
  (∃ it, S it ∧ ErrAt it p) ∧ (EL.lex → ∃ it, S it ∧ valid it ∧ ErrAt it p)

def PSafe {α : Type} (AP : Prop) (EL : Lvl) (S : Item → Prop) (x : P α) (st : PState) (Q : α → PState → Prop) : Prop :=
  match x st with
  | .ok (a, st') => Q a st'
  | .error (.err p) => ErrOK EL S p
  | .error .panic => AP
  | .error .fuelOut => False

/-- The judgement once, for every state-and-exception monad: a value and a state satisfying `Q`, or an error
    satisfying `E`.  `PSafe` and `FSafe` (Lemmas/FileParserSafe.lean) are its readings at `perr` / `ferr` (`psafe_iff`,
    `fsafe_iff`); `Ok` (Lemmas/ParserBasic.lean) is the case of no admitted error, written with `∃` because the
    round-trip proofs take the value and the state out of it. -/
def Safe {σ ε α : Type} (E : ε → Prop) (x : StateT σ (Except ε) α) (st : σ) (Q : α → σ → Prop) : Prop :=
  match x st with
  | .ok (a, st') => Q a st'
  | .error e => E e

section
variable {σ ε α β : Type} {E : ε → Prop} {x : StateT σ (Except ε) α} {f : α → StateT σ (Except ε) β} {st : σ}

theorem bind_run (x : StateT σ (Except ε) α) (f : α → StateT σ (Except ε) β) (st : σ) :
    (x >>= f) st = match x st with
      | .ok (a, s) => f a s
      | .error e => .error e := by
  show StateT.bind x f st = _
  unfold StateT.bind
  cases x st with
  | error e => rfl
  | ok r => rfl

theorem Safe.bind {Q : β → σ → Prop} (h : Safe E x st fun a st' => Safe E (f a) st' Q) : Safe E (x >>= f) st Q := by
  unfold Safe at h ⊢
  rw [bind_run]
  cases hx : x st with
  | error e => rw [hx] at h; exact h
  | ok r => rw [hx] at h; exact h

theorem Safe.pure {a : α} {Q : α → σ → Prop} (h : Q a st) : Safe E (pure a : StateT σ (Except ε) α) st Q := h

theorem Safe.mono {Q Q' : α → σ → Prop} (h : Safe E x st Q) (hq : ∀ a st', Q a st' → Q' a st') : Safe E x st Q' := by
  unfold Safe at h ⊢
  split <;> simp_all
end

/-- the errors `PSafe` admits -/
def perr (AP : Prop) (EL : Lvl) (S : Item → Prop) : PErr → Prop
  | .err p => ErrOK EL S p
  | .panic => AP
  | .fuelOut => False

theorem psafe_iff {α : Type} {S : Item → Prop} {x : P α} {st : PState} {Q : α → PState → Prop} :
    PSafe AP EL S x st Q ↔ Safe (perr AP EL S) x st Q := by
  unfold PSafe Safe
  cases x st with
  | ok r => exact Iff.rfl
  | error e => cases e <;> exact Iff.rfl

theorem PSafe.bind {α β : Type} {S : Item → Prop} {x : P α} {f : α → P β} {st : PState}
    {Q : β → PState → Prop} (h : PSafe AP EL S x st (fun a st' => PSafe AP EL S (f a) st' Q)) :
    PSafe AP EL S (x >>= f) st Q :=
  psafe_iff.mpr (Safe.bind ((psafe_iff.mp h).mono fun _ _ => psafe_iff.mp))

theorem PSafe.pure {α : Type} {S : Item → Prop} {a : α} {st : PState} {Q : α → PState → Prop}
    (h : Q a st) : PSafe AP EL S (pure a : P α) st Q := h

theorem PSafe.mono {α : Type} {S : Item → Prop} {x : P α} {st : PState} {Q Q' : α → PState → Prop}
    (h : PSafe AP EL S x st Q) (hq : ∀ a st', Q a st' → Q' a st') : PSafe AP EL S x st Q' :=
  psafe_iff.mpr ((psafe_iff.mp h).mono hq)

/-- `if` as a rule: the `split` is done here, on a goal whose branches are variables, so the branches of a use stay
    as they are written -/
theorem PSafe.ite {α : Type} {S : Item → Prop} {c : Prop} [Decidable c] {a b : P α} {st : PState}
    {Q : α → PState → Prop} (ht : c → PSafe AP EL S a st Q) (hf : ¬c → PSafe AP EL S b st Q) :
    PSafe AP EL S (if c then a else b) st Q := by
  split
  · exact ht ‹_›
  · exact hf ‹_›

theorem PSafe.fail_panic {α : Type} {AP : Prop} {S : Item → Prop} {st : PState} {Q : α → PState → Prop}
    (h : AP) : PSafe AP EL S (fail PErr.panic : P α) st Q := h

theorem inv_init (S : Item → Prop) (items : List Item) (hz : S Item.zero) (hs : ∀ x ∈ items, S x)
    (hel : EL.eof → ∀ x ∈ items.dropLast, x.typ ≠ .tEOF)
    (hlx : EL.lex → items ≠ [] ∧ (∀ x ∈ items.dropLast, real x = 1) ∧
      (∀ x, items.getLast? = some x → valid x ∧ real x = 0)) :
    Inv0 EL S (initState items) :=
  ⟨by simp [initState], fun h => ⟨hel h, fun h0 => by simp [initState, Item.zero] at h0, fun h0 => by simp [initState, Item.zero] at h0⟩,
    ⟨hz, hz, hs⟩, fun h => ⟨rfl, (hlx h).1, (hlx h).2.1, (hlx h).2.2⟩⟩

theorem Inv0.crude {S : Item → Prop} {st : PState} (h : Inv0 EL S st) (hn : ¬ EL.lex) : Inv EL S st :=
  ⟨h.1, h.2.1, h.2.2.1, fun hl => absurd hl hn⟩

theorem mu_init (items : List Item) : mu (initState items) ≤ items.length := by
  simp only [mu, stream, pending, initState, if_true, List.nil_append]
  induction items with
  | nil => simp [cnt]
  | cons x r ih => simp only [cnt, List.length_cons]; have := real_le x; omega

/-- `t.next()`; the invariant's level `EL'` need not be that of the judgement (`next` does
    not fail) -/
theorem next_safe {EL EL' : Lvl} {S : Item → Prop} {st : PState} {Q : Item → PState → Prop} (hz : S Item.zero)
    (hi : Inv EL' S st)
    (hq : ∀ it st', InvW EL' S st' → S it → st'.peekCount = st.peekCount - 1 → top st' = it → mu st' + real it = mu st →
      (∀ x, Hd st x → it = x) → Q it st') :
    PSafe AP EL S next st Q := by
  obtain ⟨hpc, hj, ⟨h0, h1, hr⟩, hlx⟩ := hi
  unfold PSafe
  by_cases hp0 : st.peekCount = 0
  · cases hrest : st.rest with
    | nil =>
      rw [next_run_nil hp0 hrest]
      apply hq
      · refine ⟨by simp [hp0], fun h => eofJ_zero (hj h) hrest, ⟨hz, h1, by simp [hrest]⟩, fun hl => ?_⟩
        -- on a lexer-shaped stream the channel is not empty here
        obtain ⟨hc, _, hne⟩ := hlx hl
        have h1' := hne hp0
        have h0' := hc.empty hrest
        omega
      · exact hz
      · simp [hp0]
      · simp [top, hp0]
      · simp [mu, stream, pending, hp0, hrest, cnt, real_zero]
      · intro x ⟨s, hs⟩; simp [stream, pending, hp0, hrest] at hs
    | cons x r =>
      rw [next_run0 hp0 hrest]
      have hx : S x := hr x (by simp [hrest])
      apply hq
      · refine ⟨by simp [hp0], fun h => eofJ_pop (hj h) hrest, ⟨hx, h1, fun y hy => hr y (by simp [hrest, hy])⟩, fun hl => ?_⟩
        obtain ⟨hc, _, _⟩ := hlx hl
        exact ⟨lexC_pop hc.1 hc.2.1 hrest, fun h => by simp [hp0] at h⟩
      · exact hx
      · simp [hp0]
      · simp [top, hp0]
      · simp [mu, stream, pending, hp0, hrest, cnt]; omega
      · intro y ⟨s, hs⟩; simp [stream, pending, hp0, hrest] at hs; exact hs.1
  · by_cases hp1 : st.peekCount = 1
    · rw [next_run1 hp1]
      apply hq
      · exact ⟨by simp, hj, ⟨h0, h1, hr⟩, fun hl => ⟨(hlx hl).1, fun h => by simp at h⟩⟩
      · exact h0
      · simp [hp1]
      · simp [top]
      · simp [mu, stream, pending, hp1, cnt]; omega
      · intro y ⟨s, hs⟩; simp [stream, pending, hp1] at hs; exact hs.1
    · have hp2 : st.peekCount = 2 := by omega
      rw [next_run2 hp2]
      apply hq
      · exact ⟨by simp, hj, ⟨h0, h1, hr⟩, fun hl => ⟨(hlx hl).1, fun _ => (hlx hl).2.1 hp2⟩⟩
      · exact h1
      · simp [hp2]
      · simp [top]
      · simp [mu, stream, pending, hp2, cnt]; omega
      · intro y ⟨s, hs⟩; simp [stream, pending, hp2] at hs; exact hs.1

/-- the first `next` of a parse -/
theorem next_safe0 {EL EL' : Lvl} {S : Item → Prop} {st : PState} {Q : Item → PState → Prop} (hz : S Item.zero)
    (hi : Inv0 EL' S st)
    (hq : ∀ it st', InvW EL' S st' → S it → st'.peekCount = st.peekCount - 1 → top st' = it → mu st' + real it = mu st →
      (∀ x, Hd st x → it = x) → Q it st') :
    PSafe AP EL S next st Q := by
  by_cases hl : EL'.lex
  · obtain ⟨hpc, hj, ⟨h0, h1, hr⟩, hlx⟩ := hi
    obtain ⟨hp0, hne, hd, hlast⟩ := hlx hl
    unfold PSafe
    cases hrest : st.rest with
    | nil => exact absurd hrest hne
    | cons x r =>
      rw [next_run0 hp0 hrest]
      have hx : S x := hr x (by simp [hrest])
      apply hq
      · exact ⟨by simp [hp0], fun h => eofJ_pop (hj h) hrest, ⟨hx, h1, fun y hy => hr y (by simp [hrest, hy])⟩,
          fun _ => ⟨lexC_pop hd hlast hrest, fun h => by simp [hp0] at h⟩⟩
      · exact hx
      · simp [hp0]
      · simp [top, hp0]
      · simp [mu, stream, pending, hp0, hrest, cnt]; omega
      · intro y ⟨s, hs⟩; simp [stream, pending, hp0, hrest] at hs; exact hs.1
  · exact next_safe hz (hi.crude hl) hq

/-- `t.backup()` right after a `next` (at most one token was backed up) -/
theorem backup_safe {EL EL' : Lvl} {S : Item → Prop} {st : PState} {Q : Unit → PState → Prop}
    (hi : InvW EL' S st) (hpc : st.peekCount ≤ 1)
    (hq : ∀ st', Inv EL' S st' → mu st' = mu st + real (top st) → Hd st' (top st) → Q () st') :
    PSafe AP EL S backup st Q := by
  obtain ⟨_, hj, ⟨h0, h1, hr⟩, hlx⟩ := hi
  have : backup st = .ok ((), { st with peekCount := st.peekCount + 1 }) := rfl
  unfold PSafe
  rw [this]
  apply hq
  · refine ⟨by simp; omega, hj, ⟨h0, h1, hr⟩, fun hl => ⟨(hlx hl).1, fun h2 => (hlx hl).2 (by simp at h2; omega), fun h => by simp at h⟩⟩
  · by_cases hp0 : st.peekCount = 0
    · simp [mu, stream, pending, hp0, top, cnt]; omega
    · have hp1 : st.peekCount = 1 := by omega
      simp [mu, stream, pending, hp1, top, cnt]; omega
  · by_cases hp0 : st.peekCount = 0
    · exact ⟨st.rest, by simp [stream, pending, hp0, top]⟩
    · have hp1 : st.peekCount = 1 := by omega
      exact ⟨st.tok0 :: st.rest, by simp [stream, pending, hp1, top]⟩


/-- `t.backup2(t1)` after two `next`s (nothing is backed up) -/
theorem backup2_safe {EL EL' : Lvl} {S : Item → Prop} {st : PState} {t1 : Item} {Q : Unit → PState → Prop}
    (hi : InvW EL' S st) (ht : S t1) (hne : t1.typ ≠ .tEOF) (hv : EL'.lex → valid t1) (hpc : st.peekCount = 0)
    (hq : ∀ st', Inv EL' S st' → mu st' = mu st + real t1 + real (top st) → Hd st' t1 → Q () st') :
    PSafe AP EL S (backup2 t1) st Q := by
  obtain ⟨_, hj, ⟨h0, h1, hr⟩, hlx⟩ := hi
  have : backup2 t1 st = .ok ((), { st with tok1 := t1, peekCount := 2 }) := rfl
  unfold PSafe
  rw [this]
  apply hq
  · exact ⟨by simp, fun h => ⟨(hj h).1, (hj h).2.1, fun h' => absurd h' hne⟩, ⟨h0, ht, hr⟩,
      fun hl => ⟨(hlx hl).1, fun _ => hv hl, fun h => by simp at h⟩⟩
  · simp [mu, stream, pending, hpc, top, cnt]; omega
  · exact ⟨st.tok0 :: st.rest, by simp [stream, pending]⟩

theorem peek_safe {EL EL' : Lvl} {S : Item → Prop} {st : PState} {Q : Item → PState → Prop} (hz : S Item.zero)
    (hi : Inv EL' S st)
    (hq : ∀ it st', Inv EL' S st' → S it → mu st' = mu st → Hd st' it → 1 ≤ st'.peekCount → Q it st') :
    PSafe AP EL S peek st Q := by
  obtain ⟨hpc, hj, ⟨h0, h1, hr⟩, hlx⟩ := hi
  unfold PSafe
  by_cases hp0 : st.peekCount = 0
  · cases hrest : st.rest with
    | nil =>
      rw [peek_run_nil hp0 hrest]
      apply hq
      · refine ⟨by simp, fun h => eofJ_zero (st := { st with peekCount := 1 }) (hj h) hrest, ⟨hz, h1, by simp [hrest]⟩, fun hl => ?_⟩
        obtain ⟨hc, _, hne⟩ := hlx hl
        have h1' := hne hp0
        have h0' := hc.empty hrest
        omega
      · exact hz
      · simp [mu, stream, pending, hp0, hrest, cnt, real_zero]
      · exact ⟨[], by simp [stream, pending, hrest]⟩
      · simp
    | cons x r =>
      rw [peek_run0 hp0 hrest]
      have hx : S x := hr x (by simp [hrest])
      apply hq
      · refine ⟨by simp, fun h => eofJ_pop (st := st) (hj h) hrest, ⟨hx, h1, fun y hy => hr y (by simp [hrest, hy])⟩, fun hl => ?_⟩
        obtain ⟨hc, _, _⟩ := hlx hl
        exact ⟨lexC_pop hc.1 hc.2.1 hrest, fun h => by simp at h, fun h => by simp at h⟩
      · exact hx
      · simp [mu, stream, pending, hp0, hrest, cnt]
      · exact ⟨r, by simp [stream, pending]⟩
      · simp
  · by_cases hp1 : st.peekCount = 1
    · rw [peek_run1 hp1]
      exact hq _ _ ⟨hpc, hj, ⟨h0, h1, hr⟩, hlx⟩ h0 rfl ⟨st.rest, by simp [stream, pending, hp1]⟩ (by omega)
    · have hp2 : st.peekCount = 2 := by omega
      rw [peek_run2 hp2]
      exact hq _ _ ⟨hpc, hj, ⟨h0, h1, hr⟩, hlx⟩ h1 rfl ⟨st.tok0 :: st.rest, by simp [stream, pending, hp2]⟩ (by omega)

/-- the invariants under which `errorf` reports the position of a valid token -/
class ErrInv (I : Prop) (EL : outParam Lvl) (S : outParam (Item → Prop)) (st : outParam PState) : Prop where
  pc : I → st.peekCount ≤ 2
  toks : I → TokS S st
  v0 : I → EL.lex → valid st.tok0
  v1 : I → EL.lex → st.peekCount = 2 → valid st.tok1

instance {EL : Lvl} {S : Item → Prop} {st : PState} : ErrInv (Inv EL S st) EL S st where
  pc h := h.pc
  toks h := h.toks
  v0 h hl := (h.lex hl).1.valid0
  v1 h hl := (h.lex hl).2.1

instance {EL : Lvl} {S : Item → Prop} {st : PState} : ErrInv (InvW EL S st) EL S st where
  pc h := h.pc
  toks h := h.toks
  v0 h hl := (h.lex hl).1.valid0
  v1 h hl h2 := (h.lex hl).2 (by omega)

/-- `t.errorf(...)`: always an error, positioned at a token of the state -/
theorem errorf_safe {α : Type} {I : Prop} {EL : Lvl} {S : Item → Prop} {st : PState} {Q : α → PState → Prop}
    [e : ErrInv I EL S st] (hi : I) :
    PSafe AP EL S (errorf : P α) st Q := by
  have hpc := e.pc hi
  obtain ⟨h0, h1, hr⟩ := e.toks hi
  unfold PSafe errorf errPos
  by_cases hp0 : st.peekCount = 0
  · simp [hp0]; exact ⟨⟨_, h0, Or.inl rfl⟩, fun hl => ⟨_, h0, e.v0 hi hl, Or.inl rfl⟩⟩
  · by_cases hp1 : st.peekCount = 1
    · simp [hp1]; exact ⟨⟨_, h0, Or.inl rfl⟩, fun hl => ⟨_, h0, e.v0 hi hl, Or.inl rfl⟩⟩
    · have hp2 : st.peekCount = 2 := by omega
      simp [hp2]; exact ⟨⟨_, h1, Or.inl rfl⟩, fun hl => ⟨_, h1, e.v1 hi hl hp2, Or.inl rfl⟩⟩

theorem modify_safe {S : Item → Prop} {st : PState} {g : PState → PState} {Q : PUnit → PState → Prop}
    (h : Q PUnit.unit (g st)) : PSafe AP EL S (modify g : P PUnit) st Q := by
  have e : (modify g : P PUnit) st = .ok (PUnit.unit, g st) := rfl
  unfold PSafe
  rw [e]
  exact h

theorem get_safe {S : Item → Prop} {st : PState} {Q : PState → PState → Prop}
    (h : Q st st) : PSafe AP EL S (get : P PState) st Q := by
  have e : (get : P PState) st = .ok (st, st) := rfl
  unfold PSafe
  rw [e]
  exact h

theorem unexpected_eq {α : Type} (tok : Item) (st : PState) :
    (unexpected tok : P α) st = .error (.err tok.pos) := by
  rfl

theorem unexpected_safe' {α : Type} {EL : Lvl} {S : Item → Prop} {st : PState} {tok : Item} {Q : α → PState → Prop}
    (ht : S tok) (hv : EL.lex → valid tok) : PSafe AP EL S (unexpected tok : P α) st Q := by
  unfold PSafe
  rw [unexpected_eq]
  exact ⟨⟨tok, ht, Or.inl rfl⟩, fun hl => ⟨tok, ht, hv hl, Or.inl rfl⟩⟩

/-- `t.unexpected(atTextStart(token), ...)`: reports where the text of `tok` begins -/
theorem unexpected_textStart_safe {α : Type} {EL : Lvl} {S : Item → Prop} {st : PState} {tok : Item} {Q : α → PState → Prop}
    (ht : S tok) (hv : EL.lex → valid tok) (htx : tok.typ = .tText) :
    PSafe AP EL S (unexpected (atTextStart tok) : P α) st Q := by
  unfold PSafe
  rw [unexpected_eq]
  exact ⟨⟨tok, ht, Or.inr ⟨htx, rfl⟩⟩, fun hl => ⟨tok, ht, hv hl, Or.inr ⟨htx, rfl⟩⟩⟩

/-- `t.unexpected(token, ...)` on the token `next` has just returned -/
theorem unexpected_safe {α : Type} {EL : Lvl} {S : Item → Prop} {st : PState} {tok : Item} {Q : α → PState → Prop}
    (hi : InvW EL S st) (ht : S tok) (he : top st = tok := by assumption) : PSafe AP EL S (unexpected tok : P α) st Q :=
  unexpected_safe' ht (fun hl => he ▸ hi.valid_top hl)

theorem real_of_eq {it : Item} {t : ItemType} (h : it.typ = t) (ht : midT t = true) : real it = 1 := by
  unfold real; rw [h, ht]; rfl

theorem real_of_beq {it : Item} {t : ItemType} (h : (it.typ == t) = true) (ht : midT t = true) : real it = 1 :=
  real_of_eq (by simpa using h) ht

theorem real_of_nbne {it : Item} {t : ItemType} (h : ¬ (it.typ != t) = true) (ht : midT t = true) : real it = 1 :=
  real_of_eq (by simpa using h) ht

theorem real_of_or {it : Item} {a b : ItemType} (h : (it.typ == a || it.typ == b) = true)
    (ha : midT a = true) (hb : midT b = true) : real it = 1 := by
  simp only [Bool.or_eq_true] at h
  rcases h with h | h
  · exact real_of_beq h ha
  · exact real_of_beq h hb

theorem real_of_contains {it : Item} {l : List ItemType} (h : l.contains it.typ = true)
    (hl : l.all midT = true) : real it = 1 := by
  have hm : it.typ ∈ l := by simpa using h
  have := List.all_eq_true.mp hl _ hm
  unfold real; rw [this]; rfl

theorem real_of_unary {it : Item} (h : isUnaryOp it.typ = true) : real it = 1 :=
  if_pos ((by decide : ∀ t ∈ Gen.ParseTables.unaryOps, midT t = true) _ (List.contains_iff_mem.mp h))

theorem real_of_binary {it : Item} (h : isBinaryOp it.typ = true) : real it = 1 :=
  if_pos ((by decide : ∀ t ∈ Gen.ParseTables.binaryOps, midT t = true) _ (List.contains_iff_mem.mp h))

theorem real_of_value {it : Item} (h : isValue it.typ = true) : real it = 1 := by
  simp only [isValue, Bool.or_eq_true, beq_iff_eq] at h
  unfold real
  rcases h with ((((((h | h) | h) | h) | h) | h) | h) | h <;> rw [h] <;> rfl


/-- `s[1:]`: a runtime panic on the empty string -/
theorem tail1_safe {AP : Prop} {S : Item → Prop} {st : PState} {s : Bytes} {Q : Bytes → PState → Prop}
    (hne : s = [] → AP) (hq : ∀ b r, s = b :: r → Q r st) : PSafe AP EL S (tail1 s) st Q := by
  unfold tail1
  cases s with
  | nil => exact hne rfl
  | cons b r => exact hq b r rfl

/-- tokens whose value the parser slices (`tok.val[1:]`, `tok.val[2:]`) are long enough -/
def WFItem (it : Item) : Prop :=
  ((it.typ = .tDollarIdent ∨ it.typ = .tDotIdent ∨ it.typ = .tDotIndex) → it.val ≠ []) ∧
  ((it.typ = .tQuestionDotIdent ∨ it.typ = .tQuestionDotIndex) → 2 ≤ it.val.length)

theorem wf_zero : WFItem Item.zero := by
  constructor <;> intro h <;> simp [Item.zero] at h

end SoyVerif.Lemmas.ParserSafe
