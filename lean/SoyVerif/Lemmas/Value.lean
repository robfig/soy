/- Helper lemmas for the value model: the string order, sorting, association-list insertion. -/
import SoyVerif.Model.Value

namespace SoyVerif.Value

/-- `bytesLe` is the lexicographic order of `List UInt8`, whose order laws the library proves -/
theorem bytesLe_iff : ∀ a b : Bytes, bytesLe a b = true ↔ a ≤ b
  | [], _ => by simp [bytesLe]
  | _ :: _, [] => by simp [bytesLe]
  | a :: as, b :: bs => by
    rw [bytesLe, List.cons_le_cons_iff, ← bytesLe_iff as bs]
    by_cases h1 : a < b
    · simp [h1]
    · by_cases h2 : b < a
      · have : a ≠ b := fun e => by simp [e] at h2
        simp [h1, h2, this]
      · have : a = b := UInt8.le_antisymm (UInt8.not_lt.1 h2) (UInt8.not_lt.1 h1)
        simp [this]

theorem bytesLe_refl : ∀ a : Bytes, bytesLe a a = true :=
  fun a => (bytesLe_iff a a).2 (List.le_refl a)

theorem bytesLe_total (a b : Bytes) : bytesLe a b = true ∨ bytesLe b a = true := by
  simpa only [bytesLe_iff] using List.le_total a b

theorem bytesLe_antisymm (a b : Bytes) (h1 : bytesLe a b = true) (h2 : bytesLe b a = true) : a = b :=
  List.le_antisymm ((bytesLe_iff a b).1 h1) ((bytesLe_iff b a).1 h2)

theorem bytesLe_trans (a b c : Bytes) (h1 : bytesLe a b = true) (h2 : bytesLe b c = true) :
    bytesLe a c = true :=
  (bytesLe_iff a c).2 (List.le_trans ((bytesLe_iff a b).1 h1) ((bytesLe_iff b c).1 h2))

theorem insertSorted_perm (x : Bytes) : ∀ l, (insertSorted x l).Perm (x :: l)
  | [] => List.Perm.refl _
  | y :: ys => by
    unfold insertSorted
    split
    · exact List.Perm.refl _
    · exact ((insertSorted_perm x ys).cons y).trans (List.Perm.swap x y ys)

theorem sortStrings_perm : ∀ l, (sortStrings l).Perm l
  | [] => List.Perm.refl _
  | x :: xs => by
    unfold sortStrings
    exact (insertSorted_perm x _).trans ((sortStrings_perm xs).cons x)

theorem insertSorted_sorted (x : Bytes) : ∀ l, l.Pairwise (fun a b => bytesLe a b = true) →
    (insertSorted x l).Pairwise (fun a b => bytesLe a b = true)
  | [], _ => by simp [insertSorted]
  | y :: ys, h => by
    unfold insertSorted
    have hy := List.pairwise_cons.mp h
    split
    · rename_i hxy
      refine List.pairwise_cons.mpr ⟨?_, h⟩
      intro z hz
      rcases List.mem_cons.mp hz with rfl | hz
      · exact hxy
      · exact bytesLe_trans _ _ _ hxy (hy.1 z hz)
    · rename_i hxy
      refine List.pairwise_cons.mpr ⟨?_, insertSorted_sorted x ys hy.2⟩
      intro z hz
      have := (insertSorted_perm x ys).subset hz
      rcases List.mem_cons.mp this with rfl | hz'
      · rcases bytesLe_total z y with h' | h'
        · exact absurd h' hxy
        · exact h'
      · exact hy.1 z hz'

theorem sortStrings_sorted : ∀ l, (sortStrings l).Pairwise (fun a b => bytesLe a b = true)
  | [] => List.Pairwise.nil
  | x :: xs => by
    unfold sortStrings
    exact insertSorted_sorted x _ (sortStrings_sorted xs)

theorem sortStrings_eq_of_perm {l₁ l₂ : List Bytes} (h : l₁.Perm l₂) : sortStrings l₁ = sortStrings l₂ :=
  List.Perm.eq_of_pairwise (le := fun a b => bytesLe a b = true)
    (fun a b _ _ => bytesLe_antisymm a b)
    (sortStrings_sorted l₁) (sortStrings_sorted l₂)
    ((sortStrings_perm l₁).trans (h.trans (sortStrings_perm l₂).symm))

theorem insert_of_not_mem : ∀ (m : List (Bytes × Value)) (k : Bytes) (v : Value),
    k ∉ m.map Prod.fst → insert m k v = m ++ [(k, v)]
  | [], _, _, _ => rfl
  | (k', v') :: r, k, v, h => by
    have hk : ¬ k' = k := fun e => h (by simp [e])
    have hr : k ∉ r.map Prod.fst := fun e => h (by simp [e])
    simp [insert, hk, insert_of_not_mem r k v hr]

/- `_oi`: independent of the order `o` in which the Go map of a map value is ranged over (the text sorts the
   items); an order is any `o` that returns a permutation of the keys it is given (`Props.C13.IterOrder`). -/
mutual
theorem toString_oi (o₁ o₂ : List Bytes → List Bytes)
    (h₁ : ∀ l, (o₁ l).Perm l) (h₂ : ∀ l, (o₂ l).Perm l) : ∀ v : Value, Value.toString o₁ v = Value.toString o₂ v
  | .undefined => by simp [Value.toString]
  | .null => by simp [Value.toString]
  | .bool _ => by simp [Value.toString]
  | .int _ => by simp [Value.toString]
  | .float _ => by simp [Value.toString]
  | .str _ => by simp [Value.toString]
  | .list _ xs => by
    simp only [Value.toString]
    rw [listItems_oi o₁ o₂ h₁ h₂ xs]
  | .map _ kvs => by
    simp only [Value.toString]
    rw [mapItems_oi o₁ o₂ h₁ h₂ kvs]
    cases Value.mapItems o₂ kvs with
    | none => rfl
    | some items =>
      simp only
      rw [sortStrings_eq_of_perm ((h₁ items).trans (h₂ items).symm)]
theorem listItems_oi (o₁ o₂ : List Bytes → List Bytes)
    (h₁ : ∀ l, (o₁ l).Perm l) (h₂ : ∀ l, (o₂ l).Perm l) : ∀ xs : List Value, Value.listItems o₁ xs = Value.listItems o₂ xs
  | [] => by simp [Value.listItems]
  | x :: xs => by
    simp only [Value.listItems]
    rw [toString_oi o₁ o₂ h₁ h₂ x, listItems_oi o₁ o₂ h₁ h₂ xs]
theorem mapItems_oi (o₁ o₂ : List Bytes → List Bytes)
    (h₁ : ∀ l, (o₁ l).Perm l) (h₂ : ∀ l, (o₂ l).Perm l) : ∀ kvs : List (Bytes × Value), Value.mapItems o₁ kvs = Value.mapItems o₂ kvs
  | [] => by simp [Value.mapItems]
  | (k, v) :: r => by
    cases v <;> simp only [Value.mapItems] <;> rw [mapItems_oi o₁ o₂ h₁ h₂ r] <;> try rw [toString_oi o₁ o₂ h₁ h₂]
end

end SoyVerif.Value
