/-
  The lexer-facing side of the printed tokens: which token stands in front of every `-`.

  The lexer decides between unary minus / the sign of a number and binary minus by the PREVIOUS
  token (`lexNegative`; generated table `unaryMinusAfter`).  For the printed tokens of any tree,
  preceded by the start of input (`tInvalid`):
  * every token that may begin with a unary `-` (Negate, Integer, Float) is preceded by a token of
    `beforeOperand`, and
  * every binary minus (Sub) is preceded by a token of `afterOperand` (the last token of an operand).
  `Inst/C17.lean` proves by `decide` that `beforeOperand ⊆ unaryMinusAfter` and that `afterOperand`
  is disjoint from it.
-/
import SoyVerif.Lemmas.ParserToks

namespace SoyVerif.Lemmas.ParserAdj
open SoyVerif SoyVerif.Model SoyVerif.Model.Parser SoyVerif.Model.PrintTokens SoyVerif.Model.Printer
open SoyVerif.Lemmas.ParserToks

/-- token types that can stand in front of an operand in printed tokens (`tInvalid` = start of input,
    `tLeftDelim` = the `{` of a print command) -/
def beforeOperand : List ItemType :=
  [.tInvalid, .tLeftDelim, .tLeftParen, .tLeftBracket, .tQuestionKey, .tComma, .tColon, .tTernIf, .tNot, .tNegate,
   .tMul, .tDiv, .tMod, .tAdd, .tSub, .tEq, .tNotEq, .tGt, .tGte, .tLt, .tLte, .tOr, .tAnd, .tElvis]

/-- token types an operand can end with -/
def afterOperand : List ItemType :=
  [.tRightParen, .tRightBracket, .tNull, .tBool, .tInteger, .tFloat, .tString, .tIdent, .tDollarIdent,
   .tDotIdent, .tQuestionDotIdent, .tDotIndex, .tQuestionDotIndex]

def pairOK (x y : ItemType) : Bool :=
  (if y == .tNegate || y == .tInteger || y == .tFloat then beforeOperand.contains x else true) &&
  (if y == .tSub then afterOperand.contains x else true)

/-- all adjacent pairs of `x :: l` are fine -/
def chainOK : ItemType → List ItemType → Bool
  | _, [] => true
  | x, y :: r => pairOK x y && chainOK y r

def lastOf : ItemType → List ItemType → ItemType
  | x, [] => x
  | _, y :: r => lastOf y r

def typs (ts : List Tk) : List ItemType := ts.map (·.typ)

theorem chainOK_append : (x : ItemType) → (a b : List ItemType) →
    chainOK x (a ++ b) = (chainOK x a && chainOK (lastOf x a) b)
  | x, [], b => by simp [chainOK, lastOf]
  | x, y :: r, b => by simp [chainOK, lastOf, chainOK_append y r b, Bool.and_assoc]

theorem lastOf_append : (x : ItemType) → (a b : List ItemType) → lastOf x (a ++ b) = lastOf (lastOf x a) b
  | x, [], b => rfl
  | x, y :: r, b => by simp [lastOf, lastOf_append y r b]

theorem typs_append (a b : List Tk) : typs (a ++ b) = typs a ++ typs b := by simp [typs]

/-- the good outcome for a token list placed after `x` -/
def Good (x : ItemType) (l : List ItemType) : Prop := chainOK x l = true ∧ lastOf x l ∈ afterOperand

theorem good_append {x : ItemType} {a b : List ItemType} (ha : chainOK x a = true) (hb : Good (lastOf x a) b) :
    Good x (a ++ b) := by
  refine ⟨?_, ?_⟩
  · rw [chainOK_append, ha, hb.1]; rfl
  · rw [lastOf_append]; exact hb.2

/-- a token type the two minus rules do not look at: neither a token that may begin with `-` nor the binary minus -/
def plain (t : ItemType) : Bool := !(t == .tNegate || t == .tInteger || t == .tFloat || t == .tSub)

theorem pairOK_plain {y : ItemType} (h : plain y = true) (x : ItemType) : pairOK x y = true := by
  simp only [plain, Bool.not_eq_true', Bool.or_eq_false_iff] at h
  simp [pairOK, h.1.1.1, h.1.1.2, h.1.2, h.2]

/-- an operand between brackets, after anything: plain tokens `pre`, an opening token `o` an operand may follow,
    the operand `l`, further pieces `more` that are fine after any token, and a plain closing token `c` an operand
    can end with — function calls, list and map literals, index expressions, parenthesised operands.  A use writes
    its list in the shape `pre ++ [o] ++ l ++ more ++ [c]` (`[] ++`, `++ []` for empty parts); `hb` is then `rfl`. -/
theorem good_bracket {x o c : ItemType} {pre l more : List ItemType}
    (hb : ((pre ++ [o]).all plain && beforeOperand.contains o && plain c && afterOperand.contains c) = true)
    (hl : ∀ y, y ∈ beforeOperand → Good y l) (hmore : ∀ y, chainOK y more = true) :
    Good x (pre ++ [o] ++ l ++ more ++ [c]) := by
  simp only [Bool.and_eq_true, List.contains_iff_mem] at hb
  obtain ⟨⟨⟨hpre, ho⟩, hc⟩, hca⟩ := hb
  have hchain : ∀ (ps : List ItemType) (y : ItemType), ps.all plain = true → chainOK y ps = true := by
    intro ps
    induction ps with
    | nil => intro _ _; rfl
    | cons p r ih =>
      intro y h
      simp only [List.all_cons, Bool.and_eq_true] at h
      simp [chainOK, pairOK_plain h.1, ih p h.2]
  have hlast : lastOf x (pre ++ [o]) = o := by rw [lastOf_append]; rfl
  refine ⟨?_, ?_⟩
  · rw [chainOK_append, chainOK_append, chainOK_append, hchain _ x hpre, hlast, (hl o ho).1, hmore]
    simp [chainOK, pairOK_plain hc]
  · rw [lastOf_append]; exact hca

theorem before_tokOf (op : BinOp) : tokOf op ∈ beforeOperand := by cases op <;> simp [tokOf, beforeOperand]

theorem pairOK_op {l : ItemType} (h : l ∈ afterOperand) (op : BinOp) : pairOK l (tokOf op) = true := by
  have : afterOperand.contains l = true := by simpa using h
  cases op <;> simp [pairOK, tokOf, h]

section
variable (ff : UInt64 → Bytes)

/-- an operand slot of the printer after a token of `beforeOperand` -/
theorem good_wrap {a : Expr} (m : Nat) (h : ∀ x, x ∈ beforeOperand → Good x (typs (toks ff a)))
    (x : ItemType) (hx : x ∈ beforeOperand) : Good x (typs (unsp (wrapP a m (pieces ff a)))) := by
  unfold wrapP
  by_cases hlt : precedenceOf a < m
  · simp only [hlt, if_true]
    have : typs (unsp ([Piece.tok tLP] ++ pieces ff a ++ [Piece.tok tRP])) =
        [] ++ [.tLeftParen] ++ typs (toks ff a) ++ [] ++ [.tRightParen] := by
      simp [unsp_append, unsp, typs, toks, tLP, tRP]
    rw [this]
    exact good_bracket rfl h (fun _ => rfl)
  · simp only [hlt, if_false]
    exact h x hx

mutual
  theorem good_toks : (e : Expr) → ∀ x, x ∈ beforeOperand → Good x (typs (toks ff e))
    | .null _, x, hx => by simp [toks, pieces, unsp, typs, tNull, Good, chainOK, pairOK, lastOf, afterOperand]
    | .bool _ b, x, hx => by simp [toks, pieces, unsp, typs, tBool, Good, chainOK, pairOK, lastOf, afterOperand]
    | .int _ v, x, hx => by
        simp [toks, pieces, unsp, typs, Good, chainOK, pairOK, lastOf, hx]
        simp [afterOperand]
    | .float _ v, x, hx => by
        simp [toks, pieces, unsp, typs, Good, chainOK, pairOK, lastOf, hx]
        simp [afterOperand]
    | .str _ q v, x, hx => by simp [toks, pieces, unsp, typs, tString, Good, chainOK, pairOK, lastOf, afterOperand]
    | .global _ n, x, hx => by
        have hg : ∀ (segs : List Bytes) (y : ItemType), y ∈ afterOperand →
            Good y (typs (segs.map tDotIdent)) := by
          intro segs
          induction segs with
          | nil => intro y hy; exact ⟨rfl, hy⟩
          | cons s r ih =>
            intro y hy
            have := ih .tDotIdent (by simp [afterOperand])
            simp [typs, tDotIdent, Good, chainOK, pairOK, lastOf] at this ⊢
            exact this
        have := hg (splitDots n).2 .tIdent (by simp [afterOperand])
        simp only [toks, pieces, unsp_map_tok, globalToks]
        simp [typs, tIdent, Good, chainOK, pairOK, lastOf] at this ⊢
        exact this
    | .func p n args, x, hx => by
        cases args with
        | nil => simp [toks, pieces, piecesArgs, unsp, typs, tIdent, tLP, tRP, Good, chainOK, pairOK, lastOf, afterOperand]
        | cons e r =>
          have : typs (toks ff (.func p n (.cons e r))) =
              [.tIdent] ++ [.tLeftParen] ++ typs (toks ff e) ++ typs (unsp (piecesArgs ff r false)) ++ [.tRightParen] := by
            simp [toks, pieces, piecesArgs, unsp, unsp_append, typs, tIdent, tLP, tRP]
          rw [this]
          exact good_bracket rfl (good_toks e) (good_args r)
    | .list p items, x, hx => by
        cases items with
        | nil => simp [toks, pieces, piecesItems, unsp, typs, tLB, tRB, Good, chainOK, pairOK, lastOf, afterOperand]
        | cons e r =>
          have : typs (toks ff (.list p (.cons e r))) =
              [] ++ [.tLeftBracket] ++ typs (toks ff e) ++ typs (unsp (piecesItems ff r false)) ++ [.tRightBracket] := by
            simp [toks, pieces, piecesItems, unsp, unsp_append, typs, tLB, tRB]
          rw [this]
          exact good_bracket rfl (good_toks e) (good_items r)
    | .map p items, x, hx => by
        cases items with
        | nil => simp [toks, pieces, unsp, typs, tLB, tColon, tRB, Good, chainOK, pairOK, lastOf, afterOperand]
        | cons k e r =>
          have : typs (toks ff (.map p (.cons k e r))) =
              [.tLeftBracket, .tString] ++ [.tColon] ++ typs (toks ff e) ++ typs (unsp (piecesMap ff r false)) ++ [.tRightBracket] := by
            simp [toks, pieces, piecesMap, unsp, unsp_append, typs, tLB, tRB, tString, tColon]
          rw [this]
          exact good_bracket rfl (good_toks e) (good_entries r)
    | .dataRef p k acc, x, hx => by
        have h2 := good_accs acc .tDollarIdent (by simp [afterOperand])
        have : typs (toks ff (.dataRef p k acc)) = [.tDollarIdent] ++ typs (unsp (piecesAccs ff acc)) := by
          simp [toks, pieces, unsp, typs]
        rw [this]
        exact good_append (by simp [chainOK, pairOK]) (by simpa [lastOf] using h2)
    | .not p a, x, hx => by
        have h1 := good_wrap ff precUnary (good_toks a) .tNot (by simp [beforeOperand])
        have : typs (toks ff (.not p a)) = [.tNot] ++ typs (unsp (wrapP a precUnary (pieces ff a))) := by
          simp [toks, pieces, unsp, typs, tNot]
        rw [this]
        exact good_append (by simp [chainOK, pairOK]) (by simpa [lastOf] using h1)
    | .neg p a, x, hx => by
        have ih := good_toks a
        have key : ∃ l, typs (toks ff (.neg p a)) = [.tNegate] ++ l ∧ Good .tNegate l := by
          -- the side goals of the overlapping `match` of `pieces` on `.neg`, as in `ParserToks.spell_pieces`
          cases a <;>
            (rw [toks, pieces]
             all_goals first
               | (intro _ _ h; cases h)
               | skip)
          case int p v =>
            exact ⟨[] ++ [.tLeftParen] ++ typs (toks ff (.int p v)) ++ [] ++ [.tRightParen],
              by simp [unsp, unsp_append, typs, toks, tNeg, tLP, tRP],
              good_bracket rfl ih (fun _ => rfl)⟩
          case float p v =>
            exact ⟨[] ++ [.tLeftParen] ++ typs (toks ff (.float p v)) ++ [] ++ [.tRightParen],
              by simp [unsp, unsp_append, typs, toks, tNeg, tLP, tRP],
              good_bracket rfl ih (fun _ => rfl)⟩
          all_goals
            exact ⟨_, by simp [unsp, typs, tNeg], good_wrap ff precUnary ih .tNegate (by simp [beforeOperand])⟩
        obtain ⟨l, hl, hg⟩ := key
        rw [hl]
        exact good_append (by simp [chainOK, pairOK, hx]) (by simpa [lastOf] using hg)
    | .bin op p a b, x, hx => by
        have h1 := good_wrap ff (leftMin op) (good_toks a) x hx
        have h2 := good_wrap ff (rightMin op) (good_toks b) (tokOf op) (before_tokOf op)
        have : typs (toks ff (.bin op p a b)) = typs (unsp (wrapP a (leftMin op) (pieces ff a))) ++
            ([tokOf op] ++ typs (unsp (wrapP b (rightMin op) (pieces ff b)))) := by
          simp [toks, pieces, unsp, unsp_append, typs, tOp]
        rw [this]
        refine good_append h1.1 (good_append ?_ (by simpa [lastOf] using h2))
        simp [chainOK, pairOK_op h1.2 op]
    | .tern p c a b, x, hx => by
        have h1 := good_wrap ff (precElvis + 1) (good_toks c) x hx
        have h2 := good_wrap ff precElvis (good_toks a) .tTernIf (by simp [beforeOperand])
        have h3 := good_toks b .tColon (by simp [beforeOperand])
        have : typs (toks ff (.tern p c a b)) = typs (unsp (wrapP c (precElvis + 1) (pieces ff c))) ++
            ([.tTernIf] ++ (typs (unsp (wrapP a precElvis (pieces ff a))) ++ ([.tColon] ++ typs (toks ff b)))) := by
          simp [toks, pieces, unsp, unsp_append, typs, tTernIf, tColon]
        rw [this]
        refine good_append h1.1 (good_append (by simp [chainOK, pairOK]) ?_)
        refine good_append (by simpa [lastOf] using h2.1) (good_append (by simp [chainOK, pairOK]) (by simpa [lastOf] using h3))
  /-- further arguments `,e` after any token -/
  theorem good_args : (l : ExprList) → ∀ y, chainOK y (typs (unsp (piecesArgs ff l false))) = true
    | .nil, y => by simp [piecesArgs, unsp, typs, chainOK]
    | .cons e r, y => by
        have h1 := good_toks e .tComma (by simp [beforeOperand])
        have h2 := good_args r (lastOf .tComma (typs (toks ff e)))
        have : typs (unsp (piecesArgs ff (.cons e r) false)) =
            [.tComma] ++ typs (toks ff e) ++ typs (unsp (piecesArgs ff r false)) := by
          simp [toks, piecesArgs, unsp, unsp_append, typs, tComma]
        rw [this]
        simp only [chainOK_append, lastOf_append]
        simp [chainOK, pairOK, lastOf, h1.1, h2]
  theorem good_items : (l : ExprList) → ∀ y, chainOK y (typs (unsp (piecesItems ff l false))) = true
    | .nil, y => by simp [piecesItems, unsp, typs, chainOK]
    | .cons e r, y => by
        have h1 := good_toks e .tComma (by simp [beforeOperand])
        have h2 := good_items r (lastOf .tComma (typs (toks ff e)))
        have : typs (unsp (piecesItems ff (.cons e r) false)) =
            [.tComma] ++ typs (toks ff e) ++ typs (unsp (piecesItems ff r false)) := by
          simp [toks, piecesItems, unsp, unsp_append, typs, tComma]
        rw [this]
        simp only [chainOK_append, lastOf_append]
        simp [chainOK, pairOK, lastOf, h1.1, h2]
  theorem good_entries : (m : MapItems) → ∀ y, chainOK y (typs (unsp (piecesMap ff m false))) = true
    | .nil, y => by simp [piecesMap, unsp, typs, chainOK]
    | .cons k e r, y => by
        have h1 := good_toks e .tColon (by simp [beforeOperand])
        have h2 := good_entries r (lastOf .tColon (typs (toks ff e)))
        have : typs (unsp (piecesMap ff (.cons k e r) false)) =
            [.tComma, .tString, .tColon] ++ typs (toks ff e) ++ typs (unsp (piecesMap ff r false)) := by
          simp [toks, piecesMap, unsp, unsp_append, typs, tComma, tString, tColon]
        rw [this]
        simp only [chainOK_append, lastOf_append]
        simp [chainOK, pairOK, lastOf, h1.1, h2]
  theorem good_accs : (l : AccessList) → ∀ y, y ∈ afterOperand → Good y (typs (unsp (piecesAccs ff l)))
    | .nil, y, hy => by simp [piecesAccs, unsp, typs, Good, chainOK, lastOf, hy]
    | .cons a r, y, hy => by
        have h1 := good_acc a y
        have h2 := good_accs r (lastOf y (typs (unsp (piecesAcc ff a)))) h1.2
        have : typs (unsp (piecesAccs ff (.cons a r))) = typs (unsp (piecesAcc ff a)) ++ typs (unsp (piecesAccs ff r)) := by
          simp [piecesAccs, unsp_append, typs]
        rw [this]
        exact good_append h1.1 h2
  theorem good_acc : (a : Access) → ∀ y, Good y (typs (unsp (piecesAcc ff a)))
    | .key _ ns k, y => by cases ns <;> simp [piecesAcc, unsp, typs, Good, chainOK, pairOK, lastOf, afterOperand]
    | .index _ ns i, y => by cases ns <;> simp [piecesAcc, unsp, typs, Good, chainOK, pairOK, lastOf, afterOperand]
    | .expr p ns e, y => by
        cases ns with
        | true =>
          have : typs (unsp (piecesAcc ff (.expr p true e))) =
              [] ++ [.tQuestionKey] ++ typs (toks ff e) ++ [] ++ [.tRightBracket] := by
            simp [toks, piecesAcc, unsp, unsp_append, typs, tQKey, tRB]
          rw [this]
          exact good_bracket rfl (good_toks e) (fun _ => rfl)
        | false =>
          have : typs (unsp (piecesAcc ff (.expr p false e))) =
              [] ++ [.tLeftBracket] ++ typs (toks ff e) ++ [] ++ [.tRightBracket] := by
            simp [toks, piecesAcc, unsp, unsp_append, typs, tLB, tRB]
          rw [this]
          exact good_bracket rfl (good_toks e) (fun _ => rfl)
end

end
end SoyVerif.Lemmas.ParserAdj
