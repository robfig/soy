/-
  Fuel monotonicity of the parser models: a run that does not end in `fuelOut` gives the same
  answer (result AND state) on any larger budget.  `Le x y`: wherever `x` does not run out of
  fuel, `y` answers the same.

  Every function of the models is `fuelOut` at budget 0 and, at budget `n + 1`, a term built from
  `>>=`, `if` and `match` over calls at budget `n`.  Each of these combinators preserves `Le`
  (`Le.bind`, `Le.ite`, case splitting), so monotonicity follows by induction on the budget
  (`le_induction`), walking once over each body.
-/
import SoyVerif.Model.FileParser

namespace SoyVerif.Lemmas.FuelMono
open SoyVerif SoyVerif.Model SoyVerif.Model.Parser

/-- `>>=` of a state-and-exception monad preserves "same answer unless the left side fails with
    `o`": the first action answers the same, so the continuations start from the same state. -/
theorem bind_le {σ ε α β : Type} (o : ε) {x y : StateT σ (Except ε) α} {f g : α → StateT σ (Except ε) β}
    (h : ∀ st, x st ≠ .error o → y st = x st) (hf : ∀ a st, f a st ≠ .error o → g a st = f a st)
    (st : σ) (hne : (x >>= f) st ≠ .error o) : (y >>= g) st = (x >>= f) st := by
  change (x st >>= fun r => f r.1 r.2) ≠ _ at hne
  change (y st >>= fun r => g r.1 r.2) = (x st >>= fun r => f r.1 r.2)
  cases hx : x st with
  | error e =>
    rw [hx] at hne
    rw [h st (by rw [hx]; exact fun hh => hne (by cases hh; rfl)), hx]
    rfl
  | ok r =>
    rw [hx] at hne
    rw [h st (by rw [hx]; exact nofun), hx]
    exact hf r.1 r.2 hne

theorem le_induction {R : Nat → Nat → Prop} (h0 : ∀ b, R 0 b)
    (hs : ∀ a b, a ≤ b → R a b → R (a + 1) (b + 1)) : ∀ a b, a ≤ b → R a b := by
  intro a
  induction a with
  | zero => exact fun b _ => h0 b
  | succ a ih =>
    intro b hb
    obtain ⟨c, rfl⟩ : ∃ c, b = c + 1 := ⟨b - 1, by omega⟩
    exact hs a c (by omega) (ih c (by omega))

/-- `y` answers what `x` answers, unless `x` runs out of fuel -/
structure Le {α : Type} (x y : P α) : Prop where
  le : ∀ st, x st ≠ .error .fuelOut → y st = x st

theorem Le.refl {α : Type} (x : P α) : Le x x := ⟨fun _ _ => rfl⟩

theorem Le.bind {α β : Type} {x y : P α} {f g : α → P β} (h : Le x y) (hf : ∀ a, Le (f a) (g a)) :
    Le (x >>= f) (y >>= g) :=
  ⟨bind_le _ h.le fun a => (hf a).le⟩

theorem Le.ite {α : Type} {c : Prop} [Decidable c] {a a' b b' : P α} (h1 : Le a a') (h2 : Le b b') :
    Le (if c then a else b) (if c then a' else b') := by
  split
  · exact h1
  · exact h2

theorem Le.zero {α : Type} (y : P α) : Le (fail PErr.fuelOut) y :=
  ⟨fun _ hne => absurd rfl hne⟩

/-- One step of the walk over two bodies that differ only in the budgets of their calls: equal
    parts, `>>=`, `if`, a call (an induction hypothesis in the context), `match`.  Terms are
    compared as written (`with_reducible`): no parser function is unfolded to compare it with a `>>=`. -/
macro "mono_step" : tactic => `(tactic| with_reducible first
  | exact Le.refl _
  | (apply Le.bind)
  | (apply Le.ite)
  | (intro _)
  | apply_assumption
  | split)

macro "mono" : tactic => `(tactic| repeat' mono_step)

section
variable (pf : Bytes → Option UInt64)

/-- every expression function at fuel `a` is below itself at fuel `b` -/
structure ExprMono (a b : Nat) : Prop where
  parseExpr : ∀ prec, Le (Parser.parseExpr pf a prec) (Parser.parseExpr pf b prec)
  exprLoop : ∀ prec n, Le (Parser.exprLoop pf a prec n) (Parser.exprLoop pf b prec n)
  firstTerm : Le (Parser.parseExprFirstTerm pf a) (Parser.parseExprFirstTerm pf b)
  newValueNode : ∀ tok, Le (Parser.newValueNode pf a tok) (Parser.newValueNode pf b tok)
  parseDataRef : Le (Parser.parseDataRef pf a) (Parser.parseDataRef pf b)
  parseListOrMap : ∀ tok, Le (Parser.parseListOrMap pf a tok) (Parser.parseListOrMap pf b tok)
  parseListItems : Le (Parser.parseListItems pf a) (Parser.parseListItems pf b)
  parseMapItems : ∀ k m, Le (Parser.parseMapItems pf a k m) (Parser.parseMapItems pf b k m)
  parseTernary : ∀ c, Le (Parser.parseTernary pf a c) (Parser.parseTernary pf b c)
  newGlobalNode : ∀ p n nxt, Le (Parser.newGlobalNode pf a p n nxt) (Parser.newGlobalNode pf b p n nxt)
  newFunctionNode : ∀ tok, Le (Parser.newFunctionNode pf a tok) (Parser.newFunctionNode pf b tok)
  parseFuncArgs : Le (Parser.parseFuncArgs pf a) (Parser.parseFuncArgs pf b)

theorem exprMono_zero (b : Nat) : ExprMono pf 0 b := by
  constructor <;> intros <;> exact Le.zero _

theorem exprMono_succ {a b : Nat} (ih : ExprMono pf a b) : ExprMono pf (a + 1) (b + 1) := by
  obtain ⟨h1, h2, h3, h4, h5, h6, h7, h8, h9, h10, h11, h12⟩ := ih
  constructor <;> intros
  · rw [Parser.parseExpr, Parser.parseExpr]; mono
  · rw [Parser.exprLoop, Parser.exprLoop]; mono
  · rw [Parser.parseExprFirstTerm, Parser.parseExprFirstTerm]; mono
  · rw [Parser.newValueNode, Parser.newValueNode]; mono
  · rw [Parser.parseDataRef, Parser.parseDataRef]; mono
  · rw [Parser.parseListOrMap, Parser.parseListOrMap]; mono
  · rw [Parser.parseListItems, Parser.parseListItems]; mono
  · rw [Parser.parseMapItems, Parser.parseMapItems]; mono
  · rw [Parser.parseTernary, Parser.parseTernary]; mono
  · rw [Parser.newGlobalNode, Parser.newGlobalNode]; mono
  · rw [Parser.newFunctionNode, Parser.newFunctionNode]; mono
  · rw [Parser.parseFuncArgs, Parser.parseFuncArgs]; mono

theorem exprMono : ∀ a b, a ≤ b → ExprMono pf a b :=
  le_induction (exprMono_zero pf) fun _ _ _ => exprMono_succ pf

end


open SoyVerif.Model.FileParser

structure FLe {α : Type} (x y : FP α) : Prop where
  le : ∀ st, x st ≠ .error .fuelOut → y st = x st

theorem FLe.refl {α : Type} (x : FP α) : FLe x x := ⟨fun _ _ => rfl⟩

theorem FLe.bind {α β : Type} {x y : FP α} {f g : α → FP β} (h : FLe x y) (hf : ∀ a, FLe (f a) (g a)) :
    FLe (x >>= f) (y >>= g) :=
  ⟨bind_le _ h.le fun a => (hf a).le⟩

theorem FLe.ite {α : Type} {c : Prop} [Decidable c] {a a' b b' : FP α} (h1 : FLe a a') (h2 : FLe b b') :
    FLe (if c then a else b) (if c then a' else b') := by
  split
  · exact h1
  · exact h2

theorem FLe.zero {α : Type} (y : FP α) : FLe (ffail FErr.fuelOut) y :=
  ⟨fun _ hne => absurd rfl hne⟩

theorem FLe.lift {α : Type} {x y : P α} (h : Le x y) : FLe (liftP x) (liftP y) := by
  refine ⟨fun st hne => ?_⟩
  unfold liftP at hne ⊢
  have := h.le st.p (by
    intro hx; rw [hx] at hne; exact hne rfl)
  rw [this]

macro "fmono_step" : tactic => `(tactic| with_reducible first
  | exact FLe.refl _
  | (apply FLe.bind)
  | (apply FLe.ite)
  | (intro _)
  | apply_assumption
  | split)

macro "fmono" : tactic => `(tactic| repeat' fmono_step)

theorem skipComments_mono : ∀ a b, a ≤ b → ∀ t, FLe (skipComments a t) (skipComments b t) := by
  refine le_induction (fun b t => FLe.zero _) fun a b hab ih t => ?_
  rw [skipComments, skipComments]
  fmono

theorem nextNonComment_mono : ∀ a b, a ≤ b → FLe (nextNonComment a) (nextNonComment b) := by
  refine le_induction (fun b => FLe.zero _) fun a b hab ih => ?_
  rw [nextNonComment, nextNonComment]
  fmono

theorem collectText_mono : ∀ a b, a ≤ b → ∀ t, FLe (collectText a t) (collectText b t) := by
  refine le_induction (fun b t => FLe.zero _) fun a b hab ih t => ?_
  rw [collectText, collectText]
  fmono

theorem parseAttrs_mono (al : List Bytes) : ∀ a b, a ≤ b → ∀ t, FLe (parseAttrs al a t) (parseAttrs al b t) := by
  refine le_induction (fun b t => FLe.zero _) fun a b hab ih t => ?_
  rw [parseAttrs, parseAttrs]
  fmono

theorem aliasLoop_mono : ∀ a b, a ≤ b → ∀ n l, FLe (aliasLoop a n l) (aliasLoop b n l) := by
  refine le_induction (fun b n l => FLe.zero _) fun a b hab ih n l => ?_
  rw [aliasLoop, aliasLoop]
  fmono

theorem parseAlias_mono (a b : Nat) (h : a ≤ b) : FLe (parseAlias a) (parseAlias b) := by
  have := aliasLoop_mono a b h
  unfold parseAlias
  fmono

theorem soyDocLoop_mono (p : Nat) : ∀ a b, a ≤ b → ∀ ps, FLe (soyDocLoop p a ps) (soyDocLoop p b ps) := by
  refine le_induction (fun b ps => FLe.zero _) fun a b hab ih ps => ?_
  rw [soyDocLoop, soyDocLoop]
  fmono

theorem namespaceLoop_mono (p : Nat) : ∀ a b, a ≤ b → ∀ n, FLe (namespaceLoop p a n) (namespaceLoop p b n) := by
  refine le_induction (fun b n => FLe.zero _) fun a b hab ih n => ?_
  have hat := fun al => parseAttrs_mono al a b hab
  rw [namespaceLoop, namespaceLoop]
  fmono

theorem parseNamespace_mono (a b : Nat) (h : a ≤ b) (t : Item) : FLe (parseNamespace a t) (parseNamespace b t) := by
  have := fun p => namespaceLoop_mono p a b h
  unfold parseNamespace
  fmono

theorem callNameLoop_mono : ∀ a b, a ≤ b → ∀ n, FLe (callNameLoop a n) (callNameLoop b n) := by
  refine le_induction (fun b n => FLe.zero _) fun a b hab ih n => ?_
  rw [callNameLoop, callNameLoop]
  fmono

section
variable (pf : Bytes → Option UInt64) (e e' : Nat) (he : e ≤ e')
include he

theorem parseExpr0_mono : FLe (parseExpr0 pf e) (parseExpr0 pf e') :=
  FLe.lift ((exprMono pf e e' he).parseExpr 0)

omit he in
theorem parseCallHead_mono (a b : Nat) (h : a ≤ b) : FLe (parseCallHead pf a) (parseCallHead pf b) := by
  have h1 := callNameLoop_mono a b h
  have h2 := fun al => parseAttrs_mono al a b h
  unfold parseCallHead
  fmono

theorem directiveArgs_mono : ∀ a b, a ≤ b → ∀ xs, FLe (directiveArgs pf e a xs) (directiveArgs pf e' b xs) := by
  refine le_induction (fun b xs => FLe.zero _) fun a b hab ih xs => ?_
  have h0 := parseExpr0_mono pf e e' he
  rw [directiveArgs, directiveArgs]
  fmono

theorem printLoop_mono (p : Nat) (x : Expr) : ∀ a b, a ≤ b → ∀ ds, FLe (printLoop pf e p x a ds) (printLoop pf e' p x b ds) := by
  refine le_induction (fun b ds => FLe.zero _) fun a b hab ih ds => ?_
  have h0 := directiveArgs_mono pf e e' he a b hab
  rw [printLoop, printLoop]
  fmono

theorem parsePrint_mono (a b : Nat) (h : a ≤ b) (t : Item) : FLe (parsePrint pf e a t) (parsePrint pf e' b t) := by
  have h0 := parseExpr0_mono pf e e' he
  have h1 := fun p x => printLoop_mono pf e e' he p x a b h
  unfold parsePrint
  fmono

theorem parseHeaderParam_mono (t : Item) : FLe (parseHeaderParam pf e t) (parseHeaderParam pf e' t) := by
  have h0 := parseExpr0_mono pf e e' he
  unfold parseHeaderParam
  fmono

/-- every function of the mutual block at budgets `(e, a)` is below itself at `(e', b)` -/
structure FileMono (a b : Nat) : Prop where
  itemListLoop : ∀ u l ns, FLe (FileParser.itemListLoop pf e a u l ns) (FileParser.itemListLoop pf e' b u l ns)
  textOrTag : ∀ t u, FLe (FileParser.textOrTag pf e a t u) (FileParser.textOrTag pf e' b t u)
  beginTag : FLe (FileParser.beginTag pf e a ) (FileParser.beginTag pf e' b )
  parseTemplate : ∀ t, FLe (FileParser.parseTemplate pf e a t) (FileParser.parseTemplate pf e' b t)
  parseLet : ∀ t, FLe (FileParser.parseLet pf e a t) (FileParser.parseLet pf e' b t)
  ifLoop : ∀ p q ns, FLe (FileParser.ifLoop pf e a p q ns) (FileParser.ifLoop pf e' b p q ns)
  parseFor : ∀ t, FLe (FileParser.parseFor pf e a t) (FileParser.parseFor pf e' b t)
  parseSwitch : ∀ t y, FLe (FileParser.parseSwitch pf e a t y) (FileParser.parseSwitch pf e' b t y)
  switchLoop : ∀ p x y d ns, FLe (FileParser.switchLoop pf e a p x y d ns) (FileParser.switchLoop pf e' b p x y d ns)
  caseLoop : ∀ t es, FLe (FileParser.caseLoop pf e a t es) (FileParser.caseLoop pf e' b t es)
  parseCall : ∀ t, FLe (FileParser.parseCall pf e a t) (FileParser.parseCall pf e' b t)
  callParamsLoop : ∀ ns, FLe (FileParser.callParamsLoop pf e a ns) (FileParser.callParamsLoop pf e' b ns)
  orphanLoop : ∀ t, FLe (FileParser.orphanLoop pf e a t) (FileParser.orphanLoop pf e' b t)
  parseMsg : ∀ t, FLe (FileParser.parseMsg pf e a t) (FileParser.parseMsg pf e' b t)
  parsePlural : ∀ t, FLe (FileParser.parsePlural pf e a t) (FileParser.parsePlural pf e' b t)

omit he in
theorem fileMono_zero (b : Nat) : FileMono pf e e' 0 b := by
  constructor <;> intros <;> exact FLe.zero _

theorem fileMono_succ {a b : Nat} (hab : a ≤ b) (ih : FileMono pf e e' a b) : FileMono pf e e' (a + 1) (b + 1) := by
  obtain ⟨h1, h2, h3, h4, h5, h6, h7, h8, h9, h10, h11, h12, h13, h14, h15⟩ := ih
  have g0 := parseExpr0_mono pf e e' he
  have g1 := skipComments_mono a b hab
  have g2 := nextNonComment_mono a b hab
  have g3 := collectText_mono a b hab
  have g4 := fun al => parseAttrs_mono al a b hab
  have g5 := parseAlias_mono a b hab
  have g6 := fun p => soyDocLoop_mono p a b hab
  have g7 := parseNamespace_mono a b hab
  have g8 := parseCallHead_mono pf a b hab
  have g9 := parsePrint_mono pf e e' he a b hab
  have g10 := parseHeaderParam_mono pf e e' he
  constructor <;> intros
  · rw [FileParser.itemListLoop, FileParser.itemListLoop]; fmono
  · rw [FileParser.textOrTag, FileParser.textOrTag]; fmono
  · rw [FileParser.beginTag, FileParser.beginTag]; fmono
  · rw [FileParser.parseTemplate, FileParser.parseTemplate]; fmono
  · rw [FileParser.parseLet, FileParser.parseLet]; fmono
  · rw [FileParser.ifLoop, FileParser.ifLoop]; fmono
  · rw [FileParser.parseFor, FileParser.parseFor]; fmono
  · rw [FileParser.parseSwitch, FileParser.parseSwitch]; fmono
  · rw [FileParser.switchLoop, FileParser.switchLoop]; fmono
  · rw [FileParser.caseLoop, FileParser.caseLoop]; fmono
  · rw [FileParser.parseCall, FileParser.parseCall]; fmono
  · rw [FileParser.callParamsLoop, FileParser.callParamsLoop]; fmono
  · rw [FileParser.orphanLoop, FileParser.orphanLoop]; fmono
  · rw [FileParser.parseMsg, FileParser.parseMsg]; fmono
  · rw [FileParser.parsePlural, FileParser.parsePlural]; fmono

theorem fileMono : ∀ a b, a ≤ b → FileMono pf e e' a b :=
  le_induction (fileMono_zero pf e e') fun _ _ => fileMono_succ pf e e' he

end
end SoyVerif.Lemmas.FuelMono
