/-
  The state functions that read a token to its end — `lexIdent`, `lexString`, `lexNumber` (`scanNumber`),
  `lexHeaderParam`, `lexCss`, `lexLiteral` — walked in the judgement `At` (Lemmas/LexerAt.lean).
-/
import SoyVerif.Lemmas.LexerStates

namespace SoyVerif.Model.Lex
open SoyVerif SoyVerif.Model

variable {n : Int} {l0 l : Lexer} {e k j : Int}

theorem lexIdentRest_at {ty : ItemType} (h : At n l0 l e 1 0) (hty : emitOK ty e) (he : 1 ≤ e := by decide) :
    Sat (lexIdentRest l ty) (Post n .ident l0) := by
  have he0 : 0 ≤ e := by omega
  unfold lexIdentRest
  apply (h.scan _ _ he0).andThen
  intro (r, l1) ⟨_, S⟩
  dsimp only
  apply (S.back.slice he0).andThen
  intro word _
  split
  · rename_i t ht
    refine S.back.emit_then (hok := builtins_lookup_ok ht) (he := he0) fun l2 h2 hs2 _ => ?_
    refine Sat.ite' (fun _ => ?_) (Sat.ite' (fun _ => ?_) ?_)
    · exact Sat.ret (h2.post trivial (by decide) (by decide) (by omega))
    · exact Sat.ret (h2.post trivial (by decide) (by decide) (by omega))
    · exact Sat.ret (h2.post hs2 (by decide) (by decide) (by omega))
  · refine Sat.ite' (fun _ => ?_) ?_
    · apply (S.back.slice he0).andThen
      intro _ _
      exact S.back.errorf_rewound
    · exact S.back.emitInside hty (by decide) he0 (by omega)

theorem lexIdent_ok {n : Int} {l : Lexer} (hg : Good n l) (hx : Extra .ident l) :
    Sat (lexIdent l) (Post n .ident l) := by
  have hxl : l.pos < n := hg.1.len ▸ hx.2
  have hx : l.start = l.pos := hx.1
  unfold lexIdent
  refine (At.of_good hg).next_then fun r l1 R => ?_
  have h1 := R.fwd (R.ne_eof hxl)
  refine Sat.ite' (fun hr => ?_) (Sat.ite' (fun hr => ?_) (Sat.ite' (fun hr => ?_) (Sat.ite' (fun hr => ?_)
    (Sat.ite' (fun hr => ?_) ?_))))
  · refine h1.next_then fun d l2 R2 => ?_
    refine Sat.ite' (fun _ => ?_) (Sat.ite' (fun _ => ?_) ?_)
    · exact lexIdentRest_at R2.back (emitOK_of_one_le rfl (by decide))
    · exact lexIdentRest_at R2.back (emitOK_of_one_le rfl (by decide))
    · refine R2.here.errorfAt_start (name_err (Or.inl ?_))
      have := (R.ascii (by omega) (by omega)).1
      rw [R2.start, R.start, hx]
      omega
  · refine h1.peek_then fun p2 l2 h2 _ _ _ _ _ => ?_
    dsimp only
    exact Sat.ite' (fun _ => h2.errorf) (lexIdentRest_at h2 (emitOK_of_one_le rfl (by decide)))
  · exact lexIdentRest_at h1 (emitOK_unsliced rfl rfl)
  · exact lexIdentRest_at h1 (emitOK_unsliced rfl rfl)
  · refine h1.next_then fun dot l2 R2 => ?_
    refine Sat.ite (fun _ => R2.here.errorf) fun hdot => ?_
    refine (R2.fwd (by omega)).next_then fun d l3 R3 => ?_
    refine Sat.ite' (fun _ => ?_) (Sat.ite' (fun _ => ?_) ?_)
    · exact lexIdentRest_at (e := 2) (R3.back.weak (e' := 2) (k' := 1) (j' := 0)) (emitOK_of_two_le (by decide))
    · exact lexIdentRest_at (e := 2) (R3.back.weak (e' := 2) (k' := 1) (j' := 0)) (emitOK_of_two_le (by decide))
    · refine R3.here.errorfAt_start (name_err (Or.inr ?_))
      have := (R.ascii (by omega) (by omega)).1
      rw [R3.start, R2.start, R.start, hx]
      omega
  · exact lexIdentRest_at h1 (emitOK_unsliced rfl rfl)

/-- the loop of `lexString q`, entered from `l0`: the string began at `start` with the quote `q` -/
theorem lexString_at {q : Int} (hq : q = 34 ∨ q = 39) : ∀ (m : Nat) {l : Lexer}, (n - l.pos).toNat = m → At n l0 l 0 0 0 →
    (byteAt l0.input l.start.toNat : Int) = q → Sat (lexString q l) (Post n (.str q) l0) := by
  intro m
  induction m using Nat.strongRecOn with
  | _ m ih =>
    intro l hm h hb
    obtain ⟨⟨r, l1⟩, hnx, R⟩ := h.next
    have hle := R.here.le_len
    rw [lexString_some hnx]
    refine Sat.ite (fun _ => ?_) fun hE => ?_
    · -- the string is never closed: reported at its opening quote, `l.start`
      exact R.here.errorfAt_start (str_err (by rw [R.start]; omega))
    have hlt := R.lt hE
    refine Sat.ite' (fun _ => ?_) (Sat.ite' (fun _ => ?_) ?_)
    · obtain ⟨⟨r2, l2⟩, e2, R2⟩ := R.here.next
      rw [e2]
      have := R2.lt
      have := fun h => (R2.at_end h).1
      have := R2.here.le_len
      exact ih _ (by omega) rfl R2.here (by rw [R2.start, R.start]; exact hb)
    · obtain ⟨l2, e2, h2, hs2, _⟩ := (R.fwd hE).emit (t := .tString)
      rw [e2]
      exact Sat.ret (h2.post hs2)
    · exact ih _ (by omega) rfl R.here (by rw [R.start]; exact hb)

theorem lexString_ok {n : Int} {l : Lexer} {q : Int} (hg : Good n l) (hx : Extra (.str q) l) :
    Sat (lexString q l) (Post n (.str q) l) :=
  lexString_at hx.2.2 _ rfl (At.of_good hg) hx.2.1

/-- what `scanNumber` and its parts return: if the number is well-formed, the lexer stands where `e k j` say -/
structure NumPost (n : Int) (l0 : Lexer) (e k j : Int) (typ : ItemType) (ok : Bool) (l : Lexer) : Prop where
  here : At n l0 l 0 0 0
  good : ok = true → At n l0 l e k j
  typ : typ = .tInteger ∨ typ = .tFloat

theorem NumPost.fail {typ : ItemType} (htyp : typ = .tInteger ∨ typ = .tFloat) (h : At n l0 l 0 0 0) :
    Sat (pure (typ, false, l)) fun (typ, ok, l') => NumPost n l0 e k j typ ok l' :=
  Sat.ret ⟨h, fun hf => absurd hf (by simp), htyp⟩

theorem scanNumberEnd_at {typ : ItemType} (htyp : typ = .tInteger ∨ typ = .tFloat) (h : At n l0 l e k j)
    (he : 0 ≤ e := by decide) (hk : 0 ≤ k := by decide) (hj : 0 ≤ j := by decide) :
    Sat (scanNumberEnd l typ) fun (typ, ok, l') => NumPost n l0 e k j typ ok l' := by
  unfold scanNumberEnd
  refine h.peek_then (he := he) fun r l1 h1 _ _ _ _ _ => ?_
  dsimp only
  refine Sat.ite' (fun _ => ?_) (Sat.ret ⟨h1.weak he hk hj, fun _ => h1, htyp⟩)
  exact h1.next_then (he := he) fun r2 l2 R2 => NumPost.fail htyp (R2.here.weak he hk hj)

theorem scanNumberExp_at {typ : ItemType} (htyp : typ = .tInteger ∨ typ = .tFloat) (h : At n l0 l e k j)
    (he : 0 ≤ e := by decide) (hk : 0 ≤ k := by decide) (hj : 0 ≤ j := by decide) :
    Sat (scanNumberExp l typ) fun (typ, ok, l') => NumPost n l0 e k j typ ok l' := by
  unfold scanNumberExp
  apply (h.accept he).andThen
  intro (ex, l1) ⟨h1, _⟩
  dsimp only
  refine Sat.ite' (fun _ => ?_) (scanNumberEnd_at htyp h1 he hk hj)
  apply (h1.accept he).andThen
  intro (sg, l2) ⟨h2, _⟩
  dsimp only
  apply (h2.acceptRun he).andThen
  intro (ok, l3) ⟨h3, _⟩
  dsimp only
  exact Sat.ite' (fun _ => NumPost.fail htyp (h3.weak he hk hj)) (scanNumberEnd_at (Or.inr rfl) h3 he hk hj)

theorem scanNumber_at (h : At n l0 l 0 0 0) : Sat (scanNumber l) fun (typ, ok, l') => NumPost n l0 1 1 0 typ ok l' := by
  unfold scanNumber
  apply h.accept.andThen
  intro (hasSign, l1) ⟨h1, hs1, _, hsg⟩
  dsimp only
  have hl1 : (l1.input.size : Int) = n := h1.lx.len
  have hp1 := h1.start_nonneg
  have := h1.pend
  have hex : Sat (if l1.len ≥ l1.pos + 2 then do
        let s ← sliceOf l1.input l1.pos (l1.pos + 2)
        pure (s == [48, 120])
      else pure false : Option Bool) (fun b => b = true → l1.pos + 2 ≤ n) := by
    refine Sat.ite (fun hlen => ?_) fun _ => Sat.ret (fun e => absurd e (by simp))
    rw [h1.lx.len] at hlen
    apply (sliceOf_sat (by omega) (by omega) (by omega)).andThen
    intro _ _
    exact Sat.ret fun _ => hlen
  apply hex.andThen
  intro isHex hisHex
  refine Sat.ite (fun hH => ?_) fun _ => ?_
  · refine Sat.ite' (fun _ => NumPost.fail (Or.inl rfl) h1) ?_
    apply (h1.addPos 2 (hisHex hH)).acceptRun.andThen
    intro (ok, l3) ⟨h3, _⟩
    dsimp only
    refine Sat.ite' (fun _ => NumPost.fail (Or.inl rfl) h3.weak) ?_
    apply h3.accept.andThen
    intro (dot, l4) ⟨h4, _⟩
    dsimp only
    exact Sat.ite' (fun _ => NumPost.fail (Or.inl rfl) h4.weak) (scanNumberEnd_at (Or.inl rfl) h4.weak)
  · apply h1.acceptRun.andThen
    intro (ok, l2) ⟨h2, hs2, _, hok2⟩
    dsimp only
    refine Sat.ite (fun _ => NumPost.fail (Or.inl rfl) h2) fun hok => ?_
    obtain ⟨h2', hlt2⟩ := hok2 (by simpa using hok)
    apply h2'.accept.andThen
    intro (dot, l3) ⟨h3, hs3, hle3, _⟩
    dsimp only
    refine Sat.ite' (fun _ => ?_) ?_
    · apply h3.acceptRun.andThen
      intro (ok2, l4) ⟨h4, _⟩
      dsimp only
      exact Sat.ite' (fun _ => NumPost.fail (Or.inl rfl) h4.weak) (scanNumberExp_at (Or.inr rfl) h4)
    · have hl3 : (l3.input.size : Int) = n := h3.lx.len
      have := h3.pend
      have := h3.le_len
      have := h3.start_nonneg
      have hbad : Sat (if (!hasSign) = true then do
            let b ← indexOf l3.input l3.start
            pure (b == 48 && decide (l3.pos > l3.start + 1))
          else do
            let b ← indexOf l3.input (l3.start + 1)
            pure (b == 48 && decide (l3.pos > l3.start + 2)) : Option Bool) (fun _ => True) := by
        refine Sat.ite (fun _ => ?_) fun hsg' => ?_
        · exact (indexOf_sat (by omega) (by omega)).andThen fun _ _ => Sat.ret trivial
        · -- behind a sign the digits begin at `start + 1`, and there is one
          have := (hsg (by simpa using hsg')).1.pend
          exact (indexOf_sat (by omega) (by omega)).andThen fun _ _ => Sat.ret trivial
      apply hbad.andThen
      intro bad _
      exact Sat.ite' (fun _ => NumPost.fail (Or.inl rfl) h3.weak) (scanNumberExp_at (Or.inl rfl) h3)

theorem lexNumber_ok {n : Int} {l : Lexer} (hg : Good n l) :
    Sat (lexNumber l) (Post n .number l) := by
  unfold lexNumber
  apply (scanNumber_at (At.of_good hg)).andThen
  intro (typ, ok, l1) ⟨h1, hok, htyp⟩
  dsimp only
  refine Sat.ite (fun _ => ?_) fun hnot => ?_
  · apply h1.slice.andThen
    intro _ _
    exact h1.errorf
  · exact (hok (by simpa using hnot)).emitInside (by rcases htyp with e | e <;> (subst e; exact emitOK_unsliced rfl rfl))

/-- the type scan of `lexHeaderParam`: `lastNonSpace` stays inside the pending token -/
theorem headerTypeLoop_at : ∀ (m : Nat) {l : Lexer} (lns : Int), (n - l.pos).toNat = m → At n l0 l 0 k j →
    l.start ≤ lns → lns ≤ l.pos →
    Sat (headerTypeLoop l lns) fun (_, l', lns') => At n l0 l' 0 k j ∧ l'.start = l.start ∧ l.start ≤ lns' ∧ lns' ≤ l'.pos := by
  intro m
  induction m using Nat.strongRecOn with
  | _ m ih =>
    intro l lns hm h hl0 hll
    obtain ⟨⟨ch, l1⟩, hnx, R⟩ := h.next
    have hst := R.start
    have hle : l.pos ≤ l1.pos := by
      by_cases hc : ch = -1
      · have := (R.at_end hc).1; omega
      · have := R.lt hc; omega
    unfold headerTypeLoop
    split
    · rename_i e; rw [hnx] at e; cases e
    · rename_i ch' l1' e
      rw [hnx] at e
      cases e
      refine Sat.ite' (fun _ => ?_) (Sat.dite (fun _ => ?_) fun hE => ?_)
      · exact Sat.ret ⟨R.here, hst, by omega, by omega⟩
      · exact Sat.ret ⟨R.here, hst, by omega, by omega⟩
      · have := R.lt hE
        have := R.here.le_len
        exact (ih _ (by omega) _ rfl R.here (by split <;> omega) (by split <;> omega)).mono
          fun _ ⟨h', e1, e2, e3⟩ => ⟨h', e1.trans hst, hst ▸ e2, e3⟩

theorem lexHeaderParam_ok {n : Int} {l : Lexer} (hg : Good n l) :
    Sat (lexHeaderParam l) (Post n .headerParam l) := by
  have h := At.of_good hg
  have hl : (l.input.size : Int) = n := hg.1.len
  have hs0 := hg.1.start_nonneg
  have := hg.2.2.1
  unfold lexHeaderParam
  apply (hasPrefixAt_sat (by omega) (by have := hg.2.2.2; omega)).andThen
  intro pre hpre
  refine Sat.ite (fun _ => h.errorf) fun hp => ?_
  have hlen := hpre (by simpa using hp)
  simp only [kwParam, List.length_cons, List.length_nil] at hlen
  refine (h.addPos 5 (by omega)).next_then fun q l1 R => ?_
  have hem : Sat (if q = 63 then l1.emit .tHeaderOptionalParam else l1.backup.emit .tHeaderParam)
      fun l2 => At n l l2 0 5 9 ∧ l2.start = l2.pos :=
    Sat.ite' (fun _ => R.here.emit.mono fun _ h2 => ⟨h2.1, h2.2.1⟩) (R.back.emit.mono fun _ h2 => ⟨h2.1, h2.2.1⟩)
  apply hem.andThen
  intro l2 ⟨h2, _⟩
  -- the name and the type of the parameter may be empty tokens; the credit pays for them: `@param` has 5 bytes pending
  -- when sent (credit 2·5 − 1 = 9), the empty name costs 1, the `:` earns 2 − 1, the empty type costs 1
  apply h2.skipSpace.andThen
  intro l3 ⟨h3, _⟩
  apply (h3.scan _ _).andThen
  intro (r4, l4) ⟨_, S4⟩
  dsimp only
  refine S4.back.emit_then fun l5 h5 _ _ => ?_
  apply h5.skipSpace.andThen
  intro l6 ⟨h6, _⟩
  refine h6.next_then fun ch l7 R7 => ?_
  refine Sat.ite (fun _ => R7.here.errorfAt_tagStart) fun hch => ?_
  refine (R7.fwd (by omega)).emit_then fun l8 h8 _ _ => ?_
  apply h8.skipSpace.andThen
  intro l9 ⟨h9, hs9, _⟩
  apply (headerTypeLoop_at _ _ rfl h9 (by omega) (Int.le_refl _)).andThen
  intro (ch, l10, lns) ⟨h10, hs10, hl1, hl2⟩
  dsimp only
  refine Sat.ite' (fun _ => h10.errorfAt_tagStart) ?_
  have := h10.le_len
  have := h9.adv
  have h11 : At n l { l10 with pos := lns } 0 1 9 :=
    h10.move rfl rfl rfl (Int.le_refl _) (by show l10.start + 0 ≤ lns; omega) (by show lns ≤ n; omega)
      (by show l.pos + 1 ≤ lns; omega)
  refine h11.emit_then fun l12 h12 _ _ => ?_
  apply h12.skipSpace.andThen
  intro l13 ⟨h13, hs13, _⟩
  exact Sat.ret (h13.post hs13)

theorem lexCss_ok {n : Int} {l : Lexer} (hg : Good n l) :
    Sat (lexCss l) (Post n .css l) := by
  unfold lexCss
  refine (At.of_good hg).next_then fun r1 l1 R1 => ?_
  dsimp only
  by_cases hr1 : r1 = -1
  · -- at the end of the input the scan stops at once, at eof
    apply (R1.here.ignore.scan _ _).andThen
    intro (ch, l2) ⟨_, S⟩
    dsimp only
    have hge : n ≤ l1.ignore.pos := by
      have := R1.at_end hr1
      rw [ignore_pos]; omega
    rw [if_pos (show ch = eof from S.eof_of hge)]
    exact S.here.errorfAt_tagStart
  · apply ((R1.fwd hr1).ignore.scan _ _).andThen
    intro (ch, l2) ⟨_, S⟩
    dsimp only
    refine Sat.ite (fun _ => S.here.errorfAt_tagStart) fun hne => ?_
    -- the body of `{css}` may be empty: the `}` of the tag, just skipped, pays for its Text item
    refine S.back.emit_then fun l3 h3 _ hp3 => ?_
    refine h3.next_then fun r4 l4 R4 => ?_
    have hlt : l3.pos < n := by have := S.lt hne; have := S.here.le_len; omega
    apply (R4.fwd (R4.ne_eof hlt)).badDoubleClose.andThen
    intro (bad, l5) ⟨h5, _⟩
    dsimp only
    exact Sat.ite' (fun _ => h5.errorfAt_start braces_err) (h5.emitTo fun _ => trivial)

theorem lexLiteral_ok {n : Int} {l : Lexer} (hg : Good n l) :
    Sat (lexLiteral l) (Post n .literal l) := by
  unfold lexLiteral
  apply ((At.of_good hg).scan _ _).andThen
  intro (ch, l1) ⟨_, S⟩
  dsimp only
  refine Sat.ite (fun _ => S.here.errorfAt_tagStart) fun hch => ?_
  have hch : ch = 125 := by simpa using hch
  apply (S.fwd (by omega)).badDoubleClose.andThen
  intro (bad, l2) ⟨h2, _⟩
  dsimp only
  refine Sat.ite' (fun _ => h2.errorfAt_start braces_err) ?_
  refine h2.emit_then fun l3 h3 _ _ => ?_
  have hl3 : (l3.input.size : Int) = n := h3.lx.len
  have hp3 := h3.pend
  have hn3 := h3.le_len
  have hs3 := h3.start_nonneg
  apply (sliceOf_sat (by omega) (by omega) (Int.le_refl _)).andThen
  intro rest hrest
  split
  · exact h3.errorfAt_tagStart (Or.inr rfl)
  · rename_i i hi
    -- the closing tag stands `i` bytes further on, whole: every `l.pos +=` below stays inside the input
    have hle := stringsIndex_le _ _ _ hi
    have hlen : ((if l3.doubleDelim = true then closeLiteral2 else closeLiteral1).length : Int) =
        (if l3.doubleDelim = true then 2 else 1) + 8 + (if l3.doubleDelim = true then 2 else 1) := by
      split <;> rfl
    have hdpos : (1 : Int) ≤ (if l3.doubleDelim = true then 2 else 1) := by split <;> omega
    generalize (if l3.doubleDelim = true then (2 : Int) else 1) = d at hlen hdpos ⊢
    have hi0 : (0 : Int) ≤ i := Int.natCast_nonneg i
    have h4 := h3.addPos i (by omega) hi0
    have hem : Sat (if i > 0 then (l3.addPos ↑i).emit .tText else pure (l3.addPos ↑i))
        fun l4 => At n l l4 0 1 0 ∧ l4.pos = l3.pos + i := by
      refine Sat.ite (fun _ => ?_) fun _ => ?_
      · apply (h4.emit (he := by omega)).mono
        intro l4 ⟨h4', _, e4⟩
        exact ⟨h4'.weak (Int.le_refl _) (by omega) (by omega), by rw [e4, addPos_pos]⟩
      · exact Sat.ret ⟨h4.weak (by omega) (by omega) (by decide), by rw [addPos_pos]⟩
    apply hem.andThen
    intro l4 ⟨h4, e4⟩
    refine (h4.addPos d (by omega) (by omega)).emit_then (he := by omega) fun l5 h5 _ e5 => ?_
    rw [addPos_pos] at e5
    refine (h5.addPos 8 (by omega)).emit_then fun l6 h6 _ e6 => ?_
    rw [addPos_pos] at e6
    exact ((h6.addPos d (by omega) (by omega)).weak (e' := 1) (k' := 1) (j' := 0) (by omega) (by omega) (by omega)).emitTo
      fun _ => trivial

end SoyVerif.Model.Lex
