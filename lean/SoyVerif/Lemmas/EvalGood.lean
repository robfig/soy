/-
  The heap frame `Ext` obeys the law of the walk (`goodLaw`): every function of the tree walk is `GoodRun`,
  hence every template invocation and the entry point `execute`.  For a command the walk gives the sharper
  `execCmd_scoped`: of the frames that exist when it starts only a {let} writes one, the top frame
  (Props/C02.block_cmd_scoped reads this off).
-/
import SoyVerif.Lemmas.EvalWalk

namespace SoyVerif.Model.Eval
open SoyVerif SoyVerif.Model

theorem Good.errAt {W : Nat → Prop} {ctx ctx' : Scope} {st st' : St} (e : Ext W st st') :
    Good W ctx st ⟨.err, ctx', st'⟩ := ⟨fun h => by simp at h, fun h => by simp at h, e⟩

theorem Good.of_not_ok {W : Nat → Prop} {ctx ctx' : Scope} {st : St} {r : R} (h : Good W ctx' st r) (hn : r.cls ≠ .ok) :
    Good W ctx st r := ⟨h.np, fun e => absurd e hn, h.ext⟩

theorem Good.mono {W W' : Nat → Prop} {ctx : Scope} {st : St} {r : R} (h : Good W ctx st r) (hw : ∀ i, W i → W' i) :
    Good W' ctx st r := ⟨h.np, h.ctx_eq, h.ext.mono hw⟩

theorem Own.atNode {ctx : Scope} {st : St} (h : Own ctx st) (p : Nat) : Own ctx (atNode st p) :=
  h.of_heap rfl

theorem pop_cons (f : SFrame) (r : Scope) : pop (f :: r) = some r := rfl

theorem renderBlockOf_facts (body : Run) (ctx : Scope) (st : St) :
    (renderBlockOf body ctx st).1.cls = (walkBlockOf body ctx { st with out := [] }).cls ∧
    (renderBlockOf body ctx st).1.ctx = (walkBlockOf body ctx { st with out := [] }).ctx ∧
    (renderBlockOf body ctx st).1.st.heap = (walkBlockOf body ctx { st with out := [] }).st.heap ∧
    (renderBlockOf body ctx st).1.st.out = st.out ∧
    (renderBlockOf body ctx st).2 = bufBytes (walkBlockOf body ctx { st with out := [] }).st.out := by
  simp [renderBlockOf]

theorem goodLaw : Law (fun c => c ≠ .panic) Ext Own (fun _ => True) (fun _ => True) where
  ok := by simp
  err := by simp
  chain h1 h2 hw hw' := (h1.mono hw).trans h2 hw'
  data _ _ _ _ := Ext.of_heap_eq rfl rfl
  grow W s cells := ⟨by simp, fun i c hc => ⟨c, by
    have hi : i < s.heap.length := (List.getElem?_eq_some_iff.mp hc).1
    simp [List.getElem?_append_left hi, hc], rfl, fun _ => rfl⟩, rfl⟩
  move _ h _ := h.trans (Ext.of_heap_eq rfl rfl) (fun _ _ h => h)
  imp W a ctx s _ := noteImpossible_ext W a ctx s
  set := set_ext
  pre_T := Own.ext
  pre_push ctx s := (push_spec ctx s).2.1
  sh_push _ _ _ := trivial
  sh_enter _ _ _ := trivial

theorem good_iff {W : Nat → Prop} {ctx : Scope} {st : St} {r : R} :
    Post (fun c => c ≠ .panic) (Ext W) ctx st r ↔ Good W ctx st r :=
  ⟨fun h => ⟨h.cls, h.ctx_eq, h.rel⟩, fun h => ⟨h.np, h.ctx_eq, h.ext⟩⟩

theorem GoodRun.ok {run : Run} (h : GoodRun run) : RunOk (fun c => c ≠ .panic) Ext Own (fun _ => True) run :=
  fun ctx st hown _ => good_iff.mpr (h ctx st hown)

theorem GoodRun.of_ok {run : Run} (h : RunOk (fun c => c ≠ .panic) Ext Own (fun _ => True) run) : GoodRun run :=
  fun ctx st hown => good_iff.mp (h ctx st hown trivial)

theorem Sub.any (l : List Nat) : Sub (fun _ => True) l := fun _ _ => trivial

theorem GoodRun.at {run : Run} (h : GoodRun run) (ctx : Scope) (st : St) (p : Nat) (hown : Own ctx st) :
    Good (fun i => i = top ctx) ctx st (run ctx (atNode st p)) :=
  good_iff.mp (RunOk.at goodLaw h.ok ctx st trivial hown trivial)

theorem walkBlockOf_good' {body : Run} (hb : GoodRun body) (ctx : Scope) (st : St) :
    Good (fun _ => False) ctx st (walkBlockOf body ctx st) :=
  good_iff.mp (goodLaw.block hb.ok ctx st trivial)

theorem renderBlockOf_good' {body : Run} (hb : GoodRun body) (ctx : Scope) (st : St) :
    Good (fun _ => False) ctx st (renderBlockOf body ctx st).1 ∧ (renderBlockOf body ctx st).1.st.out = st.out :=
  ⟨good_iff.mp (goodLaw.render hb.ok ctx st trivial), (renderBlockOf_facts body ctx st).2.2.2.1⟩

section
variable (g : GEnv) (phs : List (Nat × Bytes × Run)) (body : MsgParts) (hphs : ∀ e ∈ phs, GoodRun e.2.2)
include hphs

theorem evalMParts_good (parts : MParts) : GoodRun (evalMParts g phs body parts) :=
  .of_ok (goodLaw.mparts g phs body (fun e he => (hphs e he).ok) (Sub.any _) parts)

theorem evalMCases_good (cases : MCases) (i : Nat) : GoodRun (evalMCases g phs body cases i) :=
  .of_ok (goodLaw.mcases g phs body (fun e he => (hphs e he).ok) (Sub.any _) cases i)
end

theorem newScope_spec (m : Frame) (ro : Bool) (st : St) :
    (newScope m ro st).1 = [⟨st.heap.length, false⟩] ∧ (∀ W, Ext W st (newScope m ro st).2) ∧
    (newScope m ro st).2.heap = st.heap ++ [⟨m, ro⟩] := by
  refine ⟨rfl, ?_, rfl⟩
  intro W
  refine ⟨by simp [newScope], ?_, rfl⟩
  intro i c hc
  have hi : i < st.heap.length := (List.getElem?_eq_some_iff.mp hc).1
  exact ⟨c, by simp [newScope, List.getElem?_append_left hi, hc], rfl, fun _ => rfl⟩

theorem callData_spec {g : GEnv} {allData : Bool} {data : Option Expr} {ctx cd : Scope} {st st1 : St}
    (h : callData g allData data ctx st = some (cd, st1)) :
    Ext (fun _ => False) st st1 ∧ Own cd st1 ∧ st.heap.length ≤ top cd := goodLaw.callData h

theorem enter_cons (f : SFrame) (r : Scope) (s : St) :
    ∃ cctx s2, enter (f :: r) s = some (cctx, s2) ∧ Own cctx s2 ∧ (∀ W, Ext W s s2) ∧ top cctx = s.heap.length ∧
      cctx = ⟨s.heap.length, false⟩ :: { f with entered := true } :: r := by
  obtain ⟨h1, h2, h3, _⟩ := push_spec ({ f with entered := true } :: r) s
  exact ⟨_, _, rfl, h2, h3, rfl, h1⟩

theorem enter_spec {cd : Scope} {s : St} (hown : Own cd s) :
    ∃ cctx s2, enter cd s = some (cctx, s2) ∧ Own cctx s2 ∧ (∀ W, Ext W s s2) ∧ top cctx = s.heap.length := by
  obtain ⟨f, r, c, hcd, _, _⟩ := hown
  subst hcd
  obtain ⟨cctx, s2, h1, h2, h3, h4, _⟩ := enter_cons f r s
  exact ⟨cctx, s2, h1, h2, h3, h4⟩

section
variable (g : GEnv) (esc : Bool) (call : Registry.Tmpl → Run) (hcall : ∀ t, GoodRun (call t))
include hcall

/-- in the form of `Law.cmd`'s callee hypothesis at `Sh := fun _ => True`: hence the `True` argument -/
theorem good_call (t : Registry.Tmpl) (sc : Scope) (s : St) (_ : True) :
    (call t (push sc s).1 (push sc s).2).cls ≠ .panic ∧
    Ext (fun _ => False) s (atNode (call t (push sc s).1 (push sc s).2).st s.node) :=
  have h := hcall t _ _ (push_spec sc s).2.1
  ⟨h.np, goodLaw.back (goodLaw.fresh h.ext)⟩

theorem execCmd_scoped (c : Cmd) (ctx : Scope) (st : St) (h : Own ctx st) :
    Good (letTop c ctx) ctx st (execCmd g esc call c ctx st) :=
  good_iff.mp (goodLaw.cmd g esc call (good_call call hcall) c (Sub.any _) ctx st h trivial)

theorem execCmd_good (c : Cmd) : GoodRun (execCmd g esc call c) :=
  .of_ok (goodLaw.cmdOk g esc call (good_call call hcall) c (Sub.any _))

theorem execBody_good : (b : Block) → GoodRun (execBody g esc call b) :=
  fun b => .of_ok (goodLaw.body g esc call (good_call call hcall) b (Sub.any _))

theorem execCmds_good : (cs : CmdList) → GoodRun (execCmds g esc call cs) :=
  fun cs => .of_ok (goodLaw.cmds g esc call (good_call call hcall) cs (Sub.any _))

theorem execConds_good : (cs : CondList) → GoodRun (execConds g esc call cs) :=
  fun cs ctx st _ => (good_iff.mp (goodLaw.conds g esc call (good_call call hcall) cs (Sub.any _) ctx st trivial)).mono
    (fun _ h => h.elim)

theorem execCases_good : (cs : CaseList) → (dflt : Option Run) → (∀ d, dflt = some d → GoodRun d) → (sv : Value) →
    GoodRun (execCases g esc call cs dflt sv) :=
  fun cs dflt hd sv ctx st h => goodLaw.cases g esc call (good_call call hcall) (fun ctx => Good (fun i => i = top ctx) ctx)
    (fun h => (good_iff.mp h).mono (fun _ h => h.elim))
    (fun e h => ⟨h.np, h.ctx_eq, (e.mono (fun _ h => h.elim)).trans h.ext (fun _ _ h => h)⟩) cs dflt
    (fun d e ctx st h _ => hd d e ctx st h) sv (Sub.any _) ctx st h trivial

theorem execParams_good : (ps : ParamList) → (cd ctx : Scope) → (st : St) → Own cd st →
    Good (fun i => i = top cd) ctx st (execParams g esc call ps cd ctx st) :=
  fun ps cd ctx st h => good_iff.mp (goodLaw.params g esc call (good_call call hcall) ps (Sub.any _) cd ctx st h trivial)

theorem walkMsgBody_good : (ps : MsgParts) → GoodRun (walkMsgBody g esc call ps) :=
  fun ps => .of_ok (goodLaw.parts g esc call (good_call call hcall) ps (Sub.any _))

theorem walkPluralCases_good : (cs : PluralCases) → (dflt : Run) → GoodRun dflt → (i : Int) →
    GoodRun (walkPluralCases g esc call cs dflt i) :=
  fun cs dflt hd i ctx st h => goodLaw.pl g esc call (good_call call hcall) (fun ctx => Good (fun i => i = top ctx) ctx)
    good_iff.mp cs (Sub.any _) dflt (fun ctx st h _ => hd ctx st h) i ctx st h trivial

theorem execPh_good : (b : MsgPhBody) → GoodRun (execPh g esc call b) :=
  fun b => .of_ok (goodLaw.ph g esc call (good_call call hcall) b (Sub.any _))

theorem phAll_good : (ps : MsgParts) → (d : Nat) → ∀ e ∈ phAll g esc call ps d, GoodRun e.2.2 :=
  fun ps d e he => .of_ok (goodLaw.phAll g esc call (good_call call hcall) ps d (Sub.any _) e he)

theorem phAllCases_good : (cs : PluralCases) → (d : Nat) → ∀ e ∈ phAllCases g esc call cs d, GoodRun e.2.2 :=
  fun cs d e he => .of_ok (goodLaw.phAllCases g esc call (good_call call hcall) cs d (Sub.any _) e he)
end

theorem runTmpl_good (g : GEnv) : ∀ (fuel : Nat) (t : Registry.Tmpl), GoodRun (runTmpl g fuel t)
  | 0, t, ctx, st, _ => by rw [runTmpl]; exact ⟨by simp, fun h => by simp at h, Ext.refl _ _⟩
  | n + 1, t, ctx, st, h => by
    rw [runTmpl]
    exact GoodRun.at (execBody_good g (escapeOf t) (runTmpl g n) (runTmpl_good g n) t.body) ctx st _ h

/-- what `execute` guarantees: a panic needs a node outside its source; the caller's data map is what it
    was; no write reached any other caller-owned map. -/
theorem execute_spec (g : GEnv) (name : Bytes) (data : Frame) (fuel : Nat) :
    ((execute g name data fuel).cls = .panic → ∃ t, Registry.lookup g.reg name = some t ∧ posOk t = false) ∧
    (execute g name data fuel).data = data ∧ (execute g name data fuel).foreign = 0 := by
  cases ht : Registry.lookup g.reg name with
  | none => unfold execute; rw [ht]; exact ⟨fun h => by simp at h, rfl, rfl⟩
  | some t =>
    rw [execute_some g name data fuel t ht]
    have hg := runTmpl_good g fuel t [⟨1, false⟩, ⟨0, true⟩]
      { heap := [⟨data, true⟩, ⟨[], false⟩], out := [], next := freshBase g data, foreign := 0 }
      (Own.init rfl)
    -- cell 0 (the caller's data map) is not the top frame of the template's scope
    obtain ⟨c, hc, _, hv⟩ := hg.ext.keep 0 ⟨data, true⟩ rfl
    refine ⟨fun hp => ⟨t, rfl, ?_⟩, by simp only [heapGet, hc]; exact hv (by decide), hg.ext.foreign⟩
    simp only at hp
    split at hp
    · split at hp
      · cases hp
      · rename_i hpos; simpa using hpos
    · exact absurd hp hg.np

end SoyVerif.Model.Eval
