/-
  The index-based model of `rawtext` (with explicit Go bounds checks) never panics and equals an index-free abstract
  machine that carries the pending whitespace run explicitly.
-/
import SoyVerif.Model.RawText

namespace SoyVerif.Model

structure AState where
  inRun : Bool
  run : Bytes            -- the real whitespace bytes of the current run
  seenNewline : Bool
  lastChar : Option UInt8
  charBeforeTrim : Option UInt8
  out : Bytes

def aFlush (r : UInt8) (st : AState) : AState :=
  if st.inRun then
    (if !st.seenNewline then { st with out := st.out ++ st.run, inRun := false, run := [] }
     else if !isTightJoinerO st.charBeforeTrim && !isTightJoiner r then
       { st with out := st.out ++ [32], inRun := false, run := [] }
     else { st with inRun := false, run := [] })
  else st

def aStep (r : UInt8) (st : AState) : AState :=
  if st.inRun ∧ isSpace r then { st with run := st.run ++ [r] }
  else if st.inRun ∧ isEndOfLine r then { st with run := st.run ++ [r], seenNewline := true }
  else
    let st1 := aFlush r st
    let nl := isEndOfLine r
    if isSpace r || nl then
      { st1 with seenNewline := nl, inRun := true, run := [r], charBeforeTrim := st1.lastChar }
    else
      { st1 with seenNewline := nl, out := st1.out ++ [r], lastChar := some r }

def aFinal (ta : Bool) (st : AState) : Bytes :=
  if !st.seenNewline && st.inRun && !ta then st.out ++ st.run else st.out

def aLoop (ta : Bool) : Bytes → AState → Bytes
  | [], st => aFinal ta st
  | r :: rest, st => aLoop ta rest (aStep r st)

def aInit (tb : Bool) : AState :=
  { inRun := tb, run := [], seenNewline := tb, lastChar := none, charBeforeTrim := none, out := [] }

/-- index-free reference semantics of the state machine -/
def rawtextA (s : Bytes) (tb ta : Bool) : Bytes := aLoop ta s (aInit tb)

/-- The relation between the concrete state at position `pre.length` of `s = pre ++ rest`
    and the abstract state.  The third case of `spaces` is the phantom space counted by `trimBefore`;
    `bound` is what keeps every write inside the buffer of `len(s)` bytes (`pushOut_ok`). -/
structure Rel (pre : Bytes) (c : RTState) (a : AState) : Prop where
  out : c.out = a.out
  snl : c.seenNewline = a.seenNewline
  lc : c.lastChar = a.lastChar
  cbt : c.charBeforeTrim = a.charBeforeTrim
  suffix : ∃ p0, pre = p0 ++ a.run
  bound : a.out.length + a.run.length ≤ pre.length
  spaces : (a.inRun = false ∧ c.spaces = 0 ∧ a.run = []) ∨
           (a.inRun = true ∧ c.spaces = a.run.length ∧ c.spaces > 0) ∨
           (a.inRun = true ∧ c.spaces = a.run.length + 1 ∧ a.seenNewline = true ∧ a.charBeforeTrim = none)

theorem copyRange_suffix (p0 run rest : Bytes) :
    copyRange (p0 ++ run ++ rest) (((p0 ++ run).length : Nat) - (run.length : Nat) : Int) (p0 ++ run).length = some run := by
  unfold copyRange
  by_cases h : run = []
  · subst h; simp
  · have hl : 0 < run.length := List.length_pos_iff.mpr h
    have e : (((p0 ++ run).length : Nat) : Int) - (run.length : Int) = (p0.length : Int) := by
      simp [List.length_append]
    rw [e]
    have h1 : ¬ ((p0.length : Int) ≥ ((p0 ++ run).length : Nat)) := by
      simp [List.length_append]; omega
    have h2 : ¬ ((p0.length : Int) < 0) := by omega
    have h3 : (p0 ++ run).length ≤ (p0 ++ run ++ rest).length := by simp [List.length_append]
    simp only [h1, h2, h3, if_true, if_false]
    simp [List.length_append, List.append_assoc]

theorem pushOut_ok (cap : Nat) (out add : Bytes) (h : out.length + add.length ≤ cap) :
    pushOut cap out add = some (out ++ add) := by
  simp [pushOut, h]


theorem Rel.spaces_pos {pre : Bytes} {c : RTState} {a : AState} (h : Rel pre c a) : c.spaces > 0 ↔ a.inRun = true := by
  rcases h.spaces with ⟨hi, hs, _⟩ | ⟨hi, _, hp⟩ | ⟨hi, hs, _⟩
  · rw [hi, hs]; simp
  · rw [hi]; simp [hp]
  · rw [hi, hs]; simp

theorem Rel.idle {pre : Bytes} {c : RTState} {a : AState} (ho : c.out = a.out) (hs : c.seenNewline = a.seenNewline)
    (hl : c.lastChar = a.lastChar) (hc : c.charBeforeTrim = a.charBeforeTrim) (hi : a.inRun = false) (hr : a.run = [])
    (h0 : c.spaces = 0) (hb : a.out.length ≤ pre.length) : Rel pre c a :=
  ⟨ho, hs, hl, hc, ⟨pre, by rw [hr, List.append_nil]⟩, by rw [hr]; exact hb, Or.inl ⟨hi, h0, hr⟩⟩

/-- the run goes on with `r`; `x` (concrete) and `y` (abstract) say whether it holds a line break now: equal, but spelt
    `c.seenNewline` and `a.seenNewline` when `r` is a space -/
theorem Rel.cont {pre : Bytes} {c : RTState} {a : AState} (h : Rel pre c a) (hi : a.inRun = true) (r : UInt8)
    {x y : Bool} (hxy : x = y) (hx : a.seenNewline = true → y = true) :
    Rel (pre ++ [r]) { c with spaces := c.spaces + 1, seenNewline := x } { a with run := a.run ++ [r], seenNewline := y } := by
  obtain ⟨hout, hsnl, hlc, hcbt, ⟨p0, hsuf⟩, hbound, hsp⟩ := h
  refine ⟨hout, hxy, hlc, hcbt, ⟨p0, by rw [hsuf, List.append_assoc]⟩, ?_, ?_⟩
  · simp only [List.length_append, List.length_cons, List.length_nil]
    omega
  · rcases hsp with ⟨hi', _, _⟩ | ⟨_, hs, hpos⟩ | ⟨_, hs, hnl, hz⟩
    · rw [hi] at hi'; exact absurd hi' (by decide)
    · exact Or.inr (Or.inl ⟨hi, by simp only [List.length_append, List.length_cons, List.length_nil]; omega,
        Nat.succ_pos _⟩)
    · exact Or.inr (Or.inr ⟨hi, by simp only [List.length_append, List.length_cons, List.length_nil]; omega, hx hnl, hz⟩)

/-- "done with scanning a set of space": the pending run is flushed, by both machines alike and within the buffer.
    The statement repeats that part of `rtStep` word for word (so does `Rel.start`): `step_rel` unfolds `rtStep` and
    rewrites with the two. -/
theorem Rel.flush {pre : Bytes} {c : RTState} {a : AState} (h : Rel pre c a) (r : UInt8) (rest : Bytes) :
    ∃ c1, (if c.spaces > 0 then
        (if !c.seenNewline then do
            let run ← copyRange (pre ++ r :: rest) ((pre.length : Int) - c.spaces) pre.length
            let out ← pushOut (pre ++ r :: rest).length c.out run
            pure { c with out := out, spaces := 0 }
         else if !isTightJoinerO c.charBeforeTrim && !isTightJoiner r then do
            let out ← pushOut (pre ++ r :: rest).length c.out [32]
            pure { c with out := out, spaces := 0 }
         else pure { c with spaces := 0 })
      else pure c : Option RTState) = some c1 ∧ Rel pre c1 (aFlush r a) ∧ (aFlush r a).inRun = false := by
  obtain ⟨hout, hsnl, hlc, hcbt, ⟨p0, hsuf⟩, hbound, hsp⟩ := h
  have hcap : (pre ++ r :: rest).length = pre.length + 1 + rest.length := by
    simp only [List.length_append, List.length_cons]; omega
  unfold aFlush
  rcases hsp with ⟨hi, hs, hr⟩ | ⟨hi, hs, hpos⟩ | ⟨hi, hs, hnl, hz⟩
  · rw [if_neg (by omega), if_neg (by rw [hi]; decide)]
    exact ⟨c, rfl, ⟨hout, hsnl, hlc, hcbt, ⟨p0, hsuf⟩, hbound, Or.inl ⟨hi, hs, hr⟩⟩, hi⟩
  · rw [if_pos hpos, if_pos hi]
    have hlen : 0 < a.run.length := by omega
    cases hn : a.seenNewline
    · have hcr : copyRange (pre ++ r :: rest) ((pre.length : Int) - (c.spaces : Int)) pre.length = some a.run := by
        have := copyRange_suffix p0 a.run (r :: rest)
        rw [hsuf, hs]; simpa using this
      have hp1 : pushOut (pre ++ r :: rest).length c.out a.run = some (c.out ++ a.run) :=
        pushOut_ok _ _ _ (by rw [hcap, hout]; omega)
      simp only [hsnl, hn, Bool.not_false, if_true, hcr, hp1, Option.pure_def, Option.bind_eq_bind, Option.bind_some]
      exact ⟨_, rfl, Rel.idle (congrArg (· ++ a.run) hout) rfl hlc hcbt rfl rfl rfl
        (by simp only [List.length_append]; omega), trivial⟩
    · simp only [hsnl, hn, Bool.not_true, Bool.false_eq_true, if_false, hcbt]
      cases hj : (!isTightJoinerO a.charBeforeTrim && !isTightJoiner r)
      · simp only [Bool.false_eq_true, if_false]
        exact ⟨_, rfl, Rel.idle hout rfl hlc rfl rfl rfl rfl (show a.out.length ≤ pre.length by omega), trivial⟩
      · have hp1 : pushOut (pre ++ r :: rest).length c.out [32] = some (c.out ++ [32]) :=
          pushOut_ok _ _ _ (by rw [hcap, hout]; simp only [List.length_cons, List.length_nil]; omega)
        simp only [if_true, hp1, Option.pure_def, Option.bind_eq_bind, Option.bind_some]
        exact ⟨_, rfl, Rel.idle (congrArg (· ++ [32]) hout) rfl hlc rfl rfl rfl rfl
          (by simp only [List.length_append, List.length_cons, List.length_nil]; omega), trivial⟩
  · -- the phantom space of trimBefore (+ possibly real bytes): seenNewline holds and nothing stands before the run,
    -- so nothing is written
    rw [if_pos (by omega), if_pos hi]
    simp only [hsnl, hnl, hcbt, hz, isTightJoinerO, Bool.not_true, Bool.false_eq_true, if_false, Bool.false_and]
    exact ⟨_, rfl, Rel.idle hout rfl hlc rfl rfl rfl rfl (show a.out.length ≤ pre.length by omega), trivial⟩

/-- "begin to trim", or copy `r`: one step from outside a run -/
theorem Rel.start {pre : Bytes} {c : RTState} {a : AState} (h : Rel pre c a) (hi : a.inRun = false) (r : UInt8) (rest : Bytes) :
    ∃ c', (if (isSpace r || isEndOfLine r) = true then
        pure { c with seenNewline := isEndOfLine r, spaces := 1, charBeforeTrim := c.lastChar }
      else do
        let out ← pushOut (pre ++ r :: rest).length c.out [r]
        pure { c with seenNewline := isEndOfLine r, out := out, lastChar := some r } : Option RTState) = some c' ∧
      Rel (pre ++ [r]) c' (if (isSpace r || isEndOfLine r) = true then
        { a with seenNewline := isEndOfLine r, inRun := true, run := [r], charBeforeTrim := a.lastChar }
      else { a with seenNewline := isEndOfLine r, out := a.out ++ [r], lastChar := some r }) := by
  obtain ⟨hout, hsnl, hlc, hcbt, _, hbound, hsp⟩ := h
  have hr : c.spaces = 0 ∧ a.run = [] := by
    rcases hsp with ⟨_, hr⟩ | ⟨hi', _⟩ | ⟨hi', _⟩
    · exact hr
    · rw [hi] at hi'; exact absurd hi' (by decide)
    · rw [hi] at hi'; exact absurd hi' (by decide)
  obtain ⟨hs0, hr⟩ := hr
  rw [hr] at hbound
  have hcap : (pre ++ r :: rest).length = pre.length + 1 + rest.length := by
    simp only [List.length_append, List.length_cons]; omega
  by_cases hsp : (isSpace r || isEndOfLine r) = true
  · rw [if_pos hsp, if_pos hsp]
    exact ⟨_, rfl, hout, rfl, hlc, hlc, ⟨pre, rfl⟩,
      by simp only [List.length_append, List.length_cons, List.length_nil] at hbound ⊢; omega,
      Or.inr (Or.inl ⟨rfl, rfl, Nat.one_pos⟩)⟩
  · rw [if_neg hsp, if_neg hsp]
    have hp : pushOut (pre ++ r :: rest).length c.out [r] = some (c.out ++ [r]) :=
      pushOut_ok _ _ _ (by rw [hcap, hout]; simp only [List.length_cons, List.length_nil] at hbound ⊢; omega)
    simp only [hp, Option.pure_def, Option.bind_eq_bind, Option.bind_some]
    exact ⟨_, rfl, Rel.idle (congrArg (· ++ [r]) hout) rfl rfl hcbt hi hr hs0
      (by simp only [List.length_append, List.length_cons, List.length_nil] at hbound ⊢; omega)⟩

theorem step_rel (pre rest : Bytes) (r : UInt8) (c : RTState) (a : AState) (h : Rel pre c a) :
    ∃ c', rtStep (pre ++ r :: rest) pre.length r c = some c' ∧ Rel (pre ++ [r]) c' (aStep r a) := by
  unfold rtStep aStep
  by_cases hi : a.inRun = true
  · have hpos := h.spaces_pos.2 hi
    by_cases h1 : isSpace r = true
    · rw [if_pos ⟨hpos, h1⟩, if_pos ⟨hi, h1⟩]
      exact ⟨_, rfl, h.cont hi r h.snl id⟩
    · rw [if_neg (show ¬ (c.spaces > 0 ∧ isSpace r = true) from fun e => h1 e.2),
        if_neg (show ¬ (a.inRun = true ∧ isSpace r = true) from fun e => h1 e.2)]
      by_cases h2 : isEndOfLine r = true
      · rw [if_pos ⟨hpos, h2⟩, if_pos ⟨hi, h2⟩]
        exact ⟨_, rfl, h.cont hi r rfl fun _ => rfl⟩
      · rw [if_neg (show ¬ (c.spaces > 0 ∧ isEndOfLine r = true) from fun e => h2 e.2),
          if_neg (show ¬ (a.inRun = true ∧ isEndOfLine r = true) from fun e => h2 e.2)]
        obtain ⟨c1, e1, h1', hf⟩ := h.flush r rest
        obtain ⟨c', e', h'⟩ := h1'.start hf r rest
        exact ⟨c', by rw [e1]; exact e', h'⟩
  · have hz : ¬ c.spaces > 0 := fun e => hi (h.spaces_pos.1 e)
    rw [if_neg (show ¬ (c.spaces > 0 ∧ isSpace r = true) from fun e => hz e.1),
      if_neg (show ¬ (a.inRun = true ∧ isSpace r = true) from fun e => hi e.1),
      if_neg (show ¬ (c.spaces > 0 ∧ isEndOfLine r = true) from fun e => hz e.1),
      if_neg (show ¬ (a.inRun = true ∧ isEndOfLine r = true) from fun e => hi e.1)]
    obtain ⟨c1, e1, h1', hf⟩ := h.flush r rest
    obtain ⟨c', e', h'⟩ := h1'.start hf r rest
    exact ⟨c', by rw [e1]; exact e', h'⟩

theorem final_rel (pre : Bytes) (ta : Bool) (c : RTState) (a : AState) (h : Rel pre c a) :
    rtLoop pre ta [] pre.length c = some (aFinal ta a) := by
  obtain ⟨hout, hsnl, hlc, hcbt, ⟨p0, hsuf⟩, hbound, hsp⟩ := h
  unfold rtLoop aFinal
  rcases hsp with ⟨hi, hs, hr⟩ | ⟨hi, hs, hpos⟩ | ⟨hi, hs, hnl, hz⟩
  · simp [hs, hi, hout]
  · by_cases hc : (!a.seenNewline && !ta) = true
    · have hcr : copyRange pre ((pre.length : Int) - (c.spaces : Int)) pre.length = some a.run := by
        have := copyRange_suffix p0 a.run []
        rw [hsuf, hs]; simpa using this
      have hp1 : pushOut pre.length c.out a.run = some (c.out ++ a.run) := by
        apply pushOut_ok; simp [hout]; omega
      simp_all
    · have hn : ¬ (a.seenNewline = false ∧ ta = false) := by
        intro ⟨h1, h2⟩; simp [h1, h2] at hc
      simp_all only [gt_iff_lt]
      simp [hn]
  · simp_all

theorem loop_rel (ta : Bool) : ∀ (rest pre : Bytes) (c : RTState) (a : AState), Rel pre c a →
    rtLoop (pre ++ rest) ta rest pre.length c = some (aLoop ta rest a)
  | [], pre, c, a, h => by simpa [aLoop] using final_rel pre ta c a h
  | r :: rest, pre, c, a, h => by
    obtain ⟨c', hstep, hrel⟩ := step_rel pre rest r c a h
    unfold rtLoop aLoop
    rw [hstep]
    have := loop_rel ta rest (pre ++ [r]) c' (aStep r a) hrel
    simpa [List.append_assoc] using this

theorem init_rel (tb : Bool) : Rel [] (rtInit tb) (aInit tb) := by
  cases tb <;> constructor <;> simp [rtInit, aInit]

theorem rawtext_eq_rawtextA (s : Bytes) (tb ta : Bool) : rawtext s tb ta = some (rawtextA s tb ta) := by
  have := loop_rel ta s [] (rtInit tb) (aInit tb) (init_rel tb)
  simpa [rawtext, rawtextA] using this

end SoyVerif.Model
