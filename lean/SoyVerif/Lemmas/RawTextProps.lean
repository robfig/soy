/-
  What the line-joining rule does to a text, said once: every chunk stays, every whitespace run stays or shrinks to nothing
  or to one space (`Thin`, `joinLines_thin`); the corollaries of C15 read it off.
-/
import SoyVerif.Lemmas.RawTextSpec

namespace SoyVerif.Props.C15
open SoyVerif SoyVerif.Model SoyVerif.Spec

def nonWs (b : UInt8) : Bool := !isWs b

def flat : List Tok → Bytes
  | [] => []
  | Tok.ws w :: ts => w ++ flat ts
  | Tok.chunk c :: ts => c ++ flat ts

/-- token classes: whitespace runs contain only whitespace, chunks none -/
def Classed : List Tok → Prop
  | [] => True
  | Tok.ws w :: ts => (∀ b ∈ w, isWs b = true) ∧ Classed ts
  | Tok.chunk c :: ts => (∀ b ∈ c, isWs b = false) ∧ Classed ts

theorem tokenize_flat_classed : ∀ s : Bytes, flat (tokenize s) = s ∧ Classed (tokenize s)
  | [] => by simp [tokenize, flat, Classed]
  | b :: r => by
    obtain ⟨ihf, ihc⟩ := tokenize_flat_classed r
    cases ht : tokenize r with
    | nil =>
      rw [ht] at ihf ihc
      rw [tok_nil b r ht]
      by_cases hb : isWs b = true <;> simp_all [flat, Classed]
    | cons t ts =>
      rw [ht] at ihf ihc
      cases t with
      | ws w =>
        rw [tok_ws b r w ts ht]
        by_cases hb : isWs b = true <;> simp_all [flat, Classed]
      | chunk c =>
        rw [tok_chunk b r c ts ht]
        by_cases hb : isWs b = true <;> simp_all [flat, Classed]

theorem filter_ws_nil (w : Bytes) (h : ∀ b ∈ w, isWs b = true) : w.filter nonWs = [] := by
  simp [List.filter_eq_nil_iff, nonWs]; exact h

theorem filter_chunk (c : Bytes) (h : ∀ b ∈ c, isWs b = false) : c.filter nonWs = c := by
  simp [List.filter_eq_self, nonWs]; exact h

theorem hasNL_pos (w : Bytes) (h : hasNL w = true) : 1 ≤ w.length := by
  cases w with
  | nil => simp at h
  | cons b w => simp

/-- what may stand for the whitespace run `w`: the run itself; nothing, when it holds a line break or trimming was asked for;
    one space, when it holds a line break -/
def Sub (trim : Bool) (w w' : Bytes) : Prop :=
  w' = w ∨ ((hasNL w = true ∨ trim = true) ∧ w' = []) ∨ (hasNL w = true ∧ w' = [32])

/-- `out` is the text of `toks` with every whitespace run replaced by something `Sub` allows.  Coarser than the rule on
    purpose: one `trim` for all runs, though the rule trims only at the two ends; the corollaries need no more -/
inductive Thin (trim : Bool) : List Tok → Bytes → Prop
  | nil : Thin trim [] []
  | chunk (c : Bytes) {ts : List Tok} {o : Bytes} : Thin trim ts o → Thin trim (Tok.chunk c :: ts) (c ++ o)
  | ws {w w' : Bytes} {ts : List Tok} {o : Bytes} : Sub trim w w' → Thin trim ts o → Thin trim (Tok.ws w :: ts) (w' ++ o)

theorem innerWs_sub (trim : Bool) (p q : UInt8) (w : Bytes) : Sub trim w (innerWs p q w) := by
  unfold innerWs
  cases h : hasNL w
  · exact Or.inl rfl
  · rw [Bool.not_true, if_neg Bool.false_ne_true]
    split
    · exact Or.inr (Or.inl ⟨Or.inl h, rfl⟩)
    · exact Or.inr (Or.inr ⟨h, rfl⟩)

theorem edgeWs_sub {trim t : Bool} (ht : t = true → trim = true) (w : Bytes) : Sub trim w (edgeWs t w) := by
  unfold edgeWs
  split
  · rename_i h
    rw [Bool.or_eq_true] at h
    exact Or.inr (Or.inl ⟨h.imp id ht, rfl⟩)
  · exact Or.inl rfl

theorem renderRest_thin (trim ta : Bool) (hta : ta = true → trim = true) :
    ∀ (toks : List Tok) (p : UInt8), Thin trim toks (renderRest ta p toks)
  | [], _ => .nil
  | [Tok.ws w], _ => by simpa [renderRest] using Thin.ws (edgeWs_sub hta w) .nil
  | Tok.ws w :: Tok.chunk c :: ts, p => by
    rw [renderRest, List.append_assoc]
    exact .ws (innerWs_sub trim _ _ w) (.chunk c (renderRest_thin trim ta hta ts _))
  | Tok.chunk c :: ts, _ => by
    rw [renderRest]; exact .chunk c (renderRest_thin trim ta hta ts _)
  | Tok.ws w :: Tok.ws w2 :: ts, p => by
    simp only [renderRest]; exact .ws (innerWs_sub trim _ _ w) (renderRest_thin trim ta hta (Tok.ws w2 :: ts) p)

theorem render_thin (tb ta : Bool) : ∀ toks : List Tok, Thin (tb || ta) toks (render tb ta toks)
  | [] => .nil
  | [Tok.ws w] => by
    have : Sub (tb || ta) w (if (hasNL w || tb || ta) = true then [] else w) := by
      split
      · rename_i h
        simp only [Bool.or_eq_true, or_assoc] at h
        exact Or.inr (Or.inl ⟨by simpa [or_assoc] using h, rfl⟩)
      · exact Or.inl rfl
    simpa [render] using Thin.ws this .nil
  | Tok.ws w :: Tok.chunk c :: ts => by
    rw [render, List.append_assoc]
    exact .ws (edgeWs_sub (by simp +contextual) w) (.chunk c (renderRest_thin _ ta (by simp +contextual) ts _))
  | Tok.chunk c :: ts => by
    rw [render]; exact .chunk c (renderRest_thin _ ta (by simp +contextual) ts _)
  | Tok.ws w :: Tok.ws w2 :: ts => by
    simp only [render]; exact .ws (edgeWs_sub (by simp +contextual) w) (render_thin tb ta (Tok.ws w2 :: ts))

theorem joinLines_thin (s : Bytes) (tb ta : Bool) : Thin (tb || ta) (tokenize s) (joinLines s tb ta) :=
  render_thin tb ta _

theorem Thin.filter {trim : Bool} {toks : List Tok} {o : Bytes} (h : Thin trim toks o) (hc : Classed toks) :
    o.filter nonWs = (flat toks).filter nonWs := by
  induction h with
  | nil => rfl
  | chunk c _ ih => rw [flat, List.filter_append, List.filter_append, ih hc.2]
  | @ws w w' _ _ hs _ ih =>
    have hw' : w'.filter nonWs = [] := by
      rcases hs with rfl | ⟨_, rfl⟩ | ⟨_, rfl⟩
      · exact filter_ws_nil _ hc.1
      · rfl
      · rfl
    rw [flat, List.filter_append, List.filter_append, ih hc.2, hw', filter_ws_nil w hc.1]

theorem Thin.length_le {trim : Bool} {toks : List Tok} {o : Bytes} (h : Thin trim toks o) :
    o.length ≤ (flat toks).length := by
  induction h with
  | nil => exact Nat.le_refl _
  | chunk c _ ih => simp only [flat, List.length_append]; omega
  | @ws w w' _ _ hs _ ih =>
    have : w'.length ≤ w.length := by
      rcases hs with rfl | ⟨_, rfl⟩ | ⟨h, rfl⟩
      · exact Nat.le_refl _
      · exact Nat.zero_le _
      · exact hasNL_pos w h
    simp only [flat, List.length_append]; omega

theorem Thin.eq_flat {toks : List Tok} {o : Bytes} (h : Thin false toks o) (hn : hasNL (flat toks) = false) :
    o = flat toks := by
  induction h with
  | nil => rfl
  | chunk c _ ih =>
    rw [flat, hasNL_append, Bool.or_eq_false_iff] at hn
    rw [flat, ih hn.2]
  | @ws w w' _ _ hs _ ih =>
    rw [flat, hasNL_append, Bool.or_eq_false_iff] at hn
    rcases hs with rfl | ⟨h | h, _⟩ | ⟨h, _⟩
    · rw [flat, ih hn.2]
    · rw [hn.1] at h; cases h
    · cases h
    · rw [hn.1] at h; cases h

end SoyVerif.Props.C15
