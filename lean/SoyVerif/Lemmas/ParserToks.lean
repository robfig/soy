/-
  The token view IS the printer's output (`spell_pieces`), and the printed tokens of a
  canonical tree are a rendering of it (`renders_toks`: the printer's parenthesisation is
  the minimal instance of `Renders`).
-/
import SoyVerif.Lemmas.ParserLit
import SoyVerif.Lemmas.ParserQuote

namespace SoyVerif.Lemmas.ParserToks
open SoyVerif SoyVerif.Model SoyVerif.Model.Parser SoyVerif.Model.PrintTokens SoyVerif.Model.Printer
open SoyVerif.Lemmas.ParserLit SoyVerif.Lemmas.ParserQuote

theorem spell_append : (a b : List Piece) → spell (a ++ b) = spell a ++ spell b
  | [], b => rfl
  | .tok t :: r, b => by simp [spell, spell_append r b]
  | .sp :: r, b => by simp [spell, spell_append r b]

theorem spell_map_tok : (ts : List Tk) → spell (ts.map .tok) = (ts.map (·.val)).flatten
  | [] => rfl
  | t :: r => by simp [spell, spell_map_tok r]

theorem spell_wrapP (e : Expr) (m : Nat) (s : List Piece) :
    spell (wrapP e m s) = wrapOperand e m (spell s) := by
  unfold wrapP wrapOperand
  split <;> simp [spell_append, spell, tLP, tRP]

theorem spell_global (n : Bytes) : spell ((globalToks n).map .tok) = n := by
  rw [spell_map_tok]
  unfold globalToks
  have := splitDots_flatten n
  simp [tIdent, tDotIdent, Function.comp_def] at this ⊢
  exact this

section
variable (ff : UInt64 → Bytes)

mutual
  theorem spell_pieces : (e : Expr) → spell (pieces ff e) = printExpr ff e
    | .null _ => rfl
    | .bool _ b => by cases b <;> rfl
    | .int _ v => by simp [pieces, printExpr, spell]
    | .float _ v => by simp [pieces, printExpr, spell]
    | .str _ q _ => by simp [pieces, printExpr, spell, tString]
    | .global _ n => by simp only [pieces, printExpr]; exact spell_global n
    | .func _ n args => by
        simp [pieces, printExpr, spell_append, spell, spell_args args true, tIdent, tLP, tRP]
    | .list _ items => by
        simp [pieces, printExpr, spell_append, spell, spell_items items true, tLB, tRB]
    | .map _ items => by
        cases items with
        | nil => rfl
        | cons k e r =>
          simp [pieces, printExpr, spell_append, spell, spell_map (.cons k e r) true, tLB, tRB]
    | .dataRef _ k acc => by
        simp [pieces, printExpr, spell, spell_accs acc]
    | .not _ a => by
        simp [pieces, printExpr, spell, spell_wrapP, spell_pieces a, tNot]
    | .neg _ a => by
        have ih := spell_pieces a
        -- `pieces` on `.neg` matches `.int`, `.float` and the rest: `rw` leaves the side goals of the overlapping
        -- alternative ("`a` is not `.int`/`.float`"), closed by `cases h`
        cases a <;>
          (rw [pieces, printExpr]
           all_goals first
             | (intro _ _ h; cases h)
             | (simp only [spell_append, spell_wrapP, ih, spell, tNeg, tLP, tRP]; try simp))
    | .bin op _ a b => by
        simp [pieces, printExpr, spell_append, spell, spell_wrapP, spell_pieces a, spell_pieces b, tOp]
    | .tern _ c a b => by
        simp [pieces, printExpr, spell_append, spell, spell_wrapP, spell_pieces a, spell_pieces b, spell_pieces c,
          tTernIf, tColon]
  theorem spell_args : (l : ExprList) → (first : Bool) → spell (piecesArgs ff l first) = printArgs ff l first
    | .nil, _ => rfl
    | .cons e r, first => by
        cases first <;> simp [piecesArgs, printArgs, spell_append, spell, spell_pieces e, spell_args r false, tComma]
  theorem spell_items : (l : ExprList) → (first : Bool) → spell (piecesItems ff l first) = printItems ff l first
    | .nil, _ => rfl
    | .cons e r, first => by
        cases first <;> simp [piecesItems, printItems, spell_append, spell, spell_pieces e, spell_items r false, tComma]
  theorem spell_map : (m : MapItems) → (first : Bool) → spell (piecesMap ff m first) = printMapEntries ff m first
    | .nil, _ => rfl
    | .cons k e r, first => by
        cases first <;> simp [piecesMap, printMapEntries, spell_append, spell, spell_pieces e, spell_map r false,
          tComma, tString, tColon]
  theorem spell_accs : (l : AccessList) → spell (piecesAccs ff l) = printAccesses ff l
    | .nil => rfl
    | .cons a r => by simp [piecesAccs, printAccesses, spell_append, spell_acc a, spell_accs r]
  theorem spell_acc : (a : Access) → spell (piecesAcc ff a) = printAccess ff a
    | .key _ ns k => by cases ns <;> simp [piecesAcc, printAccess, spell]
    | .index _ ns i => by cases ns <;> simp [piecesAcc, printAccess, spell]
    | .expr _ ns e => by
        cases ns <;> simp [piecesAcc, printAccess, spell_append, spell, spell_pieces e, tQKey, tLB, tRB]
end

end

theorem unsp_append : (a b : List Piece) → unsp (a ++ b) = unsp a ++ unsp b
  | [], b => rfl
  | .tok t :: r, b => by simp [unsp, unsp_append r b]
  | .sp :: r, b => by simp [unsp, unsp_append r b]

theorem unsp_map_tok : (ts : List Tk) → unsp (ts.map .tok) = ts
  | [] => rfl
  | t :: r => by simp [unsp, unsp_map_tok r]

section
variable (ff : UInt64 → Bytes) (pf : Bytes → Option UInt64)

/-- the printer's `operandString` is the minimal instance of an operand slot -/
theorem slot_wrapP (m : Nat) (a : Expr) (h : Renders pf a (toks ff a)) :
    Slot m a (Renders pf a) (unsp (wrapP a m (pieces ff a))) := by
  unfold wrapP
  by_cases hlt : precedenceOf a < m
  · simp only [hlt, if_true]
    exact ⟨1, toks ff a, h, by simp [unsp_append, unsp, parensT, toks], fun _ => Nat.one_pos⟩
  · simp only [hlt, if_false]
    exact ⟨0, toks ff a, h, rfl, fun hh => absurd hh hlt⟩

theorem slot_plain (a : Expr) (h : Renders pf a (toks ff a)) : Slot 0 a (Renders pf a) (toks ff a) :=
  ⟨0, toks ff a, h, rfl, fun hh => absurd hh (Nat.not_lt_zero _)⟩

mutual
  theorem renders_toks : (e : Expr) → Canon ff pf e → Renders pf e (toks ff e)
    | .null _, _ => by simp [toks, pieces, unsp, Renders]
    | .bool _ b, _ => by simp [toks, pieces, unsp, Renders]
    | .int _ v, h => by
        rw [Canon] at h
        simp only [toks, pieces, unsp, Renders]
        exact ⟨fmtInt v, rfl, intLiteral_fmtInt v h⟩
    | .float _ v, h => by
        rw [Canon] at h
        simp only [toks, pieces, unsp, Renders]
        exact ⟨fmtFloatLit ff v, rfl, h⟩
    | .str _ q v, h => by
        rw [Canon] at h
        simp only [toks, pieces, unsp, Renders]
        exact ⟨by trivial, h⟩
    | .global _ n, _ => by
        simp only [toks, pieces, unsp_map_tok, Renders]
        exact ⟨(splitDots n).1, (splitDots n).2, rfl, (splitDots_flatten n).symm⟩
    | .func _ n args, h => by
        rw [Canon] at h
        cases args with
        | nil => simp [toks, pieces, piecesArgs, unsp, Renders]
        | cons e r =>
          rw [CanonL] at h
          rw [Renders]
          refine ⟨toks ff e, unsp (piecesArgs ff r false), slot_plain ff pf e (renders_toks e h.1), renders_args r h.2, ?_⟩
          simp [toks, pieces, piecesArgs, unsp, unsp_append]
    | .list _ items, h => by
        rw [Canon] at h
        cases items with
        | nil => simp [toks, pieces, piecesItems, unsp, Renders]
        | cons e r =>
          rw [CanonL] at h
          rw [Renders]
          refine ⟨toks ff e, unsp (piecesItems ff r false), slot_plain ff pf e (renders_toks e h.1), renders_items r h.2, ?_⟩
          simp [toks, pieces, piecesItems, unsp, unsp_append]
    | .map _ items, h => by
        rw [Canon] at h
        cases items with
        | nil => simp [toks, pieces, unsp, Renders]
        | cons k e r =>
          obtain ⟨hc, hs⟩ := h
          rw [CanonM] at hc
          rw [Renders]
          refine ⟨quoteString k, toks ff e, unsp (piecesMap ff r false), requote k, slot_plain ff pf e (renders_toks e hc.1),
            renders_entries r hc.2, hs, ?_⟩
          simp [toks, pieces, piecesMap, unsp, unsp_append]
    | .dataRef _ k acc, h => by
        rw [Canon] at h
        rw [Renders]
        refine ⟨unsp (piecesAccs ff acc), renders_accs acc h, ?_⟩
        simp [toks, pieces, unsp]
    | .not _ a, h => by
        rw [Canon] at h
        rw [Renders]
        refine ⟨_, slot_wrapP ff pf precUnary a (renders_toks a h), ?_⟩
        simp [toks, pieces, unsp]
    | .neg _ a, h => by
        rw [Canon] at h
        have ih := renders_toks a h
        rw [Renders]
        -- the side goals of the overlapping `match` of `pieces`, as in `spell_pieces`
        cases a <;>
          (rw [toks, pieces]
           all_goals first
             | (intro _ _ h; cases h)
             | skip)
        case int p v =>
          exact ⟨_, ⟨1, _, ih, rfl, fun _ => Nat.one_pos⟩, by simp [unsp, unsp_append, parensT, toks]⟩
        case float p v =>
          exact ⟨_, ⟨1, _, ih, rfl, fun _ => Nat.one_pos⟩, by simp [unsp, unsp_append, parensT, toks]⟩
        all_goals
          exact ⟨_, slot_wrapP ff pf precUnary _ ih, by simp [unsp]⟩
    | .bin op _ a b, h => by
        rw [Canon] at h
        rw [Renders]
        refine ⟨_, _, slot_wrapP ff pf (leftMin op) a (renders_toks a h.1),
          slot_wrapP ff pf (rightMin op) b (renders_toks b h.2), ?_⟩
        simp [toks, pieces, unsp, unsp_append]
    | .tern _ c a b, h => by
        rw [Canon] at h
        rw [Renders]
        refine ⟨_, _, _, slot_wrapP ff pf (precElvis + 1) c (renders_toks c h.1),
          slot_wrapP ff pf precElvis a (renders_toks a h.2.1), slot_plain ff pf b (renders_toks b h.2.2), ?_⟩
        simp [toks, pieces, unsp, unsp_append]
  theorem renders_args : (l : ExprList) → CanonL ff pf l → RendersSeq pf l (unsp (piecesArgs ff l false))
    | .nil, _ => by simp [piecesArgs, unsp, RendersSeq]
    | .cons e r, h => by
        rw [CanonL] at h
        rw [RendersSeq]
        refine ⟨toks ff e, _, slot_plain ff pf e (renders_toks e h.1), renders_args r h.2, ?_⟩
        simp [toks, piecesArgs, unsp, unsp_append]
  theorem renders_items : (l : ExprList) → CanonL ff pf l → RendersSeq pf l (unsp (piecesItems ff l false))
    | .nil, _ => by simp [piecesItems, unsp, RendersSeq]
    | .cons e r, h => by
        rw [CanonL] at h
        rw [RendersSeq]
        refine ⟨toks ff e, _, slot_plain ff pf e (renders_toks e h.1), renders_items r h.2, ?_⟩
        simp [toks, piecesItems, unsp, unsp_append]
  theorem renders_entries : (m : MapItems) → CanonM ff pf m → RendersEntries pf m (unsp (piecesMap ff m false))
    | .nil, _ => by simp [piecesMap, unsp, RendersEntries]
    | .cons k e r, h => by
        rw [CanonM] at h
        rw [RendersEntries]
        refine ⟨quoteString k, toks ff e, _, requote k, slot_plain ff pf e (renders_toks e h.1), renders_entries r h.2, ?_⟩
        simp [toks, piecesMap, unsp, unsp_append]
  theorem renders_accs : (l : AccessList) → CanonAL ff pf l → RendersAccs pf l (unsp (piecesAccs ff l))
    | .nil, _ => by simp [piecesAccs, unsp, RendersAccs]
    | .cons a r, h => by
        rw [CanonAL] at h
        rw [RendersAccs]
        exact ⟨_, _, renders_acc a h.1, renders_accs r h.2, by simp [piecesAccs, unsp_append]⟩
  theorem renders_acc : (a : Access) → CanonA ff pf a → RendersAcc pf a (unsp (piecesAcc ff a))
    | .key _ ns k, _ => by cases ns <;> simp [piecesAcc, unsp, RendersAcc]
    | .index _ ns i, h => by
        rw [CanonA] at h
        rw [RendersAcc]
        exact ⟨fmtInt i, parseInt10_fmtInt i h, by cases ns <;> simp [piecesAcc, unsp]⟩
    | .expr _ ns e, h => by
        rw [CanonA] at h
        rw [RendersAcc]
        exact ⟨toks ff e, slot_plain ff pf e (renders_toks e h), by cases ns <;> simp [toks, piecesAcc, unsp, unsp_append]⟩
end

end
end SoyVerif.Lemmas.ParserToks
