/-
  The round trip for every tree: assembly of the steps of Lemmas/ParserRound.lean and
  Lemmas/ParserColl.lean by mutual structural recursion over the syntax, and the statement
  for the entry point `parseExprEntry` (the fuel it uses suffices; a statement about the value computed from the run,
  so its proof destructs an `Ok`).
-/
import SoyVerif.Lemmas.ParserColl

namespace SoyVerif.Lemmas.ParserRound
open SoyVerif SoyVerif.Model SoyVerif.Model.Parser SoyVerif.Model.PrintTokens SoyVerif.Model.Printer
open SoyVerif.Lemmas.ParserBasic

section
variable (pf : Bytes → Option UInt64) (T : TableOK)
include T

-- `allAcc` takes `T` like the other four, which use it
set_option linter.unusedSectionVars false in
mutual
  theorem bAll : (e : Expr) → BStmt pf e
    | .null p => B_of_FT pf (ft_null pf T p)
    | .bool p b => B_of_FT pf (ft_bool pf T p b)
    | .int p v => B_of_FT pf (ft_int pf T p v)
    | .float p v => B_of_FT pf (ft_float pf T p v)
    | .str p q v => B_of_FT pf (ft_str pf T p q v)
    | .global p n => B_of_FT pf (ft_global pf T p n)
    | .func p n args => B_of_FT pf (ft_func pf T p n (allL args))
    | .list p items => B_of_FT pf (ft_list pf T p (allL items))
    | .map p items => B_of_FT pf (ft_map pf T p (allM items))
    | .dataRef p k acc => B_of_FT pf (ft_dataRef pf T p k (allAcc acc))
    | .not p a => B_of_FT pf (ft_not pf T p (A_of_B pf T (bAll a)))
    | .neg p a => B_of_FT pf (ft_neg pf T p (A_of_B pf T (bAll a)))
    | .bin op p a b => b_bin pf T op p (A_of_B pf T (bAll a)) (A_of_B pf T (bAll b))
    | .tern p c a b => b_tern pf T p (A_of_B pf T (bAll c)) (A_of_B pf T (bAll a)) (A_of_B pf T (bAll b))
  theorem allL : (l : ExprList) → AllA pf l
    | .nil => trivial
    | .cons e r => ⟨A_of_B pf T (bAll e), allL r⟩
  theorem allM : (m : MapItems) → AllM pf m
    | .nil => trivial
    | .cons _ e r => ⟨A_of_B pf T (bAll e), allM r⟩
  theorem allAcc : (l : AccessList) → AllAcc pf l
    | .nil => trivial
    | .cons a r => ⟨accA a, allAcc r⟩
  theorem accA : (a : Access) → AccA pf a
    | .key _ _ _ => trivial
    | .index _ _ _ => trivial
    | .expr _ _ e => A_of_B pf T (bAll e)
end

theorem aAll (e : Expr) : AStmt pf e := A_of_B pf T (bAll pf T e)

/-- every fuel from 8 per token on gives the tree -/
theorem parse_slot_fuel (e : Expr) (ts : List Tk) (items : List Item)
    (hS : Slot 0 e (Renders pf e) ts) (hit : items.map Item.tk = ts ++ [tEOF]) (F : Nat) (hF : 8 * ts.length + 1 ≤ F) :
    Ok (parseExpr pf F 0) (initState items) (Post e [tEOF]) :=
  slot0 pf T (aAll pf T e) hS isTerm.eof (hit ▸ at_init items) (by omega)

/-- the entry point: any rendering of `e` (possibly inside redundant parentheses), with any positions, followed by a
    terminator `h`, parses to `e` modulo positions — with the fuel `parseExprEntry` uses; the parser stops in front of
    `h`.  `h` is EOF (`parse_slot_entry`) or the Error item with which the lexer of `parse.Expr` ends a complete
    expression ("unclosed tag": expression mode starts inside a tag) -/
theorem parse_slot_entry_term (e : Expr) (ts : List Tk) (h : Tk) (items : List Item)
    (hS : Slot 0 e (Renders pf e) ts) (ht : isTerm h.typ) (hit : items.map Item.tk = ts ++ [h]) :
    ∃ e', parseExprEntry pf items = .ok e' ∧ erase e' = erase e := by
  have hlen : items.length = ts.length + 1 := by
    have := congrArg List.length hit; simpa using this
  obtain ⟨r, st2, h2, he, _⟩ := slot0 pf T (aAll pf T e) hS ht (hit ▸ at_init items)
    (F := fuelFor items.length) (by unfold fuelFor; omega)
  refine ⟨r, ?_, he⟩
  unfold parseExprEntry
  show (match parseExpr pf (fuelFor items.length) 0 (initState items) with
    | Except.ok (e, _) => Except.ok e
    | Except.error err => Except.error err) = _
  rw [h2]

theorem parse_slot_entry (e : Expr) (ts : List Tk) (items : List Item)
    (hS : Slot 0 e (Renders pf e) ts) (hit : items.map Item.tk = ts ++ [tEOF]) :
    ∃ e', parseExprEntry pf items = .ok e' ∧ erase e' = erase e :=
  parse_slot_entry_term pf T e ts tEOF items hS isTerm.eof hit

end
end SoyVerif.Lemmas.ParserRound
