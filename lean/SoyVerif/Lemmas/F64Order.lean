/-
  `float64(i)` is order-preserving on the integers of magnitude ≤ 2^53 (`ofInt_order`) — proved from the
  definitions of Base/F64.lean: `roundRatMag n 1` does not round when `n < 2^53` (`roundRatMag_int`: the
  quotient has at most 53 bits and the remainder is 0), and the magnitude bits it assembles are strictly
  increasing in `n` (`magOfNat_lt`).  The order `lt` / `le` of the soft-float IS, by definition, the order of the
  sign·magnitude keys (`F64.key`), so what is left is to compute the keys (`ofInt_key`).
  `ofInt_order` discharges the hypothesis `OrdExact` of the expression refinement (Props/C01.lean).  That the
  VALUE of `float64(i)` is `i` is Lemmas/F64Floor `ofRat_nat`.
-/
import SoyVerif.Base.F64

namespace SoyVerif.F64

theorem shift_bounds (n t : Nat) (h52 : t ≤ 52) (hlo : 2 ^ t ≤ n) (hhi : n < 2 ^ (t + 1)) :
    two52 ≤ n * 2 ^ (52 - t) ∧ n * 2 ^ (52 - t) < 2 * two52 := by
  have hP : 2 ^ t * 2 ^ (52 - t) = two52 := by
    rw [← Nat.pow_add, Nat.add_sub_cancel' h52]; rfl
  constructor
  · rw [← hP]; exact Nat.mul_le_mul_right _ hlo
  · rw [← hP, ← Nat.mul_assoc, ← Nat.pow_succ']
    exact Nat.mul_lt_mul_of_pos_right hhi (Nat.pow_pos (by decide))

theorem log2_facts (n : Nat) (h1 : 1 ≤ n) (h2 : n < two53) :
    Nat.log2 n ≤ 52 ∧ 2 ^ Nat.log2 n ≤ n ∧ n < 2 ^ (Nat.log2 n + 1) := by
  have hlo : 2 ^ Nat.log2 n ≤ n := Nat.log2_self_le (by omega)
  have hhi : n < 2 ^ (Nat.log2 n + 1) := Nat.lt_log2_self
  refine ⟨?_, hlo, hhi⟩
  apply Nat.le_of_not_lt
  intro h
  have : 2 ^ 53 ≤ 2 ^ Nat.log2 n := Nat.pow_le_pow_right (by decide) h
  have e : (2 : Nat) ^ 53 = two53 := rfl
  omega

/-- no rounding below 2^53: exponent field and fraction of the integer `n`, with `t = log2 n` -/
theorem roundRatMag_int (n : Nat) (h1 : 1 ≤ n) (h2 : n < two53) :
    roundRatMag n 1 = (Nat.log2 n + 1022) * two52 + n * 2 ^ (52 - Nat.log2 n) := by
  obtain ⟨h52, hlo, hhi⟩ := log2_facts n h1 h2
  unfold roundRatMag
  generalize Nat.log2 n = t at *
  obtain ⟨hq_lo, hq_hi⟩ := shift_bounds n t h52 hlo hhi
  have hinf : ¬ infMag ≤ (t + 1022) * two52 + n * 2 ^ (52 - t) := by
    have : (t + 1022) * two52 ≤ 1074 * two52 := Nat.mul_le_mul_right _ (by omega)
    simp only [infMag, two52] at *
    omega
  -- the exponent `roundRatMag` computes, `log2 n - log2 1 - 52` clamped at -1074, in the shape its unfolding has
  have he1 : (if (t : Int) - ((0 : Nat) : Int) - 52 < -1074 then (-1074 : Int) else (t : Int) - ((0 : Nat) : Int) - 52) = (t : Int) - 52 := by
    split <;> omega
  have hexp : ((t : Int) - 52 + 1074).toNat = t + 1022 := by omega
  simp only [show Nat.log2 1 = 0 from rfl, he1]
  by_cases h : t = 52
  · subst h
    have hlo' : ¬ n < two52 := by simpa using hq_lo
    have hinf' : ¬ infMag ≤ 1074 * two52 + n := by simpa using hinf
    simp [hlo', hinf', Nat.mod_one]
  · have c1 : (t : Int) - 52 < 0 := by omega
    have htn : (-((t : Int) - 52)).toNat = 52 - t := by omega
    have c2 : ¬ (n * 2 ^ (52 - t) < two52 ∧ (-1074 : Int) < (t : Int) - 52) := fun hh => by omega
    simp only [c1, if_true, htn, Nat.div_one, c2, if_false, Nat.mod_one, hexp]
    simp [hinf]

/-- the magnitude bits of `float64(n)`, `0 ≤ n ≤ 2^53` -/
def magOfNat (n : Nat) : Nat := if n = 0 then 0 else roundRatMag n 1

theorem magOfNat_bounds (n : Nat) (h1 : 1 ≤ n) (h2 : n < two53) :
    (Nat.log2 n + 1023) * two52 ≤ magOfNat n ∧ magOfNat n < (Nat.log2 n + 1024) * two52 := by
  obtain ⟨h52, hlo, hhi⟩ := log2_facts n h1 h2
  have hm := roundRatMag_int n h1 h2
  obtain ⟨hq_lo, hq_hi⟩ := shift_bounds n (Nat.log2 n) h52 hlo hhi
  unfold magOfNat
  rw [if_neg (by omega), hm]
  simp only [two52] at *
  omega

theorem magOfNat_two53 : magOfNat two53 = 1076 * two52 := by decide +kernel

theorem magOfNat_lt (a b : Nat) (hab : a < b) (hb : b ≤ two53) : magOfNat a < magOfNat b := by
  by_cases hb53 : b = two53
  · subst hb53
    rw [magOfNat_two53]
    by_cases ha0 : a = 0
    · subst ha0; simp [magOfNat, two52]
    · have := magOfNat_bounds a (by omega) hab
      have h52 := (log2_facts a (by omega) hab).1
      simp only [two52] at *
      omega
  · have hb' : b < two53 := by omega
    by_cases ha0 : a = 0
    · subst ha0
      have := (magOfNat_bounds b (by omega) hb').1
      simp only [magOfNat, if_true, two52] at *
      omega
    · have ha' : a < two53 := by omega
      obtain ⟨ha52, halo, hahi⟩ := log2_facts a (by omega) ha'
      obtain ⟨hb52, hblo, hbhi⟩ := log2_facts b (by omega) hb'
      have hba := magOfNat_bounds a (by omega) ha'
      have hbb := magOfNat_bounds b (by omega) hb'
      by_cases ht : Nat.log2 a = Nat.log2 b
      · -- same binade: the fractions are ordered
        unfold magOfNat
        rw [if_neg ha0, if_neg (by omega), roundRatMag_int a (by omega) ha', roundRatMag_int b (by omega) hb', ht]
        have : a * 2 ^ (52 - Nat.log2 b) < b * 2 ^ (52 - Nat.log2 b) :=
          Nat.mul_lt_mul_of_pos_right hab (Nat.pow_pos (by decide))
        omega
      · have hlt : Nat.log2 a < Nat.log2 b := by
          apply Nat.lt_of_le_of_ne _ ht
          apply Nat.le_of_not_lt
          intro h
          have : 2 ^ (Nat.log2 b + 1) ≤ 2 ^ Nat.log2 a := Nat.pow_le_pow_right (by decide) h
          omega
        simp only [two52] at *
        omega

theorem magOfNat_lt_iff (a b : Nat) (ha : a ≤ two53) (hb : b ≤ two53) : magOfNat a < magOfNat b ↔ a < b := by
  constructor
  · intro h
    apply Nat.lt_of_not_le
    intro hle
    rcases Nat.lt_or_eq_of_le hle with h1 | h1
    · have := magOfNat_lt b a h1 ha; omega
    · subst h1; omega
  · intro h; exact magOfNat_lt a b h hb

theorem magOfNat_lt_infMag (n : Nat) (h : n ≤ two53) : magOfNat n < infMag := by
  have h1 : magOfNat n ≤ magOfNat two53 := by
    rcases Nat.lt_or_eq_of_le h with h | h
    · exact Nat.le_of_lt (magOfNat_lt n two53 h (Nat.le_refl _))
    · rw [h]; exact Nat.le_refl _
  rw [magOfNat_two53] at h1
  simp only [infMag, two52] at *
  omega

theorem make_facts (s : Bool) (m : Nat) (hm : m < two63) :
    (make s m).sign = s ∧ (make s m).mag = m := by
  have hbits : (make s m).bits.toNat = (if s then two63 else 0) + m := by
    unfold make ofNatBits
    simp only [UInt64.toNat_ofNat']
    apply Nat.mod_eq_of_lt
    cases s <;> simp only [two63] at * <;> simp <;> omega
  constructor
  · unfold sign
    rw [hbits]
    cases s <;> simp only [two63] at * <;> simp <;> omega
  · unfold mag
    rw [hbits]
    cases s
    · simp only [Bool.false_eq_true, if_false, Nat.zero_add]; exact Nat.mod_eq_of_lt hm
    · simp only [if_true]; rw [Nat.add_mod_left]; exact Nat.mod_eq_of_lt hm

theorem ofInt_eq (x : Int) : ofInt x = make (decide (x < 0)) (magOfNat x.natAbs) := by
  unfold ofInt ofRat magOfNat
  by_cases h : x.natAbs = 0
  · simp [h]
  · simp [h]

theorem ofInt_key (x : Int) (hx : x.natAbs ≤ two53) :
    (ofInt x).isNaN = false ∧ (ofInt x).key = (if x < 0 then -(magOfNat x.natAbs : Int) else (magOfNat x.natAbs : Int)) := by
  have hinf := magOfNat_lt_infMag x.natAbs hx
  have h63 : magOfNat x.natAbs < two63 := by simp only [infMag, two63] at *; omega
  obtain ⟨hs, hm⟩ := make_facts (decide (x < 0)) (magOfNat x.natAbs) h63
  rw [ofInt_eq]
  constructor
  · unfold isNaN; rw [hm]; simp; omega
  · unfold key; rw [hs, hm]
    by_cases h : x < 0 <;> simp [h]

/-- four sign cases over `magOfNat_lt_iff` -/
theorem ofInt_key_lt (x y : Int) (hx : x.natAbs ≤ two53) (hy : y.natAbs ≤ two53) :
    (ofInt x).key < (ofInt y).key ↔ x < y := by
  rw [(ofInt_key x hx).2, (ofInt_key y hy).2]
  have hxy := magOfNat_lt_iff x.natAbs y.natAbs hx hy
  have hyx := magOfNat_lt_iff y.natAbs x.natAbs hy hx
  have hxp := magOfNat_lt_iff 0 x.natAbs (Nat.zero_le _) hx
  have hyp := magOfNat_lt_iff 0 y.natAbs (Nat.zero_le _) hy
  rw [show magOfNat 0 = 0 from rfl] at hxp hyp
  clear hx hy
  by_cases h1 : x < 0 <;> by_cases h2 : y < 0 <;> simp only [h1, h2, if_true, if_false] <;> omega

/-- on the integers of magnitude ≤ 2^53 the soft-float order of `float64(·)` is the
    integer order -/
theorem ofInt_order (x y : Int) (hx : x.natAbs ≤ two53) (hy : y.natAbs ≤ two53) :
    lt (ofInt x) (ofInt y) = decide (x < y) ∧ le (ofInt x) (ofInt y) = decide (x ≤ y) := by
  have nx := (ofInt_key x hx).1
  have ny := (ofInt_key y hy).1
  constructor
  · unfold lt; rw [nx, ny]; simp only [Bool.not_false, Bool.true_and]
    exact decide_eq_decide.mpr (ofInt_key_lt x y hx hy)
  · unfold le; rw [nx, ny]; simp only [Bool.not_false, Bool.true_and]
    exact decide_eq_decide.mpr (Int.not_lt.symm.trans ((not_congr (ofInt_key_lt y x hy hx)).trans Int.not_lt))
end SoyVerif.F64
