/- The generator monad `JsGen.M` obeys the monad laws (needed to regroup `do` blocks); `seqM` over an appended list
   and over a single action. -/
import SoyVerif.Model.JsGen

namespace SoyVerif.Lemmas.JsGenMonad
open SoyVerif SoyVerif.Model SoyVerif.Model.JsGen

theorem pure_bind {α β : Type} (a : α) (k : α → M β) : (pure a >>= k) = k a := by
  funext s
  simp only [Bind.bind, M.bind, Pure.pure, M.pure]
  cases k a s with
  | error e => rfl
  | ok r => obtain ⟨b, qs, s2⟩ := r; simp

theorem bind_pure {α : Type} (m : M α) : (m >>= fun a => pure a) = m := by
  funext s
  simp only [Bind.bind, M.bind, Pure.pure, M.pure]
  cases m s with
  | error e => rfl
  | ok r => obtain ⟨a, ps, s1⟩ := r; simp

theorem bind_assoc {α β γ : Type} (m : M α) (k : α → M β) (l : β → M γ) :
    ((m >>= k) >>= l) = (m >>= fun a => k a >>= l) := by
  funext s
  simp only [Bind.bind, M.bind]
  cases m s with
  | error e => rfl
  | ok r =>
    obtain ⟨a, ps, s1⟩ := r
    simp only
    cases k a s1 with
    | error e => rfl
    | ok r2 =>
      obtain ⟨b, qs, s2⟩ := r2
      simp only
      cases l b s2 with
      | error e => rfl
      | ok r3 => obtain ⟨c, rs, s3⟩ := r3; simp [List.append_assoc]

theorem seqM_append : ∀ (l1 l2 : List (M Unit)), seqM (l1 ++ l2) = (seqM l1 >>= fun _ => seqM l2)
  | [], l2 => by
    show seqM l2 = (pure () >>= fun _ => seqM l2)
    rw [pure_bind]
  | m :: r, l2 => by
    show (m >>= fun _ => seqM (r ++ l2)) = ((m >>= fun _ => seqM r) >>= fun _ => seqM l2)
    rw [seqM_append r l2, bind_assoc]

theorem seqM_single (m : M Unit) : seqM [m] = m := by
  show (m >>= fun _ => pure ()) = m
  exact bind_pure m

end SoyVerif.Lemmas.JsGenMonad
