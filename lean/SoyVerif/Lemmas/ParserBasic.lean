/-
  Plumbing for proofs about the expression parser model (`Model/Parser.lean`):

  * a state monad over `Except` (`P`, and the file parser's `FP`) run on a state (`bind_ok`);
  * the STREAM VIEW of a parser state: `At st ts` — the tokens (without positions) the parser
    will see next are `ts`, whether the first one sits in the channel (`peekCount = 0`) or has
    been read and backed up (`peekCount = 1`); `At1` the backed-up form every complete
    `parseExpr` ends in; `Just st it ts` the state right after `next` returned `it`;
  * `next` / `backup` / `peek` / `expect` on such states;
  * the judgement `Ok x st Q` (success, for both parser monads) and its rules, one per primitive and `Ok.seq`;
  * the table facts (`TableOK`) the proofs need from the GENERATED tables, and the operator
    loop's three moves as rules of `Ok`: stop, binary operator, ternary.
-/
import SoyVerif.Model.PrintTokens
import SoyVerif.Lemmas.ParserSafe

namespace SoyVerif.Lemmas.ParserBasic
open SoyVerif SoyVerif.Model SoyVerif.Model.Parser SoyVerif.Model.PrintTokens SoyVerif.Model.Printer
open SoyVerif.Lemmas.ParserSafe (stream pending top stream_next stream_peek stream_backup)

theorem bind_ok {σ ε α β : Type} {x : StateT σ (Except ε) α} {f : α → StateT σ (Except ε) β} {st st' : σ} {a : α}
    (h : x st = .ok (a, st')) : (x >>= f) st = f a st' := by
  show (StateT.bind x f) st = _
  unfold StateT.bind
  simp only [h]
  rfl

theorem pure_run {α : Type} (a : α) (st : PState) : (pure a : P α) st = .ok (a, st) := rfl

def At (st : PState) (ts : List Tk) : Prop :=
  (st.peekCount = 0 ∧ st.rest.map Item.tk = ts) ∨ (st.peekCount = 1 ∧ (st.tok0 :: st.rest).map Item.tk = ts)

def At1 (st : PState) (ts : List Tk) : Prop :=
  st.peekCount = 1 ∧ (st.tok0 :: st.rest).map Item.tk = ts

def Just (st : PState) (it : Item) (ts : List Tk) : Prop :=
  st.peekCount = 0 ∧ st.tok0 = it ∧ st.rest.map Item.tk = ts

theorem At1.at {st ts} (h : At1 st ts) : At st ts := Or.inr h
theorem Just.at {st it ts} (h : Just st it ts) : At st ts := Or.inl ⟨h.1, h.2.2⟩

theorem at_init (items : List Item) : At (initState items) (items.map Item.tk) := Or.inl ⟨rfl, rfl⟩

theorem tk_eq {it : Item} {t : Tk} (h1 : it.typ = t.typ) (h2 : it.val = t.val) : it.tk = t := by
  cases t; cases it; simp_all [Item.tk]

/-- `At` and `Just` are readings of the stream view of Lemmas/ParserSafe.lean (`at_iff`, `just_iff`); `At1` is used
    unfolded, where a proof needs that `peek` or `next` then `backup` leave the very state (`peek_at1`, `next_backup_at1`) -/
theorem at_iff {st : PState} {ts : List Tk} : At st ts ↔ st.peekCount ≤ 1 ∧ (stream st).map Item.tk = ts := by
  unfold At stream pending
  constructor
  · rintro (⟨h0, h⟩ | ⟨h1, h⟩)
    · exact ⟨by omega, by simpa [h0] using h⟩
    · exact ⟨by omega, by simpa [h1] using h⟩
  · rintro ⟨hpc, h⟩
    by_cases h0 : st.peekCount = 0
    · exact Or.inl ⟨h0, by simpa [h0] using h⟩
    · have h1 : st.peekCount = 1 := by omega
      exact Or.inr ⟨h1, by simpa [h1] using h⟩

theorem just_iff {st : PState} {it : Item} {ts : List Tk} :
    Just st it ts ↔ st.peekCount = 0 ∧ top st = it ∧ (stream st).map Item.tk = ts := by
  unfold Just
  constructor <;> rintro ⟨h0, h1, h2⟩ <;> exact ⟨h0, by simpa [top, h0] using h1, by simpa [stream, pending, h0] using h2⟩

theorem next_at {st : PState} {t : Tk} {ts : List Tk} (h : At st (t :: ts)) :
    ∃ it st', next st = .ok (it, st') ∧ it.typ = t.typ ∧ it.val = t.val ∧ Just st' it ts := by
  obtain ⟨hpc, hs⟩ := at_iff.mp h
  obtain ⟨x, s, hx, rfl, rfl⟩ := List.map_eq_cons_iff.mp hs
  obtain ⟨st', hn, hs', ht, hp⟩ := stream_next (by omega) hx
  exact ⟨x, st', hn, rfl, rfl, just_iff.mpr ⟨by omega, ht, congrArg _ hs'⟩⟩

theorem backup_just {st : PState} {it : Item} {ts : List Tk} (h : Just st it ts) :
    ∃ st', backup st = .ok ((), st') ∧ At1 st' (it.tk :: ts) := by
  obtain ⟨h0, ht, hs⟩ := just_iff.mp h
  obtain ⟨st', hb, hs', hp⟩ := stream_backup (st := st) (by omega)
  have h1 : st'.peekCount = 1 := by omega
  have hm : (stream st').map Item.tk = it.tk :: ts := by rw [hs', List.map_cons, ht, hs]
  exact ⟨st', hb, h1, by simpa [stream, pending, h1] using hm⟩

theorem next_backup_at1 {st : PState} {t : Tk} {ts : List Tk} (h : At1 st (t :: ts)) :
    ∃ it st', next st = .ok (it, st') ∧ it.typ = t.typ ∧ it.val = t.val ∧ backup st' = .ok ((), st) := by
  obtain ⟨h1, hr⟩ := h
  simp at hr
  refine ⟨st.tok0, { st with peekCount := 0 }, next_run1 h1, by rw [← hr.1]; rfl, by rw [← hr.1]; rfl, ?_⟩
  cases st
  simp_all [backup, modify, modifyGet, MonadStateOf.modifyGet, StateT.modifyGet, pure, Except.pure]

theorem peek_at {st : PState} {t : Tk} {ts : List Tk} (h : At st (t :: ts)) :
    ∃ it st', peek st = .ok (it, st') ∧ it.typ = t.typ ∧ it.val = t.val ∧ At1 st' (t :: ts) := by
  obtain ⟨hpc, hs⟩ := at_iff.mp h
  obtain ⟨x, s, hx, rfl, rfl⟩ := List.map_eq_cons_iff.mp hs
  obtain ⟨st', hp, hs', hp1⟩ := stream_peek (by omega) hx
  have h1 : st'.peekCount = 1 := by omega
  refine ⟨x, st', hp, rfl, rfl, h1, ?_⟩
  simpa [stream, pending, h1] using congrArg (List.map Item.tk) hs'

theorem peek_at1 {st : PState} {t : Tk} {ts : List Tk} (h : At1 st (t :: ts)) :
    ∃ it, peek st = .ok (it, st) ∧ it.typ = t.typ ∧ it.val = t.val := by
  obtain ⟨h1, hr⟩ := h
  simp at hr
  refine ⟨st.tok0, ?_, ?_, ?_⟩
  · exact peek_run1 h1
  · rw [← hr.1]; rfl
  · rw [← hr.1]; rfl

theorem expect_at {st : PState} {t : Tk} {ts : List Tk} (h : At st (t :: ts)) :
    ∃ it st', expect t.typ st = .ok (it, st') ∧ it.typ = t.typ ∧ it.val = t.val ∧ Just st' it ts := by
  obtain ⟨it, st', hn, ht, hv, hj⟩ := next_at h
  refine ⟨it, st', ?_, ht, hv, hj⟩
  unfold expect
  rw [bind_ok hn]
  simp [ht, pure_run]


/-! ### success as a judgement

`Ok x st Q`: the action `x` succeeds from `st`, with a result and a state that satisfy `Q` — the success judgement of both
parser monads, the expression parser's `P` and the file parser's `FP` (`Tri`, `PSafe`, `FSafe` are the safety judgements:
no panic, errors positioned).  The round-trip statements (Lemmas/ParserRound.lean and after) conclude with it — `Cont` and
`AStmt` in the unfolded spelling, read by `Cont.ok`, `AStmt.ok` —; with the rules below a proof follows the parser
function action by action. -/

def Ok {σ ε α : Type} (x : StateT σ (Except ε) α) (st : σ) (Q : α → σ → Prop) : Prop := ∃ a st', x st = .ok (a, st') ∧ Q a st'

section
variable {σ ε α β : Type} {x : StateT σ (Except ε) α} {f : α → StateT σ (Except ε) β} {st : σ}

theorem Ok.bind {Q : β → σ → Prop} (h : Ok x st fun a st' => Ok (f a) st' Q) : Ok (x >>= f) st Q := by
  obtain ⟨a, st1, hx, b, st2, hf, hq⟩ := h
  exact ⟨b, st2, by rw [bind_ok hx]; exact hf, hq⟩

theorem Ok.pure {a : α} {Q : α → σ → Prop} (h : Q a st) : Ok (pure a : StateT σ (Except ε) α) st Q :=
  ⟨a, st, rfl, h⟩

theorem Ok.mono {Q Q' : α → σ → Prop} (h : Ok x st Q) (hq : ∀ a st', Q a st' → Q' a st') : Ok x st Q' := by
  obtain ⟨a, st', hx, h⟩ := h
  exact ⟨a, st', hx, hq a st' h⟩

theorem Ok.seq {Q : α → σ → Prop} {R : β → σ → Prop} (h : Ok x st Q) (hf : ∀ a st', Q a st' → Ok (f a) st' R) :
    Ok (x >>= f) st R :=
  Ok.bind (h.mono hf)

theorem Ok.of_eq {st' : σ} {a : α} (h : x st = .ok (a, st')) : Ok x st fun v s => v = a ∧ s = st' :=
  ⟨a, st', h, rfl, rfl⟩

theorem Ok.get {f : σ → StateT σ (Except ε) β} {R : β → σ → Prop} (h : Ok (f st) st R) : Ok (get >>= f) st R := by
  obtain ⟨b, st', hb, hr⟩ := h
  exact ⟨b, st', by rw [bind_ok (show (MonadState.get : StateT σ (Except ε) σ) st = .ok (st, st) from rfl)]; exact hb, hr⟩

end

section
variable {β : Type} {f : Item → P β} {st : PState} {t : Tk} {ts : List Tk} {Q : β → PState → Prop}

theorem Ok.next (h : At st (t :: ts))
    (hf : ∀ it st', it.typ = t.typ → it.val = t.val → Just st' it ts → Ok (f it) st' Q) : Ok (next >>= f) st Q := by
  obtain ⟨it, st', hn, ht, hv, hj⟩ := next_at h
  exact Ok.bind ⟨it, st', hn, hf it st' ht hv hj⟩

theorem Ok.expect (h : At st (t :: ts))
    (hf : ∀ it st', it.typ = t.typ → it.val = t.val → Just st' it ts → Ok (f it) st' Q) : Ok (expect t.typ >>= f) st Q := by
  obtain ⟨it, st', hn, ht, hv, hj⟩ := expect_at h
  exact Ok.bind ⟨it, st', hn, hf it st' ht hv hj⟩

theorem Ok.peek (h : At st (t :: ts))
    (hf : ∀ it st', it.typ = t.typ → it.val = t.val → At1 st' (t :: ts) → Ok (f it) st' Q) : Ok (peek >>= f) st Q := by
  obtain ⟨it, st', hn, ht, hv, h1⟩ := peek_at h
  exact Ok.bind ⟨it, st', hn, hf it st' ht hv h1⟩
end

theorem Ok.backup {β : Type} {f : Unit → P β} {st : PState} {it : Item} {ts : List Tk} {Q : β → PState → Prop}
    (h : Just st it ts) (hf : ∀ st', At1 st' (it.tk :: ts) → Ok (f ()) st' Q) : Ok (backup >>= f) st Q := by
  obtain ⟨st', hb, h1⟩ := backup_just h
  exact Ok.bind ⟨(), st', hb, hf st' h1⟩

/-! ### the file parser's monad on a stream known by its tokens

Props/C17c, C15d and C17d know the stream as `At st.p ts`: types and texts, no positions, so the value of an action — an
item, a node with the positions of its items — comes out with the state.  No token-level action touches a field of the
file parser's state other than `p`; the postconditions say so: `Kept st Q`. -/

section
open SoyVerif.Model.FileParser (FState FP liftP)

/-- the state is `st` with another parser state `p`, of which `Q` holds -/
def Kept (st : FState) (Q : PState → Prop) (st' : FState) : Prop := ∃ p', st' = { st with p := p' } ∧ Q p'

/-- `Ok.seq` behind an action that keeps the state but for `p` -/
theorem Ok.bindK {α β : Type} {m : FP α} {f : α → FP β} {st : FState} {Q : α → PState → Prop} {R : β → FState → Prop}
    (h : Ok m st fun a => Kept st (Q a)) (hf : ∀ a p', Q a p' → Ok (f a) { st with p := p' } R) : Ok (m >>= f) st R :=
  h.seq fun a _ ⟨p', e, hq⟩ => e ▸ hf a p' hq

/-- an action of the expression parser, run by the file parser -/
theorem Ok.lift {α : Type} {x : P α} {st : FState} {Q : α → PState → Prop} (h : Ok x st.p Q) :
    Ok (liftP x) st fun a => Kept st (Q a) := by
  obtain ⟨a, p', hx, hq⟩ := h
  exact ⟨a, { st with p := p' }, by simp [liftP, hx], p', rfl, hq⟩

theorem Ok.fnext {st : FState} {t : Tk} {ts : List Tk} (h : At st.p (t :: ts)) :
    Ok FileParser.next st fun it => Kept st fun p' => it.typ = t.typ ∧ it.val = t.val ∧ Just p' it ts :=
  Ok.lift (next_at h)

theorem Ok.fexpect {st : FState} {t : Tk} {ts : List Tk} (h : At st.p (t :: ts)) :
    Ok (FileParser.expect t.typ) st fun it => Kept st fun p' => it.typ = t.typ ∧ it.val = t.val ∧ Just p' it ts :=
  Ok.lift (expect_at h)

theorem Ok.fbackup {st : FState} {it : Item} {ts : List Tk} (h : Just st.p it ts) :
    Ok FileParser.backup st fun _ => Kept st fun p' => At1 p' (it.tk :: ts) :=
  let ⟨p', hb, h1⟩ := backup_just h
  Ok.lift ⟨(), p', hb, h1⟩

end

/-! ### facts about the generated tables

`TableOK` lists what the proofs use from `Gen/ParseTables.lean`; `Inst/C17.lean` proves it by
`decide` on the tables regenerated from /repo on every run. -/

structure TableOK : Prop where
  /-- `isBinaryOp` holds exactly for the fourteen operators `newBinaryOpNode` knows -/
  binop : ∀ t ∈ ItemType.all, isBinaryOp t = (binOpOf t).isSome
  /-- `isUnaryOp` holds exactly for `not` and unary minus -/
  unop : ∀ t ∈ ItemType.all, isUnaryOp t = (t == .tNot || t == .tNegate)
  /-- the printer's levels are the parser's table shifted by one -/
  prec : ∀ op ∈ BinOp.all, precedence (tokOf op) + 1 = binPrec op
  precNot : precedence .tNot + 1 = precUnary
  precNeg : precedence .tNegate + 1 = precUnary

/-- `ItemType.all` lists the constructors in declaration order -/
theorem mem_all (t : ItemType) : t ∈ ItemType.all :=
  List.mem_of_getElem? (i := t.ctorIdx) (by cases t <;> rfl)

theorem binop_mem_all (op : BinOp) : op ∈ BinOp.all :=
  List.mem_of_getElem? (i := op.ctorIdx) (by cases op <;> rfl)

theorem binOpOf_tokOf (op : BinOp) : binOpOf (tokOf op) = some op := by cases op <;> rfl

theorem tokOf_of_binOpOf {t : ItemType} {op : BinOp} (h : binOpOf t = some op) : t = tokOf op := by
  cases t <;> simp [binOpOf] at h <;> subst h <;> rfl

theorem leftMin_ge (op : BinOp) : binPrec op ≤ leftMin op := by cases op <;> decide
theorem rightMin_le (op : BinOp) : rightMin op ≤ binPrec op + 1 := by cases op <;> decide
theorem binPrec_le (op : BinOp) : binPrec op ≤ precMul := by cases op <;> decide
theorem binPrec_pos (op : BinOp) : 1 ≤ binPrec op := by cases op <;> decide

section
variable (T : TableOK)
include T

theorem isBinaryOp_eq (t : ItemType) : isBinaryOp t = (binOpOf t).isSome := T.binop t (mem_all t)
theorem isUnaryOp_eq (t : ItemType) : isUnaryOp t = (t == .tNot || t == .tNegate) := T.unop t (mem_all t)
theorem isBinaryOp_tokOf (op : BinOp) : isBinaryOp (tokOf op) = true := by
  rw [isBinaryOp_eq T, binOpOf_tokOf]; rfl
theorem prec_tokOf (op : BinOp) : precedence (tokOf op) + 1 = binPrec op := T.prec op (binop_mem_all op)

theorem binop_prec_lt {t : ItemType} (h : isBinaryOp t = true) : precedence t + 1 < precUnary := by
  rw [isBinaryOp_eq T] at h
  cases hb : binOpOf t with
  | none => simp [hb] at h
  | some op =>
    have := tokOf_of_binOpOf hb
    subst this
    have h1 := prec_tokOf T op
    have h2 := binPrec_le op
    simp [precMul, precUnary] at *
    omega
end

/-- the loop of `parseExpr(p)` stops in front of a token of type `h` -/
def Stops (p : Nat) (h : ItemType) : Prop :=
  (isBinaryOp h = false ∨ precedence h < p) ∧ (p = 0 → h ≠ .tTernIf)

section
variable (pf : Bytes → Option UInt64)

/-- the two tests of `exprLoop` in front of such a token -/
theorem Stops.tests {p : Nat} {h : ItemType} (hs : Stops p h) :
    (!isBinaryOp h || decide (precedence h < p)) = true ∧ (p == 0 && h == ItemType.tTernIf) = false := by
  refine ⟨by rcases hs.1 with h | h <;> simp [h], ?_⟩
  by_cases hp : p = 0
  · simp [hs.2 hp]
  · simp [hp]

theorem exprLoop_stop {F p : Nat} {e : Expr} {st : PState} {t : Tk} {ts : List Tk}
    (hst : At st (t :: ts)) (hs : Stops p t.typ) :
    Ok (exprLoop pf (F + 1) p e) st fun r st2 => r = e ∧ At1 st2 (t :: ts) := by
  unfold exprLoop
  refine Ok.next hst fun it st1 ht hv hj => ?_
  simp only [ht, hs.tests, if_true, if_false, Bool.false_eq_true]
  exact Ok.backup hj fun st2 h2 => Ok.pure ⟨rfl, tk_eq ht hv ▸ h2⟩

/-- in front of a backed-up token at which it stops, the loop returns the tree in hand in the state it found: what is
    known of its result is known of that tree and state -/
theorem exprLoop_stop1 {F p : Nat} {e : Expr} {st : PState} {t : Tk} {ts : List Tk} {Q : Expr → PState → Prop}
    (hst : At1 st (t :: ts)) (hs : Stops p t.typ) (h : Ok (exprLoop pf (F + 1) p e) st Q) : Q e st := by
  obtain ⟨it, st1, hn, ht, hv, hb⟩ := next_backup_at1 hst
  obtain ⟨r, st2, hr, hq⟩ := h
  unfold exprLoop at hr
  rw [bind_ok hn] at hr
  simp only [ht, hs.tests, if_true, if_false, Bool.false_eq_true] at hr
  rw [bind_ok hb] at hr
  cases hr
  exact hq

/-- at a binary operator above the level: the right operand, then the loop again with the new node -/
theorem exprLoop_bin (T : TableOK) {F p : Nat} {e : Expr} {st : PState} {op : BinOp} {v : Bytes} {ts : List Tk}
    {Q : Expr → PState → Prop} (hst : At st (⟨tokOf op, v⟩ :: ts)) (hp : p + 1 ≤ binPrec op)
    (h : ∀ pos st1, At st1 ts →
      Ok (parseExpr pf F (rightMin op - 1) >>= fun rhs => exprLoop pf F p (Expr.bin op pos e rhs)) st1 Q) :
    Ok (exprLoop pf (F + 1) p e) st Q := by
  unfold exprLoop
  refine Ok.next hst fun it st1 ht _ hj => ?_
  have hq := prec_tokOf T op
  have c1 : (!isBinaryOp (tokOf op) || decide (precedence (tokOf op) < p)) = false := by
    rw [isBinaryOp_tokOf T]
    simp; omega
  have hr : (if (tokOf op == ItemType.tElvis) = true then 0 else binPrec op) = rightMin op - 1 := by cases op <;> rfl
  simp only [show it.typ = tokOf op from ht, c1, if_false, Bool.false_eq_true, binOpOf_tokOf, hq, hr]
  exact h it.pos st1 hj.at

/-- at `?` on level 0: `parseTernary` -/
theorem exprLoop_tern (T : TableOK) {F : Nat} {e : Expr} {st : PState} {v : Bytes} {ts : List Tk} {Q : Expr → PState → Prop}
    (hst : At st (⟨.tTernIf, v⟩ :: ts)) (h : ∀ st1, At st1 ts → Ok (parseTernary pf F e) st1 Q) :
    Ok (exprLoop pf (F + 1) 0 e) st Q := by
  unfold exprLoop
  refine Ok.next hst fun it st1 ht _ hj => ?_
  have c1 : (!isBinaryOp ItemType.tTernIf || decide (precedence ItemType.tTernIf < 0)) = true := by
    rw [isBinaryOp_eq T]; rfl
  simp only [show it.typ = .tTernIf from ht, c1, if_true]
  exact h st1 hj.at
end

end SoyVerif.Lemmas.ParserBasic
