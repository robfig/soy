/-
  Steps 2–4 of `setPlaceholderNames`: whatever the map iteration orders, the result is the
  canonical assignment `canonNames` computed from the step-1 maps alone.
-/
import SoyVerif.Lemmas.MsgSuffix
import SoyVerif.Lemmas.MsgStep1

namespace SoyVerif.Model.Msg

/-- suffixed names for the representatives of one base name, in list order -/
def suffixPairs (keys : List Bytes) (base : Bytes) : List QNode → Nat → List (Bytes × Nat)
  | [], _ => []
  | n :: ns, next =>
    let k := findSuffix keys base (keys.length + 1) next
    (suffixed base k, n.id) :: suffixPairs keys base ns (k + 1)

/-- the `nameToRepNodes` entries contributed by one base name -/
def pairsOf (keys : List Bytes) (e : Bytes × List QNode) : List (Bytes × Nat) :=
  match e.2 with
  | [n] => [(e.1, n.id)]
  | ns => suffixPairs keys e.1 ns 1

/-- canonical `nameToRepNodes`: the entries of the base names in the order of `baseNameToRepNodes` itself -/
def canonPairs (reps : List (Bytes × List QNode)) : List (Bytes × Nat) :=
  reps.flatMap (pairsOf (reps.map Prod.fst))

/-- canonical `nodeToName` -/
def canonNodeToName (s : Step1) : List (Nat × Bytes) :=
  let a := (canonPairs s.reps).map Prod.swap
  a ++ s.equiv.map (fun e => (e.1, (a.lookup e.2).getD []))

def canonNames (n : Nat) (s : Step1) : List Bytes :=
  (List.range n).map fun i => ((canonNodeToName s).lookup i).getD []

theorem suffixPairs_snd (keys : List Bytes) (base : Bytes) :
    ∀ ns next, (suffixPairs keys base ns next).map Prod.snd = ns.map (·.id)
  | [], _ => rfl
  | n :: ns, next => by simp [suffixPairs, suffixPairs_snd keys base ns]

theorem pairsOf_snd (keys : List Bytes) (e : Bytes × List QNode) :
    (pairsOf keys e).map Prod.snd = e.2.map (·.id) := by
  unfold pairsOf
  split
  · next h => simp [h]
  · exact suffixPairs_snd keys e.1 e.2 1

theorem flatMap_pairsOf_snd (keys : List Bytes) (es : List (Bytes × List QNode)) :
    (es.flatMap (pairsOf keys)).map Prod.snd = repIds es := by
  induction es with
  | nil => rfl
  | cons e es ih => simp [repIds_cons, pairsOf_snd, ih]

theorem suffixPairs_fst_spec (keys : List Bytes) (base : Bytes) :
    ∀ ns next x, x ∈ (suffixPairs keys base ns next).map Prod.fst →
      ∃ k, next ≤ k ∧ x = suffixed base k ∧ x ∉ keys
  | [], _, x, h => by simp [suffixPairs] at h
  | n :: ns, next, x, h => by
    simp only [suffixPairs, List.map_cons, List.mem_cons] at h
    rcases h with h | h
    · exact ⟨_, findSuffix_ge keys base _ next, h, h ▸ findSuffix_free keys base next⟩
    · obtain ⟨k, hk, h1, h2⟩ := suffixPairs_fst_spec keys base ns _ x h
      exact ⟨k, Nat.le_trans (Nat.le_succ_of_le (findSuffix_ge keys base _ next)) hk, h1, h2⟩

theorem suffixPairs_fst_nodup (keys : List Bytes) (base : Bytes) :
    ∀ ns next, ((suffixPairs keys base ns next).map Prod.fst).Nodup
  | [], _ => by simp [suffixPairs]
  | n :: ns, next => by
    simp only [suffixPairs, List.map_cons, List.nodup_cons]
    refine ⟨?_, suffixPairs_fst_nodup keys base ns _⟩
    intro hm
    obtain ⟨k, hk, h1, _⟩ := suffixPairs_fst_spec keys base ns _ _ hm
    have := (suffixed_inj h1).2
    omega

theorem pairsOf_fst_spec (keys : List Bytes) (e : Bytes × List QNode) (x : Bytes)
    (h : x ∈ (pairsOf keys e).map Prod.fst) :
    x = e.1 ∨ ∃ k, x = suffixed e.1 k ∧ x ∉ keys := by
  unfold pairsOf at h
  split at h
  · simp at h; exact Or.inl h
  · obtain ⟨k, _, h1, h2⟩ := suffixPairs_fst_spec keys e.1 e.2 1 x h
    exact Or.inr ⟨k, h1, h2⟩

theorem pairsOf_fst_nodup (keys : List Bytes) (e : Bytes × List QNode) :
    ((pairsOf keys e).map Prod.fst).Nodup := by
  unfold pairsOf
  split
  · simp
  · exact suffixPairs_fst_nodup keys e.1 e.2 1

/-- Names assigned under different base names never collide: a suffixed name is not a base
    name, and `base_N` determines `base`. -/
theorem names_disjoint (keys : List Bytes) (e e' : Bytes × List QNode)
    (he : e.1 ∈ keys) (he' : e'.1 ∈ keys) (hne : e.1 ≠ e'.1) (x : Bytes)
    (hx : x ∈ (pairsOf keys e).map Prod.fst) (hx' : x ∈ (pairsOf keys e').map Prod.fst) : False := by
  rcases pairsOf_fst_spec keys e x hx with h | ⟨k, h, hk⟩
  · rcases pairsOf_fst_spec keys e' x hx' with h' | ⟨k', _, hk'⟩
    · exact hne (h ▸ h')
    · exact hk' (h ▸ he)
  · rcases pairsOf_fst_spec keys e' x hx' with h' | ⟨k', h', _⟩
    · exact hk (h' ▸ he')
    · exact hne (suffixed_inj (h ▸ h')).1

theorem flatMap_names_nodup (keys : List Bytes) :
    ∀ es : List (Bytes × List QNode), (es.map Prod.fst).Nodup → (∀ e ∈ es, e.1 ∈ keys) →
      ((es.flatMap (pairsOf keys)).map Prod.fst).Nodup
  | [], _, _ => by simp
  | e :: es, nd, hk => by
    simp only [List.map_cons, List.nodup_cons] at nd
    simp only [List.flatMap_cons, List.map_append]
    rw [List.nodup_append]
    refine ⟨pairsOf_fst_nodup keys e, flatMap_names_nodup keys es nd.2 (fun e he => hk e (by simp [he])), ?_⟩
    intro a ha b hb hab
    subst hab
    simp only [List.map_flatMap, List.mem_flatMap] at hb
    obtain ⟨e', he', hb⟩ := hb
    refine names_disjoint keys e e' (hk e (by simp)) (hk e' (by simp [he'])) ?_ a ha hb
    intro heq
    exact nd.1 (heq ▸ List.mem_map_of_mem he')

theorem canonPairs_names_nodup (reps : List (Bytes × List QNode)) (nd : (reps.map Prod.fst).Nodup) :
    ((canonPairs reps).map Prod.fst).Nodup :=
  flatMap_names_nodup _ reps nd (fun _ he => List.mem_map_of_mem he)

theorem assignSuffixes_eq (keys : List Bytes) (base : Bytes) :
    ∀ ns next (m : List (Bytes × Nat)),
      (m.map Prod.fst ++ (suffixPairs keys base ns next).map Prod.fst).Nodup →
      assignSuffixes keys base ns next m = m ++ suffixPairs keys base ns next
  | [], _, m, _ => by simp [assignSuffixes, suffixPairs]
  | n :: ns, next, m, nd => by
    simp only [suffixPairs, List.map_cons] at nd
    have hk : suffixed base (findSuffix keys base (keys.length + 1) next) ∉ m.map Prod.fst := by
      intro hm
      exact (List.nodup_append.mp nd).2.2 _ hm _ (by simp) rfl
    simp only [assignSuffixes, suffixPairs, mapSet_fresh hk]
    rw [assignSuffixes_eq keys base ns _ _ (by simpa [List.append_assoc] using nd)]
    simp

theorem step2Entry_eq (keys : List Bytes) (m : List (Bytes × Nat)) (e : Bytes × List QNode)
    (nd : (m.map Prod.fst ++ (pairsOf keys e).map Prod.fst).Nodup) :
    step2Entry keys m e = m ++ pairsOf keys e := by
  unfold step2Entry
  unfold pairsOf at nd ⊢
  split
  · next n h =>
    simp only [h] at nd ⊢
    have hk : e.1 ∉ m.map Prod.fst := by
      intro hm
      exact (List.nodup_append.mp nd).2.2 _ hm _ (by simp) rfl
    exact mapSet_fresh hk
  · next h =>
    split at nd
    · next n h' => exact absurd h' (h n)
    · exact assignSuffixes_eq keys e.1 e.2 1 m nd

theorem step2_foldl_eq (keys : List Bytes) :
    ∀ (es : List (Bytes × List QNode)) (m : List (Bytes × Nat)),
      (m.map Prod.fst ++ (es.flatMap (pairsOf keys)).map Prod.fst).Nodup →
      es.foldl (step2Entry keys) m = m ++ es.flatMap (pairsOf keys)
  | [], m, _ => by simp
  | e :: es, m, nd => by
    simp only [List.flatMap_cons, List.map_append] at nd
    have nd1 : (m.map Prod.fst ++ (pairsOf keys e).map Prod.fst).Nodup := by
      rw [← List.append_assoc] at nd
      exact (List.nodup_append.mp nd).1
    simp only [List.foldl_cons, step2Entry_eq keys m e nd1]
    rw [step2_foldl_eq keys es _ (by simpa [List.append_assoc] using nd)]
    simp

/-- Step 2 yields, for any iteration order, the per-base-name blocks in that order. -/
theorem step2_eq (o : Orders) (ho : o.Valid) (reps : List (Bytes × List QNode))
    (nd : (reps.map Prod.fst).Nodup) :
    step2 o reps = (o.reps reps).flatMap (pairsOf (reps.map Prod.fst)) ∧
    (step2 o reps).Perm (canonPairs reps) := by
  have hp : ((o.reps reps).flatMap (pairsOf (reps.map Prod.fst))).Perm (canonPairs reps) :=
    List.Perm.flatMap_right _ (ho.reps reps)
  have hnd : (((o.reps reps).flatMap (pairsOf (reps.map Prod.fst))).map Prod.fst).Nodup :=
    (hp.map Prod.fst).nodup_iff.mpr (canonPairs_names_nodup reps nd)
  have : step2 o reps = (o.reps reps).flatMap (pairsOf (reps.map Prod.fst)) := by
    unfold step2
    rw [step2_foldl_eq _ _ [] (by simpa using hnd)]
    simp
  exact ⟨this, this ▸ hp⟩

theorem map_swap_fst (l : List (Bytes × Nat)) : (l.map Prod.swap).map Prod.fst = l.map Prod.snd := by
  simp [Prod.swap, List.map_map, Function.comp_def]

theorem canonPairs_swap_keys (reps : List (Bytes × List QNode)) :
    ((canonPairs reps).map Prod.swap).map Prod.fst = repIds reps := by
  rw [map_swap_fst, canonPairs, flatMap_pairsOf_snd]

/-- second loop of step 3: every equivalent node receives the name of its representative,
    read from the map under construction — which never differs from the first-loop map
    on a representative, because representatives are not keys of `equivNodeToRepNodes`.
    `m₀` is the first-loop map, `K` the keys of `equivNodeToRepNodes`, `extra` what the loop has appended so far. -/
theorem step3_equiv_foldl (m₀ : List (Nat × Bytes)) (K : List Nat) :
    ∀ (es : List (Nat × Nat)) (extra : List (Nat × Bytes)),
      (∀ k ∈ extra.map Prod.fst, k ∈ K) → (∀ e ∈ es, e.1 ∈ K ∧ e.2 ∉ K) →
      ((m₀ ++ extra).map Prod.fst ++ es.map Prod.fst).Nodup →
      es.foldl (fun m e => mapSet m e.1 ((m.lookup e.2).getD [])) (m₀ ++ extra) =
        m₀ ++ extra ++ es.map (fun e => (e.1, (m₀.lookup e.2).getD []))
  | [], extra, _, _, _ => by simp
  | e :: es, extra, hex, hes, nd => by
    have he := hes e (by simp)
    have hfresh : e.1 ∉ (m₀ ++ extra).map Prod.fst := by
      intro hm
      simp only [List.map_cons] at nd
      exact (List.nodup_append.mp nd).2.2 _ hm e.1 (by simp) rfl
    have hlook : (m₀ ++ extra).lookup e.2 = m₀.lookup e.2 :=
      lookup_append_left_of_not_mem (fun hm => he.2 (hex _ hm))
    simp only [List.foldl_cons, hlook, mapSet_fresh hfresh]
    rw [List.append_assoc]
    rw [step3_equiv_foldl m₀ K es (extra ++ [(e.1, (m₀.lookup e.2).getD [])])]
    · simp
    · intro k hk
      simp only [List.map_append, List.map_cons, List.map_nil, List.mem_append, List.mem_singleton] at hk
      rcases hk with hk | hk
      · exact hex k hk
      · exact hk ▸ he.1
    · intro e' he'
      exact hes e' (by simp [he'])
    · simp only [List.map_cons] at nd
      simpa [List.append_assoc] using nd

theorem canonNodeToName_keys (s : Step1) :
    (canonNodeToName s).map Prod.fst = repIds s.reps ++ s.equiv.map Prod.fst := by
  unfold canonNodeToName
  rw [List.map_append, canonPairs_swap_keys, List.map_map]
  rfl

/-- Step 3 yields, for any iteration orders, a permutation of the canonical `nodeToName`. -/
theorem step3_perm (o : Orders) (ho : o.Valid) {done : List QNode} {s : Step1} (inv : Inv1 done s)
    (nd : (done.map (·.id)).Nodup) (N : List (Bytes × Nat)) (hN : N.Perm (canonPairs s.reps)) :
    (step3 o N s.equiv).Perm (canonNodeToName s) ∧ ((canonNodeToName s).map Prod.fst).Nodup := by
  have hkeysNd := inv.ids_nodup nd
  have hcanonNd : ((canonNodeToName s).map Prod.fst).Nodup := by
    rw [canonNodeToName_keys]; exact hkeysNd
  refine ⟨?_, hcanonNd⟩
  -- first loop
  have hpa : ((o.names N).map Prod.swap).Perm ((canonPairs s.reps).map Prod.swap) :=
    ((ho.names N).trans hN).map Prod.swap
  have hakeys := canonPairs_swap_keys s.reps
  have haNd : (((canonPairs s.reps).map Prod.swap).map Prod.fst).Nodup := by
    rw [hakeys]; exact (List.nodup_append.mp hkeysNd).1
  have haoNd : (((o.names N).map Prod.swap).map Prod.fst).Nodup := (hpa.map Prod.fst).nodup_iff.mpr haNd
  have hfirst : (o.names N).foldl (fun m e => mapSet m e.2 e.1) ([] : List (Nat × Bytes))
      = (o.names N).map Prod.swap := by
    have := foldl_mapSet_fresh Prod.swap (o.names N) ([] : List (Nat × Bytes))
      (by simpa [map_swap_fst, Prod.swap, List.map_map, Function.comp_def] using haoNd)
    simpa [Prod.swap] using this
  -- second loop
  have hpe : (o.equiv s.equiv).Perm s.equiv := ho.equiv s.equiv
  have hsecond := step3_equiv_foldl ((o.names N).map Prod.swap) (s.equiv.map Prod.fst) (o.equiv s.equiv) []
    (by simp)
    (by
      intro e he
      have he' : e ∈ s.equiv := hpe.mem_iff.mp he
      refine ⟨List.mem_map_of_mem he', ?_⟩
      intro hm
      exact (List.nodup_append.mp hkeysNd).2.2 _ (inv.rep e he') _ hm rfl)
    (by
      have h1 : (((o.names N).map Prod.swap).map Prod.fst ++ (o.equiv s.equiv).map Prod.fst).Perm
          (repIds s.reps ++ s.equiv.map Prod.fst) := by
        refine List.Perm.append ?_ (hpe.map Prod.fst)
        rw [← hakeys]; exact hpa.map Prod.fst
      simpa using h1.nodup_iff.mpr hkeysNd)
  unfold step3
  simp only [hfirst]
  simp only [List.append_nil] at hsecond
  rw [hsecond]
  unfold canonNodeToName
  refine List.Perm.append hpa ?_
  have hg : ∀ e : Nat × Nat, (((o.names N).map Prod.swap).lookup e.2).getD [] =
      (((canonPairs s.reps).map Prod.swap).lookup e.2).getD [] := by
    intro e
    rw [lookup_perm hpa haoNd]
  simp only [hg]
  exact hpe.map _

theorem step4_eq (o : Orders) (ho : o.Valid) (n : Nat) (M C : List (Nat × Bytes))
    (hp : M.Perm C) (hnd : (C.map Prod.fst).Nodup) :
    step4 o n M = (List.range n).map fun i => (C.lookup i).getD [] := by
  have hp' : (o.nodes M).Perm C := (ho.nodes M).trans hp
  have hnd' : ((o.nodes M).map Prod.fst).Nodup := (hp'.map Prod.fst).nodup_iff.mpr hnd
  apply List.ext_getElem?
  intro i
  unfold step4
  rw [foldl_set_getElem? _ _ i hnd', lookup_perm hp' hnd']
  by_cases hi : i < n
  · simp [hi]
  · simp [hi]

theorem setNamesQ_eq_canon (o : Orders) (ho : o.Valid) (q : List QNode) (nd : (q.map (·.id)).Nodup) :
    setNamesQ o q = canonNames q.length (step1 q) := by
  have inv := inv1_step1 q nd
  have h2 := step2_eq o ho (step1 q).reps inv.keys
  have h3 := step3_perm o ho inv nd (step2 o (step1 q).reps) h2.2
  unfold setNamesQ canonNames
  exact step4_eq o ho q.length _ _ h3.1 h3.2

end SoyVerif.Model.Msg
