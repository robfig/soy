/-
  The checker's state-passing walk characterised by pure data: a computation `m : C Unit`
  is `Framed m P T D` when, started in any state whose bindings spell the environment `env`,
  it succeeds iff `P env`, and then the final state is the initial one with the bindings `D`
  declared (unused) and the targets `T env` marked in addition to what was marked before (`after`).
  In particular the walk never changes names or the number of outer bindings (`envOf_after`).
-/
import SoyVerif.Model.Check
import SoyVerif.Spec.Valid

namespace SoyVerif.Lemmas.Check
open SoyVerif SoyVerif.Model SoyVerif.Model.Check SoyVerif.Spec

def exec (m : C Unit) (st : CState) : Option CState := (m.run st).map (·.2)

theorem exec_pure (st : CState) : exec (pure ()) st = some st := rfl
theorem exec_reject (st : CState) : exec reject st = none := rfl
theorem exec_bind (a : C Unit) (f : Unit → C Unit) (st : CState) :
    exec (a >>= f) st = (exec a st).bind (fun s => exec (f ()) s) := by
  simp only [exec, StateT.run_bind]
  cases h : a.run st <;> simp [bind, Option.bind]
theorem exec_get_bind (f : CState → C Unit) (st : CState) : exec (get >>= f) st = exec (f st) st := by
  simp [exec, StateT.run_bind, StateT.run_get]
theorem exec_set (s st : CState) : exec (set s) st = some s := rfl
theorem exec_modify (f : CState → CState) (st : CState) : exec (modify f) st = some (f st) := rfl

/-- the environment a binding stack spells -/
def envOf (vs : List Check.Binding) : Env := vs.map fun v => { name := v.name, isLet := v.isLet }

def fresh (b : Spec.Binding) : Check.Binding := { name := b.name, isLet := b.isLet, used := false }

def markAll (T : List Target) (vs : List Check.Binding) : List Check.Binding :=
  vs.mapIdx fun i v => { v with used := v.used || T.contains (.var i) }

/-- the param a target is, if it is one: what `usedKeys` gains -/
def keyOf : Target → Option Bytes
  | .param k => some k
  | _ => none

def keysOf (T : List Target) : List Bytes := T.filterMap keyOf

def after (st : CState) (D : List Spec.Binding) (T : List Target) : CState :=
  { vars := markAll T (st.vars ++ D.map fresh), usedKeys := st.usedKeys ++ keysOf T }

@[simp] theorem envOf_append (a b : List Check.Binding) : envOf (a ++ b) = envOf a ++ envOf b := by
  simp [envOf]

@[simp] theorem envOf_length (a : List Check.Binding) : (envOf a).length = a.length := by simp [envOf]

@[simp] theorem envOf_fresh (D : List Spec.Binding) : envOf (D.map fresh) = D := by
  induction D with
  | nil => rfl
  | cons b r ih => simpa [envOf, fresh] using ih

@[simp] theorem markAll_length (T : List Target) (vs : List Check.Binding) :
    (markAll T vs).length = vs.length := by simp [markAll]

@[simp] theorem envOf_markAll (T : List Target) (vs : List Check.Binding) :
    envOf (markAll T vs) = envOf vs := by
  apply List.ext_getElem?
  intro i
  simp only [envOf, markAll, List.getElem?_map, List.getElem?_mapIdx]
  cases vs[i]? <;> simp

@[simp] theorem envOf_after (st : CState) (D : List Spec.Binding) (T : List Target) :
    envOf (after st D T).vars = envOf st.vars ++ D := by simp [after]

@[simp] theorem markAll_nil (vs : List Check.Binding) : markAll [] vs = vs := by
  apply List.ext_getElem?
  intro i
  simp only [markAll, List.getElem?_mapIdx]
  cases vs[i]? <;> simp

theorem markAll_markAll (T U : List Target) (vs : List Check.Binding) :
    markAll U (markAll T vs) = markAll (T ++ U) vs := by
  apply List.ext_getElem?
  intro i
  simp only [markAll, List.getElem?_mapIdx]
  cases vs[i]? <;> simp [Bool.or_assoc]

theorem markAll_append (T : List Target) (xs ys : List Check.Binding) :
    markAll T (xs ++ ys)
      = markAll T xs ++ ys.mapIdx fun j v => { v with used := v.used || T.contains (.var (j + xs.length)) } := by
  simp [markAll, List.mapIdx_append]

theorem markAll_append_of_below (T : List Target) (xs ys : List Check.Binding)
    (h : ∀ t ∈ T, t.below xs.length = true) : markAll T (xs ++ ys) = markAll T xs ++ ys := by
  rw [markAll_append]
  congr 1
  apply List.ext_getElem?
  intro j
  simp only [List.getElem?_mapIdx]
  cases hy : ys[j]? with
  | none => rfl
  | some v =>
    have : T.contains (.var (j + xs.length)) = false := by
      rw [Bool.eq_false_iff]
      intro hc
      have := h _ (List.contains_iff_mem.mp hc)
      simp [Target.below] at this
      omega
    rw [this]
    simp

theorem markAll_congr {T U : List Target} {vs : List Check.Binding}
    (h : ∀ i, i < vs.length → T.contains (.var i) = U.contains (.var i)) : markAll T vs = markAll U vs := by
  simp only [markAll]
  rw [List.mapIdx_eq_mapIdx_iff]
  intro i hi
  rw [h i hi]

theorem markAll_no_var {T : List Target} (h : ∀ i, Target.var i ∉ T) (vs : List Check.Binding) :
    markAll T vs = vs :=
  (markAll_congr (U := []) fun i _ => by simpa using h i).trans (markAll_nil vs)

theorem markAll_filter_below (T : List Target) (vs : List Check.Binding) :
    markAll (T.filter (Target.below vs.length)) vs = markAll T vs :=
  markAll_congr fun i hi => by rw [Bool.eq_iff_iff]; simp [List.mem_filter, Target.below, hi]

theorem keysOf_append (T U : List Target) : keysOf (T ++ U) = keysOf T ++ keysOf U := by
  simp [keysOf]

theorem keysOf_filter_below (T : List Target) (n : Nat) : keysOf (T.filter (Target.below n)) = keysOf T := by
  induction T with
  | nil => rfl
  | cons t r ih =>
    simp only [keysOf] at ih ⊢
    cases t with
    | ij => simp [List.filter_cons, List.filterMap_cons, Target.below, keyOf, ih]
    | param k => simp [List.filter_cons, Target.below, keyOf, ih]
    | var i =>
      simp only [List.filter_cons, Target.below]
      by_cases h : i < n <;> simp [h, List.filterMap_cons, keyOf, ih]

theorem mem_keysOf {T : List Target} {k : Bytes} : k ∈ keysOf T ↔ Target.param k ∈ T := by
  simp only [keysOf, List.mem_filterMap]
  constructor
  · rintro ⟨t, ht, hk⟩
    cases t <;> simp_all [keyOf]
  · intro h
    exact ⟨_, h, rfl⟩

@[simp] theorem after_nil (st : CState) : after st [] [] = st := by
  simp [after, keysOf]

theorem after_after_nil (st : CState) (D : List Spec.Binding) (T U : List Target) :
    after (after st D T) [] U = after st D (T ++ U) := by
  simp [after, markAll_markAll, keysOf_append]

theorem after_after (st : CState) (D E : List Spec.Binding) (T U : List Target)
    (h : ∀ t ∈ T, t.below (st.vars.length + D.length) = true) :
    after (after st D T) E U = after st (D ++ E) (T ++ U) := by
  have h' : ∀ t ∈ T, t.below (st.vars ++ D.map fresh).length = true := by simpa using h
  simp only [after, CState.mk.injEq]
  refine ⟨?_, by simp [keysOf_append]⟩
  rw [← markAll_markAll, List.map_append, ← List.append_assoc, markAll_append_of_below T _ _ h']

theorem after_filter_below (st : CState) (T : List Target) :
    after st [] (T.filter (Target.below st.vars.length)) = after st [] T := by
  simp [after, markAll_filter_below, keysOf_filter_below]

/-- `P` and `T` are given the environment at the START of `m`: sequencing applies those of the second computation
    at `env ++ D`. -/
def Framed (m : C Unit) (P : Env → Prop) (T : Env → List Target) (D : List Spec.Binding) : Prop :=
  ∀ st st', exec m st = some st' ↔ P (envOf st.vars) ∧ st' = after st D (T (envOf st.vars))

theorem Framed.congr {m : C Unit} {P P' : Env → Prop} {T T' : Env → List Target} {D : List Spec.Binding}
    (h : Framed m P T D) (hP : ∀ env, P' env ↔ P env) (hT : ∀ env, T' env = T env) : Framed m P' T' D := by
  intro st st'
  rw [h st st', hP, hT]

theorem Framed.pure : Framed (pure ()) (fun _ => True) (fun _ => []) [] := by
  intro st st'
  simp [exec_pure, eq_comm]

theorem Framed.reject : Framed reject (fun _ => False) (fun _ => []) [] := by
  intro st st'
  simp [exec_reject]

theorem Framed.declare (name : Bytes) (isLet : Bool) :
    Framed (declare name isLet) (fun _ => True) (fun _ => []) [{ name := name, isLet := isLet }] := by
  intro st st'
  simp [Check.declare, exec_modify, after, fresh, keysOf, eq_comm]

/-- Sequencing: `seq` when the second computation declares nothing, `seq0` when neither does, `seqD` in general —
    then the targets of the first must lie below the bindings it leaves, so that marking them does not touch what
    the second declares. -/
theorem Framed.seq {a b : C Unit} {P Q : Env → Prop} {T U : Env → List Target} {D : List Spec.Binding}
    (ha : Framed a P T D) (hb : Framed b Q U []) :
    Framed (a >>= fun _ => b) (fun env => P env ∧ Q (env ++ D)) (fun env => T env ++ U (env ++ D)) D := by
  intro st st''
  rw [exec_bind, Option.bind_eq_some_iff]
  constructor
  · rintro ⟨st', h1, h2⟩
    obtain ⟨hp, rfl⟩ := (ha st st').mp h1
    obtain ⟨hq, rfl⟩ := (hb _ st'').mp h2
    simp only [envOf_after] at hq ⊢
    exact ⟨⟨hp, hq⟩, after_after_nil ..⟩
  · rintro ⟨⟨hp, hq⟩, rfl⟩
    refine ⟨_, (ha st _).mpr ⟨hp, rfl⟩, (hb _ _).mpr ⟨?_, ?_⟩⟩
    · simpa using hq
    · simp [after_after_nil]

theorem Framed.seq0 {a b : C Unit} {P Q : Env → Prop} {T U : Env → List Target}
    (ha : Framed a P T []) (hb : Framed b Q U []) :
    Framed (a >>= fun _ => b) (fun env => P env ∧ Q env) (fun env => T env ++ U env) [] :=
  (ha.seq hb).congr (fun env => by simp) (fun env => by simp)

theorem Framed.seqD {a b : C Unit} {P Q : Env → Prop} {T U : Env → List Target} {D E : List Spec.Binding}
    (ha : Framed a P T D) (hb : Framed b Q U E)
    (hT : ∀ env, ∀ t ∈ T env, t.below (env.length + D.length) = true) :
    Framed (a >>= fun _ => b) (fun env => P env ∧ Q (env ++ D)) (fun env => T env ++ U (env ++ D)) (D ++ E) := by
  have hT' : ∀ st : CState, ∀ t ∈ T (envOf st.vars), t.below (st.vars.length + D.length) = true := by
    intro st t ht
    simpa using hT (envOf st.vars) t ht
  intro st st''
  rw [exec_bind, Option.bind_eq_some_iff]
  constructor
  · rintro ⟨st', h1, h2⟩
    obtain ⟨hp, rfl⟩ := (ha st st').mp h1
    obtain ⟨hq, rfl⟩ := (hb _ st'').mp h2
    simp only [envOf_after] at hq ⊢
    exact ⟨⟨hp, hq⟩, after_after _ _ _ _ _ (hT' st)⟩
  · rintro ⟨⟨hp, hq⟩, rfl⟩
    refine ⟨_, (ha st _).mpr ⟨hp, rfl⟩, (hb _ _).mpr ⟨?_, ?_⟩⟩
    · simpa using hq
    · simp [after_after _ _ _ _ _ (hT' st)]

/-- every let among the bindings `D` declared at height `n` is a target in `T` -/
def AllUsed (n : Nat) (D : List Spec.Binding) (T : List Target) : Prop :=
  ∀ j b, D[j]? = some b → b.isLet = true → Target.var (n + j) ∈ T

theorem exec_leaveScope (n : Nat) (st : CState) :
    exec (leaveScope n) st =
      if (st.vars.drop n).any (fun v => v.isLet && !v.used) then none
      else some { st with vars := st.vars.take n } := by
  simp only [leaveScope, exec_get_bind]
  split <;> simp [exec_reject, exec_set]

/-- Leaving the scope entered at `st` after `D` was declared and `T` marked: above the old height the stack is `D`
    with its marks (`hdrop`), so no unused let is left iff `AllUsed` (`hany`); below it is the old stack with the
    marks of `T` (`htake`), which is all that remains. -/
theorem exec_leaveScope_after (st : CState) (D : List Spec.Binding) (T : List Target) (st' : CState) :
    exec (leaveScope st.vars.length) (after st D T) = some st'
      ↔ AllUsed st.vars.length D T ∧ st' = after st [] (T.filter (Target.below st.vars.length)) := by
  rw [exec_leaveScope, after_filter_below]
  have hdrop : (after st D T).vars.drop st.vars.length
      = (D.map fresh).mapIdx fun j v => { v with used := v.used || T.contains (.var (j + st.vars.length)) } := by
    simp only [after, markAll_append]
    rw [List.drop_left' (by simp)]
  have htake : (markAll T (st.vars ++ D.map fresh)).take st.vars.length = markAll T st.vars := by
    simp only [markAll_append]
    rw [List.take_left' (by simp)]
  have hany : ((after st D T).vars.drop st.vars.length).any (fun v => v.isLet && !v.used) = false
      ↔ AllUsed st.vars.length D T := by
    rw [hdrop, List.any_eq_false]
    constructor
    · intro h j b hj hb
      have hm := h { fresh b with used := (fresh b).used || T.contains (.var (j + st.vars.length)) } (by
        rw [List.mem_iff_getElem?]
        exact ⟨j, by simp [List.getElem?_mapIdx, hj]⟩)
      simp [fresh, hb] at hm
      rwa [Nat.add_comm]
    · intro h v hv
      rw [List.mem_iff_getElem?] at hv
      obtain ⟨j, hj⟩ := hv
      simp only [List.getElem?_mapIdx, List.getElem?_map] at hj
      cases hD : D[j]? with
      | none => simp [hD] at hj
      | some b =>
        simp [hD] at hj
        subst hj
        cases hb : b.isLet with
        | false => simp [fresh, hb]
        | true =>
          have := h j b hD hb
          rw [Nat.add_comm] at this
          simp [fresh, this]
  by_cases hA : AllUsed st.vars.length D T
  · rw [if_neg (by rw [hany.mpr hA]; simp)]
    simp only [hA, true_and, after, htake, List.append_nil, List.map_nil, Option.some.injEq]
    exact eq_comm
  · have : ((after st D T).vars.drop st.vars.length).any (fun v => v.isLet && !v.used) = true := by
      cases h : ((after st D T).vars.drop st.vars.length).any (fun v => v.isLet && !v.used) with
      | true => rfl
      | false => exact absurd (hany.mp h) hA
    simp [this, hA]

/-- a scope (`checkBlock` and the loop body are `inScope` by unfolding): what the body declared must have been
    used, and is gone afterwards -/
theorem Framed.scope {m : C Unit} {P : Env → Prop} {T : Env → List Target} {D : List Spec.Binding}
    (h : Framed m P T D) :
    Framed (Check.inScope m)
      (fun env => P env ∧ AllUsed env.length D (T env))
      (fun env => (T env).filter (Target.below env.length)) [] := by
  intro st st''
  simp only [Check.inScope]
  rw [exec_get_bind, exec_bind, Option.bind_eq_some_iff]
  constructor
  · rintro ⟨st', h1, h2⟩
    obtain ⟨hp, rfl⟩ := (h st st').mp h1
    rw [exec_leaveScope_after] at h2
    simpa [hp] using h2
  · rintro ⟨⟨hp, hu⟩, rfl⟩
    refine ⟨_, (h st _).mpr ⟨hp, rfl⟩, ?_⟩
    rw [exec_leaveScope_after]
    simpa using hu

theorem AllUsed_nil (n : Nat) (T : List Target) : AllUsed n [] T := by
  intro j b hj
  simp at hj

/-- nothing declared: the scope is transparent (the targets `scope` filters away mark nothing,
    `after_filter_below`) -/
theorem Framed.inScope {m : C Unit} {P : Env → Prop} {T : Env → List Target} (h : Framed m P T []) :
    Framed (inScope m) P T [] := by
  intro st st''
  rw [h.scope st st'']
  simp only [AllUsed_nil, and_true]
  rw [envOf_length, after_filter_below]

end SoyVerif.Lemmas.Check
