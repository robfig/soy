/-
  Looking an entry up by a key (first match): when the keys of a list are pairwise distinct, the entry found
  does not depend on the order of the list.  Go maps kept as association lists, the template registry and the
  file list are all searched this way.
-/
namespace SoyVerif.FirstMatch

variable {α κ : Type} [BEq κ] [LawfulBEq κ]

theorem find_eq_some_iff (key : α → κ) {l : List α} (nd : (l.map key).Nodup) (k : κ) (a : α) :
    l.find? (fun t => key t == k) = some a ↔ a ∈ l ∧ key a = k := by
  induction l with
  | nil => simp
  | cons g r ih =>
    simp only [List.map_cons, List.nodup_cons] at nd
    simp only [List.find?_cons]
    by_cases hg : key g = k
    · have hb : (key g == k) = true := by simpa using hg
      simp only [hb, Option.some.injEq, List.mem_cons]
      constructor
      · intro e; subst e; exact ⟨Or.inl rfl, hg⟩
      · rintro ⟨e | hm, hn⟩
        · exact e.symm
        · exfalso
          apply nd.1
          rw [hg, ← hn]
          exact List.mem_map_of_mem hm
    · have hb : (key g == k) = false := by simpa using hg
      simp only [hb, ih nd.2, List.mem_cons]
      constructor
      · rintro ⟨hm, hn⟩; exact ⟨Or.inr hm, hn⟩
      · rintro ⟨e | hm, hn⟩
        · subst e; exact absurd hn hg
        · exact ⟨hm, hn⟩

theorem find_perm (key : α → κ) {l l' : List α} (hp : l.Perm l') (nd : (l.map key).Nodup) (k : κ) :
    l.find? (fun t => key t == k) = l'.find? (fun t => key t == k) := by
  have nd' : (l'.map key).Nodup := (hp.map key).nodup_iff.mp nd
  apply Option.ext
  intro a
  rw [find_eq_some_iff key nd, find_eq_some_iff key nd', hp.mem_iff]

end SoyVerif.FirstMatch
