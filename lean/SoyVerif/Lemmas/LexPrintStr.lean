/-
  Per-token lemmas, part 3: string literals.  `stringLexer(q)` consumes exactly a spelling
  `q body q` whose body has no unescaped `q` and no backslash without a successor (`strOk`) —
  for ARBITRARY body bytes: multi-byte runes, invalid UTF-8 (RuneError of width 1), an escaped
  multi-byte rune.  `Printer.quoteString v` is such a spelling for every byte string `v`.
-/
import SoyVerif.Lemmas.LexPrintTok


namespace SoyVerif.Lemmas.LexPrint
open SoyVerif SoyVerif.Model SoyVerif.Model.Lex SoyVerif.Model.PrintTokens

variable {tg : Int}

/-- the inside of a string literal quoted with `q`: a backslash always has a successor (which is
    skipped), and no unescaped `q` occurs -/
def bodyOk (q : UInt8) : Bytes → Bool
  | [] => true
  | [b] => b != 92 && b != q
  | b :: c :: s => if b == 92 then bodyOk q s else b != q && bodyOk q (c :: s)

/-- a string token: an opening quote (`'` or `"`), a body, the same quote -/
def strOk : Bytes → Bool
  | [] => false
  | q :: r => (q == 39 || q == 34) && r.getLast? == some q && bodyOk q r.dropLast

theorem bodyOk_esc (q c : UInt8) (s : Bytes) : bodyOk q (92 :: c :: s) = bodyOk q s := by
  rw [bodyOk]; simp

theorem bodyOk_esc_end (q : UInt8) : bodyOk q [92] = false := by
  rw [bodyOk]; simp

theorem bodyOk_plain {q b : UInt8} (s : Bytes) (h : b ≠ 92) : bodyOk q (b :: s) = (b != q && bodyOk q s) := by
  cases s with
  | nil => rw [bodyOk, bodyOk]; simp [h]
  | cons c s => rw [bodyOk]; simp [h]

theorem bodyOk_drop_hi {q : UInt8} : ∀ (c : Bytes) {t : Bytes}, (∀ x ∈ c, 128 ≤ x.toNat) → bodyOk q (c ++ t) = true →
    bodyOk q t = true
  | [], t, _, h => h
  | x :: c, t, hc, h => by
    have hx := hc x (by simp)
    have h92 : x ≠ 92 := by
      intro e; rw [e] at hx; simp at hx
    simp only [List.cons_append, bodyOk_plain _ h92, Bool.and_eq_true] at h
    exact bodyOk_drop_hi c (fun y hy => hc y (by simp [hy])) h.2

/-- the high bytes a multi-byte rune swallows lie inside the body: the closing quote is ASCII -/
theorem hi_prefix {q : UInt8} (hq : q.toNat < 128) {body rest c s' : Bytes} (h : body ++ q :: rest = c ++ s')
    (hc : ∀ x ∈ c, 128 ≤ x.toNat) : ∃ body', body = c ++ body' ∧ s' = body' ++ q :: rest := by
  induction c generalizing body with
  | nil => exact ⟨body, rfl, by simpa using h.symm⟩
  | cons x c ih =>
    cases body with
    | nil =>
      simp only [List.nil_append, List.cons_append, List.cons.injEq] at h
      have := hc x (by simp)
      rw [← h.1] at this; omega
    | cons y body =>
      simp only [List.cons_append, List.cons.injEq] at h
      obtain ⟨body', h1, h2⟩ := ih h.2 (fun z hz => hc z (by simp [hz]))
      exact ⟨body', by rw [h.1, h1]; rfl, h2⟩

/-- `stringLexer(q)` from inside a literal: it runs to the closing quote and emits the token -/
theorem lexString_body {inp : Array UInt8} {st pe : Nat} {qb : UInt8} {rest : Bytes} {le it : Item} {its : Array Item}
    (hq : qb = 39 ∨ qb = 34)
    (he : ∀ w, (L tg inp pe st w le its).emit .tString = some (L tg inp pe pe w it (its.push it))) :
    ∀ (n : Nat) (body : Bytes) (p : Nat) (w : Int), body.length ≤ n → InpAt inp p (body ++ qb :: rest) →
      bodyOk qb body = true → p + body.length + 1 = pe →
      lexString (qb.toNat : Int) (L tg inp p st w le its) = some (some .insideTag, L tg inp pe pe 1 it (its.push it)) := by
  have hq128 : qb.toNat < 128 := by rcases hq with rfl | rfl <;> decide
  have hq92 : qb.toNat ≠ 92 := by rcases hq with rfl | rfl <;> decide
  have hclose : ∀ (p : Nat) (w : Int), InpAt inp p (qb :: rest) → p + 1 = pe →
      lexString (qb.toNat : Int) (L tg inp p st w le its) = some (some .insideTag, L tg inp pe pe 1 it (its.push it)) := by
    intro p w h hpe
    have hn := next_L (tg := tg) h hq128 st w le its
    rw [lexString_some hn, if_neg (by simp only [eof]; omega), if_neg (by omega), if_pos rfl, hpe, he 1]
  intro n
  induction n with
  | zero =>
    intro body p w hl h hb hpe
    obtain rfl : body = [] := List.eq_nil_of_length_eq_zero (by omega)
    exact hclose p w h hpe
  | succ n ih =>
    intro body p w hl h hb hpe
    cases body with
    | nil => exact hclose p w h hpe
    | cons b s =>
      have h0 : InpAt inp p (b :: (s ++ qb :: rest)) := by simpa using h
      obtain ⟨r, c, s', hcs, hc, hlo, hhi, hn⟩ := next_any (tg := tg) h0 st w le its
      obtain ⟨body', hs, hs'⟩ := hi_prefix hq128 hcs hc
      have htail : InpAt inp (p + (c.length + 1)) s' := by
        have h0' : InpAt inp p ((b :: c) ++ s') := by rw [List.cons_append, ← hcs]; exact h0
        have := inpAt_append h0'
        simpa using this
      have hre : r ≠ eof := by
        by_cases hlt : b.toNat < 128
        · rw [(hlo hlt).1]; simp only [eof]; omega
        · have := hhi (by omega); simp only [eof]; omega
      rw [lexString_some hn, if_neg hre]
      by_cases hb92 : b = 92
      · -- an escape: the next rune is skipped
        subst hb92
        obtain ⟨hr, hcn⟩ := hlo (by decide)
        subst hcn
        simp only [List.nil_append] at hs
        rw [if_pos (by rw [hr]; rfl)]
        rw [hs] at hb hl hpe h0
        cases body' with
        | nil => rw [bodyOk_esc_end] at hb; exact absurd hb (by simp)
        | cons c2 s2 =>
          rw [bodyOk_esc] at hb
          have h1 : InpAt inp (p + 1) (c2 :: (s2 ++ qb :: rest)) := by
            have := inpAt_tail h0; simpa using this
          obtain ⟨r2, c', s'', hcs2, hc2, _, _, hn2⟩ := next_any (tg := tg) h1 st ((([] : Bytes).length + 1 : Nat) : Int) le its
          obtain ⟨body'', hs2, hs2'⟩ := hi_prefix hq128 hcs2 hc2
          have htail2 : InpAt inp (p + 1 + (c'.length + 1)) (body'' ++ qb :: rest) := by
            have h1' : InpAt inp (p + 1) ((c2 :: c') ++ s'') := by rw [List.cons_append, ← hcs2]; exact h1
            have := inpAt_append h1'
            rw [hs2'] at this
            simpa using this
          simp only [List.length_nil, Nat.zero_add] at hn2 ⊢
          rw [hn2]
          simp only
          subst hs2
          refine ih body'' _ _ ?_ htail2 (bodyOk_drop_hi c' hc2 hb) ?_
          · simp only [List.length_cons, List.length_append] at hl; omega
          · simp only [List.length_cons, List.length_append] at hpe; omega
      · -- an ordinary rune
        rw [bodyOk_plain _ hb92] at hb
        simp only [Bool.and_eq_true, bne_iff_ne, ne_eq] at hb
        have hrq : r ≠ (qb.toNat : Int) ∧ r ≠ 92 ∧ r ≠ eof := by
          by_cases hlt : b.toNat < 128
          · obtain ⟨hr, _⟩ := hlo hlt
            rw [hr]
            refine ⟨?_, ?_, by simp only [eof]; omega⟩
            · intro e; apply hb.1; exact UInt8.toNat_inj.mp (by omega)
            · intro e; apply hb92; exact UInt8.toNat_inj.mp (by simp; omega)
          · have := hhi (by omega)
            refine ⟨by omega, by omega, by simp only [eof]; omega⟩
        rw [if_neg hrq.2.1, if_neg hrq.1]
        subst hs
        rw [hs'] at htail
        refine ih body' _ _ ?_ htail (bodyOk_drop_hi c hc hb.2) ?_
        · simp only [List.length_cons, List.length_append] at hl; omega
        · simp only [List.length_cons, List.length_append] at hpe; omega

theorem dropLast_getLast? {α} (r : List α) (q : α) (h : r.getLast? = some q) : r.dropLast ++ [q] = r := by
  have hne : r ≠ [] := by intro e; rw [e] at h; simp at h
  have := List.dropLast_concat_getLast hne
  rw [List.getLast?_eq_some_getLast hne] at h
  simp only [Option.some.injEq] at h
  rw [← h]; exact this

theorem strOk_parts {val : Bytes} (h : strOk val = true) :
    ∃ q body, val = q :: (body ++ [q]) ∧ (q = 39 ∨ q = 34) ∧ bodyOk q body = true := by
  cases val with
  | nil => simp [strOk] at h
  | cons q r =>
    simp only [strOk, Bool.and_eq_true, Bool.or_eq_true, beq_iff_eq] at h
    obtain ⟨⟨hq, hl⟩, hb⟩ := h
    refine ⟨q, r.dropLast, ?_, hq, hb⟩
    congr 1
    exact (dropLast_getLast? r q hl).symm

/-- a well-quoted literal: `lexInsideTag` sees the quote, `lexString` runs to the closing one -/
theorem step_string {inp p} {val rest : Bytes} (h : InpAt inp p (val ++ rest)) (hs : strOk val = true) (le its) :
    Step2 tg inp p le its ⟨.tString, val⟩ := by
  obtain ⟨q, body, rfl, hq, hb⟩ := strOk_parts hs
  intro w
  have h0 : InpAt inp p (q :: (body ++ q :: rest)) := by simpa using h
  have hq128 : q < 128 := by rcases hq with rfl | rfl <;> decide
  have he : ∀ w, (L tg inp (p + (q :: (body ++ [q])).length) p w le its).emit .tString =
      some (L tg inp (p + (q :: (body ++ [q])).length) (p + (q :: (body ++ [q])).length) w
        (itemOf ⟨.tString, q :: (body ++ [q])⟩ (p + (q :: (body ++ [q])).length))
        (its.push (itemOf ⟨.tString, q :: (body ++ [q])⟩ (p + (q :: (body ++ [q])).length)))) :=
    fun w => emit_L h rfl w le its .tString
  refine ⟨1, .str (q.toNat : Int), L tg inp (p + 1) p 1 le its, ?_, ?_⟩
  · simp only [step, lexInsideTag, next_L h0 hq128, Option.bind_eq_bind, Option.bind_some]
    rcases hq with rfl | rfl <;>
      simp [isSpaceEOL, isSpace, isEndOfLine, lexInsideTagMid, lexInsideTagRest]
  · simp only [step]
    exact lexString_body hq he body.length body (p + 1) 1 (Nat.le_refl _) (inpAt_tail h0) hb
      (by simp only [List.length_cons, List.length_append, List.length_nil]; omega)

theorem quoteByte_cases (b : UInt8) :
    (∃ x, Printer.quoteByte b = [92, x]) ∨ (Printer.quoteByte b = [b] ∧ b ≠ 92 ∧ b ≠ 39) := by
  by_cases h : b = 92 ∨ b = 39 ∨ b = 10 ∨ b = 13 ∨ b = 9 ∨ b = 8 ∨ b = 12
  · rcases h with rfl | rfl | rfl | rfl | rfl | rfl | rfl <;> exact Or.inl ⟨_, rfl⟩
  · simp only [not_or] at h
    obtain ⟨h1, h2, h3, h4, h5, h6, h7⟩ := h
    refine Or.inr ⟨?_, h1, h2⟩
    unfold Printer.quoteByte
    rw [if_neg (by simpa using h1), if_neg (by simpa using h2), if_neg (by simpa using h3), if_neg (by simpa using h4),
      if_neg (by simpa using h5), if_neg (by simpa using h6), if_neg (by simpa using h7)]

theorem bodyOk_quote : ∀ (k t : Bytes), bodyOk 39 t = true → bodyOk 39 (k.flatMap Printer.quoteByte ++ t) = true
  | [], t, h => by simpa using h
  | b :: k, t, h => by
    have ih := bodyOk_quote k t h
    simp only [List.flatMap_cons, List.append_assoc]
    rcases quoteByte_cases b with ⟨x, hx⟩ | ⟨hx, h92, h39⟩
    · rw [hx]; exact (bodyOk_esc _ _ _).trans ih
    · rw [hx]
      simp only [List.cons_append, List.nil_append]
      rw [bodyOk_plain _ h92]
      simp [h39, ih]

/-- `ast.quoteString` always produces a literal the lexer reads as one string token (`step_string`) -/
theorem strOk_quoteString (k : Bytes) : strOk (Printer.quoteString k) = true := by
  have hb := bodyOk_quote k [] rfl
  simp only [List.append_nil] at hb
  simp only [Printer.quoteString, List.cons_append, List.nil_append, strOk, beq_self_eq_true, Bool.true_or, Bool.true_and,
    Bool.and_eq_true, beq_iff_eq]
  refine ⟨by simp, ?_⟩
  simpa using hb

end SoyVerif.Lemmas.LexPrint
