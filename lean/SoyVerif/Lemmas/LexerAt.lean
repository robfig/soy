/-
  The judgement `At` in which the state functions of the lexer are walked, and its rules.  A rule computes the numeral
  bounds of the lexer it delivers, so the side conditions of a walk are comparisons of numerals (default arguments
  `by decide`); arithmetic over positions is done once, in the proofs of the rules.
-/
import SoyVerif.Lemmas.Lexer

namespace SoyVerif.Model.Lex
open SoyVerif SoyVerif.Model

/-- The lexer `l` inside the state function entered at `l0`, on an input of `n` bytes: the items sent are well-formed
    pieces of the input in front of `start` (`Lx`), the pending token `[start, pos)` lies inside the input, and
    * `e` counts bytes pending: at least `e` (`start + e ≤ pos`);
    * `k` counts progress: at least `k` bytes consumed since `l0` (`l0.pos + k ≤ pos`);
    * `j` counts credit: `j` more items could have been sent for the bytes in front of `start` (`cnt + j ≤ 2·start`;
      a token of `e` bytes earns `2e` and costs 1, so a state function may send an empty token behind a longer one).
    `e k j` are lower bounds and NUMERALS: a state function needs to know of a position only that a token is not empty,
    that input was consumed, that the item count is covered — and a rule can add to a numeral (`next`: `e + 1`, `k + 1`;
    `emit`: `j + 2e - 1`) where a coordinate would need an inequality proved about it. -/
structure At (n : Int) (l0 l : Lexer) (e k j : Int) : Prop where
  lx : Lx n l0.input l
  pend : l.start + e ≤ l.pos
  le_len : l.pos ≤ n
  adv : l0.pos + k ≤ l.pos
  slack : l.cnt + j ≤ 2 * l.start

/-- A rune `r` has been read from `l` (judged `At n l0 l e k j`) and `l'` stands behind it.  `here` holds whatever was
    read, `fwd` unless it was eof (a rune is at least one byte); `back`: `backup` returns to where `l` stood; `ascii`: a
    rune below 0x80 is the byte that stood there, one byte wide. -/
structure Read (n : Int) (l0 l : Lexer) (e k j : Int) (r : Int) (l' : Lexer) : Prop where
  here : At n l0 l' e k j
  fwd : r ≠ -1 → At n l0 l' (e + 1) (k + 1) j
  back : At n l0 l'.backup e k j
  back_pos : l'.backup.pos = l.pos
  start : l'.start = l.start
  lt : r ≠ -1 → l.pos < l'.pos
  at_end : r = -1 → l'.pos = l.pos ∧ n ≤ l.pos
  nonneg : r ≠ -1 → 0 ≤ r
  ascii : 0 ≤ r → r < 128 → (byteAt l0.input l.pos.toNat : Int) = r ∧ l'.pos = l.pos + 1 ∧ l'.width = 1
  ne_eof : l.pos < n → r ≠ -1

/-- `scanWhile q` from `l` has stopped at the rune `r`, read last; `back` is the lexer in front of it -/
structure Scanned (n : Int) (l0 l : Lexer) (e k j : Int) (r : Int) (l' : Lexer) : Prop where
  here : At n l0 l' e k j
  fwd : r ≠ -1 → At n l0 l' (e + 1) (k + 1) j
  back : At n l0 l'.backup e k j
  back_fwd : l.pos < l'.backup.pos → At n l0 l'.backup (e + 1) (k + 1) j
  start : l'.start = l.start
  le : l.pos ≤ l'.backup.pos
  lt : r ≠ -1 → l'.backup.pos < l'.pos
  nonneg : r ≠ -1 → 0 ≤ r
  ascii : 0 ≤ r → r < 128 → l'.pos = l'.backup.pos + 1
  eof_of : n ≤ l.pos → r = -1

section Rules
variable {n : Int} {l0 l l' : Lexer} {e k j : Int}

theorem At.weak {e' k' j' : Int} (h : At n l0 l e k j) (he : e' ≤ e := by decide) (hk : k' ≤ k := by decide)
    (hj : j' ≤ j := by decide) : At n l0 l e' k' j' :=
  ⟨h.lx, by have := h.pend; omega, h.le_len, by have := h.adv; omega, by have := h.slack; omega⟩

theorem At.of_good (hg : Good n l) : At n l l 0 0 0 :=
  ⟨hg.1, by have := hg.2.2.1; omega, hg.2.2.2, by omega, by have := hg.2.1; omega⟩

/-- on entry to a state that begins behind bytes read (`lexRightDelim`, `lexRightDelimEnd`) -/
theorem At.of_good_pending (hg : Good n l) (hx : l.start < l.pos) : At n l l 1 0 0 :=
  ⟨hg.1, by omega, hg.2.2.2, by omega, by have := hg.2.1; omega⟩

theorem At.start_nonneg (h : At n l0 l e k j) : 0 ≤ l.start := h.lx.start_nonneg

theorem At.start_le (h : At n l0 l e k j) (he : 0 ≤ e := by decide) : l.start ≤ l.pos := by have := h.pend; omega

theorem At.start_lt (h : At n l0 l e k j) (he : 1 ≤ e := by decide) : l.start < l.pos := by have := h.pend; omega

/-- the escape for the steps that move `pos` or `start` by hand (`l.pos -= 2`, `l.pos = lastNonSpace`, …): a lexer with
    the same items, whose pending token is shown to lie inside the input behind the old `start` -/
theorem At.move {e' k' j' : Int} (h : At n l0 l e k j) (hi : l'.input = l.input) (hit : l'.items = l.items)
    (htg : l'.tagStart = l.tagStart) (hs : l.start ≤ l'.start) (hp : l'.start + e' ≤ l'.pos) (hn : l'.pos ≤ n)
    (hk : l0.pos + k' ≤ l'.pos) (hj : j' ≤ j := by decide) (he : 0 ≤ e' := by decide) : At n l0 l' e' k' j' := by
  have hc : l'.cnt = l.cnt := by simp only [Lexer.cnt, hit]
  have hsl := h.slack
  exact ⟨h.lx.move hi hit htg hs (by omega), hp, hn, hk, by omega⟩

theorem At.addPos_neg (h : At n l0 l e k j) (d : Int) (hd : d ≤ 0 := by decide) (he : 0 ≤ e + d := by decide) :
    At n l0 (l.addPos d) (e + d) (k + d) j := by
  have := h.pend
  have := h.adv
  have := h.le_len
  exact h.move rfl rfl rfl (Int.le_refl _) (by simp only [addPos_pos, addPos_start]; omega) (by simp only [addPos_pos]; omega)
    (by simp only [addPos_pos]; omega) (Int.le_refl _) he

theorem At.addPos (h : At n l0 l e k j) (d : Int) (hn : l.pos + d ≤ n) (hd : 0 ≤ d := by decide) (he : 0 ≤ e := by decide) :
    At n l0 (l.addPos d) (e + d) (k + d) j := by
  have := h.pend
  have := h.adv
  exact h.move rfl rfl rfl (Int.le_refl _) (by simp only [addPos_pos, addPos_start]; omega) (by simp only [addPos_pos]; omega)
    (by simp only [addPos_pos]; omega) (Int.le_refl _) (by omega)

theorem At.setTag (h : At n l0 l e k j) (hb : byteAt l0.input l.start.toNat = 123) :
    At n l0 { l with tagStart := l.start } e k j :=
  ⟨h.lx.setTag hb, h.pend, h.le_len, h.adv, h.slack⟩

theorem At.setDouble (h : At n l0 l e k j) (b : Bool) : At n l0 { l with doubleDelim := b } e k j :=
  ⟨h.lx.move rfl rfl rfl (Int.le_refl _) h.lx.start_le, h.pend, h.le_len, h.adv, h.slack⟩

theorem At.next (h : At n l0 l e k j) (he : 0 ≤ e := by decide) : Sat l.next fun (r, l') => Read n l0 l e k j r l' := by
  have hs0 := h.lx.start_nonneg
  have hp := h.pend
  have hn := h.le_len
  have ha := h.adv
  have hsl := h.slack
  obtain ⟨⟨r, l'⟩, e1, ⟨_, hi, hit, htg⟩, hst, hf⟩ := next_raw (l := l) (by omega)
  refine ⟨_, e1, ?_⟩
  rw [h.lx.len] at hf
  have hcn : l'.cnt = l.cnt := by simp only [Lexer.cnt, hit]
  have hlx : Lx n l0.input l' := h.lx.move hi hit htg (by omega) (by have := h.lx.start_le; omega)
  dsimp only at hf ⊢
  refine ⟨⟨hlx, by omega, by omega, by omega, by omega⟩, fun hr => ⟨hlx, by omega, by omega, by omega, by omega⟩,
    ⟨hlx.move rfl rfl rfl (Int.le_refl _) hlx.start_le, ?_, ?_, ?_, ?_⟩, ?_, hst, fun hr => by omega,
    fun hr => ⟨by omega, by omega⟩, fun hr => by omega,
    fun h0 h1 => ⟨h.lx.input ▸ next_content e1 h0 h1, by omega, by omega⟩, fun hlt => by omega⟩
  all_goals (simp only [backup_pos, backup_start, backup_cnt]; omega)

theorem Read.lt_len {r : Int} (R : Read n l0 l e k j r l') (hr : r ≠ -1) : l.pos < n := by
  have := R.lt hr
  have := R.here.le_len
  omega

/-- `let (r, l) ← l.next`, then the rest: for the state functions the model writes as a `do` block.  Where it writes the
    `match` on `l.next` out (the loops, for their termination proofs), a walk takes `h.next` apart and rewrites with the
    equation. -/
theorem At.next_then {β : Type} {f : Int × Lexer → Option β} {Q : β → Prop} (h : At n l0 l e k j)
    (hf : ∀ r l', Read n l0 l e k j r l' → Sat (f (r, l')) Q) (he : 0 ≤ e := by decide) : Sat (l.next >>= f) Q :=
  (h.next he).andThen fun (r, l') R => hf r l' R

theorem At.peek (h : At n l0 l e k j) (he : 0 ≤ e := by decide) :
    Sat l.peek fun (r, l') => At n l0 l' e k j ∧ l'.pos = l.pos ∧ l'.start = l.start ∧ (r ≠ -1 ↔ l.pos < n) ∧
      (r ≠ -1 → 0 ≤ r) ∧ (0 ≤ r → r < 128 → (byteAt l0.input l.pos.toNat : Int) = r ∧ l'.width = 1) := by
  unfold Lexer.peek
  apply (h.next he).andThen
  intro (r, l') R
  exact Sat.ret ⟨R.back, R.back_pos, R.start, ⟨R.lt_len, R.ne_eof⟩, R.nonneg, fun h0 h1 => ⟨(R.ascii h0 h1).1, (R.ascii h0 h1).2.2⟩⟩

theorem At.peek_then {β : Type} {f : Int × Lexer → Option β} {Q : β → Prop} (h : At n l0 l e k j)
    (hf : ∀ r l', At n l0 l' e k j → l'.pos = l.pos → l'.start = l.start → (r ≠ -1 ↔ l.pos < n) →
      (r ≠ -1 → 0 ≤ r) → (0 ≤ r → r < 128 → (byteAt l0.input l.pos.toNat : Int) = r ∧ l'.width = 1) → Sat (f (r, l')) Q)
    (he : 0 ≤ e := by decide) : Sat (l.peek >>= f) Q :=
  (h.peek he).andThen fun (r, l') ⟨h1, h2, h3, h4, h5, h6⟩ => hf r l' h1 h2 h3 h4 h5 h6

theorem At.scan (q : Int → Bool) (hq : q eof = false) (h : At n l0 l e k j) (he : 0 ≤ e := by decide) :
    Sat (scanWhile q hq l) fun (r, l') => q r = false ∧ Scanned n l0 l e k j r l' := by
  have hs0 := h.lx.start_nonneg
  have hp := h.pend
  have hn := h.le_len
  have ha := h.adv
  have hsl := h.slack
  apply (scan_raw q hq (l := l) (by omega) (by rw [h.lx.len]; exact hn)).mono
  intro (r, l') ⟨⟨_, hi, hit, htg⟩, hst, hqr, hf⟩
  rw [h.lx.len] at hf
  have hcn : l'.cnt = l.cnt := by simp only [Lexer.cnt, hit]
  have hlx : Lx n l0.input l' := h.lx.move hi hit htg (by omega) (by have := h.lx.start_le; omega)
  dsimp only at hf ⊢
  refine ⟨hqr, ⟨hlx, by omega, by omega, by omega, by omega⟩, fun hr => ⟨hlx, by omega, by omega, by omega, by omega⟩,
    ⟨hlx.move rfl rfl rfl (Int.le_refl _) hlx.start_le, ?_, ?_, ?_, ?_⟩, fun hlt => ⟨hlx.move rfl rfl rfl (Int.le_refl _) hlx.start_le, ?_, ?_, ?_, ?_⟩,
    hst, ?_, fun hr => ?_, fun hr => by omega, fun h0 h1 => ?_, fun hge => by omega⟩
  all_goals (simp only [backup_pos, backup_start, backup_cnt] at *; omega)

theorem At.accept {valid : List Int} (h : At n l0 l e k j) (he : 0 ≤ e := by decide) :
    Sat (accept l valid) fun (b, l') => At n l0 l' e k j ∧ l'.start = l.start ∧ l.pos ≤ l'.pos ∧
      (b = true → At n l0 l' (e + 1) (k + 1) j ∧ l.pos < l'.pos) := by
  unfold Lex.accept
  refine h.next_then (he := he) fun r l' R => ?_
  dsimp only
  split
  · rename_i hi
    have hr : r ≠ -1 := by
      simp only [indexRune, Bool.and_eq_true, decide_eq_true_eq] at hi
      omega
    exact Sat.ret ⟨R.here, R.start, Int.le_of_lt (R.lt hr), fun _ => ⟨R.fwd hr, R.lt hr⟩⟩
  · exact Sat.ret ⟨R.back, R.start, by rw [R.back_pos]; exact Int.le_refl _, fun hb => absurd hb (by simp)⟩

theorem At.acceptRun {valid : List Int} (h : At n l0 l e k j) (he : 0 ≤ e := by decide) :
    Sat (acceptRun l valid) fun (b, l') => At n l0 l' e k j ∧ l'.start = l.start ∧ l.pos ≤ l'.pos ∧
      (b = true → At n l0 l' (e + 1) (k + 1) j ∧ l.pos < l'.pos) := by
  unfold Lex.acceptRun
  apply (h.scan _ _ he).andThen
  intro (r, l') ⟨_, S⟩
  exact Sat.ret ⟨S.back, S.start, S.le, fun hb => by
    have hlt : l.pos < l'.backup.pos := of_decide_eq_true hb
    exact ⟨S.back_fwd hlt, hlt⟩⟩

theorem At.emit {t : ItemType} (h : At n l0 l e k j) (hok : emitOK t e := by exact emitOK_unsliced rfl rfl)
    (he : 0 ≤ e := by decide) :
    Sat (l.emit t) fun l' => At n l0 l' 0 k (j + 2 * e - 1) ∧ l'.start = l'.pos ∧ l'.pos = l.pos := by
  have hp := h.pend
  have hsl := h.slack
  have ha := h.adv
  have hn := h.le_len
  apply (h.lx.emit (by omega) hn (emitOK_mono hok (by omega))).mono
  intro l' ⟨h', e1, e2, e3⟩
  exact ⟨⟨h', by omega, by omega, by omega, by omega⟩, by omega, e2⟩

theorem At.emit_then {β : Type} {t : ItemType} {f : Lexer → Option β} {Q : β → Prop} (h : At n l0 l e k j)
    (hf : ∀ l', At n l0 l' 0 k (j + 2 * e - 1) → l'.start = l'.pos → l'.pos = l.pos → Sat (f l') Q)
    (hok : emitOK t e := by exact emitOK_unsliced rfl rfl) (he : 0 ≤ e := by decide) : Sat (l.emit t >>= f) Q :=
  (h.emit hok he).andThen fun l' ⟨h1, h2, h3⟩ => hf l' h1 h2 h3

theorem At.ignore (h : At n l0 l e k j) (he : 0 ≤ e := by decide) : At n l0 l.ignore 0 k (j + 2 * e) := by
  have hp := h.pend
  have hsl := h.slack
  have ha := h.adv
  have hn := h.le_len
  refine ⟨h.lx.move rfl rfl rfl (by show l.start ≤ l.pos; omega) hn, ?_, ?_, ?_, ?_⟩ <;>
    (simp only [ignore_pos, ignore_start, ignore_cnt]; omega)

/-- `l.start++` inside the pending token -/
theorem At.startSucc (h : At n l0 l (e + 1) k j) (he : 0 ≤ e := by decide) :
    At n l0 { l with start := l.start + 1 } e k (j + 2) := by
  have hp := h.pend
  have hsl := h.slack
  have hn := h.le_len
  refine ⟨h.lx.move rfl rfl rfl (by show l.start ≤ l.start + 1; omega) (by show l.start + 1 ≤ n; omega), ?_, hn, h.adv, ?_⟩
  · show l.start + 1 + e ≤ l.pos; omega
  · show l.cnt + (j + 2) ≤ 2 * (l.start + 1); omega

theorem At.skipSpace (h : At n l0 l e k j) (he : 0 ≤ e := by decide) :
    Sat (skipSpace l) fun l' => At n l0 l' 0 k (j + 2 * e) ∧ l'.start = l'.pos ∧ l.pos ≤ l'.pos := by
  unfold Lex.skipSpace
  apply (h.scan _ _ he).andThen
  intro (r, l') ⟨_, S⟩
  exact Sat.ret ⟨S.back.ignore he, rfl, S.le⟩

theorem At.badDoubleClose (h : At n l0 l e k j) (he : 0 ≤ e := by decide) :
    Sat (badDoubleClose l) fun (_, l') => At n l0 l' e k j ∧ l'.start = l.start := by
  unfold Lex.badDoubleClose
  split
  · apply (h.next he).andThen
    intro (r, l') R
    exact Sat.ret ⟨R.here, R.start⟩
  · exact Sat.ret ⟨h, rfl⟩

/-- `l.input[l.start:l.pos]` -/
theorem At.slice (h : At n l0 l e k j) (he : 0 ≤ e := by decide) : Sat (sliceOf l.input l.start l.pos) fun _ => True := by
  have hl : (l.input.size : Int) = n := h.lx.len
  exact (sliceOf_sat h.lx.start_nonneg (by have := h.pend; omega) (by have := h.le_len; omega)).mono fun _ _ => trivial

/-- `maybeEmitText(l, m)` with at least `m` bytes pending: afterwards exactly `m` are -/
theorem At.maybeEmit {m : Int} (h : At n l0 l e k j) (hm : m ≤ e := by decide) (h0 : 0 ≤ m := by decide) :
    Sat (maybeEmitText l m) fun l' => At n l0 l' m k j ∧ l'.start = l.pos - m ∧ l'.pos = l.pos := by
  have hp := h.pend
  have hsl := h.slack
  have ha := h.adv
  have hn := h.le_len
  apply (h.lx.maybeEmitText (m := m) (by omega)).mono
  intro l' ⟨h', e2, hf⟩
  exact ⟨⟨h', by omega, by omega, by omega, by omega⟩, by omega, e2⟩

/-- `maybeEmitText(l, m)` in general: what stays pending is not more than `m` -/
theorem At.maybeEmit_le {m : Int} (h : At n l0 l e k j) (h0 : 0 ≤ m := by decide) :
    Sat (maybeEmitText l m) fun l' => At n l0 l' (min e m) k j ∧ l'.pos = l.pos := by
  have hp := h.pend
  have hsl := h.slack
  have ha := h.adv
  have hn := h.le_len
  apply (h.lx.maybeEmitText (m := m) (by omega)).mono
  intro l' ⟨h', e2, hf⟩
  exact ⟨⟨h', by omega, by omega, by omega, by omega⟩, e2⟩

end Rules

section Ends
variable {n : Int} {l0 l : Lexer} {e k j : Int} {st st' : St}

/-- the hand-over to the state `st'` behind input consumed -/
theorem At.post (h : At n l0 l e k j) (hx : ExtraAt st' l0.input n l.start l.pos) (hk : 1 ≤ k := by decide)
    (he : 0 ≤ e := by decide) (hj : 0 ≤ j := by decide) : Post n st l0 (some st', l) :=
  h.lx.post (by have := h.slack; omega) (by have := h.pend; omega) h.le_len (by have := h.adv; omega)
    (fun e0 => by have := h.adv; omega) hx

/-- a hand-over that may stand where the state function was entered: the rank of the state goes down -/
theorem At.post_same (h : At n l0 l e k j) (hx : ExtraAt st' l0.input n l.start l.pos)
    (hr : rank st' < rank st := by decide) (hk : 0 ≤ k := by decide) (he : 0 ≤ e := by decide) (hj : 0 ≤ j := by decide) :
    Post n st l0 (some st', l) :=
  h.lx.post (by have := h.slack; omega) (by have := h.pend; omega) h.le_len (by have := h.adv; omega) (fun _ => hr) hx

theorem At.len_nonneg (h : At n l0 l e k j) : 0 ≤ n := by
  have := h.lx.start_nonneg
  have := h.lx.start_le
  omega

theorem toNat_le_of_le {q n : Int} (hn : 0 ≤ n) (hq : q ≤ n) : ((q.toNat : Nat) : Int) ≤ n := by omega

/-- the scan ends with an Error item pushed: what `errorf` and `errorfAt` do -/
theorem At.errorItem {it : Item} {l' : Lexer} (h : At n l0 l e k j) (hi : l'.input = l.input) (hit : l'.items = l.items.push it)
    (ht : it.typ = .tError) (hq : (it.pos : Int) ≤ n) (hv : it.val.length ≤ 1) (he : ErrItemOK l0.input it)
    (hj : 0 ≤ j := by decide) : Post n st l0 (none, l') := by
  have := h.lx.start_le
  exact h.lx.last (by have := h.slack; omega) hi hit (Or.inr ht) hq (by omega) fun _ => he

theorem At.errorf (h : At n l0 l e k j) (hj : 0 ≤ j := by decide) : Sat (Lex.errorf l) (Post n st l0) :=
  Sat.ret (h.errorItem rfl rfl rfl (toNat_le_of_le h.len_nonneg h.le_len) (Nat.zero_le 1) (ErrItemOK.nil _ _) hj)

/-- `l.pos = l.start; return l.errorf(…)` -/
theorem At.errorf_rewound (h : At n l0 l e k j) (hj : 0 ≤ j := by decide) :
    Sat (Lex.errorf { l with pos := l.start }) (Post n st l0) :=
  Sat.ret (h.errorItem rfl rfl rfl (toNat_le_of_le h.len_nonneg h.lx.start_le) (Nat.zero_le 1) (ErrItemOK.nil _ _) hj)

theorem At.errorfAt {q : Int} {cls : UInt8} (h : At n l0 l e k j) (hq : q ≤ n)
    (he : ErrItemOK l0.input ⟨.tError, q.toNat, [cls]⟩) (hj : 0 ≤ j := by decide) : Sat (Lex.errorfAt l q cls) (Post n st l0) :=
  Sat.ret (h.errorItem rfl rfl rfl (toNat_le_of_le h.len_nonneg hq) (Nat.le_refl 1) he hj)

theorem At.errorfAt_start {cls : UInt8} (h : At n l0 l e k j) (he : ErrItemOK l0.input ⟨.tError, l.start.toNat, [cls]⟩)
    (hj : 0 ≤ j := by decide) : Sat (Lex.errorfAt l l.start cls) (Post n st l0) :=
  h.errorfAt h.lx.start_le he hj

theorem At.errorfAt_tagStart {cls : UInt8} (h : At n l0 l e k j) (hcls : cls = clsTag ∨ cls = clsLiteral := by exact Or.inl rfl)
    (hj : 0 ≤ j := by decide) : Sat (Lex.errorfAt l l.tagStart cls) (Post n st l0) :=
  h.errorfAt h.lx.tagStart_le (h.lx.input ▸ tag_err h.lx.tagBad hcls) hj

theorem At.emit_eof (h : At n l0 l e k j) (he : 0 ≤ e := by decide) (hj : 0 ≤ j := by decide) :
    Sat (l.emit .tEOF) fun l' => Post n st l0 (none, l') := by
  have hp := h.pend
  have hn := h.le_len
  have := h.lx.start_nonneg
  apply (emit_raw h.lx (by omega) hn).mono
  intro l' ⟨v, hit, hv, _, hi, _⟩
  exact h.lx.last (by have := h.slack; omega) hi hit (Or.inl rfl) (show ((l.pos.toNat : Nat) : Int) ≤ n by omega)
    (show l.start + (v.length : Int) ≤ n + 1 by omega) fun e => ItemType.noConfusion e

/-- emit and hand over, with progress, to a state that begins with nothing pending -/
theorem At.emitTo {t : ItemType} (h : At n l0 l e k j) (hx : ∀ p, ExtraAt st' l0.input n p p)
    (hok : emitOK t e := by exact emitOK_unsliced rfl rfl) (hk : 1 ≤ k := by decide) (he : 0 ≤ e := by decide)
    (hj : 1 ≤ j + 2 * e := by decide) : Sat (l.emit t >>= fun l' => pure (some st', l')) (Post n st l0) :=
  (h.emit hok he).andThen fun l' ⟨h', hs, _⟩ => Sat.ret (h'.post (hs ▸ hx _) hk (by decide) (by omega))

theorem At.emitInside {t : ItemType} (h : At n l0 l e k j) (hok : emitOK t e := by exact emitOK_unsliced rfl rfl)
    (hk : 1 ≤ k := by decide) (he : 0 ≤ e := by decide) (hj : 1 ≤ j + 2 * e := by decide) :
    Sat (emitInside l t) (Post n st l0) :=
  h.emitTo (fun _ => rfl) hok hk he hj

end Ends
end SoyVerif.Model.Lex
