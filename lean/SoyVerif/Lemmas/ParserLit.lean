/-
  Literal spellings of the printer read back by the parser: `strconv.FormatInt` /
  `strconv.ParseInt` on the int64 range (model: `Printer.fmtInt`, `Parser.intLiteral`,
  `Parser.parseInt10`), and the lossless split of a dotted global name.
-/
import SoyVerif.Model.PrintTokens
import SoyVerif.Lemmas.NatDigits

namespace SoyVerif.Lemmas.ParserLit
open SoyVerif SoyVerif.Model SoyVerif.Model.Parser SoyVerif.Model.PrintTokens SoyVerif.Model.Printer SoyVerif.Spec.Json

theorem decDigits_digits {ds : Bytes} (hne : ds ≠ []) (h : ∀ b ∈ ds, isDigit b = true) : decDigits ds = some (digitsVal ds) := by
  have key : ∀ (ds : Bytes) (acc : Nat), (∀ b ∈ ds, isDigit b = true) →
      ds.foldlM (fun acc d => if 48 ≤ d.toNat && d.toNat ≤ 57 then some (acc * 10 + (d.toNat - 48)) else none) acc =
        some (ds.foldl (fun acc d => acc * 10 + (d.toNat - 48)) acc) := by
    intro ds
    induction ds with
    | nil => intro _ _; rfl
    | cons d r ih =>
      intro acc h
      have hd : (decide (48 ≤ d.toNat) && decide (d.toNat ≤ 57)) = true := h d (List.mem_cons_self ..)
      rw [List.foldlM_cons, hd]
      exact ih _ fun b hb => h b (List.mem_cons_of_mem _ hb)
  cases ds with
  | nil => exact absurd rfl hne
  | cons a r => exact key (a :: r) 0 h

theorem decDigits_natDigits (n : Nat) : decDigits (natDigits n) = some n := by
  obtain ⟨hne, hall, _, hval⟩ := NatDigits.printer_natDigits_shape n
  rw [decDigits_digits hne hall, hval]

/-- `strconv.ParseInt(s, 10, 64)` on a non-empty string of digits whose value fits `int64`: a digit is no sign -/
theorem parseInt10_digits {ds : Bytes} (hne : ds ≠ []) (hall : ∀ b ∈ ds, isDigit b = true)
    (h : inInt64 (Int.ofNat (digitsVal ds)) = true) : parseInt10 ds = some (Int.ofNat (digitsVal ds)) := by
  have hd := decDigits_digits hne hall
  unfold parseInt10
  split
  · exact absurd (hall 45 (List.mem_cons_self ..)) (by decide)
  · exact absurd (hall 43 (List.mem_cons_self ..)) (by decide)
  · simp [hd]; exact h

/-- the literal of `newValueNode` likewise: `x` is no digit, so the string is no `0x…` spelling -/
theorem intLiteral_digits {ds : Bytes} (hne : ds ≠ []) (hall : ∀ b ∈ ds, isDigit b = true)
    (h : inInt64 (Int.ofNat (digitsVal ds)) = true) : intLiteral ds = some (Int.ofNat (digitsVal ds)) := by
  unfold intLiteral
  split
  · exact absurd (hall 120 (by simp)) (by decide)
  · exact parseInt10_digits hne hall h

theorem parseInt10_natDigits (n : Nat) (h : inInt64 (Int.ofNat n) = true) :
    parseInt10 (natDigits n) = some (Int.ofNat n) := by
  obtain ⟨hne, hall, _, hval⟩ := NatDigits.printer_natDigits_shape n
  have := parseInt10_digits hne hall (by rw [hval]; exact h)
  rwa [hval] at this

theorem parseInt10_fmtInt (v : Int) (h : inInt64 v = true) : parseInt10 (fmtInt v) = some v := by
  unfold fmtInt
  by_cases hv : v < 0
  · simp only [hv, if_true]
    unfold parseInt10
    simp only [decDigits_natDigits, Option.map_some, Option.bind_some]
    have : -Int.ofNat v.natAbs = v := by simp only [Int.ofNat_eq_natCast]; omega
    rw [this, h]; rfl
  · simp only [hv, if_false]
    have : Int.ofNat v.natAbs = v := by simp only [Int.ofNat_eq_natCast]; omega
    have h2 := parseInt10_natDigits v.natAbs (by rw [this]; exact h)
    rw [this] at h2; exact h2

theorem intLiteral_fmtInt (v : Int) (h : inInt64 v = true) : intLiteral (fmtInt v) = some v := by
  by_cases hv : v < 0
  · have hp := parseInt10_fmtInt v h
    simp only [fmtInt, hv, if_true] at hp ⊢
    exact hp
  · obtain ⟨hne, hall, _, hval⟩ := NatDigits.printer_natDigits_shape v.natAbs
    have : Int.ofNat v.natAbs = v := by simp only [Int.ofNat_eq_natCast]; omega
    have h2 := intLiteral_digits hne hall (by rw [hval, this]; exact h)
    simp only [fmtInt, hv, if_false]
    rwa [hval, this] at h2

theorem splitDots_flatten : (n : Bytes) → (splitDots n).1 ++ (splitDots n).2.flatten = n
  | [] => rfl
  | b :: r => by
    have ih := splitDots_flatten r
    unfold splitDots
    by_cases hb : (b == 46) = true
    · simp only [hb, if_true]
      have : b = 46 := by simpa using hb
      subst this
      simp [ih]
    · simp only [hb]
      simp [ih]

end SoyVerif.Lemmas.ParserLit
