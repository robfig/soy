/-
  The checker's walk over expressions visits exactly the reference keys `Spec.exprKeys` and tests exactly the
  loop-function occurrences `Spec.exprLoops` (expressions bind nothing, so one environment serves all of them).
-/
import SoyVerif.Lemmas.CheckResolve

namespace SoyVerif.Lemmas.Check
open SoyVerif SoyVerif.Model SoyVerif.Model.Check SoyVerif.Spec

theorem KeysBound_nil (params : List Bytes) (env : Env) : KeysBound params env [] ↔ True := by
  simp [KeysBound]

theorem KeysBound_append (params : List Bytes) (env : Env) (a b : List Bytes) :
    KeysBound params env (a ++ b) ↔ KeysBound params env a ∧ KeysBound params env b :=
  List.forall_mem_append

theorem KeysBound_cons (params : List Bytes) (env : Env) (k : Bytes) (b : List Bytes) :
    KeysBound params env (k :: b) ↔ KeysBound params env [k] ∧ KeysBound params env b :=
  KeysBound_append params env [k] b

theorem refsKeys_nil (params : List Bytes) (env : Env) : refsKeys params env [] = [] := rfl

theorem refsKeys_append (params : List Bytes) (env : Env) (a b : List Bytes) :
    refsKeys params env (a ++ b) = refsKeys params env a ++ refsKeys params env b := by
  simp [refsKeys]

theorem refsKeys_cons (params : List Bytes) (env : Env) (k : Bytes) (b : List Bytes) :
    refsKeys params env (k :: b) = refsKeys params env [k] ++ refsKeys params env b :=
  refsKeys_append params env [k] b

theorem LoopsOk_nil (env : Env) : LoopsOk env [] ↔ True := by simp [LoopsOk]

theorem LoopsOk_append (env : Env) (a b : List LoopOcc) :
    LoopsOk env (a ++ b) ↔ LoopsOk env a ∧ LoopsOk env b :=
  List.forall_mem_append

theorem LoopsOk_single (env : Env) (o : LoopOcc) : LoopsOk env [o] ↔ LoopArgOk env o := by
  simp [LoopsOk]

theorem ExprsOk_nil (params : List Bytes) (env : Env) : ExprsOk params env [] [] ↔ True := by
  simp [ExprsOk, KeysBound_nil, LoopsOk_nil]

theorem ExprsOk_append (params : List Bytes) (env : Env) (a b : List Bytes) (l m : List LoopOcc) :
    ExprsOk params env (a ++ b) (l ++ m) ↔ ExprsOk params env a l ∧ ExprsOk params env b m := by
  simp only [ExprsOk, KeysBound_append, LoopsOk_append]
  exact and_and_and_comm

/-- `m` visits the keys `ks` and the loop-function occurrences `ls` -/
def FramedKeys (params : List Bytes) (m : C Unit) (ks : List Bytes) (ls : List LoopOcc) : Prop :=
  Framed m (fun env => ExprsOk params env ks ls) (fun env => refsKeys params env ks) []

section
variable {params : List Bytes}

theorem FramedKeys.nil : FramedKeys params (pure ()) [] [] :=
  Framed.pure.congr (fun env => ExprsOk_nil params env) (fun _ => rfl)

theorem FramedKeys.seq {a b : C Unit} {ks ks' : List Bytes} {ls ls' : List LoopOcc}
    (ha : FramedKeys params a ks ls) (hb : FramedKeys params b ks' ls') :
    FramedKeys params (a >>= fun _ => b) (ks ++ ks') (ls ++ ls') :=
  (Framed.seq ha hb).congr
    (fun env => by simp [ExprsOk_append])
    (fun env => by simp [refsKeys_append])

theorem FramedKeys.inScope {a : C Unit} {ks : List Bytes} {ls : List LoopOcc}
    (ha : FramedKeys params a ks ls) : FramedKeys params (inScope a) ks ls := Framed.inScope ha

theorem FramedKeys.visitKey (k : Bytes) : FramedKeys params (visitKey params k) [k] [] :=
  (Framed.visitKey params k).congr (fun env => by simp [ExprsOk, LoopsOk_nil]) (fun _ => rfl)

theorem FramedKeys.loopCheck (name : Bytes) (args : ExprList) :
    FramedKeys params (if Check.loopFn name then checkLoopFunc args else pure ()) []
      (if Check.loopFn name then [(name, args)] else []) := by
  cases Check.loopFn name with
  | false => exact FramedKeys.nil
  | true =>
    exact (Framed.checkLoopFunc name args).congr
      (fun env => by simp [ExprsOk, KeysBound_nil, LoopsOk_single]) (fun _ => rfl)

theorem FramedKeys.of_eq {a : C Unit} {ks ks' : List Bytes} {ls : List LoopOcc}
    (ha : FramedKeys params a ks ls) (h : ks = ks') : FramedKeys params a ks' ls := h ▸ ha

mutual
  theorem framed_expr : (e : Expr) → FramedKeys params (checkExpr params e) (exprKeys e) (exprLoops e)
    | .null _ => FramedKeys.nil
    | .bool _ _ => FramedKeys.nil
    | .int _ _ => FramedKeys.nil
    | .float _ _ => FramedKeys.nil
    | .str _ _ _ => FramedKeys.nil
    | .global _ _ => FramedKeys.nil
    | .func _ name args =>
      (FramedKeys.loopCheck name args).seq (framed_exprs args)
    | .list _ items => framed_exprs items
    | .map _ items => framed_mapItems items
    | .not _ a => framed_expr a
    | .neg _ a => framed_expr a
    | .bin _ _ a b =>
      (framed_expr a).seq (framed_expr b)
    | .tern _ c a b =>
      (framed_expr c).seq ((framed_expr a).seq (framed_expr b))
    | .dataRef _ key acc => (FramedKeys.visitKey key).seq (framed_accesses acc).inScope
  theorem framed_exprs : (es : ExprList) → FramedKeys params (checkExprs params es) (exprsKeys es) (exprsLoops es)
    | .nil => FramedKeys.nil
    | .cons e r =>
      (framed_expr e).seq (framed_exprs r)
  theorem framed_mapItems : (ms : MapItems) → FramedKeys params (checkMapItems params ms) (mapKeys ms) (mapLoops ms)
    | .nil => FramedKeys.nil
    | .cons _ e r =>
      (framed_expr e).seq (framed_mapItems r)
  theorem framed_accesses : (as : AccessList) → FramedKeys params (checkAccesses params as) (accessKeys as) (accessLoops as)
    | .nil => FramedKeys.nil
    | .cons (.expr _ _ e) r =>
      (framed_expr e).seq (framed_accesses r)
    | .cons (.key _ _ _) r =>
      FramedKeys.nil.seq (framed_accesses r)
    | .cons (.index _ _ _) r =>
      FramedKeys.nil.seq (framed_accesses r)
end

theorem framed_optExpr : (e : Option Expr) → FramedKeys params (checkOptExpr params e) (optKeys e) (optLoops e)
  | none => FramedKeys.nil
  | some e => framed_expr e

theorem framed_exprList : (es : List Expr) → FramedKeys params (checkExprList params es) (listKeys es) (listLoops es)
  | [] => FramedKeys.nil
  | e :: r => (framed_expr e).seq (framed_exprList r)

theorem framed_dirs (reg : List Check.Template) :
    (ds : List Directive) → FramedKeys params (checkDirs reg params ds) (dirsKeys ds) (dirsLoops ds)
  | [] => FramedKeys.nil
  | d :: r =>
      (framed_exprList d.args).inScope.seq (framed_dirs reg r)

end

end SoyVerif.Lemmas.Check
