/-
  The invariant of the interpreter model that carries C06 (no panic), C02 (scopes are restored, the
  callee cannot touch the caller's frames) and C08 (caller-owned maps are never written):

    Good W ctx st r :  r is not a panic,
                       if r is ok the scope is again `ctx`,
                       the heap only grows, every cell that existed keeps its `ro` mark, and keeps its
                       contents unless it is writable (`W`), and no write reached a caller-owned map.

  `GoodRun run` = for every scope whose top frame is an own (not caller-owned) cell, `run` is Good with
  exactly that top frame writable.

  ("Frame" in this file's name and in `Ext`, "the heap frame", is the frame condition — what a run leaves alone;
  the frames of a scope are `Frame` / `SFrame` of Model/Eval.)
-/
import SoyVerif.Model.Eval

namespace SoyVerif.Model.Eval
open SoyVerif SoyVerif.Model

theorem evalIn_next {g : GEnv} {e : Expr} {ctx : Scope} {st st1 : St} {v : Value}
    (h : evalIn g e ctx st = some (v, st1)) : ∃ n, st1 = { st with next := n } := by
  unfold evalIn at h
  split at h
  · simp only [Option.some.injEq, Prod.mk.injEq] at h; exact ⟨_, h.2.symm⟩
  · cases h

theorem evalList_next {g : GEnv} {ctx : Scope} : ∀ (es : List Expr) {st st1 : St} {vs : List Value},
    evalList g ctx es st = some (vs, st1) → ∃ n, st1 = { st with next := n }
  | [], st, st1, vs, h => by simp only [evalList, Option.some.injEq, Prod.mk.injEq] at h; exact ⟨st.next, h.2.symm⟩
  | e :: r, st, st1, vs, h => by
    unfold evalList at h
    split at h
    · rename_i v sta he
      split at h
      · rename_i vs' stb hr
        simp only [Option.some.injEq, Prod.mk.injEq] at h
        obtain ⟨_, rfl⟩ := h
        obtain ⟨n, rfl⟩ := evalIn_next he
        obtain ⟨m, rfl⟩ := evalList_next r hr
        exact ⟨m, rfl⟩
      · cases h
    · cases h

theorem matchCase_next {g : GEnv} {ctx : Scope} {sv : Value} : ∀ (es : List Expr) {st st1 : St} {b : Bool},
    matchCase g ctx sv es st = some (b, st1) → ∃ n, st1 = { st with next := n }
  | [], st, st1, b, h => by simp only [matchCase, Option.some.injEq, Prod.mk.injEq] at h; exact ⟨st.next, h.2.symm⟩
  | e :: r, st, st1, b, h => by
    unfold matchCase at h
    split at h
    · cases h
    · rename_i v sta he
      obtain ⟨n, rfl⟩ := evalIn_next he
      split at h
      · simp only [Option.some.injEq, Prod.mk.injEq] at h; exact ⟨n, h.2.symm⟩
      · obtain ⟨m, rfl⟩ := matchCase_next r h
        exact ⟨m, rfl⟩

theorem runDirectives_next {g : GEnv} {ctx : Scope} :
    ∀ (ds : List Directive) {v : Value} {esc : Bool} {st : St} {v' : Value} {esc' : Bool} {st1 : St},
      runDirectives g ctx ds v esc st = some (v', esc', st1) → ∃ n, st1 = { st with next := n }
  | [], v, esc, st, v', esc', st1, h => by
    simp only [runDirectives, Option.some.injEq, Prod.mk.injEq] at h; exact ⟨st.next, h.2.2.symm⟩
  | d :: r, v, esc, st, v', esc', st1, h => by
    unfold runDirectives at h
    split at h
    · cases h
    · split at h
      · cases h
      · split at h
        · cases h
        · rename_i args sta hl
          split at h
          · cases h
          · obtain ⟨n, rfl⟩ := evalList_next _ hl
            obtain ⟨m, rfl⟩ := runDirectives_next r h
            exact ⟨m, rfl⟩

theorem writeAll_out (st : St) (cs : List Bytes) : ∃ o, writeAll st cs = { st with out := o } := by
  induction cs generalizing st with
  | nil => exact ⟨st.out, rfl⟩
  | cons c r ih =>
    obtain ⟨o, h⟩ := ih (write st c)
    exact ⟨o, by simp only [writeAll, List.foldl] at h ⊢; rw [h]; rfl⟩

theorem evalIn_out {g : GEnv} {e : Expr} {ctx : Scope} {st st1 : St} {v : Value}
    (h : evalIn g e ctx st = some (v, st1)) : st1.out = st.out := by
  obtain ⟨n, rfl⟩ := evalIn_next h; rfl

theorem runDirectives_out {g : GEnv} {ctx : Scope} {ds : List Directive} {v : Value} {esc : Bool} {st : St} {v' : Value}
    {esc' : Bool} {st1 : St} (h : runDirectives g ctx ds v esc st = some (v', esc', st1)) : st1.out = st.out := by
  obtain ⟨n, rfl⟩ := runDirectives_next ds h; rfl

theorem runDirectives_flag {g : GEnv} {ctx : Scope} : ∀ {ds : List Directive} {v : Value} {esc : Bool} {st : St}
    {v' : Value} {esc' : Bool} {st1 : St}, runDirectives g ctx ds v esc st = some (v', esc', st1) →
    esc' = (esc && ds.all fun d => match Directives.lookup g.tbl d.name with
      | some e => !e.cancel
      | none => true)
  | [], v, esc, st, v', esc', st1, h => by
    simp only [runDirectives, Option.some.injEq, Prod.mk.injEq] at h
    simp [h.2.1]
  | d :: ds, v, esc, st, v', esc', st1, h => by
    unfold runDirectives at h
    cases he : Directives.lookup g.tbl d.name with
    | none => simp [he] at h
    | some e =>
      simp only [he] at h
      split at h
      · cases h
      · split at h
        · cases h
        · split at h
          · cases h
          · rw [runDirectives_flag h]
            simp only [List.all_cons, he]
            cases e.cancel <;> cases esc <;> simp

theorem set_data {ctx : Scope} {st st2 : St} {k : Bytes} {v : Value} (h : set ctx st k v = some st2) :
    ∃ hp f, st2 = { st with heap := hp, foreign := f } := by
  cases ctx with
  | nil => cases h
  | cons fr r => exact ⟨_, _, (Option.some.inj h).symm⟩

theorem pickDefault_all {P : Run → Prop} {values : List Expr} {body : Run} {dflt : Option Run} (hb : P body)
    (hd : ∀ d, dflt = some d → P d) : ∀ d, pickDefault values body dflt = some d → P d := by
  intro d h
  unfold pickDefault at h
  split at h
  · simp only [Option.some.injEq] at h; rw [← h]; exact hb
  · exact hd d h

/-- the cell of the innermost frame (0 for the empty scope, which `Own` excludes) -/
def top : Scope → Nat
  | [] => 0
  | f :: _ => f.ref

/-- the innermost frame exists and is not a caller-owned map -/
def Own (ctx : Scope) (st : St) : Prop :=
  ∃ f r c, ctx = f :: r ∧ st.heap[f.ref]? = some c ∧ c.ro = false

/-- the scope `execute` starts a template on (`execute_some`, Lemmas/ExecEqns): its top frame is cell 1, the empty
    frame behind the caller's data map -/
theorem Own.init {st : St} {c0 : Cell} {vars : Frame} (h : st.heap = [c0, ⟨vars, false⟩]) :
    Own [⟨1, false⟩, ⟨0, true⟩] st :=
  ⟨⟨1, false⟩, _, ⟨vars, false⟩, rfl, by rw [h]; rfl, rfl⟩

/-- the heap frame from `st` to `st'` (file header); `W`: the indices of the writable cells -/
structure Ext (W : Nat → Prop) (st st' : St) : Prop where
  len : st.heap.length ≤ st'.heap.length
  keep : ∀ i c, st.heap[i]? = some c → ∃ c', st'.heap[i]? = some c' ∧ c'.ro = c.ro ∧ (¬ W i → c'.vars = c.vars)
  foreign : st'.foreign = st.foreign

structure Good (W : Nat → Prop) (ctx : Scope) (st : St) (r : R) : Prop where
  np : r.cls ≠ .panic
  ctx_eq : r.cls = .ok → r.ctx = ctx
  ext : Ext W st r.st

def GoodRun (run : Run) : Prop :=
  ∀ ctx st, Own ctx st → Good (fun i => i = top ctx) ctx st (run ctx st)

theorem Ext.refl (W : Nat → Prop) (st : St) : Ext W st st :=
  ⟨Nat.le_refl _, fun _ c h => ⟨c, h, rfl, fun _ => rfl⟩, rfl⟩

theorem Ext.of_heap_eq {W : Nat → Prop} {st st' : St} (hh : st'.heap = st.heap) (hf : st'.foreign = st.foreign) :
    Ext W st st' :=
  ⟨by rw [hh]; exact Nat.le_refl _, fun _ c h => ⟨c, by rw [hh]; exact h, rfl, fun _ => rfl⟩, hf⟩

theorem Ext.trans {W W' : Nat → Prop} {s0 s1 s2 : St} (h1 : Ext W s0 s1) (h2 : Ext W' s1 s2)
    (hw : ∀ i, i < s0.heap.length → W' i → W i) : Ext W s0 s2 := by
  refine ⟨Nat.le_trans h1.len h2.len, ?_, by rw [h2.foreign, h1.foreign]⟩
  intro i c hc
  obtain ⟨c1, hc1, hro1, hv1⟩ := h1.keep i c hc
  obtain ⟨c2, hc2, hro2, hv2⟩ := h2.keep i c1 hc1
  refine ⟨c2, hc2, by rw [hro2, hro1], ?_⟩
  intro hnw
  have hi : i < s0.heap.length := by
    have := List.getElem?_eq_some_iff.mp hc
    exact this.1
  have : ¬ W' i := fun h => hnw (hw i hi h)
  rw [hv2 this, hv1 hnw]

theorem Ext.mono {W W' : Nat → Prop} {s0 s1 : St} (h : Ext W s0 s1) (hw : ∀ i, W i → W' i) : Ext W' s0 s1 :=
  ⟨h.len, fun i c hc => by
    obtain ⟨c', h1, h2, h3⟩ := h.keep i c hc
    exact ⟨c', h1, h2, fun hn => h3 (fun hwi => hn (hw i hwi))⟩, h.foreign⟩

theorem Own.ext {W : Nat → Prop} {ctx : Scope} {st st' : St} (h : Own ctx st) (e : Ext W st st') : Own ctx st' := by
  obtain ⟨f, r, c, hctx, hc, hro⟩ := h
  obtain ⟨c', hc', hro', _⟩ := e.keep _ c hc
  exact ⟨f, r, c', hctx, hc', by rw [hro', hro]⟩

theorem Own.of_heap {ctx : Scope} {st st' : St} (h : Own ctx st) (e : st'.heap = st.heap) : Own ctx st' := by
  obtain ⟨f, r, c, h1, h2, h3⟩ := h
  exact ⟨f, r, c, h1, by rw [e]; exact h2, h3⟩

theorem heapSet_length (h : List Cell) (i : Nat) (k : Bytes) (v : Value) : (heapSet h i k v).1.length = h.length := by
  induction h generalizing i with
  | nil => simp [heapSet]
  | cons c r ih =>
    cases i with
    | zero => simp [heapSet]
    | succ n => simp [heapSet, ih]

theorem heapSet_get (h : List Cell) (i : Nat) (k : Bytes) (v : Value) (j : Nat) (c : Cell) (hc : h[j]? = some c) :
    ∃ c', (heapSet h i k v).1[j]? = some c' ∧ c'.ro = c.ro ∧ (j ≠ i → c'.vars = c.vars) := by
  induction h generalizing i j with
  | nil => simp at hc
  | cons d r ih =>
    cases i with
    | zero =>
      cases j with
      | zero =>
        simp at hc; subst hc
        exact ⟨{ d with vars := Value.insert d.vars k v }, by simp [heapSet], rfl, fun h => absurd rfl h⟩
      | succ m =>
        simp at hc
        exact ⟨c, by simp [heapSet, hc], rfl, fun _ => rfl⟩
    | succ n =>
      cases j with
      | zero =>
        simp at hc; subst hc
        exact ⟨d, by simp [heapSet], rfl, fun _ => rfl⟩
      | succ m =>
        simp at hc
        obtain ⟨c', h1, h2, h3⟩ := ih n m hc
        exact ⟨c', by simp [heapSet, h1], h2, fun hne => h3 (fun e => hne (by rw [e]))⟩

theorem heapSet_ro (h : List Cell) (i : Nat) (k : Bytes) (v : Value) (c : Cell) (hc : h[i]? = some c) :
    (heapSet h i k v).2 = c.ro := by
  induction h generalizing i with
  | nil => simp at hc
  | cons d r ih =>
    cases i with
    | zero => simp at hc; subst hc; simp [heapSet]
    | succ n => simp at hc; simp [heapSet, ih n hc]

theorem set_ext {ctx : Scope} {st st2 : St} {k : Bytes} {v : Value} (hown : Own ctx st)
    (h : set ctx st k v = some st2) : Ext (fun i => i = top ctx) st st2 := by
  obtain ⟨f, r, c, hctx, hc, hro⟩ := hown
  subst hctx
  simp only [set] at h
  have hset := heapSet_ro st.heap f.ref k v c hc
  cases hs : heapSet st.heap f.ref k v with
  | mk h' ro =>
    rw [hs] at h hset
    simp only [Option.some.injEq] at h
    simp only at hset
    subst h
    refine ⟨?_, ?_, ?_⟩
    · have := heapSet_length st.heap f.ref k v
      rw [hs] at this; simp only at this ⊢; omega
    · intro i c0 hc0
      obtain ⟨c', h1, h2, h3⟩ := heapSet_get st.heap f.ref k v i c0 hc0
      rw [hs] at h1
      exact ⟨c', h1, h2, fun hn => h3 (fun e => hn (by simp [top, e]))⟩
    · simp only [hset, hro]; simp

theorem set_ne_none {ctx : Scope} {st : St} {k : Bytes} {v : Value} (hown : Own ctx st) : set ctx st k v ≠ none := by
  obtain ⟨f, r, c, hctx, _, _⟩ := hown
  subst hctx
  simp [set]

theorem push_spec (ctx : Scope) (st : St) :
    (push ctx st).1 = ⟨st.heap.length, false⟩ :: ctx ∧ Own (push ctx st).1 (push ctx st).2 ∧
    (∀ W, Ext W st (push ctx st).2) ∧ (push ctx st).2.out = st.out := by
  refine ⟨rfl, ?_, ?_, rfl⟩
  · exact ⟨⟨st.heap.length, false⟩, ctx, ⟨[], false⟩, rfl, by simp [push], rfl⟩
  · intro W
    refine ⟨by simp [push], ?_, rfl⟩
    intro i c hc
    have hi : i < st.heap.length := (List.getElem?_eq_some_iff.mp hc).1
    exact ⟨c, by simp [push, List.getElem?_append_left hi, hc], rfl, fun _ => rfl⟩

theorem noteImpossible_ext (W : Nat → Prop) (a : Bool) (ctx : Scope) (st : St) : Ext W st (noteImpossible a ctx st) := by
  unfold noteImpossible
  split
  · exact Ext.of_heap_eq rfl rfl
  · exact Ext.refl _ _

theorem write_ext (W : Nat → Prop) (st : St) (b : Bytes) : Ext W st (write st b) :=
  Ext.of_heap_eq rfl rfl

theorem writeAll_heap (st : St) (cs : List Bytes) : (writeAll st cs).heap = st.heap ∧ (writeAll st cs).foreign = st.foreign := by
  obtain ⟨o, h⟩ := writeAll_out st cs; rw [h]; exact ⟨rfl, rfl⟩

theorem evalIn_ext {g : GEnv} {e : Expr} {ctx : Scope} {st st1 : St} {v : Value} (W : Nat → Prop)
    (h : evalIn g e ctx st = some (v, st1)) : Ext W st st1 := by
  obtain ⟨n, rfl⟩ := evalIn_next h; exact Ext.of_heap_eq rfl rfl

end SoyVerif.Model.Eval
