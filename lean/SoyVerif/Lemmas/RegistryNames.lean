/- Registry.Add never registers a template name twice (helper lemmas of Props/C06.registry_unique_names). -/
import SoyVerif.Model.Registry

namespace SoyVerif.Props.C06
open SoyVerif SoyVerif.Model

theorem nodup_snoc (reg : Registry.Reg) (t : Registry.Tmpl) (hn : (reg.map (·.name)).Nodup)
    (hdup : (reg.any (fun u => u.name == t.name)) ≠ true) : ((reg ++ [t]).map (·.name)).Nodup := by
  simp only [List.map_append, List.map_cons, List.map_nil]
  rw [List.nodup_append]
  refine ⟨hn, by simp, ?_⟩
  intro a ha b hb
  simp only [List.mem_singleton] at hb
  subst hb
  intro hab
  subst hab
  apply hdup
  simp only [List.any_eq_true, beq_iff_eq]
  obtain ⟨u, hu, hname⟩ := List.mem_map.mp ha
  exact ⟨u, hu, hname⟩

theorem addTemplates_names (fileName text nsName : Bytes) (nsAe : Autoescape) :
    ∀ (cmds : List Cmd) (prev : Option Cmd) (reg reg' : Registry.Reg),
      Registry.addTemplates fileName text nsName nsAe cmds prev reg = some reg' →
      (reg.map (·.name)).Nodup → (reg'.map (·.name)).Nodup := by
  intro cmds
  induction cmds with
  | nil => intro prev reg reg' h hn; simp [Registry.addTemplates] at h; subst h; exact hn
  | cons c rest ih =>
    intro prev reg reg' h hn
    unfold Registry.addTemplates at h
    split at h
    · -- a template: whatever node precedes it (the outer `split`), `Add` fails on soydoc + header params, fails on
      -- a name that is there already, and else goes on with the template appended
      rename_i pos name bpos cmds' ae pr
      simp only at h
      split at h
      all_goals
        split at h
        · simp at h
        · split at h
          · simp at h
          · rename_i hdup
            exact ih _ _ _ h (nodup_snoc _ _ hn hdup)
    · exact ih _ _ _ h hn
    · exact ih _ _ _ h hn
    · exact ih _ _ _ h hn
    · cases h

end SoyVerif.Props.C06
