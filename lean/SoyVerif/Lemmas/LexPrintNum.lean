/-
  Per-token lemmas, part 2: numbers.  `scanNumber` on `[-]digits[.digits][e[+-]digits]` followed by
  a byte that cannot continue a number accepts exactly that spelling — as an Integer without
  fraction and exponent (no leading zero), as a Float otherwise; a leading `-` is read as the sign
  of the number when the previous token is one after which `lexNegative` decides "unary".
-/
import SoyVerif.Lemmas.LexPrintTok


namespace SoyVerif.Lemmas.LexPrint
open SoyVerif SoyVerif.Model SoyVerif.Model.Lex SoyVerif.Model.PrintTokens

variable {tg : Int}

/-- the head of `t`, if any, is an ASCII byte that is not a decimal digit -/
def NotDigHd : Bytes → Prop
  | [] => True
  | b :: _ => b < 128 ∧ isDig b = false

theorem notDigHd_ascii {t : Bytes} (h : NotDigHd t) : AsciiHd t := by
  cases t with
  | nil => trivial
  | cons b s => exact h.1

theorem wordEnd_notDig {t : Bytes} (h : WordEnd t) : NotDigHd t := by
  cases t with
  | nil => trivial
  | cons b s =>
    refine ⟨h.1, ?_⟩
    have := h.2
    simp only [isIdChar, Bool.or_eq_false_iff] at this
    exact this.2

theorem dec_true {b : UInt8} (h : isDig b = true) : b < 128 ∧ indexRune decDigits (b.toNat : Int) = true := by
  have hn := isDig_nat h
  refine ⟨by show b.toNat < 128; omega, ?_⟩
  simp only [indexRune, decDigits, List.contains_eq_mem, List.mem_cons, List.not_mem_nil, or_false,
    Bool.and_eq_true, decide_eq_true_eq]
  omega

theorem dec_false {t : Bytes} (h : NotDigHd t) : indexRune decDigits (hdRune t) = false := by
  cases t with
  | nil => exact indexRune_eof _
  | cons b s =>
    have hn := isDig_nat_false h.2
    simp only [hdRune, indexRune, decDigits, List.contains_eq_mem, List.mem_cons, List.not_mem_nil, or_false,
      Bool.and_eq_false_iff, decide_eq_false_iff_not]
    omega

theorem digits_run {inp : Array UInt8} (ds : Bytes) {q : Nat} {t : Bytes} (h : InpAt inp q (ds ++ t))
    (hd : ∀ b ∈ ds, isDig b = true) (ht : NotDigHd t) (st w le its) :
    acceptRun (L tg inp q st w le its) decDigits = some (decide (0 < ds.length), L tg inp (q + ds.length) st (hdW t) le its) :=
  acceptRun_run decDigits ds h (fun b hb => dec_true (hd b hb)) (notDigHd_ascii ht) (dec_false ht) st w le its

theorem scanEnd (T : LexTableOK) {inp q rest} (h : InpAt inp q rest) (hr : WordEnd rest) (typ : ItemType) (st w le its) :
    scanNumberEnd (L tg inp q st w le its) typ = some (typ, true, L tg inp q st (hdW rest) le its) := by
  unfold scanNumberEnd
  simp only [peek_hd h (wordEnd_ascii hr), Option.bind_eq_bind, Option.bind_some, alnum_false T hr]
  rfl

theorem wordEnd_ne {rest : Bytes} (h : WordEnd rest) (b : UInt8) (hb : isIdChar b = true) : hdRune rest ≠ (b.toNat : Int) := by
  cases rest with
  | nil => simp only [hdRune]; omega
  | cons c s =>
    simp only [hdRune]
    intro e
    have : c = b := UInt8.toNat_inj.mp (by omega)
    have h2 := h.2
    rw [this, hb] at h2
    exact absurd h2 (by simp)

theorem scanExp_none (T : LexTableOK) {inp q rest} (h : InpAt inp q rest) (hr : WordEnd rest) (typ : ItemType) (st w le its) :
    scanNumberExp (L tg inp q st w le its) typ = some (typ, true, L tg inp q st (hdW rest) le its) := by
  unfold scanNumberExp
  have hne := wordEnd_ne hr 101 (by decide)
  have ha := accept_no (tg := tg) h (wordEnd_ascii hr) [101] (by
    simp only [indexRune, List.contains_eq_mem, List.mem_cons, List.not_mem_nil, or_false, Bool.and_eq_false_iff,
      decide_eq_false_iff_not]
    right; exact hne) st w le its
  simp only [ha, Option.bind_eq_bind, Option.bind_some, scanEnd T h hr]
  rfl

/-- an optional sign of the exponent -/
def IsSign (s : Bytes) : Prop := s = [] ∨ s = [43] ∨ s = [45]

/-- `scanNumberExp` on `e[+-]digits` -/
theorem scanExp_some (T : LexTableOK) {inp q} {sgn es rest : Bytes} (h : InpAt inp q (101 :: (sgn ++ (es ++ rest))))
    (hs : IsSign sgn) (hes : es ≠ []) (hd : ∀ b ∈ es, isDig b = true) (hr : WordEnd rest) (typ : ItemType) (st w le its) :
    scanNumberExp (L tg inp q st w le its) typ =
      some (.tFloat, true, L tg inp (q + 1 + sgn.length + es.length) st (hdW rest) le its) := by
  unfold scanNumberExp
  have ha := accept_yes (tg := tg) h (by decide) [101] (by decide) st w le its
  have h1 : InpAt inp (q + 1) (sgn ++ (es ++ rest)) := inpAt_tail h
  have h2 : InpAt inp (q + 1 + sgn.length) (es ++ rest) := inpAt_append h1
  have h3 : InpAt inp (q + 1 + sgn.length + es.length) rest := inpAt_append h2
  obtain ⟨e0, es', rfl⟩ := List.exists_cons_of_ne_nil hes
  have he0 := isDig_nat (hd e0 (by simp))
  have hsg : ∃ w', accept (L tg inp (q + 1) st 1 le its) [43, 45] = some (decide (sgn ≠ []), L tg inp (q + 1 + sgn.length) st w' le its) := by
    rcases hs with rfl | rfl | rfl
    · refine ⟨1, ?_⟩
      have := accept_no (tg := tg) (rest := e0 :: (es' ++ rest)) (by simpa using h1) (asciiHd_cons (by show e0.toNat < 128; omega)) [43, 45] (by
        simp only [hdRune, indexRune, List.contains_eq_mem, List.mem_cons, List.not_mem_nil, or_false, Bool.and_eq_false_iff,
          decide_eq_false_iff_not]
        omega) st 1 le its
      simpa [hdW] using this
    · refine ⟨1, ?_⟩
      have := accept_yes (tg := tg) (b := 43) (s := (e0 :: es') ++ rest) (by simpa using h1) (by decide) [43, 45] (by decide) st 1 le its
      simpa using this
    · refine ⟨1, ?_⟩
      have := accept_yes (tg := tg) (b := 45) (s := (e0 :: es') ++ rest) (by simpa using h1) (by decide) [43, 45] (by decide) st 1 le its
      simpa using this
  obtain ⟨w', hsg⟩ := hsg
  have hrun := digits_run (tg := tg) (e0 :: es') h2 hd (wordEnd_notDig hr) st w' le its
  simp only [ha, Option.bind_eq_bind, Option.bind_some, if_true, hsg, hrun, scanEnd T h3 hr]
  simp

def AllDig (ds : Bytes) : Prop := ∀ b ∈ ds, isDig b = true

/-- a fraction `.digits`, or nothing -/
def FracOk (frac : Bytes) : Prop := frac = [] ∨ ∃ fs, frac = 46 :: fs ∧ fs ≠ [] ∧ AllDig fs

/-- an exponent `e[+-]digits`, or nothing -/
def ExpOk (ex : Bytes) : Prop := ex = [] ∨ ∃ sgn es, ex = 101 :: (sgn ++ es) ∧ IsSign sgn ∧ es ≠ [] ∧ AllDig es

/-- no leading zero (except "0" itself) -/
def NoLeadZero (ds : Bytes) : Prop := ds = [48] ∨ ds.head? ≠ some 48

/-- the byte after a number: as after a word (`scanNumberEnd` rejects a letter, digit or `_`), and not a `.`, which
    `scanNumber` would read as the beginning of a fraction -/
def NumEnd (rest : Bytes) : Prop := WordEnd rest ∧ rest.head? ≠ some 46

theorem scanExp_any (T : LexTableOK) {inp q} {ex rest : Bytes} (h : InpAt inp q (ex ++ rest))
    (hx : ExpOk ex) (hr : WordEnd rest) (typ : ItemType) (st w le its) :
    scanNumberExp (L tg inp q st w le its) typ =
      some (if ex = [] then typ else .tFloat, true, L tg inp (q + ex.length) st (hdW rest) le its) := by
  rcases hx with rfl | ⟨sgn, es, rfl, hs, hes, hd⟩
  · simpa using scanExp_none T (by simpa using h) hr typ st w le its
  · have := scanExp_some (tg := tg) T (sgn := sgn) (es := es) (rest := rest) (by simpa using h) hs hes hd hr typ st w le its
    simp only [this, List.cons_ne_nil, if_false, List.length_cons, List.length_append]
    congr 4
    omega

theorem notDig_tail {frac ex rest : Bytes} (hf : FracOk frac) (hx : ExpOk ex) (hr : WordEnd rest) :
    NotDigHd (frac ++ (ex ++ rest)) := by
  rcases hf with rfl | ⟨fs, rfl, _, _⟩
  · rcases hx with rfl | ⟨sgn, es, rfl, _, _, _⟩
    · simpa using wordEnd_notDig hr
    · exact ⟨by decide, by decide⟩
  · exact ⟨by decide, by decide⟩

theorem tail_not_x {frac ex rest : Bytes} (hf : FracOk frac) (hx : ExpOk ex) (hr : WordEnd rest) :
    ∀ b t, frac ++ (ex ++ rest) = b :: t → b ≠ 120 := by
  intro b t e
  rcases hf with rfl | ⟨fs, rfl, _, _⟩
  · rcases hx with rfl | ⟨sgn, es, rfl, _, _, _⟩
    · subst e
      intro e2
      subst e2
      exact absurd hr.2 (by decide)
    · cases e
      decide
  · cases e
    decide

theorem indexOf_at {inp : Array UInt8} {q : Nat} {b : UInt8} {s : Bytes} (h : InpAt inp q (b :: s)) :
    indexOf inp (q : Int) = some b := by
  have ⟨h1, h2⟩ := inpAt_get h
  unfold indexOf
  rw [if_pos ⟨by omega, by omega⟩]
  simp only [Int.toNat_natCast, h2]

/-- the hexadecimal test of `scanNumber` (`isHex`, the conclusion is its text) fails when the second byte is not `x`
    (`l` stands at `bs`) -/
theorem hex_false {inp : Array UInt8} {q : Nat} {bs : Bytes} (h : InpAt inp q bs)
    (hx : ∀ a b t, bs = a :: b :: t → b ≠ 120) (l : Lexer) (hinp : l.input = inp) (hlen : l.len = (inp.size : Int))
    (hpos : l.pos = (q : Int)) :
    (if l.len ≥ l.pos + 2 then do
        let s ← sliceOf l.input l.pos (l.pos + 2)
        pure (s == [48, 120])
      else pure false : Option Bool) = some false := by
  have hl := inpAt_len h
  split
  · rename_i hge
    rw [hlen, hpos] at hge
    rw [hpos, hinp]
    match bs, h, hx, hl with
    | [], h, hx, hl => simp at hl; omega
    | [a], h, hx, hl => simp at hl; omega
    | a :: b :: t, h, hx, hl =>
      have hb := hx a b t rfl
      have he := inpAt_extract (v := [a, b]) (s := t) h
      unfold sliceOf
      rw [if_pos ⟨by omega, by omega, by omega⟩]
      have : ((q : Int) + 2).toNat = q + 2 := by omega
      simp only [Int.toNat_natCast, this]
      have he2 : (inp.extract q (q + 2)).toList = [a, b] := he
      rw [he2]
      simp [hb]
  · rfl

/-- the leading-zero test of `scanNumber` (`bad`, the conclusion is its text; "Integers can't start with 0") fails on
    digits without a leading zero (`l` stands after them) -/
theorem leadZero_false {inp : Array UInt8} {st : Nat} {sg ds t : Bytes} (h : InpAt inp st (sg ++ (ds ++ t)))
    (hsg : sg = [] ∨ sg = [45]) (hne : ds ≠ []) (hz : NoLeadZero ds) (l : Lexer) (hi : l.input = inp)
    (hs : l.start = st) (hp : l.pos = ((st + sg.length + ds.length : Nat) : Int)) :
    (if (!decide (sg ≠ [])) = true then do
        let b ← indexOf l.input l.start
        pure (b == 48 && decide (l.pos > l.start + 1))
      else do
        let b ← indexOf l.input (l.start + 1)
        pure (b == 48 && decide (l.pos > l.start + 2)) : Option Bool) = some false := by
  obtain ⟨d1, ds', rfl⟩ := List.exists_cons_of_ne_nil hne
  rw [hi, hs, hp]
  rcases hsg with rfl | rfl
  · have hi := indexOf_at (b := d1) (s := ds' ++ t) (by simpa using h)
    simp only [List.length_nil, Nat.add_zero, ne_eq, not_true_eq_false, decide_false, Bool.not_false, if_true, hi,
      Option.bind_eq_bind, Option.bind_some, Option.pure_def, Option.some.injEq, Bool.and_eq_false_iff,
      decide_eq_false_iff_not, beq_eq_false_iff_ne]
    rcases hz with e | e
    · right
      simp only [List.cons.injEq] at e
      rw [e.2]; simp
    · left; intro e2; apply e; simp [e2]
  · have hi := indexOf_at (b := d1) (s := ds' ++ t) (by simpa using inpAt_tail (b := 45) (by simpa using h))
    have hcast : ((st : Int) + 1) = ((st + 1 : Nat) : Int) := by omega
    simp only [List.length_cons, List.length_nil, ne_eq, List.cons_ne_nil, not_false_eq_true, decide_true, Bool.not_true,
      Bool.false_eq_true, if_false, hcast, hi,
      Option.bind_eq_bind, Option.bind_some, Option.pure_def, Option.some.injEq, Bool.and_eq_false_iff,
      decide_eq_false_iff_not, beq_eq_false_iff_ne]
    rcases hz with e | e
    · right
      simp only [List.cons.injEq] at e
      rw [e.2]; simp; omega
    · left; intro e2; apply e; simp [e2]

theorem sign_false {c : UInt8} (h : isDig c = true) :
    indexRune [43, 45] (c.toNat : Int) = false := by
  have := isDig_nat h
  simp only [indexRune, List.contains_eq_mem, List.mem_cons, List.not_mem_nil, or_false, Bool.and_eq_false_iff,
    decide_eq_false_iff_not]
  omega

theorem dot_false {t : Bytes} (ha : AsciiHd t) (h : t.head? ≠ some 46) : indexRune [46] (hdRune t) = false := by
  cases t with
  | nil => exact indexRune_eof _
  | cons b s =>
    simp only [hdRune, indexRune, List.contains_eq_mem, List.mem_cons, List.not_mem_nil, or_false, Bool.and_eq_false_iff,
      decide_eq_false_iff_not]
    right
    intro e
    apply h
    have : b = 46 := UInt8.toNat_inj.mp (by simp; omega)
    simp [this]

/-- `scanNumber` on `[-]digits[.digits][e[+-]digits]` followed by a byte that ends a number, in the order of its tests:
    sign, hexadecimal prefix, digits, `.` and fraction (or the leading-zero test), exponent, `scanNumberEnd` -/
theorem scanNumber_shape (T : LexTableOK) {inp st} {sg ds frac ex rest : Bytes}
    (h : InpAt inp st (sg ++ (ds ++ (frac ++ (ex ++ rest)))))
    (hsg : sg = [] ∨ sg = [45]) (hds : ds ≠ []) (hd : AllDig ds) (hf : FracOk frac) (hx : ExpOk ex)
    (hz : frac = [] → NoLeadZero ds) (hr : NumEnd rest) (le its) :
    scanNumber (L tg inp st st 1 le its) =
      some (if frac = [] ∧ ex = [] then .tInteger else .tFloat, true,
        L tg inp (st + sg.length + ds.length + frac.length + ex.length) st (hdW rest) le its) := by
  obtain ⟨d1, ds', rfl⟩ := List.exists_cons_of_ne_nil hds
  have hd1 := hd d1 (by simp)
  have hd1n := isDig_nat hd1
  have hd18 : d1 < 128 := by show d1.toNat < 128; omega
  have hq : InpAt inp (st + sg.length) ((d1 :: ds') ++ (frac ++ (ex ++ rest))) := inpAt_append h
  have hq2 : InpAt inp (st + sg.length + (d1 :: ds').length) (frac ++ (ex ++ rest)) := inpAt_append hq
  have hq3 : InpAt inp (st + sg.length + (d1 :: ds').length + frac.length) (ex ++ rest) := inpAt_append hq2
  have hsign : accept (L tg inp st st 1 le its) [43, 45] = some (decide (sg ≠ []), L tg inp (st + sg.length) st 1 le its) := by
    rcases hsg with rfl | rfl
    · have := accept_no (tg := tg) (rest := d1 :: (ds' ++ (frac ++ (ex ++ rest)))) (by simpa using h) (asciiHd_cons hd18) [43, 45]
        (sign_false hd1) st 1 le its
      simpa [hdW] using this
    · have := accept_yes (tg := tg) (b := 45) (s := (d1 :: ds') ++ (frac ++ (ex ++ rest))) (by simpa using h) (by decide) [43, 45]
        (by decide) st 1 le its
      simpa using this
  have hhex := hex_false (bs := (d1 :: ds') ++ (frac ++ (ex ++ rest))) hq (by
    intro a b t e
    rw [List.cons_append, List.cons.injEq] at e
    cases ds' with
    | cons c r =>
      rw [List.cons_append, List.cons.injEq] at e
      have := isDig_nat (hd c (by simp))
      intro e2
      rw [e.2.1, e2] at this
      simp at this
    | nil => exact tail_not_x hf hx hr.1 b t e.2) (L tg inp (st + sg.length) st 1 le its) rfl rfl rfl
  have hrun := digits_run (tg := tg) (d1 :: ds') hq hd (notDig_tail hf hx hr.1) st 1 le its
  simp only [List.length_cons, Nat.zero_lt_succ, decide_true] at hrun
  unfold scanNumber
  simp only [Option.bind_eq_bind, Option.pure_def] at hhex
  simp only [hsign, Option.bind_eq_bind, Option.pure_def, Option.bind_some, hhex, Bool.false_eq_true, if_false, hrun, Bool.not_true]
  rcases hf with rfl | ⟨fs, rfl, hfs, hfd⟩
  · -- no fraction
    have hnd : (ex ++ rest).head? ≠ some 46 := by
      rcases hx with rfl | ⟨sgn, es, rfl, _, _, _⟩
      · simpa using hr.2
      · simp
    have hdot := accept_no (tg := tg) (rest := ex ++ rest) (by simpa using hq2) (notDigHd_ascii (by simpa using notDig_tail (Or.inl rfl) hx hr.1)) [46]
      (dot_false (notDigHd_ascii (by simpa using notDig_tail (Or.inl rfl) hx hr.1)) hnd) st (hdW ([] ++ (ex ++ rest))) le its
    simp only [hdot, Option.bind_some]
    have hzero := leadZero_false h hsg (List.cons_ne_nil d1 ds') (hz rfl)
      (L tg inp (st + sg.length + (ds'.length + 1)) st (hdW (ex ++ rest)) le its) rfl rfl rfl
    simp only [Option.bind_eq_bind, Option.pure_def] at hzero
    simp only [hzero, Option.bind_some, Bool.false_eq_true, if_false]
    have hexp := scanExp_any (tg := tg) T (ex := ex) (rest := rest) (by simpa using hq3) hx hr.1 .tInteger st (hdW (ex ++ rest)) le its
    rw [hexp]
    simp only [List.length_nil, Nat.add_zero, true_and, List.length_cons]
  · -- a fraction
    have hq2' : InpAt inp (st + sg.length + (d1 :: ds').length) (46 :: (fs ++ (ex ++ rest))) := by simpa using hq2
    have hdot := accept_yes (tg := tg) hq2' (by decide) [46] (by decide) st (hdW (46 :: fs ++ (ex ++ rest))) le its
    simp only [List.length_cons] at hdot
    simp only [hdot, Option.bind_some, if_true]
    have hfrun := digits_run (tg := tg) fs (inpAt_tail hq2') hfd (by simpa using notDig_tail (Or.inl rfl) hx hr.1) st 1 le its
    have hfpos : decide (0 < fs.length) = true := by
      cases fs with
      | nil => exact absurd rfl hfs
      | cons a b => simp
    simp only [List.length_cons, hfpos] at hfrun
    simp only [hfrun, Option.bind_some, Bool.not_true, Bool.false_eq_true, if_false]
    have hexp := scanExp_any (tg := tg) T (ex := ex) (rest := rest) (by
      have := inpAt_append (a := fs) (inpAt_tail hq2'); simpa using this) hx hr.1 .tFloat st (hdW (ex ++ rest)) le its
    try simp only [List.length_cons] at hexp
    rw [hexp]
    simp only [List.cons_ne_nil, false_and, if_false, ite_self, List.length_cons]
    congr 4
    omega

/-- the spelling of a number token: `[-]digits[.digits][e[+-]digits]`, an integer without leading
    zero when there is neither fraction nor exponent (what `scanNumber` accepts in decimal) -/
def NumShape (val : Bytes) (typ : ItemType) : Prop :=
  ∃ sg ds frac ex, val = sg ++ (ds ++ (frac ++ ex)) ∧ (sg = [] ∨ sg = [45]) ∧ ds ≠ [] ∧ AllDig ds ∧
    FracOk frac ∧ ExpOk ex ∧ (frac = [] → NoLeadZero ds) ∧
    typ = (if frac = [] ∧ ex = [] then ItemType.tInteger else ItemType.tFloat)

/-- a number token; a leading `-` needs a previous token after which `-` is unary -/
theorem step_number (T : LexTableOK) {inp p} {val rest : Bytes} {typ : ItemType} (h : InpAt inp p (val ++ rest))
    (hs : NumShape val typ) (hr : NumEnd rest) (le its)
    (hprev : val.head? = some 45 → Gen.unaryMinusAfter.contains le.typ = true) :
    Step2 tg inp p le its ⟨typ, val⟩ := by
  obtain ⟨sg, ds, frac, ex, rfl, hsg, hds, hd, hf, hx, hz, rfl⟩ := hs
  intro w
  have h' : InpAt inp p (sg ++ (ds ++ (frac ++ (ex ++ rest)))) := by simpa using h
  have hscan := scanNumber_shape (tg := tg) T h' hsg hds hd hf hx hz hr le its
  have hlen : p + sg.length + ds.length + frac.length + ex.length = p + (sg ++ (ds ++ (frac ++ ex))).length := by
    simp only [List.length_append]; omega
  rw [hlen] at hscan
  have he := emit_L (tg := tg) h (pe := p + (sg ++ (ds ++ (frac ++ ex))).length) rfl (hdW rest) le its
    (if frac = [] ∧ ex = [] then ItemType.tInteger else ItemType.tFloat)
  refine ⟨hdW rest, .number, L tg inp p p 1 le its, ?_, ?_⟩
  · obtain ⟨d1, ds', rfl⟩ := List.exists_cons_of_ne_nil hds
    have hd1n := isDig_nat (hd d1 (by simp))
    have hd18 : d1 < 128 := by show d1.toNat < 128; omega
    rcases hsg with rfl | rfl
    · have h0 : InpAt inp p (d1 :: (ds' ++ (frac ++ (ex ++ rest)))) := by simpa using h'
      simp only [step, lexInsideTag, next_L h0 hd18, Option.bind_eq_bind, Option.bind_some]
      have hsp : isSpaceEOL (d1.toNat : Int) = false := by
        simp only [isSpaceEOL, isSpace, isEndOfLine, Bool.or_eq_false_iff, beq_eq_false_iff_ne]; omega
      simp only [hsp, Bool.false_eq_true, if_false]
      rw [if_neg (by omega)]
      unfold lexInsideTagMid
      rw [if_neg (by omega), if_neg (by omega), if_neg (by omega), if_neg (by omega), if_neg (by omega),
        if_neg (by omega), if_pos (by omega)]
      simp only [Option.pure_def, backup_L]
    · have h0 : InpAt inp p (45 :: (d1 :: (ds' ++ (frac ++ (ex ++ rest))))) := by simpa using h'
      have h1 := inpAt_tail h0
      have hp : (L tg inp (p + 1) p 1 le its).peek = some ((d1.toNat : Int), L tg inp (p + 1) p 1 le its) :=
        peek_hd h1 (asciiHd_cons hd18) p 1 le its
      have hl : (L tg inp (p + 1) p 1 le its).lastEmit = le := rfl
      have hpv := hprev (by simp)
      simp only [step, lexInsideTag, next_L h0 (by decide), Option.bind_eq_bind, Option.bind_some]
      have h48 : (48 : Int) ≤ (d1.toNat : Int) := by omega
      have h57 : (d1.toNat : Int) ≤ 57 := by omega
      have hmem : le.typ ∈ Gen.unaryMinusAfter := by simpa using hpv
      simp [isSpaceEOL, isSpace, isEndOfLine, lexInsideTagMid, lexNegative, hl, hmem, hp, h48, h57, backup_L]
  · simp only [step, lexNumber, hscan, Option.bind_eq_bind, Option.bind_some, Bool.not_true, Bool.false_eq_true, if_false,
      emitInside, he, Option.pure_def, itemOf]
end SoyVerif.Lemmas.LexPrint
