/-
  Step 1 of `setPlaceholderNames` (representative nodes): the invariant of the node-queue
  loop.  `done` = the nodes processed so far.  At the end: the queue `mkQueue` builds (node `i` has id `i`).
-/
import SoyVerif.Lemmas.MsgMap

namespace SoyVerif.Model.Msg

/-- the node ids held by `baseNameToRepNodes` -/
def repIds (reps : List (Bytes × List QNode)) : List Nat := reps.flatMap (fun e => e.2.map (·.id))

structure Inv1 (done : List QNode) (s : Step1) : Prop where
  /-- base names are distinct map keys -/
  keys : (s.reps.map Prod.fst).Nodup
  /-- every processed node is exactly once either a representative or a key of `equivNodeToRepNodes` -/
  ids : (repIds s.reps ++ s.equiv.map Prod.fst).Perm (done.map (·.id))
  /-- equivalent nodes point to representatives -/
  rep : ∀ e ∈ s.equiv, e.2 ∈ repIds s.reps
  /-- representatives are filed under their base name -/
  base : ∀ e ∈ s.reps, ∀ n ∈ e.2, n.base = e.1 ∧ n ∈ done
  /-- representatives of one base name have pairwise different source text -/
  srcs : ∀ e ∈ s.reps, (e.2.map (·.src)).Nodup
  /-- every processed node has a representative with the same base name and source text -/
  cover : ∀ n ∈ done, ∃ e ∈ s.reps, ∃ r ∈ e.2, r.base = n.base ∧ r.src = n.src ∧
            (r = n ∨ (n.id, r.id) ∈ s.equiv)

theorem Inv1.ids_nodup {done : List QNode} {s : Step1} (inv : Inv1 done s) (nd : (done.map (·.id)).Nodup) :
    (repIds s.reps ++ s.equiv.map Prod.fst).Nodup := inv.ids.nodup_iff.mpr nd

theorem repIds_append (a b : List (Bytes × List QNode)) : repIds (a ++ b) = repIds a ++ repIds b := by
  simp [repIds]

theorem repIds_cons (e : Bytes × List QNode) (b : List (Bytes × List QNode)) :
    repIds (e :: b) = e.2.map (·.id) ++ repIds b := by
  simp [repIds]

@[simp] theorem repIds_nil : repIds [] = [] := rfl

theorem mem_repIds {reps : List (Bytes × List QNode)} {e : Bytes × List QNode} {n : QNode}
    (he : e ∈ reps) (hn : n ∈ e.2) : n.id ∈ repIds reps := by
  simp only [repIds, List.mem_flatMap, List.mem_map]
  exact ⟨e, he, n, hn, rfl⟩

theorem inv1_init : Inv1 [] {} := by
  refine ⟨by simp, by simp [repIds], ?_, ?_, ?_, ?_⟩ <;> simp

theorem inv1_step {done : List QNode} {s : Step1} {node : QNode}
    (h : Inv1 done s) (hid : node.id ∉ done.map (·.id)) :
    Inv1 (done ++ [node]) (step1Node s node) := by
  have hfreshE : node.id ∉ s.equiv.map Prod.fst := fun hm =>
    hid (h.ids.mem_iff.mp (List.mem_append_right _ hm))
  unfold step1Node
  split
  case h_1 hk =>
    -- a new base name
    have hnk := not_mem_of_lookup_none hk
    simp only [mapSet_fresh hnk]
    refine ⟨?_, ?_, ?_, ?_, ?_, ?_⟩
    · simp only [List.map_append, List.map_cons, List.map_nil]
      rw [List.nodup_append]
      refine ⟨h.keys, by simp, ?_⟩
      intro a ha b hb
      simp only [List.mem_singleton] at hb
      subst hb
      exact fun e => hnk (e ▸ ha)
    · have := h.ids
      rw [List.perm_iff_count] at this ⊢
      intro a
      have := this a
      simp only [repIds_append, repIds_cons, repIds_nil, List.map_cons, List.map_nil,
        List.map_append, List.count_append, List.append_nil] at this ⊢
      omega
    · intro e he
      rw [repIds_append]
      exact List.mem_append_left _ (h.rep e he)
    · intro e he n hn
      rcases List.mem_append.mp he with he | he
      · obtain ⟨h1, h2⟩ := h.base e he n hn
        exact ⟨h1, List.mem_append_left _ h2⟩
      · simp only [List.mem_singleton] at he
        subst he
        simp only [List.mem_singleton] at hn
        subst hn
        exact ⟨rfl, by simp⟩
    · intro e he
      rcases List.mem_append.mp he with he | he
      · exact h.srcs e he
      · simp only [List.mem_singleton] at he
        subst he
        simp
    · intro n hn
      rcases List.mem_append.mp hn with hn | hn
      · obtain ⟨e, he, r, hr, h1, h2, h3⟩ := h.cover n hn
        exact ⟨e, List.mem_append_left _ he, r, hr, h1, h2, h3⟩
      · simp only [List.mem_singleton] at hn
        subst hn
        exact ⟨(n.base, [n]), by simp, n, by simp, rfl, rfl, Or.inl rfl⟩
  case h_2 nodes hk =>
    obtain ⟨l₁, l₂, hsplit, hl₁⟩ := lookup_split hk
    have hkeys := h.keys
    rw [hsplit] at hkeys
    simp only [List.map_append, List.map_cons] at hkeys
    have hl₂ : node.base ∉ l₂.map Prod.fst := by
      have := (List.nodup_append.mp hkeys).2.1
      exact (List.nodup_cons.mp this).1
    have hmemE : (node.base, nodes) ∈ s.reps := by rw [hsplit]; simp
    split
    case h_1 other hf =>
      -- an equivalent node
      have hother : other ∈ nodes := List.mem_of_find?_eq_some hf
      have hsrc : other.src = node.src := by simpa using List.find?_some hf
      simp only [mapSet_fresh hfreshE]
      refine ⟨h.keys, ?_, ?_, ?_, h.srcs, ?_⟩
      · have := h.ids
        rw [List.perm_iff_count] at this ⊢
        intro a
        have := this a
        simp only [List.map_append, List.map_cons, List.map_nil, List.count_append] at this ⊢
        omega
      · intro e he
        rcases List.mem_append.mp he with he | he
        · exact h.rep e he
        · simp only [List.mem_singleton] at he
          subst he
          exact mem_repIds hmemE hother
      · intro e he n hn
        obtain ⟨h1, h2⟩ := h.base e he n hn
        exact ⟨h1, List.mem_append_left _ h2⟩
      · intro n hn
        rcases List.mem_append.mp hn with hn | hn
        · obtain ⟨e, he, r, hr, h1, h2, h3⟩ := h.cover n hn
          refine ⟨e, he, r, hr, h1, h2, ?_⟩
          rcases h3 with h3 | h3
          · exact Or.inl h3
          · exact Or.inr (List.mem_append_left _ h3)
        · simp only [List.mem_singleton] at hn
          subst hn
          exact ⟨(n.base, nodes), hmemE, other, hother, (h.base _ hmemE other hother).1, hsrc,
            Or.inr (by simp)⟩
    case h_2 hf =>
      -- a new representative under an existing base name
      have hnew : node.src ∉ nodes.map (·.src) := by
        intro hm
        obtain ⟨x, hx, hxs⟩ := List.mem_map.mp hm
        have := List.find?_eq_none.mp hf x hx
        simp [hxs] at this
      have hset : mapSet s.reps node.base (nodes ++ [node]) = l₁ ++ (node.base, nodes ++ [node]) :: l₂ := by
        rw [hsplit]; exact mapSet_present hl₁ hl₂
      simp only [hset]
      have hmem' : ∀ e, e ∈ l₁ ++ (node.base, nodes ++ [node]) :: l₂ →
          e ∈ s.reps ∨ e = (node.base, nodes ++ [node]) := by
        intro e he
        rw [hsplit]
        simp only [List.mem_append, List.mem_cons] at he ⊢
        rcases he with he | he | he
        · exact Or.inl (Or.inl he)
        · exact Or.inr he
        · exact Or.inl (Or.inr (Or.inr he))
      have hmemOld : ∀ e, e ∈ s.reps → e = (node.base, nodes) ∨ e ∈ l₁ ++ (node.base, nodes ++ [node]) :: l₂ := by
        intro e he
        rw [hsplit] at he
        simp only [List.mem_append, List.mem_cons] at he ⊢
        rcases he with he | he | he
        · exact Or.inr (Or.inl he)
        · exact Or.inl he
        · exact Or.inr (Or.inr (Or.inr he))
      have hcount : ∀ a, List.count a (repIds (l₁ ++ (node.base, nodes ++ [node]) :: l₂)) =
          List.count a (repIds s.reps) + List.count a [node.id] := by
        intro a
        rw [hsplit]
        simp only [repIds_append, repIds_cons, List.map_append, List.map_cons, List.map_nil, List.count_append]
        omega
      refine ⟨?_, ?_, ?_, ?_, ?_, ?_⟩
      · have := h.keys
        rw [hsplit] at this
        simpa using this
      · have := h.ids
        rw [List.perm_iff_count] at this ⊢
        intro a
        have := this a
        simp only [List.map_append, List.map_cons, List.map_nil, List.count_append, hcount] at this ⊢
        omega
      · intro e he
        have := h.rep e he
        rw [← List.count_pos_iff] at this ⊢
        rw [hcount]; omega
      · intro e he n hn
        rcases hmem' e he with he | he
        · obtain ⟨h1, h2⟩ := h.base e he n hn
          exact ⟨h1, List.mem_append_left _ h2⟩
        · subst he
          rcases List.mem_append.mp hn with hn | hn
          · obtain ⟨h1, h2⟩ := h.base _ hmemE n hn
            exact ⟨h1, List.mem_append_left _ h2⟩
          · simp only [List.mem_singleton] at hn
            subst hn
            exact ⟨rfl, by simp⟩
      · intro e he
        rcases hmem' e he with he | he
        · exact h.srcs e he
        · subst he
          simp only [List.map_append, List.map_cons, List.map_nil]
          rw [List.nodup_append]
          refine ⟨h.srcs _ hmemE, by simp, ?_⟩
          intro a ha b hb
          simp only [List.mem_singleton] at hb
          subst hb
          exact fun e => hnew (e ▸ ha)
      · intro n hn
        rcases List.mem_append.mp hn with hn | hn
        · obtain ⟨e, he, r, hr, h1, h2, h3⟩ := h.cover n hn
          rcases hmemOld e he with he' | he'
          · subst he'
            exact ⟨(node.base, nodes ++ [node]), by simp, r, List.mem_append_left _ hr, h1, h2, h3⟩
          · exact ⟨e, he', r, hr, h1, h2, h3⟩
        · simp only [List.mem_singleton] at hn
          subst hn
          exact ⟨(n.base, nodes ++ [n]), by simp, n, by simp, rfl, rfl, Or.inl rfl⟩

theorem inv1_foldl : ∀ (q done : List QNode) (s : Step1), Inv1 done s →
    ((done ++ q).map (·.id)).Nodup → Inv1 (done ++ q) (q.foldl step1Node s)
  | [], done, s, h, _ => by simpa using h
  | node :: q, done, s, h, nd => by
    have hid : node.id ∉ done.map (·.id) := by
      simp only [List.map_append, List.map_cons] at nd
      intro hm
      exact (List.nodup_append.mp nd).2.2 _ hm node.id (by simp) rfl
    have := inv1_foldl q (done ++ [node]) (step1Node s node) (inv1_step h hid) (by simpa using nd)
    simpa using this

theorem inv1_step1 (q : List QNode) (nd : (q.map (·.id)).Nodup) : Inv1 q (step1 q) := by
  have := inv1_foldl q [] {} inv1_init (by simpa using nd)
  simpa [step1] using this

theorem mkQueue_getElem? (ps : List Part) (i : Nat) :
    (mkQueue ps)[i]? = ps[i]?.map fun p => ⟨i, p.base, p.src⟩ := by
  simp only [mkQueue, List.getElem?_map, List.getElem?_zipIdx, Option.map_map]
  cases ps[i]? <;> simp

theorem mkQueue_getElem_id (ps : List Part) (i : Nat) (hi : i < (mkQueue ps).length) :
    (mkQueue ps)[i].id = i := by
  have h := mkQueue_getElem? ps i
  rw [List.getElem?_eq_getElem hi] at h
  cases hp : ps[i]? <;> simp [hp] at h
  rw [h]

theorem mkQueue_ids_nodup (ps : List Part) : ((mkQueue ps).map (·.id)).Nodup := by
  have : ((fun x : QNode => x.id) ∘ fun x : Part × Nat => (⟨x.2, x.1.base, x.1.src⟩ : QNode)) = Prod.snd := rfl
  rw [mkQueue, List.map_map, this, List.zipIdx_map_snd]
  exact List.nodup_range'

theorem mkQueue_mem {ps : List Part} {p : Part} (h : p ∈ ps) :
    ∃ n ∈ mkQueue ps, n.base = p.base ∧ n.src = p.src := by
  obtain ⟨i, hi, rfl⟩ := List.getElem_of_mem h
  exact ⟨⟨i, ps[i].base, ps[i].src⟩, List.mem_iff_getElem?.mpr ⟨i, by simp [mkQueue_getElem?, hi]⟩, rfl, rfl⟩

end SoyVerif.Model.Msg
