/-
  UTF-8: the well-formed sequences of the specification (Spec/Utf8.lean) against the decoder of the model
  (`Model.decodeRune`, utf8.DecodeRune).  A well-formed sequence is what the decoder accepts (`wf3_eq`, `wf4_eq`), is read
  with its value and its length (`decode_wf`), and is the only well-formed sequence its text begins with
  (`seqLen_of_wf`); a byte ≥ 0x80 that begins none decodes to (RuneError, 1) (`Bad`).  So Go's decoding loop cuts every
  byte string into well-formed sequences and bad bytes (`cut_induction`), and an encoder that works rune by rune is
  known by what it writes for each of the two (here: `sanitize`, `san_seq` / `san_bad`).  Last, `decodeRune_eq`: the
  decoder of Base/Utf8.lean (parse/quote.go, the file parser) is the same function as `Model.decodeRune`.
-/
import SoyVerif.Model.Escape
import SoyVerif.Spec.Json
import SoyVerif.Lemmas.Utf8
import SoyVerif.Base.Utf8

namespace SoyVerif.Lemmas.Utf8
open SoyVerif SoyVerif.Model SoyVerif.Spec SoyVerif.Spec.Json

theorem isTail_iff (b : UInt8) : isTail b = true ↔ 128 ≤ b.toNat ∧ b.toNat ≤ 191 := by
  simp [isTail, UInt8.le_iff_toNat_le]

theorem runeStart_false_iff (b : UInt8) : runeStart b = false ↔ 128 ≤ b.toNat ∧ b.toNat ≤ 191 := by
  simp [runeStart, isCont, UInt8.le_iff_toNat_le]

theorem runeStart_of_not_tail {b : UInt8} (h : b.toNat < 128 ∨ 191 < b.toNat) : runeStart b = true := by
  cases hb : runeStart b
  · have := (runeStart_false_iff b).1 hb
    omega
  · rfl

theorem ofNat_eq (n : Nat) (b : UInt8) (h : n = b.toNat) : UInt8.ofNat n = b := by
  subst h; simp

theorem toNat_beq (b : UInt8) (n : Nat) (hn : n < 256) : (b == UInt8.ofNat n) = decide (b.toNat = n) := by
  by_cases h : b.toNat = n
  · subst h; simp
  · have : b ≠ UInt8.ofNat n := by
      intro e; apply h; subst e; simp; omega
    simp [h, this]

theorem high_not_lt {b : UInt8} (h : 128 ≤ b.toNat) : ¬ b < 0x80 := by
  simp [UInt8.lt_iff_toNat_lt]; omega

theorem high_bne {b : UInt8} (h : 128 ≤ b.toNat) {c : UInt8} (hc : c.toNat < 128) : (b == c) = false := by
  apply beq_false_of_ne; rintro rfl; omega

theorem wf_ascii {b : UInt8} (h : b.toNat < 128) : wellFormedSeq [b] = true := by
  simp [wellFormedSeq, UInt8.le_iff_toNat_le]; omega

theorem not_wf_high {b : UInt8} (h : 128 ≤ b.toNat) : wellFormedSeq [b] = false := by
  simp [wellFormedSeq, UInt8.le_iff_toNat_le]; omega


theorem accept3_iff (b0 b1 : UInt8) : accept3 b0 b1 = true ↔
    128 ≤ b1.toNat ∧ b1.toNat ≤ 191 ∧ (b0.toNat = 224 → 160 ≤ b1.toNat) ∧ (b0.toNat = 237 → b1.toNat ≤ 159) := by
  have e0 := toNat_beq b0 224 (by decide)
  have eD := toNat_beq b0 237 (by decide)
  simp only [UInt8.reduceOfNat] at e0 eD
  simp only [accept3, e0, eD, Bool.and_eq_true, decide_eq_true_eq, UInt8.le_iff_toNat_le]
  by_cases h224 : b0.toNat = 224 <;> by_cases h237 : b0.toNat = 237 <;> simp [h224, h237] <;> omega

theorem accept4_iff (b0 b1 : UInt8) : accept4 b0 b1 = true ↔
    128 ≤ b1.toNat ∧ b1.toNat ≤ 191 ∧ (b0.toNat = 240 → 144 ≤ b1.toNat) ∧ (b0.toNat = 244 → b1.toNat ≤ 143) := by
  have e0 := toNat_beq b0 240 (by decide)
  have e4 := toNat_beq b0 244 (by decide)
  simp only [UInt8.reduceOfNat] at e0 e4
  simp only [accept4, e0, e4, Bool.and_eq_true, decide_eq_true_eq, UInt8.le_iff_toNat_le]
  by_cases h240 : b0.toNat = 240 <;> by_cases h244 : b0.toNat = 244 <;> simp [h240, h244] <;> omega

theorem wf3_eq (b0 b1 b2 : UInt8) :
    wellFormedSeq [b0, b1, b2] = (0xE0 ≤ b0 && b0 ≤ 0xEF && accept3 b0 b1 && isCont b2) := by
  have e0 := toNat_beq b0 224 (by decide)
  have eD := toNat_beq b0 237 (by decide)
  simp only [UInt8.reduceOfNat] at e0 eD
  -- `isTail b2` of the specification unfolds to `isCont b2`
  show (_ && isCont b2) = _
  congr 1
  rw [Bool.eq_iff_iff]
  simp only [accept3, isTail, e0, eD, Bool.and_eq_true, Bool.or_eq_true, decide_eq_true_eq, UInt8.le_iff_toNat_le]
  by_cases h224 : b0.toNat = 224 <;> by_cases h237 : b0.toNat = 237 <;> simp [h224, h237] <;> omega

theorem wf4_eq (b0 b1 b2 b3 : UInt8) :
    wellFormedSeq [b0, b1, b2, b3] = (0xF0 ≤ b0 && b0 ≤ 0xF4 && accept4 b0 b1 && isCont b2 && isCont b3) := by
  have e0 := toNat_beq b0 240 (by decide)
  have e4 := toNat_beq b0 244 (by decide)
  simp only [UInt8.reduceOfNat] at e0 e4
  show (_ && isCont b2 && isCont b3) = _
  congr 2
  rw [Bool.eq_iff_iff]
  simp only [accept4, isTail, e0, e4, Bool.and_eq_true, Bool.or_eq_true, decide_eq_true_eq, UInt8.le_iff_toNat_le]
  by_cases h240 : b0.toNat = 240 <;> by_cases h244 : b0.toNat = 244 <;> simp [h240, h244] <;> omega

theorem wf3_facts (b0 b1 b2 : UInt8) (h : wellFormedSeq [b0, b1, b2] = true) :
    224 ≤ b0.toNat ∧ b0.toNat ≤ 239 ∧ 128 ≤ b1.toNat ∧ b1.toNat ≤ 191 ∧
    (b0.toNat = 224 → 160 ≤ b1.toNat) ∧ (b0.toNat = 237 → b1.toNat ≤ 159) ∧
    128 ≤ b2.toNat ∧ b2.toNat ≤ 191 := by
  rw [wf3_eq] at h
  simp only [Bool.and_eq_true, decide_eq_true_eq, UInt8.le_iff_toNat_le] at h
  obtain ⟨⟨⟨h1, h2⟩, ha⟩, hc⟩ := h
  have := (accept3_iff b0 b1).1 ha
  have := (isCont_iff b2).1 hc
  simp at h1 h2
  omega

theorem wf4_facts (b0 b1 b2 b3 : UInt8) (h : wellFormedSeq [b0, b1, b2, b3] = true) :
    240 ≤ b0.toNat ∧ b0.toNat ≤ 244 ∧ 128 ≤ b1.toNat ∧ b1.toNat ≤ 191 ∧
    (b0.toNat = 240 → 144 ≤ b1.toNat) ∧ (b0.toNat = 244 → b1.toNat ≤ 143) ∧
    128 ≤ b2.toNat ∧ b2.toNat ≤ 191 ∧ 128 ≤ b3.toNat ∧ b3.toNat ≤ 191 := by
  rw [wf4_eq] at h
  simp only [Bool.and_eq_true, decide_eq_true_eq, UInt8.le_iff_toNat_le] at h
  obtain ⟨⟨⟨⟨h1, h2⟩, ha⟩, hc2⟩, hc3⟩ := h
  have := (accept4_iff b0 b1).1 ha
  have := (isCont_iff b2).1 hc2
  have := (isCont_iff b3).1 hc3
  simp at h1 h2
  omega

theorem wellFormedSeq_shape (c : Bytes) (h : wellFormedSeq c = true) :
    ∃ b0 r, c = b0 :: r ∧ runeStart b0 = true ∧ ∀ b ∈ r, runeStart b = false := by
  match c, h with
  | [b0], h =>
    simp only [wellFormedSeq, decide_eq_true_eq, UInt8.le_iff_toNat_le] at h
    exact ⟨b0, [], rfl, runeStart_of_not_tail (by simp at h; omega), by simp⟩
  | [b0, b1], h =>
    simp only [wellFormedSeq, Bool.and_eq_true, decide_eq_true_eq, UInt8.le_iff_toNat_le, isTail_iff] at h
    exact ⟨b0, [b1], rfl, runeStart_of_not_tail (by have := h.1.1; simp at this; omega), by simpa [runeStart_false_iff] using h.2⟩
  | [b0, b1, b2], h =>
    obtain ⟨a1, _, a3, a4, _, _, a7, a8⟩ := wf3_facts b0 b1 b2 h
    exact ⟨b0, [b1, b2], rfl, runeStart_of_not_tail (by omega), by simp [runeStart_false_iff, a3, a4, a7, a8]⟩
  | [b0, b1, b2, b3], h =>
    obtain ⟨a1, _, a3, a4, _, _, a7, a8, a9, a10⟩ := wf4_facts b0 b1 b2 b3 h
    exact ⟨b0, [b1, b2, b3], rfl, runeStart_of_not_tail (by omega), by simp [runeStart_false_iff, a3, a4, a7, a8, a9, a10]⟩
  | [], h => simp [wellFormedSeq] at h
  | _ :: _ :: _ :: _ :: _ :: _, h => simp [wellFormedSeq] at h


theorem decode2 (b0 b1 : UInt8) (rest : Bytes) (h : wellFormedSeq [b0, b1] = true) :
    ∃ r, decodeRune (b0 :: b1 :: rest) = (r, 2) ∧ utf8Encode r = [b0, b1] ∧ 0x80 ≤ r ∧ r < 0x800 := by
  have hw : (0xC2 ≤ b0 && b0 ≤ 0xDF && isCont b1) = true := h
  simp only [Bool.and_eq_true] at hw
  obtain ⟨hr, hc⟩ := hw
  have t1 := (isCont_iff b1).1 hc
  have hb : 194 ≤ b0.toNat ∧ b0.toNat ≤ 223 := by
    simp only [decide_eq_true_eq, UInt8.le_iff_toNat_le] at hr
    obtain ⟨h1, h2⟩ := hr
    simp at h1 h2; omega
  have hlt : ¬ b0 < 0x80 := high_not_lt (by omega)
  refine ⟨(b0.toNat % 32) * 64 + b1.toNat % 64, ?_, ?_, by omega, by omega⟩
  · simp [decodeRune, hlt, hr, hc]
  · have a : ¬ ((b0.toNat % 32) * 64 + b1.toNat % 64 < 0x80) := by omega
    have b : (b0.toNat % 32) * 64 + b1.toNat % 64 < 0x800 := by omega
    simp only [utf8Encode, a, b, if_true, if_false]
    congr 1
    · apply ofNat_eq; omega
    · congr 1; apply ofNat_eq; omega

theorem decode3 (b0 b1 b2 : UInt8) (rest : Bytes) (h : wellFormedSeq [b0, b1, b2] = true) :
    ∃ r, decodeRune (b0 :: b1 :: b2 :: rest) = (r, 3) ∧ utf8Encode r = [b0, b1, b2] ∧ 0x800 ≤ r ∧ r < 0x10000 ∧
      ¬ (0xD800 ≤ r ∧ r < 0xE000) := by
  obtain ⟨a1, a2, a3, a4, a5, a6, a7, a8⟩ := wf3_facts b0 b1 b2 h
  rw [wf3_eq] at h
  simp only [Bool.and_eq_true] at h
  obtain ⟨⟨hr3, hacc⟩, hc2⟩ := h
  have hlt : ¬ b0 < 0x80 := high_not_lt (by omega)
  have hr2 : (0xC2 ≤ b0 && b0 ≤ 0xDF) = false := by simp [UInt8.le_iff_toNat_le]; omega
  refine ⟨(b0.toNat % 16) * 4096 + (b1.toNat % 64) * 64 + b2.toNat % 64, ?_, ?_, by omega, by omega, by omega⟩
  · simp [decodeRune, hlt, hr2, hr3, hacc, hc2]
  · have a : ¬ ((b0.toNat % 16) * 4096 + (b1.toNat % 64) * 64 + b2.toNat % 64 < 0x80) := by omega
    have b : ¬ ((b0.toNat % 16) * 4096 + (b1.toNat % 64) * 64 + b2.toNat % 64 < 0x800) := by omega
    have c : (b0.toNat % 16) * 4096 + (b1.toNat % 64) * 64 + b2.toNat % 64 < 0x10000 := by omega
    simp only [utf8Encode, a, b, c, if_true, if_false]
    congr 1
    · apply ofNat_eq; omega
    · congr 1
      · apply ofNat_eq; omega
      · congr 1; apply ofNat_eq; omega

theorem decode4 (b0 b1 b2 b3 : UInt8) (rest : Bytes) (h : wellFormedSeq [b0, b1, b2, b3] = true) :
    ∃ r, decodeRune (b0 :: b1 :: b2 :: b3 :: rest) = (r, 4) ∧ utf8Encode r = [b0, b1, b2, b3] ∧
      0x10000 ≤ r ∧ r < 0x110000 := by
  obtain ⟨a1, a2, a3, a4, a5, a6, a7, a8, a9, a10⟩ := wf4_facts b0 b1 b2 b3 h
  rw [wf4_eq] at h
  simp only [Bool.and_eq_true] at h
  obtain ⟨⟨⟨hr4, hacc⟩, hc2⟩, hc3⟩ := h
  have hlt : ¬ b0 < 0x80 := high_not_lt (by omega)
  have hr2 : (0xC2 ≤ b0 && b0 ≤ 0xDF) = false := by simp [UInt8.le_iff_toNat_le]; omega
  have hr3 : (0xE0 ≤ b0 && b0 ≤ 0xEF) = false := by simp [UInt8.le_iff_toNat_le]; omega
  refine ⟨(b0.toNat % 8) * 262144 + (b1.toNat % 64) * 4096 + (b2.toNat % 64) * 64 + b3.toNat % 64, ?_, ?_, by omega, by omega⟩
  · simp [decodeRune, hlt, hr2, hr3, hr4, hacc, hc2, hc3]
  · have a : ¬ ((b0.toNat % 8) * 262144 + (b1.toNat % 64) * 4096 + (b2.toNat % 64) * 64 + b3.toNat % 64 < 0x80) := by omega
    have b : ¬ ((b0.toNat % 8) * 262144 + (b1.toNat % 64) * 4096 + (b2.toNat % 64) * 64 + b3.toNat % 64 < 0x800) := by omega
    have c : ¬ ((b0.toNat % 8) * 262144 + (b1.toNat % 64) * 4096 + (b2.toNat % 64) * 64 + b3.toNat % 64 < 0x10000) := by omega
    simp only [utf8Encode, a, b, c, if_false]
    congr 1
    · apply ofNat_eq; omega
    · congr 1
      · apply ofNat_eq; omega
      · congr 1
        · apply ofNat_eq; omega
        · congr 1; apply ofNat_eq; omega

theorem decode_wf (b0 : UInt8) (c' t : Bytes) (hc : wellFormedSeq (b0 :: c') = true) (hl : 1 ≤ c'.length) :
    ∃ r, decodeRune (b0 :: (c' ++ t)) = (r, c'.length + 1) ∧ utf8Encode r = b0 :: c' ∧ 0x80 ≤ r ∧
      ¬ (0xD800 ≤ r ∧ r < 0xE000) ∧ r < 0x110000 := by
  match c', hc, hl with
  | [b1], hc, _ =>
    obtain ⟨r, hd, he, h1, h2⟩ := decode2 b0 b1 t hc
    exact ⟨r, by simpa using hd, he, h1, by omega, by omega⟩
  | [b1, b2], hc, _ =>
    obtain ⟨r, hd, he, h1, h2, h3⟩ := decode3 b0 b1 b2 t hc
    exact ⟨r, by simpa using hd, he, by omega, h3, by omega⟩
  | [b1, b2, b3], hc, _ =>
    obtain ⟨r, hd, he, h1, h2⟩ := decode4 b0 b1 b2 b3 t hc
    exact ⟨r, by simpa using hd, he, by omega, by omega, h2⟩
  | [], _, hl => simp at hl
  | _ :: _ :: _ :: _ :: _, hc, _ => simp [wellFormedSeq] at hc

theorem decode_err_or_wf (b : UInt8) (t : Bytes) (hb : 128 ≤ b.toNat) :
    decodeRune (b :: t) = (runeError, 1) ∨
    ∃ c' t', t = c' ++ t' ∧ 1 ≤ c'.length ∧ wellFormedSeq (b :: c') = true := by
  have hlt : ¬ b < 0x80 := high_not_lt (by omega)
  unfold decodeRune
  simp only [hlt, if_false]
  split
  · rename_i h2
    match t with
    | [] => exact Or.inl rfl
    | b1 :: t' =>
      by_cases hc : isCont b1 = true
      · exact Or.inr ⟨[b1], t', rfl, by simp, show (0xC2 ≤ b && b ≤ 0xDF && isCont b1) = true by rw [h2, hc]; rfl⟩
      · left; simp [hc]
  · split
    · rename_i h3
      match t with
      | [] => exact Or.inl rfl
      | [_] => exact Or.inl rfl
      | b1 :: b2 :: t' =>
        by_cases hc : (accept3 b b1 && isCont b2) = true
        · exact Or.inr ⟨[b1, b2], t', rfl, by simp, by
          rw [wf3_eq]; simp only [Bool.and_eq_true] at hc h3 ⊢; exact ⟨⟨h3, hc.1⟩, hc.2⟩⟩
        · left; simp [hc]
    · split
      · rename_i h4
        match t with
        | [] => exact Or.inl rfl
        | [_] => exact Or.inl rfl
        | [_, _] => exact Or.inl rfl
        | b1 :: b2 :: b3 :: t' =>
          by_cases hc : (accept4 b b1 && isCont b2 && isCont b3) = true
          · exact Or.inr ⟨[b1, b2, b3], t', rfl, by simp, by
            rw [wf4_eq]; simp only [Bool.and_eq_true] at hc h4 ⊢; exact ⟨⟨⟨h4, hc.1.1⟩, hc.1.2⟩, hc.2⟩⟩
          · left; simp [hc]
      · exact Or.inl rfl

theorem decodeRune_high (b : UInt8) (r : Bytes) (h : ¬ b < 0x80) :
    128 ≤ (decodeRune (b :: r)).1 ∧ 1 ≤ (decodeRune (b :: r)).2 ∧
    (r.take ((decodeRune (b :: r)).2 - 1)).all isCont = true := by
  have hb : 128 ≤ b.toNat := by
    simp only [UInt8.lt_iff_toNat_lt] at h
    simp at h
    omega
  rcases decode_err_or_wf b r hb with he | ⟨c', t', rfl, hl, hc⟩
  · rw [he]
    exact ⟨by decide, Nat.le_refl 1, rfl⟩
  · obtain ⟨x, hd, _, hx, _, _⟩ := decode_wf b c' t' hc hl
    obtain ⟨b0, tl, e, _, htl⟩ := wellFormedSeq_shape (b :: c') hc
    cases e
    rw [hd]
    refine ⟨hx, Nat.succ_pos _, ?_⟩
    simp only [Nat.add_sub_cancel, List.take_left']
    exact List.all_eq_true.2 fun y hy => by simpa [runeStart] using htl y hy


theorem seqLen_of_wf (c t : Bytes) (hc : wellFormedSeq c = true) : utf8SeqLen (c ++ t) = c.length := by
  match c, hc with
  | [b], hc => simp [utf8SeqLen, hc]
  | [b0, b1], hc =>
    have h' := hc
    simp only [wellFormedSeq, Bool.and_eq_true, decide_eq_true_eq, UInt8.le_iff_toNat_le] at h'
    have hb : 194 ≤ b0.toNat := by have := h'.1.1; simp at this; omega
    have nw1 := not_wf_high (b := b0) (by omega)
    simp [utf8SeqLen, nw1, hc]
  | [b0, b1, b2], hc =>
    obtain ⟨a1, a2, _⟩ := wf3_facts b0 b1 b2 hc
    have nw1 := not_wf_high (b := b0) (by omega)
    have nw2 : wellFormedSeq [b0, b1] = false := by
      simp [wellFormedSeq, UInt8.le_iff_toNat_le]; omega
    simp [utf8SeqLen, nw1, nw2, hc]
  | [b0, b1, b2, b3], hc =>
    obtain ⟨a1, a2, _⟩ := wf4_facts b0 b1 b2 b3 hc
    have nw1 := not_wf_high (b := b0) (by omega)
    have nw2 : wellFormedSeq [b0, b1] = false := by
      simp [wellFormedSeq, UInt8.le_iff_toNat_le]; omega
    have nw3 : wellFormedSeq [b0, b1, b2] = false := by
      have : (0xE0 ≤ b0 && b0 ≤ 0xEF) = false := by simp [UInt8.le_iff_toNat_le]; omega
      rw [wf3_eq, this]; rfl
    simp [utf8SeqLen, nw1, nw2, nw3, hc]
  | [], hc => simp [wellFormedSeq] at hc
  | _ :: _ :: _ :: _ :: _ :: _, hc => simp [wellFormedSeq] at hc

/-- an ASCII byte is a sequence by itself, and a text begins with one well-formed sequence only -/
theorem wf_high (b0 : UInt8) (c' : Bytes) (hc : wellFormedSeq (b0 :: c') = true) (hl : 1 ≤ c'.length) : 128 ≤ b0.toNat := by
  apply Classical.byContradiction
  intro hb
  have h1 := wf_ascii (b := b0) (by omega)
  have e1 := seqLen_of_wf [b0] c' h1
  have e2 := seqLen_of_wf (b0 :: c') [] hc
  simp only [List.cons_append, List.nil_append, List.append_nil, List.length_cons, List.length_nil] at e1 e2
  omega

theorem wf_bytes_high {c : Bytes} (hc : wellFormedSeq c = true) (hl : 2 ≤ c.length) : ∀ b ∈ c, 128 ≤ b.toNat := by
  obtain ⟨b0, r, rfl, _, hr⟩ := wellFormedSeq_shape c hc
  intro b hb
  rcases List.mem_cons.1 hb with rfl | hb
  · exact wf_high b r hc (by simpa using hl)
  · exact ((runeStart_false_iff b).1 (hr b hb)).1

theorem seqLen_zero (b : UInt8) (t : Bytes) (hb : 128 ≤ b.toNat)
    (h : ∀ c' t', t = c' ++ t' → 1 ≤ c'.length → wellFormedSeq (b :: c') = false) : utf8SeqLen (b :: t) = 0 := by
  have nw1 := not_wf_high hb
  have key : ∀ k, wellFormedSeq (b :: t.take k) = false := by
    intro k
    by_cases he : t.take k = []
    · rw [he]; exact nw1
    · exact h (t.take k) (t.drop k) (List.take_append_drop k t).symm (by
        cases hk : t.take k with
        | nil => exact absurd hk he
        | cons a l => simp)
  unfold utf8SeqLen
  have e1 : (b :: t).take 1 = [b] := by simp
  have e2 : (b :: t).take 2 = b :: t.take 1 := by simp
  have e3 : (b :: t).take 3 = b :: t.take 2 := by simp
  have e4 : (b :: t).take 4 = b :: t.take 3 := by simp
  rw [e1, e2, e3, e4, nw1, key 1, key 2, key 3]
  simp


/-- the byte `b` in front of `t` begins no well-formed sequence: utf8.DecodeRune answers (RuneError, 1).  The third part
    follows from the others; the specification's own readers (`sanitize`, `jsUnescape`, `strBody`) go by it. -/
def Bad (b : UInt8) (t : Bytes) : Prop :=
  128 ≤ b.toNat ∧ decodeRune (b :: t) = (runeError, 1) ∧ utf8SeqLen (b :: t) = 0

theorem high_cases (b : UInt8) (t : Bytes) (hb : 128 ≤ b.toNat) :
    (∃ c' t', t = c' ++ t' ∧ 1 ≤ c'.length ∧ wellFormedSeq (b :: c') = true) ∨ Bad b t := by
  rcases decode_err_or_wf b t hb with he | hw
  · refine Or.inr ⟨hb, he, seqLen_zero b t hb ?_⟩
    intro c' t' ht hl
    cases hw : wellFormedSeq (b :: c') with
    | false => rfl
    | true =>
      obtain ⟨r, hd, _⟩ := decode_wf b c' t' hw hl
      rw [← ht, he] at hd
      simp only [Prod.mk.injEq] at hd
      omega
  · exact Or.inl hw

/-- every byte string is a concatenation of well-formed sequences and bad bytes, cut where utf8.DecodeRune cuts -/
theorem cut_induction {P : Bytes → Prop} (nil : P [])
    (seq : ∀ c t, wellFormedSeq c = true → P t → P (c ++ t))
    (bad : ∀ b t, Bad b t → P t → P (b :: t)) : ∀ s, P s := by
  intro s
  generalize hn : s.length = n
  induction n using Nat.strongRecOn generalizing s with
  | _ n ih =>
    cases s with
    | nil => exact nil
    | cons b t =>
      subst hn
      by_cases hb : b.toNat < 128
      · exact seq [b] t (wf_ascii hb) (ih _ (by simp) t rfl)
      · rcases high_cases b t (by omega) with ⟨c', t', rfl, _, hc⟩ | hbad
        · exact seq (b :: c') t' hc (ih _ (by simp; omega) t' rfl)
        · exact bad b t hbad (ih _ (by simp) t rfl)


theorem san_skip (l t : Bytes) : sanitizeGo l.length (l ++ t) = l ++ sanitizeGo 0 t := by
  induction l with
  | nil => rfl
  | cons a l ih => simp [sanitizeGo, ih]

theorem san_seq (c t : Bytes) (hc : wellFormedSeq c = true) : sanitizeGo 0 (c ++ t) = c ++ sanitizeGo 0 t := by
  have hlen := seqLen_of_wf c t hc
  cases c with
  | nil => simp [wellFormedSeq] at hc
  | cons b c' =>
    simp only [List.cons_append] at hlen ⊢
    rw [sanitizeGo]
    simp only [hlen, List.length_cons]
    rw [if_neg (by simp)]
    simp only [Nat.add_sub_cancel, san_skip]

theorem san_bad {b : UInt8} {t : Bytes} (h : Bad b t) : sanitizeGo 0 (b :: t) = [0xEF, 0xBF, 0xBD] ++ sanitizeGo 0 t := by
  rw [sanitizeGo]; simp [h.2.2]

theorem sanitize_valid (s : Bytes) (hs : ValidUtf8 s) : sanitize s = s := by
  unfold sanitize
  induction hs with
  | nil => rfl
  | seq c t hc _ ih => rw [san_seq c t hc, ih]

theorem cont_mod {b : Nat} (h : 128 ≤ b ∧ b ≤ 191) : b - 128 = b % 64 := by omega

/-- two `if`s on one condition with the same `else` agree when their `then`s do; the `Decidable` instances may differ -/
theorem ite_val {α : Type} {c : Prop} {i j : Decidable c} {a a' e : α} (h : c → a = a') : @ite α c i a e = @ite α c j a' e := by
  by_cases hc : c
  · rw [if_pos hc, if_pos hc, h hc]
  · rw [if_neg hc, if_neg hc]

theorem accept3_cont {x b : Nat} (h : (if x = 224 then 160 else 128) ≤ b ∧ b ≤ if x = 237 then 159 else 191) : 128 ≤ b ∧ b ≤ 191 := by
  obtain ⟨l, u⟩ := h
  split at l <;> split at u <;> omega

theorem accept4_cont {x b : Nat} (h : (if x = 240 then 144 else 128) ≤ b ∧ b ≤ if x = 244 then 143 else 191) : 128 ≤ b ∧ b ≤ 191 := by
  obtain ⟨l, u⟩ := h
  split at l <;> split at u <;> omega

theorem decodeRune_eq : ∀ s : Bytes, SoyVerif.Utf8.decodeRune s = decodeRune s
  | [] => rfl
  | b0 :: rest => by
    have e1 := toNat_beq b0 224 (by decide)
    have e2 := toNat_beq b0 237 (by decide)
    have e3 := toNat_beq b0 240 (by decide)
    have e4 := toNat_beq b0 244 (by decide)
    simp only [UInt8.reduceOfNat] at e1 e2 e3 e4
    -- both decoders in one vocabulary, tests on `toNat`: the tests on the continuation bytes then coincide literally
    simp only [SoyVerif.Utf8.decodeRune, decodeRune, SoyVerif.Utf8.isCont, isCont, accept3, accept4, e1, e2, e3, e4,
      UInt8.lt_iff_toNat_lt, UInt8.le_iff_toNat_le, SoyVerif.Utf8.runeError, runeError, UInt8.toNat_ofNat, Nat.reducePow, Nat.reduceMod,
      apply_ite UInt8.toNat, beq_iff_eq, decide_eq_true_eq, Bool.and_eq_true]
    clear e1 e2 e3 e4
    generalize b0.toNat = x
    have c2 : (194 ≤ x ∧ x ≤ 223) ↔ ¬ x < 194 ∧ x < 224 := by omega
    have c3 : (224 ≤ x ∧ x ≤ 239) ↔ ¬ x < 224 ∧ x < 240 := by omega
    have c4 : (240 ≤ x ∧ x ≤ 244) ↔ ¬ x < 240 ∧ x < 245 := by omega
    simp only [c2, c3, c4]
    by_cases h0 : x < 128
    · simp only [h0, if_true]
    by_cases h1 : x < 194
    · simp only [h0, h1, if_true, if_false, false_and, not_true, show x < 224 by omega, show x < 240 by omega]
    by_cases h2 : x < 224
    · simp only [h0, h1, h2, if_true, if_false, not_false_iff, true_and]
      match rest with
      | [] => rfl
      | b1 :: _ => exact ite_val fun c => by rw [show x - 192 = x % 32 by omega, cont_mod c]
    by_cases h3 : x < 240
    · simp only [h0, h1, h2, h3, if_true, if_false, not_false_iff, true_and, and_false]
      match rest with
      | [] | [_] => rfl
      | b1 :: b2 :: _ => exact ite_val fun c => by rw [show x - 224 = x % 16 by omega, cont_mod (accept3_cont c.1), cont_mod c.2]
    by_cases h4 : x < 245
    · simp only [h0, h1, h2, h3, h4, if_true, if_false, not_false_iff, true_and, and_false]
      match rest with
      | [] | [_] | [_, _] => rfl
      | b1 :: b2 :: b3 :: _ =>
        exact ite_val fun c => by rw [show x - 240 = x % 8 by omega, cont_mod (accept4_cont c.1.1), cont_mod c.1.2, cont_mod c.2]
    · simp only [h0, h1, h2, h3, h4, if_false, and_false]

end SoyVerif.Lemmas.Utf8
