/-
  `Parts` inverts `PlaceholderString` on flat (non-plural) bodies whose text runs contain no
  `{[A-Z0-9_]+}` and whose names are in `[A-Z0-9_]+` (`Props.C10.parts_placeholderString`).
-/
import SoyVerif.Model.Msg

namespace SoyVerif.Model.Msg

/-- the text/placeholder sequence of a flat named body: adjacent texts merged, empty
    texts dropped (`pend` = text accumulated so far) -/
def expectedParts : List NPart → Bytes → List MsgPart
  | [], pend => flushText pend
  | .text t :: r, pend => expectedParts r (pend ++ t)
  | .ph n :: r, pend => flushText pend ++ .ph n :: expectedParts r []
  | .plural _ _ _ :: r, pend => expectedParts r pend

/-- the concatenated leading texts of a body -/
def leadText : List NPart → Bytes
  | .text t :: r => t ++ leadText r
  | _ => []

/-- no position of `t` starts a `{[A-Z0-9_]+}` -/
def NoMatch (t : Bytes) : Prop := ∀ k, matchPh (t.drop k) = none

def ValidName (n : Bytes) : Prop := n ≠ [] ∧ ∀ b ∈ n, isPhChar b = true

/-- flat body, valid names, and no placeholder-shaped substring in the text run that
    follows each placeholder -/
def FlatOK : List NPart → Prop
  | [] => True
  | .text _ :: r => FlatOK r
  | .ph n :: r => ValidName n ∧ NoMatch (leadText r) ∧ FlatOK r
  | .plural _ _ _ :: _ => False

/-- what follows the leading texts in the placeholder string: nothing, or a `{` -/
def BraceOrEnd (tail : Bytes) : Prop := tail = [] ∨ ∃ tl, tail = 123 :: tl

theorem phRun_append_tail (tail : Bytes) (h : BraceOrEnd tail) : ∀ r, phRun (r ++ tail) = phRun r
  | [] => by
    rcases h with h | ⟨tl, h⟩
    · simp [h]
    · subst h
      simp only [List.nil_append, phRun]
      have h1 : ((123 : UInt8) == 125) = false := by decide
      have h2 : isPhChar 123 = false := by decide
      simp [h1, h2]
  | b :: r => by
    simp only [List.cons_append, phRun, phRun_append_tail tail h r]

theorem matchPh_append_tail (tail : Bytes) (h : BraceOrEnd tail) (s : Bytes) (hs : s ≠ []) :
    matchPh (s ++ tail) = matchPh s := by
  cases s with
  | nil => exact absurd rfl hs
  | cons b r =>
    by_cases hb : b = 123
    · subst hb
      simp only [List.cons_append, matchPh, phRun_append_tail tail h r]
    · simp only [List.cons_append]
      unfold matchPh
      split
      · next heq => simp only [List.cons.injEq] at heq; exact absurd heq.1 hb
      · split
        · next heq => simp only [List.cons.injEq] at heq; exact absurd heq.1 hb
        · rfl

theorem phRun_name (n rest : Bytes) (h : ∀ b ∈ n, isPhChar b = true) : phRun (n ++ 125 :: rest) = some n := by
  induction n with
  | nil => simp [phRun]
  | cons b n ih =>
    have hb : isPhChar b = true := h b (by simp)
    have hne : (b == 125) = false := by
      cases hc : b == 125 with
      | false => rfl
      | true =>
        have : b = 125 := by simpa using hc
        subst this
        exact absurd hb (by decide)
    simp only [List.cons_append, phRun, hne, hb, if_true, ih (fun x hx => h x (by simp [hx]))]
    simp

theorem matchPh_name (n rest : Bytes) (h : ValidName n) : matchPh (123 :: n ++ 125 :: rest) = some n := by
  obtain ⟨hne, hall⟩ := h
  have : (123 : UInt8) :: n ++ 125 :: rest = 123 :: (n ++ 125 :: rest) := rfl
  rw [this]
  simp only [matchPh, phRun_name n rest hall]
  cases n with
  | nil => exact absurd rfl hne
  | cons a n => rfl

theorem partsGo_skip : ∀ (xs : Bytes) (pend rest : Bytes),
    partsGo xs.length pend (xs ++ rest) = partsGo 0 pend rest
  | [], _, _ => rfl
  | _ :: xs, pend, rest => by
    simp only [List.length_cons, List.cons_append, partsGo]
    exact partsGo_skip xs pend rest

theorem partsGo_text : ∀ (t pend rest : Bytes), (∀ k, k < t.length → matchPh (t.drop k ++ rest) = none) →
    partsGo 0 pend (t ++ rest) = partsGo 0 (pend ++ t) rest
  | [], pend, rest, _ => by simp
  | b :: t, pend, rest, h => by
    have h0 := h 0 (by simp)
    simp only [List.drop_zero, List.cons_append] at h0
    simp only [List.cons_append, partsGo, h0]
    rw [partsGo_text t (pend ++ [b]) rest]
    · simp
    · intro k hk
      have := h (k + 1) (by simp; omega)
      simpa using this

theorem writeFPList_lead : ∀ nb : List NPart, FlatOK nb →
    ∃ tail, writeFPList true nb = leadText nb ++ tail ∧ BraceOrEnd tail
  | [], _ => ⟨[], by simp [writeFPList, leadText], Or.inl rfl⟩
  | .text t :: r, h => by
    obtain ⟨tail, h1, h2⟩ := writeFPList_lead r h
    exact ⟨tail, by simp [writeFPList, writeFP, leadText, h1], h2⟩
  | .ph n :: r, _ => ⟨writeFPList true (.ph n :: r), by simp [leadText],
      Or.inr ⟨n ++ 125 :: writeFPList true r, by simp [writeFPList, writeFP]⟩⟩
  | .plural _ _ _ :: _, h => by simp [FlatOK] at h

theorem noMatch_drop {t : Bytes} (h : NoMatch t) (k : Nat) : NoMatch (t.drop k) := by
  intro j
  rw [List.drop_drop]
  exact h _

theorem partsGo_writeFP : ∀ (nb : List NPart) (pend : Bytes), NoMatch (leadText nb) → FlatOK nb →
    partsGo 0 pend (writeFPList true nb) = expectedParts nb pend
  | [], pend, _, _ => by simp [writeFPList, expectedParts, partsGo]
  | .text t :: r, pend, hn, hf => by
    have hf' : FlatOK r := hf
    have hn' : NoMatch (leadText r) := by
      have := noMatch_drop hn t.length
      simpa [leadText] using this
    simp only [writeFPList, writeFP, expectedParts]
    rw [partsGo_text t pend _ ?_]
    · exact partsGo_writeFP r (pend ++ t) hn' hf'
    · intro k hk
      obtain ⟨tail, h1, h2⟩ := writeFPList_lead r hf'
      rw [h1, ← List.append_assoc]
      rw [matchPh_append_tail tail h2]
      · have := hn k
        simp only [leadText] at this
        rw [List.drop_append_of_le_length (Nat.le_of_lt hk)] at this
        exact this
      · intro he
        have := congrArg List.length he
        simp at this
        omega
  | .ph n :: r, pend, _, hf => by
    obtain ⟨hv, hn', hf'⟩ := hf
    simp only [writeFPList, writeFP, if_true, expectedParts]
    have e : (123 :: n ++ [125]) ++ writeFPList true r = 123 :: n ++ 125 :: writeFPList true r := by simp
    rw [e]
    have hm := matchPh_name n (writeFPList true r) hv
    have e2 : (123 : UInt8) :: n ++ 125 :: writeFPList true r = 123 :: (n ++ 125 :: writeFPList true r) := rfl
    rw [e2] at hm ⊢
    simp only [partsGo, hm]
    have e3 : n ++ 125 :: writeFPList true r = (n ++ [125]) ++ writeFPList true r := by simp
    have e4 : n.length + 1 = (n ++ [125]).length := by simp
    rw [e3, e4, partsGo_skip, partsGo_writeFP r [] hn' hf']
  | .plural _ _ _ :: _, _, _, hf => by simp [FlatOK] at hf

/-- executable form of `NoMatch` -/
def noMatchB (t : Bytes) : Bool := (List.range (t.length + 1)).all fun k => (matchPh (t.drop k)).isNone

theorem noMatch_of_noMatchB {t : Bytes} (h : noMatchB t = true) : NoMatch t := by
  intro k
  by_cases hk : k < t.length + 1
  · have := List.all_eq_true.mp h k (List.mem_range.mpr hk)
    simpa using this
  · have : t.drop k = [] := List.drop_eq_nil_of_le (by omega)
    rw [this]; rfl

end SoyVerif.Model.Msg
