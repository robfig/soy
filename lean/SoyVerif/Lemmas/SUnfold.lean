/-
  `sunfold f g …` — unfold, once, every application of the listed (structurally recursive)
  functions in the goal by *smart unfolding* and reduce the exposed `match` on a constructor.
  Unlike `unfold` it generates no equation lemmas: for the large mutual block of the JavaScript generator model
  (`walkCmd` …) their generation does not end within the default heartbeat limit.  The new goal is checked to be
  definitionally equal to the old one (`change`).
  `mred` — reduce every `match` of the goal whose discriminants are constructors; needed after `sunfold` where the
  unfolded body matches on a SECOND argument that is a constructor only now (`walkCmd` on `.forc … none`, `.call … .nil`).

  Trap: the check of `sunfold` is the elaborator's, which unfolds smartly too.  Where the function recurses through
  a nested type (an `Option` of a sub-tree), unfold only once that argument is a constructor: on a variable the
  elaborator accepts the step and the kernel then fails to re-check it.
-/
import Lean

namespace SoyVerif.Lemmas

open Lean Elab Tactic Meta in
elab "sunfold " ids:(ppSpace colGt ident)+ : tactic => do
  let names ← ids.mapM fun id => realizeGlobalConstNoOverloadWithInfo id
  let g ← getMainGoal
  let t ← instantiateMVars (← g.getType)
  let t' ← Meta.transform t (pre := fun e => do
    let f := e.getAppFn
    if f.isConst && names.contains f.constName! then
      match ← unfoldDefinition? e with
      | some e' => return .done (← whnfCore e')
      | none => return .continue
    else return .continue)
  let g' ← g.change t'
  replaceMainGoal [g']

open Lean Elab Tactic Meta in
elab "mred" : tactic => do
  let g ← getMainGoal
  let t ← instantiateMVars (← g.getType)
  let t' ← Meta.transform t (pre := fun e => do
    match ← reduceMatcher? e with
    | .reduced e' => return .visit e'
    | _ => return .continue)
  let g' ← g.change t'
  replaceMainGoal [g']

end SoyVerif.Lemmas
