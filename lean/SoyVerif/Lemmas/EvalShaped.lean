/-
  `scope.alldata` never fails inside a run: every scope the walk reaches has an entered frame (`Shaped`),
  because a run starts on the result of `enter` and every sub-run is started on the current scope or on a
  `push` of it.  The model counts the failures of alldata in the ghost field `St.impossible`;
  `NoImp run` = on a `Shaped` scope whose top frame is own, `run` leaves the counter alone.  The counter obeys
  the law of the walk on shaped scopes (`impLaw`); together with the heap frame (which says where a sub-run
  leaves the scope) that gives `NoImp` of every function of the walk.
-/
import SoyVerif.Props.C02

namespace SoyVerif.Model.Eval
open SoyVerif SoyVerif.Model
open SoyVerif.Props.C02 (Shaped shaped_push shaped_enter shaped_iff_alldata)

def NoImp (run : Run) : Prop :=
  ∀ ctx st, Own ctx st → Shaped ctx → (run ctx st).st.impossible = st.impossible

theorem enter_imp {cd cctx : Scope} {s s2 : St} (h : enter cd s = some (cctx, s2)) : s2.impossible = s.impossible := by
  cases cd with
  | nil => simp [enter] at h
  | cons f r => simp only [enter, push, Option.some.injEq, Prod.mk.injEq] at h; rw [← h.2]

theorem noteImpossible_shaped (a : Bool) (ctx : Scope) (st : St) (hs : Shaped ctx) : noteImpossible a ctx st = st := by
  obtain ⟨sc, h⟩ := (shaped_iff_alldata ctx).mp hs
  unfold noteImpossible
  simp [h]

theorem impLaw : Law (fun _ => True) (fun _ s s' => s'.impossible = s.impossible) (fun _ _ => True) Shaped (fun _ => True) where
  ok := trivial
  err := trivial
  chain h1 h2 _ _ := h2.trans h1
  data _ _ _ _ := rfl
  grow _ _ _ := rfl
  move _ h _ := h
  imp _ a ctx s h := by rw [noteImpossible_shaped a ctx s h]
  set _ h := (set_ghost h).2
  pre_T _ _ := trivial
  pre_push _ _ := trivial
  sh_push ctx s h := shaped_push ctx s h
  sh_enter f r s := shaped_enter f r s _ _ rfl

theorem NoImp.ok {run : Run} (hn : NoImp run) (hg : GoodRun run) :
    RunOk (fun c => c ≠ .panic ∧ True) (fun W s s' => Ext W s s' ∧ s'.impossible = s.impossible) (fun ctx s => Own ctx s ∧ True)
      (fun ctx => True ∧ Shaped ctx) run :=
  fun ctx st hp hs => ⟨⟨(hg ctx st hp.1).np, trivial⟩, (hg ctx st hp.1).ctx_eq, (hg ctx st hp.1).ext, hn ctx st hp.1 hs.2⟩

theorem NoImp.of_ok {run : Run}
    (h : RunOk (fun c => c ≠ .panic ∧ True) (fun W s s' => Ext W s s' ∧ s'.impossible = s.impossible) (fun ctx s => Own ctx s ∧ True)
      (fun ctx => True ∧ Shaped ctx) run) : NoImp run :=
  fun ctx st ho hs => (h ctx st ⟨ho, trivial⟩ ⟨trivial, hs⟩).rel.2

section
variable (g : GEnv) (phs : List (Nat × Bytes × Run)) (body : MsgParts)
  (hphs : ∀ e ∈ phs, NoImp e.2.2 ∧ GoodRun e.2.2)
include hphs

theorem evalMCases_noimp : (cases : MCases) → (i : Nat) → NoImp (evalMCases g phs body cases i) :=
  fun cases i => .of_ok ((goodLaw.and impLaw).mcases g phs body (fun e he => (hphs e he).1.ok (hphs e he).2) (Sub.any _) cases i)
end

section
variable (g : GEnv) (esc : Bool) (call : Registry.Tmpl → Run) (hcall : ∀ t, GoodRun (call t)) (hcalln : ∀ t, NoImp (call t))
include hcall hcalln

theorem noimp_call (t : Registry.Tmpl) (sc : Scope) (s : St) (hs : True ∧ Shaped (push sc s).1) :
    ((call t (push sc s).1 (push sc s).2).cls ≠ .panic ∧ True) ∧
    Ext (fun _ => False) s (atNode (call t (push sc s).1 (push sc s).2).st s.node) ∧
    (atNode (call t (push sc s).1 (push sc s).2).st s.node).impossible = s.impossible :=
  have h := good_call call hcall t sc s trivial
  ⟨⟨h.1, trivial⟩, h.2, hcalln t _ _ (push_spec sc s).2.1 hs.2⟩

theorem execCmd_noimp : (c : Cmd) → NoImp (execCmd g esc call c) :=
  fun c => .of_ok ((goodLaw.and impLaw).cmdOk g esc call (noimp_call call hcall hcalln) c (Sub.any _))

theorem execBody_noimp : (b : Block) → NoImp (execBody g esc call b) :=
  fun b => .of_ok ((goodLaw.and impLaw).body g esc call (noimp_call call hcall hcalln) b (Sub.any _))

theorem execCmds_noimp : (cs : CmdList) → NoImp (execCmds g esc call cs) :=
  fun cs => .of_ok ((goodLaw.and impLaw).cmds g esc call (noimp_call call hcall hcalln) cs (Sub.any _))

theorem execConds_noimp : (cs : CondList) → NoImp (execConds g esc call cs) :=
  fun cs ctx st _ hs => ((goodLaw.and impLaw).conds g esc call (noimp_call call hcall hcalln) cs (Sub.any _) ctx st
    ⟨trivial, hs⟩).rel.2

theorem execCases_noimp : (cs : CaseList) → (dflt : Option Run) → (∀ d, dflt = some d → NoImp d) → (sv : Value) →
    NoImp (execCases g esc call cs dflt sv) :=
  fun cs dflt hd sv ctx st h hs => (goodLaw.and impLaw).cases g esc call (noimp_call call hcall hcalln)
    (fun _ st r => r.st.impossible = st.impossible) (fun h => h.rel.2) (fun e h => h.trans e.2) cs dflt
    (fun d e ctx st hp hs => hd d e ctx st hp.1 hs.2) sv (Sub.any _) ctx st ⟨h, trivial⟩ ⟨trivial, hs⟩

theorem execParams_noimp : (ps : ParamList) → (cd ctx : Scope) → (st : St) → Own ctx st → Own cd st → Shaped ctx →
    (execParams g esc call ps cd ctx st).st.impossible = st.impossible :=
  fun ps cd ctx st _ hcd hs => ((goodLaw.and impLaw).params g esc call (noimp_call call hcall hcalln) ps (Sub.any _)
    cd ctx st ⟨hcd, trivial⟩ ⟨trivial, hs⟩).rel.2

theorem walkMsgBody_noimp : (ps : MsgParts) → NoImp (walkMsgBody g esc call ps) :=
  fun ps => .of_ok ((goodLaw.and impLaw).parts g esc call (noimp_call call hcall hcalln) ps (Sub.any _))

theorem walkPluralCases_noimp : (cs : PluralCases) → (dflt : Run) → NoImp dflt → (i : Int) →
    NoImp (walkPluralCases g esc call cs dflt i) :=
  fun cs dflt hd i ctx st h hs => (goodLaw.and impLaw).pl g esc call (noimp_call call hcall hcalln)
    (fun _ st r => r.st.impossible = st.impossible) (fun h => h.rel.2) cs (Sub.any _) dflt
    (fun ctx st hp hs => hd ctx st hp.1 hs.2) i ctx st ⟨h, trivial⟩ ⟨trivial, hs⟩

theorem execPh_noimp : (b : MsgPhBody) → NoImp (execPh g esc call b) :=
  fun b => .of_ok ((goodLaw.and impLaw).ph g esc call (noimp_call call hcall hcalln) b (Sub.any _))

theorem phAll_noimp : (ps : MsgParts) → (d : Nat) → ∀ e ∈ phAll g esc call ps d, NoImp e.2.2 :=
  fun ps d e he => .of_ok ((goodLaw.and impLaw).phAll g esc call (noimp_call call hcall hcalln) ps d (Sub.any _) e he)

theorem phAllCases_noimp : (cs : PluralCases) → (d : Nat) → ∀ e ∈ phAllCases g esc call cs d, NoImp e.2.2 :=
  fun cs d e he => .of_ok ((goodLaw.and impLaw).phAllCases g esc call (noimp_call call hcall hcalln) cs d (Sub.any _) e he)
end

theorem runTmpl_noimp (g : GEnv) : ∀ (fuel : Nat) (t : Registry.Tmpl), NoImp (runTmpl g fuel t) := by
  intro fuel
  induction fuel with
  | zero => intro t ctx st _ _; rw [runTmpl]
  | succ n ih =>
    intro t ctx st hown hs
    rw [runTmpl]
    exact execBody_noimp g (escapeOf t) (runTmpl g n) (runTmpl_good g n) ih t.body ctx _ (hown.atNode _) hs

end SoyVerif.Model.Eval
