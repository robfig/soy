/-
  Where `s.node` is when an evaluation fails: `errPosE env e n` (and `evalListPos`, `runDirectivesPos`,
  `matchCasePos`, `callDataPos`) is the position of a node of the expression(s) evaluated, or where the state
  already was.  `posE e`, `posCmd c`, … list the positions of the nodes of a tree that `walk` visits (`s.at`):
  expression nodes, command nodes, list nodes (blocks), raw text and html-tag parts of a message.  (Access nodes,
  directive nodes, if-condition / case / param wrappers, placeholder and plural nodes are never the current node:
  the walk goes straight to their children.)
-/
import SoyVerif.Lemmas.EvalFrame

namespace SoyVerif.Model.Eval
open SoyVerif SoyVerif.Model

/-! the ghost fields `St.node` (where the current template's state is) and `St.impossible` (failures of
`scope.alldata`) are moved by the tree walk only -/

theorem evalIn_ghost {g : GEnv} {e : Expr} {ctx : Scope} {st st1 : St} {v : Value}
    (h : evalIn g e ctx st = some (v, st1)) : st1.node = st.node ∧ st1.impossible = st.impossible := by
  obtain ⟨n, rfl⟩ := evalIn_next h; exact ⟨rfl, rfl⟩

theorem noteImpossible_node (a : Bool) (ctx : Scope) (st : St) : (noteImpossible a ctx st).node = st.node := by
  unfold noteImpossible; split <;> rfl

theorem set_ghost {ctx : Scope} {st st2 : St} {k : Bytes} {v : Value} (h : set ctx st k v = some st2) :
    st2.node = st.node ∧ st2.impossible = st.impossible := by
  obtain ⟨_, _, rfl⟩ := set_data h; exact ⟨rfl, rfl⟩

theorem evalList_ghost {g : GEnv} {ctx : Scope} (es : List Expr) (st st1 : St) (vs : List Value)
    (h : evalList g ctx es st = some (vs, st1)) : st1.node = st.node ∧ st1.impossible = st.impossible := by
  obtain ⟨n, rfl⟩ := evalList_next es h; exact ⟨rfl, rfl⟩

theorem callData_ghost {g : GEnv} {allData : Bool} {data : Option Expr} {ctx cd : Scope} {st st1 : St}
    (h : callData g allData data ctx st = some (cd, st1)) :
    st1.node = st.node ∧ st1.impossible = st.impossible := by
  unfold callData at h
  split at h
  · split at h
    · simp at h
    · simp only [push, Option.some.injEq, Prod.mk.injEq] at h; rw [← h.2]; exact ⟨rfl, rfl⟩
  · split at h
    · split at h
      · rename_i id kvs sta he
        simp only [newScope, push, Option.some.injEq, Prod.mk.injEq] at h
        rw [← h.2]; exact (evalIn_ghost he : sta.node = st.node ∧ sta.impossible = st.impossible)
      · simp at h
    · simp only [newScope, Option.some.injEq, Prod.mk.injEq] at h; rw [← h.2]; exact ⟨rfl, rfl⟩

theorem own_mem_posE (e : Expr) : Expr.pos e ∈ posE e := by
  cases e <;> simp [posE, Expr.pos]

mutual
theorem errPosE_mem (env : EEnv) : (e : Expr) → (n : Nat) → errPosE env e n ∈ posE e
  | .null p, n => by simp [errPosE, posE]
  | .bool p _, n => by simp [errPosE, posE]
  | .int p _, n => by simp [errPosE, posE]
  | .float p _, n => by simp [errPosE, posE]
  | .str p _ _, n => by simp [errPosE, posE]
  | .global p _, n => by simp [errPosE, posE]
  | .func p name args, n => by
    rw [errPosE, posE]
    split
    · simp
    · split
      · simp
      · split
        · simp
        · split
          · exact (errPosArgs_mem env args n p).elim (fun h => by rw [h]; simp) (fun h => List.mem_cons_of_mem _ h)
          · simp
  | .list p items, n => by
    rw [errPosE, posE]
    split
    · exact (errPosArgs_mem env items n p).elim (fun h => by rw [h]; simp) (fun h => List.mem_cons_of_mem _ h)
    · simp
  | .map p items, n => by
    rw [errPosE, posE]
    split
    · exact (errPosMap_mem env items n p).elim (fun h => by rw [h]; simp) (fun h => List.mem_cons_of_mem _ h)
    · simp
  | .dataRef p key acc, n => by
    rw [errPosE, posE]
    split
    · split
      · simp
      · exact (errPosAcc_mem env acc _ n p).elim (fun h => by rw [h]; simp) (fun h => List.mem_cons_of_mem _ h)
    · exact (errPosAcc_mem env acc _ n p).elim (fun h => by rw [h]; simp) (fun h => List.mem_cons_of_mem _ h)
  | .not p a, n => by
    rw [errPosE, posE]
    split
    · exact List.mem_cons_of_mem _ (errPosE_mem env a n)
    · simp
  | .neg p a, n => by
    rw [errPosE, posE]
    split
    · exact List.mem_cons_of_mem _ (errPosE_mem env a n)
    · simp
  | .bin op p a b, n => by
    rw [errPosE, posE]
    have hb : ∀ n1, (match evalE env b n1 with | .err => errPosE env b n1 | _ => p) ∈ p :: (posE a ++ posE b) := by
      intro n1
      split
      · exact List.mem_cons_of_mem _ (List.mem_append_right _ (errPosE_mem env b n1))
      · simp
    split
    · exact List.mem_cons_of_mem _ (List.mem_append_left _ (errPosE_mem env a n))
    · rename_i va n1 _
      cases op <;> simp only <;> first | exact hb n1 | (split <;> first | exact hb n1 | simp)
  | .tern p c a b, n => by
    rw [errPosE, posE]
    split
    · exact List.mem_cons_of_mem _ (List.mem_append_left _ (errPosE_mem env c n))
    · rename_i vc n1 _
      split
      · split
        · exact List.mem_cons_of_mem _ (List.mem_append_right _ (List.mem_append_left _ (errPosE_mem env a n1)))
        · simp
      · split
        · exact List.mem_cons_of_mem _ (List.mem_append_right _ (List.mem_append_right _ (errPosE_mem env b n1)))
        · simp
theorem errPosArgs_mem (env : EEnv) : (es : ExprList) → (n own : Nat) → errPosArgs env es n own = own ∨ errPosArgs env es n own ∈ posEs es
  | .nil, n, own => by simp [errPosArgs]
  | .cons e r, n, own => by
    rw [errPosArgs, posEs]
    split
    · exact Or.inr (List.mem_append_left _ (errPosE_mem env e n))
    · rename_i n1 _
      exact (errPosArgs_mem env r n1 own).elim Or.inl (fun h => Or.inr (List.mem_append_right _ h))
theorem errPosMap_mem (env : EEnv) : (es : MapItems) → (n own : Nat) → errPosMap env es n own = own ∨ errPosMap env es n own ∈ posM es
  | .nil, n, own => by simp [errPosMap]
  | .cons _ e r, n, own => by
    rw [errPosMap, posM]
    split
    · exact Or.inr (List.mem_append_left _ (errPosE_mem env e n))
    · rename_i n1 _
      exact (errPosMap_mem env r n1 own).elim Or.inl (fun h => Or.inr (List.mem_append_right _ h))
theorem errPosAcc_mem (env : EEnv) : (acc : AccessList) → (ref : Value) → (n own : Nat) →
    errPosAcc env acc ref n own = own ∨ errPosAcc env acc ref n own ∈ posA acc
  | .nil, ref, n, own => by simp [errPosAcc]
  | .cons (.key _ ns k) rest, ref, n, own => by
    rw [errPosAcc, posA]
    split
    · exact errPosAcc_mem env rest _ n own
    · exact Or.inl rfl
  | .cons (.index _ ns i) rest, ref, n, own => by
    rw [errPosAcc, posA]
    split
    · exact errPosAcc_mem env rest _ n own
    · exact Or.inl rfl
  | .cons (.expr _ ns e) rest, ref, n, own => by
    rw [errPosAcc, posA]
    split
    · exact Or.inr (List.mem_append_left _ (errPosE_mem env e n))
    · split
      · exact (errPosAcc_mem env rest _ _ own).elim Or.inl (fun h => Or.inr (List.mem_append_right _ h))
      · exact Or.inl rfl
    · split
      · exact Or.inl rfl
      · split
        · exact (errPosAcc_mem env rest _ _ own).elim Or.inl (fun h => Or.inr (List.mem_append_right _ h))
        · exact Or.inl rfl
end

theorem cmdPos_mem (c : Cmd) : cmdPos c ∈ posCmd c := by
  cases c with
  | forc _ _ _ _ ie => cases ie <;> (rw [cmdPos, posCmd]; exact List.mem_cons_self)
  | _ => rw [cmdPos, posCmd]; exact List.mem_cons_self

def Sub (S : Nat → Prop) (l : List Nat) : Prop := ∀ p ∈ l, S p

theorem Sub.head {S : Nat → Prop} {a : Nat} {l : List Nat} (h : Sub S (a :: l)) : S a := h a List.mem_cons_self
theorem Sub.tail {S : Nat → Prop} {a : Nat} {l : List Nat} (h : Sub S (a :: l)) : Sub S l :=
  fun p hp => h p (List.mem_cons_of_mem _ hp)
theorem Sub.left {S : Nat → Prop} {a b : List Nat} (h : Sub S (a ++ b)) : Sub S a :=
  fun p hp => h p (List.mem_append_left _ hp)
theorem Sub.right {S : Nat → Prop} {a b : List Nat} (h : Sub S (a ++ b)) : Sub S b :=
  fun p hp => h p (List.mem_append_right _ hp)

theorem evalInPos_mem (g : GEnv) (e : Expr) (ctx : Scope) (st : St) : evalInPos g e ctx st ∈ posE e :=
  errPosE_mem _ e _

theorem evalListPos_step {g : GEnv} {ctx : Scope} {S : Nat → Prop} : ∀ (es : List Expr) (st : St), Sub S (posList es) →
    evalListPos g ctx es st = st.node ∨ S (evalListPos g ctx es st) := by
  intro es
  induction es with
  | nil => intro st _; exact Or.inl rfl
  | cons e r ih =>
    intro st hs
    unfold evalListPos
    split
    · rename_i st1 he
      rcases ih st1 hs.right with h | h
      · exact Or.inl (by rw [h, (evalIn_ghost he).1])
      · exact Or.inr h
    · exact Or.inr (hs.left _ (evalInPos_mem g e ctx st))

theorem runDirectivesPos_step {g : GEnv} {ctx : Scope} {S : Nat → Prop} :
    ∀ (ds : List Directive) (v : Value) (esc : Bool) (st : St), Sub S (posDirs ds) →
      runDirectivesPos g ctx ds v esc st = st.node ∨ S (runDirectivesPos g ctx ds v esc st) := by
  intro ds
  induction ds with
  | nil => intro v esc st _; exact Or.inl rfl
  | cons d r ih =>
    intro v esc st hs
    unfold runDirectivesPos
    split
    · exact Or.inl rfl
    · split
      · exact Or.inl rfl
      · split
        · exact evalListPos_step _ _ hs.left
        · rename_i args st1 hl
          split
          · exact Or.inl rfl
          · rcases ih _ _ st1 hs.right with h | h
            · exact Or.inl (by rw [h, (evalList_ghost _ _ _ _ hl).1])
            · exact Or.inr h

theorem matchCasePos_step {g : GEnv} {ctx : Scope} {sv : Value} {S : Nat → Prop} : ∀ (es : List Expr) (st : St),
    Sub S (posList es) → matchCasePos g ctx sv es st = st.node ∨ S (matchCasePos g ctx sv es st) := by
  intro es
  induction es with
  | nil => intro st _; exact Or.inl rfl
  | cons e r ih =>
    intro st hs
    unfold matchCasePos
    split
    · exact Or.inr (hs.left _ (evalInPos_mem g e ctx st))
    · rename_i v st1 he
      split
      · exact Or.inl ((evalIn_ghost he).1)
      · rcases ih st1 hs.right with h | h
        · exact Or.inl (by rw [h, (evalIn_ghost he).1])
        · exact Or.inr h

theorem posDirs_append (a b : List Directive) : posDirs (a ++ b) = posDirs a ++ posDirs b := by
  induction a with
  | nil => rfl
  | cons d r ih => simp [posDirs, ih]

theorem posDirs_oblig (pos : Nat) (names : List Bytes) : posDirs (obligDirs pos names) = [] := by
  induction names with
  | nil => rfl
  | cons n r ih =>
    have : obligDirs pos (n :: r) = { pos := pos, name := n, args := [] } :: obligDirs pos r := rfl
    rw [this, posDirs, ih]; rfl

theorem findPlural_sub {S : Nat → Prop} : ∀ (body : MsgParts) (vn : Bytes) (ve : Expr),
    findPlural body vn = some ve → Sub S (posParts body) → Sub S (posE ve)
  | .nil, _, _, h, _ => by simp [findPlural] at h
  | .text _ _ r, vn, ve, h, hs => by
    rw [findPlural] at h; rw [posParts] at hs; exact findPlural_sub r vn ve h hs.tail
  | .ph _ _ _ r, vn, ve, h, hs => by
    rw [findPlural] at h; rw [posParts] at hs; exact findPlural_sub r vn ve h hs.right
  | .plural _ vn' v _ _ _ r, vn, ve, h, hs => by
    rw [findPlural] at h; rw [posParts] at hs
    split at h
    · simp only [Option.some.injEq] at h; subst h; exact hs.left
    · exact findPlural_sub r vn ve h hs.right.right.right

theorem callDataPos_step {S : Nat → Prop} (g : GEnv) (allData : Bool) (data : Option Expr) (ctx : Scope) (st : St)
    (hs : Sub S (posOpt data)) : callDataPos g allData data ctx st = st.node ∨ S (callDataPos g allData data ctx st) := by
  unfold callDataPos
  split
  · exact Or.inl rfl
  · split
    · rename_i e
      split
      · exact Or.inr (hs _ (evalInPos_mem g e ctx st))
      · exact Or.inl rfl
    · exact Or.inl rfl

end SoyVerif.Model.Eval
