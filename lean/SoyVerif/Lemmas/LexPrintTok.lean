/-
  Per-token lemmas, part 1.  `lexInsideTag`, started at the first byte of a token's spelling, emits exactly that
  token (type, text) and returns to `lexInsideTag` positioned after it — provided the byte that follows does not
  extend the token (a space after `?` `/` `<` `>`; no digit after a unary minus; `WordEnd` after a word).
  `Step1`: in one state function — punctuation and operator symbols;  `Step2`: in two, through `lexIdent` — words,
  `$name`, `.name` / `.3`, `?.name` / `?.3`, all on `identRest_word`, the run of `lexIdentRest` over a name in UTF-8.

  The facts about the GENERATED tables (`Gen/LexTables.lean`, `Gen/Unicode.lean`) enter as the
  hypothesis `LexTableOK`, defined here; Inst/LexTables.lean discharges it by evaluation.
-/
import SoyVerif.Lemmas.LexPrintUni
import SoyVerif.Lemmas.ParserAdj


namespace SoyVerif.Lemmas.LexPrint
open SoyVerif SoyVerif.Model SoyVerif.Model.Lex SoyVerif.Model.PrintTokens
open SoyVerif.Lemmas.ParserAdj

variable {tg : Int}

/-- what the proofs use of the generated lexer tables -/
structure LexTableOK : Prop where
  /-- `unicode.IsLetter` / `unicode.IsDigit` on ASCII -/
  letter : ∀ n : Fin 128, isLetterU (n.val : Int) = decide ((65 ≤ n.val ∧ n.val ≤ 90) ∨ (97 ≤ n.val ∧ n.val ≤ 122))
  digit : ∀ n : Fin 128, isDigitU (n.val : Int) = decide (48 ≤ n.val ∧ n.val ≤ 57)
  /-- `arithmeticItemsBySymbol` on the operator spellings the printer uses -/
  sym1 : Gen.symbols.lookup [40] = some .tLeftParen ∧ Gen.symbols.lookup [41] = some .tRightParen ∧
    Gen.symbols.lookup [42] = some .tMul ∧ Gen.symbols.lookup [37] = some .tMod ∧
    Gen.symbols.lookup [43] = some .tAdd ∧ Gen.symbols.lookup [58] = some .tColon ∧
    Gen.symbols.lookup [47] = some .tDiv
  sym2 : Gen.symbols.lookup [60] = some .tLt ∧ Gen.symbols.lookup [62] = some .tGt ∧
    Gen.symbols.lookup [60, 61] = some .tLte ∧ Gen.symbols.lookup [62, 61] = some .tGte ∧
    Gen.symbols.lookup [33, 61] = some .tNotEq ∧ Gen.symbols.lookup [61, 61] = some .tEq
  /-- the keywords of the expression language in `builtinIdents` -/
  kw : Gen.builtinIdents.lookup [110, 117, 108, 108] = some .tNull ∧ Gen.builtinIdents.lookup [116, 114, 117, 101] = some .tBool ∧
    Gen.builtinIdents.lookup [102, 97, 108, 115, 101] = some .tBool ∧ Gen.builtinIdents.lookup [110, 111, 116] = some .tNot ∧
    Gen.builtinIdents.lookup [97, 110, 100] = some .tAnd ∧ Gen.builtinIdents.lookup [111, 114] = some .tOr
  /-- no key of `builtinIdents` begins with `$`, `.` or `?` -/
  keys : ∀ kv ∈ Gen.builtinIdents, kv.1.head? ≠ some 36 ∧ kv.1.head? ≠ some 46 ∧ kv.1.head? ≠ some 63
  /-- `lexNegative`: unary after every token that can precede an operand, binary after every
      token an operand can end with -/
  unaryBefore : ∀ t ∈ beforeOperand, Gen.unaryMinusAfter.contains t = true
  unaryAfter : ∀ t ∈ afterOperand, Gen.unaryMinusAfter.contains t = false

theorem asciiHd_cons {b : UInt8} {s : Bytes} (h : b < 128) : AsciiHd (b :: s) := h

def itemOf (t : Tk) (pe : Nat) : Item := ⟨t.typ, pe, t.val⟩

/-- one transition `lexInsideTag → lexInsideTag` that emits `t` (which starts at `p`);
    whatever width the record holds on entry (`∀ w`); the one it leaves is that of the last rune looked at, which nothing
    behind it reads (`∃ w'`) -/
def Step1 (tg : Int) (inp : Array UInt8) (p : Nat) (le : Item) (its : Array Item) (t : Tk) : Prop :=
  ∀ w, ∃ w', step .insideTag (L tg inp p p w le its) =
    some (some .insideTag, L tg inp (p + t.val.length) (p + t.val.length) w' (itemOf t (p + t.val.length))
      (its.push (itemOf t (p + t.val.length))))

theorem step1_emit {inp p} {v s : Bytes} {ty : ItemType} (h : InpAt inp p (v ++ s)) (w' : Int) {le its}
    (hrun : ∀ w, step .insideTag (L tg inp p p w le its) = emitInside (L tg inp (p + v.length) p w' le its) ty) :
    Step1 tg inp p le its ⟨ty, v⟩ := fun w => ⟨w', by rw [hrun w, emitInside, emit_L h rfl]; rfl⟩

/-- `(` `)` `*` `%` `+` `:` -/
theorem step_single {inp p b s} (h : InpAt inp p (b :: s)) (ty : ItemType)
    (hb : b = 40 ∨ b = 41 ∨ b = 42 ∨ b = 37 ∨ b = 43 ∨ b = 58)
    (hs : Gen.symbols.lookup [b] = some ty) (le its) :
    Step1 tg inp p le its ⟨ty, [b]⟩ := by
  refine step1_emit (v := [b]) h 1 fun w => ?_
  rcases hb with rfl | rfl | rfl | rfl | rfl | rfl <;>
  · simp only [step, lexInsideTag, next_L h (by decide), Option.bind_eq_bind, Option.bind_some]
    simp [isSpaceEOL, isSpace, isEndOfLine, lexInsideTagMid, emitInside, hs]

/-- `[` `]` `,` `|` -/
theorem step_bracket {inp p b s} (h : InpAt inp p (b :: s)) (ty : ItemType)
    (hb : (b = 91 ∧ ty = .tLeftBracket) ∨ (b = 93 ∧ ty = .tRightBracket) ∨ (b = 44 ∧ ty = .tComma) ∨
      (b = 124 ∧ ty = .tPipe)) (le its) :
    Step1 tg inp p le its ⟨ty, [b]⟩ := by
  refine step1_emit (v := [b]) h 1 fun w => ?_
  rcases hb with ⟨rfl, rfl⟩ | ⟨rfl, rfl⟩ | ⟨rfl, rfl⟩ | ⟨rfl, rfl⟩ <;>
  · simp only [step, lexInsideTag, next_L h (by decide), Option.bind_eq_bind, Option.bind_some]
    simp [isSpaceEOL, isSpace, isEndOfLine, lexInsideTagMid, lexInsideTagRest, emitInside, isLetterOrUnderscore, eof]

/-- `/` followed by a space -/
theorem step_div (T : LexTableOK) {inp p s} (h : InpAt inp p (47 :: 32 :: s)) (le its) :
    Step1 tg inp p le its ⟨.tDiv, [47]⟩ := by
  refine step1_emit (v := [47]) h 1 fun w => ?_
  have hp := peek_hd (tg := tg) (inpAt_tail h) (asciiHd_cons (by decide)) p 1 le its
  simp only [step, lexInsideTag, next_L h (by decide), Option.bind_eq_bind, Option.bind_some, hp]
  simp [isSpaceEOL, isSpace, isEndOfLine, lexInsideTagMid, emitInside, T.sym1.2.2.2.2.2.2, hdRune, hdW]

/-- `?[` -/
theorem step_qkey {inp p s} (h : InpAt inp p (63 :: 91 :: s)) (le its) :
    Step1 tg inp p le its tQKey := by
  refine step1_emit (v := [63, 91]) h 1 fun w => ?_
  have hn := next_L (tg := tg) (inpAt_tail h) (by decide) p 1 le its
  simp only [step, lexInsideTag, next_L h (by decide), Option.bind_eq_bind, Option.bind_some]
  simp [isSpaceEOL, isSpace, isEndOfLine, lexInsideTagMid, emitInside, hn]

/-- `?:` -/
theorem step_elvis {inp p s} (h : InpAt inp p (63 :: 58 :: s)) (le its) :
    Step1 tg inp p le its ⟨.tElvis, [63, 58]⟩ := by
  refine step1_emit (v := [63, 58]) h 1 fun w => ?_
  have hn := next_L (tg := tg) (inpAt_tail h) (by decide) p 1 le its
  simp only [step, lexInsideTag, next_L h (by decide), Option.bind_eq_bind, Option.bind_some]
  simp [isSpaceEOL, isSpace, isEndOfLine, lexInsideTagMid, emitInside, hn]

/-- `?` followed by a space -/
theorem step_ternif {inp p s} (h : InpAt inp p (63 :: 32 :: s)) (le its) :
    Step1 tg inp p le its tTernIf := by
  refine step1_emit (v := [63]) h 1 fun w => ?_
  have hn := next_L (tg := tg) (inpAt_tail h) (by decide) p 1 le its
  simp only [step, lexInsideTag, next_L h (by decide), Option.bind_eq_bind, Option.bind_some]
  simp [isSpaceEOL, isSpace, isEndOfLine, lexInsideTagMid, emitInside, hn, backup_L]

/-- `<` `>` followed by a space -/
theorem step_cmp1 {inp p b s} (h : InpAt inp p (b :: 32 :: s)) (ty : ItemType)
    (hb : b = 60 ∨ b = 62) (hs : Gen.symbols.lookup [b] = some ty) (le its) :
    Step1 tg inp p le its ⟨ty, [b]⟩ := by
  refine step1_emit (v := [b]) h 1 fun w => ?_
  have ha := accept_no (tg := tg) (inpAt_tail h) (asciiHd_cons (by decide)) symbolChars (by simp only [hdRune]; decide) p 1 le its
  have hsl := slice_L (tg := tg) (inp := inp) (st := p) (v := [b]) (s := 32 :: s) h (pe := p + 1) rfl 1 le its
  rcases hb with rfl | rfl <;>
  · simp only [step, lexInsideTag, next_L h (by decide), Option.bind_eq_bind, Option.bind_some]
    simp [isSpaceEOL, isSpace, isEndOfLine, lexInsideTagMid, lexSymbol, ha, hdW, hsl, emitInside, hs]

/-- `<=` `>=` `!=` -/
theorem step_cmp2 {inp p b s} (h : InpAt inp p (b :: 61 :: s)) (ty : ItemType)
    (hb : b = 60 ∨ b = 62 ∨ b = 33) (hs : Gen.symbols.lookup [b, 61] = some ty) (le its) :
    Step1 tg inp p le its ⟨ty, [b, 61]⟩ := by
  refine step1_emit (v := [b, 61]) h 1 fun w => ?_
  have ha := accept_yes (tg := tg) (inpAt_tail h) (by decide) symbolChars (by decide) p 1 le its
  have hsl := slice_L (tg := tg) (inp := inp) (st := p) (v := [b, 61]) (s := s) h (pe := p + 1 + 1) rfl 1 le its
  rcases hb with rfl | rfl | rfl <;>
  · simp only [step, lexInsideTag, next_L h (by decide), Option.bind_eq_bind, Option.bind_some]
    simp [isSpaceEOL, isSpace, isEndOfLine, lexInsideTagMid, lexSymbol, ha, hsl, emitInside, hs]

/-- `==` -/
theorem step_eq {inp p s} (h : InpAt inp p (61 :: 61 :: s)) (hs : Gen.symbols.lookup [61, 61] = some .tEq) (le its) :
    Step1 tg inp p le its ⟨.tEq, [61, 61]⟩ := by
  refine step1_emit (v := [61, 61]) h 1 fun w => ?_
  have hp := peek_hd (tg := tg) (inpAt_tail h) (asciiHd_cons (by decide)) p 1 le its
  have ha := accept_yes (tg := tg) (inpAt_tail h) (by decide) symbolChars (by decide) p 1 le its
  have hsl := slice_L (tg := tg) (inp := inp) (st := p) (v := [61, 61]) (s := s) h (pe := p + 1 + 1) rfl 1 le its
  simp only [step, lexInsideTag, next_L h (by decide), Option.bind_eq_bind, Option.bind_some]
  simp [isSpaceEOL, isSpace, isEndOfLine, lexInsideTagMid, lexSymbol, hp, hdRune, hdW, ha, hsl, emitInside, hs]

/-- `=` (between an attribute name and its value in a command tag), not followed by another `=` -/
theorem step_equals {inp p s} (h : InpAt inp p (61 :: s)) (ha : AsciiHd s) (hne : hdRune s ≠ 61) (le its) :
    Step1 tg inp p le its ⟨.tEquals, [61]⟩ := by
  refine step1_emit (v := [61]) h (hdW s) fun w => ?_
  have hp := peek_hd (tg := tg) (inpAt_tail h) ha p 1 le its
  simp only [step, lexInsideTag, next_L h (by decide), Option.bind_eq_bind, Option.bind_some]
  simp [isSpaceEOL, isSpace, isEndOfLine, lexInsideTagMid, hp, hne, lexInsideTagRest]

/-- binary `-`: the previous token is one an operand ends with -/
theorem step_sub {inp p s} (h : InpAt inp p (45 :: s)) (le its)
    (hprev : Gen.unaryMinusAfter.contains le.typ = false) :
    Step1 tg inp p le its ⟨.tSub, [45]⟩ := by
  refine step1_emit (v := [45]) h 1 fun w => ?_
  have hl : (L tg inp (p + 1) p 1 le its).lastEmit = le := rfl
  simp only [step, lexInsideTag, next_L h (by decide), Option.bind_eq_bind, Option.bind_some]
  simp only [isSpaceEOL, isSpace, isEndOfLine, lexInsideTagMid, lexNegative, hl, hprev]
  simp [emitInside]

/-- unary `-`: the previous token is one that precedes an operand, and no digit follows -/
theorem step_neg {inp p s} (h : InpAt inp p (45 :: s)) (ha : AsciiHd s) (hd : hdRune s < 48 ∨ 57 < hdRune s) (le its)
    (hprev : Gen.unaryMinusAfter.contains le.typ = true) :
    Step1 tg inp p le its tNeg := by
  refine step1_emit (v := [45]) h (hdW s) fun w => ?_
  have hp := peek_hd (tg := tg) (inpAt_tail h) ha p 1 le its
  have hp2 := peek_hd (tg := tg) (inpAt_tail h) ha p (hdW s) le its
  have hl : (L tg inp (p + 1) p 1 le its).lastEmit = le := rfl
  simp only [step, lexInsideTag, next_L h (by decide), Option.bind_eq_bind, Option.bind_some]
  simp only [isSpaceEOL, isSpace, isEndOfLine, lexInsideTagMid, lexNegative, hl, hprev]
  simp only [hp]
  by_cases h48 : hdRune s ≥ 48
  · have h57 : ¬ hdRune s ≤ 57 := by omega
    simp [h48, hp2, h57, emitInside]
  · simp [h48, emitInside]

/-- the byte after a word does not continue it: end of input, or an ASCII byte that is no
    letter, digit or underscore -/
def WordEnd : Bytes → Prop
  | [] => True
  | b :: _ => b < 128 ∧ isIdChar b = false

theorem wordEnd_ascii {rest : Bytes} (h : WordEnd rest) : AsciiHd rest := by
  cases rest with
  | nil => trivial
  | cons b s => exact h.1

theorem alnum_true (T : LexTableOK) {b : UInt8} (h : isIdChar b = true) :
    b < 128 ∧ isAlphaNumeric (b.toNat : Int) = true := by
  have hn := isIdChar_nat h
  have hb : b.toNat < 128 := by omega
  refine ⟨hb, ?_⟩
  have h1 := T.letter ⟨b.toNat, hb⟩
  have h2 := T.digit ⟨b.toNat, hb⟩
  simp only at h1 h2
  simp only [isAlphaNumeric, h1, h2, Bool.or_eq_true, beq_iff_eq, decide_eq_true_eq]
  omega

theorem alnum_false (T : LexTableOK) {rest : Bytes} (h : WordEnd rest) : isAlphaNumeric (hdRune rest) = false := by
  cases rest with
  | nil => exact isAlphaNumeric_eof
  | cons b s =>
    have hn := isIdChar_nat_false h.2
    have hb : b.toNat < 128 := h.1
    have h1 := T.letter ⟨b.toNat, hb⟩
    have h2 := T.digit ⟨b.toNat, hb⟩
    simp only at h1 h2
    simp only [hdRune, isAlphaNumeric, h1, h2, Bool.or_eq_false_iff, beq_eq_false_iff_ne, decide_eq_false_iff_not]
    omega

theorem alnumR_true (T : LexTableOK) {r : Nat} (h : alnumR r = true) : isAlphaNumeric (r : Int) = true := by
  unfold alnumR at h
  split at h
  · rename_i hr
    have h1 := T.letter ⟨r, hr⟩
    have h2 := T.digit ⟨r, hr⟩
    simp only at h1 h2
    simp only [Bool.or_eq_true, Bool.and_eq_true, decide_eq_true_eq, beq_iff_eq] at h
    simp only [isAlphaNumeric, h1, h2, Bool.or_eq_true, beq_iff_eq, decide_eq_true_eq]
    omega
  · exact h

theorem letterR_true (T : LexTableOK) {r : Nat} (h : letterR r = true) : (r : Int) = 95 ∨ isLetterU (r : Int) = true := by
  unfold letterR at h
  split at h
  · rename_i hr
    have h1 := T.letter ⟨r, hr⟩
    simp only at h1
    simp only [Bool.or_eq_true, Bool.and_eq_true, decide_eq_true_eq, beq_iff_eq] at h
    simp only [h1, decide_eq_true_eq]
    omega
  · exact Or.inr h

theorem isDigit_eq (c : UInt8) : isDigit (c.toNat : Int) = isDig c := by
  have e1 : ((48 : UInt8) ≤ c) ↔ 48 ≤ c.toNat := UInt8.le_iff_toNat_le
  have e2 : (c ≤ (57 : UInt8)) ↔ c.toNat ≤ 57 := UInt8.le_iff_toNat_le
  by_cases h1 : 48 ≤ c.toNat <;> by_cases h2 : c.toNat ≤ 57 <;>
    simp [isDigit, isDig, e1, e2, h1, h2] <;> omega

theorem runeAt_isDigit {c : UInt8} {t : Bytes} {r w : Nat} (hr : runeAt (c :: t) = some (r, w)) :
    isDigit (r : Int) = isDig c := by
  by_cases hc : c.toNat < 128
  · rw [runeAt_ascii t hc] at hr
    simp only [Option.some.injEq, Prod.mk.injEq] at hr
    rw [← hr.1]; exact isDigit_eq c
  · have h128 := runeAt_hi (by omega) hr
    have e2 : (c ≤ (57 : UInt8)) ↔ c.toNat ≤ 57 := UInt8.le_iff_toNat_le
    have : isDig c = false := by
      simp only [isDig, Bool.and_eq_false_iff, decide_eq_false_iff_not, e2]; right; omega
    rw [this]
    simp only [isDigit, Bool.and_eq_false_iff, decide_eq_false_iff_not]; right; omega

/-- `lexIdentRest` on the word `pre ++ k` (the lexer stands after `pre`): the type is the builtin's
    (`rt` from the table) or the one chosen by `lexIdent` -/
theorem identRest_word (T : LexTableOK) {inp st} {pre k rest : Bytes} (h : InpAt inp st ((pre ++ k) ++ rest))
    (hk : alnumBytes k = true) (hr : WordEnd rest) (ty rt : ItemType)
    (hl : (Gen.builtinIdents.lookup (pre ++ k) = some rt ∧ rt ≠ .tLiteral ∧ rt ≠ .tCss) ∨
          (Gen.builtinIdents.lookup (pre ++ k) = none ∧ rt = ty ∧ ty ≠ .tCommandEnd ∧ ty ≠ .tSpecialChar))
    (w le its) :
    lexIdentRest (L tg inp (st + pre.length) st w le its) ty =
      some (some .insideTag, L tg inp (st + (pre ++ k).length) (st + (pre ++ k).length) (hdW rest)
        ⟨rt, st + (pre ++ k).length, pre ++ k⟩ (its.push ⟨rt, st + (pre ++ k).length, pre ++ k⟩)) := by
  have h' : InpAt inp (st + pre.length) (k ++ rest) := inpAt_append (by simpa using h)
  have hsc := scan_runes (tg := tg) (fun r hr => alnumR_true T hr) k.length k hk h' (wordEnd_ascii hr) (alnum_false T hr) st w le its
  have hpe : st + pre.length + k.length = st + (pre ++ k).length := by simp; omega
  have hsl := slice_L (tg := tg) h (pe := st + pre.length + k.length) hpe (hdW rest) le its
  have he := emit_L (tg := tg) h (pe := st + pre.length + k.length) hpe (hdW rest) le its rt
  unfold lexIdentRest
  simp only [hsc, Option.bind_eq_bind, Option.bind_some, backup_hd, hsl]
  rw [hpe] at he
  rw [hpe]
  rcases hl with ⟨hl, h1, h2⟩ | ⟨hl, rfl, h1, h2⟩
  · simp only [hl, he, Option.bind_some, Option.pure_def, if_neg h1, if_neg h2]
  · simp only [hl]
    rw [if_neg (by simp [h1, h2])]
    simp only [emitInside, he, Option.bind_eq_bind, Option.bind_some, Option.pure_def]

/-- two transitions `lexInsideTag → s → lexInsideTag` that emit `t` (which starts at `p`) -/
def Step2 (tg : Int) (inp : Array UInt8) (p : Nat) (le : Item) (its : Array Item) (t : Tk) : Prop :=
  ∀ w, ∃ w' s1 l1, step .insideTag (L tg inp p p w le its) = some (some s1, l1) ∧
    step s1 l1 = some (some .insideTag, L tg inp (p + t.val.length) (p + t.val.length) w' (itemOf t (p + t.val.length))
      (its.push (itemOf t (p + t.val.length))))

theorem lookup_none {l : List (Bytes × ItemType)} {w : Bytes} (h : ∀ kv ∈ l, kv.1 ≠ w) : l.lookup w = none := by
  induction l with
  | nil => rfl
  | cons kv r ih =>
    obtain ⟨k, v⟩ := kv
    have h1 : k ≠ w := h (k, v) (by simp)
    have h2 : (w == k) = false := by simp [beq_eq_false_iff_ne]; exact fun e => h1 e.symm
    simp only [List.lookup, h2]
    exact ih (fun kv hkv => h kv (by simp [hkv]))

theorem lookup_special (T : LexTableOK) (c : UInt8) (k : Bytes) (hc : c = 36 ∨ c = 46 ∨ c = 63) :
    Gen.builtinIdents.lookup (c :: k) = none := by
  apply lookup_none
  intro kv hkv e
  have := T.keys kv hkv
  rw [e] at this
  simp only [List.head?_cons, ne_eq, Option.some.injEq] at this
  rcases hc with rfl | rfl | rfl <;> simp at this

/-- a word that begins with a letter or `_`: an identifier or a keyword -/
theorem step_word (T : LexTableOK) {inp p} {c : UInt8} {k rest : Bytes} (h : InpAt inp p ((c :: k) ++ rest))
    (hc : isIdStart c = true) (hk : alnumBytes k = true) (hr : WordEnd rest) (rt : ItemType)
    (hl : (Gen.builtinIdents.lookup (c :: k) = some rt ∧ rt ≠ .tLiteral ∧ rt ≠ .tCss) ∨
          (Gen.builtinIdents.lookup (c :: k) = none ∧ rt = .tIdent)) (le its) :
    Step2 tg inp p le its ⟨rt, c :: k⟩ := by
  intro w
  have hn := isIdStart_nat hc
  have hc8 : c < 128 := by show c.toNat < 128; omega
  have h0 : InpAt inp p (c :: (k ++ rest)) := by simpa using h
  refine ⟨hdW rest, .ident, L tg inp p p 1 le its, ?_, ?_⟩
  · simp only [step, lexInsideTag, next_L h0 hc8, Option.bind_eq_bind, Option.bind_some]
    have hsp : isSpaceEOL (c.toNat : Int) = false := by
      simp only [isSpaceEOL, isSpace, isEndOfLine, Bool.or_eq_false_iff, beq_eq_false_iff_ne]; omega
    have hlu : isLetterOrUnderscore (c.toNat : Int) = true := by
      simp only [isLetterOrUnderscore, Bool.or_eq_true, Bool.and_eq_true, decide_eq_true_eq, beq_iff_eq]; omega
    simp only [hsp, Bool.false_eq_true, if_false]
    rw [if_neg (by omega)]
    unfold lexInsideTagMid
    rw [if_neg (by omega), if_neg (by omega), if_neg (by omega), if_neg (by omega), if_neg (by omega),
      if_neg (by omega), if_neg (by omega), if_neg (by omega), if_neg (by omega), if_neg (by omega)]
    unfold lexInsideTagRest
    rw [if_neg (by omega), if_neg (by omega), if_neg (by simp only [eof]; omega), if_neg (by omega), if_pos hlu]
    simp only [Option.pure_def, backup_L]
  · have hr1 := identRest_word (tg := tg) T (pre := [c]) (k := k) (rest := rest) (st := p) h hk hr .tIdent rt
      (by rcases hl with hl | ⟨hl, rfl⟩
          · exact Or.inl hl
          · exact Or.inr ⟨hl, rfl, by simp, by simp⟩) 1 le its
    simp only [step, lexIdent, next_L h0 hc8, Option.bind_eq_bind, Option.bind_some]
    rw [if_neg (by omega), if_neg (by omega), if_neg (by omega), if_neg (by omega), if_neg (by omega)]
    simpa [itemOf] using hr1

/-- `$name`: the name is a run of letters / digits / `_` that begins with a letter or `_` -/
theorem step_dollar (T : LexTableOK) {inp p} {c : UInt8} {k rest : Bytes} (h : InpAt inp p ((36 :: c :: k) ++ rest))
    (hk : alnumBytes (c :: k) = true) (hl : ∀ r w, runeAt (c :: k) = some (r, w) → letterR r = true)
    (hr : WordEnd rest) (le its) :
    Step2 tg inp p le its ⟨.tDollarIdent, 36 :: c :: k⟩ := by
  intro w
  obtain ⟨r, wd, hrune, _⟩ := alnumBytes_cons_rune hk
  have h0 : InpAt inp p (36 :: (c :: (k ++ rest))) := by simpa using h
  have h1 : InpAt inp (p + 1) ((c :: k) ++ rest) := by simpa using inpAt_tail h0
  refine ⟨hdW rest, .ident, L tg inp p p 1 le its, ?_, ?_⟩
  · simp only [step, lexInsideTag, next_L h0 (by decide), Option.bind_eq_bind, Option.bind_some]
    simp [isSpaceEOL, isSpace, isEndOfLine, lexInsideTagMid, backup_L]
  · have hr1 := identRest_word (tg := tg) T (pre := [36]) (k := c :: k) (rest := rest) (st := p) h hk hr .tDollarIdent .tDollarIdent
      (Or.inr ⟨lookup_special T 36 _ (Or.inl rfl), rfl, by simp, by simp⟩) (wd : Int) le its
    have hp : (L tg inp (p + 1) p 1 le its).peek = some ((r : Int), L tg inp (p + 1) p (wd : Int) le its) := by
      unfold Lexer.peek
      rw [next_rune h1 hrune]
      simp only [Option.bind_eq_bind, Option.bind_some, Option.pure_def, backup_Lw]
    have hlet := letterR_true T (hl r wd hrune)
    simp only [step, lexIdent, next_L h0 (by decide), Option.bind_eq_bind, Option.bind_some, hp]
    rw [if_neg (by decide), if_pos (by decide)]
    rw [if_neg (by
      rcases hlet with e | e
      · simp [e]
      · simp [e])]
    simpa [itemOf] using hr1

theorem letterR_notDigit {r : Nat} (h : letterR r = true) : isDigit (r : Int) = false := by
  unfold letterR at h
  simp only [isDigit, Bool.and_eq_false_iff, decide_eq_false_iff_not]
  split at h
  · simp only [Bool.or_eq_true, Bool.and_eq_true, decide_eq_true_eq, beq_iff_eq] at h
    omega
  · omega

/-- `.name` / `.3`: the type is decided by the first character after the dot — an ASCII digit begins an
    index, a letter or `_` a name; anything else is an error (/repo 8984077) -/
theorem step_dot (T : LexTableOK) {inp p} {c : UInt8} {k rest : Bytes} (h : InpAt inp p ((46 :: c :: k) ++ rest))
    (hk : alnumBytes (c :: k) = true)
    (hl : isDig c = false → ∀ r w, runeAt (c :: k) = some (r, w) → letterR r = true) (hr : WordEnd rest) (le its) :
    Step2 tg inp p le its ⟨if isDig c then .tDotIndex else .tDotIdent, 46 :: c :: k⟩ := by
  intro w
  obtain ⟨r, wd, hrune, _⟩ := alnumBytes_cons_rune hk
  have h0 : InpAt inp p (46 :: (c :: (k ++ rest))) := by simpa using h
  have h1 : InpAt inp (p + 1) ((c :: k) ++ rest) := by simpa using inpAt_tail h0
  refine ⟨hdW rest, .ident, L tg inp p p 1 le its, ?_, ?_⟩
  · simp only [step, lexInsideTag, next_L h0 (by decide), Option.bind_eq_bind, Option.bind_some]
    simp [isSpaceEOL, isSpace, isEndOfLine, lexInsideTagMid, backup_L]
  · have hr1 := identRest_word (tg := tg) T (pre := [46]) (k := c :: k) (rest := rest) (st := p) h hk hr
      (if isDig c then .tDotIndex else .tDotIdent) (if isDig c then .tDotIndex else .tDotIdent)
      (Or.inr ⟨lookup_special T 46 _ (Or.inr (Or.inl rfl)), rfl, by split <;> simp, by split <;> simp⟩) (wd : Int) le its
    simp only [step, lexIdent, next_L h0 (by decide), Option.bind_eq_bind, Option.bind_some]
    rw [if_pos (by decide)]
    simp only [next_rune h1 hrune, Option.bind_some, backup_Lw]
    cases hd : isDig c with
    | true =>
      have : isDigit (r : Int) = true := by rw [runeAt_isDigit hrune]; exact hd
      rw [if_pos this]
      simpa [itemOf, hd] using hr1
    | false =>
      have hlr := hl hd r wd hrune
      rw [if_neg (by rw [letterR_notDigit hlr]; simp), if_pos (letterR_true T hlr)]
      simpa [itemOf, hd] using hr1

/-- `?.name` / `?.3` -/
theorem step_qdot (T : LexTableOK) {inp p} {c : UInt8} {k rest : Bytes} (h : InpAt inp p ((63 :: 46 :: c :: k) ++ rest))
    (hk : alnumBytes (c :: k) = true)
    (hl : isDig c = false → ∀ r w, runeAt (c :: k) = some (r, w) → letterR r = true) (hr : WordEnd rest) (le its) :
    Step2 tg inp p le its ⟨if isDig c then .tQuestionDotIndex else .tQuestionDotIdent, 63 :: 46 :: c :: k⟩ := by
  intro w
  obtain ⟨r, wd, hrune, _⟩ := alnumBytes_cons_rune hk
  have h0 : InpAt inp p (63 :: (46 :: (c :: (k ++ rest)))) := by simpa using h
  have h1 : InpAt inp (p + 1) (46 :: c :: (k ++ rest)) := inpAt_tail h0
  have h2 : InpAt inp (p + 1 + 1) ((c :: k) ++ rest) := by simpa using inpAt_tail h1
  refine ⟨hdW rest, .ident, L tg inp p p 1 le its, ?_, ?_⟩
  · simp only [step, lexInsideTag, next_L h0 (by decide), Option.bind_eq_bind, Option.bind_some]
    simp [isSpaceEOL, isSpace, isEndOfLine, lexInsideTagMid, next_L h1, addPos_L2]
  · have hr1 := identRest_word (tg := tg) T (pre := [63, 46]) (k := c :: k) (rest := rest) (st := p) h hk hr
      (if isDig c then .tQuestionDotIndex else .tQuestionDotIdent) (if isDig c then .tQuestionDotIndex else .tQuestionDotIdent)
      (Or.inr ⟨lookup_special T 63 _ (Or.inr (Or.inr rfl)), rfl, by split <;> simp, by split <;> simp⟩) (wd : Int) le its
    simp only [step, lexIdent, next_L h0 (by decide), Option.bind_eq_bind, Option.bind_some]
    rw [if_neg (by decide), if_neg (by decide), if_neg (by decide), if_neg (by decide), if_pos (by decide)]
    simp only [next_L h1 (by decide), Option.bind_some]
    rw [if_neg (by decide)]
    simp only [next_rune h2 hrune, Option.bind_some, backup_Lw]
    cases hd : isDig c with
    | true =>
      have : isDigit (r : Int) = true := by rw [runeAt_isDigit hrune]; exact hd
      rw [if_pos this]
      simpa [itemOf, hd] using hr1
    | false =>
      have hlr := hl hd r wd hrune
      rw [if_neg (by rw [letterR_notDigit hlr]; simp), if_pos (letterR_true T hlr)]
      simpa [itemOf, hd] using hr1

end SoyVerif.Lemmas.LexPrint
