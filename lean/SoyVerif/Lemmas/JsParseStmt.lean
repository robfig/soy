/-
  The statement parser of Spec/JsParse is the inverse of the obvious token printer on well-formed statement trees
  (`WfS`: expressions well-levelled, declared names no reserved words, a `var` / the head of a `for` with at least one
  declaration and one update, an ExpressionStatement not beginning with `{`, no `if` without `else` directly in front
  of an `else`) and programs (`WfTop`: a function name is dotted and does not begin with a reserved word, parameter
  names are no reserved words; a top-level statement begins with a keyword).
-/
import SoyVerif.Lemmas.JsParseExpr

namespace SoyVerif.Lemmas.JsParseStmt
open SoyVerif SoyVerif.Spec SoyVerif.Spec.JsParse SoyVerif.Lemmas.JsParseExpr

def tkDeclsTail : List (Bytes × PE) → List Tok
  | [] => []
  | (x, e) :: r => .p b!"," :: .id x :: .p b!"=" :: (tk e ++ tkDeclsTail r)

def tkDecls : List (Bytes × PE) → List Tok
  | [] => []
  | (x, e) :: r => .id x :: .p b!"=" :: (tk e ++ tkDeclsTail r)

def tkExprsTail : List PE → List Tok
  | [] => []
  | e :: r => .p b!"," :: (tk e ++ tkExprsTail r)

def tkExprs : List PE → List Tok
  | [] => []
  | e :: r => tk e ++ tkExprsTail r

mutual
  def tkS : PS → List Tok
    | .expr e => tk e ++ [.p b!";"]
    | .var ds => .id b!"var" :: (tkDecls ds ++ [.p b!";"])
    | .ifS c t => .id b!"if" :: .p b!"(" :: (tk c ++ .p b!")" :: tkS t)
    | .ifElse c t e => .id b!"if" :: .p b!"(" :: (tk c ++ .p b!")" :: (tkS t ++ .id b!"else" :: tkS e))
    | .block ss => .p b!"{" :: (tkSs ss ++ [.p b!"}"])
    | .forVar ds test upd body =>
      .id b!"for" :: .p b!"(" :: .id b!"var" ::
        (tkDecls ds ++ .p b!";" :: (tk test ++ .p b!";" :: (tkExprs upd ++ .p b!")" :: tkS body)))
    | .switchS e cs => .id b!"switch" :: .p b!"(" :: (tk e ++ .p b!")" :: .p b!"{" :: (tkCs cs ++ [.p b!"}"]))
    | .ret e => .id b!"return" :: (tk e ++ [.p b!";"])
    | .brk => [.id b!"break", .p b!";"]
    | .dbg => [.id b!"debugger", .p b!";"]
  def tkSs : PStmts → List Tok
    | .nil => []
    | .cons s r => tkS s ++ tkSs r
  def tkCs : PClauses → List Tok
    | .nil => []
    | .case e body r => .id b!"case" :: (tk e ++ .p b!":" :: (tkSs body ++ tkCs r))
    | .dflt body r => .id b!"default" :: .p b!":" :: (tkSs body ++ tkCs r)
end

/-- followed by `else`, the statement is read without taking the `else` (a `for` is closed when its body is) -/
def closed : PS → Bool
  | .ifS _ _ => false
  | .ifElse _ _ e => closed e
  | .forVar _ _ _ body => closed body
  | _ => true

def WfDecls : List (Bytes × PE) → Prop
  | [] => True
  | (x, e) :: r => isReserved x = false ∧ Wf e ∧ WfDecls r

def WfExprs : List PE → Prop
  | [] => True
  | e :: r => Wf e ∧ WfExprs r

mutual
  def WfS : PS → Prop
    | .expr e => Wf e ∧ headTok e ≠ .p b!"{"
    | .var ds => ds ≠ [] ∧ WfDecls ds
    | .ifS c t => Wf c ∧ WfS t
    | .ifElse c t e => Wf c ∧ WfS t ∧ closed t = true ∧ WfS e
    | .block ss => WfSs ss
    | .forVar ds test upd body => ds ≠ [] ∧ WfDecls ds ∧ Wf test ∧ upd ≠ [] ∧ WfExprs upd ∧ WfS body
    | .switchS e cs => Wf e ∧ WfCs cs
    | .ret e => Wf e
    | .brk => True
    | .dbg => True
  def WfSs : PStmts → Prop
    | .nil => True
    | .cons s r => WfS s ∧ WfSs r
  def WfCs : PClauses → Prop
    | .nil => True
    | .case e body r => Wf e ∧ WfSs body ∧ WfCs r
    | .dflt body r => WfSs body ∧ WfCs r
end

theorem exprP_rt (e : PE) (w : Wf e) (rest : List Tok) (ha : After 13 rest) : exprP (tk e ++ rest) = some (e, rest) := by
  unfold exprP
  exact assignN_rt _ _ e w (by simp) rest ha

theorem declsTail_rt : ∀ (ds : List (Bytes × PE)) (x : Bytes) (e : PE) (k : Nat) (rest : List Tok),
    isReserved x = false → Wf e → WfDecls ds → (tkDeclsTail ds).length < k → eat b!"," rest = none → After 13 rest →
    declsLoop k (.id x :: .p b!"=" :: (tk e ++ (tkDeclsTail ds ++ rest))) = some ((x, e) :: ds, rest)
  | [], x, e, k, rest, hx, we, _, hk, hr, ha => by
    cases k with
    | zero => simp at hk
    | succ k =>
      unfold declsLoop
      simp only [hx, tkDeclsTail, List.nil_append, eat_self, Bool.false_eq_true, if_false]
      rw [exprP_rt e we rest ha]
      simp [hr]
  | (x', e') :: r, x, e, k, rest, hx, we, wd, hk, hr, ha => by
    cases k with
    | zero => simp at hk
    | succ k =>
      simp only [WfDecls] at wd
      simp only [tkDeclsTail, List.length_cons, List.length_append] at hk
      have ih := declsTail_rt r x' e' k rest wd.1 wd.2.1 wd.2.2 (by omega) hr ha
      unfold declsLoop
      simp only [hx, tkDeclsTail, List.cons_append, List.append_assoc, eat_self, Bool.false_eq_true, if_false]
      rw [exprP_rt e we _ (after_of_none rfl _ _)]
      simp only [eat_self, ih]

theorem decls_rt (ds : List (Bytes × PE)) (hne : ds ≠ []) (w : WfDecls ds) (rest : List Tok)
    (hr : eat b!"," rest = none) (ha : After 13 rest) :
    declsLoop (tkDecls ds ++ rest).length (tkDecls ds ++ rest) = some (ds, rest) := by
  cases ds with
  | nil => exact absurd rfl hne
  | cons d r =>
    obtain ⟨x, e⟩ := d
    simp only [WfDecls] at w
    have := declsTail_rt r x e (tkDecls ((x, e) :: r) ++ rest).length rest w.1 w.2.1 w.2.2
      (by simp [tkDecls]; omega) hr ha
    simpa [tkDecls] using this

theorem exprsTail_rt : ∀ (es : List PE) (e : PE) (k : Nat) (rest : List Tok),
    Wf e → WfExprs es → (tkExprsTail es).length < k → eat b!"," rest = none → After 13 rest →
    exprsLoop k (tk e ++ (tkExprsTail es ++ rest)) = some (e :: es, rest)
  | [], e, k, rest, we, _, hk, hr, ha => by
    cases k with
    | zero => simp at hk
    | succ k =>
      unfold exprsLoop
      simp only [tkExprsTail, List.nil_append]
      rw [exprP_rt e we rest ha]
      simp [hr]
  | e' :: r, e, k, rest, we, wd, hk, hr, ha => by
    cases k with
    | zero => simp at hk
    | succ k =>
      simp only [WfExprs] at wd
      simp only [tkExprsTail, List.length_cons, List.length_append] at hk
      have ih := exprsTail_rt r e' k rest wd.1 wd.2 (by omega) hr ha
      unfold exprsLoop
      simp only [tkExprsTail, List.cons_append, List.append_assoc]
      rw [exprP_rt e we _ (after_of_none rfl _ _)]
      simp only [eat_self, ih]

theorem exprs_rt (es : List PE) (hne : es ≠ []) (w : WfExprs es) (rest : List Tok)
    (hr : eat b!"," rest = none) (ha : After 13 rest) :
    exprsLoop (tkExprs es ++ rest).length (tkExprs es ++ rest) = some (es, rest) := by
  cases es with
  | nil => exact absurd rfl hne
  | cons e r =>
    simp only [WfExprs] at w
    have := exprsTail_rt r e (tkExprs (e :: r) ++ rest).length rest w.1 w.2
      (by have := tk_pos e; simp [tkExprs]; omega) hr ha
    simpa [tkExprs] using this

theorem eatId_cons (s s' : Bytes) (r : List Tok) : eatId s (.id s' :: r) = if s' = s then some r else none := rfl
theorem eat_cons (s s' : Bytes) (r : List Tok) : eat s (.p s' :: r) = if s' = s then some r else none := rfl

/-- the words a statement of the grammar begins with (or is continued by) -/
def isStmtKw (s : Bytes) : Bool :=
  s == b!"var" || s == b!"if" || s == b!"for" || s == b!"switch" || s == b!"return" || s == b!"break" ||
    s == b!"case" || s == b!"default" || s == b!"else" || s == b!"debugger"

theorem not_stmtKw_of_not_reserved {s : Bytes} (h : isReserved s = false) : isStmtKw s = false := by
  cases hk : isStmtKw s with
  | false => rfl
  | true =>
    simp only [isStmtKw, Bool.or_eq_true, beq_iff_eq] at hk
    rcases hk with ((((((((h1 | h1) | h1) | h1) | h1) | h1) | h1) | h1) | h1) | h1 <;> subst h1 <;> revert h <;> decide

theorem headTok_idok : ∀ (p : PE), Wf p → ∀ s, headTok p = .id s → isStmtKw s = false
  | .ident s, w, s', h => by simp only [headTok, Tok.id.injEq] at h; subst h; exact not_stmtKw_of_not_reserved w
  | .null, _, _, h => by simp only [headTok, Tok.id.injEq] at h; subst h; decide
  | .bool b, _, _, h => by cases b <;> (simp only [headTok, Tok.id.injEq] at h; subst h; decide)
  | .num _, _, _, h | .str _, _, _, h | .obj _, _, _, h | .paren _, _, _, h => by cases h
  | .member x _, w, s, h | .index x _, w, s, h | .call x _, w, s, h | .postInc x, w, s, h | .bin _ x _, w, s, h
  | .cond x _ _, w, s, h | .assign _ x _, w, s, h => by simp only [Wf] at w; exact headTok_idok x w.1 s h
  | .unary op _, _, s, h => by
    cases op <;> simp only [headTok, UnOp.tok] at h
    · cases h
    · cases h
    · cases h; decide

/-- an expression statement is none of the other statements, and no end of a statement list -/
theorem expr_dispatch (e : PE) (w : Wf e) (hb : headTok e ≠ .p b!"{") (rest : List Tok) :
    eat b!"{" (tk e ++ rest) = none ∧ (∀ kw, isStmtKw kw = true → eatId kw (tk e ++ rest) = none) ∧
      stmtsEnd (tk e ++ rest) = false := by
  obtain ⟨r, hr⟩ := tk_head e
  rw [hr]
  cases ht : headTok e with
  | id s =>
    have hk := headTok_idok e w s ht
    refine ⟨rfl, fun kw hkw => eatId_ne (fun e => by rw [e, hkw] at hk; cases hk) _, ?_⟩
    simp only [isStmtKw, Bool.or_eq_false_iff, beq_eq_false_iff_ne, ne_eq] at hk
    simp [stmtsEnd, hk]
  | num _ => exact ⟨rfl, fun _ _ => rfl, rfl⟩
  | str _ => exact ⟨rfl, fun _ _ => rfl, rfl⟩
  | p s =>
    have hs := headTok_estart e w
    rw [ht] at hb hs
    have h2 : s ≠ b!"}" := by
      rcases hs with h | h | h | h <;> (subst h; decide)
    exact ⟨eat_ne (fun e => hb (by rw [e])) _, fun _ _ => rfl, by simp [stmtsEnd, h2]⟩

def NoElse (rest : List Tok) : Prop := eatId b!"else" rest = none

theorem stmtsEnd_noElse {rest : List Tok} (h : stmtsEnd rest = true) : NoElse rest := by
  unfold NoElse
  cases rest with
  | nil => rfl
  | cons t r =>
    cases t with
    | id s =>
      simp only [stmtsEnd, Bool.or_eq_true, beq_iff_eq] at h
      rw [eatId_cons]
      rcases h with h | h <;> (subst h; rfl)
    | _ => rfl

theorem stmtsEnd_after {rest : List Tok} (h : stmtsEnd rest = true) : After 13 rest := by
  cases rest with
  | nil => exact After.nil _
  | cons t r =>
    cases t with
    | id s => exact after_of_none rfl _ _
    | p s =>
      simp only [stmtsEnd, beq_iff_eq] at h
      subst h
      exact after_of_none rfl _ _
    | num _ => exact after_of_none rfl _ _
    | str _ => exact after_of_none rfl _ _

theorem tkS_pos (s : PS) : 0 < (tkS s).length := by
  cases s <;> simp [tkS]

theorem stmt_start (s : PS) (w : WfS s) (x : List Tok) : stmtsEnd (tkS s ++ x) = false ∧ NoElse (tkS s ++ x) := by
  cases s with
  | expr e =>
    simp only [WfS] at w
    simp only [tkS, List.append_assoc]
    have h := expr_dispatch e w.1 w.2 ([.p b!";"] ++ x)
    exact ⟨h.2.2, h.2.1 _ (by decide)⟩
  | _ => simp [tkS, stmtsEnd, NoElse, eatId_cons]

theorem clauses_end (cs : PClauses) {rest : List Tok} (h : stmtsEnd rest = true) : stmtsEnd (tkCs cs ++ rest) = true := by
  cases cs with
  | nil => simpa [tkCs] using h
  | case _ _ _ => simp [tkCs, stmtsEnd]
  | dflt _ _ => simp [tkCs, stmtsEnd]

def ClEnd (rest : List Tok) : Prop := eatId b!"case" rest = none ∧ eatId b!"default" rest = none

mutual
  /-- the rest may be anything — but no `else` if the statement ends in an `if` without `else` (`closed s = false`) -/
  theorem stmt_rt : ∀ (s : PS), WfS s → ∀ (n : Nat), (tkS s).length < n → ∀ (rest : List Tok),
      (closed s = false → NoElse rest) → stmtN n (tkS s ++ rest) = some (s, rest)
    | _, _, 0, hn, _, _ => by omega
    | .expr e, w, n + 1, hn, rest, _ => by
      simp only [WfS] at w
      obtain ⟨h1, hk, _⟩ := expr_dispatch e w.1 w.2 ([.p b!";"] ++ rest)
      unfold stmtN
      simp only [tkS, List.append_assoc] at h1 hk ⊢
      rw [h1, hk b!"var" (by decide), hk b!"if" (by decide), hk b!"for" (by decide), hk b!"switch" (by decide),
        hk b!"return" (by decide), hk b!"break" (by decide), hk b!"debugger" (by decide)]
      simp only [List.cons_append, List.nil_append]
      rw [exprP_rt e w.1 _ (after_of_none rfl _ _)]
      simp
    | .var ds, w, n + 1, hn, rest, _ => by
      simp only [WfS] at w
      have := decls_rt ds w.1 w.2 (.p b!";" :: rest) rfl (after_of_none rfl _ _)
      unfold stmtN
      simp only [tkS, List.cons_append, List.append_assoc, List.nil_append, eat_id, eatId_self, this, eat_self]
    | .ifS c t, w, n + 1, hn, rest, hr => by
      simp only [WfS] at w
      simp only [tkS, List.length_cons, List.length_append] at hn
      have ne : NoElse rest := hr rfl
      have it := stmt_rt t w.2 n (by omega) rest (fun _ => ne)
      unfold stmtN
      simp only [tkS, List.cons_append, List.append_assoc, eat_id, eatId_cons, eat_self, show ¬ (b!"if" : Bytes) = b!"var" by decide, if_false, if_true]
      rw [exprP_rt c w.1 _ (after_of_none rfl _ _)]
      simp only [eat_self, it]
      unfold NoElse at ne
      simp [ne]
    | .ifElse c t e, w, n + 1, hn, rest, hr => by
      simp only [WfS] at w
      simp only [tkS, List.length_cons, List.length_append] at hn
      have it := stmt_rt t w.2.1 n (by omega) (.id b!"else" :: (tkS e ++ rest)) (fun h => by rw [w.2.2.1] at h; cases h)
      have ie := stmt_rt e w.2.2.2 n (by omega) rest (fun h => hr (by simpa [closed] using h))
      unfold stmtN
      simp only [tkS, List.cons_append, List.append_assoc, eat_id, eatId_cons, eat_self, show ¬ (b!"if" : Bytes) = b!"var" by decide, if_false, if_true]
      rw [exprP_rt c w.1 _ (after_of_none rfl _ _)]
      simp only [eat_self, it, eatId_self, ie]
    | .block ss, w, n + 1, hn, rest, _ => by
      simp only [WfS] at w
      simp only [tkS, List.length_cons, List.length_append, List.length_nil] at hn
      have := stmts_rt ss w n (by omega) (.p b!"}" :: rest) rfl
      unfold stmtN
      simp only [tkS, List.cons_append, List.append_assoc, List.nil_append, eat_self, this]
    | .forVar ds test upd body, w, n + 1, hn, rest, hr => by
      simp only [WfS] at w
      simp only [tkS, List.length_cons, List.length_append] at hn
      have hd := decls_rt ds w.1 w.2.1 (.p b!";" :: (tk test ++ .p b!";" :: (tkExprs upd ++ .p b!")" :: (tkS body ++ rest))))
        rfl (after_of_none rfl _ _)
      have hu := exprs_rt upd w.2.2.2.1 w.2.2.2.2.1 (.p b!")" :: (tkS body ++ rest)) rfl (after_of_none rfl _ _)
      have ib := stmt_rt body w.2.2.2.2.2 n (by omega) rest (fun h => hr (by simpa [closed] using h))
      unfold stmtN
      simp only [tkS, List.cons_append, List.append_assoc, eat_id, eatId_cons, eat_self, show ¬ (b!"for" : Bytes) = b!"var" by decide, show ¬ (b!"for" : Bytes) = b!"if" by decide, if_false, if_true,
        hd, eat_self]
      rw [exprP_rt test w.2.2.1 _ (after_of_none rfl _ _)]
      simp only [eat_self, hu, ib]
    | .switchS e cs, w, n + 1, hn, rest, _ => by
      simp only [WfS] at w
      simp only [tkS, List.length_cons, List.length_append, List.length_nil] at hn
      have ic := clauses_rt cs w.2 n (by have := tk_pos e; omega) (.p b!"}" :: rest) rfl ⟨rfl, rfl⟩
      unfold stmtN
      simp only [tkS, List.cons_append, List.append_assoc, List.nil_append, eat_id, eatId_cons, eat_self, show ¬ (b!"switch" : Bytes) = b!"var" by decide, show ¬ (b!"switch" : Bytes) = b!"if" by decide,
        show ¬ (b!"switch" : Bytes) = b!"for" by decide, if_false, if_true]
      rw [exprP_rt e w.1 _ (after_of_none rfl _ _)]
      simp only [eat_self, ic]
    | .ret e, w, n + 1, hn, rest, _ => by
      simp only [WfS] at w
      unfold stmtN
      simp only [tkS, List.cons_append, List.append_assoc, List.nil_append, eat_id, eatId_cons, show ¬ (b!"return" : Bytes) = b!"var" by decide, show ¬ (b!"return" : Bytes) = b!"if" by decide,
        show ¬ (b!"return" : Bytes) = b!"for" by decide, show ¬ (b!"return" : Bytes) = b!"switch" by decide, if_false, if_true]
      rw [exprP_rt e w _ (after_of_none rfl _ _)]
      simp
    | .brk, _, n + 1, hn, rest, _ => by
      unfold stmtN
      simp [tkS, eatId_cons]
    | .dbg, _, n + 1, hn, rest, _ => by
      unfold stmtN
      simp [tkS, eatId_cons]
  theorem stmts_rt : ∀ (ss : PStmts), WfSs ss → ∀ (n : Nat), (tkSs ss).length + 1 < n → ∀ (rest : List Tok),
      stmtsEnd rest = true → stmtsN n (tkSs ss ++ rest) = some (ss, rest)
    | _, _, 0, hn, _, _ => by omega
    | .nil, _, n + 1, hn, rest, hr => by simp [stmtsN, tkSs, hr]
    | .cons s r, w, n + 1, hn, rest, hr => by
      simp only [WfSs] at w
      simp only [tkSs, List.length_append] at hn
      have hp := tkS_pos s
      have hne : NoElse (tkSs r ++ rest) := by
        cases r with
        | nil => simpa [tkSs] using stmtsEnd_noElse hr
        | cons s' r' =>
          simp only [WfSs] at w
          simp only [tkSs, List.append_assoc]
          exact (stmt_start s' w.2.1 _).2
      have is := stmt_rt s w.1 n (by omega) (tkSs r ++ rest) (fun _ => hne)
      have ir := stmts_rt r w.2 n (by omega) rest hr
      unfold stmtsN
      simp only [tkSs, List.append_assoc, (stmt_start s w.1 _).1, Bool.false_eq_true, if_false, is, ir]
  theorem clauses_rt : ∀ (cs : PClauses), WfCs cs → ∀ (n : Nat), (tkCs cs).length + 1 < n → ∀ (rest : List Tok),
      stmtsEnd rest = true → ClEnd rest → clausesN n (tkCs cs ++ rest) = some (cs, rest)
    | _, _, 0, hn, _, _, _ => by omega
    | .nil, _, n + 1, hn, rest, _, hc => by simp [clausesN, tkCs, hc.1, hc.2]
    | .case e body r, w, n + 1, hn, rest, hr, hc => by
      simp only [WfCs] at w
      simp only [tkCs, List.length_cons, List.length_append] at hn
      have hp := tk_pos e
      have ib := stmts_rt body w.2.1 n (by omega) (tkCs r ++ rest) (clauses_end r hr)
      have ir := clauses_rt r w.2.2 n (by omega) rest hr hc
      unfold clausesN
      simp only [tkCs, List.cons_append, List.append_assoc, eatId_self]
      rw [exprP_rt e w.1 _ (after_of_none rfl _ _)]
      simp only [eat_self, ib, ir]
    | .dflt body r, w, n + 1, hn, rest, hr, hc => by
      simp only [WfCs] at w
      simp only [tkCs, List.length_cons, List.length_append] at hn
      have ib := stmts_rt body w.1 n (by omega) (tkCs r ++ rest) (clauses_end r hr)
      have ir := clauses_rt r w.2 n (by omega) rest hr hc
      unfold clausesN
      simp only [tkCs, List.cons_append, List.append_assoc, eatId_cons, eat_self, show ¬ (b!"default" : Bytes) = b!"case" by decide, if_false, if_true, ib, ir]
end

theorem parseStmts_tk (ss : PStmts) (w : WfSs ss) : parseStmts (tkSs ss) = some ss := by
  have := stmts_rt ss w ((tkSs ss).length + 2) (by omega) [] rfl
  simp only [List.append_nil] at this
  simp [parseStmts, this]

theorem jsParseStmts_of_lex {bs : Bytes} {ss : PStmts} (hl : jsLex bs = some (tkSs ss)) (w : WfSs ss) :
    jsParseStmts bs = readSs ss := by
  simp only [jsParseStmts, hl, parseStmts_tk ss w]

def tkParamsTail : List Bytes → List Tok
  | [] => [.p b!")"]
  | x :: r => .p b!"," :: .id x :: tkParamsTail r

def tkParams : List Bytes → List Tok
  | [] => [.p b!")"]
  | x :: r => .id x :: tkParamsTail r

def tkTop : PTop → List Tok
  | .func name ps body =>
    tk name ++ (.p b!"=" :: .id b!"function" :: .p b!"(" :: (tkParams ps ++ .p b!"{" :: (tkSs body ++ [.p b!"}", .p b!";"])))
  | .stmt s => tkS s

def tkTops : List PTop → List Tok
  | [] => []
  | x :: r => tkTop x ++ tkTops r

/-- a dotted name -/
def isQ : PE → Bool
  | .ident g => !isReserved g
  | .member x _ => isQ x
  | _ => false

/-- a top-level statement begins with a keyword: `topN` does not need it, but then `qnameP` fails on the first token and
    the fall-back to the statement is immediate (`topN_rt`) -/
def WfTop : PTop → Prop
  | .func name ps body => isQ name = true ∧ (∀ x ∈ ps, isReserved x = false) ∧ WfSs body
  | .stmt s => WfS s ∧ ∃ kw r, tkS s = .id kw :: r ∧ isReserved kw = true

theorem qname_loop : ∀ (x : PE), isQ x = true → ∀ (rest : List Tok), qnameP (tk x ++ rest) = some (qnameTail x rest)
  | .ident g, h, rest => by
    simp only [isQ, Bool.not_eq_true'] at h
    simp [tk, qnameP, h]
  | .member x k, h, rest => by
    simp only [isQ] at h
    have := qname_loop x h (.p b!"." :: .id k :: rest)
    simp only [tk, List.append_assoc, List.cons_append, List.nil_append]
    rw [this]
    conv => lhs; unfold qnameTail
    simp
  | .null, h, _ | .bool _, h, _ | .num _, h, _ | .str _, h, _ | .obj _, h, _ | .paren _, h, _ | .index _ _, h, _ | .call _ _, h, _
  | .postInc _, h, _ | .unary _ _, h, _ | .bin _ _ _, h, _ | .cond _ _ _, h, _ | .assign _ _ _, h, _ => by simp [isQ] at h

theorem qnameP_rt (x : PE) (h : isQ x = true) (rest : List Tok) :
    qnameP (tk x ++ .p b!"=" :: rest) = some (x, .p b!"=" :: rest) := by
  rw [qname_loop x h]
  cases rest with
  | nil => simp [qnameTail]
  | cons t r =>
    cases t <;> simp [qnameTail]

theorem paramsTail_rt : ∀ (ps : List Bytes) (rest : List Tok), (∀ x ∈ ps, isReserved x = false) →
    paramsTail (tkParamsTail ps ++ rest) = some (ps, rest)
  | [], rest, _ => by
    simp only [tkParamsTail, List.cons_append, List.nil_append]
    unfold paramsTail
    simp
  | x :: r, rest, h => by
    have ih := paramsTail_rt r rest (fun y hy => h y (List.mem_cons_of_mem _ hy))
    simp only [tkParamsTail, List.cons_append]
    unfold paramsTail
    simp [h x (List.mem_cons_self ..), ih]

theorem paramsP_rt (ps : List Bytes) (rest : List Tok) (h : ∀ x ∈ ps, isReserved x = false) :
    paramsP (tkParams ps ++ rest) = some (ps, rest) := by
  cases ps with
  | nil => simp [tkParams, paramsP]
  | cons x r =>
    simp [tkParams, paramsP, h x (List.mem_cons_self ..), paramsTail_rt r rest (fun y hy => h y (List.mem_cons_of_mem _ hy))]

theorem topN_rt (x : PTop) (w : WfTop x) (n : Nat) (hn : (tkTop x).length + 1 < n) (rest : List Tok) (hne : NoElse rest) :
    topN n (tkTop x ++ rest) = some (x, rest) := by
  cases x with
  | func name ps body =>
    simp only [WfTop] at w
    simp only [tkTop, List.length_append, List.length_cons] at hn
    have hb := stmts_rt body w.2.2 n (by simp at hn; omega) (.p b!"}" :: .p b!";" :: rest) rfl
    unfold topN
    simp only [tkTop, List.append_assoc, List.cons_append, List.nil_append]
    rw [qnameP_rt name w.1]
    simp only [funcRest, eat_self, eatId_self, paramsP_rt ps _ w.2.1, hb]
  | stmt s =>
    simp only [WfTop] at w
    obtain ⟨ws, kw, r, hk, hr⟩ := w
    have := stmt_rt s ws n (by simp only [tkTop] at hn; omega) rest (fun _ => hne)
    unfold topN
    simp only [tkTop]
    rw [this]
    simp [hk, qnameP, hr]

theorem tkTop_pos (x : PTop) : 0 < (tkTop x).length := by
  cases x with
  | func name ps body => simp [tkTop]; omega
  | stmt s => exact tkS_pos s

theorem isQ_head : ∀ (x : PE), isQ x = true → ∃ g, headTok x = .id g ∧ isReserved g = false
  | .ident g, h => ⟨g, rfl, by simpa [isQ] using h⟩
  | .member x _, h => isQ_head x (by simpa [isQ] using h)
  | .null, h | .bool _, h | .num _, h | .str _, h | .obj _, h | .paren _, h | .index _ _, h | .call _ _, h | .postInc _, h
  | .unary _ _, h | .bin _ _ _, h | .cond _ _ _, h | .assign _ _ _, h => by simp [isQ] at h

/-- a dotted name is a well-levelled reference -/
theorem isQ_wf : ∀ (x : PE), isQ x = true → Wf x ∧ PE.lvl x = 0 ∧ isRef x = true
  | .ident g, h => ⟨by simpa [isQ, Wf] using h, rfl, rfl⟩
  | .member x _, h => by
    have := isQ_wf x (by simpa [isQ] using h)
    exact ⟨by simp only [Wf]; exact ⟨this.1, this.2.1⟩, rfl, rfl⟩
  | .null, h | .bool _, h | .num _, h | .str _, h | .obj _, h | .paren _, h | .index _ _, h | .call _ _, h | .postInc _, h
  | .unary _ _, h | .bin _ _ _, h | .cond _ _ _, h | .assign _ _ _, h => by simp [isQ] at h

theorem tops_noElse : ∀ (xs : List PTop), (∀ x ∈ xs, WfTop x) → NoElse (tkTops xs)
  | [], _ => rfl
  | x :: r, h => by
    have w := h x (List.mem_cons_self ..)
    cases x with
    | func name ps body =>
      simp only [WfTop] at w
      obtain ⟨t, ht⟩ := tk_head name
      obtain ⟨g, hg, hr⟩ := isQ_head name w.1
      simp only [tkTops, tkTop, List.append_assoc, ht, hg, List.cons_append, NoElse, eatId_cons]
      have : g ≠ b!"else" := by intro e; subst e; revert hr; decide
      simp [this]
    | stmt s =>
      simp only [WfTop] at w
      simp only [tkTops, tkTop]
      exact (stmt_start s w.1 _).2

theorem progN_rt (n : Nat) : ∀ (xs : List PTop) (k : Nat), (∀ x ∈ xs, WfTop x ∧ (tkTop x).length + 1 < n) → xs.length ≤ k →
    progN n k (tkTops xs) = some xs
  | [], k, _, _ => by cases k <;> rfl
  | x :: r, k, h, hk => by
    cases k with
    | zero => simp at hk
    | succ k =>
      obtain ⟨w, hn⟩ := h x (List.mem_cons_self ..)
      have ih := progN_rt n r k (fun y hy => h y (List.mem_cons_of_mem _ hy)) (by simpa using hk)
      have ht := topN_rt x w n hn (tkTops r) (tops_noElse r (fun y hy => (h y (List.mem_cons_of_mem _ hy)).1))
      have hp := tkTop_pos x
      cases hx : tkTop x with
      | nil => rw [hx] at hp; simp at hp
      | cons t ts =>
        rw [hx] at ht
        simp only [List.cons_append] at ht
        simp only [tkTops, hx, List.cons_append, progN, ht, ih]

theorem tkTops_len_le : ∀ (xs : List PTop) (x : PTop), x ∈ xs → (tkTop x).length ≤ (tkTops xs).length
  | y :: r, x, h => by
    simp only [tkTops, List.length_append]
    rcases List.mem_cons.mp h with rfl | h
    · omega
    · have := tkTops_len_le r x h; omega

theorem tkTops_count : ∀ (xs : List PTop), xs.length ≤ (tkTops xs).length
  | [] => by simp [tkTops]
  | x :: r => by
    have := tkTops_count r
    have := tkTop_pos x
    simp only [tkTops, List.length_append, List.length_cons]
    omega

theorem parseProgram_tk (xs : List PTop) (w : ∀ x ∈ xs, WfTop x) : parseProgram (tkTops xs) = some xs := by
  unfold parseProgram
  exact progN_rt _ xs _ (fun x hx => ⟨w x hx, by have := tkTops_len_le xs x hx; omega⟩) (tkTops_count xs)

theorem jsParseFile_of_lex {bs : Bytes} {xs : List PTop} (hl : jsLex bs = some (tkTops xs)) (w : ∀ x ∈ xs, WfTop x) :
    jsParseFile bs = readProgram xs := by
  simp only [jsParseFile, hl, parseProgram_tk xs w]

end SoyVerif.Lemmas.JsParseStmt
