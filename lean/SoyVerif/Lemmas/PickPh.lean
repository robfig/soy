/-
  The placeholder search `pickPh` (Model/Eval) is the specification's `pickPhS` on runs, and two placeholder
  lists that agree in depths and names and are related item by item are searched alike: the items found are
  related.
-/
import SoyVerif.Model.Eval
import SoyVerif.Spec.Eval

namespace SoyVerif.Model.Eval
open SoyVerif SoyVerif.Model

theorem pickPh_eq_pickPhS (name : Bytes) : ∀ (l : List (Nat × Bytes × Run)) (best : Option (Nat × Run)),
    pickPh name l best = Spec.Eval.pickPhS name l best
  | [], _ => rfl
  | (d, n, run) :: r, best => by
    rw [pickPh.eq_def, Spec.Eval.pickPhS.eq_def]
    simp only [pickPh_eq_pickPhS name r]
    cases best <;> rfl

/-- what holds of every item of the list and of the best so far holds of the placeholder found -/
theorem pickPhS_all {α : Type} (P : α → Prop) (name : Bytes) : ∀ (l : List (Nat × Bytes × α)) (best : Option (Nat × α)),
    (∀ e ∈ l, P e.2.2) → (∀ b, best = some b → P b.2) → ∀ a, Spec.Eval.pickPhS name l best = some a → P a
  | [], best, _, hb, a, h => by
    simp only [Spec.Eval.pickPhS, Option.map_eq_some_iff] at h
    obtain ⟨b, hb', rfl⟩ := h
    exact hb b hb'
  | (d, n, f) :: r, best, hl, hb, a, h => by
    have hr : ∀ e ∈ r, P e.2.2 := fun e he => hl e (List.mem_cons_of_mem _ he)
    have hf : P f := hl (d, n, f) List.mem_cons_self
    have hnew : ∀ b, some (d, f) = some b → P b.2 := by intro b hb'; cases hb'; exact hf
    unfold Spec.Eval.pickPhS at h
    split at h
    · split at h
      · split at h
        · exact pickPhS_all P name r _ hr hnew a h
        · exact pickPhS_all P name r _ hr hb a h
      · exact pickPhS_all P name r _ hr hnew a h
    · exact pickPhS_all P name r _ hr hb a h

theorem pickPhS_mem {α : Type} (name : Bytes) (l : List (Nat × Bytes × α)) (best : Option (Nat × α)) (a : α)
    (h : Spec.Eval.pickPhS name l best = some a) : (∃ e ∈ l, e.2.2 = a) ∨ ∃ d, best = some (d, a) :=
  pickPhS_all (fun a => (∃ e ∈ l, e.2.2 = a) ∨ ∃ d, best = some (d, a)) name l best
    (fun e he => Or.inl ⟨e, he, rfl⟩) (fun b hb => Or.inr ⟨b.1, hb⟩) a h

theorem pickPh_mem (name : Bytes) (phs : List (Nat × Bytes × Run)) (best : Option (Nat × Run)) (run : Run)
    (h : pickPh name phs best = some run) : (∃ e ∈ phs, e.2.2 = run) ∨ (∃ d, best = some (d, run)) :=
  pickPhS_mem name phs best run (pickPh_eq_pickPhS name phs best ▸ h)

theorem _root_.Option.Rel.of_some_left {α β : Type} {r : α → β → Prop} {a : α} {o : Option β}
    (h : Option.Rel r (some a) o) : ∃ b, o = some b ∧ r a b := by
  cases h with
  | some hr => exact ⟨_, rfl, hr⟩

/-- two placeholder lists with the same depths and names whose items are related one by one -/
inductive PhZip {α β : Type} (Rel : α → β → Prop) : List (Nat × Bytes × α) → List (Nat × Bytes × β) → Prop where
  | nil : PhZip Rel [] []
  | cons {d : Nat} {n : Bytes} {a : α} {b : β} {l m} : Rel a b → PhZip Rel l m → PhZip Rel ((d, n, a) :: l) ((d, n, b) :: m)

theorem PhZip.pick {α β : Type} {Rel : α → β → Prop} (name : Bytes) {l m} (h : PhZip Rel l m) :
    ∀ {best sbest}, Option.Rel (fun x y => x.1 = y.1 ∧ Rel x.2 y.2) best sbest →
      Option.Rel Rel (Spec.Eval.pickPhS name l best) (Spec.Eval.pickPhS name m sbest) := by
  induction h with
  | nil =>
    intro best sbest hb
    cases hb with
    | none => exact .none
    | some hr => exact .some hr.2
  | @cons d n a b l m ha _ ih =>
    intro best sbest hb
    rw [Spec.Eval.pickPhS.eq_def name (_ :: l), Spec.Eval.pickPhS.eq_def name (_ :: m)]
    simp only
    split
    · cases hb with
      | none => exact ih (.some ⟨rfl, ha⟩)
      | @some x y hr =>
        obtain ⟨bd, a'⟩ := x
        obtain ⟨bd', b'⟩ := y
        obtain ⟨rfl, hr'⟩ := hr
        simp only
        split
        · exact ih (.some ⟨rfl, ha⟩)
        · exact ih (.some ⟨rfl, hr'⟩)
    · exact ih hb

end SoyVerif.Model.Eval
