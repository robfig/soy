/-
  Positions of the nodes of a parsed expression: `EP S e` says that every node of `e` (access
  nodes of data references included) is positioned at an `S`-token, i.e. carries the position
  of a token the parser was given.  The specifications of Lemmas/ParserExprSafe.lean carry it
  as a post-condition on the tree each function returns.

  The same for what the file parser builds: `NP` / `NPL` (node, node list), `EPo`, `EPl`, `DirsP` (optional
  expression, expression list, directives of a print tag); the tactic `np` closes such goals from the context.

  Two kinds of position: `PosOK S p` — `p` IS the position of an `S`-token (what nodes carry, and what `errorf` takes:
  `errPos_ok`); `VPos` = `ErrOK` of Lemmas/ParserSafe.lean — `p` is where an error about an `S`-token is reported
  (`vpos_of`; `casesV`: the case nodes of a switch, at whose positions the parser reports errors).
-/
import SoyVerif.Lemmas.ParserSafe
import SoyVerif.Model.FileParser

namespace SoyVerif.Lemmas.ParserSafe
open SoyVerif SoyVerif.Model SoyVerif.Model.Parser

mutual
  def EP (S : Item → Prop) : Expr → Prop
    | .null p | .bool p _ | .int p _ | .float p _ | .str p _ _ | .global p _ => PosOK S p
    | .func p _ args => PosOK S p ∧ EPs S args
    | .list p items => PosOK S p ∧ EPs S items
    | .map p items => PosOK S p ∧ EPm S items
    | .dataRef p _ acc => PosOK S p ∧ EPa S acc
    | .not p a => PosOK S p ∧ EP S a
    | .neg p a => PosOK S p ∧ EP S a
    | .bin _ p a b => PosOK S p ∧ EP S a ∧ EP S b
    | .tern p c a b => PosOK S p ∧ EP S c ∧ EP S a ∧ EP S b
  def EPs (S : Item → Prop) : ExprList → Prop
    | .nil => True
    | .cons e r => EP S e ∧ EPs S r
  def EPm (S : Item → Prop) : MapItems → Prop
    | .nil => True
    | .cons _ e r => EP S e ∧ EPm S r
  def EPa (S : Item → Prop) : AccessList → Prop
    | .nil => True
    | .cons (.key p _ _) r => PosOK S p ∧ EPa S r
    | .cons (.index p _ _) r => PosOK S p ∧ EPa S r
    | .cons (.expr p _ e) r => PosOK S p ∧ EP S e ∧ EPa S r
end

theorem EP.pos {S : Item → Prop} {e : Expr} (h : EP S e) : PosOK S e.pos := by
  cases e <;> simp only [EP] at h <;> first | exact h | exact h.1

theorem EPm.set {S : Item → Prop} : ∀ (m : MapItems) (k : Bytes) (e : Expr), EPm S m → EP S e → EPm S (m.set k e)
  | .nil, k, e, _, he => by simp only [MapItems.set, EPm]; exact ⟨he, trivial⟩
  | .cons k' e' r, k, e, hm, he => by
    simp only [EPm] at hm
    unfold MapItems.set
    split
    · simp only [EPm]; exact ⟨he, hm.2⟩
    · split
      · simp only [EPm]; exact ⟨he, hm.1, hm.2⟩
      · simp only [EPm]; exact ⟨hm.1, EPm.set r k e hm.2 he⟩

theorem posOK_of {S : Item → Prop} {it : Item} (h : S it) : PosOK S it.pos := ⟨it, h, rfl⟩

theorem PosOK.mono {S T : Item → Prop} (h : ∀ it, S it → T it) {p : Nat} (hp : PosOK S p) : PosOK T p := by
  obtain ⟨it, hs, he⟩ := hp
  exact ⟨it, h it hs, he⟩

open SoyVerif.Model.FileParser in
mutual
  /-- `setPos(node, p)`: every node of the moved tree is positioned at `p` -/
  theorem EP_reposition {S : Item → Prop} {p : Nat} (hp : PosOK S p) : ∀ e : Expr, EP S (reposition p e)
    | .null _ | .bool _ _ | .int _ _ | .float _ _ | .str _ _ _ | .global _ _ => by simp only [reposition, EP]; exact hp
    | .func _ _ args => by simp only [reposition, EP]; exact ⟨hp, EPs_reposition hp args⟩
    | .list _ items => by simp only [reposition, EP]; exact ⟨hp, EPs_reposition hp items⟩
    | .map _ items => by simp only [reposition, EP]; exact ⟨hp, EPm_reposition hp items⟩
    | .dataRef _ _ acc => by simp only [reposition, EP]; exact ⟨hp, EPa_reposition hp acc⟩
    | .not _ a => by simp only [reposition, EP]; exact ⟨hp, EP_reposition hp a⟩
    | .neg _ a => by simp only [reposition, EP]; exact ⟨hp, EP_reposition hp a⟩
    | .bin _ _ a b => by simp only [reposition, EP]; exact ⟨hp, EP_reposition hp a, EP_reposition hp b⟩
    | .tern _ c a b => by
      simp only [reposition, EP]; exact ⟨hp, EP_reposition hp c, EP_reposition hp a, EP_reposition hp b⟩
  theorem EPs_reposition {S : Item → Prop} {p : Nat} (hp : PosOK S p) : ∀ l : ExprList, EPs S (repositionList p l)
    | .nil => by simp only [repositionList, EPs]
    | .cons e r => by simp only [repositionList, EPs]; exact ⟨EP_reposition hp e, EPs_reposition hp r⟩
  theorem EPm_reposition {S : Item → Prop} {p : Nat} (hp : PosOK S p) : ∀ m : MapItems, EPm S (repositionMap p m)
    | .nil => by simp only [repositionMap, EPm]
    | .cons _ e r => by simp only [repositionMap, EPm]; exact ⟨EP_reposition hp e, EPm_reposition hp r⟩
  theorem EPa_reposition {S : Item → Prop} {p : Nat} (hp : PosOK S p) : ∀ a : AccessList, EPa S (repositionAcc p a)
    | .nil => by simp only [repositionAcc, EPa]
    | .cons (.key _ _ _) r => by simp only [repositionAcc, EPa]; exact ⟨hp, EPa_reposition hp r⟩
    | .cons (.index _ _ _) r => by simp only [repositionAcc, EPa]; exact ⟨hp, EPa_reposition hp r⟩
    | .cons (.expr _ _ e) r => by
      simp only [repositionAcc, EPa]; exact ⟨hp, EP_reposition hp e, EPa_reposition hp r⟩
end

def EPo (S : Item → Prop) : Option Expr → Prop
  | none => True
  | some e => EP S e

def EPl (S : Item → Prop) (l : List Expr) : Prop := ∀ e ∈ l, EP S e

def DirsP (S : Item → Prop) (ds : List Directive) : Prop := ∀ d ∈ ds, PosOK S d.pos ∧ EPl S d.args

open SoyVerif.Model.FileParser in
mutual
  /-- every node of the tree — command nodes, list nodes, the expressions below them — is
      positioned at an `S`-token -/
  def NP (S : Item → Prop) : Node → Prop
    | .rawText p _ => PosOK S p
    | .print p a ds => PosOK S p ∧ EP S a ∧ DirsP S ds
    | .msg p _ _ body => PosOK S p ∧ NP S body
    | .css p e _ => PosOK S p ∧ EPo S e
    | .debugger p => PosOK S p
    | .log p b => PosOK S p ∧ NP S b
    | .ifc p conds => PosOK S p ∧ NPL S conds
    | .ifCond p c b => PosOK S p ∧ EPo S c ∧ NP S b
    | .forc p _ l b ie => PosOK S p ∧ EP S l ∧ NP S b ∧ NPL S ie
    | .switch p v cs => PosOK S p ∧ EP S v ∧ NPL S cs
    | .switchCase p vs b => PosOK S p ∧ EPl S vs ∧ NP S b
    | .call p _ _ d ps => PosOK S p ∧ EPo S d ∧ NPL S ps
    | .paramValue p _ e => PosOK S p ∧ EP S e
    | .paramContent p _ b => PosOK S p ∧ NP S b
    | .letValue p _ e => PosOK S p ∧ EP S e
    | .letContent p _ b => PosOK S p ∧ NP S b
    | .headerParam p _ _ _ _ d => PosOK S p ∧ EPo S d
    | .nspace p _ _ => PosOK S p
    | .template p _ b _ _ => PosOK S p ∧ NP S b
    | .soyDoc p _ => PosOK S p
    | .list p ns => PosOK S p ∧ NPL S ns
    | .plural p v cs d => PosOK S p ∧ EP S v ∧ NPL S cs ∧ NP S d
    | .pluralCase p _ b => PosOK S p ∧ NP S b
    | .placeholder p b => PosOK S p ∧ NP S b
    | .htmlTag p _ => PosOK S p
  def NPL (S : Item → Prop) : NodeList → Prop
    | .nil => True
    | .cons n r => NP S n ∧ NPL S r
end

open SoyVerif.Model.FileParser in
theorem NP.pos {S : Item → Prop} {n : Node} (h : NP S n) : PosOK S n.pos := by
  cases n <;> simp only [NP] at h <;> first | exact h | exact h.1

open SoyVerif.Model.FileParser in
theorem NPL_append {S : Item → Prop} : ∀ (a b : NodeList), NPL S a → NPL S b → NPL S (a.append b)
  | .nil, b, _, hb => by simpa [NodeList.append] using hb
  | .cons n r, b, ha, hb => by
    simp only [NPL] at ha
    simp only [NodeList.append, NPL]
    exact ⟨ha.1, NPL_append r b ha.2 hb⟩

open SoyVerif.Model.FileParser in
theorem NPL_nil {S : Item → Prop} : NPL S .nil := by simp only [NPL]

theorem EPl_nil {S : Item → Prop} : EPl S [] := fun _ h => absurd h (by simp)
theorem EPl_append {S : Item → Prop} {a b : List Expr} (ha : EPl S a) (hb : EPl S b) : EPl S (a ++ b) := by
  intro e he
  rcases List.mem_append.mp he with h | h
  · exact ha e h
  · exact hb e h
theorem EPl_single {S : Item → Prop} {e : Expr} (h : EP S e) : EPl S [e] := by
  intro x hx; simp only [List.mem_singleton] at hx; rw [hx]; exact h
theorem DirsP_nil {S : Item → Prop} : DirsP S [] := fun _ h => absurd h (by simp)
theorem DirsP_append {S : Item → Prop} {a b : List Directive} (ha : DirsP S a) (hb : DirsP S b) : DirsP S (a ++ b) := by
  intro e he
  rcases List.mem_append.mp he with h | h
  · exact ha e h
  · exact hb e h

open SoyVerif.Model.FileParser in
theorem NPL_ite {S : Item → Prop} {c : Prop} [Decidable c] {a b : NodeList} (ha : NPL S a) (hb : NPL S b) :
    NPL S (if c then a else b) := by
  split
  · exact ha
  · exact hb

open SoyVerif.Model.FileParser in
theorem NPL_parseMsgRawText {S : Item → Prop} {pos : Nat} (hp : PosOK S pos) :
    ∀ (fuel : Nat) (txt : Bytes), NPL S (parseMsgRawText fuel pos txt)
  | 0, _ => by simp only [parseMsgRawText, NPL]
  | fuel + 1, txt => by
    have hpiece : ∀ start stop : Nat, NPL S
        (((if start > 0 then NodeList.cons (.rawText pos (txt.take start)) .nil else .nil).append
          (if stop > start then NodeList.cons (.placeholder pos (.htmlTag pos ((txt.drop start).take (stop - start)))) .nil
           else .nil)).append (parseMsgRawText fuel pos (txt.drop stop))) := by
      intro start stop
      apply NPL_append
      · apply NPL_append
        · exact NPL_ite (by simp only [NPL, NP]; exact ⟨hp, trivial⟩) (by simp only [NPL])
        · exact NPL_ite (by simp only [NPL, NP]; exact ⟨⟨hp, hp⟩, trivial⟩) (by simp only [NPL])
      · exact NPL_parseMsgRawText hp fuel _
    unfold parseMsgRawText
    split
    · simp only [NPL]
    · cases findHtmlTag txt 0 with
      | none => exact hpiece _ _
      | some p => exact hpiece p.1 p.2

open SoyVerif.Model.FileParser in
mutual
  /-- `placeholderize` keeps every node at a token: placeholders take the position of the node
      they wrap.  (The recursion is on the size of the tree, stated outright: the children come out of
      `split`, where structural recursion does not see them.) -/
  theorem NP_placeholderize {S : Item → Prop} : ∀ (n n' : Node), placeholderize n = some n' → NP S n → NP S n'
    | .list pos nodes, n', h, hn => by
      simp only [placeholderize, Option.map_eq_some_iff] at h
      obtain ⟨r, hr, rfl⟩ := h
      simp only [NP] at hn ⊢
      exact ⟨hn.1, NPL_phChildren nodes r hr hn.2⟩
    | .rawText .., _, h, _ | .print .., _, h, _ | .msg .., _, h, _ | .css .., _, h, _ | .debugger .., _, h, _
    | .log .., _, h, _ | .ifc .., _, h, _ | .ifCond .., _, h, _ | .forc .., _, h, _ | .switch .., _, h, _
    | .switchCase .., _, h, _ | .call .., _, h, _ | .paramValue .., _, h, _ | .paramContent .., _, h, _
    | .letValue .., _, h, _ | .letContent .., _, h, _ | .headerParam .., _, h, _ | .nspace .., _, h, _
    | .template .., _, h, _ | .soyDoc .., _, h, _ | .plural .., _, h, _ | .pluralCase .., _, h, _
    | .placeholder .., _, h, _ | .htmlTag .., _, h, _ => by simp [placeholderize] at h
  termination_by n => sizeOf n
  decreasing_by
    all_goals subst_vars
    all_goals simp only [Node.list.sizeOf_spec]
    all_goals omega
  theorem NPL_phChildren {S : Item → Prop} : ∀ (ns r : NodeList), phChildren ns = some r → NPL S ns → NPL S r
    | .nil, r, h, _ => by simp only [phChildren, Option.some.injEq] at h; subst h; simp only [NPL]
    | .cons c rest, r, h, hn => by
      simp only [NPL] at hn
      unfold phChildren at h
      split at h
      · rename_i pos text
        simp only [Option.map_eq_some_iff] at h
        obtain ⟨r', hr', rfl⟩ := h
        have hc := hn.1
        simp only [NP] at hc
        exact NPL_append _ _ (NPL_parseMsgRawText hc _ _) (NPL_phChildren rest r' hr' hn.2)
      · rename_i pos value cases dflt
        split at h
        · rename_i cs d r' hcs hd hr'
          simp only [Option.some.injEq] at h
          subst h
          have hc := hn.1
          simp only [NP] at hc
          simp only [NPL, NP]
          exact ⟨⟨hc.1, hc.2.1, NPL_phCases cases cs hcs hc.2.2.1, NP_placeholderize dflt d hd hc.2.2.2⟩,
            NPL_phChildren rest r' hr' hn.2⟩
        · exact absurd h (by simp)
      · simp only [Option.map_eq_some_iff] at h
        obtain ⟨r', hr', rfl⟩ := h
        simp only [NPL, NP]
        exact ⟨⟨hn.1.pos, hn.1⟩, NPL_phChildren rest r' hr' hn.2⟩
  termination_by ns => sizeOf ns
  decreasing_by
    all_goals subst_vars
    all_goals simp only [NodeList.cons.sizeOf_spec, Node.plural.sizeOf_spec]
    all_goals omega
  theorem NPL_phCases {S : Item → Prop} : ∀ (cs r : NodeList), phCases cs = some r → NPL S cs → NPL S r
    | .nil, r, h, _ => by simp only [phCases, Option.some.injEq] at h; subst h; simp only [NPL]
    | .cons c rest, r, h, hn => by
      simp only [NPL] at hn
      unfold phCases at h
      split at h
      · rename_i pos v body
        split at h
        · rename_i b r' hb hr'
          simp only [Option.some.injEq] at h
          subst h
          have hc := hn.1
          simp only [NP] at hc
          simp only [NPL, NP]
          exact ⟨⟨hc.1, NP_placeholderize body b hb hc.2⟩, NPL_phCases rest r' hr' hn.2⟩
        · exact absurd h (by simp)
      · exact absurd h (by simp)
  termination_by cs => sizeOf cs
  decreasing_by
    all_goals subst_vars
    all_goals simp only [NodeList.cons.sizeOf_spec, Node.pluralCase.sizeOf_spec]
    all_goals omega
end

def VPos (EL : Lvl) (S : Item → Prop) (p : Nat) : Prop := ErrOK EL S p

theorem vpos_of {EL : Lvl} {S : Item → Prop} {it : Item} (hs : S it) (hv : EL.lex → valid it) : VPos EL S it.pos :=
  ⟨⟨it, hs, Or.inl rfl⟩, fun hl => ⟨it, hs, hv hl, Or.inl rfl⟩⟩

open SoyVerif.Model.FileParser in
/-- the case nodes of a switch stand at positions an error may be reported at -/
def casesV (EL : Lvl) (S : Item → Prop) : NodeList → Prop
  | .nil => True
  | .cons c r => VPos EL S c.pos ∧ casesV EL S r

open SoyVerif.Model.FileParser in
theorem casesV_append {EL : Lvl} {S : Item → Prop} : ∀ (a b : NodeList), casesV EL S a → casesV EL S b →
    casesV EL S (a.append b)
  | .nil, b, _, hb => by simpa [NodeList.append] using hb
  | .cons n r, b, ha, hb => by
    simp only [casesV] at ha
    simp only [NodeList.append, casesV]
    exact ⟨ha.1, casesV_append r b ha.2 hb⟩

/-- position goals: unfold the predicates and close the leaves from the context — a hypothesis, the position of a token,
    node or tree in it, or the second half of a conjunction (the posts of Lemmas/FileParserBlocks.lean end in `NP`) -/
macro "np" : tactic => `(tactic|
  (simp only [NP, NPL, EPo]
   repeat' (first
     | exact trivial
     | assumption
     | exact posOK_of (by assumption)
     | exact And.right (by assumption)
     | exact NP.pos (by assumption)
     | exact EP.pos (by assumption)
     | constructor)))

theorem errPos_ok {S : Item → Prop} {st : PState} (hpc : st.peekCount ≤ 2) (ht : TokS S st) :
    ∃ p, errPos st = .ok p ∧ PosOK S p := by
  obtain ⟨h0, h1, _⟩ := ht
  unfold errPos
  by_cases hp0 : st.peekCount = 0
  · simp [hp0]; exact ⟨_, h0, rfl⟩
  · by_cases hp1 : st.peekCount = 1
    · simp [hp1]; exact ⟨_, h0, rfl⟩
    · have hp2 : st.peekCount = 2 := by omega
      simp [hp2]; exact ⟨_, h1, rfl⟩

end SoyVerif.Lemmas.ParserSafe
