/-
  `range(n | a, b | a, b, s)` of the interpreter model against the specification's `rangeSpec`
  (`range_apply`, used by Lemmas/FuncRefine.lean): same elements, each inside int64 because
  it lies below the limit; wrong arity / non-integer arguments are errors on both sides; a non-positive
  step is an error of the model and left open by the specification.
-/
import SoyVerif.Lemmas.EvalRefine

namespace SoyVerif.Refine
open SoyVerif SoyVerif.Model SoyVerif.Model.Eval
open SoyVerif.Spec.Eval (Val Out)

theorem absL_map (f : Nat → Value) (l : List Nat) : absL (l.map f) = l.map (fun k => absV (f k)) := by
  induction l with
  | nil => rfl
  | cons x r ih => simp [absL, ih]

theorem range_elem_in (init limit step : Int) (hs : 0 < step) (k : Nat)
    (hk : k < (((limit - init) + step - 1) / step).toNat) : init + (k : Int) * step < limit := by
  have h1 : (k : Int) + 1 ≤ ((limit - init) + step - 1) / step := by omega
  have h2 := (Int.le_ediv_iff_mul_le hs).mp h1
  have : ((k : Int) + 1) * step = (k : Int) * step + step := by rw [Int.add_mul, Int.one_mul]
  omega

/-- for a positive step the model's elements are the specification's: they lie between `a` and `l`, so
    `Int64.ofInt` loses nothing -/
theorem rangeSpec_items (a l s : Int) (ha : -2 ^ 63 ≤ a) (hl : l < 2 ^ 63) (hs : 0 < s) :
    Spec.Eval.rangeSpec a l s = .val (.list (absL (rangeItems a l s))) := by
  have hs' : ¬ s ≤ 0 := by omega
  unfold rangeItems Spec.Eval.rangeSpec
  by_cases hle : l ≤ a
  · simp [hle, hs', absL]
  · simp only [hle, hs', or_self, if_false]
    rw [absL_map]
    congr 2
    apply List.map_congr_left
    intro k hk
    have hlt := range_elem_in a l s hs k (List.mem_range.mp hk)
    have : 0 ≤ (k : Int) * s := Int.mul_nonneg (Int.natCast_nonneg k) (by omega)
    rw [absV, Int64.toInt_ofInt_of_le (by omega) (by omega)]

theorem range_go (a l s : Int) (next : Nat) (ha : -2 ^ 63 ≤ a) (hl : l < 2 ^ 63) :
    (∀ v, Spec.Eval.rangeSpec a l s = .val v →
      ∃ id xs n', (if s ≤ 0 then ERes.err
        else if (rangeItems a l s).isEmpty then ERes.ok (.list 0 []) next
        else ERes.ok (.list next (rangeItems a l s)) (next + 1)) = .ok (.list id xs) n' ∧
        v = .list (absL xs)) ∧
    (Spec.Eval.rangeSpec a l s = .error →
      (if s ≤ 0 then ERes.err
        else if (rangeItems a l s).isEmpty then ERes.ok (.list 0 []) next
        else ERes.ok (.list next (rangeItems a l s)) (next + 1)) = .err) := by
  by_cases hs : s ≤ 0
  · simp [Spec.Eval.rangeSpec, hs]
  · rw [rangeSpec_items a l s ha hl (by omega), if_neg hs]
    refine ⟨fun v hv => ?_, fun h => by cases h⟩
    cases hv
    by_cases he : (rangeItems a l s).isEmpty = true
    · rw [if_pos he, List.isEmpty_iff.mp he]
      exact ⟨0, [], next, rfl, rfl⟩
    · rw [if_neg he]
      exact ⟨next, _, next + 1, rfl, rfl⟩

theorem applyFunc_range (args : List Value) (next : Nat) :
    applyFunc fRange args next =
      (let go (init limit step : Int) : ERes :=
        if step ≤ 0 then .err
        else
          let items := rangeItems init limit step
          if items.isEmpty then .ok (.list 0 []) next
          else .ok (.list next items) (next + 1)
      match args with
      | [.int l] => go 0 l.toInt 1
      | [.int a, .int l] => go a.toInt l.toInt 1
      | [.int a, .int l, .int s] => go a.toInt l.toInt s.toInt
      | _ => .err) := rfl

theorem applyFn_range (args : List Val) :
    Spec.Eval.applyFn Spec.Eval.nRange args =
      (match args with
      | [.int l] => Spec.Eval.rangeSpec 0 l 1
      | [.int a, .int l] => Spec.Eval.rangeSpec a l 1
      | [.int a, .int l, .int s] => Spec.Eval.rangeSpec a l s
      | _ => .error) := rfl

theorem rangeSpec_list {a l s : Int} {v : Val} (h : Spec.Eval.rangeSpec a l s = .val v) : ∃ xs, v = .list xs := by
  unfold Spec.Eval.rangeSpec at h
  split at h
  · cases h
  · split at h <;> exact ⟨_, (Out.val.inj h).symm⟩

theorem applyFn_range_list {vs : List Val} {v : Val} (h : Spec.Eval.applyFn Spec.Eval.nRange vs = .val v) :
    ∃ xs, v = .list xs := by
  rw [applyFn_range] at h
  split at h
  · exact rangeSpec_list h
  · exact rangeSpec_list h
  · exact rangeSpec_list h
  · cases h

theorem applyFn_range_arity (vs : List Val) (h : ¬ ([1, 2, 3].contains vs.length = true)) :
    Spec.Eval.applyFn Spec.Eval.nRange vs = .error := by
  rw [applyFn_range]
  split
  · exact absurd rfl h
  · exact absurd rfl h
  · exact absurd rfl h
  · rfl

abbrev RangeAgree (mvs : List Value) (next : Nat) : Prop :=
  (∀ v, Spec.Eval.applyFn Spec.Eval.nRange (absL mvs) = .val v →
      ∃ id xs n', applyFunc fRange mvs next = .ok (.list id xs) n' ∧ v = .list (absL xs)) ∧
  (Spec.Eval.applyFn Spec.Eval.nRange (absL mvs) = .error → applyFunc fRange mvs next = .err)

theorem range_apply (mvs : List Value) (next : Nat) : RangeAgree mvs next := by
  unfold RangeAgree
  rw [applyFn_range, applyFunc_range]
  split
  · rename_i l h
    simp only [absL_cons_iff, absV_int_iff, absL_nil_iff] at h
    obtain ⟨_, _, rfl, ⟨l, rfl, rfl⟩, rfl⟩ := h
    exact range_go 0 l.toInt 1 next (by decide) (Int64.toInt_lt l)
  · rename_i a l h
    simp only [absL_cons_iff, absV_int_iff, absL_nil_iff] at h
    obtain ⟨_, _, rfl, ⟨a, rfl, rfl⟩, _, _, rfl, ⟨l, rfl, rfl⟩, rfl⟩ := h
    exact range_go a.toInt l.toInt 1 next (Int64.le_toInt a) (Int64.toInt_lt l)
  · rename_i a l s h
    simp only [absL_cons_iff, absV_int_iff, absL_nil_iff] at h
    obtain ⟨_, _, rfl, ⟨a, rfl, rfl⟩, _, _, rfl, ⟨l, rfl, rfl⟩, _, _, rfl, ⟨s, rfl, rfl⟩, rfl⟩ := h
    exact range_go a.toInt l.toInt s.toInt next (Int64.le_toInt a) (Int64.toInt_lt l)
  · rename_i h1 h2 h3
    refine ⟨fun v hv => (nomatch hv), fun _ => ?_⟩
    split
    · exact (h1 _ rfl).elim
    · exact (h2 _ _ rfl).elim
    · exact (h3 _ _ _ rfl).elim
    · rfl

end SoyVerif.Refine
