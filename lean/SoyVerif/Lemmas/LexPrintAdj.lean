/-
  The adjacency facts about the printer's output: for every tree with `NamesOk`, every token of
  `pieces e` is followed — inside the printed text, or by the text after the expression — by bytes
  that do not extend it (`Adj (pieces e) tail` for every `tail` that starts with a space, `)`, `]`,
  `,`, `|`, `}` or is empty): the printer puts a space or a punctuation byte after every word and number, a
  space after every operator symbol and `?`, and never a digit after a unary minus.
-/
import SoyVerif.Lemmas.LexPrintNames


-- `T` is included in the mutual block of `adjE`, some of whose members do not use it
set_option linter.unusedSectionVars false

namespace SoyVerif.Lemmas.LexPrint
open SoyVerif SoyVerif.Model SoyVerif.Model.Lex SoyVerif.Model.PrintTokens SoyVerif.Model.Printer
open SoyVerif.Lemmas.ParserToks

/-- what may follow an expression in printed text: nothing, a space, `)`, `]`, `,`, or — in a print command — the `|` of a
    directive or the closing `}` -/
def Closer (rest : Bytes) : Prop := rest = [] ∨ ∃ b s, rest = b :: s ∧ (b = 32 ∨ b = 41 ∨ b = 93 ∨ b = 44 ∨ b = 124 ∨ b = 125)

/-- … or, after a data-ref key, the next access: `.`, `?`, `[` -/
def AccCloser (rest : Bytes) : Prop := Closer rest ∨ ∃ b s, rest = b :: s ∧ (b = 46 ∨ b = 63 ∨ b = 91)

theorem closer_nil : Closer [] := Or.inl rfl
theorem closer_sp (s : Bytes) : Closer (32 :: s) := Or.inr ⟨32, s, rfl, Or.inl rfl⟩
theorem closer_rp (s : Bytes) : Closer (41 :: s) := Or.inr ⟨41, s, rfl, Or.inr (Or.inl rfl)⟩
theorem closer_rb (s : Bytes) : Closer (93 :: s) := Or.inr ⟨93, s, rfl, Or.inr (Or.inr (Or.inl rfl))⟩
theorem closer_comma (s : Bytes) : Closer (44 :: s) := Or.inr ⟨44, s, rfl, Or.inr (Or.inr (Or.inr (Or.inl rfl)))⟩
theorem closer_pipe (s : Bytes) : Closer (124 :: s) := Or.inr ⟨124, s, rfl, Or.inr (Or.inr (Or.inr (Or.inr (Or.inl rfl))))⟩
theorem closer_rbrace (s : Bytes) : Closer (125 :: s) := Or.inr ⟨125, s, rfl, Or.inr (Or.inr (Or.inr (Or.inr (Or.inr rfl))))⟩

theorem closer_wordEnd {rest : Bytes} (h : Closer rest) : WordEnd rest := by
  rcases h with rfl | ⟨b, s, rfl, hb⟩
  · trivial
  · rcases hb with rfl | rfl | rfl | rfl | rfl | rfl <;> exact ⟨by decide, by decide⟩

theorem closer_numEnd {rest : Bytes} (h : Closer rest) : NumEnd rest := by
  refine ⟨closer_wordEnd h, ?_⟩
  rcases h with rfl | ⟨b, s, rfl, hb⟩
  · simp
  · rcases hb with rfl | rfl | rfl | rfl | rfl | rfl <;> simp

theorem accCloser_wordEnd {rest : Bytes} (h : AccCloser rest) : WordEnd rest := by
  rcases h with h | ⟨b, s, rfl, hb⟩
  · exact closer_wordEnd h
  · rcases hb with rfl | rfl | rfl <;> exact ⟨by decide, by decide⟩

theorem wordEnd_of_head {b : UInt8} {s : Bytes} (h1 : b < 128) (h2 : isIdChar b = false) : WordEnd (b :: s) := ⟨h1, h2⟩

section
variable (T : LexTableOK)
include T

theorem tok_null {rest : Bytes} (hr : WordEnd rest) : TokOk tNull rest :=
  .word 110 [117, 108, 108] .tNull rest (by decide) (by decide) hr (Or.inl ⟨T.kw.1, by decide, by decide⟩)

theorem tok_bool (b : Bool) {rest : Bytes} (hr : WordEnd rest) : TokOk (tBool b) rest := by
  cases b
  · exact .word 102 [97, 108, 115, 101] .tBool rest (by decide) (by decide) hr (Or.inl ⟨T.kw.2.2.1, by decide, by decide⟩)
  · exact .word 116 [114, 117, 101] .tBool rest (by decide) (by decide) hr (Or.inl ⟨T.kw.2.1, by decide, by decide⟩)

theorem tok_not (rest : Bytes) : TokOk tNot (32 :: rest) :=
  .word 110 [111, 116] .tNot _ (by decide) (by decide) (wordEnd_of_head (by decide) (by decide))
    (Or.inl ⟨T.kw.2.2.2.1, by decide, by decide⟩)

theorem tok_op (o : BinOp) (rest : Bytes) : TokOk (tOp o) (32 :: rest) := by
  by_cases ha : o = .and
  · subst ha
    exact .word 97 [110, 100] .tAnd _ (by decide) (by decide) (wordEnd_of_head (by decide) (by decide))
      (Or.inl ⟨T.kw.2.2.2.2.1, by decide, by decide⟩)
  · by_cases ho : o = .or
    · subst ho
      exact .word 111 [114] .tOr _ (by decide) (by decide) (wordEnd_of_head (by decide) (by decide))
        (Or.inl ⟨T.kw.2.2.2.2.2, by decide, by decide⟩)
    · exact .op o rest ⟨ha, ho⟩

end

theorem tok_ident {n rest : Bytes} (hn : identOk n = true) (hk : notKeyword n = true) (hr : WordEnd rest) :
    TokOk (tIdent n) rest := by
  obtain ⟨c, r, rfl, hc, hr'⟩ := identOk_parts hn
  have : Gen.builtinIdents.lookup (c :: r) = none := by
    simpa [notKeyword] using hk
  exact .word c r .tIdent rest hc hr' hr (Or.inr ⟨this, rfl⟩)

theorem tok_dollar {k rest : Bytes} (hk : varOk k = true) (hr : WordEnd rest) :
    TokOk ⟨.tDollarIdent, [36] ++ k⟩ rest := by
  obtain ⟨c, r, rfl, hk', hl⟩ := varOk_parts hk
  exact .dollar c r rest hk' hl hr

theorem tok_key (ns : Bool) {k rest : Bytes} (hk : keyOk k = true) (hr : WordEnd rest) :
    TokOk (if ns then ⟨.tQuestionDotIdent, [63, 46] ++ k⟩ else ⟨.tDotIdent, [46] ++ k⟩) rest := by
  obtain ⟨c, r, rfl, hall, hl⟩ := keyOk_parts hk
  obtain ⟨x, wd, hrune, _⟩ := alnumBytes_cons_rune hall
  have hc : isDig c = false := by rw [← runeAt_isDigit hrune]; exact letterR_notDigit (hl x wd hrune)
  cases ns
  · have := TokOk.dot c r rest hall (fun _ => hl) hr
    rw [hc] at this
    simpa using this
  · have := TokOk.qdot c r rest hall (fun _ => hl) hr
    rw [hc] at this
    simpa using this

theorem tok_index (ns : Bool) {i : Int} {rest : Bytes} (hi : 0 ≤ i) (hr : WordEnd rest) :
    TokOk (if ns then ⟨.tQuestionDotIndex, [63, 46] ++ fmtInt i⟩ else ⟨.tDotIndex, [46] ++ fmtInt i⟩) rest := by
  obtain ⟨c, k, hck, hc, hall⟩ := fmtInt_nonneg hi
  rw [hck]
  cases ns
  · have := TokOk.dot c k rest (alnumBytes_ascii hall) (fun h => by rw [hc] at h; exact absurd h (by decide)) hr
    rw [hc] at this
    simpa using this
  · have := TokOk.qdot c k rest (alnumBytes_ascii hall) (fun h => by rw [hc] at h; exact absurd h (by decide)) hr
    rw [hc] at this
    simpa using this

theorem tok_int (v : Int) {rest : Bytes} (hr : NumEnd rest) : TokOk ⟨.tInteger, fmtInt v⟩ rest :=
  .num _ _ _ (fmtInt_shape v) hr

theorem tok_float {val rest : Bytes} (h : floatSpelling val = true) (hr : NumEnd rest) : TokOk ⟨.tFloat, val⟩ rest :=
  .num _ _ _ (floatSpelling_shape h) hr

section
variable (ff : UInt64 → Bytes)

theorem closer_args (r : ExprList) {tail : Bytes} (h : Closer tail) : Closer (spell (piecesArgs ff r false) ++ tail) := by
  cases r with
  | nil => simpa [piecesArgs, spell] using h
  | cons e r => simp [piecesArgs, spell, spell_append, tComma]; exact closer_comma _

theorem closer_items (r : ExprList) {tail : Bytes} (h : Closer tail) : Closer (spell (piecesItems ff r false) ++ tail) := by
  cases r with
  | nil => simpa [piecesItems, spell] using h
  | cons e r => simp [piecesItems, spell, spell_append, tComma]; exact closer_comma _

theorem closer_map (r : MapItems) {tail : Bytes} (h : Closer tail) : Closer (spell (piecesMap ff r false) ++ tail) := by
  cases r with
  | nil => simpa [piecesMap, spell] using h
  | cons k e r => simp [piecesMap, spell, spell_append, tComma]; exact closer_comma _

theorem accCloser_accs (r : AccessList) {tail : Bytes} (h : Closer tail) : AccCloser (spell (piecesAccs ff r) ++ tail) := by
  cases r with
  | nil =>
    have : AccCloser tail := Or.inl h
    simpa [piecesAccs, spell] using this
  | cons a r =>
    right
    cases a with
    | key p ns k => cases ns <;> simp [piecesAccs, piecesAcc, spell]
    | index p ns i => cases ns <;> simp [piecesAccs, piecesAcc, spell]
    | expr p ns e => cases ns <;> simp [piecesAccs, piecesAcc, spell, spell_append, tQKey, tLB]

theorem wordEnd_segs (segs : List Bytes) (hs : segs.all segOk = true) {tail : Bytes} (h : Closer tail) :
    WordEnd (spell ((segs.map tDotIdent).map .tok) ++ tail) := by
  cases segs with
  | nil => simpa [spell] using closer_wordEnd h
  | cons seg r =>
    simp only [List.all_cons, Bool.and_eq_true] at hs
    have h1 := hs.1
    unfold segOk at h1
    split at h1
    · simp only [List.map_cons, spell, tDotIdent, List.cons_append]
      exact ⟨by decide, by decide⟩
    · exact absurd h1 (by simp)

/-- a unary minus in front of an operand that is neither a number nor parenthesised: the operand's first token (which `ih`
    has) begins with no digit -/
theorem neg_next (a : Expr) {tail : Bytes} (ih : Adj (pieces ff a) tail) (hp : ¬ precedenceOf a < precUnary)
    (hni : ∀ p v, a ≠ .int p v) (hnf : ∀ p v, a ≠ .float p v) : TokOk tNeg (spell (pieces ff a) ++ tail) := by
  have key : ∀ t, (pieces ff a).head? = some (.tok t) → (t.typ = .tInteger ∨ t.typ = .tFloat → False) →
      TokOk tNeg (spell (pieces ff a) ++ tail) := fun t hh hty => by
    obtain ⟨c, s, hv, hc, _, _, _, hd⟩ := adj_first ih hh
    have hd' : isDig c = false := by cases e : isDig c; rfl; exact (hty (hd e)).elim
    rw [hv]
    exact .neg _ (asciiHd_cons hc) (by have := isDig_nat_false hd'; simp only [List.cons_append, hdRune]; omega)
  cases a with
  | int p v => exact absurd rfl (hni p v)
  | float p v => exact absurd rfl (hnf p v)
  | bin op p a b => exact absurd (by cases op <;> simp [precedenceOf, binPrec, precUnary, precElvis, precOr, precAnd, precEquality, precCompare, precAdd, precMul]) hp
  | tern p c a b => exact absurd (by simp [precedenceOf, precTernary, precUnary]) hp
  | neg p a => exact key tNeg (by cases a <;> rfl) (by rintro (h | h) <;> cases h)
  | map p items => exact key tLB (by cases items <;> rfl) (by rintro (h | h) <;> cases h)
  | _ => exact key _ rfl (by rintro (h | h) <;> cases h)

end

theorem adj_tok1 (t : Tk) (tail : Bytes) : Adj [.tok t] tail ↔ TokOk t tail := by
  simp [Adj, spell]

theorem adj_nil (tail : Bytes) : Adj [] tail ↔ True := Iff.rfl

theorem tLP_val : tLP.val = [40] := rfl
theorem tRP_val : tRP.val = [41] := rfl
theorem tLB_val : tLB.val = [91] := rfl
theorem tRB_val : tRB.val = [93] := rfl

theorem neg_lp (rest : Bytes) : TokOk tNeg (40 :: rest) :=
  .neg _ (asciiHd_cons (by decide)) (Or.inl (by simp [hdRune]))

theorem adj_cons_tok (t : Tk) (r : List Piece) (tail : Bytes) :
    Adj (.tok t :: r) tail ↔ TokOk t (spell r ++ tail) ∧ Adj r tail := Iff.rfl

theorem adj_cons_sp (r : List Piece) (tail : Bytes) : Adj (.sp :: r) tail ↔ Adj r tail := Iff.rfl

section
variable (T : LexTableOK) (ff : UInt64 → Bytes)

theorem adj_wrap {a : Expr} (m : Nat) (h : ∀ tail, Closer tail → Adj (pieces ff a) tail) {tail : Bytes} (ht : Closer tail) :
    Adj (wrapP a m (pieces ff a)) tail := by
  unfold wrapP
  split
  · rw [adj_append, adj_append]
    simp only [adj_cons_tok, adj_nil, and_true, spell, tRP_val, List.append_nil, List.cons_append, List.nil_append]
    exact ⟨⟨.lp _, h _ (closer_rp _)⟩, .rp _⟩
  · exact h tail ht


theorem adj_segs : (segs : List Bytes) → segs.all segOk = true → ∀ tail, Closer tail →
    Adj ((segs.map tDotIdent).map .tok) tail
  | [], _, tail, _ => trivial
  | seg :: r, hs, tail, ht => by
    simp only [List.all_cons, Bool.and_eq_true] at hs
    refine ⟨?_, adj_segs r hs.2 tail ht⟩
    have h1 := hs.1
    unfold segOk at h1
    split at h1
    · rename_i k
      have := tok_key false h1 (wordEnd_segs r hs.2 ht)
      simpa [tDotIdent] using this
    · exact absurd h1 (by simp)

include T

/- `first`: no comma in front of the first member of a list -/
mutual
  theorem adjE : (e : Expr) → NamesOk ff e = true → ∀ tail, Closer tail → Adj (pieces ff e) tail
    | .null _, _, tail, ht => by
        rw [pieces, adj_tok1]; exact tok_null T (closer_wordEnd ht)
    | .bool _ b, _, tail, ht => by
        rw [pieces, adj_tok1]; exact tok_bool T b (closer_wordEnd ht)
    | .int _ v, _, tail, ht => by
        rw [pieces, adj_tok1]; exact tok_int v (closer_numEnd ht)
    | .float _ bits, hN, tail, ht => by
        rw [pieces, adj_tok1]; exact tok_float hN (closer_numEnd ht)
    | .str _ q _, hN, tail, ht => by
        rw [pieces, adj_tok1]; exact .str q _ hN
    | .global _ n, hN, tail, ht => by
        rw [NamesOk] at hN
        simp only [globalOk, Bool.and_eq_true] at hN
        rw [pieces]
        simp only [globalToks, List.map_cons]
        exact ⟨tok_ident hN.1.1 hN.1.2 (wordEnd_segs _ hN.2 ht), adj_segs _ hN.2 tail ht⟩
    | .func _ n args, hN, tail, ht => by
        rw [NamesOk] at hN
        simp only [Bool.and_eq_true] at hN
        have ha := adjArgs args hN.2 true (41 :: tail) (closer_rp _)
        rw [pieces, adj_append, adj_append]
        simp only [adj_cons_tok, adj_nil, and_true, spell, tLP_val, tRP_val, List.append_nil, List.cons_append, List.nil_append]
        exact ⟨⟨⟨tok_ident hN.1.1 hN.1.2 (wordEnd_of_head (by decide) (by decide)), .lp _⟩, ha⟩, .rp _⟩
    | .list _ items, hN, tail, ht => by
        have ha := adjItems items hN true (93 :: tail) (closer_rb _)
        rw [pieces, adj_append, adj_append]
        simp only [adj_cons_tok, adj_nil, and_true, spell, tRB_val, List.append_nil, List.cons_append, List.nil_append]
        exact ⟨⟨.lb _, ha⟩, .rb _⟩
    | .map p items, hN, tail, ht => by
        cases items with
        | nil =>
          rw [pieces]
          exact ⟨.lb _, .colon _, .rb _, trivial⟩
        | cons k e r =>
          have ha := adjMap (.cons k e r) hN true (93 :: tail) (closer_rb _)
          have hp : pieces ff (.map p (.cons k e r)) = [.tok tLB] ++ piecesMap ff (.cons k e r) true ++ [.tok tRB] := by
            rw [pieces]; intro h; cases h
          rw [hp, adj_append, adj_append]
          simp only [adj_cons_tok, adj_nil, and_true, spell, tRB_val, List.append_nil, List.cons_append, List.nil_append]
          exact ⟨⟨.lb _, ha⟩, .rb _⟩
    | .dataRef _ k acc, hN, tail, ht => by
        rw [NamesOk] at hN
        simp only [Bool.and_eq_true] at hN
        rw [pieces, adj_append]
        simp only [adj_tok1]
        exact ⟨tok_dollar hN.1 (accCloser_wordEnd (accCloser_accs ff acc ht)), adjAccs acc hN.2 tail ht⟩
    | .not _ a, hN, tail, ht => by
        rw [pieces, adj_append]
        simp only [adj_cons_tok, adj_cons_sp, spell, List.nil_append, List.cons_append]
        exact ⟨⟨tok_not T _, trivial⟩, adj_wrap ff precUnary (adjE a hN) ht⟩
    | .neg _ a, hN, tail, ht => by
        rw [NamesOk] at hN
        have ih := adjE a hN
        cases a <;>
          (rw [pieces]
           all_goals first
             | (intro _ _ h; cases h)
             | skip)
        case int p v | float p v =>
          rw [adj_append, adj_append]
          simp only [adj_cons_tok, adj_nil, and_true, spell, tLP_val, tRP_val, List.append_nil, List.cons_append, List.nil_append]
          exact ⟨⟨⟨neg_lp _, .lp _⟩, ih _ (closer_rp _)⟩, .rp _⟩
        all_goals
          rw [adj_append]
          refine ⟨?_, adj_wrap ff precUnary ih ht⟩
          rw [adj_tok1]
          unfold wrapP
          split
          · simp only [spell_append, spell, List.cons_append, List.nil_append, List.append_assoc]
            exact neg_lp _
          · rename_i hp
            exact neg_next ff _ (ih tail ht) hp (by intro _ _ h; cases h) (by intro _ _ h; cases h)
    | .bin op _ a b, hN, tail, ht => by
        rw [NamesOk] at hN
        simp only [Bool.and_eq_true] at hN
        rw [pieces, adj_append, adj_append]
        simp only [adj_cons_tok, adj_cons_sp, spell, List.cons_append, List.nil_append]
        exact ⟨⟨adj_wrap ff _ (adjE a hN.1) (closer_sp _), tok_op T op _, trivial⟩, adj_wrap ff _ (adjE b hN.2) ht⟩
    | .tern _ c a b, hN, tail, ht => by
        rw [NamesOk] at hN
        simp only [Bool.and_eq_true] at hN
        rw [pieces, adj_append, adj_append, adj_append, adj_append]
        simp only [adj_cons_tok, adj_cons_sp, spell, List.cons_append, List.nil_append]
        exact ⟨⟨⟨⟨adj_wrap ff _ (adjE c hN.1.1) (closer_sp _), .ternif _, trivial⟩,
          adj_wrap ff _ (adjE a hN.1.2) (closer_sp _)⟩, .colon _, trivial⟩, adjE b hN.2 tail ht⟩
  theorem adjArgs : (l : ExprList) → NamesOkL ff l = true → ∀ (first : Bool) tail, Closer tail →
      Adj (piecesArgs ff l first) tail
    | .nil, _, _, tail, _ => by rw [piecesArgs]; trivial
    | .cons e r, hN, first, tail, ht => by
        rw [NamesOkL] at hN
        simp only [Bool.and_eq_true] at hN
        rw [piecesArgs, adj_append, adj_append]
        refine ⟨⟨?_, adjE e hN.1 _ (closer_args ff r ht)⟩, adjArgs r hN.2 false tail ht⟩
        cases first
        · simp only [Bool.false_eq_true, if_false, adj_tok1]; exact .comma _
        · simp only [if_true]; trivial
  theorem adjItems : (l : ExprList) → NamesOkL ff l = true → ∀ (first : Bool) tail, Closer tail →
      Adj (piecesItems ff l first) tail
    | .nil, _, _, tail, _ => by rw [piecesItems]; trivial
    | .cons e r, hN, first, tail, ht => by
        rw [NamesOkL] at hN
        simp only [Bool.and_eq_true] at hN
        rw [piecesItems, adj_append, adj_append]
        refine ⟨⟨?_, adjE e hN.1 _ (closer_items ff r ht)⟩, adjItems r hN.2 false tail ht⟩
        cases first
        · simp only [Bool.false_eq_true, if_false]; exact ⟨.comma _, trivial⟩
        · simp only [if_true]; trivial
  theorem adjMap : (m : MapItems) → NamesOkM ff m = true → ∀ (first : Bool) tail, Closer tail →
      Adj (piecesMap ff m first) tail
    | .nil, _, _, tail, _ => by rw [piecesMap]; trivial
    | .cons k e r, hN, first, tail, ht => by
        rw [NamesOkM] at hN
        simp only [Bool.and_eq_true] at hN
        rw [piecesMap, adj_append, adj_append, adj_append, adj_append]
        refine ⟨⟨⟨⟨?_, ?_⟩, ?_⟩, adjE e hN.1 _ (closer_map ff r ht)⟩, adjMap r hN.2 false tail ht⟩
        · cases first
          · simp only [Bool.false_eq_true, if_false]; exact ⟨.comma _, trivial⟩
          · simp only [if_true]; trivial
        · rw [adj_tok1]; exact .str _ _ (strOk_quoteString k)
        · exact ⟨.colon _, trivial⟩
  theorem adjAccs : (l : AccessList) → NamesOkAL ff l = true → ∀ tail, Closer tail → Adj (piecesAccs ff l) tail
    | .nil, _, tail, _ => by rw [piecesAccs]; trivial
    | .cons a r, hN, tail, ht => by
        rw [NamesOkAL] at hN
        simp only [Bool.and_eq_true] at hN
        rw [piecesAccs, adj_append]
        exact ⟨adjAcc a hN.1 _ (accCloser_accs ff r ht), adjAccs r hN.2 tail ht⟩
  theorem adjAcc : (a : Access) → NamesOkA ff a = true → ∀ tail, AccCloser tail → Adj (piecesAcc ff a) tail
    | .key _ ns k, hN, tail, ht => by
        rw [piecesAcc, adj_tok1]
        exact tok_key ns hN (accCloser_wordEnd ht)
    | .index _ ns i, hN, tail, ht => by
        rw [NamesOkA] at hN
        rw [piecesAcc, adj_tok1]
        exact tok_index ns (by simpa using hN) (accCloser_wordEnd ht)
    | .expr _ ns e, hN, tail, ht => by
        rw [piecesAcc, adj_append, adj_append]
        simp only [adj_cons_tok, adj_nil, and_true, spell, tRB_val, List.append_nil, List.cons_append, List.nil_append]
        refine ⟨⟨?_, adjE e hN _ (closer_rb _)⟩, .rb _⟩
        cases ns
        · exact .lb _
        · exact .qkey _
end

end

end SoyVerif.Lemmas.LexPrint
