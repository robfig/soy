/-
  `math.Floor` / `math.Ceil` of the soft-float, then Go's `int64(·)`: the integer part is the exact floor /
  ceiling of the value (`Spec.Eval.ratOf`).  Below 2^53 `ofRat s k 1` does not round (`roundRatMag_int`).
-/
import SoyVerif.Lemmas.F64Order
import SoyVerif.Spec.Eval

namespace SoyVerif.F64
open SoyVerif.Spec.Eval (ratOf)

theorem mag_lt (x : F64) : x.mag < two63 := Nat.mod_lt _ (by decide)

def smant (x : F64) : Int := if x.sign then -(x.mant : Int) else (x.mant : Int)

/-- `ratOf` and (next) `truncInt` through the signed mantissa, split alike on the sign of the exponent -/
theorem ratOf_eq (x : F64) : ratOf x = if 0 ≤ x.exp2 then (x.smant * 2 ^ x.exp2.toNat, 1) else (x.smant, 2 ^ (-x.exp2).toNat) := rfl

theorem truncInt_eq (x : F64) : x.truncInt =
    if 0 ≤ x.exp2 then x.smant * 2 ^ x.exp2.toNat
    else if x.sign then -((x.mant / 2 ^ (-x.exp2).toNat : Nat) : Int) else ((x.mant / 2 ^ (-x.exp2).toNat : Nat) : Int) := by
  unfold truncInt smant
  by_cases h : 0 ≤ x.exp2
  · simp only [h, if_true]
    cases x.sign <;> simp [Int.neg_mul]
  · simp only [h, if_false]

theorem fields_of_mag (x : F64) (e q : Nat) (hq : q < two52) (hm : x.mag = e * two52 + q) :
    x.expField = e ∧ x.frac = q := by
  unfold expField frac
  rw [hm]
  simp only [two52] at *
  constructor <;> omega

/-- the magnitude bits assembled from the exponent `t ≤ 52` and a 53-bit mantissa `q`: below 2^63, finite, and they
    split into the exponent field `t + 1023` and the fraction `q - 2^52` -/
theorem mag_of_mant53 (t q : Nat) (ht : t ≤ 52) (h1 : two52 ≤ q) (h2 : q < 2 * two52) :
    (t + 1022) * two52 + q < two63 ∧ ¬ infMag < (t + 1022) * two52 + q ∧ (t + 1022) * two52 + q ≠ infMag ∧
      (t + 1022) * two52 + q = (t + 1023) * two52 + (q - two52) ∧ q - two52 < two52 ∧ (q - two52) + two52 = q := by
  simp only [two52, two63, infMag] at *
  omega

/-- apart from `ofRat_nat`: there `omega` would also take in the facts about 2^52 and 2^63 -/
theorem exp_below_52 (t : Nat) (ht : t ≤ 52) (hne : t ≠ 52) :
    ¬ (0 ≤ (t : Int) - 52) ∧ (-((t : Int) - 52)).toNat = 52 - t := by omega

/-- `float64(±k)` for `k < 2^53` is exact: it is finite and its integer part is `±k`.  With `t = log2 k` the magnitude
    bits are those of the 53-bit mantissa `q = k · 2^(52−t)` at exponent `t − 52` (`roundRatMag_int`); read back,
    `truncInt` is `q / 2^(52−t) = k`. -/
theorem ofRat_nat (s : Bool) (k : Nat) (hk : k < two53) :
    (ofRat s k 1).isNaN = false ∧ (ofRat s k 1).isInf = false ∧
      (ofRat s k 1).truncInt = if s then -(k : Int) else (k : Int) := by
  by_cases h0 : k = 0
  · subst h0
    have hf := make_facts s 0 (by decide)
    have e : ofRat s 0 1 = make s 0 := rfl
    rw [e]
    have hfl := fields_of_mag (make s 0) 0 0 (by decide) (by rw [hf.2]; simp)
    refine ⟨by simp [isNaN, hf.2, infMag], by simp [isInf, hf.2, infMag], ?_⟩
    rw [truncInt_eq]
    have hm : (make s 0).mant = 0 := by simp [mant, hfl.1, hfl.2]
    have he : (make s 0).exp2 = -1074 := by simp [exp2, hfl.1]
    simp only [he, hm, hf.1]
    cases s <;> simp
  · have h1 : 1 ≤ k := by omega
    obtain ⟨h52, hlo, hhi⟩ := log2_facts k h1 hk
    have hM := roundRatMag_int k h1 hk
    generalize Nat.log2 k = t at *
    obtain ⟨hq_lo, hq_hi⟩ := shift_bounds k t h52 hlo hhi
    have e : ofRat s k 1 = make s (roundRatMag k 1) := by
      unfold ofRat
      have : (k == 0) = false := by simpa using h0
      simp [this]
    rw [e, hM]
    clear hM e hlo hhi
    generalize hq : k * 2 ^ (52 - t) = q at *
    obtain ⟨hlt63, hnan, hinf, hsplit, hfr, hback⟩ := mag_of_mant53 t q h52 hq_lo hq_hi
    have hf := make_facts s ((t + 1022) * two52 + q) hlt63
    have hfl := fields_of_mag (make s ((t + 1022) * two52 + q)) (t + 1023) (q - two52) hfr (by rw [hf.2]; exact hsplit)
    have hne : ((t + 1023 == 0) = false) := by simp
    have hm : (make s ((t + 1022) * two52 + q)).mant = q := by
      simp only [mant, hfl.1, hfl.2, hne, Bool.false_eq_true, if_false]; exact hback
    have he : (make s ((t + 1022) * two52 + q)).exp2 = (t : Int) - 52 := by
      simp only [exp2, hfl.1, hne, Bool.false_eq_true, if_false]; omega
    refine ⟨?_, ?_, ?_⟩
    · simp only [isNaN, hf.2, decide_eq_false_iff_not]; exact hnan
    · simp only [isInf, hf.2, beq_eq_false_iff_ne]; exact hinf
    · rw [truncInt_eq]
      simp only [he, hm, hf.1, smant]
      by_cases ht : t = 52
      · subst ht
        simp only [Nat.sub_self, Nat.pow_zero, Nat.mul_one] at hq
        subst hq
        simp
      · obtain ⟨c, hn⟩ := exp_below_52 t h52 ht
        simp only [c, if_false, hn]
        have : q / 2 ^ (52 - t) = k := by
          rw [← hq]; exact Nat.mul_div_cancel _ (Nat.pow_pos (by decide))
        rw [this]

theorem neg_ediv_ceil (m d : Nat) (hd : 0 < d) : (-(m : Int)) / (d : Int) = -(((m + d - 1) / d : Nat) : Int) := by
  have h1 := Nat.div_add_mod (m + d - 1) d
  have h2 := Nat.mod_lt (m + d - 1) hd
  generalize (m + d - 1) / d = c at *
  generalize (m + d - 1) % d = e at *
  have h1' : (d : Int) * (c : Int) + (e : Int) = (m : Int) + (d : Int) - 1 := by
    have : ((d * c + e : Nat) : Int) = ((m + d - 1 : Nat) : Int) := by rw [h1]
    rw [Int.natCast_add, Int.natCast_mul] at this
    omega
  have := (Int.ediv_emod_unique (a := -(m : Int)) (b := (d : Int)) (q := -(c : Int)) (r := (d : Int) - 1 - (e : Int))
    (by omega)).mpr ⟨by rw [Int.mul_neg]; omega, by omega, by omega⟩
  exact this.1

theorem ceil_ediv (n d : Int) (hd : 0 < d) : -((-n) / d) = if n % d == 0 then n / d else n / d + 1 := by
  have h1 := Int.mul_ediv_add_emod n d
  have h2 := Int.emod_nonneg n (Int.ne_of_gt hd)
  have h3 := Int.emod_lt_of_pos n hd
  generalize n / d = q at *
  generalize n % d = r at *
  by_cases hr : r = 0
  · subst hr
    have := (Int.ediv_emod_unique (a := -n) (b := d) (q := -q) (r := 0) hd).mpr
      ⟨by rw [Int.mul_neg]; omega, by omega, hd⟩
    simp only [beq_self_eq_true, if_true]
    omega
  · have := (Int.ediv_emod_unique (a := -n) (b := d) (q := -q - 1) (r := d - r) hd).mpr
      ⟨by rw [Int.mul_sub, Int.mul_neg, Int.mul_one]; omega, by omega, by omega⟩
    have hb : (r == 0) = false := by simpa using hr
    simp only [hb, Bool.false_eq_true, if_false]
    omega

theorem mant_lt (x : F64) : x.mant < two53 := by
  unfold mant frac
  have := Nat.mod_lt x.mag (show 0 < two52 by decide)
  split <;> simp only [two52, two53] at * <;> omega

theorem mant_pos (x : F64) (hz : x.isZero = false) : 1 ≤ x.mant := by
  have hm : x.mag ≠ 0 := by simpa [isZero] using hz
  unfold mant expField frac
  split
  · rename_i h
    have h' : x.mag / two52 = 0 := by simpa using h
    have : x.mag < two52 := by
      rcases Nat.div_eq_zero_iff.mp h' with h | h
      · simp [two52] at h
      · exact h
    rw [Nat.mod_eq_of_lt this]; omega
  · simp only [two52]; omega

theorem zero_fields (x : F64) (hz : x.isZero = true) : x.mant = 0 ∧ x.exp2 = -1074 := by
  have hm : x.mag = 0 := by simpa [isZero] using hz
  have hfl := fields_of_mag x 0 0 (by decide) (by rw [hm]; simp)
  exact ⟨by simp [mant, hfl.1, hfl.2], by simp [exp2, hfl.1]⟩

/-- `int64(math.Floor(x))`, before the range check: the exact floor of the value -/
theorem floor_trunc (x : F64) (hn : x.isNaN = false) (hi : x.isInf = false) :
    (floor x).isNaN = false ∧ (floor x).isInf = false ∧ (floor x).truncInt = (ratOf x).1 / ((ratOf x).2 : Int) := by
  unfold floor
  simp only [hn, hi, Bool.false_or]
  by_cases hz : x.isZero = true
  · simp only [hz, if_true]
    obtain ⟨hm, he⟩ := zero_fields x hz
    refine ⟨hn, hi, ?_⟩
    rw [truncInt_eq, ratOf_eq]
    simp only [he, hm, smant]
    cases x.sign <;> simp
  · have hz' : x.isZero = false := by simpa using hz
    simp only [hz', Bool.false_eq_true, if_false]
    by_cases he : 0 ≤ x.exp2
    · simp only [he, if_true]
      refine ⟨hn, hi, ?_⟩
      rw [truncInt_eq, ratOf_eq]
      simp [he]
    · simp only [he, if_false]
      have hd : 0 < 2 ^ (-x.exp2).toNat := Nat.pow_pos (by decide)
      have hml := mant_lt x
      rw [ratOf_eq]
      simp only [he, if_false, smant]
      generalize 2 ^ (-x.exp2).toNat = d at *
      cases hs : x.sign
      · simp only [Bool.false_eq_true, if_false]
        have hk : x.mant / d < two53 := Nat.lt_of_le_of_lt (Nat.div_le_self _ _) hml
        obtain ⟨h1, h2, h3⟩ := ofRat_nat false (x.mant / d) hk
        refine ⟨h1, h2, ?_⟩
        rw [h3]
        simp only [Bool.false_eq_true, if_false]
        exact Int.natCast_ediv _ _
      · simp only [if_true]
        have hc : (x.mant + d - 1) / d ≤ x.mant := by
          apply Nat.div_le_of_le_mul
          have hp := mant_pos x hz'
          obtain ⟨k, hk⟩ : ∃ k, x.mant = 1 + k := ⟨x.mant - 1, by omega⟩
          rw [hk, Nat.mul_add, Nat.mul_one]
          have := Nat.le_mul_of_pos_left k hd
          omega
        obtain ⟨h1, h2, h3⟩ := ofRat_nat true ((x.mant + d - 1) / d) (Nat.lt_of_le_of_lt hc hml)
        refine ⟨h1, h2, ?_⟩
        rw [h3, neg_ediv_ceil x.mant d hd]
        simp only [if_true]

theorem neg_fields (x : F64) : (neg x).sign = !x.sign ∧ (neg x).mag = x.mag := make_facts _ _ (mag_lt x)

theorem mag_congr {x y : F64} (h : y.mag = x.mag) :
    y.isNaN = x.isNaN ∧ y.isInf = x.isInf ∧ y.mant = x.mant ∧ y.exp2 = x.exp2 := by
  simp [isNaN, isInf, mant, exp2, expField, frac, h]

theorem truncInt_neg (x : F64) : (neg x).truncInt = -x.truncInt := by
  obtain ⟨hs, hm⟩ := neg_fields x
  obtain ⟨_, _, h3, h4⟩ := mag_congr hm
  rw [truncInt_eq, truncInt_eq]
  simp only [smant, hs, h3, h4]
  cases x.sign <;> simp <;> split <;> simp [Int.neg_mul]

theorem ratOf_neg (x : F64) : ratOf (neg x) = (-(ratOf x).1, (ratOf x).2) := by
  obtain ⟨hs, hm⟩ := neg_fields x
  obtain ⟨_, _, h3, h4⟩ := mag_congr hm
  rw [ratOf_eq, ratOf_eq]
  simp only [smant, hs, h3, h4]
  cases x.sign <;> simp <;> split <;> simp [Int.neg_mul]

/-- `int64(math.Ceil(x))`, before the range check: minus the exact floor of the negated value (the ceiling:
    `ceil_ediv`) -/
theorem ceil_trunc (x : F64) (hn : x.isNaN = false) (hi : x.isInf = false) :
    (ceil x).isNaN = false ∧ (ceil x).isInf = false ∧ (ceil x).truncInt = -((-(ratOf x).1) / ((ratOf x).2 : Int)) := by
  obtain ⟨hs, hm⟩ := neg_fields x
  obtain ⟨c1, c2, _, _⟩ := mag_congr hm
  obtain ⟨f1, f2, f3⟩ := floor_trunc (neg x) (by rw [c1, hn]) (by rw [c2, hi])
  obtain ⟨_, hm'⟩ := neg_fields (floor (neg x))
  obtain ⟨d1, d2, _, _⟩ := mag_congr hm'
  unfold ceil
  refine ⟨by rw [d1, f1], by rw [d2, f2], ?_⟩
  rw [truncInt_neg, f3, ratOf_neg]

theorem ratOf_den_pos (x : F64) : 0 < ((ratOf x).2 : Int) := by
  rw [ratOf_eq]
  split
  · show (0 : Int) < ((1 : Nat) : Int); decide
  · exact Int.natCast_pos.mpr (Nat.pow_pos (by decide))

theorem toInt64Trunc_of (y : F64) (r : Int) (h1 : y.isNaN = false) (h2 : y.isInf = false) (h3 : y.truncInt = r)
    (hlo : -(9223372036854775808 : Int) ≤ r) (hhi : r < 9223372036854775808) : (toInt64Trunc y).toInt = r := by
  unfold toInt64Trunc
  simp only [h1, h2, Bool.or_self, Bool.false_eq_true, if_false, h3, two63]
  have : (-((9223372036854775808 : Nat) : Int) ≤ r ∧ r < ((9223372036854775808 : Nat) : Int)) := ⟨by omega, by omega⟩
  rw [if_pos this]
  exact Int64.toInt_ofInt_of_le (by omega) (by omega)

end SoyVerif.F64
