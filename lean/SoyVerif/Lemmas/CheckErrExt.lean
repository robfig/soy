/-
  The error-reporting walk consults the registry only through the parameter lists found under the callee
  names (`SigEq`): registries that agree on them give every command the same computation.
-/
import SoyVerif.Model.CheckErr

namespace SoyVerif.Props.C13c
open SoyVerif SoyVerif.Model SoyVerif.Model.Check SoyVerif.Model.CheckErr

def sigOf (reg : List Template) (n : Bytes) : Option (List Param) := (reg.find? (fun t => t.name == n)).map (·.params)

def SigEq (reg reg' : List Template) : Prop := ∀ n : Bytes, sigOf reg n = sigOf reg' n

section
variable {reg reg' : List Template} (h : SigEq reg reg') (params : List Bytes)
include h

theorem checkCallE_ext (name : Bytes) (allData hasData : Bool) (pk : List Bytes) :
    checkCallE reg params name allData hasData pk = checkCallE reg' params name allData hasData pk := by
  have hs := h name
  unfold sigOf at hs
  unfold checkCallE
  cases h1 : reg.find? (fun t => t.name == name) with
  | none =>
    cases h2 : reg'.find? (fun t => t.name == name) with
    | none => rfl
    | some c' => rw [h1, h2] at hs; cases hs
  | some c =>
    cases h2 : reg'.find? (fun t => t.name == name) with
    | none => rw [h1, h2] at hs; cases hs
    | some c' =>
      rw [h1, h2] at hs
      simp only [Option.map_some, Option.some.injEq] at hs
      simp only [hs]

mutual
  theorem checkCmdE_ext : ∀ c : Cmd, checkCmdE reg params c = checkCmdE reg' params c
    | .rawText .. => rfl
    | .debugger .. => rfl
    | .print _ a dirs => by show inScopeE _ = inScopeE _; rw [checkDirsE_ext dirs]
    | .msg _ _ _ _ _ body => congrArg inScopeE (checkPartsE_ext body)
    | .css _ e _ => rfl
    | .log _ b => congrArg inScopeE (checkBlockE_ext b)
    | .ifc _ conds => congrArg inScopeE (checkCondsE_ext conds)
    | .forc _ v l b none => by show (_ >>= _) = (_ >>= _); rw [checkBlockE_ext b]
    | .forc _ v l b (some ie) => by show (_ >>= _) = (_ >>= _); simp only [checkBlockE_ext b, checkBlockE_ext ie]
    | .switch _ v cases => by show inScopeE _ = inScopeE _; rw [checkCasesE_ext cases]
    | .call _ name allData d ps => by
      show (_ >>= _) = (_ >>= _)
      rw [checkCallE_ext h params, checkParamsE_ext ps]
    | .letValue .. => rfl
    | .letContent _ name b => by show (_ >>= _) = (_ >>= _); rw [checkBlockE_ext b]
    | .headerParam .. => rfl
    | .namespace .. => rfl
    | .template _ _ b _ _ => congrArg inScopeE (checkBlockE_ext b)
    | .soyDoc .. => rfl
  theorem checkBlockE_ext : ∀ b : Block, checkBlockE reg params b = checkBlockE reg' params b
    | .mk _ cmds => by show (_ >>= _) = (_ >>= _); rw [checkCmdsE_ext cmds]
  theorem checkCmdsE_ext : ∀ cs : CmdList, checkCmdsE reg params cs = checkCmdsE reg' params cs
    | .nil => rfl
    | .cons c r => by show (_ >>= _) = (_ >>= _); rw [checkCmdE_ext c, checkCmdsE_ext r]
  theorem checkDirsE_ext : ∀ ds : List Directive, checkDirsE reg params ds = checkDirsE reg' params ds
    | [] => rfl
    | d :: r => by show (_ >>= _) = (_ >>= _); rw [checkDirsE_ext r]
  theorem checkCondsE_ext : ∀ cs : CondList, checkCondsE reg params cs = checkCondsE reg' params cs
    | .nil => rfl
    | .cons _ c b r => by show (_ >>= _) = (_ >>= _); rw [checkBlockE_ext b, checkCondsE_ext r]
  theorem checkCasesE_ext : ∀ cs : CaseList, checkCasesE reg params cs = checkCasesE reg' params cs
    | .nil => rfl
    | .cons _ vs b r => by show (_ >>= _) = (_ >>= _); rw [checkBlockE_ext b, checkCasesE_ext r]
  theorem checkParamsE_ext : ∀ ps : ParamList, checkParamsE reg params ps = checkParamsE reg' params ps
    | .nil => rfl
    | .value _ _ e r => by show (_ >>= _) = (_ >>= _); rw [checkParamsE_ext r]
    | .content _ _ b r => by show (_ >>= _) = (_ >>= _); rw [checkBlockE_ext b, checkParamsE_ext r]
  theorem checkPartsE_ext : ∀ ps : MsgParts, checkPartsE reg params ps = checkPartsE reg' params ps
    | .nil => rfl
    | .text _ _ r => checkPartsE_ext r
    | .ph _ _ (.htmlTag ..) r => by show (_ >>= _) = (_ >>= _); rw [checkPartsE_ext r]
    | .ph _ _ (.cmd c) r => by show (_ >>= _) = (_ >>= _); simp only [checkCmdE_ext c, checkPartsE_ext r]
    | .plural _ _ v cases _ d r => by
      show (_ >>= _) = (_ >>= _)
      rw [checkPlCasesE_ext cases, checkPartsE_ext d, checkPartsE_ext r]
  theorem checkPlCasesE_ext : ∀ cs : PluralCases, checkPlCasesE reg params cs = checkPlCasesE reg' params cs
    | .nil => rfl
    | .cons _ _ _ b r => by show (_ >>= _) = (_ >>= _); rw [checkPartsE_ext b, checkPlCasesE_ext r]
end

end

theorem checkOneE_sig_ext {reg reg' : List Template} (h : SigEq reg reg') (t : Template) :
    checkOneE reg t = checkOneE reg' t := by
  unfold checkOneE
  simp only [checkBlockE_ext h]

end SoyVerif.Props.C13c
