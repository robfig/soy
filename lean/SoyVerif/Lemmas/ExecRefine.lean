/-
  Helper lemmas for the refinement of the command interpreter to the lexical semantics
  (Props/C02Spec.lean): output bytes of the chunk discipline, lookups through a scope after `push`, `set` and a
  change that leaves its frames alone (readings of Lemmas/ScopeFind), walkBlock on an ok / a failed body, and how
  `ScopeOk` (Props/C02) is carried along.
-/
import SoyVerif.Props.C02
import SoyVerif.Lemmas.ScopeFind

namespace SoyVerif.Refine
open SoyVerif SoyVerif.Model SoyVerif.Model.Eval

theorem bufBytes_write (st : St) (b : Bytes) : bufBytes (write st b).out = bufBytes st.out ++ b := by
  simp [bufBytes, write]

theorem bufBytes_writeAll (cs : List Bytes) : ∀ (st : St), bufBytes (writeAll st cs).out = bufBytes st.out ++ cs.flatten := by
  induction cs with
  | nil => intro st; simp [writeAll]
  | cons c r ih =>
    intro st
    have := ih (write st c)
    simp only [writeAll, List.foldl] at this ⊢
    rw [this, bufBytes_write]
    simp

theorem escChunksGo_flatten : ∀ (s pending : Bytes), (escChunksGo pending s).flatten = pending.reverse ++ htmlEscape s := by
  intro s
  induction s with
  | nil => intro p; simp [escChunksGo, htmlEscape]
  | cons b r ih =>
    intro p
    unfold escChunksGo
    cases h : htmlRepl b with
    | some e => simp [ih, htmlEscape, htmlPiece, h]
    | none => simp [ih, htmlEscape, htmlPiece, h]

theorem escChunks_flatten (s : Bytes) : (escChunks s).flatten = htmlEscape s := by
  simp [escChunks, escChunksGo_flatten]

theorem lookup_set {ctx : Scope} {st st2 : St} {name : Bytes} {v : Value} (hown : Own ctx st)
    (h : set ctx st name v = some st2) (k : Bytes) :
    lookup st2.heap ctx k = if k == name then v else lookup st.heap ctx k := by
  rw [lookup_eq, lookup_eq, scopeFind_set hown h]
  split <;> rfl

theorem set_out {ctx : Scope} {st st2 : St} {k : Bytes} {v : Value} (h : Eval.set ctx st k v = some st2) : st2.out = st.out := by
  obtain ⟨_, _, rfl⟩ := set_data h; rfl

theorem lookup_push (ctx : Scope) (st : St) (hok : Props.C02.ScopeOk ctx st) (k : Bytes) :
    lookup (push ctx st).2.heap (push ctx st).1 k = lookup st.heap ctx k := by
  rw [lookup_eq, lookup_eq, scopeFind_push ctx st hok]

/-- the frame an iteration of a {foreach} runs in — pushed, then `x.lastIndex`, `x`, `x.index` bound by the three
    `set`s of the walk: what every name reads there -/
theorem lookup_loop_frame {ctx : Scope} {st st2 st3 st4 : St} {var : Bytes} {vL x vI : Value}
    (hok : Props.C02.ScopeOk ctx st)
    (h2 : set (push ctx st).1 (push ctx st).2 (var ++ sLastIndexSuffix) vL = some st2)
    (h3 : set (push ctx st).1 st2 var x = some st3)
    (h4 : set (push ctx st).1 st3 (var ++ sIndexSuffix) vI = some st4) (k : Bytes) :
    lookup st4.heap (push ctx st).1 k =
      if k == var ++ sIndexSuffix then vI else if k == var then x
      else if k == var ++ sLastIndexSuffix then vL else lookup st.heap ctx k := by
  obtain ⟨_, hown1, _, _⟩ := push_spec ctx st
  have own2 := hown1.ext (set_ext hown1 h2)
  have own3 := own2.ext (set_ext own2 h3)
  rw [lookup_set own3 h4 k, lookup_set own2 h3 k, lookup_set hown1 h2 k, lookup_push ctx st hok k]

theorem walkBlockOf_ok {body : Run} {ctx : Scope} {st : St}
    (hcls : (body (push ctx st).1 (push ctx st).2).cls = .ok)
    (hctx : (body (push ctx st).1 (push ctx st).2).ctx = (push ctx st).1) :
    walkBlockOf body ctx st = ⟨.ok, ctx, (body (push ctx st).1 (push ctx st).2).st⟩ := by
  unfold walkBlockOf
  simp only [hcls, hctx]
  rfl

theorem walkBlockOf_err {body : Run} {ctx : Scope} {st : St}
    (hcls : (body (push ctx st).1 (push ctx st).2).cls = .err) :
    (walkBlockOf body ctx st).cls = .err := by
  unfold walkBlockOf
  simp only [hcls]

theorem lookup_ext_W {W : Nat → Prop} {st st' : St} (e : Ext W st st') (ctx : Scope) (hok : Props.C02.ScopeOk ctx st)
    (hw : ∀ f ∈ ctx, ¬ W f.ref) (k : Bytes) : lookup st'.heap ctx k = lookup st.heap ctx k := by
  rw [lookup_eq, lookup_eq, scopeFind_ext_W e ctx hok hw]

end SoyVerif.Refine

namespace SoyVerif.Props.C02
open SoyVerif.Model.Eval

theorem ScopeOk.ext {W : Nat → Prop} {ctx : Scope} {st st' : St} (hok : ScopeOk ctx st) (e : Ext W st st') :
    ScopeOk ctx st' := fun f hf => Nat.lt_of_lt_of_le (hok f hf) e.len

theorem ScopeOk.pushed {ctx : Scope} {st : St} (hok : ScopeOk ctx st) : ScopeOk (push ctx st).1 (push ctx st).2 := by
  intro f hf
  have hl : (push ctx st).2.heap.length = st.heap.length + 1 := by simp [push]
  rcases List.mem_cons.mp hf with rfl | hf
  · simp [hl]
  · have := hok f hf; omega

theorem ScopeOk.entered {f : SFrame} {r : Scope} {st : St} (hok : ScopeOk (f :: r) st) :
    ScopeOk ({ f with entered := true } :: r) st := fun x hx => by
  rcases List.mem_cons.mp hx with rfl | hx
  · exact hok f List.mem_cons_self
  · exact hok x (List.mem_cons_of_mem _ hx)

theorem ScopeOk.of_heap {ctx : Scope} {st st' : St} (hok : ScopeOk ctx st) (h : st'.heap = st.heap) :
    ScopeOk ctx st' := fun f hf => by rw [h]; exact hok f hf

end SoyVerif.Props.C02

