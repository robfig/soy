/-
  Where `s.node` can be after walking a tree: where it was, or at the position of a node the walk visits
  (Props/C19b.lean).  `Step S` obeys the law of the walk (`stepLaw`) whatever the scope, the state and the
  runner of calls are: the callee's state is its own, the caller's node is restored.
-/
import SoyVerif.Lemmas.EvalWalk

namespace SoyVerif.Model.Eval
open SoyVerif SoyVerif.Model

/-- after the run, `s.node` is where it was or at a position in `S` -/
def Tracks (S : Nat → Prop) (run : Run) : Prop :=
  ∀ ctx st, (run ctx st).st.node = st.node ∨ S (run ctx st).st.node

def Step (S : Nat → Prop) (st0 st : St) : Prop := st.node = st0.node ∨ S st.node

theorem Step.refl (S : Nat → Prop) (st : St) : Step S st st := Or.inl rfl
theorem Step.trans {S : Nat → Prop} {a b c : St} (h1 : Step S a b) (h2 : Step S b c) : Step S a c := by
  rcases h2 with h | h
  · rcases h1 with h' | h'
    · exact Or.inl (by rw [h, h'])
    · exact Or.inr (by rw [h]; exact h')
  · exact Or.inr h
theorem Step.of_node {S : Nat → Prop} {a b : St} (h : b.node = a.node) : Step S a b := Or.inl h

theorem stepLaw (S : Nat → Prop) : Law (fun _ => True) (fun _ => Step S) (fun _ _ => True) (fun _ => True) S where
  ok := trivial
  err := trivial
  chain h1 h2 _ _ := h1.trans h2
  data _ _ _ _ := Or.inl rfl
  grow _ _ _ := Or.inl rfl
  move _ _ h := h
  imp _ a ctx s _ := Or.inl (noteImpossible_node a ctx s)
  set _ h := Or.inl (set_ghost h).1
  pre_T _ _ := trivial
  pre_push _ _ := trivial
  sh_push _ _ _ := trivial
  sh_enter _ _ _ := trivial

section
variable {S : Nat → Prop} (g : GEnv) (phs : List (Nat × Bytes × Run)) (body : MsgParts)
  (hphs : ∀ e ∈ phs, Tracks S e.2.2) (hbody : Sub S (posParts body))
include hphs hbody

/- By hand, not a reading of `Law.mparts`: the placeholder runs are only known to be `Tracks` (no `r.ctx = ctx`
   after an ok run, which `RunOk` would need). -/
mutual
theorem evalMParts_tracks : (parts : MParts) → Tracks S (evalMParts g phs body parts)
  | .nil => by intro ctx st; unfold evalMParts; exact Or.inl rfl
  | .cons (.raw t) rest => by
    intro ctx st
    unfold evalMParts
    exact (Step.of_node (S := S) (a := st) (b := write st t) rfl).trans (evalMParts_tracks rest ctx _)
  | .cons (.ph name) rest => by
    intro ctx st
    unfold evalMParts
    split
    · exact Or.inl rfl
    · rename_i run hp
      have hrun : Tracks S run := by
        rcases pickPh_mem name phs none run hp with ⟨e, he, her⟩ | ⟨d, hd⟩
        · rw [← her]; exact hphs e he
        · simp at hd
      simp only
      split
      · exact Step.trans (hrun ctx st) (evalMParts_tracks rest _ _)
      · exact hrun ctx st
  | .cons (.plural vn cases) rest => by
    intro ctx st
    unfold evalMParts
    split
    · exact Or.inl rfl
    · rename_i ve hve
      split
      · rename_i i st1 he
        have e1 : Step S st st1 := Step.of_node ((evalIn_ghost he).1)
        split
        · exact e1
        · simp only
          split
          · exact e1
          · rename_i b _ _
            have hc := evalMCases_tracks cases (b.pluralCase i.toInt).toNat ctx st1
            split
            · exact (e1.trans hc).trans (evalMParts_tracks rest _ _)
            · exact e1.trans hc
      · rename_i st1 he; exact Or.inl ((evalIn_ghost he).1)
      · exact Or.inr (findPlural_sub body vn ve hve hbody _ (evalInPos_mem g ve ctx st))
theorem evalMCases_tracks : (cases : MCases) → (i : Nat) → Tracks S (evalMCases g phs body cases i)
  | .nil, _ => by intro ctx st; unfold evalMCases; exact Or.inl rfl
  | .cons parts _, 0 => by intro ctx st; unfold evalMCases; exact evalMParts_tracks parts ctx st
  | .cons _ rest, i + 1 => by intro ctx st; unfold evalMCases; exact evalMCases_tracks rest i ctx st
end
end

theorem enter_node {cd cctx : Scope} {s s2 : St} (h : enter cd s = some (cctx, s2)) : s2.node = s.node := by
  cases cd with
  | nil => simp [enter] at h
  | cons f r => simp only [enter, push, Option.some.injEq, Prod.mk.injEq] at h; rw [← h.2]

section
variable {S : Nat → Prop} (g : GEnv) (esc : Bool) (call : Registry.Tmpl → Run)

/-- in the form of `Law.cmd`'s callee hypothesis at `Sh := fun _ => True`, `K := fun _ => True`: hence the `True`
    argument and the `True ∧` -/
theorem step_call (t : Registry.Tmpl) (sc : Scope) (s : St) (_ : True) :
    True ∧ Step S s (atNode (call t (push sc s).1 (push sc s).2).st s.node) := ⟨trivial, Or.inl rfl⟩

theorem Tracks.of_ok {run : Run} (h : RunOk (fun _ => True) (fun _ => Step S) (fun _ _ => True) (fun _ => True) run) :
    Tracks S run := fun ctx st => (h ctx st trivial trivial).rel

theorem execCmd_tracks : (c : Cmd) → Sub S (posCmd c) → Tracks S (execCmd g esc call c) :=
  fun c h => .of_ok ((stepLaw S).cmdOk g esc call (step_call call) c h)

theorem execCmds_tracks : (cs : CmdList) → Sub S (posCmds cs) → Tracks S (execCmds g esc call cs) :=
  fun cs h => .of_ok ((stepLaw S).cmds g esc call (step_call call) cs h)

theorem execConds_tracks : (cs : CondList) → Sub S (posConds cs) → Tracks S (execConds g esc call cs) :=
  fun cs h ctx st => ((stepLaw S).conds g esc call (step_call call) cs h ctx st trivial).rel

theorem execCases_tracks : (cs : CaseList) → (dflt : Option Run) → (∀ d, dflt = some d → Tracks S d) → (sv : Value) →
    Sub S (posCases cs) → Tracks S (execCases g esc call cs dflt sv) :=
  fun cs dflt hd sv h ctx st => (stepLaw S).cases g esc call (step_call call) (fun _ st r => Step S st r.st) (fun h => h.rel)
    (fun e h => e.trans h) cs dflt (fun d e ctx st _ _ => hd d e ctx st) sv h ctx st trivial trivial

theorem execParams_tracks : (ps : ParamList) → Sub S (posParams ps) → (cd : Scope) → Tracks S (execParams g esc call ps cd) :=
  fun ps h cd ctx st => ((stepLaw S).params g esc call (step_call call) ps h cd ctx st trivial trivial).rel

theorem walkMsgBody_tracks : (ps : MsgParts) → Sub S (posParts ps) → Tracks S (walkMsgBody g esc call ps) :=
  fun ps h => .of_ok ((stepLaw S).parts g esc call (step_call call) ps h)

theorem walkPluralCases_tracks : (cs : PluralCases) → Sub S (posPl cs) → (dflt : Run) → Tracks S dflt → (i : Int) →
    Tracks S (walkPluralCases g esc call cs dflt i) :=
  fun cs h dflt hd i ctx st => (stepLaw S).pl g esc call (step_call call) (fun _ st r => Step S st r.st) (fun h => h.rel)
    cs h dflt (fun ctx st _ _ => hd ctx st) i ctx st trivial trivial

theorem execPh_tracks : (b : MsgPhBody) → Sub S (posPh b) → Tracks S (execPh g esc call b) :=
  fun b h => .of_ok ((stepLaw S).ph g esc call (step_call call) b h)

theorem phAll_tracks : (ps : MsgParts) → (d : Nat) → Sub S (posParts ps) → ∀ e ∈ phAll g esc call ps d, Tracks S e.2.2 :=
  fun ps d h e he => .of_ok ((stepLaw S).phAll g esc call (step_call call) ps d h e he)

theorem phAllCases_tracks : (cs : PluralCases) → (d : Nat) → Sub S (posPl cs) → ∀ e ∈ phAllCases g esc call cs d, Tracks S e.2.2 :=
  fun cs d h e he => .of_ok ((stepLaw S).phAllCases g esc call (step_call call) cs d h e he)
end

end SoyVerif.Model.Eval
