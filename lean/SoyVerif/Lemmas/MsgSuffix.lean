/-
  Facts about `strconv.Itoa` and the suffix search of `setPlaceholderNames` step 2:
  decimal rendering is injective and contains no underscore, hence `base_N` determines
  both `base` and `N`; the inner `for` loop always finds a free suffix within
  `len(baseNameToRepNodes)+1` rounds (pigeonhole).
-/
import SoyVerif.Model.Msg

namespace SoyVerif.Model.Msg

theorem digitByte_range {c : Char} (h : c.isDigit = true) :
    48 ≤ (digitByte c).toNat ∧ (digitByte c).toNat ≤ 57 ∧ (digitByte c).toNat = c.toNat := by
  have h' : 48 ≤ c.toNat ∧ c.toNat ≤ 57 := by
    simp only [Char.isDigit, Bool.and_eq_true, decide_eq_true_eq] at h
    have h1 := UInt32.le_iff_toNat_le.mp h.1
    have h2 := UInt32.le_iff_toNat_le.mp h.2
    simp at h1 h2
    exact ⟨h1, h2⟩
  have : (digitByte c).toNat = c.toNat % 256 := by
    simp [digitByte]
  omega

theorem mem_itoa_digit {n : Nat} {b : UInt8} (h : b ∈ itoa n) : 48 ≤ b.toNat ∧ b.toNat ≤ 57 := by
  simp only [itoa, List.mem_map] at h
  obtain ⟨c, hc, rfl⟩ := h
  have := digitByte_range (Nat.isDigit_of_mem_toDigits (by decide) (by decide) hc)
  omega

theorem underscore_not_mem_itoa (n : Nat) : (95 : UInt8) ∉ itoa n := by
  intro h
  have := mem_itoa_digit h
  simp at this

theorem map_inj_on {α β : Type} (f : α → β) (P : α → Prop)
    (inj : ∀ x y, P x → P y → f x = f y → x = y) :
    ∀ l₁ l₂ : List α, (∀ x ∈ l₁, P x) → (∀ x ∈ l₂, P x) → l₁.map f = l₂.map f → l₁ = l₂
  | [], [], _, _, _ => rfl
  | [], _ :: _, _, _, h => by simp at h
  | _ :: _, [], _, _, h => by simp at h
  | a :: l₁, b :: l₂, h₁, h₂, h => by
    simp only [List.map_cons, List.cons.injEq] at h
    have hab := inj a b (h₁ a (by simp)) (h₂ b (by simp)) h.1
    have := map_inj_on f P inj l₁ l₂ (fun x hx => h₁ x (by simp [hx])) (fun x hx => h₂ x (by simp [hx])) h.2
    rw [hab, this]

theorem itoa_inj {a b : Nat} (h : itoa a = itoa b) : a = b := by
  have hd : Nat.toDigits 10 a = Nat.toDigits 10 b := by
    refine map_inj_on digitByte (fun c => c.isDigit = true) ?_ _ _
      (fun c hc => Nat.isDigit_of_mem_toDigits (by decide) (by decide) hc)
      (fun c hc => Nat.isDigit_of_mem_toDigits (by decide) (by decide) hc) h
    intro x y hx hy hxy
    have h1 := (digitByte_range hx).2.2
    have h2 := (digitByte_range hy).2.2
    have : x.toNat = y.toNat := by rw [← h1, ← h2, hxy]
    apply Char.ext
    apply UInt32.toNat_inj.mp
    exact this
  have := congrArg (fun l => Nat.ofDigitChars 10 l 0) hd
  simpa using this

theorem suffixed_inj {b₁ b₂ : Bytes} {k₁ k₂ : Nat} (h : suffixed b₁ k₁ = suffixed b₂ k₂) :
    b₁ = b₂ ∧ k₁ = k₂ := by
  unfold suffixed at h
  rcases List.append_eq_append_iff.mp h with ⟨c, hc, h2⟩ | ⟨c, hc, h2⟩
  · -- b₂ = b₁ ++ c, 95 :: itoa k₁ = c ++ 95 :: itoa k₂
    cases c with
    | nil => simp at h2 hc; exact ⟨hc.symm, itoa_inj h2⟩
    | cons x c =>
      simp only [List.cons_append, List.cons.injEq] at h2
      exfalso
      apply underscore_not_mem_itoa k₁
      rw [h2.2]; simp
  · cases c with
    | nil => simp at h2 hc; exact ⟨hc, itoa_inj h2.symm⟩
    | cons x c =>
      simp only [List.cons_append, List.cons.injEq] at h2
      exfalso
      apply underscore_not_mem_itoa k₂
      rw [h2.2]; simp

theorem findSuffix_ge (keys : List Bytes) (base : Bytes) :
    ∀ fuel next, next ≤ findSuffix keys base fuel next
  | 0, next => by simp [findSuffix]
  | fuel + 1, next => by
    unfold findSuffix
    split
    · exact Nat.le_trans (Nat.le_succ _) (findSuffix_ge keys base fuel (next + 1))
    · exact Nat.le_refl _

/-- pigeonhole: `ks` covers every candidate `base_m` (m ≥ next) that is a key, and is
    shorter than the fuel — so the loop stops at a candidate that is not a key. -/
theorem findSuffix_free_aux (keys : List Bytes) (base : Bytes) :
    ∀ fuel next (ks : List Bytes), ks.length < fuel →
      (∀ m, next ≤ m → suffixed base m ∈ keys → suffixed base m ∈ ks) →
      suffixed base (findSuffix keys base fuel next) ∉ keys
  | 0, _, _, h, _ => by omega
  | fuel + 1, next, ks, hlen, hcov => by
    unfold findSuffix
    split
    case isTrue hc =>
      have hmem : suffixed base next ∈ keys := by simpa using hc
      have hin : suffixed base next ∈ ks := hcov next (Nat.le_refl _) hmem
      apply findSuffix_free_aux keys base fuel (next + 1) (ks.erase (suffixed base next))
      · rw [List.length_erase_of_mem hin]
        have : 0 < ks.length := List.length_pos_of_mem hin
        omega
      · intro m hm hk
        have hne : suffixed base m ≠ suffixed base next := by
          intro e
          have := (suffixed_inj e).2
          omega
        exact (List.mem_erase_of_ne hne).mpr (hcov m (by omega) hk)
    case isFalse hc =>
      simpa using hc

theorem findSuffix_free (keys : List Bytes) (base : Bytes) (next : Nat) :
    suffixed base (findSuffix keys base (keys.length + 1) next) ∉ keys :=
  findSuffix_free_aux keys base _ next keys (Nat.lt_succ_self _) (fun _ _ h => h)

end SoyVerif.Model.Msg
