/-
  `lexText` and what it calls — line, block and soydoc comments — walked in the judgement `At` (Lemmas/LexerAt.lean);
  at the end `step_ok`: every state function delivers `Post`, the theorem Props/C05 and Props/C05linear stand on.
-/
import SoyVerif.Lemmas.LexerStates2

namespace SoyVerif.Model.Lex
open SoyVerif SoyVerif.Model

variable {n : Int} {l0 l : Lexer}

theorem lexLineComment_at (h : At n l0 l 1 1 0) : Sat (lexLineComment l) (Post n .text l0) := by
  unfold lexLineComment
  apply (h.scan _ _).andThen
  intro (r, l1) ⟨_, S⟩
  exact S.here.emitTo fun _ => trivial

/-- the loop of `lexBlockComment`, entered behind the `/*` that stands at `l.start` -/
theorem lexBlockComment_at : ∀ (m : Nat) {l : Lexer} (star : Bool), (n - l.pos).toNat = m → At n l0 l 0 1 0 →
    ErrItemOK l0.input ⟨.tError, l.start.toNat, [clsComment]⟩ → Sat (lexBlockComment l star) (Post n .text l0) := by
  intro m
  induction m using Nat.strongRecOn with
  | _ m ih =>
    intro l star hm h hcm
    obtain ⟨⟨r, l1⟩, hnx, R⟩ := h.next
    unfold lexBlockComment
    split
    · rename_i e; rw [hnx] at e; cases e
    · rename_i r' l1' e
      rw [hnx] at e
      cases e
      -- the comment is never closed: reported at its `/*`, `l.start`
      refine Sat.ite (fun _ => R.here.errorfAt_start (R.start ▸ hcm)) fun hE => ?_
      have hlt : (n - l1.pos).toNat < m := by have := R.lt hE; have := R.here.le_len; omega
      have h1 : At n l0 l1 0 1 0 := (R.fwd hE).weak
      refine Sat.ite' (fun _ => ih _ hlt _ rfl h1 (R.start ▸ hcm)) (Sat.ite' (fun _ => ?_) (ih _ hlt _ rfl h1 (R.start ▸ hcm)))
      obtain ⟨l2, e2, h2, _, _⟩ := (R.fwd hE).emit (t := .tComment)
      rw [e2]
      exact Sat.ret (h2.post trivial)

/-- the second half of `lexSoyDocParam`; the param name may be empty: one item of credit is needed -/
theorem lexSoyDocParamName_at (h : At n l0 l 0 1 1) : Sat (lexSoyDocParamName l) fun l' => At n l0 l' 0 1 0 := by
  unfold lexSoyDocParamName
  obtain ⟨⟨r1, l1⟩, e1, _, S1⟩ := h.scan sdpSkip (by decide)
  simp only [e1]
  obtain ⟨⟨r2, l2⟩, e2, hq2, S2⟩ := S1.back.ignore.scan sdpName (by decide)
  simp only [e2]
  by_cases he : r2 = eof
  · subst he
    simp only [ne_eq, not_true_eq_false, if_false, show isSpace eof = false by decide]
    obtain ⟨l3, e3, h3, _, _⟩ := S2.here.emit (t := .tIdent)
    simp only [e3, Bool.false_eq_true, if_false]
    exact Sat.ret h3.ignore.weak
  · simp only [ne_eq, he, not_false_eq_true, if_true]
    -- back over the delimiter, `l.pos--`
    obtain ⟨l3, e3, h3, _, hp3⟩ := ((S2.fwd he).addPos_neg (-1)).emit (t := .tIdent)
    simp only [e3]
    split
    · have hn : l3.pos + 1 ≤ n := by have := S2.here.le_len; rw [hp3, addPos_pos]; omega
      exact Sat.ret ((h3.addPos 1 hn).ignore.weak)
    · exact Sat.ret h3.ignore.weak

theorem lexSoyDocParam_at (h : At n l0 l 0 1 0) (h6 : l.pos + 6 ≤ n) : Sat (lexSoyDocParam l) fun l' => At n l0 l' 0 1 0 := by
  unfold lexSoyDocParam
  dsimp only
  obtain ⟨⟨ch, l1⟩, e1, R1⟩ := (h.addPos 6 h6).next
  have e1 : Lexer.next { l with pos := l.pos + 6 } = some (ch, l1) := e1
  simp only [e1]
  refine Sat.ite' (fun _ => ?_) (Sat.ite' (fun _ => ?_) (Sat.ret R1.here.weak))
  · obtain ⟨⟨c2, l2⟩, e2, R2⟩ := R1.here.next
    simp only [e2]
    refine Sat.ite' (fun _ => Sat.ret R2.here.weak) ?_
    obtain ⟨l3, e3, h3, _, _⟩ := R2.back.emit (t := .tSoyDocOptionalParam)
    simp only [e3]
    exact lexSoyDocParamName_at h3.weak
  · obtain ⟨l3, e3, h3, _, _⟩ := R1.back.emit (t := .tSoyDocParam)
    simp only [e3]
    exact lexSoyDocParamName_at h3.weak

theorem isEndOfLine_nonneg {r : Int} (h : isEndOfLine r = true) : 0 ≤ r := by
  simp only [isEndOfLine, Bool.or_eq_true, beq_iff_eq] at h
  omega

/-- the loop of lexSoyDoc, entered after input has been consumed; the comment began at `ds`.  Where the walk steps back
    to look for "@param", the model's own `lexSoyDocParam_spec` says the param is not left in front of that place. -/
theorem lexSoyDocLoop_at {ds : Int} (hds : ds ≤ n) (hde : ErrItemOK l0.input ⟨.tError, ds.toNat, [clsSoyDoc]⟩) :
    ∀ (m : Nat) {l : Lexer} (star sol : Bool), 2 * (n - l.pos).toNat + (if sol = true then 1 else 0) = m →
    At n l0 l 0 1 0 → Sat (lexSoyDocLoop l ds star sol) (Post n .text l0) := by
  intro m
  induction m using Nat.strongRecOn with
  | _ m ih =>
    intro l star sol hm h
    obtain ⟨⟨ch, l1⟩, hnx, R⟩ := h.next
    unfold lexSoyDocLoop
    split
    · rename_i e; rw [hnx] at e; cases e
    · rename_i ch' l1' e
      rw [hnx] at e
      cases e
      -- the soydoc comment is never closed: reported at its `/**`, `docStart`
      refine Sat.dite (fun _ => R.here.errorfAt hds hde) fun hE => ?_
      have hE : ch ≠ -1 := hE
      have hlt := R.lt hE
      have hn1 := R.here.le_len
      have h1 : At n l0 l1 0 1 0 := (R.fwd hE).weak
      refine Sat.ite' (fun _ => ?_) (Sat.dite (fun hS => ?_) fun hS => ?_)
      · obtain ⟨l2, e2, h2, _⟩ := (R.fwd hE).maybeEmit_le (m := 2)
        simp only [e2]
        obtain ⟨l3, e3, h3, _, _⟩ := h2.emit (t := .tSoyDocEnd)
        simp only [e3]
        exact Sat.ret (h3.post trivial)
      · subst hS
        simp only [if_true] at hm
        have hrec : 2 * (n - l1.pos).toNat + 1 < m := by omega
        refine Sat.dite (fun _ => ih _ hrec _ _ rfl h1) fun hSp => Sat.dite (fun _ => ih _ hrec _ _ rfl h1) fun _ => ?_
        -- `l.pos--; l.ignore()`: does "@param" stand here?
        have hX : At n l0 (l1.addPos (-1)).ignore 0 1 0 := ((R.fwd hE).addPos_neg (-1)).ignore.weak
        have hl1 : (l1.input.size : Int) = n := R.here.lx.len
        have hs0 := h.start_nonneg
        have hsp := h.start_le
        have hpre := hasPrefixAt_sat (s := l1.input) (pos := l1.pos - 1) (pre := atParam) (by omega) (by omega)
        split
        · exact absurd ‹_› hpre.ne_none
        · rename_i pre hPre
          have hlen := hpre.of_eq hPre
          simp only [atParam, List.length_cons, List.length_nil] at hlen
          have hsat : Sat (if pre = true then lexSoyDocParam (l1.addPos (-1)).ignore else some (l1.addPos (-1)).ignore)
              fun l2 => At n l0 l2 0 1 0 ∧ l1.pos - 1 ≤ l2.pos := by
            refine Sat.ite (fun hp => ?_) fun _ => Sat.ret ⟨hX, Int.le_refl _⟩
            have h6 : l1.pos - 1 + 6 ≤ n := by have := hlen hp; omega
            obtain ⟨l2, e2, h2⟩ := lexSoyDocParam_at hX h6
            exact ⟨l2, e2, h2, (lexSoyDocParam_spec e2 (by simp only [Lexer.ignore, Lexer.addPos, Lexer.len]; omega)).2⟩
          split
          · exact absurd ‹_› hsat.ne_none
          · rename_i l2 hP
            obtain ⟨h2, hge⟩ := hsat.of_eq hP
            refine Sat.dite (fun hEol => absurd (isEndOfLine_isSpaceEOL hEol) hSp) fun _ => ?_
            exact ih _ (show 2 * (n - l2.pos).toNat + 0 < m by omega) _ _ rfl h2
      · have hS : sol = false := by simpa using hS
        subst hS
        simp only [Bool.false_eq_true, if_false] at hm
        refine Sat.dite (fun _ => ?_) fun _ => ih _ (show 2 * (n - l1.pos).toNat + 0 < m by omega) _ _ rfl h1
        have hm1 := (R.fwd hE).maybeEmit_le (m := 1)
        split
        · exact absurd ‹_› hm1.ne_none
        · rename_i l2 hM
          obtain ⟨h2, hp2⟩ := hm1.of_eq hM
          exact ih _ (show 2 * (n - l2.pos).toNat + 1 < m by omega) _ _ rfl h2.weak

theorem lexSoyDoc_at (h : At n l0 l 1 1 0)
    (hdoc : byteAt l0.input l.start.toNat = 47 ∧ byteAt l0.input (l.start.toNat + 1) = 42 ∧
      byteAt l0.input (l.start.toNat + 2) = 42) : Sat (lexSoyDoc l) (Post n .text l0) := by
  unfold lexSoyDoc
  obtain ⟨l1, e1, h1, _, _⟩ := h.emit (t := .tSoyDocStart)
  simp only [e1]
  exact lexSoyDocLoop_at (Int.le_trans h.start_le h.le_len) (doc_err hdoc) _ _ _ rfl h1.weak

/-- the loop of lexText started at `l0`: once a character has been read (`lastChar ≠ noChar`) the pending text is not
    empty -/
theorem lexTextLoop_at : ∀ (m : Nat) {l : Lexer} (lastChar : Int), (n - l.pos).toNat = m → At n l0 l 0 0 0 →
    (lastChar ≠ noChar → At n l0 l 1 0 0) → Sat (lexTextLoop l lastChar) (Post n .text l0) := by
  intro m
  induction m using Nat.strongRecOn with
  | _ m ih =>
    intro l lastChar hm h hlast
    obtain ⟨⟨r, l1⟩, hnx, R⟩ := h.next
    unfold lexTextLoop
    split
    · rename_i e; rw [hnx] at e; cases e
    · rename_i r' l1' e
      rw [hnx] at e
      cases e
      refine Sat.dite (fun hS => ?_) fun _ => Sat.ite (fun hbrace => ?_) fun _ => Sat.ite' (fun _ => R.here.errorf)
        (Sat.dite (fun _ => ?_) fun hE => ?_)
      · -- r == '/': one byte
        have h1 := R.fwd (by omega)
        obtain ⟨hb1, hp1, _⟩ := R.ascii (by omega) (by omega)
        obtain ⟨⟨r2, l2⟩, hnx2, R2⟩ := h1.next
        -- the loop goes on behind the '/': `switch r` has no case for it
        have hloop : Sat (lexTextLoop l2.backup r) (Post n .text l0) :=
          ih _ (by have := R2.back_pos; have := h1.le_len; omega) _ rfl R2.back.weak fun _ => R2.back.weak
        split
        · rename_i e; rw [hnx2] at e; cases e
        · rename_i r2' l2' e
          rw [hnx2] at e
          cases e
          refine Sat.ite (fun hsl => ?_) fun _ => Sat.ite (fun hstar => ?_) fun _ => hloop
          · dsimp only
            generalize (if lastChar = noChar ∧ l2.lastEmit.val ≠ [] then
              (((l2.lastEmit.val.getLast?.getD 0).toNat : Nat) : Int) else lastChar) = lce
            refine Sat.ite' (fun _ => ?_) hloop
            by_cases hlc : lastChar ≠ noChar
            · -- `l.start++`: the blank in front of `//` is dropped; it is there, the text read before is pending
              have R' := (hlast hlc).next.of_eq hnx
              have R2' := (R'.fwd (by omega)).next.of_eq hnx2
              obtain ⟨l3, e3, h3, _⟩ := (R2'.fwd (by omega)).maybeEmit (m := 3)
              simp only [e3, if_pos hlc]
              exact lexLineComment_at (h3.startSucc (e := 2)).weak
            · obtain ⟨l3, e3, h3, _⟩ := (R2.fwd (by omega)).maybeEmit_le (m := 3)
              simp only [e3, if_neg hlc]
              exact lexLineComment_at h3.weak
          · -- "/*": the comment begins where `/` and `*` were read; that is where `maybeEmitText` leaves `start`
            obtain ⟨hb2, hp2, _⟩ := R2.ascii (by omega) (by omega)
            obtain ⟨l3, e3, h3, hs3, hq3⟩ := (R2.fwd (by omega)).maybeEmit (m := 2)
            simp only [e3]
            have hs0 := h.start_nonneg
            have hpe := h.start_le
            have hcm : byteAt l0.input l3.start.toNat = 47 ∧ byteAt l0.input (l3.start.toNat + 1) = 42 := by
              rw [show l3.start = l.pos by omega]
              rw [hp1, show (l.pos + 1).toNat = l.pos.toNat + 1 from Int.toNat_add (by omega) (by decide)] at hb2
              omega
            obtain ⟨⟨r3, l4⟩, e4, R3⟩ := h3.next
            simp only [e4]
            refine Sat.ite (fun hstar3 => ?_) fun _ => ?_
            · obtain ⟨hb3, _⟩ := R3.ascii (by omega) (by omega)
              obtain ⟨⟨p4, l5⟩, e5, h5, _, hs5, _⟩ := (R3.fwd (by omega)).peek
              simp only [e5]
              refine Sat.ite' (fun _ => ?_) ?_
              · -- "/**/": an empty block comment
                obtain ⟨⟨r6, l6⟩, e6, R6⟩ := h5.next
                simp only [e6]
                obtain ⟨l7, e7, h7, _, _⟩ := R6.here.emit (t := .tComment)
                simp only [e7]
                exact Sat.ret (h7.post trivial)
              · refine lexSoyDoc_at h5.weak ?_
                rw [hs5, R3.start]
                refine ⟨hcm.1, hcm.2, ?_⟩
                rw [hq3, hp2, hp1, show (l.pos + 1 + 1).toNat = l.pos.toNat + 2 by omega] at hb3
                rw [show l3.start = l.pos by omega]
                omega
            · exact lexBlockComment_at _ _ rfl R3.back.weak (R3.start ▸ cmt_err hcm)
      · -- '{': `lexLeftDelim` starts at the `{` just seen
        obtain ⟨hb, _⟩ := R.ascii (by omega) (by omega)
        obtain ⟨l2, e2, h2, hs2, hq2⟩ := R.back.maybeEmit (m := 0)
        simp only [e2]
        refine Sat.ret (h2.post_same ⟨by omega, ?_⟩)
        rw [hq2, R.back_pos]
        omega
      · obtain ⟨l2, e2, h2, _⟩ := R.back.maybeEmit (m := 0)
        simp only [e2]
        obtain ⟨l3, e3, h3⟩ := h2.emit_eof (st := .text)
        simp only [e3]
        exact Sat.ret h3
      · exact ih _ (by have := R.lt hE; have := R.here.le_len; omega) _ rfl (R.fwd hE).weak fun _ => (R.fwd hE).weak

theorem lexText_ok {n : Int} {l : Lexer} (hg : Good n l) :
    Sat (lexText l) (Post n .text l) :=
  lexTextLoop_at _ _ rfl (At.of_good hg) fun h => absurd rfl h

theorem step_ok {n : Int} (s : St) {l : Lexer} (hg : Good n l) (hx : Extra s l) : Sat (step s l) (Post n s l) := by
  cases s with
  | text => exact lexText_ok hg
  | leftDelim => exact lexLeftDelim_ok hg hx
  | rightDelim => exact lexRightDelim_ok hg hx
  | rightDelimEnd => exact lexRightDelimEnd_ok hg hx
  | beginTag => exact lexBeginTag_ok hg hx
  | insideTag => exact lexInsideTag_ok hg hx
  | ident => exact lexIdent_ok hg hx
  | number => exact lexNumber_ok hg
  | headerParam => exact lexHeaderParam_ok hg
  | css => exact lexCss_ok hg
  | literal => exact lexLiteral_ok hg
  | str q => exact lexString_ok hg hx

end SoyVerif.Model.Lex
