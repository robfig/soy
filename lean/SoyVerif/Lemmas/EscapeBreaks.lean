/-
  Lemmas about changeNewlineToBr and insertWordBreaks (Model/Directives.lean): both write the escaped text of the
  value piece by piece (the bytes written for one input byte), with nothing or their tag in front of a piece
  (`Marked`, `nl_marked`, `wb_marked`) — for insertWordBreaks this is the entity-aware `inEntity` logic, and needs
  that a multi-byte rune only steps over continuation bytes.  Read off `Marked`:
  * removing the inserted <br> / <wbr> gives back the escaped text (no data byte is touched);
  * every `&` of the output, as written, still begins a complete character reference
    (no reference is cut by an inserted tag).
-/
import SoyVerif.Model.Directives
import SoyVerif.Spec.Html
import SoyVerif.Lemmas.EscapeHtml
import SoyVerif.Lemmas.Utf8
import SoyVerif.Lemmas.Utf8Seq

namespace SoyVerif.Lemmas.EscapeBreaks
open SoyVerif SoyVerif.Model SoyVerif.Spec SoyVerif.Model.Directives SoyVerif.Lemmas.EscapeHtml SoyVerif.Lemmas.Utf8

theorem removeTag_tag {t : Bytes} (ht : t = brTag ∨ t = wbrTag) (X : Bytes) :
    removeTagGo t 0 (t ++ X) = removeTagGo t 0 X := by
  rcases ht with rfl | rfl <;> simp [removeTagGo, brTag, wbrTag]

theorem removeTag_other {t : Bytes} (ht : t = brTag ∨ t = wbrTag) (b : UInt8) (X : Bytes) (h : b ≠ 60) :
    removeTagGo t 0 (b :: X) = b :: removeTagGo t 0 X := by
  have : ¬ (60 = b) := fun e => h e.symm
  rcases ht with rfl | rfl <;> simp [removeTagGo, brTag, wbrTag, this]

def notNL (b : UInt8) : Bool := b != 13 && b != 10

theorem amps_tag {t : Bytes} (ht : t = brTag ∨ t = wbrTag) (X : Bytes) : ampsStartRefs (t ++ X) = ampsStartRefs X := by
  rcases ht with rfl | rfl <;> simp [ampsStartRefs, brTag, wbrTag]

/-- what one iteration outside an entity writes before a rune of value `d1`, `c` characters after the last space or break -/
def wbPre (m : Int) (c d1 : Nat) : Bytes := if d1 == 32 then [] else if (c : Int) ≥ m then wbrTag else []
/-- … and the count of characters since the last space or break after it -/
def wbChars (m : Int) (c d1 : Nat) : Nat := if d1 == 32 then 0 else if (c : Int) ≥ m then 1 else c + 1

/-- one iteration outside an entity, at the first byte `b` of a rune: the branches of `wordBreaksGo` as one equation -/
theorem wb_step0 (m : Int) (c : Nat) (b : UInt8) (r : Bytes) :
    wordBreaksGo m 0 c false (b :: r) =
      wbPre m c (decodeRune (b :: r)).1 ++ b :: wordBreaksGo m ((decodeRune (b :: r)).2 - 1)
        (wbChars m c (decodeRune (b :: r)).1)
        ((decodeRune (b :: r)).1 != 32 && (decodeRune (b :: r)).1 == 38) r := by
  rw [wordBreaksGo]
  simp only [Bool.false_eq_true, if_false, wbPre, wbChars]
  by_cases h32 : ((decodeRune (b :: r)).1 == 32) = true
  · have h' : ((decodeRune (b :: r)).1 != 32) = false := by simp [bne, h32]
    simp [h32, h']
  · have h' : ((decodeRune (b :: r)).1 != 32) = true := by simp [bne, h32]
    by_cases hm : (c : Int) ≥ m
    · simp [h32, hm, h']
    · simp [h32, hm, h']

/-- an entity is copied whole: the scan enters it at `&` and leaves it at `;` -/
theorem wb_entity (m : Int) (c : Nat) (b : UInt8) (hb : b = 34 ∨ b = 39 ∨ b = 38 ∨ b = 60 ∨ b = 62) (X : Bytes) :
    wordBreaksGo m 0 c false (htmlPiece b ++ X) =
      wbPre m c 38 ++ (htmlPiece b ++ wordBreaksGo m 0 (wbChars m c 38) false X) := by
  rcases htmlPiece_cases b with ⟨h34, h39, h38, h60, h62, _⟩ | hs
  · simp [h34, h39, h38, h60, h62] at hb
  · rcases hs with ⟨_, h⟩ | ⟨_, h⟩ | ⟨_, h⟩ | ⟨_, h⟩ | ⟨_, h⟩ <;>
      (rw [h, List.cons_append, wb_step0]; simp [wordBreaksGo, decodeRune])

theorem nlToBr_piece (p : Bool) (b : UInt8) (X : Bytes) (h13 : b ≠ 13) (h10 : b ≠ 10) :
    nlToBrGo p (htmlPiece b ++ X) = htmlPiece b ++ nlToBrGo false X := by
  rcases htmlPiece_cases b with ⟨_, _, _, _, _, h⟩ | ⟨_, h⟩ | ⟨_, h⟩ | ⟨_, h⟩ | ⟨_, h⟩ | ⟨_, h⟩ <;> rw [h] <;>
    simp [nlToBrGo, h13, h10]

/-- `o` is the escaped text of `s`, piece by piece, with nothing or the tag `t` in front of a piece; when `nl`, a CR or LF
    has no piece (only, possibly, the tag); without `nl` the rule `brk` never applies -/
inductive Marked (t : Bytes) (nl : Bool) : Bytes → Bytes → Prop
  | nil : Marked t nl [] []
  | piece (b : UInt8) {s o : Bytes} (pre : Bytes) : (pre = [] ∨ pre = t) → (nl = true → notNL b = true) →
      Marked t nl s o → Marked t nl (b :: s) (pre ++ (htmlPiece b ++ o))
  | brk (b : UInt8) {s o : Bytes} (pre : Bytes) : (pre = [] ∨ pre = t) → nl = true → notNL b = false →
      Marked t nl s o → Marked t nl (b :: s) (pre ++ o)

theorem removeTag_piece {t : Bytes} (ht : t = brTag ∨ t = wbrTag) (b : UInt8) (X : Bytes) :
    removeTagGo t 0 (htmlPiece b ++ X) = htmlPiece b ++ removeTagGo t 0 X := by
  rcases htmlPiece_cases b with ⟨_, _, _, h60, _, h⟩ | hs
  · rw [h]; exact removeTag_other ht b X h60
  · rcases hs with ⟨_, h⟩ | ⟨_, h⟩ | ⟨_, h⟩ | ⟨_, h⟩ | ⟨_, h⟩ <;> (rw [h]; simp [removeTag_other ht])

theorem Marked.removeTag {t : Bytes} (ht : t = brTag ∨ t = wbrTag) {nl : Bool} {s o : Bytes} (h : Marked t nl s o) :
    removeTagGo t 0 o = htmlEscape (if nl then s.filter notNL else s) := by
  induction h with
  | nil => cases nl <;> rfl
  | @piece b s' o' pre hpre hb _ ih =>
    have e : removeTagGo t 0 (pre ++ (htmlPiece b ++ o')) = htmlPiece b ++ removeTagGo t 0 o' := by
      rcases hpre with rfl | rfl
      · exact removeTag_piece ht b _
      · rw [removeTag_tag ht, removeTag_piece ht]
    rw [e, ih]
    cases nl
    · rfl
    · simp [hb rfl, htmlEscape]
  | @brk b s' o' pre hpre hnl hb _ ih =>
    subst hnl
    have e : removeTagGo t 0 (pre ++ o') = removeTagGo t 0 o' := by
      rcases hpre with rfl | rfl
      · rfl
      · exact removeTag_tag ht _
    rw [e, ih]
    simp [hb]

theorem Marked.amps {t : Bytes} (ht : t = brTag ∨ t = wbrTag) {nl : Bool} {s o : Bytes} (h : Marked t nl s o) :
    ampsStartRefs o = true := by
  induction h with
  | nil => rfl
  | piece b pre hpre _ _ ih =>
    rcases hpre with rfl | rfl
    · rw [List.nil_append, amps_piece, ih]
    · rw [amps_tag ht, amps_piece, ih]
  | brk b pre hpre _ _ _ ih =>
    rcases hpre with rfl | rfl
    · exact ih
    · rw [amps_tag ht, ih]

theorem nl_marked : ∀ (s : Bytes) (p : Bool), Marked brTag true s (nlToBrGo p (htmlEscape s))
  | [], _ => .nil
  | b :: r, p => by
    rw [htmlEscape]
    by_cases h13 : b = 13
    · subst h13
      exact .brk 13 brTag (Or.inr rfl) rfl rfl (nl_marked r true)
    by_cases h10 : b = 10
    · subst h10
      cases p
      · exact .brk 10 brTag (Or.inr rfl) rfl rfl (nl_marked r false)
      · exact .brk 10 [] (Or.inl rfl) rfl rfl (nl_marked r false)
    rw [nlToBr_piece p b _ h13 h10]
    exact .piece b [] (Or.inl rfl) (fun _ => by simp [notNL, h13, h10]) (nl_marked r false)

theorem wbPre_cases (m : Int) (c d1 : Nat) : wbPre m c d1 = [] ∨ wbPre m c d1 = wbrTag := by
  unfold wbPre
  split
  · exact Or.inl rfl
  · split
    · exact Or.inr rfl
    · exact Or.inl rfl

theorem wb_marked (m : Int) : ∀ (s : Bytes) (skip chars : Nat),
    ((htmlEscape s).take skip).all isCont = true →
    Marked wbrTag false s (wordBreaksGo m skip chars false (htmlEscape s)) := by
  intro s
  induction s with
  | nil => intro skip chars _; cases skip <;> exact .nil
  | cons b r ih =>
    intro skip chars hk
    have nonl : false = true → notNL b = true := fun h => nomatch h
    rw [htmlEscape] at hk ⊢
    cases skip with
    | succ k =>
      -- the byte is a continuation byte, hence copied
      have hpiece : htmlPiece b = [b] ∧ isCont b = true := by
        rcases htmlPiece_cases b with ⟨_, _, _, _, _, h⟩ | ⟨_, h⟩ | ⟨_, h⟩ | ⟨_, h⟩ | ⟨_, h⟩ | ⟨_, h⟩ <;>
          rw [h] at hk ⊢ <;> simp [isCont] at hk ⊢
        exact hk.1
      have := Marked.piece (t := wbrTag) b [] (Or.inl rfl) nonl (ih k chars (by
        rw [hpiece.1] at hk
        simp only [List.singleton_append, List.take_succ_cons, List.all_cons, Bool.and_eq_true] at hk
        exact hk.2))
      simpa [hpiece.1, wordBreaksGo] using this
    | zero =>
      rcases htmlPiece_cases b with ⟨_, _, h38, _, _, h⟩ | hs
      ·
        have hflag : ((decodeRune (b :: htmlEscape r)).1 != 32 && (decodeRune (b :: htmlEscape r)).1 == 38) = false ∧
            ((htmlEscape r).take ((decodeRune (b :: htmlEscape r)).2 - 1)).all isCont = true := by
          by_cases hlt : b < 0x80
          · rw [decodeRune_ascii b _ hlt]
            have : (b.toNat == 38) = false := by
              apply beq_false_of_ne
              intro e; exact h38 (UInt8.toNat_inj.1 (by simpa using e))
            simp [this]
          · obtain ⟨h128, _, hcont⟩ := decodeRune_high b (htmlEscape r) hlt
            have : ((decodeRune (b :: htmlEscape r)).1 == 38) = false := by
              apply beq_false_of_ne; omega
            simp [this, hcont]
        rw [h, List.singleton_append, wb_step0, hflag.1]
        have := Marked.piece (t := wbrTag) b (wbPre m chars (decodeRune (b :: htmlEscape r)).1) (wbPre_cases ..) nonl
          (ih _ (wbChars m chars (decodeRune (b :: htmlEscape r)).1) hflag.2)
        rwa [h, List.singleton_append] at this
      · have e : b = 34 ∨ b = 39 ∨ b = 38 ∨ b = 60 ∨ b = 62 := by
          rcases hs with ⟨e, _⟩ | ⟨e, _⟩ | ⟨e, _⟩ | ⟨e, _⟩ | ⟨e, _⟩ <;> simp [e]
        rw [wb_entity m chars b e]
        exact .piece b _ (wbPre_cases ..) nonl (ih 0 _ (by simp))

theorem removeBr_changeNewlineToBr (s : Bytes) : removeTag brTag (changeNewlineToBr s) = htmlEscape (s.filter notNL) :=
  (nl_marked s false).removeTag (Or.inl rfl)

theorem removeWbr_insertWordBreaks (s : Bytes) (n : Int) : removeTag wbrTag (insertWordBreaks s n) = htmlEscape s :=
  (wb_marked n s 0 0 (by simp)).removeTag (Or.inr rfl)

end SoyVerif.Lemmas.EscapeBreaks
