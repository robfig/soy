/-
  Helper lemmas for the refinement Model.Eval.evalE ⊑ Spec.Eval.eval (Props/C01.lean):
  the abstraction of model values, printing of values, the operators, the Int64 arithmetic of the model against
  the mathematical integers of the specification under the no-overflow guard, and one access step
  (`StepAgree`, `access_str` / `access_int` / `access_other`).
-/
import SoyVerif.Model.Eval
import SoyVerif.Lemmas.OutMeets

namespace SoyVerif.Refine
open SoyVerif SoyVerif.Model SoyVerif.Model.Eval
open SoyVerif.Spec.Eval (Val Out)

mutual
/-- abstraction of a model value: identities dropped, int64 read as an integer -/
def absV : Value → Val
  | .undefined => .undefined
  | .null => .null
  | .bool b => .bool b
  | .int i => .int i.toInt
  | .float f => .float f
  | .str s => .str s
  | .list _ xs => .list (absL xs)
  | .map _ kvs => .map (absK kvs)
def absL : List Value → List Val
  | [] => []
  | x :: xs => absV x :: absL xs
def absK : List (Bytes × Value) → List (Bytes × Val)
  | [] => []
  | (k, v) :: r => (k, absV v) :: absK r
end

def Scalar : Value → Bool
  | .list _ _ => false
  | .map _ _ => false
  | _ => true

/-! what a model value is when its abstraction has a given form: with these a `match` of the specification
    on `absL args` is turned into the same `match` of the model on `args` -/

theorem absV_int_iff {v : Value} {i : Int} : absV v = .int i ↔ ∃ l, v = .int l ∧ l.toInt = i := by
  cases v <;> simp [absV]

theorem absV_str_iff {v : Value} {s : Bytes} : absV v = .str s ↔ v = .str s := by
  cases v <;> simp [absV]

theorem absV_list_iff {v : Value} {xs : List Val} :
    absV v = .list xs ↔ ∃ id ys, v = .list id ys ∧ absL ys = xs := by
  cases v with
  | list id ys => exact ⟨fun h => ⟨id, ys, rfl, Val.list.inj h⟩, fun ⟨_, _, h, e⟩ => by cases h; rw [absV, e]⟩
  | _ => simp [absV]

theorem absV_map_iff {v : Value} {kvs : List (Bytes × Val)} :
    absV v = .map kvs ↔ ∃ id m, v = .map id m ∧ absK m = kvs := by
  cases v with
  | map id m => exact ⟨fun h => ⟨id, m, rfl, Val.map.inj h⟩, fun ⟨_, _, h, e⟩ => by cases h; rw [absV, e]⟩
  | _ => simp [absV]

theorem absL_nil_iff {vs : List Value} : absL vs = [] ↔ vs = [] := by
  cases vs <;> simp [absL]

theorem absL_cons_iff {vs : List Value} {x : Val} {xs : List Val} :
    absL vs = x :: xs ↔ ∃ v r, vs = v :: r ∧ absV v = x ∧ absL r = xs := by
  cases vs with
  | nil => simp [absL]
  | cons v r =>
    simp only [absL, List.cons.injEq]
    exact ⟨fun h => ⟨v, r, ⟨rfl, rfl⟩, h⟩, fun ⟨_, _, ⟨rfl, rfl⟩, h⟩ => h⟩

theorem showFloat_format (f : F64) (s : Bytes) (h : Spec.Eval.showFloat f = .val s) : F64.formatJS f = s := by
  unfold Spec.Eval.showFloat at h
  unfold F64.formatJS
  split at h
  · simp at h
  · rename_i hc
    simp only [Bool.or_eq_true, not_or, Bool.not_eq_true] at hc
    obtain ⟨⟨h1, h2⟩, h3⟩ := hc
    simp only [h1, h2, h3, Bool.false_eq_true, if_false]
    generalize F64.shortest f = ck at h ⊢
    obtain ⟨c, k⟩ := ck
    simp only at h ⊢
    split at h
    · simp at h
    · rename_i hw
      have hw' : ¬ (((F64.natDigits c).length : Int) + k - 1 < -6 ∨ 21 ≤ ((F64.natDigits c).length : Int) + k - 1) := by omega
      simp only [Bool.or_eq_true, decide_eq_true_eq, hw', if_false]
      simp only [Spec.Eval.Out.val.injEq] at h
      rw [← h]
      unfold F64.fmtF
      rfl

theorem showFloat_not_error (f : F64) : Spec.Eval.showFloat f ≠ .error := by
  unfold Spec.Eval.showFloat
  split
  · simp
  · generalize F64.shortest f = ck
    obtain ⟨c, k⟩ := ck
    simp only
    split <;> simp

theorem joinWith_comma : ∀ (l : List Bytes), Spec.Eval.joinWith [44, 32] l = Value.joinComma l
  | [] => rfl
  | [_] => rfl
  | x :: y :: r => by rw [Spec.Eval.joinWith, Value.joinComma, joinWith_comma (y :: r)]

theorem show_map1 (id : Nat) (k : Bytes) (v : Value) (hv : v ≠ .undefined)
    (h : (Spec.Eval.showVal (absV v)).MeetsOpt (str v)) :
    (Spec.Eval.showVal (absV (.map id [(k, v)]))).MeetsOpt (str (.map id [(k, v)])) := by
  have hS : Spec.Eval.showVal (absV (.map id [(k, v)])) =
      (Spec.Eval.showVal (absV v)).bind fun s => .val ([123] ++ k ++ [58, 32] ++ s ++ [125]) := by
    cases v <;> first | exact absurd rfl hv | simp [absV, absK, Spec.Eval.showVal]
  have hmi : Value.mapItems _root_.id [(k, v)] = (Value.toString _root_.id v).map fun s => [k ++ [58, 32] ++ s] := by
    cases v <;> first
      | exact absurd rfl hv
      | (simp only [Value.mapItems]
         generalize Value.toString _ _ = o
         cases o <;> rfl)
  have hM : str (.map id [(k, v)]) = (str v).map fun s => [123] ++ (k ++ [58, 32] ++ s) ++ [125] := by
    simp only [str, Value.render]
    rw [Value.toString, hmi]
    cases Value.toString _root_.id v <;> simp [Value.joinComma, Value.sortStrings, Value.insertSorted]
  rw [hS, hM]
  refine h.then (fun e => by rw [e]; rfl) fun s e => ?_
  rw [e]
  exact .val (by simp)

mutual
/-- printing ANY value: where the specification gives text the model gives the same text, where it gives an
    error (an undefined value, also inside a list) the model's String() panics; where the specification is
    open (a map with two or more entries, an undefined member of a map) nothing is said -/
theorem show_val : (mv : Value) → (Spec.Eval.showVal (absV mv)).MeetsOpt (str mv)
  | .undefined => .error (by simp [str, Value.render, Value.toString])
  | .null => .val (by simp [str, Value.render, Value.toString, Spec.Eval.sNull, Value.sNull])
  | .bool b => by
    cases b <;> exact .val (by simp [str, Value.render, Value.toString, Spec.Eval.sTrue, Value.sTrue, Spec.Eval.sFalse, Value.sFalse])
  | .int i => .val (by simp [str, Value.render, Value.toString])
  | .float f => by
    rw [absV, Spec.Eval.showVal]
    exact Out.meets_iff.2 ⟨fun s h => by simp [str, Value.render, Value.toString, showFloat_format f s h],
      fun h => absurd h (showFloat_not_error f)⟩
  | .str s => .val (by simp [str, Value.render, Value.toString])
  | .list _ xs => by
    simp only [absV, Spec.Eval.showVal, str, Value.render, Value.toString]
    refine (showList_meets xs).then (fun e => by rw [e]) fun items e => ?_
    rw [e, joinWith_comma]
    exact .val rfl
  | .map _ [] => .val (by simp [str, Value.render, Value.toString, Value.mapItems, Value.joinComma, Value.sortStrings])
  | .map _ [(k, v)] => by
    by_cases hv : v = .undefined
    · subst hv; exact .unspec
    · exact show_map1 _ k v hv (show_val v)
  | .map id (p :: q :: r) => by
    have h : Spec.Eval.showVal (absV (.map id (p :: q :: r))) = .unspec := by simp [absV, absK, Spec.Eval.showVal]
    rw [h]
    exact .unspec
theorem showList_meets : (xs : List Value) → (Spec.Eval.showList (absL xs)).MeetsOpt (Value.listItems id xs)
  | [] => .val rfl
  | x :: xs => by
    simp only [absL, Spec.Eval.showList, Value.listItems]
    refine (show_val x).then (fun e => by rw [show Value.toString id x = none from e]) fun s e => ?_
    rw [show Value.toString id x = some s from e]
    refine (showList_meets xs).then (fun e => by rw [e]) fun r e => ?_
    rw [e]
    exact .val rfl
end

theorem show_list : (xs : List Value) →
    (∀ items, Spec.Eval.showList (absL xs) = .val items → Value.listItems id xs = some items) ∧
    (Spec.Eval.showList (absL xs) = .error → Value.listItems id xs = none) :=
  fun xs => Out.meets_iff.1 (showList_meets xs)

theorem show_scalar (mv : Value) (_hs : Scalar mv = true) :
    (∀ s, Spec.Eval.showVal (absV mv) = .val s → str mv = some s) ∧
    (Spec.Eval.showVal (absV mv) = .error → str mv = none) := Out.meets_iff.1 (show_val mv)

theorem inI64_iff (i : Int) : Spec.Eval.inI64 i = true ↔ (-2 ^ 63 ≤ i ∧ i < 2 ^ 63) := by
  simp only [Spec.Eval.inI64, Spec.Eval.two63, decide_eq_true_eq]
  have e : (2 : Int) ^ 63 = 9223372036854775808 := by decide
  rw [e]
  exact decide_eq_true_iff

theorem bmod_id {n : Int} (h1 : -2 ^ 63 ≤ n) (h2 : n < 2 ^ 63) : n.bmod (2 ^ 64) = n :=
  Int.bmod_eq_of_le (by omega) (by omega)

theorem toInt_add_of (a b : Int64) (h : Spec.Eval.inI64 (a.toInt + b.toInt) = true) :
    (a + b).toInt = a.toInt + b.toInt := by
  rw [Int64.toInt_add]; exact bmod_id ((inI64_iff _).mp h).1 ((inI64_iff _).mp h).2

theorem toInt_sub_of (a b : Int64) (h : Spec.Eval.inI64 (a.toInt - b.toInt) = true) :
    (a - b).toInt = a.toInt - b.toInt := by
  rw [Int64.toInt_sub]; exact bmod_id ((inI64_iff _).mp h).1 ((inI64_iff _).mp h).2

theorem toInt_mul_of (a b : Int64) (h : Spec.Eval.inI64 (a.toInt * b.toInt) = true) :
    (a * b).toInt = a.toInt * b.toInt := by
  rw [Int64.toInt_mul]; exact bmod_id ((inI64_iff _).mp h).1 ((inI64_iff _).mp h).2

theorem toInt_neg_of (a : Int64) (h : Spec.Eval.inI64 (-a.toInt) = true) : (-a).toInt = -a.toInt := by
  rw [Int64.toInt_neg]; exact bmod_id ((inI64_iff _).mp h).1 ((inI64_iff _).mp h).2

theorem toInt_eq_zero (a : Int64) : (a == 0) = (a.toInt == 0) := by
  have : (a = 0) ↔ (a.toInt = 0) := by
    rw [← Int64.toInt_zero, Int64.toInt_inj]
  by_cases h : a = 0
  · subst h; rfl
  · have h' : ¬ a.toInt = 0 := fun e => h (this.mpr e)
    rw [beq_eq_false_iff_ne.mpr h, beq_eq_false_iff_ne.mpr h']

theorem toInt_beq (a b : Int64) : (a == b) = (a.toInt == b.toInt) := by
  by_cases h : a = b
  · subst h; simp
  · have h' : ¬ a.toInt = b.toInt := fun e => h (Int64.toInt_inj.mp e)
    rw [beq_eq_false_iff_ne.mpr h, beq_eq_false_iff_ne.mpr h']

/-- `==`: by the 8 × 8 kinds of the two values; the specification answers only where the kinds are comparable
    (and never says error), and there the interpreter's `Value.equals` computes the same -/
theorem equals_refines (a b : Value) :
    (Spec.Eval.equalsV (absV a) (absV b)).Meets (fun r => Value.equals a b = r) False := by
  refine Out.meets_iff.2 ?_
  cases a <;> cases b <;>
    simp_all [absV, Spec.Eval.equalsV, Value.equals, toInt_beq, F64.ofInt64] <;>
    (try (intro r; split <;> simp_all)) <;> (try (split <;> simp))

theorem toF_abs (a : Value) : Spec.Eval.toF (absV a) = toFloat a := by
  cases a <;> simp [absV, Spec.Eval.toF, toFloat, F64.ofInt64]

theorem isStr_abs (a : Value) : Spec.Eval.isStr (absV a) = isString a := by
  cases a <;> simp [absV, Spec.Eval.isStr, isString]

/-- a strict binary operator on the evaluated operands `a`, `b`: `S` is what the specification says, `M` what
    the interpreter computes (`none` = its error); an undefined operand is rejected before `M` is consulted -/
def OpAgree (a b : Value) (S : Out Val) (M : Option Value) : Prop :=
  S.Meets (fun v => a ≠ .undefined ∧ b ≠ .undefined ∧ ∃ mv, M = some mv ∧ absV mv = v)
    (a = .undefined ∨ b = .undefined ∨ M = none)

abbrev ArithSpec (op : BinOp) (a b : Value) : Prop :=
  OpAgree a b (Spec.Eval.binop op (absV a) (absV b)) (arith op a b)

namespace OpAgree
variable {a b : Value}

theorem meets {S : Out Val} {M : Option Value} (h : OpAgree a b S M) :
    S.Meets (fun v => a ≠ .undefined ∧ b ≠ .undefined ∧ ∃ mv, M = some mv ∧ absV mv = v)
      (a = .undefined ∨ b = .undefined ∨ M = none) := h

theorem unspec {M : Option Value} : OpAgree a b .unspec M := Out.Meets.unspec

theorem error : OpAgree a b .error none := Out.Meets.error (.inr (.inr rfl))

theorem val {mv : Value} (ha : a ≠ .undefined) (hb : b ≠ .undefined) : OpAgree a b (.val (absV mv)) (some mv) :=
  Out.Meets.val ⟨ha, hb, mv, rfl, rfl⟩

/-- an integer result, which the specification gives only inside int64 -/
theorem intRes {x y r : Int64} {n : Int} (h : Spec.Eval.inI64 n = true → r.toInt = n) :
    OpAgree (.int x) (.int y) (Spec.Eval.intRes n) (some (.int r)) := by
  unfold Spec.Eval.intRes
  split
  · rename_i hin
    rw [← h hin]
    exact val (mv := .int r) nofun nofun
  · exact unspec

theorem toFloat_defined {a : Value} {x : F64} (h : toFloat a = some x) : a ≠ .undefined := by
  rintro rfl
  cases h

/-- both operands read as floats (an error unless both are numbers); `s` is the specification's result, which
    is the interpreter's `k` or left open -/
theorem num (a b : Value) (s : F64 → F64 → Out Val) (k : F64 → F64 → Value)
    (hs : ∀ x y, s x y = .val (absV (k x y)) ∨ s x y = .unspec) :
    OpAgree a b
      (match Spec.Eval.toF (absV a), Spec.Eval.toF (absV b) with
        | some x, some y => s x y
        | _, _ => .error)
      (match toFloat a, toFloat b with
        | some x, some y => some (k x y)
        | _, _ => none) := by
  rw [toF_abs, toF_abs]
  cases ha : toFloat a with
  | none => exact error
  | some x =>
    cases hb : toFloat b with
    | none => exact error
    | some y =>
      rcases hs x y with h | h <;> simp only [h]
      · exact val (toFloat_defined ha) (toFloat_defined hb)
      · exact unspec

/-- two integers are treated on their own, everything else together -/
theorem int_or (a b : Value) (I : Int → Int → Out Val) (N : Out Val) (I' : Int64 → Int64 → Option Value)
    (N' : Option Value) (hI : ∀ x y, OpAgree (.int x) (.int y) (I x.toInt y.toInt) (I' x y))
    (hN : OpAgree a b N N') :
    OpAgree a b
      (match absV a, absV b with
        | .int x, .int y => I x y
        | _, _ => N)
      (match (generalizing := false) a, b with
        | .int x, .int y => I' x y
        | _, _ => N') := by
  split
  · rename_i ha hb
    obtain ⟨x, rfl, rfl⟩ := absV_int_iff.mp ha
    obtain ⟨y, rfl, rfl⟩ := absV_int_iff.mp hb
    exact hI x y
  · rename_i hne
    split
    · exact (hne _ _ rfl rfl).elim
    · exact hN
end OpAgree

theorem strcat_refines (a b : Value) (ha : a ≠ .undefined) (hb : b ≠ .undefined) :
    OpAgree a b
      ((Spec.Eval.showVal (absV a)).bind fun s1 => (Spec.Eval.showVal (absV b)).bind fun s2 =>
        .val (.str (s1 ++ s2)))
      (match str a, str b with
        | some s1, some s2 => some (.str (s1 ++ s2))
        | _, _ => none) := by
  refine (show_val a).then (fun e => .inr (.inr (by rw [e]))) fun s1 e1 => ?_
  refine (show_val b).then (fun e => .inr (.inr (by rw [e1, e]))) fun s2 e2 => ?_
  rw [e1, e2]
  exact OpAgree.val (mv := .str (s1 ++ s2)) ha hb

theorem add_refines (a b : Value) : ArithSpec .add a b :=
  OpAgree.int_or a b (fun x y => Spec.Eval.intRes (x + y)) _ (fun x y => some (.int (x + y))) _
    (fun x y => .intRes (toInt_add_of x y)) (by
      rw [isStr_abs, isStr_abs]
      split
      · split
        · exact .unspec
        · exact .unspec
        · rename_i ha hb
          exact strcat_refines a b (fun h => ha (by rw [h, absV])) (fun h => hb (by rw [h, absV]))
      · exact .num a b _ (fun x y => .float (F64.add x y)) (fun _ _ => .inl rfl))

theorem sub_refines (a b : Value) : ArithSpec .sub a b :=
  OpAgree.int_or a b (fun x y => Spec.Eval.intRes (x - y)) _ (fun x y => some (.int (x - y))) _
    (fun x y => .intRes (toInt_sub_of x y))
    (.num a b _ (fun x y => .float (F64.sub x y)) (fun _ _ => .inl rfl))

theorem mul_refines (a b : Value) : ArithSpec .mul a b :=
  OpAgree.int_or a b (fun x y => Spec.Eval.intRes (x * y)) _ (fun x y => some (.int (x * y))) _
    (fun x y => .intRes (toInt_mul_of x y))
    (.num a b _ (fun x y => .float (F64.mul x y)) (fun _ _ => .inl rfl))

theorem div_refines (a b : Value) : ArithSpec .div a b :=
  .num a b (fun x y => if Spec.Eval.isZeroNum (absV b) then .unspec else .val (.float (F64.div x y)))
    (fun x y => .float (F64.div x y)) (fun x y => by split; exact .inr rfl; exact .inl rfl)

theorem mod_refines (a b : Value) : ArithSpec .mod a b :=
  OpAgree.int_or a b (fun x y => if y == 0 then .error else Spec.Eval.intRes (Spec.Eval.tmod x y)) _
    (fun x y => if y == 0 then none else some (.int (x % y))) _
    (fun x y => by
      rw [toInt_eq_zero y]
      split
      · exact .error
      · exact .intRes fun _ => Int64.toInt_mod x y)
    .error

theorem truthy_abs (v : Value) : Spec.Eval.truthy (absV v) = v.truthy := by
  cases v with
  | float f =>
    simp only [absV, Spec.Eval.truthy, Value.truthy]
    have := F64.eq_zero_iff f
    cases hz : f.isZero <;> cases he : F64.eq f F64.zero <;> simp_all
  | int i => simp only [absV, Spec.Eval.truthy, Value.truthy, bne, toInt_eq_zero]
  | _ => simp [absV, Spec.Eval.truthy, Value.truthy]

/-- int → float conversion is order-exact on the integers of magnitude ≤ 2^53 -/
def OrdExact : Prop := ∀ x y : Int, Spec.Eval.small x = true → Spec.Eval.small y = true →
  F64.lt (F64.ofInt x) (F64.ofInt y) = decide (x < y) ∧ F64.le (F64.ofInt x) (F64.ofInt y) = decide (x ≤ y)

/-- `arith` on `< <= > >=` as one comparison of floats, the way `Spec.Eval.compareV` is written -/
def fcmp (lt orEq : Bool) (x y : F64) : Bool :=
  if lt then (if orEq then F64.le x y else F64.lt x y) else (if orEq then F64.le y x else F64.lt y x)

theorem compare_refines (hx : OrdExact) (lt orEq : Bool) (a b : Value) :
    OpAgree a b (Spec.Eval.compareV lt orEq (absV a) (absV b))
      (match toFloat a, toFloat b with
        | some x, some y => some (.bool (fcmp lt orEq x y))
        | _, _ => none) := by
  cases a with
  | int x =>
    cases b with
    | int y =>
      simp only [absV, Spec.Eval.compareV, toFloat]
      split
      · rename_i hs
        simp only [Bool.and_eq_true] at hs
        have h1 := hx _ _ hs.1 hs.2
        have h2 := hx _ _ hs.2 hs.1
        have : fcmp lt orEq (F64.ofInt x.toInt) (F64.ofInt y.toInt) =
            (if lt then (if orEq then decide (x.toInt ≤ y.toInt) else decide (x.toInt < y.toInt))
             else (if orEq then decide (y.toInt ≤ x.toInt) else decide (y.toInt < x.toInt))) := by
          rw [fcmp, h1.1, h1.2, h2.1, h2.2]
        rw [← this]
        exact .val (mv := .bool _) nofun nofun
      · exact .unspec
    | float y =>
      simp only [absV, Spec.Eval.compareV, toFloat]
      split
      · exact .val (mv := .bool (fcmp lt orEq _ _)) nofun nofun
      · exact .unspec
    | _ => exact .error
  | float x =>
    cases b with
    | int y =>
      simp only [absV, Spec.Eval.compareV, toFloat]
      split
      · exact .val (mv := .bool (fcmp lt orEq _ _)) nofun nofun
      · exact .unspec
    | float y => exact .val (mv := .bool (fcmp lt orEq _ _)) nofun nofun
    | _ => exact .error
  | _ => exact .error

theorem cmp_refines (hx : OrdExact) (op : BinOp) (hop : op = .lt ∨ op = .le ∨ op = .gt ∨ op = .ge)
    (a b : Value) : ArithSpec op a b := by
  rcases hop with rfl | rfl | rfl | rfl
  · exact compare_refines hx true false a b
  · exact compare_refines hx true true a b
  · exact compare_refines hx false false a b
  · exact compare_refines hx false true a b

theorem key_abs : ∀ (kvs : List (Bytes × Value)) (k : Bytes),
    absV (Value.key kvs k) = (Spec.Eval.find (absK kvs) k).getD .undefined
  | [], _ => rfl
  | (k', v) :: r, k => by
    simp only [Value.key, absK, Spec.Eval.find]
    split
    · rfl
    · exact key_abs r k

theorem getD_abs : ∀ (xs : List Value) (n : Nat), absV (xs.getD n .undefined) = (absL xs).getD n .undefined
  | [], _ => by simp [absL, absV]
  | x :: r, 0 => by simp [absL]
  | x :: r, n + 1 => by simpa [absL] using getD_abs r n

theorem absL_len : ∀ (l : List Value), (absL l).length = l.length
  | [] => rfl
  | _ :: r => by simp [absL, absL_len r]

theorem index_abs (xs : List Value) (i : Int) : absV (Value.index xs i) = Spec.Eval.nth (absL xs) i := by
  simp only [Value.index, Spec.Eval.nth, absL_len]
  split
  · exact getD_abs xs i.toNat
  · rfl

/-- what one access step yields: the interpreter's `accessStep` against the specification's `access` -/
def StepAgree (ms : AStep) (ss : Spec.Eval.Step) : Prop :=
  match ss with
  | .next v => ∃ mv, ms = .cont mv ∧ absV mv = v
  | .stop (.val v) => ∃ mv, ms = .ret mv ∧ absV mv = v
  | .stop .error => ms = .err
  | .stop .unspec => True

theorem access_str (ref : Value) (ns : Bool) (k : Bytes) (last : Bool) :
    StepAgree (accessStep ref ns none k) (Spec.Eval.access (absV ref) ns (.str k) last) := by
  cases ref <;> simp [accessStep, Spec.Eval.access, absV, StepAgree]
  all_goals (try (cases ns <;> cases last <;> simp [absV]))
  · rename_i id kvs
    exact key_abs kvs k

theorem access_int (ref : Value) (ns : Bool) (i : Int) (last : Bool) :
    StepAgree (accessStep ref ns (some i) []) (Spec.Eval.access (absV ref) ns (.int i) last) := by
  cases ref <;> simp [accessStep, Spec.Eval.access, absV, StepAgree]
  all_goals (try (cases ns <;> cases last <;> simp [absV]))
  · rename_i id xs
    exact index_abs xs i

/-- a key of another kind (float, bool, null): the interpreter uses its text `k` as a string key -/
theorem access_other (ref : Value) (ns : Bool) (k : Bytes) (last : Bool) :
    StepAgree (accessStep ref ns none k) (Spec.Eval.access (absV ref) ns .other last) := by
  cases ref <;> simp [accessStep, Spec.Eval.access, absV, StepAgree]
  all_goals (try (cases ns <;> cases last <;> simp [absV]))

end SoyVerif.Refine
