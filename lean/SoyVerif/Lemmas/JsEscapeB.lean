/-
  Lemmas for the JavaScript string escaper of soy (internal/jsescape, Model/JsEscape2.lean), part B: what the escaper writes for
  each unit of the cut of its input (Lemmas/Utf8Seq.lean) — a well-formed sequence or a bad byte; the round trip
  through the strict evaluator, for every byte string; and the safety of the output, token by token (`Piece`).
-/
import SoyVerif.Lemmas.JsEscapeA
import SoyVerif.Lemmas.Utf8Seq

namespace SoyVerif.Lemmas.JsEscapeB
open SoyVerif SoyVerif.Model SoyVerif.Spec SoyVerif.Spec.Json SoyVerif.Lemmas.Utf8 SoyVerif.Lemmas.EscapeQuery SoyVerif.Lemmas.JsEscapeA


theorem esc_skip (p : Nat → Bool) (l t : Bytes) : jsEscapeFixedGo p l.length (l ++ t) = jsEscapeFixedGo p 0 t := by
  induction l with
  | nil => rfl
  | cons a l ih => simpa [jsEscapeFixedGo] using ih

theorem esc_ascii (p : Nat → Bool) (b : UInt8) (t : Bytes) (h : b < 0x80) :
    jsEscapeFixedGo p 0 (b :: t) = (if jsIsSpecial b then jsAsciiEsc2 b else [b]) ++ jsEscapeFixedGo p 0 t := by
  conv => lhs; unfold jsEscapeFixedGo
  cases hs : jsIsSpecial b <;> simp [h]

theorem esc_multi (p : Nat → Bool) (b0 : UInt8) (c' t : Bytes) (r : Nat)
    (hb : 128 ≤ b0.toNat) (hd : decodeRune (b0 :: (c' ++ t)) = (r, c'.length + 1)) (hl : 1 ≤ c'.length) :
    jsEscapeFixedGo p 0 (b0 :: (c' ++ t)) =
      (if r != 0x2028 && r != 0x2029 && p r then b0 :: c' else jsRuneEsc r) ++ jsEscapeFixedGo p 0 t := by
  have h80 : (0x80 : UInt8) ≤ b0 := UInt8.le_iff_toNat_le.2 (by simpa using hb)
  have hsp : jsIsSpecial b0 = true := by simp [jsIsSpecial, h80]
  have hlt : ¬ b0 < 0x80 := high_not_lt (by omega)
  -- a decoding failure has width 1; a genuine U+FFFD (EF BF BD) has width 3 and is no failure
  have h1 : (c'.length + 1 == 1) = false := by apply beq_false_of_ne; omega
  have htk : (b0 :: (c' ++ t)).take (c'.length + 1) = b0 :: c' := by simp
  conv => lhs; unfold jsEscapeFixedGo
  simp only [hsp, hlt, hd, h1, htk, Bool.not_true, Bool.false_eq_true, if_false, Bool.and_false,
    Nat.add_sub_cancel, esc_skip]

theorem esc_bad (p : Nat → Bool) {b : UInt8} {t : Bytes} (h : Bad b t) :
    jsEscapeFixedGo p 0 (b :: t) = jsU4 runeError ++ jsEscapeFixedGo p 0 t := by
  obtain ⟨hb, hd, _⟩ := h
  have h80 : (0x80 : UInt8) ≤ b := UInt8.le_iff_toNat_le.2 (by simpa using hb)
  have hsp : jsIsSpecial b = true := by simp [jsIsSpecial, h80]
  have hlt : ¬ b < 0x80 := high_not_lt (by omega)
  conv => lhs; unfold jsEscapeFixedGo
  simp [hsp, hlt, hd]


theorem utf8Encode_ascii (b : UInt8) (h : b.toNat < 128) : utf8Encode b.toNat = [b] := by
  simp [utf8Encode, h]

theorem roundtrip_ascii (p : Nat → Bool) (b : UInt8) (t : Bytes) (hb : b.toNat < 128) :
    jsUnescapeGo 0 (jsEscapeFixedGo p 0 (b :: t)) = (jsUnescapeGo 0 (jsEscapeFixedGo p 0 t)).map (b :: ·) := by
  rw [esc_ascii p b _ (by simp [UInt8.lt_iff_toNat_lt]; omega)]
  cases hs : jsIsSpecial b
  · exact unesc_raw_ascii b _ hs
  · simp only [if_true, jsAsciiEsc2]
    by_cases h92 : b = 92
    · subst h92; exact unesc_named 92 _ (Or.inl rfl)
    by_cases h39 : b = 39
    · subst h39; exact unesc_named 39 _ (Or.inr (Or.inl rfl))
    by_cases h34 : b = 34
    · subst h34; exact unesc_named 34 _ (Or.inr (Or.inr rfl))
    simp only [h92, h39, h34, beq_iff_eq, if_false]
    rw [unesc_u4 _ _ (by omega) (by omega), utf8Encode_ascii b hb]; rfl

theorem roundtrip_seq (p : Nat → Bool) (c t : Bytes) (hc : wellFormedSeq c = true) :
    jsUnescapeGo 0 (jsEscapeFixedGo p 0 (c ++ t)) = (jsUnescapeGo 0 (jsEscapeFixedGo p 0 t)).map (c ++ ·) := by
  cases c with
  | nil => cases hc
  | cons b0 c' =>
    by_cases hl : c'.length = 0
    · obtain rfl := List.eq_nil_of_length_eq_zero hl
      exact roundtrip_ascii p b0 t (by simp [wellFormedSeq, UInt8.le_iff_toNat_le] at hc; omega)
    · have hl1 : 1 ≤ c'.length := by omega
      obtain ⟨r, hd, he, _, hsur, hmax⟩ := decode_wf b0 c' t hc hl1
      rw [List.cons_append, esc_multi p b0 c' t r (wf_high b0 c' hc hl1) hd hl1]
      split
      · rename_i hraw
        simp only [Bool.and_eq_true, bne_iff_ne, ne_eq] at hraw
        rw [List.cons_append]
        exact unesc_raw_multi b0 c' _ hc hl1 (isLineSep_raw hc hd hraw.1.1 hraw.1.2 _)
      · rw [unesc_runeEsc r _ hsur hmax, he]

/-- for EVERY byte string and every table `isPrint`: the strict evaluator accepts the output and reads it back as the
    input with each byte that begins no well-formed sequence replaced by U+FFFD -/
theorem roundtrip_all (p : Nat → Bool) (s : Bytes) : jsUnescape (jsEscapeFixedWith p s) = some (sanitize s) := by
  unfold jsUnescape jsEscapeFixedWith sanitize
  induction s using cut_induction with
  | nil => rfl
  | seq c t hc ih => rw [roundtrip_seq p c t hc, ih, san_seq c t hc]; rfl
  | bad b t hb ih => rw [esc_bad p hb, unesc_u4 _ _ (by decide) (by decide), ih, san_bad hb]; rfl


/-- the bytes of the token pass `safe`, and the quote scanner `scan` is after the token in the state it was in before it -/
def Tok (safe : UInt8 → Bool) (scan : Bool → Bytes → Bool) (X : Bytes) : Prop :=
  (∀ b ∈ X, safe b = true) ∧ ∀ rest, scan false (X ++ rest) = scan false rest

/-- … and the token neither holds nor completes a raw U+2028 / U+2029 -/
structure Piece (safe : UInt8 → Bool) (scan : Bool → Bytes → Bool) (X : Bytes) : Prop where
  tok : Tok safe scan X
  sep : ∀ rest, noLineSep (X ++ rest) = noLineSep rest

/-- what the proofs use of a quote scanner: a backslash escapes exactly the next byte, and a byte other than the
    backslash and the two quotes is stepped over -/
structure Scans (scan : Bool → Bytes → Bool) : Prop where
  esc : ∀ c rest, scan false (92 :: c :: rest) = scan false rest
  step : ∀ b rest, b ≠ 92 → b ≠ 34 → b ≠ 39 → scan false (b :: rest) = scan false rest

theorem js_scans : Scans jsQuotesEscapedGo :=
  ⟨fun _ _ => rfl, fun b rest h92 h34 h39 => by simp [jsQuotesEscapedGo, h92, h34, h39]⟩

/-- a byte that may stand anywhere in a token: safe, no backslash, no quote, not the first byte of a line separator -/
def plainByte (safe : UInt8 → Bool) (b : UInt8) : Bool := safe b && b != 92 && b != 34 && b != 39 && b != 0xE2

variable {safe : UInt8 → Bool} {scan : Bool → Bytes → Bool}

theorem Tok.append {X Y : Bytes} (hx : Tok safe scan X) (hy : Tok safe scan Y) : Tok safe scan (X ++ Y) := by
  refine ⟨fun b hb => ?_, fun rest => ?_⟩
  · rcases List.mem_append.1 hb with h | h
    · exact hx.1 b h
    · exact hy.1 b h
  · rw [List.append_assoc, hx.2, hy.2]

theorem Tok.bytes : ∀ {l : Bytes},
    (∀ b ∈ l, safe b = true ∧ ∀ rest, scan false (b :: rest) = scan false rest) → Tok safe scan l
  | [], _ => ⟨fun _ h => (nomatch h), fun _ => rfl⟩
  | a :: l, h => by
    have ha := h a (by simp)
    have hl := Tok.bytes (l := l) (fun b hb => h b (by simp [hb]))
    refine ⟨fun b hb => ?_, fun rest => ?_⟩
    · rcases List.mem_cons.1 hb with rfl | hb
      · exact ha.1
      · exact hl.1 b hb
    · rw [List.cons_append, ha.2, hl.2]

theorem Tok.high (hs : Scans scan) (hsafe : ∀ b : UInt8, 128 ≤ b.toNat → safe b = true) {l : Bytes}
    (h : ∀ b ∈ l, 128 ≤ b.toNat) : Tok safe scan l :=
  Tok.bytes fun a hm => by
    have ha := h a hm
    exact ⟨hsafe a ha, fun rest => hs.step a rest (by rintro rfl; simp at ha) (by rintro rfl; simp at ha)
      (by rintro rfl; simp at ha)⟩

theorem noLineSep_of_noE2 (l X : Bytes) (h : ∀ b ∈ l, b ≠ 0xE2) : noLineSep (l ++ X) = noLineSep X := by
  induction l with
  | nil => rfl
  | cons a l ih =>
    have ha := h a (by simp)
    simp only [List.cons_append, noLineSep, isLineSep_ne a _ ha, Bool.not_false, Bool.true_and]
    exact ih (fun b hb => h b (by simp [hb]))

theorem Piece.nil : Piece safe scan [] := ⟨⟨fun _ h => (nomatch h), fun _ => rfl⟩, fun _ => rfl⟩

theorem Piece.append {X Y : Bytes} (hx : Piece safe scan X) (hy : Piece safe scan Y) : Piece safe scan (X ++ Y) :=
  ⟨hx.tok.append hy.tok, fun rest => by rw [List.append_assoc, hx.sep, hy.sep]⟩

theorem Piece.plain (hs : Scans scan) {l : Bytes} (h : l.all (plainByte safe) = true) : Piece safe scan l := by
  have hb : ∀ b ∈ l, safe b = true ∧ b ≠ 92 ∧ b ≠ 34 ∧ b ≠ 39 ∧ b ≠ 0xE2 := fun b hb => by
    simpa [plainByte, and_assoc] using List.all_eq_true.1 h b hb
  exact ⟨Tok.bytes fun b hm => ⟨(hb b hm).1, fun rest => hs.step b rest (hb b hm).2.1 (hb b hm).2.2.1 (hb b hm).2.2.2.1⟩,
    fun rest => noLineSep_of_noE2 l rest fun b hm => (hb b hm).2.2.2.2⟩

theorem Piece.esc (hs : Scans scan) {c : UInt8} {l : Bytes}
    (h : (safe 92 && safe c && c != 0xE2 && l.all (plainByte safe)) = true) : Piece safe scan (92 :: c :: l) := by
  simp only [Bool.and_eq_true, bne_iff_ne, ne_eq] at h
  obtain ⟨⟨⟨h92, hc⟩, hE⟩, hl⟩ := h
  refine Piece.append (X := [92, c]) ⟨⟨?_, fun rest => hs.esc c rest⟩, fun rest => ?_⟩ (Piece.plain hs hl)
  · intro b hb
    simp only [List.mem_cons, List.not_mem_nil, or_false] at hb
    rcases hb with rfl | rfl
    · exact h92
    · exact hc
  · exact noLineSep_of_noE2 [92, c] rest fun b hb => by
      simp only [List.mem_cons, List.not_mem_nil, or_false] at hb
      rcases hb with rfl | rfl
      · decide
      · exact hE

theorem Piece.raw {c : Bytes} (hc : wellFormedSeq c = true) (hls : ∀ rest, isLineSep (c ++ rest) = false)
    (h : Tok safe scan c) : Piece safe scan c := by
  refine ⟨h, fun rest => ?_⟩
  obtain ⟨b0, r, rfl, _, hr⟩ := wellFormedSeq_shape c hc
  have hs := hls rest
  rw [List.cons_append] at hs ⊢
  rw [noLineSep, hs, noLineSep_of_noE2 r rest fun b hb => by
    have := (runeStart_false_iff b).1 (hr b hb)
    rintro rfl; simp at this]
  rfl


/-- a token of the JavaScript escaper: `Piece` for the safety predicates of Spec/JsString -/
abbrev POk (X : Bytes) : Prop := Piece jsByteSafe jsQuotesEscapedGo X

theorem hexUpper_plain : ∀ n : Fin 16, plainByte jsByteSafe (hexUpper n.val) = true := by decide

theorem piece_u4 (u : Nat) : POk (jsU4 u) :=
  Piece.esc js_scans (by
    simp [hex4Upper, hexUpper_plain ⟨u / 4096 % 16, by omega⟩, hexUpper_plain ⟨u / 256 % 16, by omega⟩,
      hexUpper_plain ⟨u / 16 % 16, by omega⟩, hexUpper_plain ⟨u % 16, by omega⟩]
    decide)

theorem piece_runeEsc (r : Nat) : POk (jsRuneEsc r) := by
  unfold jsRuneEsc
  split
  · exact (piece_u4 _).append (piece_u4 _)
  · exact piece_u4 _

theorem piece_asciiEsc (c : UInt8) : POk (jsAsciiEsc2 c) := by
  unfold jsAsciiEsc2
  split
  · exact Piece.esc js_scans (by decide)
  · split
    · exact Piece.esc js_scans (by decide)
    · split
      · exact Piece.esc js_scans (by decide)
      · exact piece_u4 _

theorem piece_raw_ascii (c : UInt8) (h : jsIsSpecial c = false) : POk [c] := by
  refine Piece.plain js_scans ?_
  simp only [jsIsSpecial, Bool.or_eq_false_iff, beq_eq_false_iff_ne, ne_eq, decide_eq_false_iff_not] at h
  obtain ⟨⟨⟨⟨⟨⟨⟨⟨h92, h39⟩, h34⟩, h60⟩, h62⟩, h38⟩, h61⟩, h32⟩, h80⟩ := h
  have hE : c ≠ 0xE2 := by rintro rfl; exact h80 (by decide)
  have h32' : (32 : UInt8) ≤ c := UInt8.not_lt.1 h32
  simp [plainByte, jsByteSafe, h92, h39, h34, h60, h62, h38, h61, hE, h32']

theorem jsByteSafe_high (b : UInt8) (h : 128 ≤ b.toNat) : jsByteSafe b = true := by
  have h32 : (32 : UInt8) ≤ b := UInt8.le_iff_toNat_le.2 (by simp; omega)
  have n60 : b ≠ 60 := by rintro rfl; simp at h
  have n62 : b ≠ 62 := by rintro rfl; simp at h
  have n38 : b ≠ 38 := by rintro rfl; simp at h
  have n61 : b ≠ 61 := by rintro rfl; simp at h
  simp [jsByteSafe, h32, n60, n62, n38, n61]

theorem piece_seq (p : Nat → Bool) (c t : Bytes) (hc : wellFormedSeq c = true) :
    ∃ X, jsEscapeFixedGo p 0 (c ++ t) = X ++ jsEscapeFixedGo p 0 t ∧ POk X := by
  cases c with
  | nil => cases hc
  | cons b0 c' =>
    by_cases hl : c'.length = 0
    · obtain rfl := List.eq_nil_of_length_eq_zero hl
      have hb : b0.toNat < 128 := by simp [wellFormedSeq, UInt8.le_iff_toNat_le] at hc; omega
      refine ⟨_, esc_ascii p b0 t (by simp [UInt8.lt_iff_toNat_lt]; omega), ?_⟩
      split
      · exact piece_asciiEsc b0
      · rename_i hs
        exact piece_raw_ascii b0 (by simpa using hs)
    · have hl1 : 1 ≤ c'.length := by omega
      obtain ⟨r, hd, _⟩ := decode_wf b0 c' t hc hl1
      refine ⟨_, esc_multi p b0 c' t r (wf_high b0 c' hc hl1) hd hl1, ?_⟩
      split
      · rename_i hraw
        simp only [Bool.and_eq_true, bne_iff_ne, ne_eq] at hraw
        exact .raw hc (isLineSep_raw hc hd hraw.1.1 hraw.1.2)
          (Tok.high js_scans jsByteSafe_high (wf_bytes_high hc (by simp; omega)))
      · exact piece_runeEsc r

theorem pieces_ok (p : Nat → Bool) (s : Bytes) : POk (jsEscapeFixedWith p s) := by
  unfold jsEscapeFixedWith
  induction s using cut_induction with
  | nil => exact .nil
  | seq c t hc ih =>
    obtain ⟨X, e, hX⟩ := piece_seq p c t hc
    rw [e]; exact hX.append ih
  | bad b t hb ih => rw [esc_bad p hb]; exact (piece_u4 _).append ih

end SoyVerif.Lemmas.JsEscapeB
