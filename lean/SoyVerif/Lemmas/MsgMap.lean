/-
  Go maps as association lists: `mapSet` on a fresh key appends, on an existing key
  rewrites in place; building a map from entries with distinct keys yields those entries;
  lookups in a map with distinct keys do not depend on the order of the entries.
-/
import SoyVerif.Model.Msg
import SoyVerif.Lemmas.FirstMatch

namespace SoyVerif.Model.Msg

variable {κ ν : Type} [BEq κ] [LawfulBEq κ]

theorem mapSet_fresh {m : List (κ × ν)} {k : κ} {v : ν} (h : k ∉ m.map Prod.fst) :
    mapSet m k v = m ++ [(k, v)] := by
  unfold mapSet
  have : m.any (fun e => e.1 == k) = false := by
    rw [List.any_eq_false]
    intro x hx hk
    apply h
    have : x.1 = k := by simpa using hk
    exact this ▸ List.mem_map_of_mem hx
  simp [this]

theorem mapSet_present {l₁ l₂ : List (κ × ν)} {k : κ} {v₀ v : ν}
    (h₁ : k ∉ l₁.map Prod.fst) (h₂ : k ∉ l₂.map Prod.fst) :
    mapSet (l₁ ++ (k, v₀) :: l₂) k v = l₁ ++ (k, v) :: l₂ := by
  unfold mapSet
  have hany : (l₁ ++ (k, v₀) :: l₂).any (fun e => e.1 == k) = true := by simp
  have id_on : ∀ l : List (κ × ν), k ∉ l.map Prod.fst →
      l.map (fun e => if e.1 == k then (k, v) else e) = l := by
    intro l hl
    induction l with
    | nil => rfl
    | cons a l ih =>
      simp only [List.map_cons, List.mem_cons, not_or] at hl
      have hne : (a.1 == k) = false := by
        simp only [beq_eq_false_iff_ne, ne_eq]
        exact fun e => hl.1 e.symm
      simp [hne, ih hl.2]
  simp only [hany, if_true, List.map_append, List.map_cons, beq_self_eq_true, id_on l₁ h₁, id_on l₂ h₂]

theorem lookup_split {m : List (κ × ν)} {k : κ} {v : ν} (h : m.lookup k = some v) :
    ∃ l₁ l₂, m = l₁ ++ (k, v) :: l₂ ∧ k ∉ l₁.map Prod.fst := by
  obtain ⟨l₁, l₂, e, hn⟩ := List.lookup_eq_some_iff.mp h
  refine ⟨l₁, l₂, e, fun hk => ?_⟩
  obtain ⟨p, hp, rfl⟩ := List.mem_map.mp hk
  simpa using hn p hp

theorem lookup_none_of_not_mem {m : List (κ × ν)} {k : κ} (h : k ∉ m.map Prod.fst) :
    m.lookup k = none := by
  rw [List.lookup_eq_none_iff]
  intro p hp
  simp only [bne_iff_ne, ne_eq]
  intro hk
  exact h (hk ▸ List.mem_map_of_mem hp)

theorem not_mem_of_lookup_none {m : List (κ × ν)} {k : κ} (h : m.lookup k = none) :
    k ∉ m.map Prod.fst := by
  rw [List.lookup_eq_none_iff] at h
  intro hk
  obtain ⟨p, hp, rfl⟩ := List.mem_map.mp hk
  have := h p hp
  simp at this

theorem lookup_eq_find (l : List (κ × ν)) (k : κ) :
    l.lookup k = (l.find? (fun e => e.1 == k)).map Prod.snd := by
  induction l with
  | nil => rfl
  | cons a l ih =>
    obtain ⟨a1, a2⟩ := a
    rw [List.lookup_cons, List.find?_cons, ih, BEq.comm (a := k)]
    cases a1 == k <;> rfl

theorem lookup_eq_some_iff_mem {l : List (κ × ν)} (nd : (l.map Prod.fst).Nodup) {k : κ} {v : ν} :
    l.lookup k = some v ↔ (k, v) ∈ l := by
  rw [lookup_eq_find, Option.map_eq_some_iff]
  constructor
  · rintro ⟨a, ha, rfl⟩
    obtain ⟨hm, rfl⟩ := (FirstMatch.find_eq_some_iff Prod.fst nd k a).mp ha
    exact hm
  · intro h
    exact ⟨(k, v), (FirstMatch.find_eq_some_iff Prod.fst nd k _).mpr ⟨h, rfl⟩, rfl⟩

theorem lookup_perm {l l' : List (κ × ν)} (h : l.Perm l') (nd : (l.map Prod.fst).Nodup) (k : κ) :
    l.lookup k = l'.lookup k := by
  rw [lookup_eq_find, lookup_eq_find, FirstMatch.find_perm Prod.fst h nd]

theorem lookup_append_left_of_not_mem {l₁ l₂ : List (κ × ν)} {k : κ} (h : k ∉ l₂.map Prod.fst) :
    (l₁ ++ l₂).lookup k = l₁.lookup k := by
  rw [List.lookup_append, lookup_none_of_not_mem h]
  simp

theorem foldl_mapSet_fresh {ε : Type} (f : ε → κ × ν) :
    ∀ (es : List ε) (m : List (κ × ν)),
      (m.map Prod.fst ++ es.map (fun e => (f e).1)).Nodup →
      es.foldl (fun m e => mapSet m (f e).1 (f e).2) m = m ++ es.map f
  | [], m, _ => by simp
  | e :: es, m, nd => by
    have hk : (f e).1 ∉ m.map Prod.fst := by
      intro hm
      have := (List.nodup_append.mp nd).2.2 _ hm (f e).1 (by simp)
      exact this rfl
    simp only [List.foldl_cons, mapSet_fresh hk]
    rw [foldl_mapSet_fresh f es (m ++ [f e])]
    · simp
    · simpa [List.append_assoc] using nd

/-- Step 4: setting fields through a map with distinct keys = one lookup per field. -/
theorem foldl_set_getElem? {ν : Type} :
    ∀ (es : List (Nat × ν)) (init : List ν) (i : Nat), (es.map Prod.fst).Nodup →
      (es.foldl (fun a e => a.set e.1 e.2) init)[i]? = (init[i]?).map (fun x => (es.lookup i).getD x)
  | [], init, i, _ => by simp
  | (k, v) :: es, init, i, nd => by
    simp only [List.map_cons, List.nodup_cons] at nd
    simp only [List.foldl_cons]
    rw [foldl_set_getElem? es (init.set k v) i nd.2, List.getElem?_set, List.lookup_cons]
    by_cases hik : k = i
    · subst hik
      have : es.lookup k = none := lookup_none_of_not_mem nd.1
      simp only [this, beq_self_eq_true, if_true]
      by_cases hl : k < init.length
      · simp [hl]
      · simp [hl]
    · have hb : (i == k) = false := by simpa using fun e => hik e.symm
      simp [hik, hb]

end SoyVerif.Model.Msg
