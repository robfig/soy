/-
  The lexer invariant (Model/Lexer.lean), up to the state functions.  `Sat x Q`: the Option computation `x` returns
  a value satisfying `Q`.  `Lx n a l`: what no step disturbs; what `next`, `emit`, `scanWhile`, `maybeEmitText` do to
  the record; `Good` at state boundaries, the measure `phi`, what a state function must deliver (`Post`).  The walks
  through the state functions are in the judgement `At` of Lemmas/LexerAt.lean.
-/
import SoyVerif.Model.Lexer

namespace SoyVerif.Model.Lex
open SoyVerif SoyVerif.Model

def Sat {α : Type} (x : Option α) (Q : α → Prop) : Prop := ∃ a, x = some a ∧ Q a

theorem Sat.ret {α : Type} {a : α} {Q : α → Prop} (h : Q a) : Sat (pure a : Option α) Q := ⟨a, rfl, h⟩

theorem Sat.andThen {α β : Type} {x : Option α} {f : α → Option β} {P : α → Prop} {Q : β → Prop}
    (hx : Sat x P) (hf : ∀ a, P a → Sat (f a) Q) : Sat (x >>= f) Q := by
  obtain ⟨a, rfl, hp⟩ := hx
  exact hf a hp

theorem Sat.bind {α β : Type} {x : Option α} {f : α → Option β} {Q : β → Prop}
    (h : Sat x (fun a => Sat (f a) Q)) : Sat (x >>= f) Q :=
  h.andThen fun _ ha => ha

theorem Sat.ite {α : Type} {c : Prop} [Decidable c] {x y : Option α} {Q : α → Prop}
    (hx : c → Sat x Q) (hy : ¬ c → Sat y Q) : Sat (if c then x else y) Q :=
  ite_elim (Sat · Q) hx hy

theorem Sat.dite {α : Type} {c : Prop} [Decidable c] {x : c → Option α} {y : ¬ c → Option α} {Q : α → Prop}
    (hx : ∀ hc, Sat (x hc) Q) (hy : ∀ hc, Sat (y hc) Q) : Sat (if hc : c then x hc else y hc) Q := by
  split
  · exact hx _
  · exact hy _

/-- `Sat.ite` without telling the `else` branch: keeps the disequalities `r ≠ k` of a long chain out of the context -/
theorem Sat.ite' {α : Type} {c : Prop} [Decidable c] {x y : Option α} {Q : α → Prop}
    (hx : c → Sat x Q) (hy : Sat y Q) : Sat (if c then x else y) Q :=
  Sat.ite hx fun _ => hy

theorem Sat.mono {α : Type} {x : Option α} {P Q : α → Prop} (h : Sat x P) (hpq : ∀ a, P a → Q a) : Sat x Q := by
  obtain ⟨a, ha, hp⟩ := h
  exact ⟨a, ha, hpq a hp⟩

theorem Sat.matchSome {α β : Type} {x : Option α} {f : α → Option β} {Q : β → Prop}
    (h : Sat x (fun a => Sat (f a) Q)) :
    Sat (match x with | none => none | some a => f a) Q := by
  obtain ⟨a, rfl, hq⟩ := h
  exact hq

theorem Sat.of_eq {α : Type} {x : Option α} {a : α} {Q : α → Prop} (h : Sat x Q) (hx : x = some a) : Q a := by
  obtain ⟨b, hb, hq⟩ := h
  rw [hx] at hb
  cases hb
  exact hq

theorem Sat.ne_none {α : Type} {x : Option α} {Q : α → Prop} (h : Sat x Q) : x ≠ none := by
  obtain ⟨b, hb, _⟩ := h
  rw [hb]
  exact Option.some_ne_none b

theorem byteAt_lt (a : Array UInt8) (i : Nat) : byteAt a i < 256 := by
  unfold byteAt; exact UInt8.toNat_lt _

theorem byteAt_pos_lt {a : Array UInt8} {i : Nat} (h : byteAt a i ≠ 0) : i < a.size := by
  by_cases hi : i < a.size
  · exact hi
  · exfalso; apply h
    simp [byteAt, Array.getD, hi]

theorem acceptLo_spec (s0 : Nat) :
    128 ≤ acceptLo s0 ∧ (s0 = 224 → acceptLo s0 = 160) ∧ (s0 = 240 → acceptLo s0 = 144) := by
  unfold acceptLo
  refine ⟨?_, ?_, ?_⟩
  · split
    · omega
    · split <;> omega
  · intro h; simp [h]
  · intro h; simp [h]

theorem acceptHi_le (s0 : Nat) : acceptHi s0 ≤ 191 := by
  unfold acceptHi
  split
  · omega
  · split <;> omega

/-- overlong forms are rejected, and U+FFFD is above 0x80 -/
theorem decode_hi (a : Array UInt8) (i : Nat) (h : 128 ≤ byteAt a i) :
    128 ≤ (decodeRune a i).1 ∧ ∀ j, 1 ≤ j → j < (decodeRune a i).2 → 128 ≤ byteAt a (i + j) := by
  have lo := acceptLo_spec (byteAt a i)
  have hi := acceptHi_le (byteAt a i)
  refine decodeRune_elim (fun d => 128 ≤ d.1 ∧ ∀ j, 1 ≤ j → j < d.2 → 128 ≤ byteAt a (i + j)) a i (fun h' => by omega)
    (fun _ => ⟨by decide, fun j h1 h2 => by omega⟩) (fun _ _ _ c1 => ⟨by dsimp only; omega, fun j h1 h2 => ?_⟩)
    (fun _ _ _ c1 c2 => ⟨?_, fun j h1 h2 => ?_⟩) (fun _ _ _ c1 c2 c3 => ⟨?_, fun j h1 h2 => ?_⟩)
  · obtain rfl : j = 1 := by omega
    exact c1.1
  · dsimp only
    by_cases h224 : byteAt a i = 224
    · have := lo.2.1 h224
      omega
    · omega
  · obtain rfl | rfl : j = 1 ∨ j = 2 := by omega
    · omega
    · exact c2.1
  · dsimp only
    by_cases h240 : byteAt a i = 240
    · have := lo.2.2 h240
      omega
    · omega
  · obtain rfl | rfl | rfl : j = 1 ∨ j = 2 ∨ j = 3 := by omega
    · omega
    · exact c2.1
    · exact c3.1

theorem decodeRune_spec (a : Array UInt8) (i : Nat) :
    byteAt a i < 128 ∧ decodeRune a i = (byteAt a i, 1) ∨ 128 ≤ (decodeRune a i).1 := by
  by_cases h : byteAt a i < 128
  · exact Or.inl ⟨h, by unfold decodeRune; exact if_pos h⟩
  · exact Or.inr (decode_hi a i (by omega)).1

theorem decodeRune_ascii (a : Array UInt8) (i : Nat) :
    (decodeRune a i).2 = 1 ∨ 128 ≤ (decodeRune a i).1 :=
  (decodeRune_spec a i).imp_left fun h => by rw [h.2]

theorem decodeRune_small (a : Array UInt8) (i : Nat) :
    (decodeRune a i).1 < 128 → (decodeRune a i).1 = byteAt a i := fun h =>
  (decodeRune_spec a i).elim (fun e => by rw [e.2]) fun g => absurd h (by omega)

/-- `tok.val[1:]` is taken of these -/
def sliced1 (t : ItemType) : Bool := t == .tDollarIdent || t == .tDotIdent || t == .tDotIndex
/-- `tok.val[2:]` is taken of these -/
def sliced2 (t : ItemType) : Bool := t == .tQuestionDotIdent || t == .tQuestionDotIndex

/-- neither a type that ends a stream (EOF, Error) nor that of the zero item -/
def notEnd (t : ItemType) : Bool := t != .tEOF && t != .tError && t != .tInvalid

/-- the value of a token is the piece of the input that ENDS at the token's position -/
def sliceOK (input : Array UInt8) (it : Item) : Bool :=
  decide (it.val = (input.extract (it.pos - it.val.length) it.pos).toList)

def itemOK (it : Item) : Bool :=
  (!sliced1 it.typ || decide (1 ≤ it.val.length)) && (!sliced2 it.typ || decide (2 ≤ it.val.length)) &&
    notEnd it.typ

/-- number of items sent so far that are not well-formed pieces of the input (`itemOK`, `sliceOK`).  A count, like
    `badInit` and `tagBad`, so that a step that sends a well-formed item keeps it by rewriting (`push_bad`); the
    invariant says `= 0`. -/
def Lexer.bad (l : Lexer) : Nat := (l.items.toList.filter (fun it => !(itemOK it && sliceOK l.input it))).length

/-- number of items sent so far (the invariant `Good` bounds it by twice the start of the pending
    token: every token but a few is non-empty, and the empty ones stand behind enough input) -/
def Lexer.cnt (l : Lexer) : Int := l.items.size

/-- total length of the values of the items sent so far (the invariant `Good` bounds it by the start of
    the pending token: the tokens are disjoint pieces of the input) -/
def Lexer.tot (l : Lexer) : Int := ((l.items.toList.map (·.val.length)).sum : Nat)

/-- the same count over all items but the last -/
def Lexer.badInit (l : Lexer) : Nat :=
  (l.items.toList.dropLast.filter (fun it => !(itemOK it && sliceOK l.input it))).length

/-- 1 unless `tagStart` is at a `{` of the input (or still 0): where `errorfAt(l.tagStart, …)`
    reports an unclosed tag -/
def Lexer.tagBad (l : Lexer) : Nat :=
  if l.tagStart = 0 ∨ byteAt l.input l.tagStart.toNat = 123 then 0 else 1

@[simp] theorem backup_pos (l : Lexer) : l.backup.pos = l.pos - l.width := rfl
@[simp] theorem backup_start (l : Lexer) : l.backup.start = l.start := rfl
@[simp] theorem backup_len (l : Lexer) : l.backup.len = l.len := rfl
@[simp] theorem backup_width (l : Lexer) : l.backup.width = l.width := rfl
@[simp] theorem ignore_pos (l : Lexer) : l.ignore.pos = l.pos := rfl
@[simp] theorem ignore_start (l : Lexer) : l.ignore.start = l.pos := rfl
@[simp] theorem ignore_len (l : Lexer) : l.ignore.len = l.len := rfl
@[simp] theorem ignore_width (l : Lexer) : l.ignore.width = l.width := rfl
@[simp] theorem addPos_pos (l : Lexer) (d : Int) : (l.addPos d).pos = l.pos + d := rfl
@[simp] theorem addPos_start (l : Lexer) (d : Int) : (l.addPos d).start = l.start := rfl
@[simp] theorem addPos_len (l : Lexer) (d : Int) : (l.addPos d).len = l.len := rfl
@[simp] theorem addPos_width (l : Lexer) (d : Int) : (l.addPos d).width = l.width := rfl
@[simp] theorem backup_mp (l : Lexer) : l.backup.mp = l.mp := rfl
@[simp] theorem ignore_mp (l : Lexer) : l.ignore.mp = l.mp := rfl
@[simp] theorem addPos_mp (l : Lexer) (d : Int) : (l.addPos d).mp = l.mp := rfl
@[simp] theorem backup_bad (l : Lexer) : l.backup.bad = l.bad := rfl
@[simp] theorem ignore_bad (l : Lexer) : l.ignore.bad = l.bad := rfl
@[simp] theorem addPos_bad (l : Lexer) (d : Int) : (l.addPos d).bad = l.bad := rfl
@[simp] theorem backup_tot (l : Lexer) : l.backup.tot = l.tot := rfl
@[simp] theorem ignore_tot (l : Lexer) : l.ignore.tot = l.tot := rfl
@[simp] theorem addPos_tot (l : Lexer) (d : Int) : (l.addPos d).tot = l.tot := rfl
@[simp] theorem backup_cnt (l : Lexer) : l.backup.cnt = l.cnt := rfl
@[simp] theorem ignore_cnt (l : Lexer) : l.ignore.cnt = l.cnt := rfl
@[simp] theorem addPos_cnt (l : Lexer) (d : Int) : (l.addPos d).cnt = l.cnt := rfl
@[simp] theorem backup_tagBad (l : Lexer) : l.backup.tagBad = l.tagBad := rfl
@[simp] theorem ignore_tagBad (l : Lexer) : l.ignore.tagBad = l.tagBad := rfl
@[simp] theorem addPos_tagBad (l : Lexer) (d : Int) : (l.addPos d).tagBad = l.tagBad := rfl
@[simp] theorem backup_items (l : Lexer) : l.backup.items = l.items := rfl
@[simp] theorem ignore_items (l : Lexer) : l.ignore.items = l.items := rfl
@[simp] theorem addPos_items (l : Lexer) (d : Int) : (l.addPos d).items = l.items := rfl
@[simp] theorem backup_tagStart (l : Lexer) : l.backup.tagStart = l.tagStart := rfl
@[simp] theorem ignore_tagStart (l : Lexer) : l.ignore.tagStart = l.tagStart := rfl
@[simp] theorem addPos_tagStart (l : Lexer) (d : Int) : (l.addPos d).tagStart = l.tagStart := rfl

theorem push_counts {l l' : Lexer} {it : Item} (hit : l'.items = l.items.push it) :
    l'.cnt = l.cnt + 1 ∧ l'.tot = l.tot + it.val.length ∧ l'.mp = max l.mp it.pos := by
  simp [Lexer.cnt, Lexer.tot, Lexer.mp, hit]

theorem push_bad {l l' : Lexer} {it : Item} (hi : l'.input = l.input) (hit : l'.items = l.items.push it) :
    l'.badInit = l.bad ∧ (itemOK it = true → sliceOK l.input it = true → l'.bad = l.bad) :=
  ⟨by simp [Lexer.badInit, Lexer.bad, hi, hit], fun h hs => by simp [Lexer.bad, hi, hit, List.filter_append, h, hs]⟩

theorem bad_push' (l : Lexer) (it : Item) (h : itemOK it = true) (hs : sliceOK l.input it = true) :
    Lexer.bad { l with items := l.items.push it } = l.bad :=
  (push_bad (l := l) (l' := { l with items := l.items.push it }) rfl rfl).2 h hs

theorem sliceOf_sat {s : Array UInt8} {a b : Int} (h0 : 0 ≤ a) (h1 : a ≤ b) (h2 : b ≤ s.size) :
    Sat (sliceOf s a b) fun v => (v.length : Int) = b - a := by
  unfold sliceOf
  rw [if_pos ⟨h0, h1, h2⟩]
  refine ⟨_, rfl, ?_⟩
  simp only [Array.length_toList, Array.size_extract]
  omega

theorem indexOf_sat {s : Array UInt8} {i : Int} (h0 : 0 ≤ i) (h1 : i < s.size) : Sat (indexOf s i) fun _ => True := by
  unfold indexOf
  rw [if_pos ⟨h0, h1⟩]
  exact ⟨_, rfl, trivial⟩

theorem hasPrefixAt_sat {s : Array UInt8} {pos : Int} {pre : Bytes} (h0 : 0 ≤ pos) (h1 : pos ≤ s.size) :
    Sat (hasPrefixAt s pos pre) fun b => b = true → pos + pre.length ≤ s.size := by
  cases h : hasPrefixAt s pos pre with
  | none =>
    unfold hasPrefixAt at h
    rw [if_pos ⟨h0, h1⟩] at h
    exact absurd h (by simp)
  | some b =>
    refine ⟨b, rfl, fun hb => ?_⟩
    subst hb
    exact (hasPrefixAt_true h).2

theorem stringsIndex_le (needle : Bytes) : ∀ (hay : Bytes) (i : Nat),
    stringsIndex needle hay = some i → i + needle.length ≤ hay.length := by
  intro hay
  induction hay with
  | nil => intro i h; simp [stringsIndex] at h
  | cons b t ih =>
    intro i h
    unfold stringsIndex at h
    split at h
    · rename_i hp
      simp only [Option.some.injEq] at h
      subst h
      have := List.IsPrefix.length_le (List.isPrefixOf_iff_prefix.mp hp)
      omega
    · simp only [Option.map_eq_some_iff] at h
      obtain ⟨j, hj, rfl⟩ := h
      have := ih j hj
      simp only [List.length_cons]
      omega

/-- What no step of a state function disturbs, of the lexer `l` that reads the input `a` of `n` bytes: the items sent are
    well-formed pieces of the input that lie in front of `start`, and `tagStart` is at a `{`. -/
structure Lx (n : Int) (a : Array UInt8) (l : Lexer) : Prop where
  input : l.input = a
  len : l.len = n
  start_nonneg : 0 ≤ l.start
  start_le : l.start ≤ n
  tot : l.tot ≤ l.start
  mp : (l.mp : Int) ≤ n
  bad : l.bad = 0
  tagStart_le : l.tagStart ≤ n
  tagBad : l.tagBad = 0

section Rules
variable {n : Int} {a : Array UInt8} {l l' : Lexer}

/-- a step that sends nothing and leaves `tagStart` alone keeps `Lx`; the pending token may lose a prefix -/
theorem Lx.move (h : Lx n a l) (hi : l'.input = l.input) (hit : l'.items = l.items) (htg : l'.tagStart = l.tagStart)
    (h1 : l.start ≤ l'.start) (h2 : l'.start ≤ n) : Lx n a l' := by
  have e : l'.len = l.len ∧ l'.tot = l.tot ∧ l'.mp = l.mp ∧ l'.bad = l.bad ∧ l'.tagBad = l.tagBad := by
    simp only [Lexer.len, Lexer.tot, Lexer.mp, Lexer.bad, Lexer.tagBad, hi, hit, htg, and_self]
  refine ⟨hi.trans h.input, e.1.trans h.len, ?_, h2, ?_, ?_, e.2.2.2.1.trans h.bad, htg ▸ h.tagStart_le,
    e.2.2.2.2.trans h.tagBad⟩
  · have := h.start_nonneg
    omega
  · have := h.tot
    omega
  · rw [e.2.2.1]
    exact h.mp

/-- a step that sends a well-formed token, a piece of the input between `start` and the new start -/
theorem Lx.push {it : Item} (h : Lx n a l) (hi : l'.input = l.input) (hit : l'.items = l.items.push it)
    (htg : l'.tagStart = l.tagStart) (hok : itemOK it = true) (hsl : sliceOK a it = true) (hpos : (it.pos : Int) ≤ n)
    (hlen : l.start + it.val.length ≤ l'.start) (h2 : l'.start ≤ n) : Lx n a l' := by
  obtain ⟨_, ht, hm⟩ := push_counts hit
  have := h.tot
  have := h.mp
  have := h.start_nonneg
  refine ⟨hi.trans h.input, ?_, by omega, h2, by omega, by omega, ?_, htg ▸ h.tagStart_le, ?_⟩
  · rw [← h.len]
    simp only [Lexer.len, hi]
  · rw [(push_bad hi hit).2 hok (h.input ▸ hsl)]
    exact h.bad
  · rw [← h.tagBad]
    simp only [Lexer.tagBad, hi, htg]

theorem Lx.setTag (h : Lx n a l) (hb : byteAt a l.start.toNat = 123) : Lx n a { l with tagStart := l.start } :=
  { h with
    tagStart_le := h.start_le
    tagBad := by
      unfold Lexer.tagBad
      rw [if_pos (Or.inr (by rw [h.input]; exact hb))] }

/-- one `next` from position `p` of `n`: the rune `r` read, the position `p'` behind it and its width `w'`
    (at the end of the input nothing is read); a rune below 0x80 is one byte.  `-1` is `eof` of the model: here and in
    `ScanFacts`, `Read`, `Scanned` the literal is written, because these are the facts `omega` works on and it does not
    unfold `eof`. -/
abbrev NextFacts (n p r p' w' : Int) : Prop :=
  (n ≤ p ∧ r = -1 ∧ p' = p ∧ w' = 0) ∨
  (p < n ∧ 0 ≤ r ∧ 1 ≤ w' ∧ p' = p + w' ∧ p' ≤ n ∧ (128 ≤ r ∨ w' = 1))

theorem next_raw {l : Lexer} (h0 : 0 ≤ l.pos) :
    Sat l.next fun (r, l') =>
      (l'.len = l.len ∧ l'.input = l.input ∧ l'.items = l.items ∧ l'.tagStart = l.tagStart) ∧ l'.start = l.start ∧
        NextFacts l.len l.pos r l'.pos l'.width := by
  unfold Lexer.next
  split
  · exact ⟨_, rfl, ⟨rfl, rfl, rfl, rfl⟩, rfl, Or.inl ⟨by assumption, rfl, rfl, rfl⟩⟩
  · rename_i h1
    rw [if_neg (by omega)]
    simp only [Lexer.len] at h1
    have hw := decodeRune_width l.input l.pos.toNat (by omega)
    have ha := decodeRune_ascii l.input l.pos.toNat
    refine ⟨_, rfl, ⟨rfl, rfl, rfl, rfl⟩, rfl, Or.inr ?_⟩
    dsimp only [Lexer.len]
    omega

theorem next_facts {l l' : Lexer} {r : Int} (h : l.next = some (r, l')) (h0 : 0 ≤ l.pos) :
    (l'.len = l.len ∧ l'.input = l.input ∧ l'.items = l.items ∧ l'.tagStart = l.tagStart) ∧ l'.start = l.start ∧
      NextFacts l.len l.pos r l'.pos l'.width :=
  (next_raw h0).of_eq h

theorem next_content {l l' : Lexer} {r : Int} (h : l.next = some (r, l')) (hr0 : 0 ≤ r) (hr : r < 128) :
    (byteAt l.input l.pos.toNat : Int) = r := by
  unfold Lexer.next at h
  split at h
  · simp only [Option.some.injEq, Prod.mk.injEq] at h
    have := h.1; simp only [eof] at this; omega
  · split at h
    · exact absurd h (by simp)
    · simp only [Option.some.injEq, Prod.mk.injEq] at h
      have h1 := h.1
      have := decodeRune_small l.input l.pos.toNat (by omega)
      omega

/-- the rule for `let (r, l) ← l.next` in the form the tactic `nx` applies -/
theorem next_sat {Q : Int × Lexer → Prop} (h : Lx n a l ∧ 0 ≤ l.pos)
    (hq : ∀ r l', Lx n a l' → (0 ≤ r → r < 128 → (byteAt a l.pos.toNat : Int) = r) →
      NextFacts n l.pos r l'.pos l'.width → Q (r, l')) : Sat l.next Q := by
  obtain ⟨⟨r, l'⟩, e, hf, hs, hn⟩ := next_raw h.2
  refine ⟨_, e, hq r l' (h.1.move hf.2.1 hf.2.2.1 hf.2.2.2 (by omega) (hs ▸ h.1.start_le)) ?_ (h.1.len ▸ hn)⟩
  rw [← h.1.input]
  exact next_content e

/-- emitting a token of type `t` with `k` bytes is fine: long enough for the slices the parser takes of it -/
def emitOK (t : ItemType) (k : Int) : Prop :=
  (sliced1 t = true → 1 ≤ k) ∧ (sliced2 t = true → 2 ≤ k) ∧ notEnd t = true

theorem emitOK_mono {t : ItemType} {j k : Int} (h : emitOK t j) (hjk : j ≤ k) : emitOK t k :=
  ⟨fun h1 => by have := h.1 h1; omega, fun h2 => by have := h.2.1 h2; omega, h.2.2⟩

theorem emitOK_unsliced {t : ItemType} {k : Int} (h1 : sliced1 t = false) (h2 : sliced2 t = false)
    (h3 : notEnd t = true := by decide) : emitOK t k :=
  ⟨fun h => by rw [h1] at h; exact absurd h (by simp), fun h => by rw [h2] at h; exact absurd h (by simp), h3⟩

theorem emitOK_of_one_le {t : ItemType} {k : Int} (h2 : sliced2 t = false) (hk : 1 ≤ k) (h3 : notEnd t = true := by decide) :
    emitOK t k :=
  ⟨fun _ => hk, fun h => by rw [h2] at h; exact absurd h (by simp), h3⟩

theorem emitOK_of_two_le {t : ItemType} {k : Int} (hk : 2 ≤ k) (h3 : notEnd t = true := by decide) : emitOK t k :=
  ⟨fun _ => by omega, fun _ => hk, h3⟩

theorem itemOK_of_emitOK {t : ItemType} {q : Nat} {v : Bytes} {k : Int} (hok : emitOK t k) (hv : (v.length : Int) = k) :
    itemOK ⟨t, q, v⟩ = true := by
  simp only [itemOK, Bool.and_eq_true, Bool.or_eq_true, Bool.not_eq_true', decide_eq_true_eq]
  refine ⟨⟨?_, ?_⟩, hok.2.2⟩
  · by_cases hs1 : sliced1 t = true
    · right; have := hok.1 hs1; omega
    · left; simpa using hs1
  · by_cases hs2 : sliced2 t = true
    · right; have := hok.2.1 hs2; omega
    · left; simpa using hs2

theorem emit_raw {t : ItemType} (h : Lx n a l) (h1 : l.start ≤ l.pos) (h2 : l.pos ≤ n) :
    Sat (l.emit t) fun l' => ∃ v : Bytes, l'.items = l.items.push ⟨t, l.pos.toNat, v⟩ ∧ (v.length : Int) = l.pos - l.start ∧
      sliceOK a ⟨t, l.pos.toNat, v⟩ = true ∧ l'.input = l.input ∧ l'.tagStart = l.tagStart ∧ l'.start = l.pos ∧
      l'.pos = l.pos := by
  have h0 := h.start_nonneg
  have hl : (l.input.size : Int) = n := h.len
  unfold Lexer.emit
  simp only [if_neg (show ¬ l.pos > l.len by rw [h.len]; omega)]
  unfold sliceOf
  rw [if_pos ⟨by omega, by omega, by omega⟩]
  refine ⟨_, rfl, _, rfl, ?_, ?_, rfl, rfl, rfl, rfl⟩
  · simp only [Array.length_toList, Array.size_extract]
    omega
  · simp only [sliceOK, decide_eq_true_eq, Array.length_toList, Array.size_extract, ← h.input]
    congr 2 <;> omega

theorem Lx.emit {t : ItemType} (h : Lx n a l) (h1 : l.start ≤ l.pos) (h2 : l.pos ≤ n) (hok : emitOK t (l.pos - l.start)) :
    Sat (l.emit t) fun l' => Lx n a l' ∧ l'.start = l.pos ∧ l'.pos = l.pos ∧ l'.cnt = l.cnt + 1 := by
  apply (emit_raw h h1 h2).mono
  intro l' ⟨v, hit, hv, hsl, hi, htg, hs, hp⟩
  have := h.start_nonneg
  exact ⟨h.push hi hit htg (itemOK_of_emitOK hok hv) hsl (show ((l.pos.toNat : Nat) : Int) ≤ n by omega)
    (show l.start + (v.length : Int) ≤ l'.start by omega) (hs ▸ h2), hs, hp, (push_counts hit).1⟩

theorem emit_items {l l' : Lexer} {t : ItemType} (h : l.emit t = some l') :
    ∃ it, l'.items.back? = some it ∧ it.typ = t := by
  unfold Lexer.emit at h
  simp only at h
  split at h
  · exact absurd h (by simp)
  · simp only [Option.some.injEq] at h
    subst h
    rename_i v _
    exact ⟨{ typ := t, pos := (if l.pos > l.len then { l with pos := l.len } else l).pos.toNat, val := v },
      by simp, rfl⟩

/-- what `scanWhile` from position `p` returns: the rune `r` that ended the loop, read last, of width `w'`, and
    the position `p'` behind it -/
abbrev ScanFacts (n p r p' w' : Int) : Prop :=
  p ≤ p' - w' ∧ ((r = -1 ∧ w' = 0 ∧ p' = n) ∨ (0 ≤ r ∧ 1 ≤ w' ∧ (128 ≤ r ∨ w' = 1) ∧ p' ≤ n))

theorem scan_raw (q : Int → Bool) (hq : q eof = false) {l : Lexer} (h0 : 0 ≤ l.pos) (h1 : l.pos ≤ l.len) :
    Sat (scanWhile q hq l) fun (r, l') =>
      (l'.len = l.len ∧ l'.input = l.input ∧ l'.items = l.items ∧ l'.tagStart = l.tagStart) ∧ l'.start = l.start ∧
        q r = false ∧ ScanFacts l.len l.pos r l'.pos l'.width := by
  induction l using scanWhile.induct q hq with
  | case1 l hn => exact absurd hn (next_raw h0).ne_none
  | case2 l r0 l0 hn hr ih =>
    obtain ⟨⟨h1', h2', h3', h4'⟩, hs, hf⟩ := (next_raw h0).of_eq hn
    have hne : r0 ≠ -1 := fun e => by rw [e] at hr; exact absurd (hq ▸ hr) (by decide)
    rw [scanWhile_some hn, if_pos hr]
    apply (ih (by omega) (by omega)).mono
    intro (r, l') ⟨⟨e1, e2, e3, e4⟩, es, hqr, hsf⟩
    dsimp only at hsf ⊢
    exact ⟨⟨e1.trans h1', e2.trans h2', e3.trans h3', e4.trans h4'⟩, es.trans hs, hqr, by omega⟩
  | case3 l r0 l0 hn hr =>
    obtain ⟨hfr, hs, hf⟩ := (next_raw h0).of_eq hn
    rw [scanWhile_some hn, if_neg hr]
    refine Sat.ret ?_
    dsimp only
    exact ⟨hfr, hs, by simpa using hr, by omega⟩

/-- `maybeEmitText(l, m)`: the pending text `[start, pos - m)`, if not empty, is sent or (all blank) dropped -/
theorem Lx.maybeEmitText {m : Int} (h : Lx n a l) (hp : l.pos - m ≤ n) :
    Sat (maybeEmitText l m) fun l' => Lx n a l' ∧ l'.pos = l.pos ∧
      ((l'.start = l.start ∧ l'.cnt = l.cnt ∧ l.pos - m ≤ l.start) ∨
        (l.start < l.pos - m ∧ l'.start = l.pos - m ∧ l'.cnt ≤ l.cnt + 1)) := by
  unfold Lex.maybeEmitText
  split
  · obtain ⟨v, ev, _⟩ := sliceOf_sat (s := l.input) (a := l.start) (b := l.pos - m) h.start_nonneg
      (by omega) (by have hl : (l.input.size : Int) = n := h.len; omega)
    simp only [ev]
    have h' : Lx n a (l.addPos (-m)) := h.move rfl rfl rfl (Int.le_refl _) h.start_le
    have key : Sat (if allSpaceWithNewline v = true then some (l.addPos (-m)).ignore
        else (l.addPos (-m)).emit ItemType.tText)
        fun l2 => Lx n a l2 ∧ l2.start = l.pos - m ∧ l2.pos = l.pos - m ∧ l2.cnt ≤ l.cnt + 1 := by
      split
      · exact Sat.ret ⟨h'.move rfl rfl rfl (by show l.start ≤ l.pos + -m; omega) (by show l.pos + -m ≤ n; omega),
          by show l.pos + -m = _; omega, by show l.pos + -m = _; omega, by show l.cnt ≤ _; omega⟩
      · apply (h'.emit (by show l.start ≤ l.pos + -m; omega) (by show l.pos + -m ≤ n; omega)
          (emitOK_unsliced rfl rfl)).mono
        intro l2 ⟨h2, e1, e2, e3⟩
        exact ⟨h2, by rw [e1]; show l.pos + -m = _; omega, by rw [e2]; show l.pos + -m = _; omega,
          by rw [e3]; show l.cnt + 1 ≤ _; omega⟩
    obtain ⟨l2, e2, h2, hs2, hp2, hc2⟩ := key
    rw [e2]
    refine Sat.ret ⟨h2.move rfl rfl rfl (Int.le_refl _) h2.start_le, by show l2.pos + m = _; omega,
      Or.inr ⟨by omega, hs2, hc2⟩⟩
  · exact Sat.ret ⟨h, rfl, Or.inl ⟨rfl, rfl, by omega⟩⟩

end Rules

/-- invariant at state boundaries: the pending token `[start, pos)` lies inside the input, and at most two items
    have been sent per byte in front of it -/
def Good (n : Int) (l : Lexer) : Prop :=
  Lx n l.input l ∧ l.cnt ≤ 2 * l.start ∧ l.start ≤ l.pos ∧ l.pos ≤ n

/-- what else holds on entry to the state `st`, of the input `a` of `n` bytes and the pending token `[s, p)`: the tag
    states begin with nothing pending, `lexLeftDelim` stands at the `{` that `lexText` saw, `lexIdent` is entered only
    in front of a rune (`p < n`: it backs up over its first rune without looking), `lexRightDelim` / `lexRightDelimEnd`
    behind the `}` / `/` they will send (`s < p`), and `lexString q` has just read its opening quote `q` -/
def ExtraAt (st : St) (a : Array UInt8) (n s p : Int) : Prop :=
  match st with
  | .leftDelim => s = p ∧ byteAt a p.toNat = 123
  | .beginTag => s = p
  | .insideTag => s = p
  | .ident => s = p ∧ p < n
  | .rightDelim => s < p
  | .rightDelimEnd => s < p
  | .str q => s + 1 = p ∧ (byteAt a s.toNat : Int) = q ∧ (q = 34 ∨ q = 39)
  | _ => True

def Extra (st : St) (l : Lexer) : Prop := ExtraAt st l.input l.len l.start l.pos

/-- rank of a state: a state that may hand over to another one without consuming input ranks above it (`lexText` to
    `lexLeftDelim` at a `{`, `lexBeginTag` to `lexInsideTag` / `lexIdent`, `lexInsideTag` to `lexIdent` / `lexNumber`
    over the rune it rewinds, `lexRightDelim` to `lexText`); every other hand-over consumes input -/
def rank : St → Nat
  | .rightDelim => 6 | .rightDelimEnd => 6 | .text => 5 | .leftDelim => 4 | .beginTag => 3
  | .insideTag => 2 | .ident => 1 | .number => 1
  | .headerParam => 0 | .css => 0 | .literal => 0 | .str _ => 0

/-- the measure that every state transition decreases: a byte of input outweighs any rank -/
def phi (n : Int) (s : St) (l : Lexer) : Nat := 7 * (n - l.pos).toNat + rank s

theorem rank_le (s : St) : rank s ≤ 6 := by cases s <;> simp [rank]

theorem phi_lt_of_adv {n : Int} {s s' : St} {l l' : Lexer} (h : l.pos < l'.pos) (hn : l'.pos ≤ n) :
    phi n s' l' < phi n s l := by
  have := rank_le s'
  unfold phi
  omega

theorem phi_lt_of_same {n : Int} {s s' : St} {l l' : Lexer} (h : l'.pos = l.pos) (hr : rank s' < rank s) :
    phi n s' l' < phi n s l := by
  unfold phi
  rw [h]
  omega

/-- the last item sent is EOF or Error: what the parser waits for to stop -/
def EndsOK (l : Lexer) : Prop := ∃ it, l.items.back? = some it ∧ (it.typ = .tEOF ∨ it.typ = .tError)

/-- an Error item of `errorfAt` stands where the construct it complains about begins: an
    unclosed tag or literal at the `{` of the tag (position 0 for an expression, which has
    no delimiter), a string at its opening quote, a block comment at `/*`, a soydoc comment
    at `/**`, a bad name behind `.` / `?.` at the `.` / the `?`.  Nothing is claimed of class 6 (`clsBraces`) and of
    the class-less items of `errorf`. -/
def ErrItemOK (input : Array UInt8) (it : Item) : Prop :=
  (it.val = [clsTag] ∨ it.val = [clsLiteral] → it.pos = 0 ∨ byteAt input it.pos = 123) ∧
  (it.val = [clsString] → byteAt input it.pos = 34 ∨ byteAt input it.pos = 39) ∧
  (it.val = [clsComment] → byteAt input it.pos = 47 ∧ byteAt input (it.pos + 1) = 42) ∧
  (it.val = [clsSoyDoc] → byteAt input it.pos = 47 ∧ byteAt input (it.pos + 1) = 42 ∧ byteAt input (it.pos + 2) = 42) ∧
  (it.val = [clsName] → byteAt input it.pos = 46 ∨ byteAt input it.pos = 63)

def ErrAt (l : Lexer) : Prop := ∀ it, l.items.back? = some it → it.typ = .tError → ErrItemOK l.input it

section ErrItem
/- each `ErrItemOK … ⟨.tError, p, [cls]⟩` below is the claim of the class `cls` alone, the class codes being
   different bytes -/
attribute [local simp] ErrItemOK clsTag clsLiteral clsString clsComment clsSoyDoc clsBraces clsName
variable {input : Array UInt8} {p : Nat}

theorem ErrItemOK.nil (input : Array UInt8) (p : Nat) : ErrItemOK input ⟨.tError, p, []⟩ := by
  simp

theorem tag_err {l : Lexer} {cls : UInt8} (ht : l.tagBad = 0)
    (hc : cls = clsTag ∨ cls = clsLiteral) : ErrItemOK l.input ⟨.tError, l.tagStart.toNat, [cls]⟩ := by
  have hor : l.tagStart.toNat = 0 ∨ byteAt l.input l.tagStart.toNat = 123 := by
    unfold Lexer.tagBad at ht
    split at ht
    · rename_i h
      exact h.imp_left fun e => by rw [e]; rfl
    · exact absurd ht (by decide)
  rcases hc with rfl | rfl <;> simpa using hor

/-- "expected double closing braces in tag" (class 6): no claim about the bytes at the position -/
theorem braces_err : ErrItemOK input ⟨.tError, p, [clsBraces]⟩ := by
  simp

theorem name_err (h : byteAt input p = 46 ∨ byteAt input p = 63) : ErrItemOK input ⟨.tError, p, [clsName]⟩ := by
  simpa using h

theorem str_err (h : byteAt input p = 34 ∨ byteAt input p = 39) : ErrItemOK input ⟨.tError, p, [clsString]⟩ := by
  simpa using h

theorem cmt_err (h : byteAt input p = 47 ∧ byteAt input (p + 1) = 42) : ErrItemOK input ⟨.tError, p, [clsComment]⟩ := by
  simpa using h

theorem doc_err (h : byteAt input p = 47 ∧ byteAt input (p + 1) = 42 ∧ byteAt input (p + 2) = 42) :
    ErrItemOK input ⟨.tError, p, [clsSoyDoc]⟩ := by
  simpa using h

end ErrItem

/-- what a state function must deliver: it returns (no panic) and leaves the input alone; if it hands over to a next
    state, the invariant and the entry condition of that state hold and the measure went down; if it ends the scan
    (nil state), the last item it sent is EOF or Error, an Error item stands where `ErrItemOK` says, all items before
    it are well-formed pieces of the input (`badInit = 0`), and positions, number and total length of the items are
    bounded by the length of the input -/
def Post (n : Int) (s : St) (l : Lexer) (res : Option St × Lexer) : Prop :=
  (∀ s', res.1 = some s' → (Good n res.2 ∧ Extra s' res.2) ∧ phi n s' res.2 < phi n s l) ∧
  (res.1 = none → EndsOK res.2 ∧ ((res.2.mp : Int) ≤ n ∧ res.2.cnt ≤ 2 * n + 1 ∧ res.2.tot ≤ n + 1) ∧ res.2.badInit = 0 ∧ ErrAt res.2) ∧
  res.2.input = l.input

section Ends
variable {n : Int} {l0 l : Lexer} {st st' : St}

/-- the scan ends with the item `it`, EOF or Error -/
theorem Lx.last {it : Item} {l' : Lexer} (h : Lx n l0.input l) (hc : l.cnt ≤ 2 * l.start) (hi : l'.input = l.input)
    (hit : l'.items = l.items.push it) (ht : it.typ = .tEOF ∨ it.typ = .tError) (hq : (it.pos : Int) ≤ n)
    (hv : l.start + it.val.length ≤ n + 1) (he : it.typ = .tError → ErrItemOK l0.input it) : Post n st l0 (none, l') := by
  obtain ⟨hcn, htt, hm⟩ := push_counts hit
  have := h.start_le
  have := h.tot
  have := h.mp
  refine ⟨fun _ e => absurd e (by simp), fun _ => ⟨⟨it, by simp [hit], ht⟩, ⟨show (l'.mp : Int) ≤ n by omega, show l'.cnt ≤ 2 * n + 1 by omega, show l'.tot ≤ n + 1 by omega⟩, ?_, ?_⟩,
    hi.trans h.input⟩
  · rw [(push_bad hi hit).1]
    exact h.bad
  · intro it' hb ht'
    simp only [hit, Array.back?_push, Option.some.injEq] at hb
    subst hb
    rw [hi, h.input]
    exact he ht'

/-- the hand-over to the state `st'`: progress, or — where the lexer stands at the position of entry — a lower rank -/
theorem Lx.post (h : Lx n l0.input l) (hc : l.cnt ≤ 2 * l.start) (h1 : l.start ≤ l.pos) (h2 : l.pos ≤ n) (hle : l0.pos ≤ l.pos)
    (hr : l.pos = l0.pos → rank st' < rank st) (hx : ExtraAt st' l0.input n l.start l.pos) : Post n st l0 (some st', l) := by
  refine ⟨fun _ e => ?_, fun e => absurd e (by simp), h.input⟩
  cases e
  have hg : Good n l := by
    have hin := h.input
    rw [← hin] at h
    exact ⟨h, hc, h1, h2⟩
  refine ⟨⟨hg, ?_⟩, ?_⟩
  · unfold Extra
    rw [h.input, h.len]
    exact hx
  · by_cases e : l.pos = l0.pos
    · exact phi_lt_of_same e (hr e)
    · exact phi_lt_of_adv (show l0.pos < l.pos by omega) h2

end Ends

theorem lookup_snd_mem {α : Type} [BEq α] (k : α) : ∀ (l : List (α × ItemType)) (v : ItemType),
    l.lookup k = some v → v ∈ l.map (·.2) := by
  intro l
  induction l with
  | nil => intro v h; simp [List.lookup] at h
  | cons p r ih =>
    intro v h
    obtain ⟨k', v'⟩ := p
    simp only [List.lookup] at h
    split at h
    · simp only [Option.some.injEq] at h; subst h; simp
    · have := ih v h; simp only [List.map_cons, List.mem_cons]; exact Or.inr this

theorem symbols_vals_safe : ∀ t ∈ Gen.symbols.map (·.2), sliced1 t = false ∧ sliced2 t = false ∧ notEnd t = true := by decide
theorem builtins_vals_safe : ∀ t ∈ Gen.builtinIdents.map (·.2), sliced1 t = false ∧ sliced2 t = false ∧ notEnd t = true := by decide

theorem symbols_lookup_ok {k : Bytes} {t : ItemType} {n : Int} (h : Gen.symbols.lookup k = some t) : emitOK t n := by
  have := symbols_vals_safe t (lookup_snd_mem k _ t h)
  exact emitOK_unsliced this.1 this.2.1 this.2.2

theorem symbols_getD_ok (r : Int) (n : Int)
    (h : r = 42 ∨ r = 47 ∨ r = 37 ∨ r = 43 ∨ r = 58 ∨ r = 40 ∨ r = 41) :
    emitOK ((Gen.symbols.lookup [r.toNat.toUInt8]).getD .tInvalid) n := by
  rcases h with rfl | rfl | rfl | rfl | rfl | rfl | rfl <;>
    exact emitOK_unsliced (by decide) (by decide) (by decide)

theorem builtins_lookup_ok {k : Bytes} {t : ItemType} {n : Int} (h : Gen.builtinIdents.lookup k = some t) : emitOK t n := by
  have := builtins_vals_safe t (lookup_snd_mem k _ t h)
  exact emitOK_unsliced this.1 this.2.1 this.2.2

/- `nx` stands here without a user (the walks use `At.next_then`); it is kept as it was written, and with it what its
   expansion names: `lx`, `next_sat`, `NextFacts`. -/

/-- the side condition of `next_sat` -/
macro "lx" : tactic => `(tactic| exact ⟨by assumption, by omega⟩)

/-- `let (r, l) ← l.next` -/
macro "nx" r:ident l:ident hl:ident hs:ident hf:ident : tactic => `(tactic|
  (apply Sat.bind; apply next_sat (by lx); intro $r $l $hl $hs $hf; unfold NextFacts at $hf:ident; dsimp only))

end SoyVerif.Model.Lex
