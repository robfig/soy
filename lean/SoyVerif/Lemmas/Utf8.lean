/-
  `Model.decodeRune` of Model/Escape.lean (Base/Utf8.lean and Model/Convert.lean have decoders of their own) on ASCII
  bytes, and continuation bytes: `Model.isCont`, `Spec.isTail` and the negation of `Model.runeStart` are one test.
-/
import SoyVerif.Model.Escape

namespace SoyVerif.Lemmas.Utf8
open SoyVerif SoyVerif.Model

theorem decodeRune_ascii (b : UInt8) (r : Bytes) (h : b < 0x80) : decodeRune (b :: r) = (b.toNat, 1) := by
  simp [decodeRune, h]

theorem isCont_iff (b : UInt8) : isCont b = true ↔ 128 ≤ b.toNat ∧ b.toNat ≤ 191 := by
  simp [isCont, UInt8.le_iff_toNat_le]

end SoyVerif.Lemmas.Utf8
