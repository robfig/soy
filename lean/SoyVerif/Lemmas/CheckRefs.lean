/-
  Facts about the specification alone: the free reference occurrences of a closed
  construct in environment `env` lie below `env.length` (a construct cannot refer to a
  binding that is declared after it); R1 on its own (`okCmd_occs` …: in a well-scoped construct
  every reference occurrence is bound); and what the first means for "every let is used"
  (`AllUsed`, the checker-side notion of Lemmas/CheckState).
-/
import SoyVerif.Lemmas.CheckExpr

namespace SoyVerif.Lemmas.Check
open SoyVerif SoyVerif.Model SoyVerif.Model.Check SoyVerif.Spec

def Below (n : Nat) (T : List Target) : Prop := ∀ t ∈ T, t.below n = true

theorem Below.nil (n : Nat) : Below n [] := by intro t ht; cases ht

theorem Below.append {n : Nat} {T U : List Target} (hT : Below n T) (hU : Below n U) : Below n (T ++ U) :=
  fun t ht => (List.mem_append.mp ht).elim (hT t) (hU t)

theorem Below.filter (n : Nat) (T : List Target) : Below n (T.filter (Target.below n)) := by
  intro t ht
  exact (List.mem_filter.mp ht).2

theorem Below.map_param (n : Nat) (ks : List Bytes) : Below n (ks.map Target.param) := by
  intro t ht
  obtain ⟨k, _, rfl⟩ := List.mem_map.mp ht
  rfl

theorem Below.refsKeys (params : List Bytes) (env : Env) (ks : List Bytes) :
    Below env.length (refsKeys params env ks) := by
  intro t ht
  simp only [Spec.refsKeys, List.mem_filterMap] at ht
  obtain ⟨k, _, hk⟩ := ht
  exact resolve_below hk

theorem Target.below_mono {t : Target} {n m : Nat} (h : t.below n = true) (hnm : n ≤ m) : t.below m = true := by
  cases t with
  | var i => simp only [Target.below, decide_eq_true_eq] at h ⊢; omega
  | _ => rfl

theorem Below.mono {n m : Nat} {T : List Target} (h : Below n T) (hnm : n ≤ m) : Below m T :=
  fun t ht => Target.below_mono (h t ht) hnm

theorem Below.filter_eq {n : Nat} {T : List Target} (h : Below n T) : T.filter (Target.below n) = T :=
  List.filter_eq_self.mpr h

theorem Below.not_mem {n j : Nat} {T : List Target} (h : Below n T) : Target.var (n + j) ∉ T := by
  intro hm
  have := h _ hm
  simp [Target.below] at this
  omega

section
variable {reg : List Check.Template} {params : List Bytes}

theorem refsBlock_below (env : Env) (b : Block) : Below env.length (refsBlock reg params env b) := by
  cases b with
  | mk _ cmds => exact Below.filter _ _

mutual
  theorem refsCmd_below : (c : Cmd) → (env : Env) → Below env.length (refsCmd reg params env c)
    | .rawText .., env => Below.nil _
    | .debugger .., env => Below.nil _
    | .namespace .., env => Below.nil _
    | .soyDoc .., env => Below.nil _
    | .headerParam .., env => Below.nil _
    | .print _ a dirs, env => Below.refsKeys _ _ _
    | .msg _ _ _ _ _ body, env => refsParts_below body env
    | .css _ e _, env => Below.refsKeys _ _ _
    | .log _ b, env => refsBlock_below env b
    | .ifc _ conds, env => refsConds_below conds env
    | .forc _ v l b (some b'), env =>
      (Below.refsKeys _ _ _).append ((Below.filter _ _).append (refsBlock_below env b'))
    | .forc _ v l b none, env =>
      (Below.refsKeys _ _ _).append ((Below.filter _ _).append (Below.nil _))
    | .switch _ v cases, env =>
      (Below.refsKeys _ _ _).append (refsCases_below cases env)
    | .call _ name allData d ps, env =>
      (Below.map_param _ _).append ((Below.refsKeys _ _ _).append (refsParams_below ps env))
    | .letValue _ _ e, env => Below.refsKeys _ _ _
    | .letContent _ _ b, env => refsBlock_below env b
    | .template _ _ b _ _, env => refsBlock_below env b
  theorem refsConds_below : (cs : CondList) → (env : Env) → Below env.length (refsConds reg params env cs)
    | .nil, env => Below.nil _
    | .cons _ c b r, env =>
      ((Below.refsKeys _ _ _).append (refsBlock_below env b)).append (refsConds_below r env)
  theorem refsCases_below : (cs : CaseList) → (env : Env) → Below env.length (refsCases reg params env cs)
    | .nil, env => Below.nil _
    | .cons _ vs b r, env =>
      ((refsBlock_below env b).append (Below.refsKeys _ _ _)).append (refsCases_below r env)
  theorem refsParams_below : (ps : ParamList) → (env : Env) → Below env.length (refsParams reg params env ps)
    | .nil, env => Below.nil _
    | .value _ _ e r, env =>
      (Below.refsKeys _ _ _).append (refsParams_below r env)
    | .content _ _ b r, env =>
      (refsBlock_below env b).append (refsParams_below r env)
  theorem refsParts_below : (ps : MsgParts) → (env : Env) → Below env.length (refsParts reg params env ps)
    | .nil, env => Below.nil _
    | .text _ _ r, env => refsParts_below r env
    | .ph _ _ (.htmlTag ..) r, env =>
      (Below.nil _).append (refsParts_below r env)
    | .ph _ _ (.cmd c) r, env =>
      (refsCmd_below c env).append (refsParts_below r env)
    | .plural _ _ v cases _ d r, env =>
      ((Below.refsKeys _ _ _).append ((refsPlCases_below cases env).append (refsParts_below d env))).append
        (refsParts_below r env)
  theorem refsPlCases_below : (cs : PluralCases) → (env : Env) → Below env.length (refsPlCases reg params env cs)
    | .nil, env => Below.nil _
    | .cons _ _ _ b r, env =>
      (refsParts_below b env).append (refsPlCases_below r env)
end

end

def OccsBound (params : List Bytes) (os : List Occ) : Prop := ∀ o ∈ os, RefBound params o.1 o.2

theorem OccsBound.nil (params : List Bytes) : OccsBound params [] := by intro o ho; cases ho

theorem OccsBound.append {params : List Bytes} {a b : List Occ} (ha : OccsBound params a)
    (hb : OccsBound params b) : OccsBound params (a ++ b) :=
  fun o ho => (List.mem_append.mp ho).elim (ha o) (hb o)

theorem OccsBound.keys {params : List Bytes} {env : Env} {ks : List Bytes} {ls : List LoopOcc}
    (h : ExprsOk params env ks ls) : OccsBound params (occsKeys env ks) := by
  intro o ho
  obtain ⟨k, hk, rfl⟩ := List.mem_map.mp ho
  exact h.1 k hk

section
variable {reg : List Check.Template} {params : List Bytes}

mutual
  theorem okCmd_occs : (c : Cmd) → (env : Env) → OkCmd reg params env c → OccsBound params (occsCmd env c)
    | .rawText .., env, _ => OccsBound.nil _
    | .debugger .., env, _ => OccsBound.nil _
    | .namespace .., env, _ => OccsBound.nil _
    | .soyDoc .., env, _ => OccsBound.nil _
    | .headerParam .., env, _ => OccsBound.nil _
    | .print _ a dirs, env, h => OccsBound.keys h
    | .msg _ _ _ _ _ body, env, h => okParts_occs body env h
    | .css _ e _, env, h => OccsBound.keys h
    | .log _ b, env, h => okBlock_occs b env h
    | .ifc _ conds, env, h => okConds_occs conds env h
    | .forc _ v l b (some b'), env, h =>
      (OccsBound.keys h.1).append ((okBlock_occs b _ h.2.1).append (okBlock_occs b' env h.2.2))
    | .forc _ v l b none, env, h =>
      (OccsBound.keys h.1).append ((okBlock_occs b _ h.2.1).append (OccsBound.nil _))
    | .switch _ v cases, env, h =>
      (OccsBound.keys h.1).append (okCases_occs cases env h.2)
    | .call _ name allData d ps, env, h =>
      (OccsBound.keys h.2.1).append (okParams_occs ps env h.2.2)
    | .letValue _ _ e, env, h => OccsBound.keys h.2
    | .letContent _ _ b, env, h => okBlock_occs b env h.2
    | .template _ _ b _ _, env, h => okBlock_occs b env h
  theorem okBlock_occs : (b : Block) → (env : Env) → OkBlock reg params env b →
      OccsBound params (occsBlock env b)
    | .mk _ cmds, env, h => okCmds_occs cmds env h
  theorem okCmds_occs : (cs : CmdList) → (env : Env) → OkCmds reg params env cs →
      OccsBound params (occsCmds env cs)
    | .nil, env, _ => OccsBound.nil _
    | .cons c r, env, h =>
      (okCmd_occs c env h.1).append (okCmds_occs r _ h.2.2)
  theorem okConds_occs : (cs : CondList) → (env : Env) → OkConds reg params env cs →
      OccsBound params (occsConds env cs)
    | .nil, env, _ => OccsBound.nil _
    | .cons _ c b r, env, h =>
      ((OccsBound.keys h.1.1).append (okBlock_occs b env h.1.2)).append (okConds_occs r env h.2)
  theorem okCases_occs : (cs : CaseList) → (env : Env) → OkCases reg params env cs →
      OccsBound params (occsCases env cs)
    | .nil, env, _ => OccsBound.nil _
    | .cons _ vs b r, env, h =>
      ((okBlock_occs b env h.1.1).append (OccsBound.keys h.1.2)).append (okCases_occs r env h.2)
  theorem okParams_occs : (ps : ParamList) → (env : Env) → OkParams reg params env ps →
      OccsBound params (occsParams env ps)
    | .nil, env, _ => OccsBound.nil _
    | .value _ _ e r, env, h =>
      (OccsBound.keys h.1).append (okParams_occs r env h.2)
    | .content _ _ b r, env, h =>
      (okBlock_occs b env h.1).append (okParams_occs r env h.2)
  theorem okParts_occs : (ps : MsgParts) → (env : Env) → OkParts reg params env ps →
      OccsBound params (occsParts env ps)
    | .nil, env, _ => OccsBound.nil _
    | .text _ _ r, env, h => okParts_occs r env h
    | .ph _ _ (.htmlTag ..) r, env, h =>
      (OccsBound.nil _).append (okParts_occs r env h.2)
    | .ph _ _ (.cmd c) r, env, h =>
      (okCmd_occs c env h.1.1).append (okParts_occs r env h.2)
    | .plural _ _ v cases _ d r, env, h =>
      ((OccsBound.keys h.1.1).append ((okPlCases_occs cases env h.1.2.1).append
        (okParts_occs d env h.1.2.2))).append (okParts_occs r env h.2)
  theorem okPlCases_occs : (cs : PluralCases) → (env : Env) → OkPlCases reg params env cs →
      OccsBound params (occsPlCases env cs)
    | .nil, env, _ => OccsBound.nil _
    | .cons _ _ _ b r, env, h =>
      (okParts_occs b env h.1).append (okPlCases_occs r env h.2)
end

end

theorem decl_cases (c : Cmd) : decl c = [] ∨ ∃ name, decl c = [{ name := name, isLet := true }] := by
  cases c <;> simp [decl]

theorem AllUsed_append_left {n : Nat} {D : List Spec.Binding} {T U : List Target} (hT : Below n T) :
    AllUsed n D (T ++ U) ↔ AllUsed n D U := by
  simp only [AllUsed, List.mem_append]
  constructor
  · intro h j b hj hb
    rcases h j b hj hb with h | h
    · exact absurd h hT.not_mem
    · exact h
  · intro h j b hj hb
    exact Or.inr (h j b hj hb)

theorem AllUsed_cons {n : Nat} {x : Spec.Binding} {D : List Spec.Binding} {T : List Target} :
    AllUsed n (x :: D) T ↔ (x.isLet = true → Target.var n ∈ T) ∧ AllUsed (n + 1) D T := by
  simp only [AllUsed]
  constructor
  · intro h
    refine ⟨fun hx => by simpa using h 0 x (by simp) hx, ?_⟩
    intro j b hj hb
    have := h (j + 1) b (by simpa using hj) hb
    rwa [Nat.add_assoc, Nat.add_comm 1 j]
  · rintro ⟨h0, hs⟩ j b hj hb
    cases j with
    | zero =>
      simp only [List.getElem?_cons_zero, Option.some.injEq] at hj
      subst hj
      simpa using h0 hb
    | succ j =>
      have := hs j b (by simpa using hj) hb
      rwa [Nat.add_assoc, Nat.add_comm 1 j] at this

end SoyVerif.Lemmas.Check
