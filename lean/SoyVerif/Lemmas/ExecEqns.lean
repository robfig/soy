/-
  Three functions of the interpreter as equations.  `execute` once the entry template is found.  `execParams` read
  backwards: a param list that was bound without error evaluated (rendered) its first param, bound it in the
  callee's frame and went on with the rest from that state.  `forLoop` on a non-empty list: the three `set`s of
  the loop frame cannot fail (a scope with a frame always takes a `set`).
-/
import SoyVerif.Model.Eval

namespace SoyVerif.Model.Eval
open SoyVerif SoyVerif.Model

theorem execute_some (g : GEnv) (name : Bytes) (data : Frame) (fuel : Nat) (t : Registry.Tmpl)
    (hl : Registry.lookup g.reg name = some t) :
    execute g name data fuel =
      (let r := runTmpl g fuel t [⟨1, false⟩, ⟨0, true⟩]
        { heap := [⟨data, true⟩, ⟨[], false⟩], out := [], next := freshBase g data, foreign := 0 }
       { cls := (match r.cls with
          | .err => if posOk t then Cls.err else Cls.panic
          | c => c), chunks := r.st.out.reverse, data := heapGet r.st.heap 0, foreign := r.st.foreign, next := r.st.next,
         file := t.file, pos := r.st.node, line := lineNumber t.text r.st.node, impossible := r.st.impossible }) := by
  unfold execute
  rw [hl]
  rfl

theorem forLoop_cons (body : Run) (var : Bytes) (last : Int) (item : Value) (rest : List Value) (i : Nat) (ctx : Scope) (st : St) :
    ∃ st2 st3 st4, set (push ctx st).1 (push ctx st).2 (var ++ sLastIndexSuffix) (.int (Int64.ofInt last)) = some st2 ∧
      set (push ctx st).1 st2 var item = some st3 ∧
      set (push ctx st).1 st3 (var ++ sIndexSuffix) (.int (Int64.ofInt i)) = some st4 ∧
      forLoop body var last (item :: rest) i ctx st =
        (match (body (push ctx st).1 st4).cls with
         | .ok =>
           match pop (body (push ctx st).1 st4).ctx with
           | none => ⟨.err, (body (push ctx st).1 st4).ctx, (body (push ctx st).1 st4).st⟩
           | some ctx2 => forLoop body var last rest (i + 1) ctx2 (body (push ctx st).1 st4).st
         | _ => body (push ctx st).1 st4) := by
  have hs : ∀ (s : St) k v, ∃ s2, set (push ctx st).1 s k v = some s2 := fun s k v => ⟨_, rfl⟩
  obtain ⟨st2, h2⟩ := hs (push ctx st).2 (var ++ sLastIndexSuffix) (.int (Int64.ofInt last))
  obtain ⟨st3, h3⟩ := hs st2 var item
  obtain ⟨st4, h4⟩ := hs st3 (var ++ sIndexSuffix) (.int (Int64.ofInt i))
  refine ⟨st2, st3, st4, h2, h3, h4, ?_⟩
  rw [forLoop]
  simp only [h2, h3, h4]
  generalize body (push ctx st).1 st4 = r
  obtain ⟨c, cx, s⟩ := r
  cases c <;> cases cx <;> rfl

variable {g : GEnv} {esc : Bool} {call : Registry.Tmpl → Run}

theorem execParams_value_ok {p : Nat} {key : Bytes} {e : Expr} {rest : ParamList} {cd ctx : Scope} {st : St}
    (h : (execParams g esc call (.value p key e rest) cd ctx st).cls = .ok) :
    ∃ v st1 st2, evalIn g e ctx st = some (v, st1) ∧ set cd st1 key v = some st2 ∧
      execParams g esc call (.value p key e rest) cd ctx st = execParams g esc call rest cd ctx st2 := by
  rw [execParams] at h ⊢
  cases he : evalIn g e ctx st with
  | none => rw [he] at h; cases h
  | some r =>
    obtain ⟨v, st1⟩ := r
    rw [he] at h
    cases hs : set cd st1 key v with
    | none => simp only [hs] at h; cases h
    | some st2 => exact ⟨v, st1, st2, rfl, hs, by simp only [hs]⟩

theorem execParams_content_ok {p : Nat} {key : Bytes} {body : Block} {rest : ParamList} {cd ctx : Scope} {st : St}
    (h : (execParams g esc call (.content p key body rest) cd ctx st).cls = .ok) :
    (renderBlockOf (execBody g esc call body) ctx st).1.cls = .ok ∧
    ∃ st2, set cd (renderBlockOf (execBody g esc call body) ctx st).1.st key
        (.str (renderBlockOf (execBody g esc call body) ctx st).2) = some st2 ∧
      execParams g esc call (.content p key body rest) cd ctx st =
        execParams g esc call rest cd (renderBlockOf (execBody g esc call body) ctx st).1.ctx st2 := by
  rw [execParams] at h ⊢
  cases hc : (renderBlockOf (execBody g esc call body) ctx st).1.cls with
  | ok =>
    simp only [hc] at h ⊢
    cases hs : set cd (renderBlockOf (execBody g esc call body) ctx st).1.st key
        (.str (renderBlockOf (execBody g esc call body) ctx st).2) with
    | none => simp only [hs] at h; cases h
    | some st2 => exact ⟨trivial, st2, rfl, rfl⟩
  | err => simp only [hc] at h; cases h
  | panic => simp only [hc] at h; cases h
  | fuelOut => simp only [hc] at h; cases h

end SoyVerif.Model.Eval
