/-
  The index-free state machine equals the declarative line-joining specification `Spec.joinLines` on every byte string.
-/
import SoyVerif.Lemmas.RawText
import SoyVerif.Spec.JoinLines
namespace SoyVerif.Model
open SoyVerif.Spec

theorem isWs_eq (b : UInt8) : isWs b = (isSpace b || isEndOfLine b) := by
  simp [isWs, isSpace, isEndOfLine, Bool.or_assoc]
theorem isNL_eq (b : UInt8) : isNL b = isEndOfLine b := rfl
theorem tight_eq (b : UInt8) : tight b = isTightJoiner b := rfl

/-- `tight` on the byte before a run, `none` = there is none (the run is at the start of the text:
    the state machine's `noChar`) -/
def tightO : Option UInt8 → Bool
  | none => true
  | some b => tight b

theorem tightO_eq (p : Option UInt8) : tightO p = isTightJoinerO p := by cases p <;> rfl

/-- well-formed token lists: non-empty tokens, alternating kinds -/
def WF : List Tok → Prop
  | [] => True
  | [Tok.ws w] => w ≠ []
  | [Tok.chunk c] => c ≠ []
  | Tok.ws w :: Tok.chunk c :: ts => w ≠ [] ∧ WF (Tok.chunk c :: ts)
  | Tok.chunk c :: Tok.ws w :: ts => c ≠ [] ∧ WF (Tok.ws w :: ts)
  | _ => False

theorem tokenize_wf : ∀ s : Bytes, WF (tokenize s)
  | [] => trivial
  | b :: rest => by
    have ih := tokenize_wf rest
    unfold tokenize
    cases h : tokenize rest with
    | nil => by_cases hb : isWs b <;> simp [hb, WF]
    | cons t ts =>
      rw [h] at ih
      cases t with
      | ws w =>
        by_cases hb : isWs b <;> simp only [hb, if_true, if_false, Bool.false_eq_true]
        · cases ts with
          | nil => simp [WF]
          | cons t2 ts2 => cases t2 <;> simp_all [WF]
        · simp [WF]; exact ih
      | chunk c =>
        by_cases hb : isWs b <;> simp only [hb, if_true, if_false, Bool.false_eq_true]
        · simp [WF]; exact ih
        · cases ts with
          | nil => simp [WF]
          | cons t2 ts2 => cases t2 <;> simp_all [WF]

/-- the rendering of a whitespace run in progress: `w0` seen so far, `nl` = it contains a
    line break (or it is the phantom run of trimBefore), `p` = byte before the run.  The last clause (two runs in a row) is
    never reached on `tokenize` (`WF`); its value plays no role. -/
def contRun (ta : Bool) (p : Option UInt8) (nl : Bool) (w0 : Bytes) : List Tok → Bytes
  | [] => if !nl && !ta then w0 else []
  | [Tok.ws w] => if !(nl || hasNL w) && !ta then w0 ++ w else []
  | Tok.ws w :: Tok.chunk c :: ts =>
      (if !(nl || hasNL w) then w0 ++ w else if tightO p || tight (firstByte c) then [] else [32]) ++ c ++ renderRest ta (lastByte c) ts
  | Tok.chunk c :: ts =>
      (if !nl then w0 else if tightO p || tight (firstByte c) then [] else [32]) ++ c ++ renderRest ta (lastByte c) ts
  | Tok.ws _ :: Tok.ws _ :: _ => []


/-- `renderRest` with an optional byte before (proof device: the state machine's `lastChar`
    before the first chunk is `noChar`); the last clause as in `contRun` -/
def renderRestO (ta : Bool) (p : Option UInt8) : List Tok → Bytes
  | [] => []
  | [Tok.ws w] => edgeWs ta w
  | Tok.ws w :: Tok.chunk c :: ts =>
      (if !hasNL w then w else if tightO p || tight (firstByte c) then [] else [32]) ++ c ++ renderRest ta (lastByte c) ts
  | Tok.chunk c :: ts => c ++ renderRest ta (lastByte c) ts
  | Tok.ws _ :: Tok.ws _ :: _ => []

theorem renderRestO_some (ta : Bool) (b : UInt8) (toks : List Tok) (wf : WF toks) :
    renderRestO ta (some b) toks = renderRest ta b toks := by
  cases toks with
  | nil => rfl
  | cons t ts =>
    cases t with
    | chunk c => simp [renderRestO, renderRest]
    | ws w =>
      cases ts with
      | nil => simp [renderRestO, renderRest]
      | cons t2 ts2 =>
        cases t2 with
        | ws w2 => simp [WF] at wf
        | chunk c => simp [renderRestO, renderRest, innerWs, tightO]

theorem lastByte_cons (b : UInt8) (c : Bytes) (h : c ≠ []) : lastByte (b :: c) = lastByte c := by
  cases c with
  | nil => exact absurd rfl h
  | cons x xs => simp [lastByte]

@[simp] theorem hasNL_nil : hasNL [] = false := rfl
@[simp] theorem hasNL_cons (b : UInt8) (w : Bytes) : hasNL (b :: w) = (isEndOfLine b || hasNL w) := by
  simp [hasNL, isNL_eq]
@[simp] theorem hasNL_append (u w : Bytes) : hasNL (u ++ w) = (hasNL u || hasNL w) := by
  simp [hasNL]

theorem tok_nil (b : UInt8) (r : Bytes) (h : tokenize r = []) :
    tokenize (b :: r) = if isWs b then [Tok.ws [b]] else [Tok.chunk [b]] := by
  rw [tokenize]; simp [h]
theorem tok_ws (b : UInt8) (r : Bytes) (w : Bytes) (ts : List Tok) (h : tokenize r = Tok.ws w :: ts) :
    tokenize (b :: r) = if isWs b then Tok.ws (b :: w) :: ts else Tok.chunk [b] :: Tok.ws w :: ts := by
  rw [tokenize]; simp [h]
theorem tok_chunk (b : UInt8) (r : Bytes) (c : Bytes) (ts : List Tok) (h : tokenize r = Tok.chunk c :: ts) :
    tokenize (b :: r) = if isWs b then Tok.ws [b] :: Tok.chunk c :: ts else Tok.chunk (b :: c) :: ts := by
  rw [tokenize]; simp [h]

theorem renderRestO_eq_contRun (ta : Bool) (p : Option UInt8) :
    ∀ toks : List Tok, renderRestO ta p toks = contRun ta p false [] toks
  | [] => by simp [renderRestO, contRun]
  | [Tok.ws w] => by cases ta <;> cases h : hasNL w <;> simp [renderRestO, contRun, edgeWs, h]
  | Tok.ws w :: Tok.chunk c :: ts => by cases h : hasNL w <;> simp [renderRestO, contRun, h]
  | Tok.chunk c :: ts => by simp [renderRestO, contRun]
  | Tok.ws _ :: Tok.ws _ :: _ => by simp [renderRestO, contRun]

theorem contRun_ws (ta : Bool) (p : Option UInt8) (nl : Bool) (w0 : Bytes) {b : UInt8} (r : Bytes) (hw : isWs b = true) :
    contRun ta p nl w0 (tokenize (b :: r)) = contRun ta p (nl || isEndOfLine b) (w0 ++ [b]) (tokenize r) := by
  have wf := tokenize_wf r
  cases ht : tokenize r with
  | nil =>
    rw [tok_nil b r ht]
    simp [hw, contRun]
  | cons t ts =>
    rw [ht] at wf
    cases t with
    | ws w =>
      rw [tok_ws b r w ts ht]
      simp only [hw, if_true]
      cases ts with
      | nil => simp [contRun, Bool.or_assoc]
      | cons t2 ts2 =>
        cases t2 with
        | ws w2 => simp [WF] at wf
        | chunk c => simp [contRun, Bool.or_assoc]
    | chunk c =>
      rw [tok_chunk b r c ts ht]
      simp [hw, contRun, firstByte]

theorem tokenize_chunk (ta : Bool) {b : UInt8} (r : Bytes) (hw : isWs b = false) :
    ∃ c ts, tokenize (b :: r) = Tok.chunk (b :: c) :: ts ∧
      (b :: c) ++ renderRest ta (lastByte (b :: c)) ts = b :: renderRest ta b (tokenize r) := by
  have wf := tokenize_wf r
  cases ht : tokenize r with
  | nil => exact ⟨[], [], by rw [tok_nil b r ht]; simp [hw], by simp [renderRest]⟩
  | cons t ts =>
    rw [ht] at wf
    cases t with
    | ws w => exact ⟨[], Tok.ws w :: ts, by rw [tok_ws b r w ts ht]; simp [hw], by simp [lastByte]⟩
    | chunk c =>
      have hc : c ≠ [] := by
        cases ts with
        | nil => simpa [WF] using wf
        | cons t2 ts2 => cases t2 <;> simp_all [WF]
      exact ⟨c, ts, by rw [tok_chunk b r c ts ht]; simp [hw], by simp [renderRest, lastByte_cons b c hc]⟩

theorem contRun_chunk (ta : Bool) (p : Option UInt8) (nl : Bool) (w0 : Bytes) {b : UInt8} (r : Bytes) (hw : isWs b = false) :
    contRun ta p nl w0 (tokenize (b :: r)) =
      (if !nl then w0 else if tightO p || tight b then [] else [32]) ++ b :: renderRest ta b (tokenize r) := by
  obtain ⟨c, ts, e, h⟩ := tokenize_chunk ta r hw
  rw [e, contRun, List.append_assoc, h]
  simp [firstByte]

/-- the invariant of the abstract machine: what it still writes for the text `rest` is what the specification renders for
    the tokens of `rest` — behind a chunk (`renderRestO`, the machine outside a run) or as the continuation of the
    whitespace run it is in (`contRun`) -/
theorem aLoop_eq_render (ta : Bool) : ∀ rest : Bytes,
    (∀ st : AState, st.inRun = false →
        aLoop ta rest st = st.out ++ renderRestO ta st.lastChar (tokenize rest)) ∧
    (∀ st : AState, st.inRun = true →
        aLoop ta rest st = st.out ++ contRun ta st.charBeforeTrim st.seenNewline st.run (tokenize rest))
  | [] => by
    constructor
    · intro st h; simp [aLoop, aFinal, h, tokenize, renderRestO]
    · intro st h
      simp only [aLoop, aFinal, h, tokenize, contRun, Bool.and_true]
      by_cases hc : (!st.seenNewline && !ta) = true
      · simp [hc]
      · have : (!st.seenNewline && !ta) = false := by simpa using hc
        simp [this]
  | b :: r => by
    obtain ⟨ihI, ihR⟩ := aLoop_eq_render ta r
    have wf := tokenize_wf r
    constructor
    · intro st h
      unfold aLoop aStep aFlush
      simp only [h, Bool.false_eq_true, false_and, if_false]
      by_cases hb : (isSpace b || isEndOfLine b) = true
      · have hw : isWs b = true := by rw [isWs_eq]; exact hb
        simp only [hb, if_true]
        rw [ihR _ rfl, renderRestO_eq_contRun, contRun_ws _ _ _ _ r hw]
        simp
      · have hw : isWs b = false := by rw [isWs_eq]; simpa using hb
        simp only [hb, if_false, Bool.false_eq_true]
        rw [ihI _ rfl, renderRestO_some ta b _ wf, renderRestO_eq_contRun, contRun_chunk _ _ _ _ r hw]
        simp
    · intro st h
      unfold aLoop aStep aFlush
      by_cases hb : (isSpace b || isEndOfLine b) = true
      · have hw : isWs b = true := by rw [isWs_eq]; exact hb
        by_cases h1 : isSpace b = true
        · have h2 : isEndOfLine b = false := by
            simp only [isSpace, isEndOfLine, Bool.or_eq_true, beq_iff_eq] at h1 ⊢
            rcases h1 with rfl | rfl <;> decide
          simp only [h, h1, and_self, if_true]
          rw [ihR _ rfl, contRun_ws _ _ _ _ r hw]
          simp [h2]
        · have h2 : isEndOfLine b = true := by simpa [h1] using hb
          simp only [h, h1, h2, and_self, and_false, if_false, if_true, Bool.false_eq_true]
          rw [ihR _ rfl, contRun_ws _ _ _ _ r hw]
          simp [h2]
      · have hw : isWs b = false := by rw [isWs_eq]; simpa using hb
        have h1 : isSpace b = false := by
          cases h1 : isSpace b <;> simp_all
        have h2 : isEndOfLine b = false := by
          cases h2 : isEndOfLine b <;> simp_all
        simp only [h, h1, h2, and_false, if_false, if_true, Bool.false_eq_true, Bool.or_self]
        rw [contRun_chunk _ _ _ _ r hw]
        cases h3 : st.seenNewline
        · simp only [Bool.not_false, if_true]
          rw [ihI _ rfl, renderRestO_some ta b _ wf]
          simp
        · cases h4 : (!isTightJoinerO st.charBeforeTrim && !isTightJoiner b)
          · simp only [Bool.not_true, Bool.false_eq_true, if_false]
            rw [ihI _ rfl, renderRestO_some ta b _ wf]
            simp only [tightO_eq, tight_eq]
            simp_all
          · simp only [Bool.not_true, Bool.false_eq_true, if_false, if_true]
            rw [ihI _ rfl, renderRestO_some ta b _ wf]
            simp only [tightO_eq, tight_eq]
            simp_all

theorem render_false (ta : Bool) (toks : List Tok) (wf : WF toks) :
    render false ta toks = renderRestO ta none toks := by
  cases toks with
  | nil => rfl
  | cons t ts =>
    cases t with
    | chunk c => simp [render, renderRestO]
    | ws w =>
      cases ts with
      | nil => cases ta <;> cases h : hasNL w <;> simp [render, renderRestO, edgeWs, h]
      | cons t2 ts2 =>
        cases t2 with
        | ws w2 => simp [WF] at wf
        | chunk c => cases h : hasNL w <;> simp [render, renderRestO, edgeWs, h, tightO]

theorem render_true (ta : Bool) (toks : List Tok) (wf : WF toks) :
    render true ta toks = contRun ta none true [] toks := by
  cases toks with
  | nil => simp [render, contRun]
  | cons t ts =>
    cases t with
    | chunk c => simp [render, contRun, tightO]
    | ws w =>
      cases ts with
      | nil => simp [render, contRun]
      | cons t2 ts2 =>
        cases t2 with
        | ws w2 => simp [WF] at wf
        | chunk c => simp [render, contRun, edgeWs, tightO]

theorem rawtextA_eq_joinLines (s : Bytes) (tb ta : Bool) : rawtextA s tb ta = joinLines s tb ta := by
  unfold rawtextA joinLines
  cases tb with
  | false =>
    rw [(aLoop_eq_render ta s).1 (aInit false) rfl, render_false ta _ (tokenize_wf s)]
    simp [aInit]
  | true =>
    rw [(aLoop_eq_render ta s).2 (aInit true) rfl, render_true ta _ (tokenize_wf s)]
    simp [aInit]

end SoyVerif.Model
