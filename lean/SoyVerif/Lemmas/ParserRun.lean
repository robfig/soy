/-
  What `next` and `peek` of Model/Parser.lean return, in closed form and case by case on the number
  of backed-up tokens: the one place where the state-monad plumbing of the two is unfolded.
-/
import SoyVerif.Model.Parser

namespace SoyVerif.Model.Parser
open SoyVerif SoyVerif.Model

theorem next_run (st : PState) : next st =
    if st.peekCount = 0 then
      match st.rest with
      | [] => .ok (Item.zero, { st with tok0 := Item.zero })
      | x :: r => .ok (x, { st with rest := r, tok0 := x })
    else tokenAt (st.peekCount - 1) { st with peekCount := st.peekCount - 1 } := by
  by_cases h : st.peekCount = 0 <;> cases hr : st.rest <;>
    simp [next, bind, StateT.bind, get, getThe, MonadStateOf.get, StateT.get, set, StateT.set, MonadStateOf.set,
      modify, modifyGet, MonadStateOf.modifyGet, StateT.modifyGet, pure, Except.pure, Except.bind,
      nextItem, tokenAt, Nat.pos_iff_ne_zero, h, hr]

theorem peek_run (st : PState) : peek st =
    if st.peekCount = 0 then
      match st.rest with
      | [] => .ok (Item.zero, { st with peekCount := 1, tok0 := Item.zero })
      | x :: r => .ok (x, { st with rest := r, peekCount := 1, tok0 := x })
    else tokenAt (st.peekCount - 1) st := by
  by_cases h : st.peekCount = 0 <;> cases hr : st.rest <;>
    simp [peek, bind, StateT.bind, get, getThe, MonadStateOf.get, StateT.get,
      modify, modifyGet, MonadStateOf.modifyGet, StateT.modifyGet, pure, StateT.pure, Except.pure, Except.bind,
      nextItem, Nat.pos_iff_ne_zero, h, hr]

variable {st : PState}

/-- the channel is closed: the zero item -/
theorem next_run_nil (hp0 : st.peekCount = 0) (hrest : st.rest = []) :
    next st = .ok (Item.zero, { st with tok0 := Item.zero }) := by
  rw [next_run, if_pos hp0, hrest]

theorem next_run0 (hp0 : st.peekCount = 0) {x : Item} {r : List Item} (hrest : st.rest = x :: r) :
    next st = .ok (x, { st with rest := r, tok0 := x }) := by
  rw [next_run, if_pos hp0, hrest]

theorem next_run1 (hp1 : st.peekCount = 1) : next st = .ok (st.tok0, { st with peekCount := 0 }) := by
  rw [next_run, hp1]
  rfl

theorem next_run2 (hp2 : st.peekCount = 2) : next st = .ok (st.tok1, { st with peekCount := 1 }) := by
  rw [next_run, hp2]
  rfl

theorem peek_run_nil (hp0 : st.peekCount = 0) (hrest : st.rest = []) :
    peek st = .ok (Item.zero, { st with peekCount := 1, tok0 := Item.zero }) := by
  rw [peek_run, if_pos hp0, hrest]

theorem peek_run0 (hp0 : st.peekCount = 0) {x : Item} {r : List Item} (hrest : st.rest = x :: r) :
    peek st = .ok (x, { st with rest := r, peekCount := 1, tok0 := x }) := by
  rw [peek_run, if_pos hp0, hrest]

theorem peek_run1 (hp1 : st.peekCount = 1) : peek st = .ok (st.tok0, st) := by
  rw [peek_run, hp1]
  rfl

theorem peek_run2 (hp2 : st.peekCount = 2) : peek st = .ok (st.tok1, st) := by
  rw [peek_run, hp2]
  rfl

end SoyVerif.Model.Parser
