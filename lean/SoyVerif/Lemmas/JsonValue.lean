/-
  `json.Marshal` on Soy values (Model/JsonMarshal.lean) against the JSON grammar of RFC 8259
  (Spec/Json.lean): number literals, then every value by recursion over its structure.
-/
import SoyVerif.Model.JsonMarshal
import SoyVerif.Lemmas.JsonString
import SoyVerif.Lemmas.NatDigits
import SoyVerif.Lemmas.Value

namespace SoyVerif.Lemmas.JsonValue
open SoyVerif SoyVerif.Model SoyVerif.Spec SoyVerif.Spec.Json SoyVerif.Model.JsonMarshal
open SoyVerif.Lemmas.JsonString

def AllDigits (ds : Bytes) : Prop := ∀ b ∈ ds, isDigit b = true

/-- the head of `rest` does not continue a number: no digit, `.`, `e`, `E` -/
def NumEnd : Bytes → Prop
  | [] => True
  | b :: _ => isDigit b = false ∧ b ≠ 46 ∧ b ≠ 101 ∧ b ≠ 69

/-- the shape of a JSON number literal (RFC 8259 §6).  In order: sign, integer digits, fraction, exponent; the literal is
    their concatenation; the sign is empty or `-`; the integer part is non-empty, all digits, `0` or without leading zero;
    the fraction is empty or `.` and at least one digit; the exponent is empty or `e` / `E`, an optional sign, at least
    one digit -/
def JNum (lit : Bytes) : Prop :=
  ∃ sg ds frac ex, lit = sg ++ (ds ++ (frac ++ ex)) ∧ (sg = [] ∨ sg = [45]) ∧ ds ≠ [] ∧ AllDigits ds ∧
    (ds = [48] ∨ ds.head? ≠ some 48) ∧
    (frac = [] ∨ ∃ fs, frac = 46 :: fs ∧ fs ≠ [] ∧ AllDigits fs) ∧
    (ex = [] ∨ ∃ e sgn es, ex = e :: (sgn ++ es) ∧ (e = 101 ∨ e = 69) ∧ (sgn = [] ∨ sgn = [43] ∨ sgn = [45]) ∧
      es ≠ [] ∧ AllDigits es)

theorem digits_span : ∀ (ds t : Bytes), AllDigits ds → (∀ b t', t = b :: t' → isDigit b = false) →
    digits (ds ++ t) = (ds, t)
  | [], t, _, ht => by
    cases t with
    | nil => rfl
    | cons b t' => simp [digits, ht b t' rfl]
  | d :: ds, t, hd, ht => by
    have h1 : isDigit d = true := hd d (by simp)
    have ih := digits_span ds t (fun b hb => hd b (by simp [hb])) ht
    simp [digits, h1, ih]

theorem numEnd_nodigit {t : Bytes} (h : NumEnd t) : ∀ b t', t = b :: t' → isDigit b = false := by
  intro b t' e; subst e; exact h.1

theorem digit_ne {d : UInt8} (h : isDigit d = true) : d ≠ 45 ∧ d ≠ 46 ∧ d ≠ 101 ∧ d ≠ 69 ∧ d ≠ 43 := by
  simp only [isDigit, Bool.and_eq_true, decide_eq_true_eq, UInt8.le_iff_toNat_le] at h
  refine ⟨?_, ?_, ?_, ?_, ?_⟩ <;> (rintro rfl; simp at h)

theorem expPart_shape {ex rest : Bytes}
    (hx : ex = [] ∨ ∃ e sgn es, ex = e :: (sgn ++ es) ∧ (e = 101 ∨ e = 69) ∧ (sgn = [] ∨ sgn = [43] ∨ sgn = [45]) ∧
      es ≠ [] ∧ AllDigits es) (hr : NumEnd rest) : expPart (ex ++ rest) = some (ex, rest) := by
  rcases hx with rfl | ⟨e, sgn, es, rfl, he, hs, hne, hd⟩
  · cases rest with
    | nil => rfl
    | cons b t =>
      have : (b == 101 || b == 69) = false := by simp [hr.2.2.1, hr.2.2.2]
      simp [expPart, this]
  · have he' : (e == 101 || e == 69) = true := by rcases he with rfl | rfl <;> rfl
    obtain ⟨e0, es', rfl⟩ := List.exists_cons_of_ne_nil hne
    have hn := digit_ne (hd e0 (by simp))
    have hsg : optSign (sgn ++ ((e0 :: es') ++ rest)) = (sgn, (e0 :: es') ++ rest) := by
      rcases hs with rfl | rfl | rfl
      · simp only [List.nil_append, List.cons_append]
        unfold optSign
        split
        · rename_i heq; simp only [List.cons.injEq] at heq; exact absurd heq.1 hn.2.2.2.2
        · rename_i heq; simp only [List.cons.injEq] at heq; exact absurd heq.1 hn.1
        · rfl
      · rfl
      · rfl
    have hdg := digits_span (e0 :: es') rest hd (numEnd_nodigit hr)
    simp only [List.cons_append, List.append_assoc, expPart, he', if_true]
    simp only [List.cons_append] at hsg hdg
    rw [hsg]
    simp only [hdg]
    simp

theorem fracPart_shape {frac t : Bytes} (hf : frac = [] ∨ ∃ fs, frac = 46 :: fs ∧ fs ≠ [] ∧ AllDigits fs)
    (ht : ∀ b t', t = b :: t' → isDigit b = false ∧ b ≠ 46) : fracPart (frac ++ t) = some (frac, t) := by
  rcases hf with rfl | ⟨fs, rfl, hne, hd⟩
  · cases t with
    | nil => rfl
    | cons b t' =>
      have := (ht b t' rfl).2
      simp only [List.nil_append]
      unfold fracPart
      split
      · rename_i heq; simp only [List.cons.injEq] at heq; exact absurd heq.1 this
      · rfl
  · have hdg := digits_span fs t hd (fun b t' e => (ht b t' e).1)
    have : fs.isEmpty = false := by cases fs <;> simp_all
    simp [fracPart, hdg, this]

theorem intPart_shape {ds t : Bytes} (hne : ds ≠ []) (hd : AllDigits ds) (hz : ds = [48] ∨ ds.head? ≠ some 48)
    (ht : ∀ b t', t = b :: t' → isDigit b = false) : intPart (ds ++ t) = some (ds, t) := by
  have hdg := digits_span ds t hd ht
  unfold intPart
  simp only [hdg]
  have h1 : ds.isEmpty = false := by cases ds <;> simp_all
  have h2 : (ds.head? == some 48 && decide (ds.length > 1)) = false := by
    rcases hz with rfl | hz
    · simp
    · simp [hz]
  simp [h1, h2]

theorem number_shape {lit rest : Bytes} (h : JNum lit) (hr : NumEnd rest) : number (lit ++ rest) = some (lit, rest) := by
  obtain ⟨sg, ds, frac, ex, rfl, hsg, hne, hd, hz, hf, hx⟩ := h
  obtain ⟨d1, ds', rfl⟩ := List.exists_cons_of_ne_nil hne
  have hn := digit_ne (hd d1 (by simp))
  have hex := expPart_shape hx hr
  have hfr : fracPart (frac ++ (ex ++ rest)) = some (frac, ex ++ rest) := by
    apply fracPart_shape hf
    intro b t' e
    rcases hx with rfl | ⟨e0, sgn, es, rfl, he, _, _, _⟩
    · simp only [List.nil_append] at e; subst e; exact ⟨hr.1, hr.2.1⟩
    · simp only [List.cons_append, List.cons.injEq] at e
      rcases he with rfl | rfl <;> (rw [← e.1]; exact ⟨by decide, by decide⟩)
  have hin : intPart ((d1 :: ds') ++ (frac ++ (ex ++ rest))) = some (d1 :: ds', frac ++ (ex ++ rest)) := by
    apply intPart_shape (by simp) hd hz
    intro b t' e
    rcases hf with rfl | ⟨fs, rfl, _, _⟩
    · rcases hx with rfl | ⟨e0, sgn, es, rfl, he, _, _, _⟩
      · simp only [List.nil_append] at e; subst e; exact hr.1
      · simp only [List.nil_append, List.cons_append, List.cons.injEq] at e
        rcases he with rfl | rfl <;> (rw [← e.1]; decide)
    · simp only [List.cons_append, List.cons.injEq] at e
      rw [← e.1]; decide
  have hsgn : optMinus (sg ++ ((d1 :: ds') ++ (frac ++ (ex ++ rest)))) = (sg, (d1 :: ds') ++ (frac ++ (ex ++ rest))) := by
    rcases hsg with rfl | rfl
    · simp only [List.nil_append, List.cons_append]
      unfold optMinus
      split
      · rename_i heq; simp only [List.cons.injEq] at heq; exact absurd heq.1 hn.1
      · rfl
    · rfl
  unfold number
  simp only [List.append_assoc]
  rw [hsgn]
  simp only [hin, hfr, hex]

theorem jnum_int (i : Int) : JNum (F64.intDigits i) := by
  obtain ⟨hne, hall, hz, _⟩ := NatDigits.natDigits_shape i.natAbs
  unfold F64.intDigits
  split
  · exact ⟨[45], _, [], [], by simp, Or.inr rfl, hne, hall, hz, Or.inl rfl, Or.inl rfl⟩
  · exact ⟨[], _, [], [], by simp, Or.inl rfl, hne, hall, hz, Or.inl rfl, Or.inl rfl⟩

theorem numInt_intDigits (i : Int) : numInt (F64.intDigits i) = some i := by
  obtain ⟨hne, hall, _, hval⟩ := NatDigits.natDigits_shape i.natAbs
  have hall' : (F64.natDigits i.natAbs).all isDigit = true := List.all_eq_true.2 hall
  have hemp : (F64.natDigits i.natAbs).isEmpty = false := by
    cases h : F64.natDigits i.natAbs <;> simp_all
  unfold F64.intDigits
  split
  · rename_i hneg
    simp only [numInt, hemp, hall', Bool.not_false, Bool.and_self, if_true, hval, Option.some.injEq]
    omega
  · rename_i hneg
    obtain ⟨d1, ds', hd⟩ : ∃ d1 ds', F64.natDigits i.natAbs = d1 :: ds' := by
      cases h : F64.natDigits i.natAbs with
      | nil => exact absurd h hne
      | cons a b => exact ⟨a, b, rfl⟩
    have hn := digit_ne (hall d1 (by rw [hd]; simp))
    rw [hd] at hemp hall' hval ⊢
    unfold numInt
    split
    · rename_i heq; simp only [List.cons.injEq] at heq; exact absurd heq.1 hn.1
    · simp only [hemp, hall', Bool.not_false, Bool.and_self, if_true, hval, Option.some.injEq]
      omega

/-- what follows a value inside marshalled text: nothing, `,`, `]` or `}` -/
def Delim (rest : Bytes) : Prop := rest = [] ∨ ∃ b s, rest = b :: s ∧ (b = 44 ∨ b = 93 ∨ b = 125)

theorem delim_numEnd {rest : Bytes} (h : Delim rest) : NumEnd rest := by
  rcases h with rfl | ⟨b, s, rfl, hb⟩
  · trivial
  · rcases hb with rfl | rfl | rfl <;> exact ⟨by decide, by decide, by decide, by decide⟩

theorem delim_comma (s : Bytes) : Delim (44 :: s) := Or.inr ⟨44, s, rfl, Or.inl rfl⟩
theorem delim_rb (s : Bytes) : Delim (93 :: s) := Or.inr ⟨93, s, rfl, Or.inr (Or.inl rfl)⟩
theorem delim_rc (s : Bytes) : Delim (125 :: s) := Or.inr ⟨125, s, rfl, Or.inr (Or.inr rfl)⟩

/-- the text `a` is read as the value `j` whenever a delimiter follows, with any fuel ≥ `m` -/
def Parses (a : Bytes) (j : JVal) (m : Nat) : Prop :=
  ∀ rest fuel, Delim rest → m ≤ fuel → value fuel (a ++ rest) = some (j, rest)

theorem parses_mono {a : Bytes} {j : JVal} {m m' : Nat} (h : Parses a j m) (hm : m ≤ m') : Parses a j m' :=
  fun rest fuel hd hf => h rest fuel hd (Nat.le_trans hm hf)

/-- the first byte of a marshalled value: not whitespace, not `]` (what `value` looks at behind `[`) -/
def Starts (a : Bytes) : Prop := ∃ b t, a = b :: t ∧ isWs b = false ∧ b ≠ 93

theorem skipWs_nonWs {b : UInt8} (t : Bytes) (h : isWs b = false) : skipWs (b :: t) = b :: t := by
  simp [skipWs, h]

theorem parses_null : Parses sNull .null 1 := by
  intro rest fuel _ hf
  obtain ⟨n, rfl⟩ := Nat.exists_eq_add_of_le' hf
  simp [sNull, value, skipWs, isWs]

theorem parses_true : Parses sTrue (.bool true) 1 := by
  intro rest fuel _ hf
  obtain ⟨n, rfl⟩ := Nat.exists_eq_add_of_le' hf
  simp [sTrue, value, skipWs, isWs]

theorem parses_false : Parses sFalse (.bool false) 1 := by
  intro rest fuel _ hf
  obtain ⟨n, rfl⟩ := Nat.exists_eq_add_of_le' hf
  simp [sFalse, value, skipWs, isWs]

theorem parses_string (s : Bytes) : Parses (jsonString s) (.str (sanitize s)) 1 := by
  intro rest fuel _ hf
  obtain ⟨n, rfl⟩ := Nat.exists_eq_add_of_le' hf
  have h := roundtrip_body rest s
  simp only [jsonString, List.cons_append, List.nil_append, List.append_assoc]
  simp [value, skipWs, isWs, h, sanitize]

theorem digit_cases {d : UInt8} (h : isDigit d = true) :
    d = 48 ∨ d = 49 ∨ d = 50 ∨ d = 51 ∨ d = 52 ∨ d = 53 ∨ d = 54 ∨ d = 55 ∨ d = 56 ∨ d = 57 := by
  simp only [isDigit, Bool.and_eq_true, decide_eq_true_eq, UInt8.le_iff_toNat_le] at h
  simp only [← UInt8.toNat_inj]
  simp at h ⊢
  omega

theorem value_number (fuel : Nat) (b : UInt8) (r : Bytes) (hb : b = 45 ∨ isDigit b = true) :
    value (fuel + 1) (b :: r) =
      match number (b :: r) with
      | some (lit, r') => some (.num lit, r')
      | none => none := by
  rcases hb with rfl | hb
  · simp [value, skipWs, isWs, isDigit]
    generalize number _ = x
    rcases x with _ | ⟨a, b⟩ <;> rfl
  · rcases digit_cases hb with rfl | rfl | rfl | rfl | rfl | rfl | rfl | rfl | rfl | rfl <;>
      (simp [value, skipWs, isWs, isDigit]
       generalize number _ = x
       rcases x with _ | ⟨a, b⟩ <;> rfl)

theorem parses_number {lit : Bytes} (h : JNum lit) : Parses lit (.num lit) 1 := by
  intro rest fuel hd hf
  obtain ⟨n, rfl⟩ := Nat.exists_eq_add_of_le' hf
  have hnum := number_shape h (delim_numEnd hd)
  obtain ⟨sg, ds, frac, ex, rfl, hsg, hne, hall, _⟩ := h
  obtain ⟨d1, ds', rfl⟩ := List.exists_cons_of_ne_nil hne
  have hd1 := hall d1 (by simp)
  rcases hsg with rfl | rfl
  · simp only [List.nil_append, List.cons_append] at hnum ⊢
    rw [value_number n d1 _ (Or.inr hd1), hnum]
  · simp only [List.cons_append, List.nil_append] at hnum ⊢
    rw [value_number n 45 _ (Or.inl rfl), hnum]

/-- texts joined by "," -/
def joinElems : List Bytes → Bytes
  | [] => []
  | [a] => a
  | a :: b :: r => a ++ [44] ++ joinElems (b :: r)

theorem value_arr (fuel : Nat) (b : UInt8) (t : Bytes) (hws : isWs b = false) (h93 : b ≠ 93) :
    value (fuel + 1) (91 :: b :: t) =
      match elems fuel (b :: t) with
      | some (xs, r') => some (.arr xs, r')
      | none => none := by
  unfold value
  simp only [skipWs, isWs]
  simp only [show ((91 : UInt8) == 32 || (91 : UInt8) == 9 || (91 : UInt8) == 10 || (91 : UInt8) == 13) = false by decide,
    Bool.false_eq_true, if_false]
  rw [skipWs_nonWs t hws]
  split
  · rename_i heq; simp only [List.cons.injEq] at heq; exact absurd heq.1 h93
  · generalize elems fuel (b :: t) = x
    rcases x with _ | ⟨a, c⟩ <;> rfl

theorem value_obj (fuel : Nat) (b : UInt8) (t : Bytes) (hws : isWs b = false) (h125 : b ≠ 125) :
    value (fuel + 1) (123 :: b :: t) =
      match members fuel (b :: t) with
      | some (kvs, r') => some (.obj kvs, r')
      | none => none := by
  unfold value
  simp only [skipWs, isWs]
  simp only [show ((123 : UInt8) == 32 || (123 : UInt8) == 9 || (123 : UInt8) == 10 || (123 : UInt8) == 13) = false by decide,
    Bool.false_eq_true, if_false]
  rw [skipWs_nonWs t hws]
  split
  · rename_i heq; simp only [List.cons.injEq] at heq; exact absurd heq.1 h125
  · generalize members fuel (b :: t) = x
    rcases x with _ | ⟨a, c⟩ <;> rfl

theorem value_arr_empty (fuel : Nat) (rest : Bytes) : value (fuel + 1) (91 :: 93 :: rest) = some (.arr [], rest) := by
  simp [value, skipWs, isWs]

theorem value_obj_empty (fuel : Nat) (rest : Bytes) : value (fuel + 1) (123 :: 125 :: rest) = some (.obj [], rest) := by
  simp [value, skipWs, isWs]

/-- `value *( "," value ) "]"` over texts that are understood -/
theorem elems_ok (M : Nat) : ∀ (L : List (Bytes × JVal)), L ≠ [] → (∀ t ∈ L, Parses t.1 t.2 M) →
    ∀ (rest : Bytes) (fuel : Nat), L.length + M ≤ fuel →
    elems fuel (joinElems (L.map (·.1)) ++ 93 :: rest) = some (L.map (·.2), rest)
  | [], h, _, _, _, _ => absurd rfl h
  | [t], _, hp, rest, fuel, hf => by
    obtain ⟨f, rfl⟩ : ∃ f, fuel = f + 1 := ⟨fuel - 1, by simp at hf; omega⟩
    have hv := hp t (by simp) (93 :: rest) f (delim_rb _) (by simp at hf; omega)
    simp only [List.map_cons, List.map_nil, joinElems]
    unfold elems
    simp [hv, skipWs, isWs]
  | t :: u :: r, _, hp, rest, fuel, hf => by
    obtain ⟨f, rfl⟩ : ∃ f, fuel = f + 1 := ⟨fuel - 1, by simp at hf; omega⟩
    have ih := elems_ok M (u :: r) (by simp) (fun x hx => hp x (by simp [hx])) rest f (by simp at hf ⊢; omega)
    have hv := hp t (by simp) (44 :: (joinElems ((u :: r).map (·.1)) ++ 93 :: rest)) f (delim_comma _) (by simp at hf; omega)
    simp only [List.map_cons, joinElems, List.append_assoc, List.cons_append, List.nil_append] at hv ih ⊢
    unfold elems
    simp [hv, skipWs, isWs, ih]

/-- `"key":text` joined by "," -/
def joinPairs : List (Bytes × Bytes) → Bytes := joinMembers

/-- `member *( "," member ) "}"` over members whose values are understood; keys come back sanitised -/
theorem members_ok (M : Nat) : ∀ (L : List (Bytes × (Bytes × JVal))), L ≠ [] → (∀ t ∈ L, Parses t.2.1 t.2.2 M) →
    ∀ (rest : Bytes) (fuel : Nat), L.length + M ≤ fuel →
    members fuel (joinMembers (L.map fun t => (t.1, t.2.1)) ++ 125 :: rest) =
      some (L.map fun t => (sanitize t.1, t.2.2), rest)
  | [], h, _, _, _, _ => absurd rfl h
  | [t], _, hp, rest, fuel, hf => by
    obtain ⟨f, rfl⟩ : ∃ f, fuel = f + 1 := ⟨fuel - 1, by simp at hf; omega⟩
    have hv := hp t (by simp) (125 :: rest) f (delim_rc _) (by simp at hf; omega)
    have hk := roundtrip_body (58 :: (t.2.1 ++ 125 :: rest)) t.1
    simp only [List.map_cons, List.map_nil, joinMembers, jsonString, List.cons_append, List.nil_append, List.append_assoc]
    unfold members
    simp [skipWs, isWs, hk, hv, sanitize]
  | t :: u :: r, _, hp, rest, fuel, hf => by
    obtain ⟨f, rfl⟩ : ∃ f, fuel = f + 1 := ⟨fuel - 1, by simp at hf; omega⟩
    have ih := members_ok M (u :: r) (by simp) (fun x hx => hp x (by simp [hx])) rest f (by simp at hf ⊢; omega)
    have hv := hp t (by simp) (44 :: (joinMembers ((u :: r).map fun t => (t.1, t.2.1)) ++ 125 :: rest)) f (delim_comma _)
      (by simp at hf; omega)
    have hk := roundtrip_body (58 :: (t.2.1 ++ 44 :: (joinMembers ((u :: r).map fun t => (t.1, t.2.1)) ++ 125 :: rest))) t.1
    simp only [List.map_cons, joinMembers, jsonString, List.cons_append, List.nil_append, List.append_assoc] at hv ih hk ⊢
    unfold members
    simp [skipWs, isWs, hk, hv, sanitize, ih]

theorem insertByKey_map {α β : Type} (f : α → β) (x : Bytes × α) : ∀ (l : List (Bytes × α)),
    insertByKey (x.1, f x.2) (l.map fun p => (p.1, f p.2)) = (insertByKey x l).map fun p => (p.1, f p.2)
  | [] => rfl
  | y :: ys => by
    simp only [List.map_cons, insertByKey]
    split
    · rfl
    · simp only [List.map_cons, insertByKey_map f x ys]

theorem sortByKey_map {α β : Type} (f : α → β) : ∀ (l : List (Bytes × α)),
    sortByKey (l.map fun p => (p.1, f p.2)) = (sortByKey l).map fun p => (p.1, f p.2)
  | [] => rfl
  | x :: xs => by
    simp only [List.map_cons, sortByKey, sortByKey_map f xs]
    exact insertByKey_map f x (sortByKey xs)

theorem perm_insertByKey {α : Type} (x : Bytes × α) : ∀ l : List (Bytes × α), (insertByKey x l).Perm (x :: l)
  | [] => .refl _
  | y :: ys => by
    rw [insertByKey]
    split
    · exact .refl _
    · exact ((perm_insertByKey x ys).cons y).trans (.swap x y ys)

theorem perm_sortByKey {α : Type} : ∀ l : List (Bytes × α), (sortByKey l).Perm l
  | [] => .refl _
  | x :: xs => (perm_insertByKey x _).trans ((perm_sortByKey xs).cons x)

/-- the keys come out in nondecreasing bytewise order (what `sort.Strings` / encoding/json deliver) -/
def SortedKeys {α : Type} : List (Bytes × α) → Prop
  | [] => True
  | [_] => True
  | x :: y :: r => Value.bytesLe x.1 y.1 = true ∧ SortedKeys (y :: r)

theorem sorted_insertByKey {α : Type} (x : Bytes × α) : ∀ (l : List (Bytes × α)), SortedKeys l → SortedKeys (insertByKey x l)
  | [], _ => trivial
  | [y], _ => by
    simp only [insertByKey]
    split
    · rename_i h; exact ⟨h, trivial⟩
    · rename_i h; exact ⟨(Value.bytesLe_total _ _).resolve_left h, trivial⟩
  | y :: z :: r, hs => by
    simp only [insertByKey]
    split
    · rename_i h; exact ⟨h, hs⟩
    · rename_i h
      have ih := sorted_insertByKey x (z :: r) hs.2
      simp only [insertByKey] at ih ⊢
      split
      · rename_i h2; exact ⟨(Value.bytesLe_total _ _).resolve_left h, h2, hs.2⟩
      · rename_i h2
        simp only [h2, Bool.false_eq_true, if_false] at ih
        exact ⟨hs.1, ih⟩

theorem sorted_sortByKey {α : Type} : ∀ (l : List (Bytes × α)), SortedKeys (sortByKey l)
  | [] => trivial
  | x :: xs => sorted_insertByKey x _ (sorted_sortByKey xs)

mutual
  /-- what the marshalled text must denote: `undefined`, `null`, the nil list and the nil map are JSON
      `null`; a number keeps its literal; a string comes back with invalid bytes replaced by U+FFFD; the
      members of a map are sorted by key -/
  def toJ : Value → JVal
    | .undefined => .null
    | .null => .null
    | .bool b => .bool b
    | .int i => .num (F64.intDigits i.toInt)
    | .float f => match jsonFloat f with
      | some lit => .num lit
      | none => .null
    | .str s => .str (sanitize s)
    | .list id xs => if id == 0 then .null else .arr (toJL xs)
    | .map id kvs => if id == 0 then .null else .obj ((sortByKey (toJM kvs)).map fun p => (sanitize p.1, p.2))
  def toJL : List Value → List JVal
    | [] => []
    | x :: r => toJ x :: toJL r
  def toJM : List (Bytes × Value) → List (Bytes × JVal)
    | [] => []
    | (k, v) :: r => (k, toJ v) :: toJM r
end

mutual
  /-- the hypothesis on floats: every float the marshaller reaches (the members of a nil list or map are not looked at) is
      finite and its text `jsonFloat` has the shape of a JSON number; Lemmas/F64Shape.lean `jsonFloat_finite` proves the
      shape of every finite float -/
  def FloatsOk : Value → Prop
    | .float f => ∃ lit, jsonFloat f = some lit ∧ JNum lit
    | .list id xs => id = 0 ∨ FloatsOkL xs
    | .map id kvs => id = 0 ∨ FloatsOkM kvs
    | _ => True
  def FloatsOkL : List Value → Prop
    | [] => True
    | x :: r => FloatsOk x ∧ FloatsOkL r
  def FloatsOkM : List (Bytes × Value) → Prop
    | [] => True
    | (_, v) :: r => FloatsOk v ∧ FloatsOkM r
end

mutual
  /-- fuel of the specification parser that suffices for the marshalled text of a value -/
  def need : Value → Nat
    | .list id xs => if id == 0 then 1 else xs.length + needL xs + 1
    | .map id kvs => if id == 0 then 1 else kvs.length + needM kvs + 1
    | _ => 1
  def needL : List Value → Nat
    | [] => 0
    | x :: r => max (need x) (needL r)
  def needM : List (Bytes × Value) → Nat
    | [] => 0
    | (_, v) :: r => max (need v) (needM r)
end

theorem marshal_float {f : F64} {out : Bytes} (h : jsonMarshal (.float f) = some out) (hf : FloatsOk (.float f)) :
    jsonFloat f = some out ∧ JNum out := by
  rw [jsonMarshal] at h
  rw [FloatsOk] at hf
  obtain ⟨lit, h1, h2⟩ := hf
  rw [h] at h1
  cases h1
  exact ⟨h, h2⟩

theorem marshal_list {id : Nat} {xs : List Value} {out : Bytes} (h : jsonMarshal (.list id xs) = some out) :
    ((id == 0) = true ∧ out = sNull) ∨
      ((id == 0) = false ∧ ∃ body, marshalElems xs = some body ∧ out = [91] ++ body ++ [93]) := by
  rw [jsonMarshal] at h
  cases hid : id == 0
  · simp only [hid, Bool.false_eq_true, if_false] at h
    split at h
    · rename_i body hbody
      cases h
      exact Or.inr ⟨rfl, body, hbody, rfl⟩
    · cases h
  · simp only [hid, if_true] at h
    cases h
    exact Or.inl ⟨rfl, rfl⟩

theorem marshal_map {id : Nat} {kvs : List (Bytes × Value)} {out : Bytes} (h : jsonMarshal (.map id kvs) = some out) :
    ((id == 0) = true ∧ out = sNull) ∨
      ((id == 0) = false ∧ ∃ ms, marshalMembers kvs = some ms ∧ out = [123] ++ joinMembers (sortByKey ms) ++ [125]) := by
  rw [jsonMarshal] at h
  cases hid : id == 0
  · simp only [hid, Bool.false_eq_true, if_false] at h
    split at h
    · rename_i ms hms
      cases h
      exact Or.inr ⟨rfl, ms, hms, rfl⟩
    · cases h
  · simp only [hid, if_true] at h
    cases h
    exact Or.inl ⟨rfl, rfl⟩

theorem floatsOkL_of_list {id : Nat} {xs : List Value} (hid : (id == 0) = false) (hf : FloatsOk (.list id xs)) :
    FloatsOkL xs := by
  rw [FloatsOk] at hf
  exact hf.resolve_left (by simpa using hid)

theorem floatsOkM_of_map {id : Nat} {kvs : List (Bytes × Value)} (hid : (id == 0) = false) (hf : FloatsOk (.map id kvs)) :
    FloatsOkM kvs := by
  rw [FloatsOk] at hf
  exact hf.resolve_left (by simpa using hid)

theorem jnum_starts {lit : Bytes} (h : JNum lit) : Starts lit := by
  obtain ⟨sg, ds, frac, ex, rfl, hsg, hne, hall, _⟩ := h
  obtain ⟨d1, ds', rfl⟩ := List.exists_cons_of_ne_nil hne
  rcases hsg with rfl | rfl
  · refine ⟨d1, _, rfl, ?_⟩
    rcases digit_cases (hall d1 (by simp)) with rfl | rfl | rfl | rfl | rfl | rfl | rfl | rfl | rfl | rfl <;> decide
  · exact ⟨45, _, rfl, by decide⟩

theorem marshal_starts (v : Value) (out : Bytes) (h : jsonMarshal v = some out) (hf : FloatsOk v) : Starts out := by
  cases v with
  | undefined =>
    cases h
    exact ⟨110, _, rfl, by decide⟩
  | null =>
    cases h
    exact ⟨110, _, rfl, by decide⟩
  | bool b =>
    cases h
    cases b
    · exact ⟨102, _, rfl, by decide⟩
    · exact ⟨116, _, rfl, by decide⟩
  | int i =>
    cases h
    exact jnum_starts (jnum_int _)
  | float f => exact jnum_starts (marshal_float h hf).2
  | str s =>
    cases h
    exact ⟨34, _, rfl, by decide⟩
  | list id xs =>
    rcases marshal_list h with ⟨_, rfl⟩ | ⟨_, body, _, rfl⟩
    · exact ⟨110, _, rfl, by decide⟩
    · exact ⟨91, _, rfl, by decide⟩
  | map id kvs =>
    rcases marshal_map h with ⟨_, rfl⟩ | ⟨_, ms, _, rfl⟩
    · exact ⟨110, _, rfl, by decide⟩
    · exact ⟨123, _, rfl, by decide⟩

theorem le_needL : ∀ (xs : List Value) (x : Value), x ∈ xs → need x ≤ needL xs
  | [], _, h => by simp at h
  | y :: r, x, h => by
    rw [needL]
    rcases List.mem_cons.1 h with rfl | h
    · exact Nat.le_max_left _ _
    · exact Nat.le_trans (le_needL r x h) (Nat.le_max_right _ _)

theorem le_needM : ∀ (kvs : List (Bytes × Value)) (p : Bytes × Value), p ∈ kvs → need p.2 ≤ needM kvs
  | [], _, h => by simp at h
  | (k, v) :: r, p, h => by
    rw [needM]
    rcases List.mem_cons.1 h with rfl | h
    · exact Nat.le_max_left _ _
    · exact Nat.le_trans (le_needM r p h) (Nat.le_max_right _ _)

theorem starts_append {a : Bytes} (t : Bytes) (h : Starts a) : Starts (a ++ t) := by
  obtain ⟨b, r, rfl, hb⟩ := h
  exact ⟨b, r ++ t, rfl, hb⟩

theorem joinMembers_cons (p : Bytes × Bytes) (r : List (Bytes × Bytes)) :
    ∃ t, joinMembers (p :: r) = 34 :: t := by
  obtain ⟨k, a⟩ := p
  cases r with
  | nil => exact ⟨_, rfl⟩
  | cons y r => exact ⟨_, rfl⟩

mutual
  /-- the marshalled text of a value denotes `toJ` of the value -/
  theorem parsesV : (v : Value) → ∀ out, jsonMarshal v = some out → FloatsOk v → Parses out (toJ v) (need v)
    | .undefined, out, h, _ => by
        cases h
        exact parses_null
    | .null, out, h, _ => by
        cases h
        exact parses_null
    | .bool b, out, h, _ => by
        cases h
        cases b
        · exact parses_false
        · exact parses_true
    | .int i, out, h, _ => by
        cases h
        exact parses_number (jnum_int _)
    | .float f, out, h, hf => by
        obtain ⟨h1, h2⟩ := marshal_float h hf
        rw [toJ, h1]
        exact parses_number h2
    | .str s, out, h, _ => by
        cases h
        exact parses_string s
    | .list id xs, out, h, hf => by
        rw [toJ, need]
        rcases marshal_list h with ⟨hid, rfl⟩ | ⟨hid, body, hbody, rfl⟩
        · simp only [hid, if_true]
          exact parses_null
        · simp only [hid, Bool.false_eq_true, if_false]
          cases xs with
          | nil =>
            rw [marshalElems] at hbody; cases hbody
            intro rest fuel _ hfu
            obtain ⟨f, rfl⟩ : ∃ f, fuel = f + 1 := ⟨fuel - 1, by omega⟩
            simp only [List.nil_append, List.cons_append, toJL]
            exact value_arr_empty f rest
          | cons x r =>
            obtain ⟨L, hLj, hb, hlen, hne, hP, hst⟩ := elemsL (x :: r) body hbody (floatsOkL_of_list hid hf) (by simp)
            intro rest fuel _ hfu
            obtain ⟨f, rfl⟩ : ∃ f, fuel = f + 1 := ⟨fuel - 1, by omega⟩
            obtain ⟨b, t, hbt, hws, h93⟩ := hst
            simp only [List.cons_append, List.nil_append, List.append_assoc]
            rw [hbt, List.cons_append, value_arr f b _ hws h93, ← List.cons_append, ← hbt, hb,
              elems_ok (needL (x :: r)) L hne hP rest f (by rw [hlen]; simp at hfu ⊢; omega), hLj]
    | .map id kvs, out, h, hf => by
        rw [toJ, need]
        rcases marshal_map h with ⟨hid, rfl⟩ | ⟨hid, ms, hms, rfl⟩
        · simp only [hid, if_true]
          exact parses_null
        · simp only [hid, Bool.false_eq_true, if_false]
          obtain ⟨T, hT1, hT2, hlen, hP⟩ := membersM kvs ms hms (floatsOkM_of_map hid hf)
          intro rest fuel _ hfu
          obtain ⟨f, rfl⟩ : ∃ f, fuel = f + 1 := ⟨fuel - 1, by omega⟩
          have e1 : sortByKey ms = (sortByKey T).map fun t => (t.1, t.2.1) := by
            rw [← hT1]; exact sortByKey_map (fun (x : Bytes × JVal) => x.1) T
          have e2 : sortByKey (toJM kvs) = (sortByKey T).map fun t => (t.1, t.2.2) := by
            rw [← hT2]; exact sortByKey_map (fun (x : Bytes × JVal) => x.2) T
          simp only [List.cons_append, List.nil_append, List.append_assoc]
          rw [e1, e2]
          cases hs : sortByKey T with
          | nil =>
            simp only [List.map_nil, joinMembers, List.nil_append]
            exact value_obj_empty f rest
          | cons t0 tr =>
            have hmem : ∀ t ∈ t0 :: tr, Parses t.2.1 t.2.2 (needM kvs) := by
              intro t ht
              exact hP t ((perm_sortByKey T).mem_iff.1 (hs ▸ ht))
            have hl : (t0 :: tr).length = kvs.length := by rw [← hs, (perm_sortByKey T).length_eq, hlen]
            obtain ⟨q, hq⟩ := joinMembers_cons (t0.1, t0.2.1) (tr.map fun t => (t.1, t.2.1))
            have hmo := members_ok (needM kvs) (t0 :: tr) (by simp) hmem rest f (by rw [hl]; simp at hfu ⊢; omega)
            simp only [List.map_cons] at hmo ⊢
            rw [hq] at hmo ⊢
            rw [List.cons_append, value_obj f 34 _ (by decide) (by decide), ← List.cons_append, hmo]
            simp [List.map_map]
  theorem elemsL : (xs : List Value) → ∀ body, marshalElems xs = some body → FloatsOkL xs → xs ≠ [] →
      ∃ L : List (Bytes × JVal), L.map (·.2) = toJL xs ∧ body = joinElems (L.map (·.1)) ∧ L.length = xs.length ∧ L ≠ [] ∧
        (∀ t ∈ L, Parses t.1 t.2 (needL xs)) ∧ Starts body
    | [], _, _, _, hne => absurd rfl hne
    | [x], body, h, hf, _ => by
        rw [marshalElems] at h
        rw [FloatsOkL] at hf
        have hp := parsesV x body h hf.1
        refine ⟨[(body, toJ x)], by simp [toJL], by simp [joinElems], rfl, by simp, ?_, marshal_starts x body h hf.1⟩
        intro t ht
        simp only [List.mem_singleton] at ht
        subst ht
        exact parses_mono hp (by rw [needL]; exact Nat.le_max_left _ _)
    | x :: y :: r, body, h, hf, _ => by
        rw [marshalElems] at h
        rw [FloatsOkL] at hf
        split at h
        · rename_i a b ha hb
          cases h
          have hp := parsesV x a ha hf.1
          obtain ⟨L, hLj, hbj, hlen, hne, hP, _⟩ := elemsL (y :: r) b hb hf.2 (by simp)
          refine ⟨(a, toJ x) :: L, ?_, ?_, by simp [hlen], by simp, ?_, ?_⟩
          · simp [toJL, hLj]
          · obtain ⟨l0, lr, rfl⟩ : ∃ l0 lr, L = l0 :: lr := by
              cases L with
              | nil => exact absurd rfl hne
              | cons l0 lr => exact ⟨l0, lr, rfl⟩
            simp only [List.map_cons, joinElems, hbj]
          · intro t ht
            rcases List.mem_cons.1 ht with rfl | ht
            · exact parses_mono hp (by rw [needL]; exact Nat.le_max_left _ _)
            · exact parses_mono (hP t ht) (by rw [needL]; exact Nat.le_max_right _ _)
          · rw [List.append_assoc]; exact starts_append _ (marshal_starts x a ha hf.1)
        · exact absurd h (by simp)
  /-- the members of a map, in the stored order -/
  theorem membersM : (kvs : List (Bytes × Value)) → ∀ ms, marshalMembers kvs = some ms → FloatsOkM kvs →
      ∃ T : List (Bytes × (Bytes × JVal)), (T.map fun t => (t.1, t.2.1)) = ms ∧ (T.map fun t => (t.1, t.2.2)) = toJM kvs ∧
        T.length = kvs.length ∧ ∀ t ∈ T, Parses t.2.1 t.2.2 (needM kvs)
    | [], ms, h, _ => by
        rw [marshalMembers] at h; cases h
        exact ⟨[], rfl, by simp [toJM], rfl, by simp⟩
    | (k, v) :: r, ms, h, hf => by
        rw [marshalMembers] at h
        rw [FloatsOkM] at hf
        split at h
        · rename_i a ms' ha hms
          cases h
          have hp := parsesV v a ha hf.1
          obtain ⟨T, hT1, hT2, hlen, hP⟩ := membersM r ms' hms hf.2
          refine ⟨(k, (a, toJ v)) :: T, by simp [hT1], by simp [toJM, hT2], by simp [hlen], ?_⟩
          intro t ht
          rcases List.mem_cons.1 ht with rfl | ht
          · exact parses_mono hp (by rw [needM]; exact Nat.le_max_left _ _)
          · exact parses_mono (hP t ht) (by rw [needM]; exact Nat.le_max_right _ _)
        · exact absurd h (by simp)
end

theorem length_joinMembers : ∀ (L : List (Bytes × Bytes)) (p : Bytes × Bytes), p ∈ L →
    p.2.length + L.length ≤ (joinMembers L).length
  | [], _, h => by simp at h
  | [(k, a)], p, h => by
    simp only [List.mem_singleton] at h; subst h
    simp [joinMembers, jsonString]; omega
  | (k, a) :: y :: r, p, h => by
    have key : ∀ q ∈ y :: r, q.2.length + (y :: r).length ≤ (joinMembers (y :: r)).length :=
      fun q hq => length_joinMembers (y :: r) q hq
    have hy := key y (by simp)
    simp only [joinMembers, jsonString, List.length_append, List.length_cons, List.length_nil] at hy ⊢
    rcases List.mem_cons.1 h with rfl | h
    · simp only at hy ⊢; omega
    · have := key p h
      simp only [List.length_cons] at this ⊢; omega

theorem jnum_ne_nil {lit : Bytes} (h : JNum lit) : 1 ≤ lit.length := by
  obtain ⟨b, t, rfl, _⟩ := jnum_starts h
  simp

/- `need v` is at most the length of the marshalled text, so the fuel `out.length + 1` that `jsonDecode` gives `value`
   suffices (Props/C16b `json_roundtrip`) -/
mutual
  theorem need_le : (v : Value) → ∀ out, jsonMarshal v = some out → FloatsOk v → need v ≤ out.length
    | .undefined, out, h, _ => by
        cases h
        decide
    | .null, out, h, _ => by
        cases h
        decide
    | .bool b, out, h, _ => by
        cases h
        cases b <;> decide
    | .int i, out, h, _ => by
        cases h
        exact jnum_ne_nil (jnum_int _)
    | .float f, out, h, hf => jnum_ne_nil (marshal_float h hf).2
    | .str s, out, h, _ => by
        cases h
        simp [jsonString, need]
    | .list id xs, out, h, hf => by
        rw [need]
        rcases marshal_list h with ⟨hid, rfl⟩ | ⟨hid, body, hbody, rfl⟩
        · simp only [hid, if_true]; decide
        · simp only [hid, Bool.false_eq_true, if_false]
          have := needL_le xs body hbody (floatsOkL_of_list hid hf)
          simp only [List.length_append, List.length_cons, List.length_nil]
          omega
    | .map id kvs, out, h, hf => by
        rw [need]
        rcases marshal_map h with ⟨hid, rfl⟩ | ⟨hid, ms, hms, rfl⟩
        · simp only [hid, if_true]; decide
        · simp only [hid, Bool.false_eq_true, if_false]
          obtain ⟨hlen, hb⟩ := needM_le kvs ms hms (floatsOkM_of_map hid hf)
          simp only [List.length_append, List.length_cons, List.length_nil]
          cases kvs with
          | nil => simp [needM]
          | cons kv r =>
            -- the member with the largest need
            obtain ⟨p, hp, hle⟩ := hb (by simp)
            have h1 := length_joinMembers (sortByKey ms) p ((perm_sortByKey ms).mem_iff.2 hp)
            rw [(perm_sortByKey ms).length_eq, hlen] at h1
            omega
  /-- `n + max need ≤ |body| + 1` -/
  theorem needL_le : (xs : List Value) → ∀ body, marshalElems xs = some body → FloatsOkL xs →
      xs.length + needL xs ≤ body.length + 1
    | [], body, h, _ => by rw [marshalElems] at h; cases h; simp [needL]
    | [x], body, h, hf => by
        rw [marshalElems] at h
        rw [FloatsOkL] at hf
        have := need_le x body h hf.1
        simp only [List.length_cons, List.length_nil, needL]
        have hm : max (need x) 0 = need x := Nat.max_eq_left (Nat.zero_le _)
        omega
    | x :: y :: r, body, h, hf => by
        rw [marshalElems] at h
        rw [FloatsOkL] at hf
        split at h
        · rename_i a b ha hb
          cases h
          have h1 := need_le x a ha hf.1
          have h2 := needL_le (y :: r) b hb hf.2
          have h3 : 1 ≤ need x := by
            cases x <;> simp [need] <;> split <;> omega
          rw [needL]
          simp only [List.length_cons, List.length_append, List.length_nil] at h2 ⊢
          rcases Nat.le_total (need x) (needL (y :: r)) with hm | hm
          · rw [Nat.max_eq_right hm]; omega
          · rw [Nat.max_eq_left hm]; omega
        · exact absurd h (by simp)
  /-- some member's text is at least as long as the largest need -/
  theorem needM_le : (kvs : List (Bytes × Value)) → ∀ ms, marshalMembers kvs = some ms → FloatsOkM kvs →
      ms.length = kvs.length ∧ (kvs ≠ [] → ∃ p ∈ ms, needM kvs ≤ p.2.length)
    | [], ms, h, _ => by rw [marshalMembers] at h; cases h; exact ⟨rfl, fun hne => absurd rfl hne⟩
    | (k, v) :: r, ms, h, hf => by
        rw [marshalMembers] at h
        rw [FloatsOkM] at hf
        split at h
        · rename_i a ms' ha hms
          cases h
          have h1 := need_le v a ha hf.1
          obtain ⟨hlen, hb⟩ := needM_le r ms' hms hf.2
          refine ⟨by simp [hlen], fun _ => ?_⟩
          rw [needM]
          rcases Nat.le_total (need v) (needM r) with hm | hm
          · rw [Nat.max_eq_right hm]
            cases r with
            | nil =>
              refine ⟨(k, a), by simp, ?_⟩
              simp only [needM] at hm ⊢; omega
            | cons kv r' =>
              obtain ⟨p, hp, hle⟩ := hb (by simp)
              exact ⟨p, by simp [hp], hle⟩
          · rw [Nat.max_eq_left hm]
            exact ⟨(k, a), by simp, h1⟩
        · exact absurd h (by simp)
end

end SoyVerif.Lemmas.JsonValue
