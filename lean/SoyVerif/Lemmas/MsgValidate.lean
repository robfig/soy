/-
  pomsg.Validate's text check implies the text guard of `Props.C10.parts_placeholderString`:
  if the buffer `validateText` scans (raw texts concatenated, NUL for every placeholder)
  contains no `{[A-Z0-9_]+}`, then no run of adjacent texts does — the runs are pieces of the buffer,
  and a text without a match keeps none when cut at either end (`noMatch_prefix`, `noMatch_suffix`).
-/
import SoyVerif.Lemmas.MsgRender

namespace SoyVerif.Model.Msg

theorem containsPh_false_iff : ∀ t : Bytes, containsPh t = false ↔ NoMatch t
  | [] => by
    simp only [containsPh, true_iff]
    intro k; simp [matchPh]
  | b :: r => by
    simp only [containsPh, Bool.or_eq_false_iff, containsPh_false_iff r]
    constructor
    · rintro ⟨h0, hr⟩ k
      cases k with
      | zero => simpa using h0
      | succ k => simpa using hr k
    · intro h
      refine ⟨by simpa using h 0, fun k => by simpa using h (k + 1)⟩

theorem phRun_append_some : ∀ (r t n : Bytes), phRun r = some n → phRun (r ++ t) = some n
  | [], _, _, h => by simp [phRun] at h
  | b :: r, t, n, h => by
    simp only [List.cons_append, phRun] at h ⊢
    cases hb : (b == 125) with
    | true => simpa [hb] using h
    | false =>
      simp only [hb, Bool.false_eq_true, if_false] at h ⊢
      cases hp : isPhChar b with
      | false => simp [hp] at h
      | true =>
        simp only [hp, if_true] at h ⊢
        cases hr : phRun r with
        | none => simp [hr] at h
        | some n' =>
          rw [hr] at h
          rw [phRun_append_some r t n' hr]
          exact h

theorem matchPh_append_none (s t : Bytes) (h : matchPh (s ++ t) = none) (hs : s ≠ []) : matchPh s = none := by
  cases s with
  | nil => exact absurd rfl hs
  | cons b r =>
    by_cases hb : b = 123
    · subst hb
      simp only [List.cons_append, matchPh] at h ⊢
      cases hr : phRun r with
      | none => rfl
      | some n =>
        rw [phRun_append_some r t n hr] at h
        cases n with
        | nil => rfl
        | cons a n => simp at h
    · unfold matchPh
      split
      · next heq => simp only [List.cons.injEq] at heq; exact absurd heq.1 hb
      · rfl

theorem noMatch_prefix {a t : Bytes} (h : NoMatch (a ++ t)) : NoMatch a := by
  intro k
  by_cases hk : k < a.length
  · have := h k
    rw [List.drop_append_of_le_length (Nat.le_of_lt hk)] at this
    refine matchPh_append_none _ t this ?_
    intro e
    have := congrArg List.length e
    simp at this; omega
  · rw [List.drop_eq_nil_of_le (by omega)]; rfl

theorem noMatch_suffix {a t : Bytes} (h : NoMatch (a ++ t)) : NoMatch t := by
  intro k
  have := h (a.length + k)
  rw [← List.drop_drop] at this
  simpa using this

theorem litText_lead : ∀ R : List RPart, isFlat R = true → ∃ tail, litText R = leadText (toNList R) ++ tail
  | [], _ => ⟨[], rfl⟩
  | p :: R, hf => by
    obtain ⟨hp, hR⟩ := isFlat_cons hf
    cases p with
    | text t =>
      obtain ⟨tail, h⟩ := litText_lead R hR
      exact ⟨tail, by simp [litText, toNList, RPart.toN, leadText, h]⟩
    | ph n s => exact ⟨litText (.ph n s :: R), by simp [toNList, RPart.toN, leadText]⟩
    | plural _ _ _ _ => simp [RPart.isPlural] at hp

/-- every placeholder name is in `[A-Z0-9_]+` -/
def NamesValid : List RPart → Prop
  | [] => True
  | .ph n _ :: r => ValidName n ∧ NamesValid r
  | _ :: r => NamesValid r

theorem text_guard_of_noMatch : ∀ R : List RPart, isFlat R = true → NoMatch (litText R) → NamesValid R →
    NoMatch (leadText (toNList R)) ∧ FlatOK (toNList R)
  | [], _, _, _ => ⟨by intro k; simp [toNList, leadText, matchPh], trivial⟩
  | p :: R, hf, hn, hv => by
    obtain ⟨hp, hR⟩ := isFlat_cons hf
    cases p with
    | text t =>
      have hn' : NoMatch (litText R) := noMatch_suffix (a := t) (by simpa [litText] using hn)
      obtain ⟨_, ih2⟩ := text_guard_of_noMatch R hR hn' hv
      obtain ⟨tail, ht⟩ := litText_lead R hR
      refine ⟨?_, by simpa [toNList, RPart.toN, FlatOK] using ih2⟩
      have : NoMatch ((t ++ leadText (toNList R)) ++ tail) := by
        simpa [litText, ht, List.append_assoc] using hn
      simpa [toNList, RPart.toN, leadText] using noMatch_prefix this
    | ph n s =>
      -- what follows the placeholder's NUL is a suffix of the buffer (which byte separates plays no role here)
      have hn' : NoMatch (litText R) := noMatch_suffix (a := [0]) (by simpa [litText] using hn)
      obtain ⟨ih1, ih2⟩ := text_guard_of_noMatch R hR hn' hv.2
      refine ⟨by intro k; simp [toNList, RPart.toN, leadText, matchPh], ?_⟩
      simp only [toNList, RPart.toN, FlatOK]
      exact ⟨hv.1, ih1, ih2⟩
    | plural _ _ _ _ => simp [RPart.isPlural] at hp

theorem text_guard_of_validateText (R : List RPart) (hf : isFlat R = true) (h : validateText R = true)
    (hv : NamesValid R) : NoMatch (leadText (toNList R)) ∧ FlatOK (toNList R) := by
  refine text_guard_of_noMatch R hf ?_ hv
  rw [← containsPh_false_iff]
  simpa [validateText] using h

theorem validateFrom_flat : ∀ (R : List RPart) (i : Nat), isFlat R = true → validateFrom i R = true
  | [], _, _ => rfl
  | p :: R, i, hf => by
    obtain ⟨hp, hR⟩ := isFlat_cons hf
    cases p with
    | plural _ _ _ _ => simp [RPart.isPlural] at hp
    | text t => simpa [validateFrom] using validateFrom_flat R (i + 1) hR
    | ph n s => simpa [validateFrom] using validateFrom_flat R (i + 1) hR

theorem validate_flat (R : List RPart) (hf : isFlat R = true) : validate R = validateText R := by
  simp [validate, validateFrom_flat R 0 hf]

end SoyVerif.Model.Msg
