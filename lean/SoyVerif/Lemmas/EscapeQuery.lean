/-
  Lemmas about net/url.QueryEscape (Model.queryEscape) against the percent-decoding
  specification of Spec/Percent.lean.
-/
import SoyVerif.Model.Escape
import SoyVerif.Spec.Percent

namespace SoyVerif.Lemmas.EscapeQuery
open SoyVerif SoyVerif.Model SoyVerif.Spec

theorem hexDigitVal_hexUpper : ∀ n : Fin 16, hexDigitVal (hexUpper n.val) = some n.val := by decide

theorem hexUpper_safe : ∀ n : Fin 16, isUnreserved (hexUpper n.val) = true := by decide

theorem nib_hi (c : UInt8) : c.toNat / 16 < 16 := by
  have := c.toNat_lt; omega
theorem nib_lo (c : UInt8) : c.toNat % 16 < 16 := by omega

theorem byte_of_nibbles (c : UInt8) : UInt8.ofNat (c.toNat / 16 * 16 + c.toNat % 16) = c := by
  rw [Nat.div_add_mod']; simp

theorem byte_of_nibbles' (c : UInt8) : UInt8.ofNat (c.toNat / 16) * 16 + UInt8.ofNat (c.toNat % 16) = c := by
  have := byte_of_nibbles c
  simpa using this

theorem queryPiece_cases (c : UInt8) :
    (c = 32 ∧ queryPiece c = [43]) ∨
    (c ≠ 32 ∧ shouldEscapeQuery c = true ∧ queryPiece c = [37, hexUpper (c.toNat / 16), hexUpper (c.toNat % 16)]) ∨
    (c ≠ 32 ∧ shouldEscapeQuery c = false ∧ queryPiece c = [c]) := by
  by_cases h : c = 32
  · subst h; left; simp [queryPiece]
  · right
    cases hs : shouldEscapeQuery c
    · right; simp [queryPiece, h, hs]
    · left; simp [queryPiece, h, hs]

/-- `shouldEscape` lets through exactly the unreserved characters: the two definitions test the same ranges -/
theorem unreserved_of_not_should (c : UInt8) (h : shouldEscapeQuery c = false) : isUnreserved c = true := by
  unfold shouldEscapeQuery at h
  unfold isUnreserved
  split at h
  · rename_i h1
    simp only [h1, Bool.true_or]
  · split at h
    · rename_i h2
      simp only [Bool.or_eq_true, or_assoc] at h2 ⊢
      exact Or.inr (Or.inr (Or.inr h2))
    · cases h

theorem unesc_query_piece (c : UInt8) (t : Bytes) :
    queryUnescape (queryPiece c ++ t) = (queryUnescape t).map (c :: ·) := by
  rcases queryPiece_cases c with ⟨rfl, h⟩ | ⟨_, _, h⟩ | ⟨h32, hs, h⟩ <;> rw [h]
  · cases ht : queryUnescape t <;> simp [queryUnescape, ht]
  · have h1 := hexDigitVal_hexUpper ⟨c.toNat / 16, nib_hi c⟩
    have h2 := hexDigitVal_hexUpper ⟨c.toNat % 16, nib_lo c⟩
    simp only at h1 h2
    cases ht : queryUnescape t <;> simp [queryUnescape, h1, h2, ht, byte_of_nibbles']
  · have hu := unreserved_of_not_should c hs
    have h37 : c ≠ 37 := by rintro rfl; revert hu; decide
    have h43 : c ≠ 43 := by rintro rfl; revert hu; decide
    cases ht : queryUnescape t <;> simp [queryUnescape, h37, h43, ht]

theorem urlSafe_append (a b : Bytes) : urlSafe (a ++ b) = (urlSafe a && urlSafe b) := by
  simp [urlSafe]

theorem urlSafe_piece (c : UInt8) : urlSafe (queryPiece c) = true := by
  rcases queryPiece_cases c with ⟨rfl, h⟩ | ⟨_, _, h⟩ | ⟨h32, hs, h⟩ <;> rw [h]
  · decide
  · have h1 := hexUpper_safe ⟨c.toNat / 16, nib_hi c⟩
    have h2 := hexUpper_safe ⟨c.toNat % 16, nib_lo c⟩
    simp only at h1 h2
    simp [urlSafe, h1, h2]
  · simp [urlSafe, unreserved_of_not_should c hs]

theorem queryEscape_urlSafe (s : Bytes) : urlSafe (queryEscape s) = true := by
  induction s with
  | nil => rfl
  | cons c r ih => rw [queryEscape, urlSafe_append, urlSafe_piece, ih]; rfl

theorem queryUnescape_queryEscape (s : Bytes) : queryUnescape (queryEscape s) = some s := by
  induction s with
  | nil => rfl
  | cons c r ih => rw [queryEscape, unesc_query_piece, ih]; rfl

theorem urlSafe_iff (s : Bytes) :
    urlSafe s = true ↔ ∀ b ∈ s, isUnreserved b = true ∨ b = 43 ∨ b = 37 := by
  simp [urlSafe, or_assoc]

end SoyVerif.Lemmas.EscapeQuery
