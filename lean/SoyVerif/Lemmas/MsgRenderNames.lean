/-
  Connecting the render model with the naming theorems of C10, for `C11.flat_name_determines_src` and
  `C11.poPlural_name_determines_src` (in a compiled body a name determines the source text): the queue of a
  flat body and of a PO-shaped plural (`queue_flat`, `queue_poPlural`), the naming function is injective on
  queue nodes (`nm_inj`, from `names_distinct` / `names_equiv_same`), and what `annotList` does to flat bodies.
-/
import SoyVerif.Lemmas.MsgRender
import SoyVerif.Lemmas.MsgValidate
import SoyVerif.Props.C10

namespace SoyVerif.Model.Msg
open SoyVerif.Props.C10

def Part.isPlural : Part → Bool
  | .plural _ _ _ _ => true
  | _ => false

/-- no plural among the parts of a source body (`isFlat` says it of the compiled body) -/
def bodyFlat (ps : List Part) : Bool := ps.all (!·.isPlural)

theorem bodyFlat_cons {p : Part} {ps : List Part} (h : bodyFlat (p :: ps) = true) :
    p.isPlural = false ∧ bodyFlat ps = true := by
  simpa [bodyFlat] using h

theorem bfs_flat : ∀ (ps : List Part) (fuel : Nat), (∀ p ∈ ps, pluralCaseBodies p = []) → ps.length ≤ fuel →
    bfs fuel ps = ps
  | [], 0, _, _ => rfl
  | [], _ + 1, _, _ => rfl
  | p :: ps, 0, _, h => by simp at h
  | p :: ps, fuel + 1, hp, h => by
    simp only [bfs, hp p (by simp), List.append_nil]
    rw [bfs_flat ps fuel (fun x hx => hp x (by simp [hx])) (by simpa using h)]

theorem phNodes_flat : ∀ ps : List Part, bodyFlat ps = true → ∀ p ∈ phNodes ps, pluralCaseBodies p = []
  | [], _, p, hp => by simp [phNodes] at hp
  | x :: ps, h, p, hp => by
    obtain ⟨hx, hps⟩ := bodyFlat_cons h
    simp only [phNodes, List.filter_cons] at hp
    split at hp
    · rcases List.mem_cons.mp hp with hp | hp
      · subst hp
        cases p with
        | plural _ _ _ _ => simp [Part.isPlural] at hx
        | _ => rfl
      · exact phNodes_flat ps hps p hp
    · exact phNodes_flat ps hps p hp

theorem length_phNodes_le : ∀ ps : List Part, (phNodes ps).length ≤ sizeList ps
  | [] => by simp [phNodes, sizeList]
  | p :: ps => by
    have ih := length_phNodes_le ps
    have h1 : 1 ≤ p.size := by cases p <;> simp [Part.size] <;> omega
    simp only [phNodes, List.filter_cons, sizeList] at ih ⊢
    split
    · simp only [List.length_cons]; omega
    · omega

theorem queue_flat (body : List Part) (h : bodyFlat body = true) : queue body = mkQueue (phNodes body) := by
  unfold queue
  rw [bfs_flat _ _ (phNodes_flat body h) (Nat.le_succ_of_le (length_phNodes_le body))]

theorem queue_poPlural (b s : Bytes) (k : Int) (c d : List Part)
    (hc : bodyFlat c = true) (hd : bodyFlat d = true) :
    queue [.plural b s [(k, c)] d] = mkQueue (.plural b s [(k, c)] d :: (phNodes c ++ phNodes d)) := by
  unfold queue
  have h1 : phNodes [Part.plural b s [(k, c)] d] = [Part.plural b s [(k, c)] d] := by simp [phNodes, Part.isText]
  have h2 : pluralCaseBodies (Part.plural b s [(k, c)] d) = phNodes c ++ phNodes d := by simp [pluralCaseBodies]
  have hsz : sizeList [Part.plural b s [(k, c)] d] = 1 + (sizeList c + 0) + sizeList d + 0 := by
    simp [sizeList, Part.size, sizeCases]
  rw [h1, hsz]
  have e : 1 + (sizeList c + 0) + sizeList d + 0 + 1 = (sizeList c + sizeList d + 1) + 1 := by omega
  rw [e]
  simp only [bfs, List.nil_append, h2]
  rw [bfs_flat]
  · intro p hp
    rcases List.mem_append.mp hp with hp | hp
    · exact phNodes_flat c hc p hp
    · exact phNodes_flat d hd p hp
  · have := length_phNodes_le c
    have := length_phNodes_le d
    simp only [List.length_append]; omega

/-- the naming function the compiled body carries -/
def nmOf (o : Orders) (body : List Part) : Bytes → Bytes → Bytes := nameFor (queue body) (setNames o body)

theorem nm_inj (o : Orders) (ho : o.Valid) (body : List Part) {n₁ n₂ : QNode}
    (h₁ : n₁ ∈ queue body) (h₂ : n₂ ∈ queue body)
    (h : nmOf o body n₁.base n₁.src = nmOf o body n₂.base n₂.src) : n₁.src = n₂.src := by
  obtain ⟨i, hi, e₁⟩ := List.getElem_of_mem h₁
  obtain ⟨j, hj, e₂⟩ := List.getElem_of_mem h₂
  have a := names_equiv_same o ho body i hi
  have b := names_equiv_same o ho body j hj
  rw [e₁] at a
  rw [e₂] at b
  unfold nmOf at h
  rw [a, b] at h
  have := (names_distinct o ho body i j hi hj).mp h
  rw [e₁, e₂] at this
  exact this.2

theorem mem_annotList_flat (nm : Bytes → Bytes → Bytes) : ∀ (ps : List Part), bodyFlat ps = true →
    ∀ n s, RPart.ph n s ∈ annotList nm ps → ∃ base, Part.ph base s ∈ phNodes ps ∧ n = nm base s
  | [], _, n, s, h => by simp [annotList] at h
  | p :: ps, hf, n, s, h => by
    obtain ⟨hp, hps⟩ := bodyFlat_cons hf
    simp only [annotList] at h
    rcases List.mem_cons.mp h with h | h
    · cases p with
      | text b => simp [annot] at h
      | ph base src =>
        simp only [annot, RPart.ph.injEq] at h
        obtain ⟨h1, h2⟩ := h
        subst h2
        exact ⟨base, by simp [phNodes, Part.isText], h1⟩
      | plural _ _ _ _ => simp [Part.isPlural] at hp
    · obtain ⟨base, h1, h2⟩ := mem_annotList_flat nm ps hps n s h
      refine ⟨base, ?_, h2⟩
      simp only [phNodes, List.filter_cons]
      split
      · exact List.mem_cons_of_mem _ h1
      · exact h1

theorem isFlat_annotList (nm : Bytes → Bytes → Bytes) : ∀ ps : List Part, bodyFlat ps = true →
    isFlat (annotList nm ps) = true
  | [], _ => rfl
  | p :: ps, hf => by
    obtain ⟨hp, hps⟩ := bodyFlat_cons hf
    have ih := isFlat_annotList nm ps hps
    cases p with
    | plural _ _ _ _ => simp [Part.isPlural] at hp
    | text b => exact ih
    | ph b s => exact ih

/-- (holds of every body; `bodyFlat` spares the mutual induction, and the users have it) -/
theorem toNList_annotList_flat (nm : Bytes → Bytes → Bytes) : ∀ ps : List Part, bodyFlat ps = true →
    toNList (annotList nm ps) = skelList nm ps
  | [], _ => rfl
  | p :: ps, hf => by
    obtain ⟨hp, hps⟩ := bodyFlat_cons hf
    have ih := toNList_annotList_flat nm ps hps
    cases p with
    | plural _ _ _ _ => simp [Part.isPlural] at hp
    | text b => simp [annotList, annot, toNList, RPart.toN, skelList, skel, ih]
    | ph b s => simp [annotList, annot, toNList, RPart.toN, skelList, skel, ih]

end SoyVerif.Model.Msg
