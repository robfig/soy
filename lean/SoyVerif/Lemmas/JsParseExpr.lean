/-
  The expression parser of Spec/JsParse is the inverse of the obvious token printer on well-levelled trees.

  `tk p` prints a tree as tokens WITHOUT adding parentheses (a `PE.paren` node prints its own); `Wf p` says every
  operand stands at a level of the grammar at which the parser reads it back as that operand (both operands of a
  binary operator bind tighter than the operator: no `a + b + c` chains — the generator parenthesises); then, with
  enough fuel (the number of tokens), `assignN` reads `tk p` — followed by anything that does not continue an
  expression — as `p`.
-/
import SoyVerif.Spec.JsParse

namespace SoyVerif.Lemmas.JsParseExpr
open SoyVerif SoyVerif.Spec SoyVerif.Spec.JsParse

def UnOp.tok : UnOp → Tok
  | .neg => .p b!"-"
  | .not => .p b!"!"
  | .typeof => .id b!"typeof"

def AsgOp.tok : AsgOp → Tok
  | .set => .p b!"="
  | .add => .p b!"+="

mutual
  def tk : PE → List Tok
    | .ident s => [.id s]
    | .null => [.id b!"null"]
    | .bool b => [.id (if b then b!"true" else b!"false")]
    | .num v => [.num v]
    | .str v => [.str v]
    | .obj ps => .p b!"{" :: tkProps ps
    | .paren x => .p b!"(" :: (tk x ++ [.p b!")"])
    | .member x k => tk x ++ [.p b!".", .id k]
    | .index x i => tk x ++ (.p b!"[" :: (tk i ++ [.p b!"]"]))
    | .call f as => tk f ++ (.p b!"(" :: tkArgs as)
    | .postInc x => tk x ++ [.p b!"++"]
    | .unary op x => UnOp.tok op :: tk x
    | .bin op a b => tk a ++ (.p op.sym :: tk b)
    | .cond c a b => tk c ++ (.p b!"?" :: (tk a ++ (.p b!":" :: tk b)))
    | .assign op l r => tk l ++ (AsgOp.tok op :: tk r)
  /-- the arguments and the closing parenthesis -/
  def tkArgs : PArgs → List Tok
    | .nil => [.p b!")"]
    | .cons a r => tk a ++ tkArgsTail r
  def tkArgsTail : PArgs → List Tok
    | .nil => [.p b!")"]
    | .cons a r => .p b!"," :: (tk a ++ tkArgsTail r)
  /-- the properties and the closing brace -/
  def tkProps : PProps → List Tok
    | .nil => [.p b!"}"]
    | .cons k v r => .id k :: .p b!":" :: (tk v ++ tkPropsTail r)
  def tkPropsTail : PProps → List Tok
    | .nil => [.p b!"}"]
    | .cons k v r => .p b!"," :: .id k :: .p b!":" :: (tk v ++ tkPropsTail r)
end

/-- the level of the grammar a tree stands at, on the scale of `BinOp.lvl` and `Tok.cont` -/
def PE.lvl : PE → Nat
  | .postInc _ => 1
  | .unary _ _ => 1
  | .bin op _ _ => op.lvl
  | .cond _ _ _ => 12
  | .assign _ _ _ => 13
  | _ => 0

mutual
  def Wf : PE → Prop
    | .ident s => isReserved s = false
    | .null => True
    | .bool _ => True
    | .num _ => True
    | .str _ => True
    | .obj ps => WfProps ps
    | .paren x => Wf x
    | .member x _ => Wf x ∧ PE.lvl x = 0
    | .index x i => Wf x ∧ PE.lvl x = 0 ∧ Wf i
    | .call f as => Wf f ∧ PE.lvl f = 0 ∧ WfArgs as
    | .postInc x => Wf x ∧ PE.lvl x = 0
    | .unary _ x => Wf x ∧ PE.lvl x ≤ 1
    | .bin op a b => Wf a ∧ Wf b ∧ PE.lvl a < op.lvl ∧ PE.lvl b < op.lvl
    | .cond c a b => Wf c ∧ PE.lvl c ≤ 11 ∧ Wf a ∧ Wf b
    | .assign _ l r => Wf l ∧ isRef l = true ∧ Wf r
  def WfArgs : PArgs → Prop
    | .nil => True
    | .cons a r => Wf a ∧ WfArgs r
  def WfProps : PProps → Prop
    | .nil => True
    | .cons _ v r => Wf v ∧ WfProps r
end

/-- the level at which a token continues an expression (none: it does not) -/
def Tok.cont : Tok → Option Nat
  | .p s =>
    match allBinOps.find? (fun op => op.sym == s) with
    | some op => some op.lvl
    | none =>
      if s = b!"." ∨ s = b!"[" ∨ s = b!"(" then some 0
      else if s = b!"++" then some 1
      else if s = b!"?" then some 12
      else if s = b!"=" ∨ s = b!"+=" then some 13
      else none
  | _ => none

/-- the next token does not continue an expression at a level ≤ k -/
def After (k : Nat) (rest : List Tok) : Prop := ∀ t r, rest = t :: r → ∀ j, Tok.cont t = some j → k < j

theorem After.mono {k k' : Nat} {rest : List Tok} (h : After k rest) (hk : k' ≤ k) : After k' rest :=
  fun t r e j hj => Nat.lt_of_le_of_lt hk (h t r e j hj)

theorem After.nil (k : Nat) : After k [] := fun _ _ e => by cases e

theorem after_cons {k : Nat} {t : Tok} {r : List Tok} (h : ∀ j, Tok.cont t = some j → k < j) : After k (t :: r) := by
  intro t' r' e j hj
  cases e
  exact h j hj

@[simp] theorem eat_self (s : Bytes) (r : List Tok) : eat s (.p s :: r) = some r := by simp [eat]
@[simp] theorem eatId_self (s : Bytes) (r : List Tok) : eatId s (.id s :: r) = some r := by simp [eatId]
@[simp] theorem eat_nil (s : Bytes) : eat s [] = none := rfl
@[simp] theorem eatId_nil (s : Bytes) : eatId s [] = none := rfl
@[simp] theorem eat_id (s s' : Bytes) (r : List Tok) : eat s (.id s' :: r) = none := rfl
@[simp] theorem eat_num (s : Bytes) (v : Nat) (r : List Tok) : eat s (.num v :: r) = none := rfl
@[simp] theorem eat_str (s v : Bytes) (r : List Tok) : eat s (.str v :: r) = none := rfl
@[simp] theorem eatId_p (s s' : Bytes) (r : List Tok) : eatId s (.p s' :: r) = none := rfl
@[simp] theorem eatId_num (s : Bytes) (v : Nat) (r : List Tok) : eatId s (.num v :: r) = none := rfl
@[simp] theorem eatId_str (s v : Bytes) (r : List Tok) : eatId s (.str v :: r) = none := rfl
theorem eat_ne {s s' : Bytes} (h : s' ≠ s) (r : List Tok) : eat s (.p s' :: r) = none := by simp [eat, h]
theorem eatId_ne {s s' : Bytes} (h : s' ≠ s) (r : List Tok) : eatId s (.id s' :: r) = none := by simp [eatId, h]

theorem eat_after {k j : Nat} {s : Bytes} {rest : List Tok} (h : After k rest) (hc : Tok.cont (.p s) = some j)
    (hj : j ≤ k) : eat s rest = none := by
  cases rest with
  | nil => rfl
  | cons t r =>
    cases t with
    | p s' =>
      by_cases e : s' = s
      · subst e
        have := h _ _ rfl j hc
        omega
      · exact eat_ne e r
    | id _ => rfl
    | num _ => rfl
    | str _ => rfl

theorem after_of_none {t : Tok} (h : Tok.cont t = none) (k : Nat) (r : List Tok) : After k (t :: r) :=
  after_cons (by intro j hj; rw [h] at hj; cases hj)

theorem after_of_some {t : Tok} {j : Nat} (h : Tok.cont t = some j) {k : Nat} (hk : k < j) (r : List Tok) :
    After k (t :: r) :=
  after_cons (by intro j' hj; rw [h] at hj; cases hj; exact hk)

/-- `pa` reads every well-levelled tree of at most `m` tokens.  In the lemmas below `m` is the budget that comes from the
    nesting fuel of `assignN` (hypotheses `… ≤ m + 1`), `n` the bound of the loops of one level (`… ≤ n`). -/
def PaOk (pa : P PE) (m : Nat) : Prop :=
  ∀ q, Wf q → (tk q).length ≤ m → ∀ rest, After 13 rest → pa (tk q ++ rest) = some (q, rest)

theorem argsLoop_rt {pa : P PE} {m : Nat} (h : PaOk pa m) :
    ∀ (as : PArgs) (a : PE) (k : Nat) (rest : List Tok), Wf a → WfArgs as →
      (tk a).length + (tkArgsTail as).length ≤ m + 1 → (tkArgsTail as).length ≤ k →
      argsLoop pa k (tk a ++ (tkArgsTail as ++ rest)) = some (.cons a as, rest)
  | .nil, a, k, rest, wa, _, hm, hk => by
    cases k with
    | zero => simp [tkArgsTail] at hk
    | succ k =>
      simp only [tkArgsTail, List.length_cons, List.length_nil] at hm
      have := h a wa (by omega) (.p b!")" :: rest) (after_of_none rfl _ _)
      unfold argsLoop
      simp only [tkArgsTail, List.cons_append, List.nil_append]
      rw [this]
      simp
  | .cons a' r, a, k, rest, wa, was, hm, hk => by
    cases k with
    | zero => simp [tkArgsTail] at hk
    | succ k =>
      simp only [WfArgs] at was
      simp only [tkArgsTail, List.length_cons, List.length_append] at hm hk
      have := h a wa (by omega) (.p b!"," :: (tk a' ++ (tkArgsTail r ++ rest))) (after_of_none rfl _ _)
      have ih := argsLoop_rt h r a' k rest was.1 was.2 (by omega) (by omega)
      unfold argsLoop
      simp only [tkArgsTail, List.cons_append, List.append_assoc]
      rw [this]
      simp only [eat_ne (show (b!"," : Bytes) ≠ b!")" by decide), eat_self, ih]

/-- the first token of `tk p` (`tk_head`) -/
def headTok : PE → Tok
  | .ident s => .id s
  | .null => .id b!"null"
  | .bool b => .id (if b then b!"true" else b!"false")
  | .num v => .num v
  | .str v => .str v
  | .obj _ => .p b!"{"
  | .paren _ => .p b!"("
  | .member x _ => headTok x
  | .index x _ => headTok x
  | .call f _ => headTok f
  | .postInc x => headTok x
  | .unary op _ => UnOp.tok op
  | .bin _ a _ => headTok a
  | .cond c _ _ => headTok c
  | .assign _ l _ => headTok l

theorem tk_head? : ∀ p : PE, (tk p).head? = some (headTok p)
  | .member x _ | .index x _ | .call x _ | .postInc x | .bin _ x _ | .cond x _ _ | .assign _ x _ => by
    simp [tk, headTok, List.head?_append, tk_head? x]
  | .ident _ | .null | .bool _ | .num _ | .str _ | .obj _ | .paren _ | .unary _ _ => by simp [tk, headTok]

theorem tk_head (p : PE) : ∃ r, tk p = headTok p :: r := by
  have := tk_head? p
  cases h : tk p with
  | nil => simp [h] at this
  | cons t r => simp [h] at this; exact ⟨r, by rw [this]⟩

/-- a token a PrimaryExpression begins with -/
def PStart : Tok → Prop
  | .id s => s ≠ b!"typeof"
  | .num _ => True
  | .str _ => True
  | .p s => s = b!"(" ∨ s = b!"{"

/-- a token an expression begins with -/
def EStart : Tok → Prop
  | .p s => s = b!"(" ∨ s = b!"{" ∨ s = b!"-" ∨ s = b!"!"
  | _ => True

theorem PStart.estart {t : Tok} (h : PStart t) : EStart t := by
  cases t <;> simp_all [PStart, EStart]
  rcases h with h | h <;> simp [h]

theorem headTok_pstart : ∀ p : PE, Wf p → PE.lvl p = 0 → PStart (headTok p)
  | .ident s, w, _ => by
    simp only [Wf] at w
    simp only [headTok, PStart]
    intro e; subst e; revert w; decide
  | .bool b, _, _ => by cases b <;> simp [headTok, PStart]
  | .null, _, _ | .num _, _, _ | .str _, _, _ | .obj _, _, _ | .paren _, _, _ => by simp [headTok, PStart]
  | .member x _, w, _ | .index x _, w, _ | .call x _, w, _ => by simp only [Wf] at w; exact headTok_pstart x w.1 (by omega)
  | .bin op _ _, _, h => by cases op <;> simp [PE.lvl, BinOp.lvl] at h
  | .postInc _, _, h | .unary _ _, _, h | .cond _ _ _, _, h | .assign _ _ _, _, h => by simp [PE.lvl] at h

theorem headTok_estart : ∀ p : PE, Wf p → EStart (headTok p)
  | .ident _, w | .null, w | .bool _, w | .num _, w | .str _, w | .obj _, w | .paren _, w => (headTok_pstart _ w rfl).estart
  | .member x _, w | .index x _, w | .call x _, w | .postInc x, w | .bin _ x _, w | .cond x _ _, w | .assign _ x _, w => by
    simp only [Wf] at w; exact headTok_estart x w.1
  | .unary op _, _ => by cases op <;> simp [headTok, UnOp.tok, EStart]

theorem eat_estart {t : Tok} (h : EStart t) {s : Bytes} (h1 : s ≠ b!"(") (h2 : s ≠ b!"{") (h3 : s ≠ b!"-")
    (h4 : s ≠ b!"!") (r : List Tok) : eat s (t :: r) = none := by
  cases t with
  | p s' =>
    apply eat_ne
    rcases h with h | h | h | h <;> (subst h; first | exact Ne.symm h1 | exact Ne.symm h2 | exact Ne.symm h3 | exact Ne.symm h4)
  | id _ => rfl
  | num _ => rfl
  | str _ => rfl

theorem eat_pstart {t : Tok} (h : PStart t) {s : Bytes} (h1 : s ≠ b!"(") (h2 : s ≠ b!"{") (r : List Tok) :
    eat s (t :: r) = none := by
  cases t with
  | p s' =>
    apply eat_ne
    rcases h with h | h <;> (subst h; first | exact Ne.symm h1 | exact Ne.symm h2)
  | id _ => rfl
  | num _ => rfl
  | str _ => rfl

theorem eatId_pstart {t : Tok} (h : PStart t) (r : List Tok) : eatId b!"typeof" (t :: r) = none := by
  cases t with
  | id s => exact eatId_ne h r
  | p _ => rfl
  | num _ => rfl
  | str _ => rfl

theorem eat_tk_none {p : PE} (w : Wf p) {s : Bytes} (h1 : s ≠ b!"(") (h2 : s ≠ b!"{") (h3 : s ≠ b!"-") (h4 : s ≠ b!"!")
    (rest : List Tok) : eat s (tk p ++ rest) = none := by
  obtain ⟨r, h⟩ := tk_head p
  rw [h]
  exact eat_estart (headTok_estart p w) h1 h2 h3 h4 _

theorem args_rt {pa : P PE} {m : Nat} (n : Nat) (h : PaOk pa m) (as : PArgs) (rest : List Tok) (w : WfArgs as)
    (hm : (tkArgs as).length ≤ m + 1) (hn : (tkArgs as).length ≤ n) :
    args n pa (tkArgs as ++ rest) = some (as, rest) := by
  cases as with
  | nil => simp [args, tkArgs]
  | cons a r =>
    simp only [WfArgs] at w
    simp only [tkArgs, List.length_append] at hm hn
    have ha := argsLoop_rt h r a n rest w.1 w.2 hm (by omega)
    unfold args
    simp only [tkArgs, List.append_assoc]
    rw [eat_tk_none w.1 (by decide) (by decide) (by decide) (by decide), ha]

theorem propsLoop_rt {pa : P PE} {m : Nat} (h : PaOk pa m) :
    ∀ (ps : PProps) (key : Bytes) (v : PE) (k : Nat) (rest : List Tok), Wf v → WfProps ps →
      (tk v).length + (tkPropsTail ps).length ≤ m + 1 → (tkPropsTail ps).length ≤ k →
      propsLoop pa k (.id key :: .p b!":" :: (tk v ++ (tkPropsTail ps ++ rest))) = some (.cons key v ps, rest)
  | .nil, key, v, k, rest, wv, _, hm, hk => by
    cases k with
    | zero => simp [tkPropsTail] at hk
    | succ k =>
      simp only [tkPropsTail, List.length_cons, List.length_nil] at hm
      have := h v wv (by omega) (.p b!"}" :: rest) (after_of_none rfl _ _)
      unfold propsLoop
      simp only [tkPropsTail, List.cons_append, List.nil_append, eat_self]
      rw [this]
      simp
  | .cons key' v' r, key, v, k, rest, wv, wps, hm, hk => by
    cases k with
    | zero => simp [tkPropsTail] at hk
    | succ k =>
      simp only [WfProps] at wps
      simp only [tkPropsTail, List.length_cons, List.length_append] at hm hk
      have := h v wv (by omega) (.p b!"," :: .id key' :: .p b!":" :: (tk v' ++ (tkPropsTail r ++ rest)))
        (after_of_none rfl _ _)
      have ih := propsLoop_rt h r key' v' k rest wps.1 wps.2 (by omega) (by omega)
      unfold propsLoop
      simp only [tkPropsTail, List.cons_append, List.append_assoc, eat_self]
      rw [this]
      simp only [eat_ne (show (b!"," : Bytes) ≠ b!"}" by decide), eat_self, ih]

theorem props_rt {pa : P PE} {m : Nat} (n : Nat) (h : PaOk pa m) (ps : PProps) (rest : List Tok) (w : WfProps ps)
    (hm : (tkProps ps).length ≤ m + 1) (hn : (tkProps ps).length ≤ n) :
    props n pa (tkProps ps ++ rest) = some (ps, rest) := by
  cases ps with
  | nil => simp [props, tkProps]
  | cons key v r =>
    simp only [WfProps] at w
    simp only [tkProps, List.length_append, List.length_cons] at hm hn
    have ha := propsLoop_rt h r key v n rest w.1 w.2 (by omega) (by omega)
    unfold props
    simp only [tkProps, List.cons_append, List.append_assoc, eat_id]
    rw [ha]

def isPrim : PE → Bool
  | .ident _ | .null | .bool _ | .num _ | .str _ | .obj _ | .paren _ => true
  | _ => false

theorem primary_rt {pa : P PE} {m : Nat} (n : Nat) (h : PaOk pa m) (p : PE) (rest : List Tok) (w : Wf p)
    (hp : isPrim p = true) (hm : (tk p).length ≤ m + 1) (hn : (tk p).length ≤ n) :
    primary n pa (tk p ++ rest) = some (p, rest) := by
  cases p with
  | ident s =>
    simp only [Wf] at w
    have h1 : s ≠ b!"null" := by intro e; subst e; revert w; decide
    have h2 : s ≠ b!"true" := by intro e; subst e; revert w; decide
    have h3 : s ≠ b!"false" := by intro e; subst e; revert w; decide
    simp [tk, primary, h1, h2, h3, w]
  | null => simp [tk, primary]
  | bool b => cases b <;> simp [tk, primary]
  | num v => simp [tk, primary]
  | str v => simp [tk, primary]
  | obj ps =>
    simp only [Wf] at w
    simp only [tk, List.length_cons] at hm hn
    have := props_rt n h ps rest w (by omega) (by omega)
    simp [tk, primary, this]
  | paren x =>
    simp only [Wf] at w
    simp only [tk, List.length_cons, List.length_append] at hm hn
    have := h x w (by simp at hm; omega) (.p b!")" :: rest) (after_of_none rfl _ _)
    simp [tk, primary, this]
  | _ => simp [isPrim] at hp

/-- the number of `.name` / `[e]` / `(args)` behind the PrimaryExpression -/
def chain : PE → Nat
  | .member x _ => chain x + 1
  | .index x _ => chain x + 1
  | .call f _ => chain f + 1
  | _ => 0

theorem tk_pos (p : PE) : 0 < (tk p).length := by
  obtain ⟨r, h⟩ := tk_head p
  rw [h]; simp

theorem chain_lt : ∀ p : PE, chain p < (tk p).length
  | .member x _ | .index x _ | .call x _ => by have := chain_lt x; simp [chain, tk]; omega
  | .ident _ | .null | .bool _ | .num _ | .str _ | .obj _ | .paren _ | .postInc _ | .unary _ _ | .bin _ _ _ | .cond _ _ _
  | .assign _ _ _ => tk_pos _

/-- on the tokens of a LeftHandSideExpression `p`: the PrimaryExpression, then the loop with fuel `j + chain p`, is the
    loop with fuel `j` started at `p` -/
theorem lhs_loop {pa : P PE} {m : Nat} (n : Nat) (h : PaOk pa m) :
    ∀ (p : PE), Wf p → PE.lvl p = 0 → (tk p).length ≤ m + 1 → (tk p).length ≤ n → ∀ (j : Nat) (rest : List Tok),
      (primary n pa (tk p ++ rest)).bind (fun xr => postLoop n pa (j + chain p) xr.1 xr.2) = postLoop n pa j p rest
  | .member x k, w, _, hm, hn, j, rest => by
    simp only [Wf] at w
    simp only [tk, List.length_append, List.length_cons, List.length_nil] at hm hn
    have ih := lhs_loop n h x w.1 w.2 (by omega) (by omega) (j + 1) (.p b!"." :: .id k :: rest)
    have e : j + chain (.member x k) = j + 1 + chain x := by simp [chain]; omega
    rw [e]
    simp only [tk, List.append_assoc, List.cons_append, List.nil_append]
    rw [ih]
    conv => lhs; unfold postLoop
    simp
  | .index x i, w, _, hm, hn, j, rest => by
    simp only [Wf] at w
    simp only [tk, List.length_append, List.length_cons, List.length_nil] at hm hn
    have ih := lhs_loop n h x w.1 w.2.1 (by omega) (by omega) (j + 1) (.p b!"[" :: (tk i ++ (.p b!"]" :: rest)))
    have hi := h i w.2.2 (by omega) (.p b!"]" :: rest) (after_of_none rfl _ _)
    have e : j + chain (.index x i) = j + 1 + chain x := by simp [chain]; omega
    rw [e]
    simp only [tk, List.append_assoc, List.cons_append, List.nil_append]
    rw [ih]
    conv => lhs; unfold postLoop
    simp only [eat_ne (show (b!"[" : Bytes) ≠ b!"." by decide), eat_self, hi]
  | .call f as, w, _, hm, hn, j, rest => by
    simp only [Wf] at w
    simp only [tk, List.length_append, List.length_cons] at hm hn
    have ih := lhs_loop n h f w.1 w.2.1 (by omega) (by omega) (j + 1) (.p b!"(" :: (tkArgs as ++ rest))
    have ha := args_rt n h as rest w.2.2 (by omega) (by omega)
    have e : j + chain (.call f as) = j + 1 + chain f := by simp [chain]; omega
    rw [e]
    simp only [tk, List.append_assoc, List.cons_append]
    rw [ih]
    conv => lhs; unfold postLoop
    simp only [eat_ne (show (b!"(" : Bytes) ≠ b!"." by decide), eat_ne (show (b!"(" : Bytes) ≠ b!"[" by decide),
      eat_self, ha]
  | .ident _, w, _, hm, hn, j, rest | .null, w, _, hm, hn, j, rest | .bool _, w, _, hm, hn, j, rest
  | .num _, w, _, hm, hn, j, rest | .str _, w, _, hm, hn, j, rest | .obj _, w, _, hm, hn, j, rest
  | .paren _, w, _, hm, hn, j, rest => by rw [primary_rt n h _ rest w rfl hm hn]; simp [chain]
  | .bin op _ _, _, hl, _, _, _, _ => by cases op <;> simp [PE.lvl, BinOp.lvl] at hl
  | .postInc _, _, hl, _, _, _, _ | .unary _ _, _, hl, _, _, _, _ | .cond _ _ _, _, hl, _, _, _, _
  | .assign _ _ _, _, hl, _, _, _, _ => by simp [PE.lvl] at hl

theorem postLoop_stop (n : Nat) (pa : P PE) (j : Nat) (x : PE) {rest : List Tok} (h : After 0 rest) :
    postLoop n pa (j + 1) x rest = some (x, rest) := by
  unfold postLoop
  rw [eat_after h (s := b!".") (j := 0) rfl (Nat.le_refl _), eat_after h (s := b!"[") (j := 0) rfl (Nat.le_refl _),
    eat_after h (s := b!"(") (j := 0) rfl (Nat.le_refl _)]

theorem lhs_rt {pa : P PE} {m : Nat} (n : Nat) (h : PaOk pa m) (p : PE) (w : Wf p) (hl : PE.lvl p = 0)
    (hm : (tk p).length ≤ m + 1) (hn : (tk p).length ≤ n) (rest : List Tok) (ha : After 0 rest) :
    lhs n pa (tk p ++ rest) = some (p, rest) := by
  have hc := chain_lt p
  -- of the fuel `n`, `chain p` rounds read `p`; one more sees that `rest` does not go on
  have := lhs_loop n h p w hl hm hn (n - chain p) rest
  have e : n - chain p + chain p = n := by omega
  rw [e] at this
  have e0 : lhs n pa (tk p ++ rest) = (primary n pa (tk p ++ rest)).bind (fun xr => postLoop n pa n xr.1 xr.2) := by
    unfold lhs
    cases primary n pa (tk p ++ rest) <;> rfl
  rw [e0, this]
  have e2 : n - chain p = (n - chain p - 1) + 1 := by omega
  rw [e2]
  exact postLoop_stop n pa _ p ha

def isUnary : PE → Bool
  | .unary _ _ => true
  | _ => false

theorem postfix_rt {pa : P PE} {m : Nat} (n : Nat) (h : PaOk pa m) (p : PE) (w : Wf p) (hl : PE.lvl p ≤ 1)
    (hu : isUnary p = false) (hm : (tk p).length ≤ m + 1) (hn : (tk p).length ≤ n) (rest : List Tok) (ha : After 1 rest) :
    postfixE n pa (tk p ++ rest) = some (p, rest) := by
  by_cases h0 : PE.lvl p = 0
  · unfold postfixE
    rw [lhs_rt n h p w h0 hm hn rest (ha.mono (by omega))]
    simp only [eat_after ha (s := b!"++") (j := 1) rfl (Nat.le_refl _)]
  · cases p with
    | postInc x =>
      simp only [Wf] at w
      simp only [tk, List.length_append, List.length_cons, List.length_nil] at hm hn
      unfold postfixE
      simp only [tk, List.append_assoc, List.cons_append, List.nil_append]
      rw [lhs_rt n h x w.1 w.2 (by omega) (by omega) _ (after_of_some (j := 1) rfl (by omega) _)]
      simp
    | unary _ _ => simp [isUnary] at hu
    | bin op _ _ => cases op <;> simp [PE.lvl, BinOp.lvl] at hl
    | _ => simp [PE.lvl] at hl h0

theorem headTok_postfix (p : PE) (w : Wf p) (hl : PE.lvl p ≤ 1) (hu : isUnary p = false) : PStart (headTok p) := by
  by_cases h0 : PE.lvl p = 0
  · exact headTok_pstart p w h0
  · cases p with
    | postInc x => simp only [Wf] at w; exact headTok_pstart x w.1 w.2
    | unary _ _ => simp [isUnary] at hu
    | bin op _ _ => cases op <;> simp [PE.lvl, BinOp.lvl] at hl
    | _ => simp [PE.lvl] at hl h0

/-- the number of prefix operators in front -/
def udepth : PE → Nat
  | .unary _ x => udepth x + 1
  | _ => 0

theorem udepth_lt : ∀ p : PE, udepth p < (tk p).length
  | .unary _ x => by have := udepth_lt x; simp [udepth, tk]; omega
  | .member _ _ | .index _ _ | .call _ _ | .ident _ | .null | .bool _ | .num _ | .str _ | .obj _ | .paren _ | .postInc _
  | .bin _ _ _ | .cond _ _ _ | .assign _ _ _ => tk_pos _

theorem unary_fall {pa : P PE} (n k : Nat) {t : Tok} (ht : PStart t) (r : List Tok) :
    unary n pa (k + 1) (t :: r) = postfixE n pa (t :: r) := by
  unfold unary
  rw [eat_pstart ht (by decide) (by decide), eat_pstart ht (by decide) (by decide), eatId_pstart ht]

theorem unary_rt {pa : P PE} {m : Nat} (n : Nat) (h : PaOk pa m) :
    ∀ (k : Nat) (p : PE), Wf p → PE.lvl p ≤ 1 → (tk p).length ≤ m + 1 → (tk p).length ≤ n → udepth p < k →
      ∀ (rest : List Tok), After 1 rest → unary n pa k (tk p ++ rest) = some (p, rest)
  | 0, _, _, _, _, _, hk, _, _ => by omega
  | k + 1, p, w, hl, hm, hn, hk, rest, ha => by
    cases p with
    | unary op x =>
      simp only [Wf] at w
      simp only [tk, List.length_cons] at hm hn
      simp only [udepth] at hk
      have ih := unary_rt n h k x w.1 w.2 (by omega) (by omega) (by omega) rest ha
      unfold unary
      cases op with
      | neg => simp [tk, UnOp.tok, ih]
      | not => simp [tk, UnOp.tok, ih, eat_ne (show (b!"!" : Bytes) ≠ b!"-" by decide)]
      | typeof => simp [tk, UnOp.tok, ih]
    | _ =>
      -- no prefix operator in front: the first token sends `unary` on to `postfixE`
      obtain ⟨r, e⟩ := tk_head _
      have hs := headTok_postfix _ w hl rfl
      have := postfix_rt n h _ w hl rfl hm hn rest ha
      rw [e] at this ⊢
      rw [List.cons_append, unary_fall n k hs]
      exact this

theorem binOpAt_sym (op : BinOp) : binOpAt op.lvl op.sym = some op := by cases op <;> rfl

theorem cont_sym (op : BinOp) : Tok.cont (.p op.sym) = some op.lvl := by cases op <;> rfl

theorem binOpAt_cont {l : Nat} {s : Bytes} {op : BinOp} (h : binOpAt l s = some op) : Tok.cont (.p s) = some l := by
  unfold binOpAt at h
  have := List.find?_some h
  simp only [Bool.and_eq_true, beq_iff_eq] at this
  rw [← this.1, ← this.2]
  exact cont_sym op

theorem binLoop_stop (sub : P PE) (l k : Nat) (a : PE) {rest : List Tok} (h : After l rest) :
    binLoop sub l (k + 1) a rest = some (a, rest) := by
  unfold binLoop
  cases rest with
  | nil => rfl
  | cons t r =>
    cases t with
    | p s =>
      cases hb : binOpAt l s with
      | none => simp [hb]
      | some op =>
        have := h _ _ rfl l (binOpAt_cont hb)
        omega
    | id _ => rfl
    | num _ => rfl
    | str _ => rfl

theorem binLoop_once (sub : P PE) {l k : Nat} (hk : 2 ≤ k) (a b : PE) (op : BinOp) (hop : op.lvl = l) {r r' : List Tok}
    (hs : sub r = some (b, r')) (h : After l r') : binLoop sub l k a (.p op.sym :: r) = some (.bin op a b, r') := by
  match k, hk with
  | k + 2, _ =>
    conv => lhs; unfold binLoop
    simp only [← hop, binOpAt_sym, hs]
    exact binLoop_stop _ _ _ _ (by rw [hop]; exact h)

/-- A tree of a lower level passes through level `K + 1` by `binLoop_stop`; a `bin` of level `K + 1` is exactly one round of
    the loop, since both operands bind strictly tighter (`Wf`).  `max K 1`: level 0 of `binLevel` is `unary`, which reads
    the trees of the levels 0 and 1 alike. -/
theorem binLevel_rt {pa : P PE} {m : Nat} (n : Nat) (h : PaOk pa m) :
    ∀ (K : Nat), K ≤ 11 → ∀ (p : PE), Wf p → PE.lvl p ≤ max K 1 → (tk p).length ≤ m + 1 → (tk p).length ≤ n →
      ∀ (rest : List Tok), After (max K 1) rest → binLevel n pa K (tk p ++ rest) = some (p, rest)
  | 0, _, p, w, hl, hm, hn, rest, ha => by
    have := udepth_lt p
    exact unary_rt n h n p w (by simpa using hl) hm hn (by omega) rest (by simpa using ha)
  | K + 1, hK, p, w, hl, hm, hn, rest, ha => by
    have hn1 : 1 ≤ n := by have := tk_pos p; omega
    by_cases hl' : PE.lvl p ≤ max K 1
    · have ih := binLevel_rt n h K (by omega) p w hl' hm hn rest (ha.mono (by omega))
      simp only [binLevel]
      rw [ih]
      obtain ⟨n', e⟩ : ∃ n', n = n' + 1 := ⟨n - 1, by omega⟩
      rw [e]
      exact binLoop_stop _ _ _ _ (ha.mono (by omega))
    · cases p with
      | bin op a b =>
        simp only [Wf] at w
        simp only [PE.lvl] at hl hl'
        have hop : op.lvl = K + 1 := by omega
        simp only [tk, List.length_append, List.length_cons] at hm hn
        have hn2 : 2 ≤ n := by have := tk_pos a; have := tk_pos b; omega
        have ia := binLevel_rt n h K (by omega) a w.1 (by omega) (by omega) (by omega) (.p op.sym :: (tk b ++ rest))
          (after_of_some (cont_sym op) (by omega) _)
        have ib := binLevel_rt n h K (by omega) b w.2.1 (by omega) (by omega) (by omega) rest (ha.mono (by omega))
        simp only [binLevel, tk, List.append_assoc, List.cons_append]
        rw [ia]
        exact binLoop_once _ hn2 a b op hop ib (ha.mono (by omega))
      | _ => simp only [PE.lvl] at hl hl'; omega

/-- `ha'`: the last branch of a `?:` is read by `pa`, an AssignmentExpression, which asks more of what follows
    (`After 13`) than the level of `?:` itself does -/
theorem cond_rt {pa : P PE} {m : Nat} (n : Nat) (h : PaOk pa m) (p : PE) (w : Wf p) (hl : PE.lvl p ≤ 12)
    (hm : (tk p).length ≤ m + 1) (hn : (tk p).length ≤ n) (rest : List Tok) (ha : After 12 rest)
    (ha' : PE.lvl p = 12 → After 13 rest) : condE n pa (tk p ++ rest) = some (p, rest) := by
  by_cases hl' : PE.lvl p ≤ 11
  · unfold condE
    rw [binLevel_rt n h 11 (Nat.le_refl _) p w (by simpa using hl') hm hn rest (ha.mono (by simp))]
    simp only [eat_after ha (s := b!"?") (j := 12) rfl (Nat.le_refl _)]
  · cases p with
    | cond c a b =>
      simp only [Wf] at w
      simp only [tk, List.length_append, List.length_cons] at hm hn
      have ic := binLevel_rt n h 11 (Nat.le_refl _) c w.1 (by simpa using w.2.1) (by omega) (by omega)
        (.p b!"?" :: (tk a ++ (.p b!":" :: (tk b ++ rest)))) (after_of_some (j := 12) rfl (by simp) _)
      have ia := h a w.2.2.1 (by omega) (.p b!":" :: (tk b ++ rest)) (after_of_none rfl _ _)
      have ib := h b w.2.2.2 (by omega) rest (ha' rfl)
      unfold condE
      simp only [tk, List.append_assoc, List.cons_append]
      rw [ic]
      simp only [eat_self, ia, ib]
    | bin op _ _ => cases op <;> simp [PE.lvl, BinOp.lvl] at hl'
    | _ => simp only [PE.lvl] at hl hl'; omega

theorem lvl_le (p : PE) : PE.lvl p ≤ 13 := by
  cases p with
  | bin op _ _ => cases op <;> simp [PE.lvl, BinOp.lvl]
  | _ => simp [PE.lvl]

theorem isRef_lvl {p : PE} (h : isRef p = true) : PE.lvl p = 0 := by
  cases p <;> simp_all [isRef, PE.lvl]

theorem assign_rt {pa : P PE} {m : Nat} (n : Nat) (h : PaOk pa m) (p : PE) (w : Wf p)
    (hm : (tk p).length ≤ m + 1) (hn : (tk p).length ≤ n) (rest : List Tok) (ha : After 13 rest) :
    assignE n pa (tk p ++ rest) = some (p, rest) := by
  by_cases hl' : PE.lvl p ≤ 12
  · unfold assignE
    rw [cond_rt n h p w hl' hm hn rest (ha.mono (by omega)) (fun _ => ha)]
    simp only [eat_after ha (s := b!"=") (j := 13) rfl (Nat.le_refl _),
      eat_after ha (s := b!"+=") (j := 13) rfl (Nat.le_refl _)]
  · cases p with
    | assign op l r =>
      simp only [Wf] at w
      simp only [tk, List.length_append, List.length_cons] at hm hn
      have hl0 := isRef_lvl w.2.1
      have il := cond_rt n h l w.1 (by omega) (by omega) (by omega) (AsgOp.tok op :: (tk r ++ rest))
        (by cases op <;> exact after_of_some (j := 13) rfl (by omega) _) (by omega)
      have ir := h r w.2.2 (by omega) rest ha
      unfold assignE
      simp only [tk, List.append_assoc, List.cons_append]
      rw [il]
      cases op with
      | set => simp [AsgOp.tok, assignRhs, w.2.1, ir]
      | add => simp [AsgOp.tok, assignRhs, w.2.1, ir, eat_ne (show (b!"+=" : Bytes) ≠ b!"=" by decide)]
    | bin op _ _ => cases op <;> simp [PE.lvl, BinOp.lvl] at hl'
    | _ => simp [PE.lvl] at hl'

/-- the parser reads the tokens of a well-levelled tree, followed by anything that does not continue an
    expression, as the tree: `fuel` and `n` at least the number of tokens -/
theorem assignN_rt (n : Nat) : ∀ (fuel : Nat), PaOk (assignN n fuel) (min fuel n)
  | 0 => by
    intro q _ hq
    have := tk_pos q
    have : (tk q).length ≤ 0 := Nat.le_trans hq (Nat.min_le_left _ _)
    omega
  | fuel + 1 => by
    intro q w hq rest ha
    have ih := assignN_rt n fuel
    have h1 : (tk q).length ≤ min fuel n + 1 := by simp only [Nat.le_min] at hq ⊢; omega
    have h2 : (tk q).length ≤ n := by simp only [Nat.le_min] at hq; omega
    show assignE n (assignN n fuel) (tk q ++ rest) = some (q, rest)
    exact assign_rt n ih q w h1 h2 rest ha

theorem parseExpr_tk (p : PE) (w : Wf p) : parseExpr (tk p) = some p := by
  have := assignN_rt (tk p).length (tk p).length p w (by simp) [] (After.nil _)
  simp only [List.append_nil] at this
  simp [parseExpr, this]

/-- a text whose tokens are those of a well-levelled tree denotes what the tree is read as -/
theorem jsParseExpr_of_lex {bs : Bytes} {p : PE} (hl : jsLex bs = some (tk p)) (w : Wf p) : jsParseExpr bs = readE p := by
  simp only [jsParseExpr, hl, parseExpr_tk p w]

end SoyVerif.Lemmas.JsParseExpr
