/-
  The expression parser of Model/Parser.lean terminates: with fuel `8·mu + c` (mu = real
  tokens ahead) no function of it returns `fuelOut`; every error is positioned at a token;
  a successful `parseExpr` consumed at least one real token.  Each function is walked as a judgement `Tri` at the
  host `pHost` (Lemmas/ParserTri.lean); the fields of `ExprSpecs` are read off with `Tri.spec`.
-/
import SoyVerif.Lemmas.ParserTri

namespace SoyVerif.Lemmas.ParserSafe
open SoyVerif SoyVerif.Model SoyVerif.Model.Parser

theorem binOpOf_isSome {t : ItemType} (h : isBinaryOp t = true) : binOpOf t ≠ none :=
  (by decide : ∀ t ∈ Gen.ParseTables.binaryOps, binOpOf t ≠ none) t (List.contains_iff_mem.mp h)

theorem unary_cases {t : ItemType} (h : isUnaryOp t = true) : t = .tNot ∨ t = .tNegate :=
  (by decide : ∀ t ∈ Gen.ParseTables.unaryOps, t = .tNot ∨ t = .tNegate) t (List.contains_iff_mem.mp h)

theorem val_ne1 {AP : Prop} {it : Item} (h : AP ∨ WFItem it)
    (ht : it.typ = .tDollarIdent ∨ it.typ = .tDotIdent ∨ it.typ = .tDotIndex) : it.val = [] → AP := by
  intro he
  rcases h with h | h
  · exact h
  · exact absurd he (h.1 ht)

theorem val_ne2a {AP : Prop} {it : Item} (h : AP ∨ WFItem it)
    (ht : it.typ = .tQuestionDotIdent ∨ it.typ = .tQuestionDotIndex) : it.val = [] → AP := by
  intro he
  rcases h with h | h
  · exact h
  · have := h.2 ht; rw [he] at this; simp at this

theorem val_ne2b {AP : Prop} {it : Item} {b : UInt8} {r : Bytes} (h : AP ∨ WFItem it)
    (ht : it.typ = .tQuestionDotIdent ∨ it.typ = .tQuestionDotIndex) (hv : it.val = b :: r) : r = [] → AP := by
  intro he
  rcases h with h | h
  · exact h
  · have := h.2 ht; rw [hv, he] at this; simp at this

section
variable (pf : Bytes → Option UInt64) (AP : Prop) (EL : Lvl) (S : Item → Prop)

/-- post-condition shared by the expression functions: invariant kept, no real token
    "un-consumed"; `d` = real tokens consumed at least -/
def EPost (st : PState) (d : Nat) {α : Type} : α → PState → Prop :=
  fun _ st' => Inv EL S st' ∧ mu st' + d ≤ mu st

/-- the same, and the tree returned satisfies `R` (positions of its nodes: `EP`, `EPs`, `EPm`, `EPa`) -/
def EPostR (st : PState) (d : Nat) {α : Type} (R : α → Prop) : α → PState → Prop :=
  fun a st' => Inv EL S st' ∧ mu st' + d ≤ mu st ∧ R a

/-- The specifications of all expression functions at one fuel level.  Fuel: 8 per real token ahead (`mu`) plus a
    constant that is the function's place in the call order: with `8·mu + c ≤ fuel + 1` a function may call, at `fuel`,
    one with constant `c' < c + 8·d` once `d` real tokens are consumed.  So the constants fall along the calls that
    consume nothing (`newValueNode` 16 … `newGlobalNode` 8), and the two calls that go up, `parseExprFirstTerm` →
    `newValueNode` (9 → 16) and `parseExpr` → `exprLoop` (10 → 17), stand behind a consumed token. -/
structure ExprSpecs (fuel : Nat) : Prop where
  parseExpr : ∀ prec st, Inv EL S st → 8 * mu st + 10 ≤ fuel → PSafe AP EL S (parseExpr pf fuel prec) st (EPostR EL S st 1 (EP S))
  exprLoop : ∀ prec n st, EP S n → Inv EL S st → 8 * mu st + 17 ≤ fuel → PSafe AP EL S (exprLoop pf fuel prec n) st (EPostR EL S st 0 (EP S))
  firstTerm : ∀ st, Inv EL S st → 8 * mu st + 9 ≤ fuel → PSafe AP EL S (parseExprFirstTerm pf fuel) st (EPostR EL S st 1 (EP S))
  newValueNode : ∀ tok st, S tok → isValue tok.typ = true → Inv EL S st → 8 * mu st + 16 ≤ fuel → PSafe AP EL S (newValueNode pf fuel tok) st (EPostR EL S st 0 (EP S))
  parseDataRef : ∀ st, Inv EL S st → 8 * mu st + 15 ≤ fuel → PSafe AP EL S (parseDataRef pf fuel) st (EPostR EL S st 0 (EPa S))
  parseListOrMap : ∀ tok st, S tok → Inv EL S st → 8 * mu st + 15 ≤ fuel → PSafe AP EL S (parseListOrMap pf fuel tok) st (EPostR EL S st 0 (EP S))
  parseListItems : ∀ st, Inv EL S st → 8 * mu st + 12 ≤ fuel → PSafe AP EL S (parseListItems pf fuel) st (EPostR EL S st 0 (EPs S))
  parseMapItems : ∀ k m st, EPm S m → Inv EL S st → 8 * mu st + 12 ≤ fuel → PSafe AP EL S (parseMapItems pf fuel k m) st (EPostR EL S st 0 (EPm S))
  parseTernary : ∀ c st, EP S c → Inv EL S st → 8 * mu st + 12 ≤ fuel → PSafe AP EL S (parseTernary pf fuel c) st (EPostR EL S st 0 (EP S))
  newGlobalNode : ∀ p n nxt st, PosOK S p → S nxt → InvW EL S st → st.peekCount ≤ 1 → top st = nxt → 8 * (mu st + real nxt) + 8 ≤ fuel →
    PSafe AP EL S (newGlobalNode pf fuel p n nxt) st (fun e st' => Inv EL S st' ∧ mu st' ≤ mu st + real nxt ∧ EP S e)
  newFunctionNode : ∀ tok st, S tok → Inv EL S st → 8 * mu st + 13 ≤ fuel → PSafe AP EL S (newFunctionNode pf fuel tok) st (EPostR EL S st 0 (EP S))
  parseFuncArgs : ∀ st, Inv EL S st → 8 * mu st + 12 ≤ fuel → PSafe AP EL S (parseFuncArgs pf fuel) st (EPostR EL S st 0 (EPs S))

variable {pf AP EL S} {N F c d fuel : Nat} {α : Type} {x : P α} {A : α → Prop}

/-- a field of `ExprSpecs` as a judgement `Tri` of the host `pHost` -/
theorem Tri.of_spec (h : ∀ st, Inv EL S st → 8 * mu st + c ≤ F → PSafe AP EL S x st (EPostR EL S st d A)) :
    Tri (pHost AP EL S) N F c .b x d (B A) :=
  fun st hok _ hF => (psafe_iff.mp (h st hok hF)).mono fun _ _ ⟨hi, hm, ha⟩ => ⟨.b, ⟨rfl, ha⟩, hi, hm⟩

/-- … and back; the bound on the tokens ahead, of no use here, is taken to be their number -/
theorem Tri.spec {st : PState} (h : Tri (pHost AP EL S) (mu st) F c .b x d (B A)) (hi : Inv EL S st)
    (hF : 8 * mu st + c ≤ F) : PSafe AP EL S x st (EPostR EL S st d A) :=
  psafe_iff.mpr ((h st hi (Nat.le_refl _) hF).mono fun _ _ ⟨_, ⟨hm, ha⟩, hok, hmu⟩ => by subst hm; exact ⟨hok, hmu, ha⟩)

/-- the field `newGlobalNode`, which starts with a token in hand -/
theorem Tri.of_specH {nxt : Item}
    (h : ∀ st, InvW EL S st → st.peekCount ≤ 1 → top st = nxt → 8 * (mu st + real nxt) + c ≤ F →
      PSafe AP EL S x st fun e st' => Inv EL S st' ∧ mu st' ≤ mu st + real nxt ∧ A e) :
    Tri (pHost AP EL S) N F c (.h nxt) x 0 (B A) :=
  fun st ⟨hi, _, hpc, ht⟩ _ hF => (psafe_iff.mp (h st hi hpc ht hF)).mono fun _ _ ⟨hi', hm, ha⟩ => ⟨.b, ⟨rfl, ha⟩, hi', hm⟩

theorem Tri.specH {nxt : Item} {st : PState} (h : Tri (pHost AP EL S) (mu st + real nxt) F c (.h nxt) x 0 (B A))
    (hs : S nxt) (hi : InvW EL S st) (hpc : st.peekCount ≤ 1) (ht : top st = nxt) (hF : 8 * (mu st + real nxt) + c ≤ F) :
    PSafe AP EL S x st fun e st' => Inv EL S st' ∧ mu st' ≤ mu st + real nxt ∧ A e :=
  psafe_iff.mpr ((h st ⟨hi, hs, hpc, ht⟩ (Nat.le_refl _) hF).mono fun _ _ ⟨_, ⟨hm, ha⟩, hok, hmu⟩ => by
    subst hm; exact ⟨hok, hmu, ha⟩)

variable (pf) (hz : S Item.zero) (hwf : ∀ it, S it → AP ∨ WFItem it) (ih : ExprSpecs pf AP EL S fuel)
include ih

theorem parseExpr_tri (prec : Nat) :
    Tri (pHost AP EL S) N (fuel + 1) 10 .b (Parser.parseExpr pf (fuel + 1) prec) 1 (B (EP S)) := by
  unfold Parser.parseExpr
  exact Tri.succ (Tri.seq (Tri.of_spec ih.firstTerm) fun n hn => Tri.weak (Tri.of_spec (ih.exprLoop prec n · hn)))

include hz

theorem exprLoop_tri (prec : Nat) (n : Expr) (hn : EP S n) :
    Tri (pHost AP EL S) N (fuel + 1) 17 .b (Parser.exprLoop pf (fuel + 1) prec n) 0 (B (EP S)) := by
  unfold Parser.exprLoop
  refine Tri.succ (Tri.next_then hz fun tok hs => Tri.ite (fun _ => Tri.ite (fun hq => ?_) fun _ => ?_) fun hb => ?_)
  · have hr : real tok = 1 := real_of_beq (by simp only [Bool.and_eq_true] at hq; exact hq.2) (by decide)
    exact Tri.up hr (Tri.weak (Tri.of_spec (ih.parseTernary n · hn)))
  · exact Tri.backup_then (Tri.ret_p hn)
  · have hb' : isBinaryOp tok.typ = true := by
      simp only [Bool.or_eq_true, Bool.not_eq_true', decide_eq_true_eq, not_or, Bool.not_eq_false] at hb
      exact hb.1
    refine Tri.up (real_of_binary hb') (Tri.seq (Tri.of_spec (ih.parseExpr _)) fun rhs hr => ?_)
    split
    · exact Tri.weak (Tri.of_spec (ih.exprLoop prec _ · (by simp only [EP]; exact ⟨posOK_of hs, hn, hr⟩)))
    · exact absurd ‹_› (binOpOf_isSome hb')

theorem firstTerm_tri :
    Tri (pHost AP EL S) N (fuel + 1) 9 .b (Parser.parseExprFirstTerm pf (fuel + 1)) 1 (B (EP S)) := by
  unfold Parser.parseExprFirstTerm
  refine Tri.succ (Tri.next_then hz fun tok hs => Tri.ite (fun hu => ?_) fun _ => Tri.ite (fun hp => ?_) fun _ =>
    Tri.ite (fun hv => ?_) fun _ => Tri.unexpected)
  · refine Tri.up (real_of_unary hu) (Tri.seq (Tri.of_spec (ih.parseExpr _)) fun arg ha => ?_)
    have hp : EP S (.not tok.pos arg) ∧ EP S (.neg tok.pos arg) := by simp only [EP]; exact ⟨⟨posOK_of hs, ha⟩, posOK_of hs, ha⟩
    refine Tri.ite (fun _ => Tri.ret ⟨rfl, hp.1⟩) fun h1 => Tri.ite (fun _ => Tri.ret ⟨rfl, hp.2⟩) fun h2 => ?_
    rcases unary_cases hu with h | h <;> simp [h] at h1 h2
  · exact Tri.up (real_of_beq hp (by decide)) (Tri.seq (Tri.of_spec (ih.parseExpr _)) fun n hn =>
      Tri.seq (Tri.expect hz) fun _ _ => Tri.ret ⟨rfl, hn⟩)
  · exact Tri.up (real_of_value hv) (Tri.weak (Tri.of_spec fun st hi hF => ih.newValueNode tok st hs hv hi hF))

include hwf in
theorem newValueNode_tri (tok : Item) (hst : S tok) (hv : isValue tok.typ = true) :
    Tri (pHost AP EL S) N (fuel + 1) 16 .b (Parser.newValueNode pf (fuel + 1) tok) 0 (B (EP S)) := by
  have hpt : PosOK S tok.pos := posOK_of hst
  refine Tri.succ ?_
  unfold Parser.newValueNode
  split
  · exact Tri.ret ⟨rfl, by simp only [EP]; exact hpt⟩
  · exact Tri.ret ⟨rfl, by simp only [EP]; exact hpt⟩
  · split
    · exact Tri.ret ⟨rfl, by simp only [EP]; exact hpt⟩
    · exact Tri.errorf
  · split
    · exact Tri.ret ⟨rfl, by simp only [EP]; exact hpt⟩
    · exact Tri.errorf
  · split
    · exact Tri.ret ⟨rfl, by simp only [EP]; exact hpt⟩
    · exact Tri.errorf
  · exact Tri.of_spec (ih.parseListOrMap tok · hst)
  · rename_i hty
    exact Tri.tail1_then (val_ne1 (hwf tok hst) (Or.inl hty)) fun _ key _ =>
      Tri.seq (Tri.of_spec ih.parseDataRef) fun acc ha => Tri.ret ⟨rfl, by simp only [EP]; exact ⟨hpt, ha⟩⟩
  · refine Tri.next_then hz fun nxt hs => Tri.ite (fun _ => Tri.weak (Tri.of_specH fun st' => ih.newGlobalNode _ _ nxt st' hpt hs)) fun hp => ?_
    have hp' : nxt.typ = .tLeftParen := by simpa using hp
    exact Tri.up (real_of_eq hp' (by decide)) (Tri.weak (Tri.of_spec (ih.newFunctionNode tok · hst)))
  · exfalso
    simp only [isValue, Bool.or_eq_true, beq_iff_eq] at hv
    rcases hv with ((((((h | h) | h) | h) | h) | h) | h) | h <;> contradiction

include hwf in
theorem parseDataRef_tri :
    Tri (pHost AP EL S) N (fuel + 1) 15 .b (Parser.parseDataRef pf (fuel + 1)) 0 (B (EPa S)) := by
  unfold Parser.parseDataRef
  refine Tri.succ (Tri.next_then hz fun tok hs => ?_)
  have hpt : PosOK S tok.pos := posOK_of hs
  -- the rest of the chain behind the access that was read
  have rest : ∀ {c} (a : Access), (c ≥ 15) → (∀ r, EPa S r → EPa S (.cons a r)) →
      Tri (pHost AP EL S) N fuel c .b (Parser.parseDataRef pf fuel >>= fun r => pure (AccessList.cons a r)) 0 (B (EPa S)) :=
    fun a hc ha => Tri.seq (Tri.of_spec ih.parseDataRef) (fun r hr => Tri.ret ⟨rfl, ha r hr⟩) hc
  -- `[e]`, `?[e]` behind the opening token
  have idx : ∀ (ns : Bool), Tri (pHost AP EL S) N fuel 22 .b
      (Parser.parseExpr pf fuel 0 >>= fun e => Parser.expect .tRightBracket >>= fun _ => Parser.parseDataRef pf fuel >>= fun r =>
        pure (AccessList.cons (Access.expr tok.pos ns e) r)) 0 (B (EPa S)) :=
    fun ns => Tri.seq (Tri.of_spec (ih.parseExpr _)) fun e he => Tri.seq (Tri.expect hz) fun _ _ =>
      rest _ (by decide) fun r hr => by simp only [EPa]; exact ⟨hpt, he, hr⟩
  split
  · rename_i ht
    exact Tri.up (real_of_eq ht (by decide)) (Tri.tail1_then (val_ne2a (hwf tok hs) (Or.inl ht)) fun _ _ hv1 =>
      Tri.tail1_then (val_ne2b (hwf tok hs) (Or.inl ht) hv1) fun _ k _ =>
        rest _ (by decide) fun r hr => by simp only [EPa]; exact ⟨hpt, hr⟩)
  · rename_i ht
    exact Tri.up (real_of_eq ht (by decide)) (Tri.tail1_then (val_ne1 (hwf tok hs) (Or.inr (Or.inl ht))) fun _ k _ =>
      rest _ (by decide) fun r hr => by simp only [EPa]; exact ⟨hpt, hr⟩)
  · rename_i ht
    refine Tri.up (real_of_eq ht (by decide)) (Tri.tail1_then (val_ne2a (hwf tok hs) (Or.inr ht)) fun _ _ hv1 =>
      Tri.tail1_then (val_ne2b (hwf tok hs) (Or.inr ht) hv1) fun _ d _ => ?_)
    split
    · exact rest _ (by decide) fun r hr => by simp only [EPa]; exact ⟨hpt, hr⟩
    · exact Tri.errorf
  · rename_i ht
    refine Tri.up (real_of_eq ht (by decide)) (Tri.tail1_then (val_ne1 (hwf tok hs) (Or.inr (Or.inr ht))) fun _ d _ => ?_)
    split
    · exact rest _ (by decide) fun r hr => by simp only [EPa]; exact ⟨hpt, hr⟩
    · exact Tri.errorf
  · rename_i ht
    exact Tri.up (real_of_eq ht (by decide)) (idx true)
  · rename_i ht
    exact Tri.up (real_of_eq ht (by decide)) (idx false)
  · exact Tri.backup_then (Tri.ret_p (by simp only [EPa]))

theorem parseListOrMap_tri (token : Item) (hst : S token) :
    Tri (pHost AP EL S) N (fuel + 1) 15 .b (Parser.parseListOrMap pf (fuel + 1) token) 0 (B (EP S)) := by
  have hpt : PosOK S token.pos := posOK_of hst
  unfold Parser.parseListOrMap
  refine Tri.succ (Tri.next_then hz fun t1 _ => Tri.ite (fun hc => ?_) fun _ => Tri.ite (fun hc => ?_) fun _ => ?_)
  · exact Tri.up (real_of_beq hc (by decide)) (Tri.seq (Tri.expect hz) fun _ _ =>
      Tri.ret ⟨rfl, by simp only [EP, EPm]; exact ⟨hpt, trivial⟩⟩)
  · exact Tri.up (real_of_beq hc (by decide)) (Tri.ret ⟨rfl, by simp only [EP, EPs]; exact ⟨hpt, trivial⟩⟩)
  refine Tri.backup_then (Tri.of_p (Tri.seq (Tri.of_spec (ih.parseExpr _)) fun firstExpr hpf =>
    Tri.next_then hz fun tok _ => ?_))
  refine Tri.ite (fun hc => Tri.up (real_of_beq hc (by decide)) ?_) fun _ =>
    Tri.ite (fun hc => Tri.up (real_of_beq hc (by decide)) ?_) fun _ =>
    Tri.ite (fun hc => Tri.up (real_of_beq hc (by decide)) ?_) fun _ => Tri.unexpected
  · split
    · exact Tri.seq (Tri.of_spec (ih.parseMapItems _ _ · (by simp only [EPm]))) fun items hp =>
        Tri.ret ⟨rfl, by simp only [EP]; exact ⟨hpt, hp⟩⟩
    · exact Tri.errorf
  · exact Tri.seq (Tri.of_spec ih.parseListItems) fun items hp =>
      Tri.ret ⟨rfl, by simp only [EP, EPs]; exact ⟨hpt, hpf, hp⟩⟩
  · exact Tri.ret ⟨rfl, by simp only [EP, EPs]; exact ⟨hpt, hpf, trivial⟩⟩

theorem parseListItems_tri :
    Tri (pHost AP EL S) N (fuel + 1) 12 .b (Parser.parseListItems pf (fuel + 1)) 0 (B (EPs S)) := by
  unfold Parser.parseListItems
  refine Tri.succ (Tri.peek_then hz fun pk _ => Tri.ite (fun hb => ?_) fun _ => ?_)
  · exact Tri.next_p_then hz (Tri.up (real_of_beq hb (by decide)) (Tri.ret ⟨rfl, by simp only [EPs]⟩))
  · exact Tri.of_p (Tri.seq (Tri.of_spec (ih.parseExpr _)) fun e he => Tri.next_then hz fun nxt hs =>
      Tri.ite (fun hq => Tri.up (real_of_beq hq (by decide)) (Tri.ret ⟨rfl, by simp only [EPs]; exact ⟨he, trivial⟩⟩)) fun _ =>
      Tri.ite (fun _ => Tri.unexpected) fun hc => Tri.up (real_of_nbne hc (by decide))
        (Tri.seq (Tri.of_spec ih.parseListItems) fun r hr => Tri.ret ⟨rfl, by simp only [EPs]; exact ⟨he, hr⟩⟩))

theorem parseMapItems_tri (key : Bytes) (items : MapItems) (hitems : EPm S items) :
    Tri (pHost AP EL S) N (fuel + 1) 12 .b (Parser.parseMapItems pf (fuel + 1) key items) 0 (B (EPm S)) := by
  unfold Parser.parseMapItems
  refine Tri.succ (Tri.seq (Tri.of_spec (ih.parseExpr _)) fun v hpv => ?_)
  have hset : EPm S (items.set key v) := EPm.set items key v hitems hpv
  refine Tri.next_then hz fun nxt hs => Tri.ite (fun hq => Tri.up (real_of_beq hq (by decide)) (Tri.ret ⟨rfl, hset⟩)) fun _ =>
    Tri.ite (fun _ => Tri.unexpected) fun hc => Tri.up (real_of_nbne hc (by decide)) ?_
  refine Tri.peek_then hz fun pk _ => Tri.ite (fun hb => ?_) fun _ => ?_
  · exact Tri.next_p_then hz (Tri.up (real_of_beq hb (by decide)) (Tri.ret ⟨rfl, hset⟩))
  · refine Tri.of_p (Tri.seq (Tri.expect hz) fun tok _ => ?_)
    split
    · exact Tri.seq (Tri.expect hz) fun _ _ => Tri.weak (Tri.of_spec (ih.parseMapItems _ _ · hset))
    · exact Tri.errorf

theorem parseTernary_tri (cond : Expr) (hcond : EP S cond) :
    Tri (pHost AP EL S) N (fuel + 1) 12 .b (Parser.parseTernary pf (fuel + 1) cond) 0 (B (EP S)) := by
  unfold Parser.parseTernary
  exact Tri.succ (Tri.seq (Tri.of_spec (ih.parseExpr _)) fun n1 hp1 => Tri.seq (Tri.expect hz) fun _ _ =>
    Tri.seq (Tri.of_spec (ih.parseExpr _)) fun n2 hp2 =>
      Tri.ret ⟨rfl, by simp only [EP]; exact ⟨hcond.pos, hcond, hp1, hp2⟩⟩)

theorem newGlobalNode_tri (pos : Nat) (name : Bytes) (nxt : Item) (hpos : PosOK S pos) :
    Tri (pHost AP EL S) N (fuel + 1) 8 (.h nxt) (Parser.newGlobalNode pf (fuel + 1) pos name nxt) 0 (B (EP S)) := by
  unfold Parser.newGlobalNode
  exact Tri.succ (Tri.ite (fun hd => Tri.up (real_of_beq hd (by decide)) (Tri.next_then hz fun n2 hs2 =>
      Tri.weak (Tri.of_specH fun st' => ih.newGlobalNode _ _ n2 st' hpos hs2)))
    fun _ => Tri.backup_then (Tri.ret_p (by simp only [EP]; exact hpos)))

theorem newFunctionNode_tri (tok : Item) (hst : S tok) :
    Tri (pHost AP EL S) N (fuel + 1) 13 .b (Parser.newFunctionNode pf (fuel + 1) tok) 0 (B (EP S)) := by
  have hpt : PosOK S tok.pos := posOK_of hst
  unfold Parser.newFunctionNode
  refine Tri.succ (Tri.peek_then hz fun pk _ => Tri.ite (fun hb => ?_) fun _ => ?_)
  · exact Tri.next_p_then hz (Tri.up (real_of_beq hb (by decide))
      (Tri.ret ⟨rfl, by simp only [EP, EPs]; exact ⟨hpt, trivial⟩⟩))
  · exact Tri.of_p (Tri.seq (Tri.of_spec ih.parseFuncArgs) fun args hp => Tri.ret ⟨rfl, by simp only [EP]; exact ⟨hpt, hp⟩⟩)

theorem parseFuncArgs_tri :
    Tri (pHost AP EL S) N (fuel + 1) 12 .b (Parser.parseFuncArgs pf (fuel + 1)) 0 (B (EPs S)) := by
  unfold Parser.parseFuncArgs
  exact Tri.succ (Tri.seq (Tri.of_spec (ih.parseExpr _)) fun e he => Tri.next_then hz fun tok _ =>
    Tri.ite (fun hc => Tri.up (real_of_beq hc (by decide))
      (Tri.seq (Tri.of_spec ih.parseFuncArgs) fun r hr => Tri.ret ⟨rfl, by simp only [EPs]; exact ⟨he, hr⟩⟩)) fun _ =>
    Tri.ite (fun hc => Tri.up (real_of_beq hc (by decide)) (Tri.ret ⟨rfl, by simp only [EPs]; exact ⟨he, trivial⟩⟩)) fun _ =>
      Tri.unexpected)

variable (AP EL S)

omit ih in
include hwf in
theorem exprSpecs_all : ∀ fuel, ExprSpecs pf AP EL S fuel := by
  intro fuel
  induction fuel with
  | zero =>
    exact {
      parseExpr := fun _ _ _ h => by omega
      exprLoop := fun _ _ _ _ _ h => by omega
      firstTerm := fun _ _ h => by omega
      newValueNode := fun _ _ _ _ _ h => by omega
      parseDataRef := fun _ _ h => by omega
      parseListOrMap := fun _ _ _ _ h => by omega
      parseListItems := fun _ _ h => by omega
      parseMapItems := fun _ _ _ _ _ h => by omega
      parseTernary := fun _ _ _ _ h => by omega
      newGlobalNode := fun _ _ _ _ _ _ _ _ _ h => by omega
      newFunctionNode := fun _ _ _ _ h => by omega
      parseFuncArgs := fun _ _ h => by omega }
  | succ f ih =>
    exact {
      parseExpr := fun prec _ => (parseExpr_tri pf ih prec).spec
      exprLoop := fun prec n _ hn => (exprLoop_tri pf hz ih prec n hn).spec
      firstTerm := fun _ => (firstTerm_tri pf hz ih).spec
      newValueNode := fun tok _ hs hv => (newValueNode_tri pf hz hwf ih tok hs hv).spec
      parseDataRef := fun _ => (parseDataRef_tri pf hz hwf ih).spec
      parseListOrMap := fun tok _ hs => (parseListOrMap_tri pf hz ih tok hs).spec
      parseListItems := fun _ => (parseListItems_tri pf hz ih).spec
      parseMapItems := fun k m _ hm => (parseMapItems_tri pf hz ih k m hm).spec
      parseTernary := fun c _ hc => (parseTernary_tri pf hz ih c hc).spec
      newGlobalNode := fun p n nxt _ hp hs => (newGlobalNode_tri pf hz ih p n nxt hp).specH hs
      newFunctionNode := fun tok _ hs => (newFunctionNode_tri pf hz ih tok hs).spec
      parseFuncArgs := fun _ => (parseFuncArgs_tri pf hz ih).spec }

end
end SoyVerif.Lemmas.ParserSafe
