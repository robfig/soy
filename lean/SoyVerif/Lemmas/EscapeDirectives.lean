/-
  Lemmas about the escape decision of evalPrint (Model/Directives.lean): a chain without
  cancelling directives leaves the `escapeHtml` flag alone (`runChain_noCancel`), and the value a chain computes
  does not depend on the flag (`runChain_value`).
-/
import SoyVerif.Model.Directives

namespace SoyVerif.Lemmas.EscapeDirectives
open SoyVerif SoyVerif.Model SoyVerif.Model.Directives

/-- every directive of the chain that exists in the table has CancelAutoescape = false -/
def noCancel (tbl : Table) (calls : List DirCall) : Bool :=
  calls.all fun c => match lookup tbl c.1 with
    | some e => !e.cancel
    | none => true

/-- the value the directive chain produces (the print's `result`), forgetting the flag -/
def chainValue (tbl : Table) (calls : List DirCall) (v : Bytes) : Res Bytes :=
  match runChain tbl calls v true with
  | .ok (r, _) => .ok r
  | .err => .err
  | .panic => .panic
  | .unmodelled => .unmodelled

theorem runChain_noCancel (tbl : Table) (calls : List DirCall) :
    noCancel tbl calls = true → ∀ (v : Bytes) (esc : Bool) (r : Bytes) (e : Bool),
      runChain tbl calls v esc = .ok (r, e) → e = esc := by
  induction calls with
  | nil =>
    intro _ v esc r e h
    simp [runChain] at h
    exact h.2.symm
  | cons c cs ih =>
    intro hnc v esc r e h
    obtain ⟨name, args⟩ := c
    simp only [noCancel, List.all_cons, Bool.and_eq_true] at hnc
    unfold runChain at h
    cases hl : lookup tbl name with
    | none => simp [hl] at h
    | some d =>
      simp only [hl] at h hnc
      split at h
      · simp at h
      · cases ha : applyImpl d.impl v args with
        | ok v' =>
          simp only [ha] at h
          have hc : d.cancel = false := by simpa using hnc.1
          rw [hc] at h
          exact ih hnc.2 v' esc r e (by simpa using h)
        | err => simp [ha] at h
        | panic => simp [ha] at h
        | unmodelled => simp [ha] at h

/-- the value computed does not depend on the flag -/
theorem runChain_value (tbl : Table) (calls : List DirCall) :
    ∀ (v : Bytes) (esc esc' : Bool) (r : Bytes) (e : Bool),
      runChain tbl calls v esc = .ok (r, e) → ∃ e', runChain tbl calls v esc' = .ok (r, e') := by
  induction calls with
  | nil =>
    intro v esc esc' r e h
    simp [runChain] at h
    exact ⟨esc', by simp [runChain, h.1]⟩
  | cons c cs ih =>
    intro v esc esc' r e h
    obtain ⟨name, args⟩ := c
    unfold runChain at h ⊢
    cases hl : lookup tbl name with
    | none => simp [hl] at h
    | some d =>
      simp only [hl] at h ⊢
      split at h
      · simp at h
      · rename_i hn
        simp only [hn]
        cases ha : applyImpl d.impl v args with
        | ok v' =>
          simp only [ha] at h ⊢
          exact ih v' _ _ r e h
        | err => simp [ha] at h
        | panic => simp [ha] at h
        | unmodelled => simp [ha] at h

theorem printBytesWith_noCancel (tbl : Table) (oblig : List Bytes) (mode : Mode) (dirs : List DirCall) (v out : Bytes)
    (hmode : mode ≠ .off)
    (hnc : noCancel tbl (dirs ++ oblig.map fun n => (n, [])) = true)
    (hout : printBytesWith tbl oblig mode dirs v = .ok out) :
    ∃ r, chainValue tbl (dirs ++ oblig.map fun n => (n, [])) v = .ok r ∧ out = htmlEscape r := by
  have hm : (mode != Mode.off) = true := by simpa using hmode
  unfold printBytesWith at hout
  rw [hm] at hout
  cases hr : runChain tbl (dirs ++ oblig.map fun n => (n, [])) v true with
  | ok p =>
    obtain ⟨r, e⟩ := p
    have he : e = true := runChain_noCancel tbl _ hnc v true r e hr
    subst he
    simp only [hr] at hout
    refine ⟨r, by simp [chainValue, hr], ?_⟩
    simpa using hout.symm
  | err => simp [hr] at hout
  | panic => simp [hr] at hout
  | unmodelled => simp [hr] at hout

end SoyVerif.Lemmas.EscapeDirectives
