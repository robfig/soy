/-
  What it means for a model to meet a three-valued result of the specification (`Spec.Eval.Out`): a value
  has to be matched (`P`), an error has to be an error of the model (`E`), an open case demands nothing.
  The refinement statements of Props/C01 and Props/C02Spec are of this form (`meets_iff` is the form in which
  they are written out); `Meets.then` is the one sequencing rule they share.
-/
import SoyVerif.Spec.Eval

namespace SoyVerif.Spec.Eval.Out
variable {α β : Type}

def Meets (o : Out α) (P : α → Prop) (E : Prop) : Prop :=
  match o with
  | .val a => P a
  | .error => E
  | .unspec => True

variable {o : Out α} {P P' : α → Prop} {E E' : Prop}

theorem val_bind (a : α) (f : α → Out β) : (Out.val a).bind f = f a := rfl

theorem bind_assoc {γ : Type} (o : Out α) (f : α → Out β) (k : β → Out γ) :
    (o.bind f).bind k = o.bind fun a => (f a).bind k := by
  cases o <;> rfl

theorem Meets.val {a : α} (h : P a) : (Out.val a).Meets P E := h

theorem Meets.error (h : E) : (Out.error : Out α).Meets P E := h

theorem Meets.unspec : (Out.unspec : Out α).Meets P E := trivial

theorem meets_iff : o.Meets P E ↔ (∀ a, o = .val a → P a) ∧ (o = .error → E) := by
  cases o with
  | val a => exact ⟨fun h => ⟨fun _ e => Out.val.inj e ▸ h, nofun⟩, fun h => h.1 a rfl⟩
  | error => exact ⟨fun h => ⟨nofun, fun _ => h⟩, fun h => h.2 rfl⟩
  | unspec => exact ⟨fun _ => ⟨nofun, nofun⟩, fun _ => trivial⟩

theorem Meets.impEq (h : o.Meets P E) (hp : ∀ a, o = .val a → P a → P' a) (he : E → E') : o.Meets P' E' := by
  cases o with
  | val a => exact hp a rfl h
  | error => exact he h
  | unspec => trivial

theorem Meets.imp (h : o.Meets P E) (hp : ∀ a, P a → P' a) (he : E → E') : o.Meets P' E' :=
  h.impEq (fun a _ => hp a) he

/-- sequencing: the value of the step `o` is handed on to `f`, its error is the whole's -/
theorem Meets.thenEq {f : α → Out β} {Q : β → Prop} (h : o.Meets P E') (he : E' → E)
    (hv : ∀ a, o = .val a → P a → (f a).Meets Q E) : (o.bind f).Meets Q E := by
  cases o with
  | val a => exact hv a rfl h
  | error => exact he h
  | unspec => trivial

theorem Meets.then {f : α → Out β} {Q : β → Prop} (h : o.Meets P E') (he : E' → E)
    (hv : ∀ a, P a → (f a).Meets Q E) : (o.bind f).Meets Q E :=
  h.thenEq he fun a _ => hv a

abbrev MeetsOpt (o : Out α) (m : Option α) : Prop := o.Meets (fun a => m = some a) (m = none)

end SoyVerif.Spec.Eval.Out
