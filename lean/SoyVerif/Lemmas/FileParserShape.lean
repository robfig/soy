/-
  Shapes of the trees the file parser builds, as far as its type assertions need them:
  `placeholderize(parent)` asserts `pc.Body.(*ast.ListNode)` and `child.Default.(*ast.ListNode)`,
  `parsePlural` asserts `node.Body.(ast.ParentNode)`.  `childrenOK ns` is what makes
  `placeholderize (.list p ns)` succeed.
-/
import SoyVerif.Model.FileParser

namespace SoyVerif.Lemmas.ParserSafe
open SoyVerif SoyVerif.Model SoyVerif.Model.FileParser

/-- a node that may become a child of a message body: a plural must be placeholderizable -/
def childOK : Node → Prop
  | .plural _ _ cases dflt => (phCases cases).isSome = true ∧ (placeholderize dflt).isSome = true
  | _ => True

def childrenOK : NodeList → Prop
  | .nil => True
  | .cons c r => childOK c ∧ childrenOK r

/-- an `*ast.ListNode` whose children are fine -/
def listOK : Node → Prop
  | .list _ ns => childrenOK ns
  | _ => False

/-- switch cases: `*ast.SwitchCaseNode`s whose bodies are lists -/
def casesOK : NodeList → Prop
  | .nil => True
  | .cons c r => (match c with | .switchCase _ _ b => listOK b | _ => False) ∧ casesOK r

/-- plural cases: `*ast.MsgPluralCaseNode`s whose bodies are lists -/
def pcasesOK : NodeList → Prop
  | .nil => True
  | .cons c r => (match c with | .pluralCase _ _ b => listOK b | _ => False) ∧ pcasesOK r

theorem childrenOK_nil : childrenOK .nil := trivial
theorem casesOK_nil : casesOK .nil := trivial
theorem pcasesOK_nil : pcasesOK .nil := trivial

theorem childrenOK_append : ∀ (a b : NodeList), childrenOK a → childrenOK b → childrenOK (a.append b)
  | .nil, _, _, hb => by simpa [NodeList.append] using hb
  | .cons c r, b, ha, hb => by
    simp only [NodeList.append, childrenOK] at ha ⊢
    exact ⟨ha.1, childrenOK_append r b ha.2 hb⟩

theorem casesOK_append : ∀ (a b : NodeList), casesOK a → casesOK b → casesOK (a.append b)
  | .nil, _, _, hb => by simpa [NodeList.append] using hb
  | .cons c r, b, ha, hb => by
    simp only [NodeList.append, casesOK] at ha ⊢
    exact ⟨ha.1, casesOK_append r b ha.2 hb⟩

theorem pcasesOK_append : ∀ (a b : NodeList), pcasesOK a → pcasesOK b → pcasesOK (a.append b)
  | .nil, _, _, hb => by simpa [NodeList.append] using hb
  | .cons c r, b, ha, hb => by
    simp only [NodeList.append, pcasesOK] at ha ⊢
    exact ⟨ha.1, pcasesOK_append r b ha.2 hb⟩

theorem phChildren_isSome : ∀ (n : Nat) (ns : NodeList), ns.length = n → childrenOK ns →
    (phChildren ns).isSome = true := by
  intro n
  induction n with
  | zero =>
    intro ns hl _
    cases ns with
    | nil => simp [phChildren]
    | cons c r => simp [NodeList.length] at hl
  | succ k ih =>
    intro ns hl h
    cases ns with
    | nil => simp [phChildren]
    | cons c r =>
      simp only [NodeList.length] at hl
      simp only [childrenOK] at h
      have hr := ih r (by omega) h.2
      obtain ⟨r', hr'⟩ := Option.isSome_iff_exists.mp hr
      unfold phChildren
      split
      · simp [hr']
      · have hc := h.1
        simp only [childOK] at hc
        obtain ⟨cs, hcs⟩ := Option.isSome_iff_exists.mp hc.1
        obtain ⟨d, hd⟩ := Option.isSome_iff_exists.mp hc.2
        simp [hcs, hd, hr']
      · simp [hr']

theorem placeholderize_isSome {n : Node} (h : listOK n) : (placeholderize n).isSome = true := by
  cases n <;> simp only [listOK] at h
  rename_i p ns
  unfold placeholderize
  obtain ⟨r, hr⟩ := Option.isSome_iff_exists.mp (phChildren_isSome _ ns rfl h)
  simp [hr]

theorem phCases_isSome : ∀ (n : Nat) (cs : NodeList), cs.length = n → pcasesOK cs →
    (phCases cs).isSome = true := by
  intro n
  induction n with
  | zero =>
    intro cs hl _
    cases cs with
    | nil => simp [phCases]
    | cons c r => simp [NodeList.length] at hl
  | succ k ih =>
    intro cs hl h
    cases cs with
    | nil => simp [phCases]
    | cons c r =>
      simp only [NodeList.length] at hl
      simp only [pcasesOK] at h
      have hr := ih r (by omega) h.2
      obtain ⟨r', hr'⟩ := Option.isSome_iff_exists.mp hr
      have hc := h.1
      split at hc
      · rename_i p v b
        obtain ⟨b', hb'⟩ := Option.isSome_iff_exists.mp (placeholderize_isSome hc)
        unfold phCases
        simp [hb', hr']
      · exact absurd hc (by simp)

end SoyVerif.Lemmas.ParserSafe
