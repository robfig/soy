/-
  Lemmas about the HTML escaper (soyhtml.htmlEscapeString, which the escaping directives of soyhtml/directives.go call too)
  against the specification decoder of Spec/Html.lean.  Everything is per output "piece"
  (the bytes written for one input byte) and then a one-line induction.
-/
import SoyVerif.Model.Escape
import SoyVerif.Spec.Html

namespace SoyVerif.Lemmas.EscapeHtml
open SoyVerif SoyVerif.Model SoyVerif.Spec

theorem noRawSpecial_iff (s : Bytes) :
    noRawSpecial s = true ↔ ∀ b ∈ s, b ≠ 60 ∧ b ≠ 62 ∧ b ≠ 34 ∧ b ≠ 39 := by
  simp only [noRawSpecial, isHtmlSpecialQuote, List.all_eq_true, Bool.not_eq_true', Bool.or_eq_false_iff,
    beq_eq_false_iff_ne, ne_eq, and_assoc]

theorem noRawSpecial_append (a b : Bytes) :
    noRawSpecial (a ++ b) = (noRawSpecial a && noRawSpecial b) := by
  simp [noRawSpecial]

theorem ampsStartRefs_iff (s : Bytes) :
    ampsStartRefs s = true ↔ ∀ pre post, s = pre ++ 38 :: post → (matchRef (38 :: post)).isSome = true := by
  induction s with
  | nil => simp [ampsStartRefs]
  | cons b r ih =>
    simp only [ampsStartRefs, Bool.and_eq_true, Bool.or_eq_true, bne_iff_ne, ne_eq, ih]
    constructor
    · rintro ⟨h1, h2⟩ pre post e
      cases pre with
      | nil =>
        simp only [List.nil_append, List.cons.injEq] at e
        obtain ⟨rfl, rfl⟩ := e
        simpa using h1
      | cons p ps =>
        simp only [List.cons_append, List.cons.injEq] at e
        exact h2 ps post e.2
    · intro h
      refine ⟨?_, fun pre post e => h (b :: pre) post (by simp [e])⟩
      by_cases hb : b = 38
      · subst hb; right; exact h [] r rfl
      · left; exact hb

theorem htmlPiece_cases (b : UInt8) :
    (b ≠ 34 ∧ b ≠ 39 ∧ b ≠ 38 ∧ b ≠ 60 ∧ b ≠ 62 ∧ htmlPiece b = [b]) ∨
    (b = 34 ∧ htmlPiece b = [38, 113, 117, 111, 116, 59]) ∨ (b = 39 ∧ htmlPiece b = [38, 35, 51, 57, 59]) ∨
    (b = 38 ∧ htmlPiece b = [38, 97, 109, 112, 59]) ∨ (b = 60 ∧ htmlPiece b = [38, 108, 116, 59]) ∨
    (b = 62 ∧ htmlPiece b = [38, 103, 116, 59]) := by
  by_cases h34 : b = 34
  · subst h34; simp [htmlPiece, htmlRepl]
  by_cases h39 : b = 39
  · subst h39; simp [htmlPiece, htmlRepl]
  by_cases h38 : b = 38
  · subst h38; simp [htmlPiece, htmlRepl]
  by_cases h60 : b = 60
  · subst h60; simp [htmlPiece, htmlRepl]
  by_cases h62 : b = 62
  · subst h62; simp [htmlPiece, htmlRepl]
  · simp [htmlPiece, htmlRepl, h34, h39, h38, h60, h62]

theorem matchRef_nonAmp (b : UInt8) (t : Bytes) (h : b ≠ 38) : matchRef (b :: t) = none := by
  have h' : ¬ (38 = b) := fun e => h e.symm
  simp [matchRef, htmlRefs, h']

theorem unesc_piece (b : UInt8) (t : Bytes) :
    htmlUnescapeGo 0 (htmlPiece b ++ t) = b :: htmlUnescapeGo 0 t := by
  rcases htmlPiece_cases b with ⟨_, _, h38, _, _, h⟩ | hs
  · rw [h]; simp [htmlUnescapeGo, matchRef_nonAmp b t h38]
  · rcases hs with ⟨rfl, h⟩ | ⟨rfl, h⟩ | ⟨rfl, h⟩ | ⟨rfl, h⟩ | ⟨rfl, h⟩ <;>
      (rw [h]; simp [htmlUnescapeGo, matchRef, htmlRefs])

theorem noRaw_piece (b : UInt8) : noRawSpecial (htmlPiece b) = true := by
  rcases htmlPiece_cases b with ⟨h34, h39, _, h60, h62, h⟩ | hs
  · rw [h]; simp [noRawSpecial, isHtmlSpecialQuote, h34, h39, h60, h62]
  · rcases hs with ⟨rfl, h⟩ | ⟨rfl, h⟩ | ⟨rfl, h⟩ | ⟨rfl, h⟩ | ⟨rfl, h⟩ <;> (rw [h]; decide)

theorem amps_piece (b : UInt8) (t : Bytes) :
    ampsStartRefs (htmlPiece b ++ t) = ampsStartRefs t := by
  rcases htmlPiece_cases b with ⟨_, _, h38, _, _, h⟩ | hs
  · rw [h]; simp [ampsStartRefs, h38]
  · rcases hs with ⟨rfl, h⟩ | ⟨rfl, h⟩ | ⟨rfl, h⟩ | ⟨rfl, h⟩ | ⟨rfl, h⟩ <;>
      (rw [h]; simp [ampsStartRefs, matchRef, htmlRefs])

theorem htmlEscape_noRaw (s : Bytes) : noRawSpecial (htmlEscape s) = true := by
  induction s with
  | nil => rfl
  | cons b r ih => rw [htmlEscape, noRawSpecial_append, noRaw_piece, ih]; rfl

theorem htmlEscape_amps (s : Bytes) : ampsStartRefs (htmlEscape s) = true := by
  induction s with
  | nil => rfl
  | cons b r ih => rw [htmlEscape, amps_piece, ih]

theorem htmlUnescape_htmlEscape (s : Bytes) : htmlUnescape (htmlEscape s) = s := by
  unfold htmlUnescape
  induction s with
  | nil => rfl
  | cons b r ih => rw [htmlEscape, unesc_piece, ih]

end SoyVerif.Lemmas.EscapeHtml
