/-
  UTF-8 in the lexer's input: `next` at an arbitrary byte (`next_any`: the rune is ≥ 0x80 and its
  continuation bytes are ≥ 0x80 when the lead byte is), the valid sequence at the head of a byte list
  (`runeAt`, the arithmetic of `Lex.decodeRune` without the RuneError exits) and `next` over it
  (`next_rune`), runs of letters / digits / `_` in UTF-8 (`alnumBytes`) and `scanWhile isAlphaNumeric`
  over such a run (`scan_runes`) — identifiers may contain any Unicode letter or digit.
-/
import SoyVerif.Lemmas.LexPrintBase
import SoyVerif.Lemmas.Lexer


namespace SoyVerif.Lemmas.LexPrint
open SoyVerif SoyVerif.Model SoyVerif.Model.Lex

variable {tg : Int}

theorem inpAt_getD {inp : Array UInt8} {p : Nat} {s : Bytes} (h : InpAt inp p s) (j : Nat) :
    inp.getD (p + j) 0 = s.getD j 0 := by
  obtain ⟨pre, rfl, rfl⟩ := h
  simp [List.getD_eq_getElem?_getD, List.getElem?_append_right]

/-- `next` at ANY byte: it consumes that byte and possibly continuation bytes (all ≥ 0x80); the rune
    is the byte itself if ASCII, and ≥ 0x80 otherwise -/
theorem next_any {inp : Array UInt8} {p : Nat} {b : UInt8} {s : Bytes} (h : InpAt inp p (b :: s)) (st w le its) :
    ∃ (r : Int) (c s' : Bytes), s = c ++ s' ∧ (∀ x ∈ c, 128 ≤ x.toNat) ∧
      (b.toNat < 128 → r = (b.toNat : Int) ∧ c = []) ∧ (128 ≤ b.toNat → 128 ≤ r) ∧
      (L tg inp p st w le its).next = some (r, L tg inp (p + (c.length + 1)) st ((c.length + 1 : Nat) : Int) le its) := by
  by_cases hb : b.toNat < 128
  · exact ⟨b.toNat, [], s, rfl, by simp, fun _ => ⟨rfl, rfl⟩, fun h' => by omega, next_L h hb st w le its⟩
  · have ⟨h1, h2⟩ := inpAt_get h
    have hlen := inpAt_len h
    have hba : byteAt inp p = b.toNat := by simp [byteAt, h2]
    have hd := decode_hi inp p (by omega)
    have hw := decodeRune_width inp p h1
    generalize hdr : decodeRune inp p = d at hd hw
    obtain ⟨r, k⟩ := d
    simp only at hd hw
    have hk : k - 1 ≤ s.length := by simp at hlen; omega
    refine ⟨r, s.take (k - 1), s.drop (k - 1), (List.take_append_drop _ _).symm, ?_, fun h' => absurd h' hb,
      fun _ => by omega, ?_⟩
    · intro x hx
      obtain ⟨j, hj, rfl⟩ := List.mem_iff_getElem.mp hx
      simp only [List.length_take] at hj
      have hj' : j < k - 1 := by omega
      have := hd.2 (j + 1) (by omega) (by omega)
      have hg := inpAt_getD h (j + 1)
      simp only [byteAt] at this
      rw [← Nat.add_assoc] at this
      rw [Nat.add_assoc, hg] at this
      simp only [List.getElem_take]
      simpa [List.getD_eq_getElem?_getD, List.getElem?_eq_getElem (show j < s.length by omega)] using this
    · have hkl : (s.take (k - 1)).length + 1 = k := by simp; omega
      rw [hkl]
      unfold Lexer.next L Lexer.len
      simp only [Int.toNat_natCast, hdr]
      rw [if_neg (by omega), if_neg (by omega)]
      simp

/-- the VALID UTF-8 sequence at the head of a byte list, with the arithmetic of `Lex.decodeRune`
    (= `utf8.DecodeRuneInString` where it does not return RuneError): (rune, width) -/
def runeAt : Bytes → Option (Nat × Nat)
  | [] => none
  | b0 :: rest =>
    let s0 := b0.toNat
    if s0 < 0x80 then some (s0, 1)
    else if s0 < 0xC2 then none
    else if s0 < 0xE0 then
      match rest with
      | b1 :: _ =>
        let s1 := b1.toNat
        if s1 < 0x80 ∨ 0xBF < s1 then none else some ((s0 % 32) * 64 + s1 % 64, 2)
      | _ => none
    else if s0 < 0xF0 then
      match rest with
      | b1 :: b2 :: _ =>
        let s1 := b1.toNat
        let s2 := b2.toNat
        if s1 < acceptLo s0 ∨ acceptHi s0 < s1 then none
        else if s2 < 0x80 ∨ 0xBF < s2 then none
        else some ((s0 % 16) * 4096 + (s1 % 64) * 64 + s2 % 64, 3)
      | _ => none
    else if s0 < 0xF5 then
      match rest with
      | b1 :: b2 :: b3 :: _ =>
        let s1 := b1.toNat
        let s2 := b2.toNat
        let s3 := b3.toNat
        if s1 < acceptLo s0 ∨ acceptHi s0 < s1 then none
        else if s2 < 0x80 ∨ 0xBF < s2 then none
        else if s3 < 0x80 ∨ 0xBF < s3 then none
        else some ((s0 % 8) * 262144 + (s1 % 64) * 4096 + (s2 % 64) * 64 + s3 % 64, 4)
      | _ => none
    else none


theorem byteAt_hd {inp : Array UInt8} {p : Nat} {b : UInt8} {s : Bytes} (h : InpAt inp p (b :: s)) :
    byteAt inp p = b.toNat := by
  unfold byteAt
  rw [(inpAt_get h).2]

/-- on its input, the lexer's decoder is `runeAt` with the RuneError exits put back: the two are the same chain of
    tests once `byteAt` is read off the list -/
theorem decodeRune_inpAt {inp : Array UInt8} {p : Nat} {b0 : UInt8} {t : Bytes} (h : InpAt inp p (b0 :: t)) :
    decodeRune inp p = (runeAt (b0 :: t)).getD (runeError, 1) := by
  have h0 : byteAt inp p = b0.toNat := byteAt_hd h
  have hn := inpAt_len h
  unfold decodeRune runeAt
  simp only [h0, apply_ite (fun o : Option (Nat × Nat) => o.getD (runeError, 1)), Option.getD_some, Option.getD_none]
  match t, h, hn with
  | [], _, hn =>
    simp only [show inp.size - p < 2 by simp at hn; omega, show inp.size - p < 3 by simp at hn; omega,
      show inp.size - p < 4 by simp at hn; omega, if_true, Option.getD_none, ite_self]
  | [b1], h, hn =>
    have h1 : byteAt inp (p + 1) = b1.toNat := byteAt_hd (inpAt_tail h)
    simp only [h1, show ¬ inp.size - p < 2 by simp at hn; omega, show inp.size - p < 3 by simp at hn; omega,
      show inp.size - p < 4 by simp at hn; omega, if_true, if_false,
      apply_ite (fun o : Option (Nat × Nat) => o.getD (runeError, 1)), Option.getD_some, Option.getD_none]
  | [b1, b2], h, hn =>
    have h1 : byteAt inp (p + 1) = b1.toNat := byteAt_hd (inpAt_tail h)
    have h2 : byteAt inp (p + 2) = b2.toNat := byteAt_hd (inpAt_tail (inpAt_tail h))
    simp only [h1, h2, show ¬ inp.size - p < 2 by simp at hn; omega, show ¬ inp.size - p < 3 by simp at hn; omega,
      show inp.size - p < 4 by simp at hn; omega, if_true, if_false,
      apply_ite (fun o : Option (Nat × Nat) => o.getD (runeError, 1)), Option.getD_some, Option.getD_none]
  | b1 :: b2 :: b3 :: _, h, hn =>
    have h1 : byteAt inp (p + 1) = b1.toNat := byteAt_hd (inpAt_tail h)
    have h2 : byteAt inp (p + 2) = b2.toNat := byteAt_hd (inpAt_tail (inpAt_tail h))
    have h3 : byteAt inp (p + 3) = b3.toNat := byteAt_hd (inpAt_tail (inpAt_tail (inpAt_tail h)))
    simp only [h1, h2, h3, show ¬ inp.size - p < 2 by simp at hn; omega, show ¬ inp.size - p < 3 by simp at hn; omega,
      show ¬ inp.size - p < 4 by simp at hn; omega, if_false,
      apply_ite (fun o : Option (Nat × Nat) => o.getD (runeError, 1)), Option.getD_some, Option.getD_none]

theorem some_ite {α : Type} {c : Prop} [Decidable c] {o : Option α} {d : α} (h : (if c then none else o) = some d) :
    ¬ c ∧ o = some d := by
  split at h
  · cases h
  · exact ⟨‹_›, h⟩

/-- a sequence `runeAt` accepts lies inside the list and is accepted in front of any continuation -/
theorem runeAt_append {b0 : UInt8} {t : Bytes} {d : Nat × Nat} (h : runeAt (b0 :: t) = some d) (rest : Bytes) :
    runeAt (b0 :: (t ++ rest)) = some d ∧ 1 ≤ d.2 ∧ d.2 ≤ t.length + 1 := by
  unfold runeAt at h ⊢
  by_cases c0 : b0.toNat < 0x80
  · simp only [c0, if_true] at h ⊢; cases h; exact ⟨rfl, Nat.le_refl 1, Nat.succ_pos _⟩
  by_cases c1 : b0.toNat < 0xC2
  · simp only [c0, c1, if_true, if_false] at h; cases h
  by_cases c2 : b0.toNat < 0xE0
  · simp only [c0, c1, c2, if_true, if_false] at h ⊢
    match t, h with
    | [], h => cases h
    | b1 :: _, h =>
      obtain ⟨k1, h⟩ := some_ite h
      cases h
      exact ⟨if_neg k1, by simp⟩
  by_cases c3 : b0.toNat < 0xF0
  · simp only [c0, c1, c2, c3, if_true, if_false] at h ⊢
    match t, h with
    | [], h | [_], h => cases h
    | b1 :: b2 :: _, h =>
      obtain ⟨k1, h⟩ := some_ite h
      obtain ⟨k2, h⟩ := some_ite h
      cases h
      exact ⟨by simp only [List.cons_append, if_neg k1, if_neg k2], by simp⟩
  by_cases c4 : b0.toNat < 0xF5
  · simp only [c0, c1, c2, c3, c4, if_true, if_false] at h ⊢
    match t, h with
    | [], h | [_], h | [_, _], h => cases h
    | b1 :: b2 :: b3 :: _, h =>
      obtain ⟨k1, h⟩ := some_ite h
      obtain ⟨k2, h⟩ := some_ite h
      obtain ⟨k3, h⟩ := some_ite h
      cases h
      exact ⟨by simp only [List.cons_append, if_neg k1, if_neg k2, if_neg k3], by simp⟩
  · simp only [c0, c1, c2, c3, c4, if_false] at h; cases h

theorem decode_runeAt {inp : Array UInt8} {p : Nat} {s rest : Bytes} {r w : Nat} (h : InpAt inp p (s ++ rest))
    (hr : runeAt s = some (r, w)) : decodeRune inp p = (r, w) ∧ 1 ≤ w ∧ w ≤ s.length := by
  cases s with
  | nil => cases hr
  | cons b0 t =>
    obtain ⟨ha, hw⟩ := runeAt_append hr rest
    rw [decodeRune_inpAt (t := t ++ rest) h, ha]
    exact ⟨rfl, hw⟩

theorem next_rune {inp : Array UInt8} {p : Nat} {s rest : Bytes} {r w : Nat} (h : InpAt inp p (s ++ rest))
    (hr : runeAt s = some (r, w)) (st w0 le its) :
    (L tg inp p st w0 le its).next = some ((r : Int), L tg inp (p + w) st (w : Int) le its) := by
  obtain ⟨hd, hw1, hw2⟩ := decode_runeAt h hr
  have hlen := inpAt_len h
  rw [List.length_append] at hlen
  unfold Lexer.next L Lexer.len
  simp only [Int.toNat_natCast, hd]
  rw [if_neg (by omega), if_neg (by omega)]
  simp

theorem backup_Lw (inp p st le its) (w : Nat) : (L tg inp (p + w) st (w : Int) le its).backup = L tg inp p st (w : Int) le its := by
  unfold Lexer.backup L; simp

/-- letter / digit / underscore, decided on ASCII without the Unicode tables -/
def alnumR (r : Nat) : Bool :=
  if r < 128 then ((97 ≤ r && r ≤ 122) || (65 ≤ r && r ≤ 90) || r == 95 || (48 ≤ r && r ≤ 57)) else isAlphaNumeric (r : Int)

/-- letter or underscore (the first rune of a `$name`) -/
def letterR (r : Nat) : Bool :=
  if r < 128 then ((97 ≤ r && r ≤ 122) || (65 ≤ r && r ≤ 90) || r == 95) else isLetterU (r : Int)

/-- the bytes are valid UTF-8 and every rune is a letter, a digit or `_` (`isAlphaNumeric`);
    `fuel` bounds the number of runes -/
def alnumRunes : Nat → Bytes → Bool
  | _, [] => true
  | 0, _ :: _ => false
  | f + 1, b :: s =>
    match runeAt (b :: s) with
    | some (r, w) => alnumR r && alnumRunes f ((b :: s).drop w)
    | none => false

def alnumBytes (k : Bytes) : Bool := alnumRunes k.length k

theorem runeAt_ascii {c : UInt8} (t : Bytes) (h : c.toNat < 128) : runeAt (c :: t) = some (c.toNat, 1) := by
  simp [runeAt, h]

theorem alnumRunes_ascii : ∀ (f : Nat) (k : Bytes), k.length ≤ f → (∀ b ∈ k, isIdChar b = true) → alnumRunes f k = true
  | _, [], _, _ => by simp [alnumRunes]
  | 0, b :: s, h, _ => by simp at h
  | f + 1, b :: s, h, hk => by
    have hb := isIdChar_nat (hk b (by simp))
    have hb128 : b.toNat < 128 := by omega
    simp only [alnumRunes, runeAt_ascii s hb128, List.drop_succ_cons, List.drop_zero, Bool.and_eq_true]
    refine ⟨?_, alnumRunes_ascii f s (by simp at h; omega) (fun c hc => hk c (by simp [hc]))⟩
    simp only [alnumR, hb128, if_true, Bool.or_eq_true, Bool.and_eq_true, decide_eq_true_eq, beq_iff_eq]
    omega

theorem alnumBytes_ascii {k : Bytes} (hk : ∀ b ∈ k, isIdChar b = true) : alnumBytes k = true :=
  alnumRunes_ascii k.length k (Nat.le_refl _) hk


theorem runeAt_width {s : Bytes} {r w : Nat} (h : runeAt s = some (r, w)) : 1 ≤ w ∧ w ≤ s.length :=
  (decode_runeAt (inpAt_zero (s ++ [])) h).2

theorem inpAt_drop {inp : Array UInt8} {p w : Nat} {k rest : Bytes} (h : InpAt inp p (k ++ rest)) (hw : w ≤ k.length) :
    InpAt inp (p + w) (k.drop w ++ rest) := by
  have : InpAt inp p (k.take w ++ (k.drop w ++ rest)) := by
    rw [← List.append_assoc, List.take_append_drop]; exact h
  have := inpAt_append this
  simpa [List.length_take, Nat.min_eq_left hw] using this

/-- `for isAlphaNumeric(l.next()) {}` over a run of letters / digits / `_` in UTF-8 -/
theorem scan_runes (hA : ∀ r : Nat, alnumR r = true → isAlphaNumeric (r : Int) = true) {inp : Array UInt8} :
    ∀ (f : Nat) (k : Bytes) {p : Nat} {rest : Bytes}, alnumRunes f k = true → InpAt inp p (k ++ rest) →
    AsciiHd rest → isAlphaNumeric (hdRune rest) = false →
    ∀ (st : Nat) (w : Int) (le : Item) (its : Array Item),
    scanWhile isAlphaNumeric isAlphaNumeric_eof (L tg inp p st w le its) =
      some (hdRune rest, L tg inp (p + k.length + hdW rest) st (hdW rest) le its)
  | _, [], p, rest, _, h, ha, hf, st, w, le, its => by
    rw [scanWhile_some (next_hd (by simpa using h) ha st w le its), if_neg (by simp [hf])]
    simp
  | 0, b :: s, p, rest, hk, _, _, _, _, _, _, _ => by simp [alnumRunes] at hk
  | f + 1, b :: s, p, rest, hk, h, ha, hf, st, w, le, its => by
    unfold alnumRunes at hk
    split at hk
    · rename_i r wd hr
      simp only [Bool.and_eq_true] at hk
      obtain ⟨hw1, hw2⟩ := runeAt_width hr
      have hn := next_rune (tg := tg) h hr st w le its
      rw [scanWhile_some hn, if_pos (hA r hk.1)]
      rw [scan_runes hA f ((b :: s).drop wd) hk.2 (inpAt_drop h hw2) ha hf]
      congr 3
      simp only [List.length_drop]
      omega
    · exact absurd hk (by simp)


theorem runeAt_hi {c : UInt8} {t : Bytes} {r w : Nat} (h : 128 ≤ c.toNat) (hr : runeAt (c :: t) = some (r, w)) : 128 ≤ r := by
  have hi := inpAt_zero (c :: t ++ [])
  have := (decode_hi (c :: t ++ []).toArray 0 (by rw [byteAt_hd hi]; exact h)).1
  rwa [(decode_runeAt hi hr).1] at this

theorem alnumBytes_cons_rune {c : UInt8} {t : Bytes} (h : alnumBytes (c :: t) = true) :
    ∃ r w, runeAt (c :: t) = some (r, w) ∧ alnumR r = true := by
  unfold alnumBytes at h
  simp only [List.length_cons] at h
  unfold alnumRunes at h
  split at h
  · rename_i r w hr
    simp only [Bool.and_eq_true] at h
    exact ⟨r, w, hr, h.1⟩
  · exact absurd h (by simp)

end SoyVerif.Lemmas.LexPrint
