/-
  Decimal digits of a natural number.  `F64.natDigitsAux` (strconv.FormatInt for the json directive) and
  `Printer.natDigitsAux` (the expression printer) are the same recursion declared twice: the shape of the
  digits (non-empty, all digits, no leading zero, their value) is proved once, for the first (`natDigitsAux_shape`;
  `natDigits_shape` and `printer_natDigits_shape` read it for the two `natDigits`).
  `takeWhile_sep` is the span lemma the digit and identifier scanners of the readers share.
-/
import SoyVerif.Base.F64
import SoyVerif.Model.Printer
import SoyVerif.Spec.Json

namespace SoyVerif.Lemmas.NatDigits
open SoyVerif SoyVerif.Model SoyVerif.Spec.Json

theorem printer_aux_eq : ∀ (fuel n : Nat) (acc : Bytes), Printer.natDigitsAux fuel n acc = F64.natDigitsAux fuel n acc
  | 0, _, _ => rfl
  | fuel + 1, n, acc => by
    rw [Printer.natDigitsAux, F64.natDigitsAux, printer_aux_eq fuel]

theorem ofNat_digit {n : Nat} (h : n < 10) : (UInt8.ofNat (48 + n)).toNat = 48 + n := by
  simp [UInt8.toNat_ofNat']; omega

theorem ofNat_isDigit {n : Nat} (h : n < 10) : isDigit (UInt8.ofNat (48 + n)) = true := by
  have := ofNat_digit h
  simp only [isDigit, Bool.and_eq_true, decide_eq_true_eq, UInt8.le_iff_toNat_le]
  constructor
  · show (48 : UInt8).toNat ≤ _; rw [this]; simp
  · show _ ≤ (57 : UInt8).toNat; rw [this]; simp; omega

theorem foldl_digits (ds : Bytes) (d : UInt8) (acc : Nat) :
    (ds ++ [d]).foldl (fun a x => a * 10 + (x.toNat - 48)) acc =
      (ds.foldl (fun a x => a * 10 + (x.toNat - 48)) acc) * 10 + (d.toNat - 48) := by
  simp [List.foldl_append]

/-- the digits `natDigitsAux` puts in front of `acc`: no leading zero, value `n` -/
theorem natDigitsAux_shape : ∀ (fuel n : Nat) (acc : Bytes), n < 2 ^ fuel →
    ∃ ds, F64.natDigitsAux (fuel + 1) n acc = ds ++ acc ∧ ds ≠ [] ∧ (∀ b ∈ ds, isDigit b = true) ∧ (n = 0 → ds = [48]) ∧
      (0 < n → ds.head? ≠ some 48) ∧ digitsVal ds = n
  | fuel, n, acc, h => by
    unfold F64.natDigitsAux
    by_cases h10 : n < 10
    · simp only [h10, if_true]
      refine ⟨[UInt8.ofNat (48 + n)], rfl, by simp, ?_, ?_, ?_, ?_⟩
      · intro b hb; simp only [List.mem_singleton] at hb; subst hb; exact ofNat_isDigit h10
      · intro h0; subst h0; rfl
      · intro hpos
        simp only [List.head?_cons, ne_eq, Option.some.injEq]
        intro e
        have := ofNat_digit h10
        rw [e] at this; simp at this; omega
      · simp [digitsVal]; omega
    · simp only [h10, if_false]
      cases fuel with
      | zero => simp at h; omega
      | succ fuel =>
        have hlt : n / 10 < 2 ^ fuel := by
          have : 2 ^ (fuel + 1) = 2 * 2 ^ fuel := by rw [Nat.pow_succ]; omega
          omega
        obtain ⟨ds, hds, hne, hall, _, hpos, hval⟩ :=
          natDigitsAux_shape fuel (n / 10) (UInt8.ofNat (48 + n % 10) :: acc) hlt
        refine ⟨ds ++ [UInt8.ofNat (48 + n % 10)], by rw [hds]; simp, by simp, ?_, by omega, ?_, ?_⟩
        · intro b hb
          rcases List.mem_append.mp hb with hb | hb
          · exact hall b hb
          · simp only [List.mem_singleton] at hb; subst hb; exact ofNat_isDigit (by omega)
        · intro _
          have := hpos (by omega)
          cases ds with
          | nil => exact absurd rfl hne
          | cons a r => simpa using this
        · unfold digitsVal at hval ⊢
          rw [foldl_digits, hval, ofNat_digit (by omega)]
          omega

theorem natDigits_shape (n : Nat) :
    F64.natDigits n ≠ [] ∧ (∀ b ∈ F64.natDigits n, isDigit b = true) ∧ (F64.natDigits n = [48] ∨ (F64.natDigits n).head? ≠ some 48) ∧
      digitsVal (F64.natDigits n) = n := by
  have hlt : n < 2 ^ (Nat.log2 n + 1) := Nat.lt_log2_self
  obtain ⟨ds, hds, hne, hall, h0, hpos, hval⟩ := natDigitsAux_shape (Nat.log2 n + 1) n [] hlt
  simp only [List.append_nil] at hds
  unfold F64.natDigits
  rw [hds]
  refine ⟨hne, hall, ?_, hval⟩
  by_cases hn : n = 0
  · exact Or.inl (h0 hn)
  · exact Or.inr (hpos (by omega))

/-- the same for the printer's digits: `Printer.natDigits` runs the same loop on the fuel `n + 1` -/
theorem printer_natDigits_shape (n : Nat) :
    Printer.natDigits n ≠ [] ∧ (∀ b ∈ Printer.natDigits n, isDigit b = true) ∧
      (Printer.natDigits n = [48] ∨ (Printer.natDigits n).head? ≠ some 48) ∧ digitsVal (Printer.natDigits n) = n := by
  obtain ⟨ds, hds, hne, hall, h0, hpos, hval⟩ := natDigitsAux_shape n n [] Nat.lt_two_pow_self
  unfold Printer.natDigits
  rw [printer_aux_eq, hds, List.append_nil]
  refine ⟨hne, hall, ?_, hval⟩
  by_cases hn : n = 0
  · exact Or.inl (h0 hn)
  · exact Or.inr (hpos (by omega))

theorem takeWhile_sep (p : UInt8 → Bool) : ∀ (a rest : Bytes), (∀ b ∈ a, p b = true) → (∀ c r, rest = c :: r → p c = false) →
    (a ++ rest).takeWhile p = a ∧ (a ++ rest).dropWhile p = rest
  | [], rest, _, hr => by
    cases rest with
    | nil => simp
    | cons c r => simp [hr c r rfl]
  | x :: a, rest, ha, hr => by
    have := takeWhile_sep p a rest (fun b hb => ha b (List.mem_cons_of_mem _ hb)) hr
    simp [ha x (List.mem_cons_self ..), this]

end SoyVerif.Lemmas.NatDigits
