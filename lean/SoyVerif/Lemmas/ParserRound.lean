/-
  Completeness of the precedence-climbing expression parser on token renderings
  (`PrintTokens.Renders`): parsing any rendering of a tree — minimal or redundant
  parentheses — followed by a token that does not continue the expression yields the
  tree (modulo positions) and leaves the follower in the stream.

  Shape of the proof (DESIGN.md §6 C01):
  * `BStmt e`   continuation form for `parseExpr F p` on an UNPARENTHESISED rendering of `e`
                (`p ≤ lvl e`): whatever the operator loop does with `e` in hand on the rest of
                the stream (`Cont`), `parseExpr` does on rendering ++ rest;
  * `AStmt e`   the same for an operand slot (`Slot m`), parenthesised or not — derived from
                `BStmt e` (`A_of_B`, `paren_ft`);
  * `FTStmt e`  `parseExprFirstTerm` on a primary or unary expression; `B_of_FT`;
  * `okAfter e h` the follower `h` does not continue `e`: no access / call token (uniformly),
                not an operator the rightmost open operand would take, not `?` after a ternary or a `?:` (whose last
                operand extends as far as possible);
  * `Ends m p e h` what `AStmt.ends`, the form of `AStmt` with the continuation "stop", asks of the follower; the
                left operand of a binary operator and the condition of a ternary, whose continuation goes on, use
                `AStmt.ok`;
  * the conclusions are judgements `Ok x st Q` (Lemmas/ParserBasic.lean);
  * the statements carry an explicit fuel bound, so that the theorem holds for the fuel `parseExprEntry` actually
                uses: 8 levels per token (the deepest chain behind one token is `parseExpr`, `parseExprFirstTerm`,
                `newValueNode`, a collection function; 8 leaves room without a count per kind), plus the small
                constants (`+ 4` in `FTStmt`, `k + 2`, `k + 3` in `b_bin`, `b_tern`) a function spends before its calls.
-/
import SoyVerif.Lemmas.ParserBasic

namespace SoyVerif.Lemmas.ParserRound
open SoyVerif SoyVerif.Model SoyVerif.Model.Parser SoyVerif.Model.PrintTokens SoyVerif.Model.Printer
open SoyVerif.Lemmas.ParserBasic

/-- the highest level of `parseExpr` that yields `e` without parentheses -/
def lvl (e : Expr) : Nat := precedenceOf e - 1

/-- `h` is not a token `parseDataRef` / `newValueNode` would attach to a preceding primary -/
def noAccess (h : ItemType) : Prop :=
  h ≠ .tDotIdent ∧ h ≠ .tQuestionDotIdent ∧ h ≠ .tDotIndex ∧ h ≠ .tQuestionDotIndex ∧
  h ≠ .tQuestionKey ∧ h ≠ .tLeftBracket ∧ h ≠ .tLeftParen

def edgeOk : Expr → ItemType → Prop
  | .tern .., h => isBinaryOp h = false ∧ h ≠ .tTernIf
  -- the right operand of `?:` is read with `parseExpr(0)`: it takes every operator and a `?`
  | .bin .elvis .., h => isBinaryOp h = false ∧ h ≠ .tTernIf
  | .bin op .., h => isBinaryOp h = false ∨ precedence h + 1 ≤ binPrec op
  | _, _ => True

/-- the token type `h` may follow an unparenthesised rendering of `e` -/
def okAfter (e : Expr) (h : ItemType) : Prop := noAccess h ∧ edgeOk e h

theorem edgeOk_of_stop {x : Expr} {h : ItemType} (h1 : isBinaryOp h = false) (h2 : h ≠ .tTernIf) : edgeOk x h := by
  cases x with
  | bin op _ _ _ => cases op <;> simp [edgeOk, h1, h2]
  | tern => simp [edgeOk, h1, h2]
  | _ => simp [edgeOk]


section
variable (pf : Bytes → Option UInt64)

/-- what the operator loop does with (any positioned copy of) `e` in hand on the stream `ts`; `k` is the fuel
    the loop and what it calls need from there on, so a statement that takes a `Cont … k …` asks `k + 8·|tokens|` -/
def Cont (k p : Nat) (e : Expr) (ts : List Tk) (Q : Expr → PState → Prop) : Prop :=
  ∀ k' e' st1, k ≤ k' → erase e' = erase e → At st1 ts →
    ∃ r st2, exprLoop pf k' p e' st1 = .ok (r, st2) ∧ Q r st2

/-- `Cont` (and `AStmt` below) spell `Ok` unfolded, with explicit arguments; `.ok`, `.of_ok` are the readings with `Ok` -/
theorem Cont.ok {pf} {k p : Nat} {e : Expr} {ts : List Tk} {Q : Expr → PState → Prop} (hC : Cont pf k p e ts Q)
    {k' : Nat} {e' : Expr} {st1 : PState} (hk : k ≤ k') (he : erase e' = erase e) (hst : At st1 ts) :
    Ok (exprLoop pf k' p e') st1 Q := hC k' e' st1 hk he hst

theorem Cont.of_ok {pf} {k p : Nat} {e : Expr} {ts : List Tk} {Q : Expr → PState → Prop}
    (h : ∀ {k' e' st1}, k ≤ k' → erase e' = erase e → At st1 ts → Ok (exprLoop pf k' p e') st1 Q) : Cont pf k p e ts Q :=
  fun _ _ _ => h

/-- the direct postcondition: the tree, and the follower backed up -/
def Post (e : Expr) (ts : List Tk) : Expr → PState → Prop :=
  fun r st2 => erase r = erase e ∧ At1 st2 ts

theorem cont_stop {p : Nat} {e : Expr} {h : Tk} {rest : List Tk} (hs : Stops p h.typ) :
    Cont pf 1 p e (h :: rest) (Post e (h :: rest)) := by
  refine Cont.of_ok fun {k' e' st1} hk he hst => ?_
  obtain ⟨k'', rfl⟩ : ∃ k'', k' = k'' + 1 := ⟨k' - 1, by omega⟩
  exact Ok.mono (exprLoop_stop pf hst hs) fun r st2 ⟨hr, h2⟩ => ⟨hr ▸ he, h2⟩

def BStmt (e : Expr) : Prop :=
  ∀ {ts : List Tk} {h : Tk} {rest : List Tk} {p k F : Nat} {Q : Expr → PState → Prop} {st : PState},
    Renders pf e ts → p ≤ lvl e → okAfter e h.typ → Cont pf k p e (h :: rest) Q →
    At st (ts ++ h :: rest) → k + 8 * ts.length ≤ F →
    Ok (parseExpr pf F p) st Q

def AStmt (e : Expr) : Prop :=
  ∀ (m : Nat) (ts : List Tk) (h : Tk) (rest : List Tk) (p k F : Nat) (Q : Expr → PState → Prop) (st : PState),
    Slot m e (Renders pf e) ts → p ≤ m - 1 → (m ≤ precedenceOf e → okAfter e h.typ) →
    Cont pf k p e (h :: rest) Q →
    At st (ts ++ h :: rest) → k + 8 * ts.length ≤ F →
    ∃ r st2, parseExpr pf F p st = .ok (r, st2) ∧ Q r st2

/-- `parseExprFirstTerm` leaves the follower unread (`At`); `parseExpr` ends in its loop, which reads the follower and
    backs up (`At1`, in `Post`) -/
def FTStmt (e : Expr) : Prop :=
  ∀ {ts : List Tk} {h : Tk} {rest : List Tk} {F : Nat} {st : PState},
    Renders pf e ts → okAfter e h.typ → At st (ts ++ h :: rest) → 8 * ts.length ≤ F + 4 →
    Ok (parseExprFirstTerm pf F) st fun e' st2 => erase e' = erase e ∧ At st2 (h :: rest)

/-- what the proofs use of the first token of a rendering: it is none of `)`, `:`, `]`, at which the collection
    functions decide -/
def startTok (t : ItemType) : Prop := t ≠ .tRightParen ∧ t ≠ .tColon ∧ t ≠ .tRightBracket

theorem parensT_succ_head (n : Nat) (t0 : List Tk) : ∃ ts', parensT (n + 1) t0 = tLP :: ts' :=
  ⟨parensT n t0 ++ [tRP], rfl⟩

theorem renders_head : (e : Expr) → (ts : List Tk) → Renders pf e ts → ∃ t ts', ts = t :: ts' ∧ startTok t.typ
  | .null _, ts, h => by rw [Renders] at h; subst h; exact ⟨_, _, rfl, by simp [startTok, tNull]⟩
  | .bool _ b, ts, h => by rw [Renders] at h; subst h; exact ⟨_, _, rfl, by simp [startTok, tBool]⟩
  | .int _ v, ts, h => by
      rw [Renders] at h; obtain ⟨val, rfl, _⟩ := h; exact ⟨_, _, rfl, by simp [startTok]⟩
  | .float _ v, ts, h => by
      rw [Renders] at h; obtain ⟨val, rfl, _⟩ := h; exact ⟨_, _, rfl, by simp [startTok]⟩
  | .str _ q v, ts, h => by
      rw [Renders] at h; obtain ⟨rfl, _⟩ := h; exact ⟨_, _, rfl, by simp [startTok, tString]⟩
  | .global _ n, ts, h => by
      rw [Renders] at h; obtain ⟨n0, segs, rfl, _⟩ := h; exact ⟨_, _, rfl, by simp [startTok, tIdent]⟩
  | .func _ n args, ts, h => by
      cases args with
      | nil => rw [Renders] at h; subst h; exact ⟨_, _, rfl, by simp [startTok, tIdent]⟩
      | cons e r =>
        rw [Renders] at h; obtain ⟨te, tr, _, _, rfl⟩ := h
        exact ⟨_, _, rfl, by simp [startTok, tIdent]⟩
  | .list _ items, ts, h => by
      cases items with
      | nil => rw [Renders] at h; subst h; exact ⟨_, _, rfl, by simp [startTok, tLB]⟩
      | cons e r =>
        rw [Renders] at h; obtain ⟨te, tr, _, _, rfl⟩ := h
        exact ⟨_, _, rfl, by simp [startTok, tLB]⟩
  | .map _ items, ts, h => by
      cases items with
      | nil => rw [Renders] at h; subst h; exact ⟨_, _, rfl, by simp [startTok, tLB]⟩
      | cons k e r =>
        rw [Renders] at h; obtain ⟨q, te, tr, _, _, _, _, rfl⟩ := h
        exact ⟨_, _, rfl, by simp [startTok, tLB]⟩
  | .dataRef _ k acc, ts, h => by
      rw [Renders] at h; obtain ⟨ta, _, rfl⟩ := h; exact ⟨_, _, rfl, by simp [startTok]⟩
  | .not _ a, ts, h => by
      rw [Renders] at h; obtain ⟨ta, _, rfl⟩ := h; exact ⟨_, _, rfl, by simp [startTok, tNot]⟩
  | .neg _ a, ts, h => by
      rw [Renders] at h; obtain ⟨ta, _, rfl⟩ := h; exact ⟨_, _, rfl, by simp [startTok, tNeg]⟩
  | .bin op _ a b, ts, h => by
      rw [Renders] at h
      obtain ⟨ta, tb, ⟨n, t0, hR, rfl, _⟩, _, rfl⟩ := h
      cases n with
      | zero =>
        obtain ⟨t, ts', rfl, ht⟩ := renders_head a t0 hR
        exact ⟨t, _, rfl, ht⟩
      | succ n =>
        obtain ⟨ts', hp⟩ := parensT_succ_head n t0
        rw [hp]; exact ⟨_, _, rfl, by simp [startTok, tLP]⟩
  | .tern _ c a b, ts, h => by
      rw [Renders] at h
      obtain ⟨tc, ta, tb, ⟨n, t0, hR, rfl, _⟩, _, _, rfl⟩ := h
      cases n with
      | zero =>
        obtain ⟨t, ts', rfl, ht⟩ := renders_head c t0 hR
        exact ⟨t, _, rfl, ht⟩
      | succ n =>
        obtain ⟨ts', hp⟩ := parensT_succ_head n t0
        rw [hp]; exact ⟨_, _, rfl, by simp [startTok, tLP]⟩

theorem slot_head {m : Nat} {e : Expr} {ts : List Tk} (h : Slot m e (Renders pf e) ts) :
    ∃ t ts', ts = t :: ts' ∧ startTok t.typ := by
  obtain ⟨n, t0, hR, rfl, _⟩ := h
  cases n with
  | zero => exact renders_head pf e t0 hR
  | succ n =>
    obtain ⟨ts', hp⟩ := parensT_succ_head n t0
    rw [hp]; exact ⟨_, _, rfl, by simp [startTok, tLP]⟩

theorem renders_len {e : Expr} {ts : List Tk} (h : Renders pf e ts) : 1 ≤ ts.length := by
  obtain ⟨t, ts', rfl, _⟩ := renders_head pf e ts h
  simp

end

section
variable {pf : Bytes → Option UInt64}

theorem AStmt.ok {e : Expr} (hA : AStmt pf e) {m : Nat} {ts : List Tk} {h : Tk} {rest : List Tk} {p k F : Nat}
    {Q : Expr → PState → Prop} {st : PState} (hS : Slot m e (Renders pf e) ts) (hp : p ≤ m - 1)
    (hok : m ≤ precedenceOf e → okAfter e h.typ) (hC : Cont pf k p e (h :: rest) Q) (hst : At st (ts ++ h :: rest))
    (hF : k + 8 * ts.length ≤ F) : Ok (parseExpr pf F p) st Q := hA m ts h rest p k F Q st hS hp hok hC hst hF

theorem AStmt.of_ok {e : Expr}
    (h : ∀ {m ts h rest p k F Q st}, Slot m e (Renders pf e) ts → p ≤ m - 1 → (m ≤ precedenceOf e → okAfter e h.typ) →
      Cont pf k p e (h :: rest) Q → At st (ts ++ h :: rest) → k + 8 * ts.length ≤ F → Ok (parseExpr pf F p) st Q) :
    AStmt pf e := fun _ _ _ _ _ _ _ _ _ => h

/-- the token type `h` ends an operand `e` that stands in a slot of printer precedence `m` and is read by
    `parseExpr(p)`: it does not continue `e` (asked only when `e` may stand there without parentheses), and the loop at
    level `p` stops in front of it -/
def Ends (m p : Nat) (e : Expr) (h : ItemType) : Prop := (m ≤ precedenceOf e → okAfter e h) ∧ Stops p h

/-- an operand slot in front of a token that ends it: `AStmt` with the continuation `cont_stop` -/
theorem AStmt.ends {e : Expr} (hA : AStmt pf e) {m p : Nat} {te : List Tk} {h : Tk} {rest : List Tk} {F : Nat} {st : PState}
    (hS : Slot m e (Renders pf e) te) (hp : p ≤ m - 1) (he : Ends m p e h.typ) (hst : At st (te ++ h :: rest))
    (hF : 1 + 8 * te.length ≤ F) : Ok (parseExpr pf F p) st (Post e (h :: rest)) :=
  hA.ok hS hp he.1 (cont_stop pf he.2) hst hF

/-- the same for an unparenthesised rendering (a slot of precedence 0 takes every expression bare) -/
theorem BStmt.ends {e : Expr} (hB : BStmt pf e) {p : Nat} {ts : List Tk} {h : Tk} {rest : List Tk} {F : Nat} {st : PState}
    (hR : Renders pf e ts) (hp : p ≤ lvl e) (he : Ends 0 p e h.typ) (hst : At st (ts ++ h :: rest))
    (hF : 1 + 8 * ts.length ≤ F) : Ok (parseExpr pf F p) st (Post e (h :: rest)) :=
  hB hR hp (he.1 (Nat.zero_le _)) (cont_stop pf he.2) hst hF

theorem ends_stop {m p : Nat} {e : Expr} {h : ItemType} (hb : isBinaryOp h = false) (hq : h ≠ .tTernIf) (hn : noAccess h) :
    Ends m p e h :=
  ⟨fun _ => ⟨hn, edgeOk_of_stop hb hq⟩, Or.inl hb, fun _ => hq⟩

end

section
variable (pf : Bytes → Option UInt64) (T : TableOK)
include T

omit T in
theorem B_of_FT {e : Expr} (hFT : FTStmt pf e) : BStmt pf e := by
  intro ts h rest p k F Q st hR hp hok hC hst hF
  have hl := renders_len pf hR
  obtain ⟨F', rfl⟩ : ∃ F', F = F' + 1 := ⟨F - 1, by omega⟩
  unfold parseExpr
  exact Ok.seq (hFT hR hok hst (by omega)) fun e' st2 ⟨he, h2⟩ => hC.ok (by omega) he h2

theorem ends_rp (m p : Nat) (e : Expr) : Ends m p e tRP.typ :=
  ends_stop (by rw [isBinaryOp_eq T]; rfl) (by simp [tRP]) (by simp [noAccess, tRP])

/-- one or more pairs of parentheses around an unparenthesised rendering, read as a first term.  By induction on the
    number of pairs: behind "(" runs `parseExpr 0`, whose first term is the rendering itself (`hB`, with the loop) or the
    inner pairs (`ih`, and then the loop stops at ")") -/
theorem paren_ft {e : Expr} (hB : BStmt pf e) {t0 : List Tk} (hR : Renders pf e t0) :
    ∀ (n : Nat) {rest : List Tk} {F : Nat} {st : PState},
      At st (parensT (n + 1) t0 ++ rest) → 8 * (parensT (n + 1) t0).length ≤ F + 4 →
      Ok (parseExprFirstTerm pf F) st fun e' st2 => erase e' = erase e ∧ At st2 rest := by
  have hu : isUnaryOp ItemType.tLeftParen = false := by rw [isUnaryOp_eq T]; rfl
  intro n
  induction n with
  | zero =>
    intro rest F st hst hF
    simp [parensT] at hF
    obtain ⟨F', rfl⟩ : ∃ F', F = F' + 1 := ⟨F - 1, by omega⟩
    unfold parseExprFirstTerm
    refine Ok.next (t := tLP) (ts := t0 ++ tRP :: rest) (by simpa [parensT] using hst) fun it st1 ht _ hj => ?_
    simp only [show it.typ = .tLeftParen from ht, hu, Bool.false_eq_true, if_false, beq_self_eq_true, if_true]
    refine Ok.seq (hB.ends hR (Nat.zero_le _) (ends_rp T 0 0 e) hj.at (by omega)) fun r st2 ⟨he, h2⟩ => ?_
    exact Ok.expect (t := tRP) h2.at fun _ st3 _ _ hj3 => Ok.pure ⟨he, hj3.at⟩
  | succ n ih =>
    intro rest F st hst hF
    have hpar : parensT (n + 1 + 1) t0 = [tLP] ++ parensT (n + 1) t0 ++ [tRP] := rfl
    rw [hpar] at hst hF
    simp at hF
    obtain ⟨F3, rfl⟩ : ∃ F3, F = F3 + 3 := ⟨F - 3, by omega⟩
    unfold parseExprFirstTerm
    refine Ok.next (t := tLP) (ts := parensT (n + 1) t0 ++ tRP :: rest) (by simpa using hst) fun it st1 ht _ hj => ?_
    simp only [show it.typ = .tLeftParen from ht, hu, Bool.false_eq_true, if_false, beq_self_eq_true, if_true]
    unfold parseExpr
    refine Ok.seq (Ok.seq (ih hj.at (by omega)) fun e' st2 ⟨he, h2⟩ =>
      Ok.mono (exprLoop_stop pf (F := F3) (p := 0) h2 (ends_rp T 0 0 e').2) fun r st2' ⟨hr, h2'⟩ => (⟨hr ▸ he, h2'⟩ : Post e _ r st2'))
      fun r st2 ⟨he, h2⟩ => ?_
    exact Ok.expect (t := tRP) h2.at fun _ st3 _ _ hj3 => Ok.pure ⟨he, hj3.at⟩

theorem A_of_B {e : Expr} (hB : BStmt pf e) : AStmt pf e := by
  refine AStmt.of_ok fun {m ts h rest p k F Q st} hS hp hok hC hst hF => ?_
  obtain ⟨n, t0, hR, rfl, hn⟩ := hS
  cases n with
  | zero =>
    have hm : m ≤ precedenceOf e := by
      by_cases hlt : precedenceOf e < m
      · exact absurd (hn hlt) (by omega)
      · omega
    exact hB hR (by unfold lvl; omega) (hok hm) hC hst hF
  | succ n =>
    have hl : 2 ≤ (parensT (n + 1) t0).length := by
      have : parensT (n + 1) t0 = [tLP] ++ parensT n t0 ++ [tRP] := rfl
      rw [this]; simp
    obtain ⟨F', rfl⟩ : ∃ F', F = F' + 1 := ⟨F - 1, by omega⟩
    unfold parseExpr
    exact Ok.seq (paren_ft pf T hB hR n hst (by omega)) fun e' st2 ⟨he, h2⟩ => hC.ok (by omega) he h2

theorem ft_value {F : Nat} {st : PState} {t : Tk} {ts : List Tk} {Q : Expr → PState → Prop} (hst : At st (t :: ts))
    (hu : (t.typ == .tNot || t.typ == .tNegate) = false) (hl : (t.typ == .tLeftParen) = false) (hv : isValue t.typ = true)
    (h : ∀ it st1, it.typ = t.typ → it.val = t.val → Just st1 it ts → Ok (newValueNode pf F it) st1 Q) :
    Ok (parseExprFirstTerm pf (F + 1)) st Q := by
  unfold parseExprFirstTerm
  refine Ok.next hst fun it st1 ht hval hj => ?_
  have hu' : isUnaryOp it.typ = false := by rw [isUnaryOp_eq T, ht]; exact hu
  rw [← ht] at hl hv
  simp only [hu', hl, hv, Bool.false_eq_true, if_false, if_true]
  exact h it st1 ht hval hj

/-- a primary that is ONE value token (the five literal kinds): `newValueNode` makes the node from the token and
    reads nothing more -/
theorem ft_single {e : Expr} {t h : Tk} {rest : List Tk} {F : Nat} {st : PState}
    (hu : (t.typ == .tNot || t.typ == .tNegate) = false) (hl : (t.typ == .tLeftParen) = false) (hv : isValue t.typ = true)
    (hnode : ∀ (F : Nat) (it : Item) (st : PState), it.typ = t.typ → it.val = t.val →
      ∃ e', newValueNode pf (F + 1) it st = .ok (e', st) ∧ erase e' = erase e)
    (hst : At st ([t] ++ h :: rest)) (hF : 8 * [t].length ≤ F + 4) :
    Ok (parseExprFirstTerm pf F) st fun e' st2 => erase e' = erase e ∧ At st2 (h :: rest) := by
  obtain ⟨F', rfl⟩ : ∃ F', F = F' + 2 := ⟨F - 2, by simp at hF; omega⟩
  refine ft_value pf T hst hu hl hv fun it st1 ht hval hj => ?_
  obtain ⟨e', hn, he⟩ := hnode F' it st1 ht hval
  exact ⟨e', st1, hn, he, hj.at⟩

theorem ft_null (p : Nat) : FTStmt pf (.null p) := by
  intro ts h rest F st hR _ hst hF
  rw [Renders] at hR; subst hR
  refine ft_single pf T rfl rfl rfl (fun F it st ht _ => ⟨.null it.pos, ?_, rfl⟩) hst hF
  unfold newValueNode; simp only [show it.typ = .tNull from ht]; rfl

theorem ft_bool (p : Nat) (b : Bool) : FTStmt pf (.bool p b) := by
  intro ts h rest F st hR _ hst hF
  rw [Renders] at hR; subst hR
  refine ft_single pf T rfl rfl rfl (fun F it st ht hv => ⟨.bool it.pos (it.val == [116, 114, 117, 101]), ?_, ?_⟩) hst hF
  · unfold newValueNode; simp only [show it.typ = .tBool from ht]; rfl
  · rw [hv]; cases b <;> simp [erase, tBool]

theorem ft_int (p : Nat) (v : Int) : FTStmt pf (.int p v) := by
  intro ts h rest F st hR _ hst hF
  rw [Renders] at hR; obtain ⟨val, rfl, hval⟩ := hR
  refine ft_single pf T rfl rfl rfl (fun F it st ht hv => ⟨.int it.pos v, ?_, rfl⟩) hst hF
  unfold newValueNode; simp only [show it.typ = .tInteger from ht, show it.val = val from hv, hval]; rfl

theorem ft_float (p : Nat) (v : UInt64) : FTStmt pf (.float p v) := by
  intro ts h rest F st hR _ hst hF
  rw [Renders] at hR; obtain ⟨val, rfl, hval⟩ := hR
  refine ft_single pf T rfl rfl rfl (fun F it st ht hv => ⟨.float it.pos v, ?_, rfl⟩) hst hF
  unfold newValueNode; simp only [show it.typ = .tFloat from ht, show it.val = val from hv, hval]; rfl

theorem ft_str (p : Nat) (q v : Bytes) : FTStmt pf (.str p q v) := by
  intro ts h rest F st hR _ hst hF
  rw [Renders] at hR; obtain ⟨rfl, hval⟩ := hR
  refine ft_single pf T rfl rfl rfl (fun F it st ht hv => ⟨.str it.pos q v, ?_, rfl⟩) hst hF
  unfold newValueNode; simp only [show it.typ = .tString from ht, show it.val = q from hv, hval]; rfl

omit T in
theorem okAfter_noAccess {e : Expr} {h : ItemType} (hok : okAfter e h) : noAccess h := hok.1

/-- an operand at unary level or above is a unary or a primary: any non-access follower ends it, and every binary
    operator is below the level of the unary operators -/
theorem ends_unary {a : Expr} {h : ItemType} {m : Nat} (hm : precUnary ≤ m) (hn : noAccess h) :
    Ends m (precUnary - 1) a h := by
  refine ⟨fun hp => ⟨hn, ?_⟩, ?_, fun h0 => by simp [precUnary] at h0⟩
  · have hp := Nat.le_trans hm hp
    cases a with
    | bin op _ _ _ =>
      have := binPrec_le op
      simp [precedenceOf, precUnary, precMul] at hp this
      omega
    | tern => simp [precedenceOf, precUnary, precTernary] at hp
    | _ => simp [edgeOk]
  · cases hb : isBinaryOp h with
    | false => exact Or.inl rfl
    | true => right; have := binop_prec_lt T hb; omega

omit T in
theorem noAccess_tokOf (op : BinOp) : noAccess (tokOf op) := by
  cases op <;> simp [noAccess, tokOf]

/-- the left operand of `op`, unparenthesised, may be followed by `op` -/
theorem okAfter_left {a : Expr} {op : BinOp} (hp : leftMin op ≤ precedenceOf a) : okAfter a (tokOf op) := by
  refine ⟨noAccess_tokOf op, ?_⟩
  have hge := leftMin_ge op
  cases a with
  | bin op1 _ _ _ =>
    simp only [precedenceOf] at hp
    have h1 := prec_tokOf T op
    cases op1
    case elvis =>
      -- a `?:` on the left is below every left minimum
      exfalso
      have : 2 ≤ leftMin op := by cases op <;> decide
      simp [binPrec, precElvis] at hp; omega
    all_goals (simp only [edgeOk]; right; omega)
  | tern => simp [precedenceOf, precTernary] at hp; have := binPrec_pos op; omega
  | _ => simp [edgeOk]

omit T in
theorem edgeOk_bin {op : BinOp} (hne : op ≠ .elvis) (p : Nat) (a b : Expr) (h : ItemType) :
    edgeOk (.bin op p a b) h ↔ (isBinaryOp h = false ∨ precedence h + 1 ≤ binPrec op) := by
  cases op <;> first | exact absurd rfl hne | exact Iff.rfl

omit T in
theorem rightMin_of_ne {op : BinOp} (hne : op ≠ .elvis) : rightMin op = binPrec op + 1 := by
  cases op <;> first | exact absurd rfl hne | rfl

omit T in
/-- the right operand of `op` inherits the follower of the whole expression: it binds more tightly
    than `op` (or `op` is `?:`, whose follower stops every loop) -/
theorem ends_right {a b : Expr} {op : BinOp} {p : Nat} {h : ItemType} (hok : okAfter (.bin op p a b) h) :
    Ends (rightMin op) (rightMin op - 1) b h := by
  have he := hok.2
  by_cases hop : op = .elvis
  · subst hop
    exact ends_stop he.1 he.2 hok.1
  rw [edgeOk_bin hop] at he
  rw [rightMin_of_ne hop, Nat.add_sub_cancel]
  refine ⟨fun hp => ⟨hok.1, ?_⟩, ?_, fun h0 => by have := binPrec_pos op; omega⟩
  · cases b with
    | bin op1 _ _ _ =>
      simp only [precedenceOf] at hp
      have h1 : op1 ≠ .elvis := by
        rintro rfl
        have := binPrec_pos op
        have : binPrec .elvis = 1 := rfl
        omega
      rw [edgeOk_bin h1]
      rcases he with he | he
      · exact Or.inl he
      · exact Or.inr (by omega)
    | tern => simp [precedenceOf, precTernary] at hp
    | _ => simp [edgeOk]
  · rcases he with he | he
    · exact Or.inl he
    · exact Or.inr (by omega)

theorem okAfter_cond {c : Expr} (hp : precElvis + 1 ≤ precedenceOf c) : okAfter c .tTernIf := by
  refine ⟨by simp [noAccess], ?_⟩
  have hb : isBinaryOp .tTernIf = false := by rw [isBinaryOp_eq T]; rfl
  cases c with
  | bin op _ _ _ =>
    cases op
    case elvis => simp [precedenceOf, binPrec, precElvis] at hp
    all_goals simp [edgeOk, hb]
  | tern => simp [precedenceOf, precTernary, precElvis] at hp
  | _ => simp [edgeOk]

theorem ends_colon (m p : Nat) (c : Expr) : Ends m p c .tColon :=
  ends_stop (by rw [isBinaryOp_eq T]; rfl) (by simp) (by simp [noAccess])

omit T in
/-- what follows a ternary ends its last operand and every loop -/
theorem ends_else {c a b x : Expr} {pos m p : Nat} {h : ItemType} (hok : okAfter (.tern pos c a b) h) : Ends m p x h := by
  have he := hok.2
  simp only [edgeOk] at he
  exact ends_stop he.1 he.2 hok.1

/-- a unary operator `t` and its operand in a slot of at least unary level; `mk` is the node `parseExprFirstTerm`
    builds for `t` (`hmk`: its two tests on the token type) -/
theorem ft_unary {a : Expr} (hA : AStmt pf a) {t h : Tk} {ta rest : List Tk} {m F : Nat} {st : PState}
    {mk : Nat → Expr → Expr} (hu : isUnaryOp t.typ = true) (hprec : precedence t.typ + 1 = precUnary)
    (hmk : ∀ pos r, (if t.typ == .tNot then pure (Expr.not pos r) else if t.typ == .tNegate then pure (Expr.neg pos r)
      else fail PErr.panic : P Expr) = pure (mk pos r))
    (hS : Slot m a (Renders pf a) ta) (hm : precUnary ≤ m) (hn : noAccess h.typ)
    (hst : At st (t :: (ta ++ h :: rest))) (hF : 8 * (ta.length + 1) ≤ F + 4) :
    Ok (parseExprFirstTerm pf F) st fun e' st2 => (∃ pos r, e' = mk pos r ∧ erase r = erase a) ∧ At st2 (h :: rest) := by
  obtain ⟨F', rfl⟩ : ∃ F', F = F' + 1 := ⟨F - 1, by omega⟩
  unfold parseExprFirstTerm
  refine Ok.next hst fun it st1 ht _ hj => ?_
  simp only [ht, hu, if_true, show precedence t.typ = precUnary - 1 by omega]
  refine Ok.seq (hA.ends (p := precUnary - 1) hS (by omega) (ends_unary T hm hn) hj.at (by omega)) fun r st2 ⟨he, h2⟩ => ?_
  rw [hmk it.pos r]
  exact Ok.pure ⟨⟨it.pos, r, rfl, he⟩, h2.at⟩

theorem ft_not (p : Nat) {a : Expr} (hA : AStmt pf a) : FTStmt pf (.not p a) := by
  intro ts h rest F st hR hok hst hF
  rw [Renders] at hR; obtain ⟨ta, hS, rfl⟩ := hR
  exact Ok.mono (ft_unary pf T hA (t := tNot) (mk := Expr.not) (by rw [isUnaryOp_eq T]; rfl) T.precNot (fun _ _ => rfl)
    hS (Nat.le_refl _) hok.1 (by simpa using hst) (by simpa using hF)) fun e' st2 ⟨⟨_, r, hr, he⟩, h2⟩ => ⟨by simp [hr, erase, he], h2⟩

theorem ft_neg (p : Nat) {a : Expr} (hA : AStmt pf a) : FTStmt pf (.neg p a) := by
  intro ts h rest F st hR hok hst hF
  rw [Renders] at hR; obtain ⟨ta, hS, rfl⟩ := hR
  exact Ok.mono (ft_unary pf T hA (t := tNeg) (mk := Expr.neg) (by rw [isUnaryOp_eq T]; rfl) T.precNeg (fun _ _ => rfl)
    hS (by cases a <;> simp [negMin, precUnary, precPrimary]) hok.1 (by simpa using hst) (by simpa using hF))
    fun e' st2 ⟨⟨_, r, hr, he⟩, h2⟩ => ⟨by simp [hr, erase, he], h2⟩

theorem b_bin (op : BinOp) (pos : Nat) {a b : Expr} (hA : AStmt pf a) (hB : AStmt pf b) : BStmt pf (.bin op pos a b) := by
  intro ts h rest p k F Q st hR hp hok hC hst hF
  rw [Renders] at hR; obtain ⟨ta, tb, hSa, hSb, rfl⟩ := hR
  have hlvl : p + 1 ≤ binPrec op := by
    have := binPrec_pos op
    simp [lvl, precedenceOf] at hp; omega
  have hst' : At st (ta ++ tOp op :: (tb ++ h :: rest)) := by simpa using hst
  simp at hF
  have hlm := leftMin_ge op
  -- the left operand, read with a continuation that goes on: the operator, the right operand, the loop again
  refine hA.ok (m := leftMin op) (k := k + 2 + 8 * tb.length) hSa (by omega) (fun hp => okAfter_left T hp)
    (Cont.of_ok fun {k' a' st1} hk' hea hst1 => ?_) hst' (by omega)
  obtain ⟨k'', rfl⟩ : ∃ k'', k' = k'' + 1 := ⟨k' - 1, by omega⟩
  refine exprLoop_bin pf T hst1 hlvl fun bpos st2 hst2 => ?_
  exact Ok.seq (hB.ends hSb (Nat.le_refl _) (ends_right hok) hst2 (by omega)) fun rb st3 ⟨heb, h3⟩ =>
    hC.ok (by omega) (by simp [erase, hea, heb]) h3.at

theorem b_tern (pos : Nat) {c a b : Expr} (hCc : AStmt pf c) (hA : AStmt pf a) (hB : AStmt pf b) :
    BStmt pf (.tern pos c a b) := by
  intro ts h rest p k F Q st hR hp hok hC hst hF
  rw [Renders] at hR; obtain ⟨tc, ta, tb, hSc, hSa, hSb, rfl⟩ := hR
  have hp0 : p = 0 := by simp [lvl, precedenceOf, precTernary] at hp; exact hp
  subst hp0
  have hst' : At st (tc ++ tTernIf :: (ta ++ tColon :: (tb ++ h :: rest))) := by simpa using hst
  simp at hF
  -- the condition, read with a continuation that goes on: `?`, the two branches around `:`
  refine hCc.ok (m := precElvis + 1) (k := k + 3 + 8 * ta.length + 8 * tb.length) hSc (Nat.zero_le _)
    (fun hp => okAfter_cond T hp) (Cont.of_ok fun {k' c' st1} hk' hec hst1 => ?_) hst' (by omega)
  obtain ⟨k3, rfl⟩ : ∃ k3, k' = k3 + 2 := ⟨k' - 2, by omega⟩
  refine exprLoop_tern pf T hst1 fun st2 hst2 => ?_
  unfold parseTernary
  refine Ok.seq (hA.ends (h := tColon) hSa (Nat.zero_le _) (ends_colon T _ 0 a) hst2 (F := k3) (by omega)) fun ra st3 ⟨hea, h3⟩ => ?_
  refine Ok.expect (t := tColon) h3.at fun _ st4 _ _ hj4 => ?_
  refine Ok.seq (hB.ends hSb (Nat.zero_le _) (ends_else hok) hj4.at (F := k3) (by omega)) fun rb st5 ⟨heb, h5⟩ => ?_
  -- the loop is not entered again behind a ternary; what `hC` says of it is said of the node itself, since it stops at once
  exact Ok.pure (exprLoop_stop1 pf (F := k3) h5 (ends_else (m := 0) (x := b) hok).2
    (hC.ok (by omega) (by simp [erase, hec, hea, heb]) h5.at))
end

end SoyVerif.Lemmas.ParserRound
