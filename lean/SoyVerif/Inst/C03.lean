/-
  C03 — obligations over the GENERATED directive table (Gen/DirectiveTable.lean, dumped from the
  live soyhtml.PrintDirectives map on every run).  They fail to check when /repo changes which directives
  cancel autoescaping, the arities or the flag of `truncate`, the function behind one of the four directives
  that emit HTML, or makes a directive obligatory.
-/
import SoyVerif.Props.C03
import SoyVerif.Gen.DirectiveTable

namespace SoyVerif.Inst.C03
open SoyVerif SoyVerif.Model SoyVerif.Model.Directives SoyVerif.Lemmas.EscapeDirectives

def nTruncate : Bytes := [116, 114, 117, 110, 99, 97, 116, 101]
def nInsertWordBreaks : Bytes := [105, 110, 115, 101, 114, 116, 87, 111, 114, 100, 66, 114, 101, 97, 107, 115]
def nChangeNewlineToBr : Bytes := [99, 104, 97, 110, 103, 101, 78, 101, 119, 108, 105, 110, 101, 84, 111, 66, 114]
def nId : Bytes := [105, 100]
def nNoAutoescape : Bytes := [110, 111, 65, 117, 116, 111, 101, 115, 99, 97, 112, 101]
def nEscapeHtml : Bytes := [101, 115, 99, 97, 112, 101, 72, 116, 109, 108]
def nEscapeUri : Bytes := [101, 115, 99, 97, 112, 101, 85, 114, 105]
def nEscapeJsString : Bytes := [101, 115, 99, 97, 112, 101, 74, 115, 83, 116, 114, 105, 110, 103]
def nJson : Bytes := [106, 115, 111, 110]

/-- exactly the documented set of directives cancels autoescaping (the table is sorted by name) -/
theorem cancel_table :
    (Gen.directiveTable.filter (·.cancel)).map (·.name) =
      [nChangeNewlineToBr, nEscapeHtml, nEscapeJsString, nEscapeUri, nId, nInsertWordBreaks, nJson, nNoAutoescape] := by
  decide

/-- truncate exists, takes one or two arguments and does NOT cancel autoescaping -/
theorem truncate_entry :
    (lookup Gen.directiveTable nTruncate).map (fun e => (e.arities, e.cancel)) = some ([1, 2], false) := by
  decide

/-- the directives that emit HTML (three that cancel autoescaping, and `truncate`, which does not) are implemented
    by the functions the theorems of C03/C16 are about; names are unique in the table -/
theorem html_directives_impl :
    (lookup Gen.directiveTable nEscapeHtml).map (·.impl) = some sDirectiveEscapeHtml ∧
    (lookup Gen.directiveTable nChangeNewlineToBr).map (·.impl) = some sDirectiveChangeNewlineToBr ∧
    (lookup Gen.directiveTable nInsertWordBreaks).map (·.impl) = some sDirectiveInsertWordBreaks ∧
    (lookup Gen.directiveTable nTruncate).map (·.impl) = some sDirectiveTruncate ∧
    (Gen.directiveTable.map (·.name)).Nodup := by
  decide

/-- no directive is applied behind the template author's back -/
theorem no_obligatory_directives : Gen.obligatoryDirectives = [] := by decide

/-- instance of `print_escapes` for the live table: a print with one `truncate` call is escaped -/
theorem print_truncate_escapes (mode : Mode) (args : List Arg) (v out : Bytes) (hmode : mode ≠ .off)
    (h : printBytes mode [(nTruncate, args)] v = .ok out) :
    ∃ r, chainValue Gen.directiveTable [(nTruncate, args)] v = .ok r ∧ out = htmlEscape r ∧
      Props.C03.SafeHtmlEncoding out r := by
  have hnc : noCancel Gen.directiveTable
      ([(nTruncate, args)] ++ Gen.obligatoryDirectives.map fun n => (n, [])) = true := by
    have : lookup Gen.directiveTable nTruncate = some ⟨nTruncate, [1, 2], false, sDirectiveTruncate⟩ := by decide
    simp [no_obligatory_directives, noCancel, this]
  have := Props.C03.print_escapes Gen.directiveTable Gen.obligatoryDirectives mode [(nTruncate, args)] v out hmode hnc h
  simpa [no_obligatory_directives] using this

example : printBytes .on [(nTruncate, [.int 2, .bool false])] [60, 97, 62] = .ok [38, 108, 116, 59, 97] := by decide
example : printBytes .contextual [] [60] = .ok [38, 108, 116, 59] := by decide
example : printBytes .off [] [60] = .ok [60] := by decide
example : printBytes .on [(nId, [])] [60] = .ok [60] := by decide

end SoyVerif.Inst.C03
