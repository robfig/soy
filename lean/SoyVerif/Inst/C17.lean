/-
  C17 / C01 — obligations over the GENERATED parser tables (Gen/ParseTables.lean, dumped from
  the running code of /repo on every run) and the theorems of Props/C17.lean instantiated with
  them.  `tableOK` stops checking when /repo changes the precedence table, `isBinaryOp` or
  `isUnaryOp` in a way that breaks the alignment with the printer's levels.

  Non-vacuity: the round trip instantiated on three-level trees of every operator family, with the
  parse evaluated by the kernel.
-/
import SoyVerif.Props.C17

namespace SoyVerif.Inst.C17
open SoyVerif SoyVerif.Model SoyVerif.Model.Parser SoyVerif.Model.PrintTokens SoyVerif.Model.Printer
open SoyVerif.Lemmas.ParserBasic SoyVerif.Props.C17

theorem tableOK : TableOK where
  binop := by decide +kernel
  unop := by decide +kernel
  prec := by decide +kernel
  precNot := by decide +kernel
  precNeg := by decide +kernel

/-- concrete values of the generated precedence table (documentation of the alignment) -/
theorem precedence_values :
    precedence .tElvis = 0 ∧ precedence .tOr = 1 ∧ precedence .tAnd = 2 ∧ precedence .tEq = 3 ∧ precedence .tLt = 4 ∧
    precedence .tAdd = 5 ∧ precedence .tSub = 5 ∧ precedence .tMul = 6 ∧ precedence .tNot = 7 ∧
    precedence .tNegate = 7 := by decide

/-- lexer-facing half (with `Props.C17.minus_context`): after every token that can precede an operand in
    printed tokens the lexer reads `-` as unary minus / the sign of a number (`lexNegative`, probed on
    the running code), and after every token an operand can end with it reads a binary minus -/
theorem unary_minus_after_covers :
    (∀ t ∈ SoyVerif.Lemmas.ParserAdj.beforeOperand, t ∈ Gen.ParseTables.unaryMinusAfter) ∧
    (∀ t ∈ SoyVerif.Lemmas.ParserAdj.afterOperand, t ∉ Gen.ParseTables.unaryMinusAfter) := by decide +kernel

section
variable (ff : UInt64 → Bytes) (pf : Bytes → Option UInt64)

theorem parse_complete_redundant_parens (e : Expr) (ts : List Tk) (items : List Item)
    (hR : RendersTop pf e ts) (hit : Carries items (ts ++ [tEOF])) :
    ∃ e', parseExprEntry pf items = .ok e' ∧ erase e' = erase e :=
  Props.C17.parse_complete_redundant_parens pf tableOK e ts items hR hit

theorem print_parse_roundtrip_tokens (e : Expr) (hC : Canon ff pf e) (items : List Item)
    (hit : Carries items (toks ff e ++ [tEOF])) :
    ∃ e', parseExprEntry pf items = .ok e' ∧ erase e' = erase e :=
  Props.C17.print_parse_roundtrip_tokens ff pf tableOK e hC items hit

theorem print_injective_tokens (a b : Expr) (ha : Canon ff pf a) (hb : Canon ff pf b)
    (h : toks ff a = toks ff b) : erase a = erase b :=
  Props.C17.print_injective_tokens ff pf tableOK a b ha hb h

theorem renders_unique (a b : Expr) (ts : List Tk) (ha : RendersTop pf a ts) (hb : RendersTop pf b ts) :
    erase a = erase b :=
  Props.C17.renders_unique pf tableOK a b ts ha hb
end

def ff0 : UInt64 → Bytes := fun _ => [49, 46, 53]          -- "1.5"
def pf0 : Bytes → Option UInt64 := fun _ => none

def i (n : Int) : Expr := .int 0 n
def v (c : UInt8) : Expr := .dataRef 0 [c] .nil

/-- `(1 + 2) * 3` -/
def ex1 : Expr := .bin .mul 0 (.bin .add 0 (i 1) (i 2)) (i 3)
/-- `1 - (2 - 3)` -/
def ex2 : Expr := .bin .sub 0 (i 1) (.bin .sub 0 (i 2) (i 3))
/-- `-(5)` -/
def ex3 : Expr := .neg 0 (i 5)
/-- `($a ? $b : $c) ?: $d` -/
def ex4 : Expr := .bin .elvis 0 (.tern 0 (v 97) (v 98) (v 99)) (v 100)
/-- `$a ? ($b ? $c : $d) : $e` -/
def ex5 : Expr := .tern 0 (v 97) (.tern 0 (v 98) (v 99) (v 100)) (v 101)
/-- `not ($x and $y)` -/
def ex6 : Expr := .not 0 (.bin .and 0 (v 120) (v 121))
/-- `$a ? $b : $c ? $d : $e` (right-nested: no parentheses) -/
def ex7 : Expr := .tern 0 (v 97) (v 98) (.tern 0 (v 99) (v 100) (v 101))
/-- `$a.b?.c.0?[$i + 1]` -/
def ex8 : Expr := .dataRef 0 [97] (.cons (.key 0 false [98]) (.cons (.key 0 true [99]) (.cons (.index 0 false 0)
  (.cons (.expr 0 true (.bin .add 0 (v 105) (i 1))) .nil))))
/-- `f([1, 2], ['a': -3, 'b': x.y], $a or $b and $c)` -/
def ex9 : Expr := .func 0 [102] (.cons (.list 0 (.cons (i 1) (.cons (i 2) .nil)))
  (.cons (.map 0 (.cons [97] (i (-3)) (.cons [98] (.global 0 [120, 46, 121]) .nil)))
  (.cons (.bin .or 0 (v 97) (.bin .and 0 (v 98) (v 99))) .nil)))

/-- the printed text (model printer) of the examples -/
example : printExpr ff0 ex1 = [40, 49, 32, 43, 32, 50, 41, 32, 42, 32, 51] := by decide
example : printExpr ff0 ex2 = [49, 32, 45, 32, 40, 50, 32, 45, 32, 51, 41] := by decide
example : printExpr ff0 ex3 = [45, 40, 53, 41] := by decide
example : printExpr ff0 ex4 = [40, 36, 97, 32, 63, 32, 36, 98, 32, 58, 32, 36, 99, 41, 32, 63, 58, 32, 36, 100] := by decide
example : printExpr ff0 ex5 = [36, 97, 32, 63, 32, 40, 36, 98, 32, 63, 32, 36, 99, 32, 58, 32, 36, 100, 41, 32, 58, 32, 36, 101] := by decide
example : printExpr ff0 ex6 = [110, 111, 116, 32, 40, 36, 120, 32, 97, 110, 100, 32, 36, 121, 41] := by decide
example : printExpr ff0 ex7 = [36, 97, 32, 63, 32, 36, 98, 32, 58, 32, 36, 99, 32, 63, 32, 36, 100, 32, 58, 32, 36, 101] := by decide
example : printExpr ff0 ex8 = [36, 97, 46, 98, 63, 46, 99, 46, 48, 63, 91, 36, 105, 32, 43, 32, 49, 93] := by decide
example : printExpr ff0 ex9 = [102, 40, 91, 49, 44, 32, 50, 93, 44, 91, 39, 97, 39, 58, 32, 45, 51, 44, 32, 39, 98, 39, 58, 32, 120, 46, 121, 93, 44, 36, 97, 32, 111, 114, 32, 36, 98, 32, 97, 110, 100, 32, 36, 99, 41] := by decide   -- f([1, 2],['a': -3, 'b': x.y],$a or $b and $c)


/-- the trees satisfy `Canon` (the hypotheses of the theorems are satisfiable) … -/
theorem canon_examples :
    Canon ff0 pf0 ex1 ∧ Canon ff0 pf0 ex2 ∧ Canon ff0 pf0 ex3 ∧ Canon ff0 pf0 ex4 ∧ Canon ff0 pf0 ex5 ∧
    Canon ff0 pf0 ex6 ∧ Canon ff0 pf0 ex7 ∧ Canon ff0 pf0 ex8 ∧ Canon ff0 pf0 ex9 := by
  simp only [ex1, ex2, ex3, ex4, ex5, ex6, ex7, ex8, ex9, i, v, Canon, CanonL, CanonM, CanonAL, CanonA, SortedKeys, keysOf]
  decide

/-- … and the theorem applies to them (any positions: here consecutive from 0 resp. 100) -/
example : ∃ e', parseExprEntry pf0 (withPos 0 (toks ff0 ex1 ++ [tEOF])) = .ok e' ∧ erase e' = erase ex1 :=
  print_parse_roundtrip_tokens ff0 pf0 ex1 canon_examples.1 _ (withPos_carries 0 _)
example : ∃ e', parseExprEntry pf0 (withPos 0 (toks ff0 ex2 ++ [tEOF])) = .ok e' ∧ erase e' = erase ex2 :=
  print_parse_roundtrip_tokens ff0 pf0 ex2 canon_examples.2.1 _ (withPos_carries 0 _)
example : ∃ e', parseExprEntry pf0 (withPos 0 (toks ff0 ex3 ++ [tEOF])) = .ok e' ∧ erase e' = erase ex3 :=
  print_parse_roundtrip_tokens ff0 pf0 ex3 canon_examples.2.2.1 _ (withPos_carries 0 _)
example : ∃ e', parseExprEntry pf0 (withPos 0 (toks ff0 ex4 ++ [tEOF])) = .ok e' ∧ erase e' = erase ex4 :=
  print_parse_roundtrip_tokens ff0 pf0 ex4 canon_examples.2.2.2.1 _ (withPos_carries 0 _)
example : ∃ e', parseExprEntry pf0 (withPos 0 (toks ff0 ex5 ++ [tEOF])) = .ok e' ∧ erase e' = erase ex5 :=
  print_parse_roundtrip_tokens ff0 pf0 ex5 canon_examples.2.2.2.2.1 _ (withPos_carries 0 _)
example : ∃ e', parseExprEntry pf0 (withPos 0 (toks ff0 ex6 ++ [tEOF])) = .ok e' ∧ erase e' = erase ex6 :=
  print_parse_roundtrip_tokens ff0 pf0 ex6 canon_examples.2.2.2.2.2.1 _ (withPos_carries 0 _)
example : ∃ e', parseExprEntry pf0 (withPos 100 (toks ff0 ex9 ++ [tEOF])) = .ok e' ∧ erase e' = erase ex9 :=
  print_parse_roundtrip_tokens ff0 pf0 ex9 canon_examples.2.2.2.2.2.2.2.2 _ (withPos_carries 100 _)

/-- the printed tokens of `(1 + 2) * 3` -/
example : toks ff0 ex1 = [tLP, ⟨.tInteger, [49]⟩, tOp .add, ⟨.tInteger, [50]⟩, tRP, tOp .mul, ⟨.tInteger, [51]⟩] := by decide

/-- the round trip, evaluated: parse the positioned printed tokens, erase, print again -/
def roundTrip (e : Expr) : Option Bytes :=
  match parseExprEntry pf0 (withPos 0 (toks ff0 e ++ [tEOF])) with
  | .ok e' => some (printExpr ff0 (erase e'))
  | .error _ => none

example : roundTrip ex1 = some (printExpr ff0 ex1) := by decide +kernel
example : roundTrip ex2 = some (printExpr ff0 ex2) := by decide +kernel
example : roundTrip ex3 = some (printExpr ff0 ex3) := by decide +kernel
example : roundTrip ex4 = some (printExpr ff0 ex4) := by decide +kernel
example : roundTrip ex5 = some (printExpr ff0 ex5) := by decide +kernel
example : roundTrip ex6 = some (printExpr ff0 ex6) := by decide +kernel
example : roundTrip ex7 = some (printExpr ff0 ex7) := by decide +kernel
example : roundTrip ex8 = some (printExpr ff0 ex8) := by decide +kernel
example : roundTrip ex9 = some (printExpr ff0 ex9) := by decide +kernel

/-- `['\xff': 1]`: a map key that is one invalid UTF-8 byte is printed as that byte, not as U+FFFD -/
def exKey : Expr := .map 0 (.cons [255] (i 1) .nil)
example : printExpr ff0 exKey = [91, 39, 255, 39, 58, 32, 49, 93] := by decide
theorem canon_exKey : Canon ff0 pf0 exKey := by
  simp only [exKey, i, Canon, CanonM, SortedKeys, keysOf]; decide
example : ∃ e', parseExprEntry pf0 (withPos 0 (toks ff0 exKey ++ [tEOF])) = .ok e' ∧ erase e' = erase exKey :=
  print_parse_roundtrip_tokens ff0 pf0 exKey canon_exKey _ (withPos_carries 0 _)
/-- invalid bytes next to escapes take the slow path of `unquoteString`: `\xff'\n\xc3` -/
example : Quote.unquoteString (quoteString [255, 39, 10, 195]) = some [255, 39, 10, 195] ∧
    quoteString [255, 39, 10, 195] = [39, 255, 92, 39, 92, 110, 195, 39] := by decide

/-- keys with every escape and multi-byte runes re-quote: `a\n\r\t\b\f'\é€😀` -/
example : Quote.unquoteString (quoteString [97, 10, 13, 9, 8, 12, 39, 92, 195, 169, 226, 130, 172, 240, 159, 152, 128]) =
    some [97, 10, 13, 9, 8, 12, 39, 92, 195, 169, 226, 130, 172, 240, 159, 152, 128] := by decide +kernel

/-- redundant parentheses: `((1)) + (2 * (3))` renders `1 + 2 * 3` and parses to it -/
def ex10 : Expr := .bin .add 0 (i 1) (.bin .mul 0 (i 2) (i 3))
def ts10 : List Tk := [tLP, tLP, ⟨.tInteger, [49]⟩, tRP, tRP, tOp .add, tLP, ⟨.tInteger, [50]⟩, tOp .mul, tLP,
  ⟨.tInteger, [51]⟩, tRP, tRP]

theorem renders_ex10 : RendersTop pf0 ex10 ts10 := by
  refine ⟨0, ts10, ?_, rfl, fun h => absurd h (Nat.not_lt_zero _)⟩
  simp only [ex10, i]
  rw [Renders]
  refine ⟨[tLP, tLP, ⟨.tInteger, [49]⟩, tRP, tRP], [tLP, ⟨.tInteger, [50]⟩, tOp .mul, tLP, ⟨.tInteger, [51]⟩, tRP, tRP],
    ⟨2, [⟨.tInteger, [49]⟩], ?_, rfl, fun _ => by decide⟩, ⟨1, [⟨.tInteger, [50]⟩, tOp .mul, tLP, ⟨.tInteger, [51]⟩, tRP], ?_, rfl, fun _ => by decide⟩, rfl⟩
  · rw [Renders]; exact ⟨[49], rfl, by decide⟩
  · rw [Renders]
    refine ⟨[⟨.tInteger, [50]⟩], [tLP, ⟨.tInteger, [51]⟩, tRP], ⟨0, _, ?_, rfl, fun h => absurd h (by decide)⟩,
      ⟨1, [⟨.tInteger, [51]⟩], ?_, rfl, fun _ => by decide⟩, rfl⟩
    · rw [Renders]; exact ⟨[50], rfl, by decide⟩
    · rw [Renders]; exact ⟨[51], rfl, by decide⟩

example : ∃ e', parseExprEntry pf0 (withPos 7 (ts10 ++ [tEOF])) = .ok e' ∧ erase e' = erase ex10 :=
  parse_complete_redundant_parens pf0 ex10 ts10 _ renders_ex10 (withPos_carries 7 _)

/-! `?:` shares the lowest level with the ternary and associates to the RIGHT (/repo 62bcb15) -/

/-- `$a ?: $b ? 1 : 2` is `$a ?: ($b ? 1 : 2)`: printed without parentheses -/
def ex11 : Expr := .bin .elvis 0 (v 97) (.tern 0 (v 98) (i 1) (i 2))
/-- `$a ?: $b ?: $c` nests to the right -/
def ex12 : Expr := .bin .elvis 0 (v 97) (.bin .elvis 0 (v 98) (v 99))
/-- a left-nested `?:` is printed with parentheses: `($a ?: $b) ?: $c` -/
def ex13 : Expr := .bin .elvis 0 (.bin .elvis 0 (v 97) (v 98)) (v 99)
/-- a `?:` as the condition of a ternary is parenthesised, as its first branch it is not: `($a ?: $b) ? $c ?: $d : $e` -/
def ex14 : Expr := .tern 0 (.bin .elvis 0 (v 97) (v 98)) (.bin .elvis 0 (v 99) (v 100)) (v 101)
/-- the right operand of `?:` extends as far as possible: `$a ?: $b + 1` -/
def ex15 : Expr := .bin .elvis 0 (v 97) (.bin .add 0 (v 98) (i 1))

example : printExpr ff0 ex11 = [36, 97, 32, 63, 58, 32, 36, 98, 32, 63, 32, 49, 32, 58, 32, 50] := by decide
example : printExpr ff0 ex12 = [36, 97, 32, 63, 58, 32, 36, 98, 32, 63, 58, 32, 36, 99] := by decide
example : printExpr ff0 ex13 = [40, 36, 97, 32, 63, 58, 32, 36, 98, 41, 32, 63, 58, 32, 36, 99] := by decide
example : printExpr ff0 ex14 = [40, 36, 97, 32, 63, 58, 32, 36, 98, 41, 32, 63, 32, 36, 99, 32, 63, 58, 32, 36, 100, 32, 58, 32, 36, 101] := by decide
example : printExpr ff0 ex15 = [36, 97, 32, 63, 58, 32, 36, 98, 32, 43, 32, 49] := by decide

example : roundTrip ex11 = some (printExpr ff0 ex11) := by decide +kernel
example : roundTrip ex12 = some (printExpr ff0 ex12) := by decide +kernel
example : roundTrip ex13 = some (printExpr ff0 ex13) := by decide +kernel
example : roundTrip ex14 = some (printExpr ff0 ex14) := by decide +kernel
example : roundTrip ex15 = some (printExpr ff0 ex15) := by decide +kernel

/-- the unparenthesised tokens `$a ?: $b ?: $c` are read as the RIGHT-nested tree, not the left-nested one -/
example : (match parseExprEntry pf0 (withPos 0 (toks ff0 ex12 ++ [tEOF])) with
    | .ok e' => some (printExpr ff0 (erase e') == printExpr ff0 ex12, printExpr ff0 (erase e') == printExpr ff0 ex13)
    | .error _ => none) = some (true, false) := by decide +kernel

theorem canon_elvis : Canon ff0 pf0 ex11 ∧ Canon ff0 pf0 ex13 ∧ Canon ff0 pf0 ex14 := by
  simp only [ex11, ex13, ex14, i, v, Canon, CanonAL]
  decide

example : ∃ e', parseExprEntry pf0 (withPos 0 (toks ff0 ex11 ++ [tEOF])) = .ok e' ∧ erase e' = erase ex11 :=
  print_parse_roundtrip_tokens ff0 pf0 ex11 canon_elvis.1 _ (withPos_carries 0 _)
example : ∃ e', parseExprEntry pf0 (withPos 0 (toks ff0 ex13 ++ [tEOF])) = .ok e' ∧ erase e' = erase ex13 :=
  print_parse_roundtrip_tokens ff0 pf0 ex13 canon_elvis.2.1 _ (withPos_carries 0 _)
example : ∃ e', parseExprEntry pf0 (withPos 0 (toks ff0 ex14 ++ [tEOF])) = .ok e' ∧ erase e' = erase ex14 :=
  print_parse_roundtrip_tokens ff0 pf0 ex14 canon_elvis.2.2 _ (withPos_carries 0 _)

end SoyVerif.Inst.C17
