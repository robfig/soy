/-
  C17 / C01, byte level — obligations over the GENERATED lexer tables (Gen/LexTables.lean: the
  running code's `arithmeticItemsBySymbol`, `builtinIdents`, the probed set of tokens after which
  `-` is unary; Gen/Unicode.lean: the Go toolchain's `unicode.Letter` / `unicode.Nd` tables) and
  the theorems of Props/C17b.lean instantiated with them (`lexTableOK` itself: Inst/LexTables.lean).

  Non-vacuity: the lexer model EVALUATED by the kernel on printed texts (independent of the
  theorems), the theorems applied to the example trees of Inst/C17.lean, and the whole loop
  print → lex → parse → print evaluated.
-/
import SoyVerif.Props.C17b
import SoyVerif.Inst.C17
import SoyVerif.Inst.LexTables

namespace SoyVerif.Inst.C17b
open SoyVerif SoyVerif.Model SoyVerif.Model.Lex SoyVerif.Model.Parser SoyVerif.Model.PrintTokens
open SoyVerif.Model.Printer SoyVerif.Lemmas.LexPrint SoyVerif.Props.C17b
open SoyVerif.Inst.C17 (tableOK ff0 pf0 ex1 ex2 ex3 ex4 ex5 ex6 ex7 ex8 ex9 exKey canon_examples canon_exKey i v)

/-- every operator spelling of the printer is the key of its token in `arithmeticItemsBySymbol`
    (`"+"` ↦ `itemAdd`, …), and so are `(` `)` `:`, which the lexer looks up there; `?` and `not` are keys too, though
    the lexer reads them otherwise (`?` in `lexInsideTagMid`, `not` through `builtinIdents`) -/
theorem symbols_cover :
    (∀ op ∈ BinOp.all, Gen.symbols.lookup op.sym = some (tokOf op)) ∧
    Gen.symbols.lookup [43] = some .tAdd ∧ Gen.symbols.lookup [40] = some .tLeftParen ∧
    Gen.symbols.lookup [41] = some .tRightParen ∧ Gen.symbols.lookup [58] = some .tColon ∧
    Gen.symbols.lookup [63] = some .tTernIf ∧ Gen.symbols.lookup [110, 111, 116] = some .tNot := by decide

/-- prefix conflicts among the symbol spellings: a key is a proper prefix of another key only for
    `<`/`<=`, `>`/`>=`, `?`/`?:` — exactly the tokens after which the printer always puts a space
    (`TokOk.op`, `TokOk.ternif`); `!` and `=` alone are no keys (`!=`, `==` are read greedily) -/
theorem symbols_prefixes :
    ((Gen.symbols.map (·.1)).flatMap fun k1 => ((Gen.symbols.map (·.1)).filter fun k2 => k1.isPrefixOf k2 && k1 != k2).map
      fun k2 => (k1, k2)) = [([60], [60, 61]), ([62], [62, 61]), ([63], [63, 58])] ∧
    Gen.symbols.lookup [33] = none ∧ Gen.symbols.lookup [61] = none := by decide

/-- the two dumps of the unary-minus predecessor set (lexer tables / parser tables) agree -/
theorem unary_sets_agree : Gen.unaryMinusAfter = Gen.ParseTables.unaryMinusAfter := by decide

/-- EXACTLY which names `NamesOk` excludes as function names / first segments of globals: the keys
    of `builtinIdents` that are identifiers (the lexer reads them as the keyword, not as an Ident):
    alias and call case css debugger default else elseif false for foreach if ifempty lb let literal log msg
    namespace nil not null or param plural print rb sp switch template true -/
theorem keyword_names :
    (Gen.builtinIdents.map (·.1)).filter identOk =
      [[97, 108, 105, 97, 115], [97, 110, 100], [99, 97, 108, 108], [99, 97, 115, 101], [99, 115, 115],
       [100, 101, 98, 117, 103, 103, 101, 114], [100, 101, 102, 97, 117, 108, 116], [101, 108, 115, 101],
       [101, 108, 115, 101, 105, 102], [102, 97, 108, 115, 101], [102, 111, 114], [102, 111, 114, 101, 97, 99, 104],
       [105, 102], [105, 102, 101, 109, 112, 116, 121], [108, 98], [108, 101, 116], [108, 105, 116, 101, 114, 97, 108],
       [108, 111, 103], [109, 115, 103], [110, 97, 109, 101, 115, 112, 97, 99, 101], [110, 105, 108], [110, 111, 116],
       [110, 117, 108, 108], [111, 114], [112, 97, 114, 97, 109], [112, 108, 117, 114, 97, 108], [112, 114, 105, 110, 116],
       [114, 98], [115, 112], [115, 119, 105, 116, 99, 104], [116, 101, 109, 112, 108, 97, 116, 101], [116, 114, 117, 101]] := by
  decide

section
variable (ff : UInt64 → Bytes) (pf : Bytes → Option UInt64)

theorem lex_print (e : Expr) (hN : NamesOk ff e = true) :
    ∃ items, lexAll (printExpr ff e) true = .items items ∧ items.map Item.tk = toks ff e ++ [errTk] :=
  Props.C17b.lex_print ff lexTableOK e hN

theorem lex_print_items (e : Expr) (hN : NamesOk ff e = true) :
    lexAll (printExpr ff e) true = .items (emitAll 0 (pieces ff e)) :=
  Props.C17b.lex_print_items ff lexTableOK e hN

theorem print_parse_roundtrip_bytes (e : Expr) (hC : Canon ff pf e) (hN : NamesOk ff e = true) :
    ∃ items e', lexAll (printExpr ff e) true = .items items ∧ parseExprEntry pf items = .ok e' ∧
      erase e' = erase e :=
  Props.C17b.print_parse_roundtrip_bytes ff pf lexTableOK tableOK e hC hN

theorem parse_complete_bytes (e : Expr) (ps : List Piece) (ha : Adj ps [])
    (hc : SoyVerif.Lemmas.ParserAdj.chainOK .tInvalid (SoyVerif.Lemmas.ParserAdj.typs (unsp ps)) = true)
    (hR : SoyVerif.Props.C17.RendersTop pf e (unsp ps)) :
    ∃ items e', lexAll (spell ps) true = .items items ∧ parseExprEntry pf items = .ok e' ∧ erase e' = erase e :=
  Props.C17b.parse_complete_bytes pf lexTableOK tableOK e ps ha hc hR

theorem print_injective_bytes (a b : Expr) (ha : Canon ff pf a) (hb : Canon ff pf b)
    (hna : NamesOk ff a = true) (hnb : NamesOk ff b = true) (h : printExpr ff a = printExpr ff b) :
    erase a = erase b :=
  Props.C17b.print_injective_bytes ff pf lexTableOK tableOK a b ha hb hna hnb h

theorem lex_quoted_string (v : Bytes) :
    lexAll (quoteString v) true =
      .items [⟨.tString, (quoteString v).length, quoteString v⟩, errItem] :=
  Props.C17b.lex_quoted_string lexTableOK v

theorem lex_int (v : Int) :
    lexAll (fmtInt v) true = .items [⟨.tInteger, (fmtInt v).length, fmtInt v⟩, errItem] :=
  Props.C17b.lex_int lexTableOK v

theorem lex_float (val : Bytes) (h : floatSpelling val = true) :
    lexAll val true = .items [⟨.tFloat, val.length, val⟩, errItem] :=
  Props.C17b.lex_float lexTableOK val h

end

/-- floats with Go's formatter (`F64.format`, the soft-float model of FormatFloat 'g'): no hypothesis on the
    spelling — finiteness is enough (Lemmas/F64Shape.lean) -/
theorem lex_float_finite (bits : UInt64) (hn : (F64.mk bits).isNaN = false) (hi : (F64.mk bits).isInf = false) :
    lexAll (fmtFloatLit ffGo bits) true =
      .items [⟨.tFloat, (fmtFloatLit ffGo bits).length, fmtFloatLit ffGo bits⟩, errItem] :=
  Props.C17b.lex_float_finite lexTableOK bits hn hi

theorem lex_print_go (e : Expr) (hF : floatsFinite e = true) (hN : NamesOk ff1 e = true) :
    ∃ items, lexAll (printExpr ffGo e) true = .items items ∧ items.map Item.tk = toks ffGo e ++ [errTk] :=
  Props.C17b.lex_print_go lexTableOK e hF hN

/-- `1e+21 * 100.0`: printed with the soft-float formatter and lexed back -/
def exFloat : Expr := .bin .mul 0 (.float 0 0x444b1ae4d6e2ef50) (.float 0 0x4059000000000000)
example : printExpr ffGo exFloat = [49, 101, 43, 50, 49, 32, 42, 32, 49, 48, 48, 46, 48] := by decide +kernel
example : ∃ items, lexAll (printExpr ffGo exFloat) true = .items items ∧ items.map Item.tk = toks ffGo exFloat ++ [errTk] :=
  lex_print_go exFloat (by decide +kernel) (by decide)

/-- the whole loop evaluated by the kernel: print, lex the bytes, parse the items, erase, print -/
def roundTripBytes (e : Expr) : Option Bytes :=
  match lexAll (printExpr ff0 e) true with
  | .items its =>
    match parseExprEntry pf0 its with
    | .ok e' => some (printExpr ff0 (erase e'))
    | .error _ => none
  | _ => none

/-- The kernel's evaluations of the lexer model for the examples below and for Inst/C17c.lean, proved in ONE
    declaration: a rune that is not a letter (the blank after a number, the end of a name) is compared with
    every range of the generated `unicode.Letter` table, `Array.any` reaches entry `j` of the table in `j`
    steps of `List.get`, and the kernel shares the entries it has reached only inside one declaration. -/
structure KernelEvaluated : Prop where
  sp : lexAll [115, 112] true = .items [⟨.tSpace, 2, [115, 112]⟩, ⟨.tError, 0, [clsTag]⟩]
  paren : lexAll [40, 49, 32, 43, 32, 50, 41, 32, 42, 32, 51] true =
      .items [⟨.tLeftParen, 1, [40]⟩, ⟨.tInteger, 2, [49]⟩, ⟨.tAdd, 4, [43]⟩, ⟨.tInteger, 6, [50]⟩, ⟨.tRightParen, 7, [41]⟩,
        ⟨.tMul, 9, [42]⟩, ⟨.tInteger, 11, [51]⟩, ⟨.tError, 0, [clsTag]⟩]
  neg : lexAll [45, 40, 53, 41] true =
      .items [⟨.tNegate, 1, [45]⟩, ⟨.tLeftParen, 2, [40]⟩, ⟨.tInteger, 3, [53]⟩, ⟨.tRightParen, 4, [41]⟩,
        ⟨.tError, 0, [clsTag]⟩]
  tern : lexAll [36, 97, 32, 63, 32, 91, 49, 93, 32, 58, 32, 36, 98, 46, 99] true =
      .items [⟨.tDollarIdent, 2, [36, 97]⟩, ⟨.tTernIf, 4, [63]⟩, ⟨.tLeftBracket, 6, [91]⟩, ⟨.tInteger, 7, [49]⟩,
        ⟨.tRightBracket, 8, [93]⟩, ⟨.tColon, 10, [58]⟩, ⟨.tDollarIdent, 13, [36, 98]⟩, ⟨.tDotIdent, 15, [46, 99]⟩,
        ⟨.tError, 0, [clsTag]⟩]
  notAnd : lexAll [110, 111, 116, 32, 40, 36, 120, 32, 97, 110, 100, 32, 36, 121, 41] true =
      .items [⟨.tNot, 3, [110, 111, 116]⟩, ⟨.tLeftParen, 5, [40]⟩, ⟨.tDollarIdent, 7, [36, 120]⟩, ⟨.tAnd, 11, [97, 110, 100]⟩,
        ⟨.tDollarIdent, 14, [36, 121]⟩, ⟨.tRightParen, 15, [41]⟩, ⟨.tError, 0, [clsTag]⟩]
  loop9 : roundTripBytes ex9 = some (printExpr ff0 ex9)
  loopKey : roundTripBytes exKey = some (printExpr ff0 exKey)
  names : NamesOk ff0 (.func 0 [102, 217, 163] (.cons (.global 0 [120, 46, 195, 169]) .nil)) = true
  -- the print command `{$a ?: -1|truncate:$b ? 1 : 2,-3|id}` of Inst/C17c.lean, lexed as a file
  printCmd : lexAll [123, 36, 97, 32, 63, 58, 32, 45, 49, 124, 116, 114, 117, 110, 99, 97, 116, 101, 58, 36, 98, 32, 63, 32, 49, 32,
        58, 32, 50, 44, 45, 51, 124, 105, 100, 125] false =
      .items [⟨.tLeftDelim, 1, [123]⟩, ⟨.tDollarIdent, 3, [36, 97]⟩, ⟨.tElvis, 6, [63, 58]⟩, ⟨.tInteger, 9, [45, 49]⟩,
        ⟨.tPipe, 10, [124]⟩, ⟨.tIdent, 18, [116, 114, 117, 110, 99, 97, 116, 101]⟩, ⟨.tColon, 19, [58]⟩,
        ⟨.tDollarIdent, 21, [36, 98]⟩, ⟨.tTernIf, 23, [63]⟩, ⟨.tInteger, 25, [49]⟩, ⟨.tColon, 27, [58]⟩,
        ⟨.tInteger, 29, [50]⟩, ⟨.tComma, 30, [44]⟩, ⟨.tInteger, 32, [45, 51]⟩, ⟨.tPipe, 33, [124]⟩,
        ⟨.tIdent, 35, [105, 100]⟩, ⟨.tRightDelim, 36, [125]⟩, ⟨.tEOF, 36, []⟩]

theorem kernel_evaluated : KernelEvaluated := by
  refine (fun (h : _ ∧ _ ∧ _ ∧ _ ∧ _ ∧ _ ∧ _ ∧ _ ∧ _) =>
    ⟨h.1, h.2.1, h.2.2.1, h.2.2.2.1, h.2.2.2.2.1, h.2.2.2.2.2.1, h.2.2.2.2.2.2.1, h.2.2.2.2.2.2.2.1,
      h.2.2.2.2.2.2.2.2⟩) ?_
  decide +kernel

theorem names_examples :
    NamesOk ff0 ex1 = true ∧ NamesOk ff0 ex2 = true ∧ NamesOk ff0 ex3 = true ∧ NamesOk ff0 ex4 = true ∧
    NamesOk ff0 ex5 = true ∧ NamesOk ff0 ex6 = true ∧ NamesOk ff0 ex7 = true ∧ NamesOk ff0 ex8 = true ∧
    NamesOk ff0 ex9 = true ∧ NamesOk ff0 exKey = true := by decide

/-- accepted: identifiers with letters and digits of any script — `$é`, `$a.ñ1`, `f٣(x.é)` (U+0663 is a digit) -/
example : NamesOk ff0 (.dataRef 0 [195, 169] .nil) = true := by decide +kernel
example : NamesOk ff0 (.dataRef 0 [97] (.cons (.key 0 false [195, 177, 49]) .nil)) = true := by decide +kernel
example : NamesOk ff0 (.func 0 [102, 217, 163] (.cons (.global 0 [120, 46, 195, 169]) .nil)) = true :=
  kernel_evaluated.names
example : ∃ items, lexAll [36, 195, 169] true = .items items ∧ items.map Item.tk = [⟨.tDollarIdent, [36, 195, 169]⟩, errTk] :=
  lex_print ff0 (.dataRef 0 [195, 169] .nil) (by decide +kernel)

/-- rejected: the dangling dot `$a. + 1` — a name after `.` begins with a letter or `_`.  The
    lexer reports it at the `.` (class 7). -/
def exDot : Expr := .bin .add 0 (.dataRef 0 [97] (.cons (.key 0 false []) .nil)) (.int 0 1)
example : printExpr ff0 exDot = [36, 97, 46, 32, 43, 32, 49] ∧ NamesOk ff0 exDot = false := by decide

/-- rejected: a global named `and`, a function named `print`, a key `$9x`, a key `.1a` (an index token), the index `.-3`, a global
    with an empty segment `.a`, `a..b`, the string spellings `'a'b'` and `'a\'` (both of which `unquoteString`
    accepts), the float spelling `NaN` -/
example : NamesOk ff0 (.global 0 [97, 110, 100]) = false := by decide
example : NamesOk ff0 (.func 0 [112, 114, 105, 110, 116] .nil) = false := by decide
example : NamesOk ff0 (.dataRef 0 [57, 120] .nil) = false := by decide
example : NamesOk ff0 (.dataRef 0 [97] (.cons (.key 0 false [49, 97]) .nil)) = false := by decide
example : NamesOk ff0 (.dataRef 0 [97] (.cons (.index 0 false (-3)) .nil)) = false := by decide
example : NamesOk ff0 (.global 0 [46, 97]) = false ∧ NamesOk ff0 (.global 0 [97, 46, 46, 98]) = false := by decide
example : NamesOk ff0 (.str 0 [39, 97, 39, 98, 39] [97, 39, 98]) = false ∧
    Quote.unquoteString [39, 97, 39, 98, 39] = some [97, 39, 98] := by decide
example : NamesOk ff0 (.str 0 [39, 97, 92, 39] [97]) = false := by decide
example : NamesOk (fun _ => [78, 97, 78]) (.float 0 0) = false := by decide
/-- accepted float spellings: `1.5`, `-0.25`, `1e+06`, `2.5e-07`, `100.0`; rejected: `1.`, `.5`, `01e5`, `+Inf` -/
example : floatSpelling [49, 46, 53] = true ∧ floatSpelling [45, 48, 46, 50, 53] = true ∧
    floatSpelling [49, 101, 43, 48, 54] = true ∧ floatSpelling [50, 46, 53, 101, 45, 48, 55] = true ∧
    floatSpelling [49, 48, 48, 46, 48] = true ∧ floatSpelling [49, 46] = false ∧ floatSpelling [46, 53] = false ∧
    floatSpelling [48, 49, 101, 53] = false ∧ floatSpelling [43, 73, 110, 102] = false ∧ floatSpelling [49] = false := by decide

/-- why the keyword condition is needed: the text `sp` lexes as the command `{sp}`, not as an identifier -/
example : lexAll [115, 112] true = .items [⟨.tSpace, 2, [115, 112]⟩, ⟨.tError, 0, [clsTag]⟩] := kernel_evaluated.sp

/-- `(1 + 2) * 3` -/
example : lexAll [40, 49, 32, 43, 32, 50, 41, 32, 42, 32, 51] true =
    .items [⟨.tLeftParen, 1, [40]⟩, ⟨.tInteger, 2, [49]⟩, ⟨.tAdd, 4, [43]⟩, ⟨.tInteger, 6, [50]⟩, ⟨.tRightParen, 7, [41]⟩,
      ⟨.tMul, 9, [42]⟩, ⟨.tInteger, 11, [51]⟩, ⟨.tError, 0, [clsTag]⟩] := kernel_evaluated.paren

/-- `-(5)`: a Negate token, not the sign of a number -/
example : lexAll [45, 40, 53, 41] true =
    .items [⟨.tNegate, 1, [45]⟩, ⟨.tLeftParen, 2, [40]⟩, ⟨.tInteger, 3, [53]⟩, ⟨.tRightParen, 4, [41]⟩,
      ⟨.tError, 0, [clsTag]⟩] := kernel_evaluated.neg

/-- `$a ? [1] : $b.c` -/
example : lexAll [36, 97, 32, 63, 32, 91, 49, 93, 32, 58, 32, 36, 98, 46, 99] true =
    .items [⟨.tDollarIdent, 2, [36, 97]⟩, ⟨.tTernIf, 4, [63]⟩, ⟨.tLeftBracket, 6, [91]⟩, ⟨.tInteger, 7, [49]⟩,
      ⟨.tRightBracket, 8, [93]⟩, ⟨.tColon, 10, [58]⟩, ⟨.tDollarIdent, 13, [36, 98]⟩, ⟨.tDotIdent, 15, [46, 99]⟩,
      ⟨.tError, 0, [clsTag]⟩] := kernel_evaluated.tern

/-- `not ($x and $y)` -/
example : lexAll [110, 111, 116, 32, 40, 36, 120, 32, 97, 110, 100, 32, 36, 121, 41] true =
    .items [⟨.tNot, 3, [110, 111, 116]⟩, ⟨.tLeftParen, 5, [40]⟩, ⟨.tDollarIdent, 7, [36, 120]⟩, ⟨.tAnd, 11, [97, 110, 100]⟩,
      ⟨.tDollarIdent, 14, [36, 121]⟩, ⟨.tRightParen, 15, [41]⟩, ⟨.tError, 0, [clsTag]⟩] := kernel_evaluated.notAnd

/-- `1 - -2.5e-07` (binary minus, then the sign of a float) and `$a ?: 'x\'y'`: by the theorem
    `lexAll_pieces` on the piece lists (evaluating `emitAll`, not the lexer) -/
example : lexAll [49, 32, 45, 32, 45, 50, 46, 53, 101, 45, 48, 55] true =
    .items [⟨.tInteger, 1, [49]⟩, ⟨.tSub, 3, [45]⟩, ⟨.tFloat, 12, [45, 50, 46, 53, 101, 45, 48, 55]⟩,
      errItem] := by
  have h := lexAll_pieces lexTableOK
    [.tok ⟨.tInteger, [49]⟩, .sp, .tok (tOp .sub), .sp, .tok ⟨.tFloat, [45, 50, 46, 53, 101, 45, 48, 55]⟩]
    ⟨tok_int 1 (closer_numEnd (closer_sp _)), tok_op lexTableOK .sub _,
      tok_float (by decide) (closer_numEnd closer_nil), trivial⟩ (by decide)
  exact h
example : lexAll [36, 97, 32, 63, 58, 32, 39, 120, 92, 39, 121, 39] true =
    .items [⟨.tDollarIdent, 2, [36, 97]⟩, ⟨.tElvis, 5, [63, 58]⟩, ⟨.tString, 12, [39, 120, 92, 39, 121, 39]⟩,
      errItem] := by
  have h := lexAll_pieces lexTableOK
    [.tok ⟨.tDollarIdent, [36, 97]⟩, .sp, .tok (tOp .elvis), .sp, .tok (tString [39, 120, 92, 39, 121, 39])]
    ⟨tok_dollar (k := [97]) (by decide) (closer_wordEnd (closer_sp _)), tok_op lexTableOK .elvis _,
      .str _ _ (by decide), trivial⟩ (by decide)
  exact h

/-- the items of `(1 + 2) * 3` as the theorem gives them (`emitAll`), evaluated -/
example : lexAll (printExpr ff0 ex1) true =
    .items [⟨.tLeftParen, 1, [40]⟩, ⟨.tInteger, 2, [49]⟩, ⟨.tAdd, 4, [43]⟩, ⟨.tInteger, 6, [50]⟩, ⟨.tRightParen, 7, [41]⟩,
      ⟨.tMul, 9, [42]⟩, ⟨.tInteger, 11, [51]⟩, errItem] := by
  rw [lex_print_items ff0 ex1 names_examples.1]; decide

example : ∃ items e', lexAll (printExpr ff0 ex4) true = .items items ∧ parseExprEntry pf0 items = .ok e' ∧
    erase e' = erase ex4 :=
  print_parse_roundtrip_bytes ff0 pf0 ex4 canon_examples.2.2.2.1 names_examples.2.2.2.1
example : ∃ items e', lexAll (printExpr ff0 ex8) true = .items items ∧ parseExprEntry pf0 items = .ok e' ∧
    erase e' = erase ex8 :=
  print_parse_roundtrip_bytes ff0 pf0 ex8 canon_examples.2.2.2.2.2.2.2.1 names_examples.2.2.2.2.2.2.2.1
example : ∃ items e', lexAll (printExpr ff0 ex9) true = .items items ∧ parseExprEntry pf0 items = .ok e' ∧
    erase e' = erase ex9 :=
  print_parse_roundtrip_bytes ff0 pf0 ex9 canon_examples.2.2.2.2.2.2.2.2 names_examples.2.2.2.2.2.2.2.2.1
/-- `['\xff': 1]`: a key that is one invalid UTF-8 byte goes through the string lexer -/
example : ∃ items e', lexAll (printExpr ff0 exKey) true = .items items ∧ parseExprEntry pf0 items = .ok e' ∧
    erase e' = erase exKey :=
  print_parse_roundtrip_bytes ff0 pf0 exKey canon_exKey names_examples.2.2.2.2.2.2.2.2.2

/-- redundant parentheses and other spacing, from bytes: `((1))+ (2 * (3))` is lexed and parsed to `1 + 2 * 3`
    (no space in front of `+`, where the printer puts one; an operator symbol is always followed by one) -/
def ps10 : List Piece :=
  [.tok tLP, .tok tLP, .tok ⟨.tInteger, [49]⟩, .tok tRP, .tok tRP, .tok ⟨.tAdd, [43]⟩, .sp, .tok tLP, .tok ⟨.tInteger, [50]⟩, .sp,
   .tok (tOp .mul), .sp, .tok tLP, .tok ⟨.tInteger, [51]⟩, .tok tRP, .tok tRP]

example : spell ps10 = [40, 40, 49, 41, 41, 43, 32, 40, 50, 32, 42, 32, 40, 51, 41, 41] ∧ unsp ps10 = SoyVerif.Inst.C17.ts10 := by decide

theorem adj_ps10 : Adj ps10 [] :=
  ⟨.lp _, .lp _, tok_int 1 (closer_numEnd (closer_rp _)), .rp _, .rp _, .op .add _ (by decide), .lp _,
    tok_int 2 (closer_numEnd (closer_sp _)), tok_op lexTableOK .mul _, .lp _, tok_int 3 (closer_numEnd (closer_rp _)),
    .rp _, .rp _, trivial⟩

example : ∃ items e', lexAll [40, 40, 49, 41, 41, 43, 32, 40, 50, 32, 42, 32, 40, 51, 41, 41] true = .items items ∧
    parseExprEntry pf0 items = .ok e' ∧ erase e' = erase SoyVerif.Inst.C17.ex10 :=
  parse_complete_bytes pf0 SoyVerif.Inst.C17.ex10 ps10 adj_ps10 (by decide) SoyVerif.Inst.C17.renders_ex10

/-- the whole loop print → lex → parse → print on `ex9` and `exKey` -/
example : roundTripBytes ex9 = some (printExpr ff0 ex9) := kernel_evaluated.loop9
example : roundTripBytes exKey = some (printExpr ff0 exKey) := kernel_evaluated.loopKey

end SoyVerif.Inst.C17b
