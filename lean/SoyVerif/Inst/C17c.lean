/-
  The theorems about print commands from the bytes, at the generated lexer and parser tables (`lexTableOK`, `tableOK`):
  the lone command (namespace `Props.C17c`, declared at the end of Props/C17d.lean) and the command inside a body, a
  `{template}` and a file with `{namespace}` (Props/C17d.lean).  Each is applied to an example: the command
  `{$a ?: -1|truncate:$b ? 1 : 2,-3|id}` (its lexing also evaluated by the kernel, Inst/C17b's `kernel_evaluated`), and the
  body `exBody` alone, inside `{template .t1}` and inside a file.
-/
import SoyVerif.Props.C17c
import SoyVerif.Props.C17d
import SoyVerif.Inst.C17b

namespace SoyVerif.Inst.C17c
open SoyVerif SoyVerif.Model SoyVerif.Model.Lex SoyVerif.Model.PrintTokens SoyVerif.Model.Printer
open SoyVerif.Props.C17c
open SoyVerif.Inst.C17b (lexTableOK kernel_evaluated)
open SoyVerif.Inst.C17 (ff0 i v)

theorem lex_print_cmd (ff : UInt64 → Bytes) (arg : Expr) (dirs : List Directive) (h : CmdOk ff arg dirs) :
    ∃ items, lexAll (printPrint ff arg dirs) false = .items items ∧
      items.map Item.tk = ⟨.tLeftDelim, [123]⟩ :: (unsp (piecesBody ff arg dirs) ++ [⟨.tRightDelim, [125]⟩, ⟨.tEOF, []⟩]) :=
  SoyVerif.Props.C17c.lex_print_cmd ff lexTableOK arg dirs h

/-- `{$a ?: -1|truncate:$b ? 1 : 2,-3|id}` -/
def exArg : Expr := .bin .elvis 0 (v 97) (i (-1))
def exDirs : List Directive :=
  [⟨0, [116, 114, 117, 110, 99, 97, 116, 101], [.tern 0 (v 98) (i 1) (i 2), i (-3)]⟩, ⟨0, [105, 100], []⟩]

example : printPrint ff0 exArg exDirs =
    [123, 36, 97, 32, 63, 58, 32, 45, 49, 124, 116, 114, 117, 110, 99, 97, 116, 101, 58, 36, 98, 32, 63, 32, 49, 32, 58, 32, 50,
      44, 45, 51, 124, 105, 100, 125] := by decide

/-- the lexer model on that text (kernel-evaluated, in `kernel_evaluated` of Inst/C17b.lean, which is stated on
    the bytes above): 18 items, the last two RightDelim and EOF -/
example : (match lexAll (printPrint ff0 exArg exDirs) false with
    | .items its => some (its.map (·.typ))
    | _ => none) =
  some [.tLeftDelim, .tDollarIdent, .tElvis, .tInteger, .tPipe, .tIdent, .tColon, .tDollarIdent, .tTernIf, .tInteger, .tColon,
    .tInteger, .tComma, .tInteger, .tPipe, .tIdent, .tRightDelim, .tEOF] := by
  have h : lexAll (printPrint ff0 exArg exDirs) false = _ := kernel_evaluated.printCmd
  rw [h]
  rfl

open SoyVerif.Inst.C17 (tableOK pf0)
open SoyVerif.Model.Parser SoyVerif.Lemmas.ParserBasic
open SoyVerif.Model.FileParser (parsePrint Node)

theorem print_cmd_roundtrip_bytes (ff : UInt64 → Bytes) (pf : Bytes → Option UInt64) (arg : Expr) (dirs : List Directive)
    (hN : CmdOk ff arg dirs) (hC : CmdCanon ff pf arg dirs) (token : Item) :
    ∃ items e' ds' p2, lexAll (printPrint ff arg dirs) false = .items items ∧
      parsePrint pf (8 * items.length + 1) (2 * items.length + 2) token { p := initState items.tail } =
        .ok (Node.print token.pos e' ds', { p := p2 }) ∧
      erase e' = erase arg ∧ ds'.map eraseDir = dirs.map eraseDir ∧ At p2 [⟨.tEOF, []⟩] :=
  SoyVerif.Props.C17c.print_cmd_roundtrip_bytes ff pf lexTableOK tableOK arg dirs hN hC token

theorem print_cmd_injective_bytes (ff : UInt64 → Bytes) (pf : Bytes → Option UInt64) (a b : Expr) (da db : List Directive)
    (hNa : CmdOk ff a da) (hNb : CmdOk ff b db) (hCa : CmdCanon ff pf a da) (hCb : CmdCanon ff pf b db)
    (h : printPrint ff a da = printPrint ff b db) : erase a = erase b ∧ da.map eraseDir = db.map eraseDir :=
  SoyVerif.Props.C17c.print_cmd_injective_bytes ff pf lexTableOK tableOK a b da db hNa hNb hCa hCb h

/-- the hypotheses hold of the example `{$a ?: -1|truncate:$b ? 1 : 2,-3|id}` -/
theorem exCmd_ok : CmdOk ff0 exArg exDirs := by
  refine ⟨by decide, ?_⟩
  intro d hd
  simp only [exDirs, List.mem_cons, List.mem_nil_iff, or_false] at hd
  rcases hd with rfl | rfl
  · refine ⟨⟨116, [114, 117, 110, 99, 97, 116, 101], rfl, by decide, by decide, by decide⟩, ?_⟩
    intro a ha
    simp only [List.mem_cons, List.mem_nil_iff, or_false] at ha
    rcases ha with rfl | rfl <;> decide
  · exact ⟨⟨105, [100], rfl, by decide, by decide, by decide⟩, fun a ha => by cases ha⟩

theorem exCmd_canon : CmdCanon ff0 pf0 exArg exDirs := by
  refine ⟨by simp only [exArg, i, v, Canon, CanonAL]; decide, ?_⟩
  intro d hd a ha
  simp only [exDirs, List.mem_cons, List.mem_nil_iff, or_false] at hd
  rcases hd with rfl | rfl
  · simp only [List.mem_cons, List.mem_nil_iff, or_false] at ha
    rcases ha with rfl | rfl <;> (simp only [i, v, Canon, CanonAL]; decide)
  · cases ha

example : ∃ items e' ds' p2, lexAll (printPrint ff0 exArg exDirs) false = .items items ∧
    parsePrint pf0 (8 * items.length + 1) (2 * items.length + 2) Item.zero { p := initState items.tail } =
      .ok (Node.print 0 e' ds', { p := p2 }) ∧
    erase e' = erase exArg ∧ ds'.map eraseDir = exDirs.map eraseDir ∧ At p2 [⟨.tEOF, []⟩] :=
  print_cmd_roundtrip_bytes ff0 pf0 exArg exDirs exCmd_ok exCmd_canon Item.zero

open SoyVerif.Model.FileParser (parseSource)

theorem print_cmd_file_roundtrip (ff : UInt64 → Bytes) (pf : Bytes → Option UInt64) (arg : Expr) (dirs : List Directive)
    (hN : CmdOk ff arg dirs) (hC : CmdCanon ff pf arg dirs) :
    ∃ pos e' ds', parseSource pf (printPrint ff arg dirs) = .ok [Node.print pos e' ds'] ∧
      erase e' = erase arg ∧ ds'.map eraseDir = dirs.map eraseDir :=
  SoyVerif.Props.C17c.print_cmd_file_roundtrip ff pf lexTableOK tableOK arg dirs hN hC

theorem print_cmd_file_injective (ff : UInt64 → Bytes) (pf : Bytes → Option UInt64) (a b : Expr) (da db : List Directive)
    (hNa : CmdOk ff a da) (hNb : CmdOk ff b db) (hCa : CmdCanon ff pf a da) (hCb : CmdCanon ff pf b db)
    (h : parseSource pf (printPrint ff a da) = parseSource pf (printPrint ff b db)) :
    erase a = erase b ∧ da.map eraseDir = db.map eraseDir :=
  SoyVerif.Props.C17c.print_cmd_file_injective ff pf lexTableOK tableOK a b da db hNa hNb hCa hCb h

/-- non-vacuity: the file `{$a ?: -1|truncate:$b ? 1 : 2,-3|id}` parses to the one print node -/
example : ∃ pos e' ds', parseSource pf0 (printPrint ff0 exArg exDirs) = .ok [Node.print pos e' ds'] ∧
    erase e' = erase exArg ∧ ds'.map eraseDir = exDirs.map eraseDir :=
  print_cmd_file_roundtrip ff0 pf0 exArg exDirs exCmd_ok exCmd_canon

open SoyVerif.Props.C15c (textOK textNodes)

theorem print_cmd_in_body_roundtrip (ff : UInt64 → Bytes) (pf : Bytes → Option UInt64) (t1 t2 : Bytes)
    (h1 : t1 = [] ∨ textOK t1) (h2 : t2 = [] ∨ textOK t2) (arg : Expr) (dirs : List Directive)
    (hN : CmdOk ff arg dirs) (hC : CmdCanon ff pf arg dirs) :
    ∃ p1 pos p2 e' ds', parseSource pf (t1 ++ printPrint ff arg dirs ++ t2) =
        .ok (textNodes t1 p1 ++ [Node.print pos e' ds'] ++ textNodes t2 p2) ∧
      erase e' = erase arg ∧ ds'.map eraseDir = dirs.map eraseDir :=
  SoyVerif.Props.C17d.print_cmd_in_body_roundtrip ff pf lexTableOK tableOK t1 t2 h1 h2 arg dirs hN hC

/-- non-vacuity: `Hi {$a ?: -1|truncate:$b ? 1 : 2,-3|id}!⏎` -/
example : ∃ p1 pos p2 e' ds', parseSource pf0 ([72, 105, 32] ++ printPrint ff0 exArg exDirs ++ [33, 10]) =
      .ok (textNodes [72, 105, 32] p1 ++ [Node.print pos e' ds'] ++ textNodes [33, 10] p2) ∧
    erase e' = erase exArg ∧ ds'.map eraseDir = exDirs.map eraseDir :=
  print_cmd_in_body_roundtrip ff0 pf0 _ _ (Or.inr (by decide)) (Or.inr (by decide)) exArg exDirs exCmd_ok exCmd_canon

open SoyVerif.Props.C17d (CBody BPiece WFL CanonB NodesMatch srcOfC itemsOfC)

theorem body_source_spec_cmds (ff : UInt64 → Bytes) (pf : Bytes → Option UInt64) (b : CBody) (hw : WFL ff b)
    (hc : CanonB ff pf b) :
    lexAll (srcOfC ff b) false = .items (itemsOfC ff 0 b) ∧
      ∃ nl, parseSource pf (srcOfC ff b) = .ok nl ∧ NodesMatch nl b :=
  SoyVerif.Props.C17d.body_source_spec_cmds ff pf lexTableOK tableOK b hw hc

/-- `Hi {$a ?: -1|truncate:$b ? 1 : 2,-3|id}⏎␣␣{$a}!` -/
def exBody : CBody := [.text [72, 105, 32], .cmd exArg exDirs, .text [10, 32, 32], .cmd (v 97) [], .text [33]]

theorem exBody_wf : WFL ff0 exBody :=
  ⟨by decide, by simp [BPiece.isText], exCmd_ok, by decide, by simp [BPiece.isText],
    ⟨by decide, fun d hd => by cases hd⟩, by decide, by simp, trivial⟩

theorem exBody_canon : CanonB ff0 pf0 exBody :=
  ⟨exCmd_canon, ⟨by simp only [v, Canon, CanonAL], fun d hd => by cases hd⟩, trivial⟩

/-- non-vacuity: two print commands, three text pieces (the middle one dropped by the lexer) -/
example : lexAll (srcOfC ff0 exBody) false = .items (itemsOfC ff0 0 exBody) ∧
    ∃ nl, parseSource pf0 (srcOfC ff0 exBody) = .ok nl ∧ NodesMatch nl exBody :=
  body_source_spec_cmds ff0 pf0 exBody exBody_wf exBody_canon

open SoyVerif.Props.C17d (NameOk frameSrc frameItems)

theorem template_frame_spec (ff : UInt64 → Bytes) (pf : Bytes → Option UInt64) (nm : Bytes) (hnm : NameOk nm) (b : CBody)
    (hw : WFL ff b) (hc : CanonB ff pf b) :
    lexAll (frameSrc ff nm b) false = .items (frameItems ff nm b) ∧
      ∃ tpos lp nl, parseSource pf (frameSrc ff nm b) =
          .ok [Node.template tpos (46 :: nm) (.list lp nl) .unspecified false] ∧ NodesMatch nl.toList b :=
  SoyVerif.Props.C17d.template_frame_spec ff pf lexTableOK tableOK nm hnm b hw hc

theorem name_t1 : NameOk [116, 49] :=
  ⟨116, [49], rfl, by decide, by decide, fun r w h => by
    have e : SoyVerif.Lemmas.LexPrint.runeAt [116, 49] = some (116, 1) := by decide
    rw [e] at h
    cases h
    decide⟩

/-- non-vacuity: `{template .t1}Hi {$a ?: -1|truncate:$b ? 1 : 2,-3|id}⏎␣␣{$a}!{/template}` -/
example : lexAll (frameSrc ff0 [116, 49] exBody) false = .items (frameItems ff0 [116, 49] exBody) ∧
    ∃ tpos lp nl, parseSource pf0 (frameSrc ff0 [116, 49] exBody) =
        .ok [Node.template tpos [46, 116, 49] (.list lp nl) .unspecified false] ∧ NodesMatch nl.toList exBody :=
  template_frame_spec ff0 pf0 [116, 49] name_t1 exBody exBody_wf exBody_canon

open SoyVerif.Props.C17d (IdentOk nsSrc nsFileItems)

theorem namespace_frame_spec (ff : UInt64 → Bytes) (pf : Bytes → Option UInt64) (ns nm : Bytes) (hns : IdentOk ns)
    (hnm : NameOk nm) (b : CBody) (hw : WFL ff b) (hc : CanonB ff pf b) :
    lexAll (nsSrc ff ns nm b) false = .items (nsFileItems ff ns nm b) ∧
      ∃ npos tpos lp nl, parseSource pf (nsSrc ff ns nm b) =
          .ok [Node.nspace npos ns .unspecified, Node.template tpos (ns ++ 46 :: nm) (.list lp nl) .unspecified false] ∧
        NodesMatch nl.toList b :=
  SoyVerif.Props.C17d.namespace_frame_spec ff pf lexTableOK tableOK ns nm hns hnm b hw hc

/-- non-vacuity: `{namespace ex}⏎{template .t1}Hi {$a ?: -1|truncate:$b ? 1 : 2,-3|id}⏎␣␣{$a}!{/template}⏎` -/
example : lexAll (nsSrc ff0 [101, 120] [116, 49] exBody) false = .items (nsFileItems ff0 [101, 120] [116, 49] exBody) ∧
    ∃ npos tpos lp nl, parseSource pf0 (nsSrc ff0 [101, 120] [116, 49] exBody) =
        .ok [Node.nspace npos [101, 120] .unspecified,
          Node.template tpos [101, 120, 46, 116, 49] (.list lp nl) .unspecified false] ∧ NodesMatch nl.toList exBody :=
  namespace_frame_spec ff0 pf0 [101, 120] [116, 49] ⟨101, [120], rfl, by decide, by decide, by decide⟩
    name_t1 exBody exBody_wf exBody_canon

end SoyVerif.Inst.C17c
