/-
  Obligations over the GENERATED lexer tables (Gen/LexTables.lean: the running code's `arithmeticItemsBySymbol`,
  `builtinIdents`, the probed set of tokens after which `-` is unary; Gen/Unicode.lean: the Go toolchain's
  `unicode.Letter` / `unicode.Nd` tables): `unicode.IsLetter` / `unicode.IsDigit` on the 128 ASCII code points, and
  `lexTableOK`, which stops checking when /repo changes a table in a way that breaks the alignment with the printer's
  spellings.
-/
import SoyVerif.Lemmas.LexPrintTok

namespace SoyVerif.Inst.C17b
open SoyVerif SoyVerif.Model SoyVerif.Model.Lex SoyVerif.Lemmas.LexPrint

/-- a rune below every range from the `k`-th on is looked up in the first `k` ranges alone, as a list -/
theorem inRanges_take (t : Array (Nat × Nat × Nat)) (k r : Nat) (hr : ∀ e ∈ t.toList.drop k, r < e.1) :
    Lex.inRanges t r = (t.toList.take k).any fun e => e.1 ≤ r && r ≤ e.2.1 && (r - e.1) % e.2.2 == 0 := by
  unfold Lex.inRanges
  rw [← Array.any_toList]
  conv => lhs; rw [← List.take_append_drop k t.toList]
  rw [List.any_append, Bool.or_eq_left_iff_imp.2]
  intro h
  obtain ⟨e, he, hp⟩ := List.any_eq_true.1 h
  simp [Nat.not_le.2 (hr e he)] at hp

/-- `unicode.IsLetter` on ASCII is `[A-Za-z]`: the generated table begins with these two ranges, and
    all its other ranges lie above ASCII -/
theorem letter_ascii : ∀ n : Fin 128,
    isLetterU (n.val : Int) = decide ((65 ≤ n.val ∧ n.val ≤ 90) ∨ (97 ≤ n.val ∧ n.val ≤ 122)) := by
  intro n
  have hrest : ∀ e ∈ Gen.letterRanges.toList.drop 2, 128 ≤ e.1 := by decide +kernel
  unfold isLetterU
  rewrite [Int.toNat_natCast, inRanges_take _ 2 _ fun e he => Nat.lt_of_lt_of_le n.isLt (hrest e he)]
  revert n
  decide +kernel

/-- `unicode.IsDigit` on ASCII is `[0-9]`, the first range of the generated table -/
theorem digit_ascii : ∀ n : Fin 128, isDigitU (n.val : Int) = decide (48 ≤ n.val ∧ n.val ≤ 57) := by
  intro n
  have hrest : ∀ e ∈ Gen.digitRanges.toList.drop 1, 128 ≤ e.1 := by decide +kernel
  unfold isDigitU
  rewrite [Int.toNat_natCast, inRanges_take _ 1 _ fun e he => Nat.lt_of_lt_of_le n.isLt (hrest e he)]
  revert n
  decide +kernel

theorem lexTableOK : LexTableOK where
  letter := letter_ascii
  digit := digit_ascii
  sym1 := by decide
  sym2 := by decide
  kw := by decide
  keys := by decide
  unaryBefore := by decide
  unaryAfter := by decide

end SoyVerif.Inst.C17b
