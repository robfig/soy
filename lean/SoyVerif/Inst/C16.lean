/-
  C16 — facts about the GENERATED unicode.IsPrint table (Gen/UnicodePrint.lean, dumped from the
  Go toolchain in use on every run) on which text/template.JSEscape silently relies, and soy's own
  escaper (`jsEscapeFixed`, internal/jsescape, what `escapeJsString` calls) evaluated with that table.
-/
import SoyVerif.Props.C16

namespace SoyVerif.Inst.C16
open SoyVerif SoyVerif.Model SoyVerif.Spec

/-- the line/paragraph separators are "not printable" (that is the only reason
    text/template.JSEscape escapes them; `jsEscapeFixed` tests for them explicitly), U+FFFD is
    printable (so JSEscape copies invalid bytes raw), the private-use planes are not -/
theorem isPrint_table_facts :
    isPrint 0x2028 = false ∧ isPrint 0x2029 = false ∧ isPrint 0xFFFD = true ∧
    isPrint 0xF0000 = false ∧ isPrint 0x10FFFF = false ∧ isPrint 0xE9 = true ∧ isPrint 0x1F600 = true := by
  decide +kernel

/- U+F0000 then é, with the live table: surrogate pair, é copied -/
set_option maxRecDepth 100000 in
example : jsEscapeFixed [243, 176, 128, 128, 195, 169] =
    [92, 117, 68, 66, 56, 48, 92, 117, 68, 67, 48, 48, 195, 169] := by decide +kernel

/- what the model of text/template.JSEscape writes for U+F0000: backslash-u-F000 followed by the character `0` -/
set_option maxRecDepth 100000 in
example : jsEscape [243, 176, 128, 128] = [92, 117, 70, 48, 48, 48, 48] := by decide +kernel

end SoyVerif.Inst.C16
