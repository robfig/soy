/-
  Byte-level models of the escaping functions reached from soyhtml (C03 / C16 / C14):

    htmlEscape    = soyhtml.htmlEscapeString            (/repo/soyhtml/exec.go, the autoescaper)
    jsEscape      = text/template.JSEscapeString        (Go stdlib; utf8.DecodeRune + unicode.IsPrint)
    queryEscape   = net/url.QueryEscape                 (Go stdlib, shouldEscape mode encodeQueryComponent)
    jsonString    = encoding/json string encoding with escapeHTML (json.Marshal of a data.String)

  Go strings are byte sequences: everything works on `Bytes`, invalid UTF-8 included.
  The Go loops copy unchanged stretches `str[last:i]` in chunks; the chunks concatenate
  to the bytes themselves, so the models emit byte by byte.  A rune of `size` bytes that
  the Go code steps over with `i += size` is handled by a `skip` counter (structural
  recursion on the remaining input).
  Core Lean only.  Constants are byte-list literals (string literals do not reduce in the kernel).
-/
import SoyVerif.Base.Bytes
import SoyVerif.Gen.UnicodePrint

namespace SoyVerif.Model

/-! ## soyhtml.htmlEscapeString -/

/-- the `switch str[i]` of htmlEscapeString: the replacement, or `none` for `default: continue` -/
def htmlRepl (b : UInt8) : Option Bytes :=
  if b == 34 then some [38, 113, 117, 111, 116, 59]  -- "  ->  &quot;
  else if b == 39 then some [38, 35, 51, 57, 59]     -- '  ->  &#39;
  else if b == 38 then some [38, 97, 109, 112, 59]   -- &  ->  &amp;
  else if b == 60 then some [38, 108, 116, 59]       -- <  ->  &lt;
  else if b == 62 then some [38, 103, 116, 59]       -- >  ->  &gt;
  else none

/-- bytes written for one input byte -/
def htmlPiece (b : UInt8) : Bytes :=
  match htmlRepl b with
  | some h => h
  | none => [b]

/-- soyhtml.htmlEscapeString: all bytes written to the writer, in order -/
def htmlEscape : Bytes → Bytes
  | [] => []
  | b :: r => htmlPiece b ++ htmlEscape r

/-! ## utf8.DecodeRune -/

def runeError : Nat := 0xFFFD

def isCont (b : UInt8) : Bool := 0x80 ≤ b && b ≤ 0xBF

/-- acceptRanges of unicode/utf8 for the second byte of a three-byte sequence
    (E0: A0..BF excludes overlong forms, ED: 80..9F excludes surrogates) -/
def accept3 (b0 b1 : UInt8) : Bool :=
  (if b0 == 0xE0 then 0xA0 else 0x80) ≤ b1 && b1 ≤ (if b0 == 0xED then 0x9F else 0xBF)

/-- … and of a four-byte sequence (F0: 90..BF, F4: 80..8F keeps the rune ≤ 0x10FFFF) -/
def accept4 (b0 b1 : UInt8) : Bool :=
  (if b0 == 0xF0 then 0x90 else 0x80) ≤ b1 && b1 ≤ (if b0 == 0xF4 then 0x8F else 0xBF)

/-- utf8.DecodeRune / DecodeRuneInString: (rune, size); invalid or short input gives
    (RuneError, 1), empty input (RuneError, 0). -/
def decodeRune : Bytes → Nat × Nat
  | [] => (runeError, 0)
  | b0 :: r =>
    if b0 < 0x80 then (b0.toNat, 1)
    else if 0xC2 ≤ b0 && b0 ≤ 0xDF then
      match r with
      | b1 :: _ =>
        if isCont b1 then ((b0.toNat % 32) * 64 + b1.toNat % 64, 2) else (runeError, 1)
      | [] => (runeError, 1)
    else if 0xE0 ≤ b0 && b0 ≤ 0xEF then
      match r with
      | b1 :: b2 :: _ =>
        if accept3 b0 b1 && isCont b2 then
          ((b0.toNat % 16) * 4096 + (b1.toNat % 64) * 64 + b2.toNat % 64, 3)
        else (runeError, 1)
      | _ => (runeError, 1)
    else if 0xF0 ≤ b0 && b0 ≤ 0xF4 then
      match r with
      | b1 :: b2 :: b3 :: _ =>
        if accept4 b0 b1 && isCont b2 && isCont b3 then
          ((b0.toNat % 8) * 262144 + (b1.toNat % 64) * 4096 + (b2.toNat % 64) * 64 + b3.toNat % 64, 4)
        else (runeError, 1)
      | _ => (runeError, 1)
    else (runeError, 1)

/-- utf8.RuneStart -/
def runeStart (b : UInt8) : Bool := !(isCont b)

/-! ## unicode.IsPrint (generated range table) -/

def inRanges (t : List (Nat × Nat)) (r : Nat) : Bool :=
  t.any fun p => p.1 ≤ r && r ≤ p.2

/-- unicode.IsPrint of the Go toolchain in use -/
def isPrint (r : Nat) : Bool := inRanges Gen.printRanges r

/-! ## text/template.JSEscapeString -/

def hexUpper (n : Nat) : UInt8 := if n < 10 then UInt8.ofNat (48 + n) else UInt8.ofNat (55 + n)
def hexLower (n : Nat) : UInt8 := if n < 10 then UInt8.ofNat (48 + n) else UInt8.ofNat (87 + n)

/-- `fmt.Sprintf("%04X", r)` for a rune 0 ≤ r ≤ 0x10FFFF: at least four upper-case hex
    digits — five or six above 0xFFFF (which is what the Go code prints after `\u`). -/
def fmt04X (r : Nat) : Bytes :=
  let d (k : Nat) : UInt8 := hexUpper (r / 16 ^ k % 16)
  if r ≥ 0x100000 then [d 5, d 4, d 3, d 2, d 1, d 0]
  else if r ≥ 0x10000 then [d 4, d 3, d 2, d 1, d 0]
  else [d 3, d 2, d 1, d 0]

/-- jsIsSpecial on a byte -/
def jsIsSpecial (c : UInt8) : Bool :=
  c == 92 || c == 39 || c == 34 || c == 60 || c == 62 || c == 38 || c == 61 || c < 32 || 0x80 ≤ c

/-- the ASCII branch of JSEscape for a special byte -/
def jsAsciiEsc (c : UInt8) : Bytes :=
  if c == 92 then [92, 92]
  else if c == 39 then [92, 39]
  else if c == 34 then [92, 34]
  else if c == 60 then [92, 117, 48, 48, 51, 67]
  else if c == 62 then [92, 117, 48, 48, 51, 69]
  else if c == 38 then [92, 117, 48, 48, 50, 54]
  else if c == 61 then [92, 117, 48, 48, 51, 68]
  else [92, 117, 48, 48, hexUpper (c.toNat / 16), hexUpper (c.toNat % 16)]

/-- text/template.JSEscape with `isPrint` as parameter; `skip` = bytes of the current rune
    already written (`i += size - 1`). -/
def jsEscapeGo (isPrint : Nat → Bool) : Nat → Bytes → Bytes
  | _, [] => []
  | skip + 1, _ :: r => jsEscapeGo isPrint skip r
  | 0, c :: r =>
    if !jsIsSpecial c then c :: jsEscapeGo isPrint 0 r
    else if c < 0x80 then jsAsciiEsc c ++ jsEscapeGo isPrint 0 r
    else
      let d := decodeRune (c :: r)
      (if isPrint d.1 then (c :: r).take d.2 else [92, 117] ++ fmt04X d.1)
        ++ jsEscapeGo isPrint (d.2 - 1) r

def jsEscapeWith (isPrint : Nat → Bool) (s : Bytes) : Bytes := jsEscapeGo isPrint 0 s

/-- text/template.JSEscapeString (the IndexFunc fast path returns `s`, as the loop does) -/
def jsEscape (s : Bytes) : Bytes := jsEscapeWith isPrint s

/-! ## net/url.QueryEscape -/

/-- shouldEscape(c, encodeQueryComponent) -/
def shouldEscapeQuery (c : UInt8) : Bool :=
  if (97 ≤ c && c ≤ 122) || (65 ≤ c && c ≤ 90) || (48 ≤ c && c ≤ 57) then false
  else if c == 45 || c == 95 || c == 46 || c == 126 then false
  else true

def queryPiece (c : UInt8) : Bytes :=
  if c == 32 then [43]
  else if shouldEscapeQuery c then [37, hexUpper (c.toNat / 16), hexUpper (c.toNat % 16)]
  else [c]

/-- net/url.QueryEscape (= escape(s, encodeQueryComponent); the two fast paths agree with the
    general loop) -/
def queryEscape : Bytes → Bytes
  | [] => []
  | c :: r => queryPiece c ++ queryEscape r

/-! ## encoding/json: string encoding with escapeHTML = true -/

/-- htmlSafeSet[b] for b < 0x80 -/
def jsonHtmlSafe (b : UInt8) : Bool :=
  32 ≤ b && b != 34 && b != 38 && b != 60 && b != 62 && b != 92

def jsonAsciiEsc (b : UInt8) : Bytes :=
  if b == 92 || b == 34 then [92, b]
  else if b == 8 then [92, 98]
  else if b == 12 then [92, 102]
  else if b == 10 then [92, 110]
  else if b == 13 then [92, 114]
  else if b == 9 then [92, 116]
  else [92, 117, 48, 48, hexLower (b.toNat / 16), hexLower (b.toNat % 16)]

/-- body of encoding/json appendString (between the quotes) -/
def jsonStringGo : Nat → Bytes → Bytes
  | _, [] => []
  | skip + 1, _ :: r => jsonStringGo skip r
  | 0, b :: r =>
    if b < 0x80 then
      (if jsonHtmlSafe b then [b] else jsonAsciiEsc b) ++ jsonStringGo 0 r
    else
      let d := decodeRune (b :: r)
      if d.1 == runeError && d.2 == 1 then [92, 117, 102, 102, 102, 100] ++ jsonStringGo 0 r
      else if d.1 == 0x2028 then [92, 117, 50, 48, 50, 56] ++ jsonStringGo 2 r
      else if d.1 == 0x2029 then [92, 117, 50, 48, 50, 57] ++ jsonStringGo 2 r
      else (b :: r).take d.2 ++ jsonStringGo (d.2 - 1) r

/-- json.Marshal of a Go string value (data.String has no MarshalJSON) -/
def jsonString (s : Bytes) : Bytes := [34] ++ jsonStringGo 0 s ++ [34]

end SoyVerif.Model
