/-
  `jsEscapeFixed`: the JavaScript string escaper of soy (internal/jsescape; soyhtml `escapeJsString` and
  soyjs string-literal emission).  It is text/template.JSEscape of the Go toolchain with three
  differences:

    1. a non-printable rune above 0xFFFF is written as a UTF-16 surrogate pair `\uD8xx\uDCxx`
       (Go prints `\u%04X` of the rune: five or six hex digits, which JavaScript reads as a
       four-digit escape followed by literal digits — the defect);
    2. U+2028 / U+2029 are escaped by an explicit test, not only because the Unicode tables of
       the toolchain say "not printable";
    3. a byte that is not part of well-formed UTF-8 is written as the escape `\uFFFD` instead of raw, so
       the output is always ASCII-safe, well-formed UTF-8.

  On every other input the output is byte-for-byte that of text/template.JSEscape (the ASCII
  escapes `<` … are produced by the same four-digit printer).  `isPrint` is a parameter:
  the theorems hold for every table.
-/
import SoyVerif.Model.Escape

namespace SoyVerif.Model

/-- four upper-case hex digits of u < 0x10000 (`%04X`) -/
def hex4Upper (u : Nat) : Bytes :=
  [hexUpper (u / 4096 % 16), hexUpper (u / 256 % 16), hexUpper (u / 16 % 16), hexUpper (u % 16)]

/-- `\uXXXX` -/
def jsU4 (u : Nat) : Bytes := [92, 117] ++ hex4Upper u

/-- a rune as one `\uXXXX`, or as a surrogate pair above 0xFFFF -/
def jsRuneEsc (r : Nat) : Bytes :=
  if r > 0xFFFF then
    jsU4 (0xD800 + (r - 0x10000) / 1024) ++ jsU4 (0xDC00 + (r - 0x10000) % 1024)
  else jsU4 r

/-- the ASCII branch: `\\`, `\'`, `\"`, everything else special as `\u00XX` -/
def jsAsciiEsc2 (c : UInt8) : Bytes :=
  if c == 92 then [92, 92]
  else if c == 39 then [92, 39]
  else if c == 34 then [92, 34]
  else jsU4 c.toNat

def jsEscapeFixedGo (isPrint : Nat → Bool) : Nat → Bytes → Bytes
  | _, [] => []
  | skip + 1, _ :: r => jsEscapeFixedGo isPrint skip r
  | 0, c :: r =>
    if !jsIsSpecial c then c :: jsEscapeFixedGo isPrint 0 r
    else if c < 0x80 then jsAsciiEsc2 c ++ jsEscapeFixedGo isPrint 0 r
    else
      let d := decodeRune (c :: r)
      (if d.1 == runeError && d.2 == 1 then jsU4 runeError
       else if d.1 != 0x2028 && d.1 != 0x2029 && isPrint d.1 then (c :: r).take d.2
       else jsRuneEsc d.1)
        ++ jsEscapeFixedGo isPrint (d.2 - 1) r

def jsEscapeFixedWith (isPrint : Nat → Bool) (s : Bytes) : Bytes := jsEscapeFixedGo isPrint 0 s

/-- with unicode.IsPrint of the toolchain in use -/
def jsEscapeFixed (s : Bytes) : Bytes := jsEscapeFixedWith isPrint s

end SoyVerif.Model
