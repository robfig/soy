/-
  Model of soymsg/{id.go, placeholder.go, soymsg.go}: message fingerprints and ids,
  placeholder naming, the placeholder string and its split into parts.

  * `hash32` / `fingerprint` mirror id.go on `UInt32` (wrap-around arithmetic), the
    12-byte blocks, the fall-through tail switch and the 0/1 special case.
  * A message body is abstracted to what naming and ids depend on (`Part`): raw text,
    placeholders given by their base name (what `genBasePlaceholderName` returns) and
    their source text (`node.String()`, the equivalence used by the naming), plurals.
  * `setNames` mirrors `setPlaceholderNames` step by step.  Go pointers (map keys of
    `equivNodeToRepNodes`, `nodeToName`) are the position of the node in the
    breadth-first processing order (`QNode.id`).  Every `range` over a Go map takes an
    explicit iteration order (`Orders`); Go maps are association lists in insertion
    order with `mapSet` = `m[k] = v`.
  * The regexps of `toUpperUnderscore` and `Parts` are implemented by hand with Go's
    leftmost-first, non-overlapping `ReplaceAll` / `FindAll` semantics.  They work on
    bytes: every class used is ASCII, so a byte ≥ 0x80 never matches, exactly like the
    rune it belongs to.  `strings.ToUpper` is modelled on ASCII only (the correspondence
    for `toUpperUnderscore` is restricted to bytes < 0x80; message base names reach the
    naming model through the real `genBasePlaceholderName`).
-/
import SoyVerif.Base.Bytes
import SoyVerif.Gen.HtmlTagNames

namespace SoyVerif.Model.Msg

/-! ## id.go: hash32, fingerprint -/

def le32 (b0 b1 b2 b3 : UInt8) : UInt32 :=
  (b0.toUInt32 <<< 0) ||| (b1.toUInt32 <<< 8) ||| (b2.toUInt32 <<< 16) ||| (b3.toUInt32 <<< 24)

/-- the 27-line "Mix" block -/
def mix (a b c : UInt32) : UInt32 × UInt32 × UInt32 :=
  let a := a - b; let a := a - c; let a := a ^^^ (c >>> 13)
  let b := b - c; let b := b - a; let b := b ^^^ (a <<< 8)
  let c := c - a; let c := c - b; let c := c ^^^ (b >>> 13)
  let a := a - b; let a := a - c; let a := a ^^^ (c >>> 12)
  let b := b - c; let b := b - a; let b := b ^^^ (a <<< 16)
  let c := c - a; let c := c - b; let c := c ^^^ (b >>> 5)
  let a := a - b; let a := a - c; let a := a ^^^ (c >>> 3)
  let b := b - c; let b := b - a; let b := b ^^^ (a <<< 10)
  let c := c - a; let c := c - b; let c := c ^^^ (b >>> 15)
  (a, b, c)

/-- `for i = start; i+12 <= limit; i += 12 { … }`; returns the unread tail (< 12 bytes). -/
def hashBlocks : Bytes → UInt32 → UInt32 → UInt32 → Bytes × UInt32 × UInt32 × UInt32
  | b0 :: b1 :: b2 :: b3 :: b4 :: b5 :: b6 :: b7 :: b8 :: b9 :: b10 :: b11 :: rest, a, b, c =>
    let a := a + le32 b0 b1 b2 b3
    let b := b + le32 b4 b5 b6 b7
    let c := c + le32 b8 b9 b10 b11
    let (a, b, c) := mix a b c
    hashBlocks rest a b c
  | tail, a, b, c => (tail, a, b, c)

/-- `switch limit - i { case 11: … fallthrough … case 1: … }` on the tail `t`. -/
def hashTail (t : Bytes) (a b c : UInt32) : UInt32 × UInt32 × UInt32 :=
  let n := t.length
  let g (k : Nat) : UInt32 := (t.getD k 0).toUInt32
  let c := if n ≥ 11 then c + (g 10 <<< 24) else c
  let c := if n ≥ 10 then c + (g 9 <<< 16) else c
  let c := if n ≥ 9 then c + (g 8 <<< 8) else c
  let b := if n ≥ 8 then b + (g 7 <<< 24) else b
  let b := if n ≥ 7 then b + (g 6 <<< 16) else b
  let b := if n ≥ 6 then b + (g 5 <<< 8) else b
  let b := if n ≥ 5 then b + g 4 else b
  let a := if n ≥ 4 then a + (g 3 <<< 24) else a
  let a := if n ≥ 3 then a + (g 2 <<< 16) else a
  let a := if n ≥ 2 then a + (g 1 <<< 8) else a
  let a := if n ≥ 1 then a + g 0 else a
  (a, b, c)

/-- `hash32(str, 0, len(str), c)` -/
def hash32 (str : Bytes) (c : UInt32) : UInt32 :=
  let (tail, a, b, c) := hashBlocks str 0x9e3779b9 0x9e3779b9 c
  let c := c + UInt32.ofNat str.length
  let (a, b, c) := hashTail tail a b c
  (mix a b c).2.2

def fingerprint (str : Bytes) : UInt64 :=
  let hi := hash32 str 0
  let lo := hash32 str 102072
  let (hi, lo) := if hi == 0 && (lo == 0 || lo == 1) then (hi ^^^ 0x130f9bef, lo ^^^ 0x94a0a928) else (hi, lo)
  (hi.toUInt64 <<< 32) ||| (lo &&& 0xffffffff).toUInt64

/-- `calcID` after the fingerprint string has been written: meaning mixing and the mask. -/
def calcIDOf (fpstr meaning : Bytes) : UInt64 :=
  let fp := fingerprint fpstr
  let fp := if meaning ≠ [] then
      let topbit : UInt64 := if fp &&& ((1 : UInt64) <<< 63) > 0 then 1 else 0
      (fp <<< 1) + topbit + fingerprint meaning
    else fp
  fp &&& 0x7fffffffffffffff

/-! ## decimal numbers (`strconv.Itoa`) -/

def digitByte (c : Char) : UInt8 := UInt8.ofNat c.toNat

def itoa (n : Nat) : Bytes := (Nat.toDigits 10 n).map digitByte

def itoaInt : Int → Bytes
  | .ofNat n => itoa n
  | .negSucc n => 45 :: itoa (n + 1)

/-! ## toUpperUnderscore (placeholder.go) -/

def isUpper (b : UInt8) : Bool := 65 ≤ b && b ≤ 90
def isLower (b : UInt8) : Bool := 97 ≤ b && b ≤ 122
def isLetter (b : UInt8) : Bool := isUpper b || isLower b
def isDigit (b : UInt8) : Bool := 48 ≤ b && b ≤ 57
def isAlphaNumeric (b : UInt8) : Bool := isUpper b || isLower b || isDigit b

def toUpperByte (b : UInt8) : UInt8 := if isLower b then b - 32 else b
def toLowerByte (b : UInt8) : UInt8 := if isUpper b then b + 32 else b

/-- `_+$` searched from every position: the leftmost position from which only
    underscores follow starts the match, which runs to the end. -/
def stripTrailingUnderscores : Bytes → Bytes
  | [] => []
  | b :: r => if (b :: r).all (· == 95) then [] else b :: stripTrailingUnderscores r

/-- `leadingOrTrailing_ = ^_+|_+$`, replaced by "" -/
def stripUnderscores (s : Bytes) : Bytes :=
  stripTrailingUnderscores (s.dropWhile (· == 95))

/-- `consecutive_ = __+` replaced by "${1}_${2}" — neither group exists, both expand to
    the empty string, so every run of two or more underscores becomes a single one. -/
def collapseUnderscores : Bytes → Bytes
  | [] => []
  | b :: r =>
    if b == 95 then
      match r with
      | [] => [95]
      | c :: _ => if c == 95 then collapseUnderscores r   -- inside a run ≥ 2: drop this one
                  else 95 :: collapseUnderscores r
    else b :: collapseUnderscores r

/-- the loop of `toUpperUnderscore` (since /repo 19993f7): an underscore goes in before `ident[i]` at every word
    boundary found on the string as it stands — letter|Upper+lower, letter|digit, digit|letter (the look-around
    of the reference implementation); `prev` is `ident[i-1]` -/
def wordBoundaries : Option UInt8 → Bytes → Bytes
  | _, [] => []
  | prev, c :: r =>
    let boundary := match prev with
      | none => false
      | some p =>
        (isLetter p && isUpper c && (match r with | n :: _ => isLower n | [] => false)) ||
        (isLetter p && isDigit c) || (isDigit p && isLetter c)
    (if boundary then [95, c] else [c]) ++ wordBoundaries (some c) r

def toUpperUnderscore (ident : Bytes) : Bytes :=
  (wordBoundaries none (collapseUnderscores (stripUnderscores ident))).map toUpperByte

/-! ## html tags -/

def trimPrefix1 (p : UInt8) : Bytes → Bytes
  | b :: r => if b == p then r else b :: r
  | [] => []

/-- `for i, ch := range text { if !isAlphaNumeric(ch) { return lower(text[:i]) } }; panic` -/
def tagScan : Bytes → Option Bytes
  | [] => none
  | b :: r => if !isAlphaNumeric b then some [] else (tagScan r).map (toLowerByte b :: ·)

def tagTypeEnd : Bytes := [69, 78, 68, 95]            -- "END_"
def tagTypeStart : Bytes := [83, 84, 65, 82, 84, 95]  -- "START_"

/-- `tagName(text) (name, tagType)`; `none` = the panic "no tag name found". -/
def tagName (text : Bytes) : Option (Bytes × Bytes) :=
  let tagType : Bytes :=
    if [60, 47].isPrefixOf text then tagTypeEnd
    else if [47, 62].isSuffixOf text then []
    else tagTypeStart
  let text := trimPrefix1 47 (trimPrefix1 60 text)
  (tagScan text).map fun name => (name, tagType)

/-- `genBasePlaceholderNameFromHtml` -/
def htmlBaseName (text : Bytes) : Option Bytes :=
  (tagName text).map fun (tag, tagType) =>
    let tag := (Gen.htmlTagNames.lookup tag).getD tag
    toUpperUnderscore (tagType ++ tag)

/-! ## message bodies -/

/-- What ids and names depend on.  `base` = `genBasePlaceholderName(node.Body | plural.Value)`,
    `src` = `node.String()`. -/
inductive Part where
  | text (b : Bytes)
  | ph (base src : Bytes)
  | plural (base src : Bytes) (cases : List (Int × List Part)) (dflt : List Part)

structure Msg where
  meaning : Bytes
  desc : Bytes
  body : List Part

def Part.isText : Part → Bool
  | .text _ => true
  | _ => false

def Part.base : Part → Bytes
  | .text _ => []
  | .ph b _ => b
  | .plural b _ _ _ => b

def Part.src : Part → Bytes
  | .text _ => []
  | .ph _ s => s
  | .plural _ s _ _ => s

/-- `phNodes`: the placeholder and plural children -/
def phNodes (ps : List Part) : List Part := ps.filter (!·.isText)

/-- `pluralCaseBodies` (empty for a placeholder: only plurals enqueue children) -/
def pluralCaseBodies : Part → List Part
  | .plural _ _ cases dflt => cases.flatMap (fun c => phNodes c.2) ++ phNodes dflt
  | _ => []

mutual
def Part.size : Part → Nat
  | .text _ => 1
  | .ph _ _ => 1
  | .plural _ _ cs d => 1 + sizeCases cs + sizeList d
def sizeList : List Part → Nat
  | [] => 0
  | p :: ps => p.size + sizeList ps
def sizeCases : List (Int × List Part) → Nat
  | [] => 0
  | (_, b) :: cs => sizeList b + sizeCases cs
end

/-- The `nodeQueue` loop: nodes in the order in which they are dequeued.  Every dequeue
    consumes a distinct node of the tree, so `sizeList body` steps always suffice. -/
def bfs : Nat → List Part → List Part
  | 0, _ => []
  | _ + 1, [] => []
  | f + 1, n :: q => n :: bfs f (q ++ pluralCaseBodies n)

/-- A node as seen by the naming: `id` stands for the Go pointer. -/
structure QNode where
  id : Nat
  base : Bytes
  src : Bytes
deriving DecidableEq, Repr

def mkQueue (ps : List Part) : List QNode :=
  ps.zipIdx.map fun (p, i) => ⟨i, p.base, p.src⟩

def queue (body : List Part) : List QNode :=
  mkQueue (bfs (sizeList body + 1) (phNodes body))

/-! ## Go maps -/

/-- `m[k] = v` on an association list kept in insertion order -/
def mapSet {κ ν : Type} [BEq κ] (m : List (κ × ν)) (k : κ) (v : ν) : List (κ × ν) :=
  if m.any (·.1 == k) then m.map (fun e => if e.1 == k then (k, v) else e) else m ++ [(k, v)]

def mapHas {κ ν : Type} [BEq κ] (m : List (κ × ν)) (k : κ) : Bool := m.any (·.1 == k)

/-- One iteration order per `range` over a map in `setPlaceholderNames`. -/
structure Orders where
  reps : List (Bytes × List QNode) → List (Bytes × List QNode)   -- step 2: baseNameToRepNodes
  names : List (Bytes × Nat) → List (Bytes × Nat)                 -- step 3: nameToRepNodes
  equiv : List (Nat × Nat) → List (Nat × Nat)                     -- step 3: equivNodeToRepNodes
  nodes : List (Nat × Bytes) → List (Nat × Bytes)                 -- step 4: nodeToName

/-- An iteration order visits every entry exactly once. -/
structure Orders.Valid (o : Orders) : Prop where
  reps : ∀ l, (o.reps l).Perm l
  names : ∀ l, (o.names l).Perm l
  equiv : ∀ l, (o.equiv l).Perm l
  nodes : ∀ l, (o.nodes l).Perm l

def Orders.id : Orders := ⟨fun l => l, fun l => l, fun l => l, fun l => l⟩

/-! ## setPlaceholderNames -/

structure Step1 where
  reps : List (Bytes × List QNode) := []   -- baseNameToRepNodes
  equiv : List (Nat × Nat) := []           -- equivNodeToRepNodes: node ↦ representative

/-- body of the `nodeQueue` loop after the base name has been computed -/
def step1Node (s : Step1) (node : QNode) : Step1 :=
  match s.reps.lookup node.base with
  | none => { s with reps := mapSet s.reps node.base [node] }
  | some nodes =>
    match nodes.find? (fun other => other.src == node.src) with
    | some other => { s with equiv := mapSet s.equiv node.id other.id }
    | none => { s with reps := mapSet s.reps node.base (nodes ++ [node]) }

def step1 (q : List QNode) : Step1 := q.foldl step1Node {}

def suffixed (base : Bytes) (n : Nat) : Bytes := base ++ 95 :: itoa n

/-- the inner `for { newName = base_N; N++; if !taken { break } }`; returns the suffix
    used.  The loop ends within `len(baseNameToRepNodes)+1` rounds (pigeonhole, proved in
    `Lemmas/MsgSuffix`: `findSuffix_free`), which is the fuel given by the caller. -/
def findSuffix (keys : List Bytes) (base : Bytes) : Nat → Nat → Nat
  | 0, next => next
  | fuel + 1, next =>
    if keys.contains (suffixed base next) then findSuffix keys base fuel (next + 1) else next

/-- `for _, node := range nodes { … }` of step 2 for one base name with several nodes -/
def assignSuffixes (keys : List Bytes) (base : Bytes) :
    List QNode → Nat → List (Bytes × Nat) → List (Bytes × Nat)
  | [], _, m => m
  | node :: ns, next, m =>
    let k := findSuffix keys base (keys.length + 1) next
    assignSuffixes keys base ns (k + 1) (mapSet m (suffixed base k) node.id)

def step2Entry (keys : List Bytes) (m : List (Bytes × Nat)) (e : Bytes × List QNode) : List (Bytes × Nat) :=
  match e.2 with
  | [node] => mapSet m e.1 node.id
  | nodes => assignSuffixes keys e.1 nodes 1 m

/-- Step 2: `nameToRepNodes` -/
def step2 (o : Orders) (reps : List (Bytes × List QNode)) : List (Bytes × Nat) :=
  (o.reps reps).foldl (step2Entry (reps.map (·.1))) []

/-- Step 3: `nodeToName` (a missing key reads as "", Go's zero value) -/
def step3 (o : Orders) (nameToRep : List (Bytes × Nat)) (equiv : List (Nat × Nat)) : List (Nat × Bytes) :=
  let m := (o.names nameToRep).foldl (fun m e => mapSet m e.2 e.1) []
  (o.equiv equiv).foldl (fun m e => mapSet m e.1 ((m.lookup e.2).getD [])) m

/-- Step 4: `node.Name = name` / `node.VarName = name`; all names start as "" -/
def step4 (o : Orders) (n : Nat) (nodeToName : List (Nat × Bytes)) : List Bytes :=
  (o.nodes nodeToName).foldl (fun names e => names.set e.1 e.2) (List.replicate n [])

/-- names of the queue nodes, in queue order -/
def setNamesQ (o : Orders) (q : List QNode) : List Bytes :=
  let s := step1 q
  step4 o q.length (step3 o (step2 o s.reps) s.equiv)

def setNames (o : Orders) (body : List Part) : List Bytes := setNamesQ o (queue body)

/-- The `Name` field a tree node ends up with.  Go finds it through the pointer; the model
    finds it through (base, src): nodes equal in both are equivalent and get the same
    name (theorem `names_equiv_same`), so the first one in the queue stands for all. -/
def nameFor (q : List QNode) (names : List Bytes) (base src : Bytes) : Bytes :=
  match q.findIdx? (fun n => n.base == base && n.src == src) with
  | some i => names.getD i []
  | none => []

/-! ## writeFingerprint -/

/-- A message body with names assigned: exactly what the fingerprint string depends on. -/
inductive NPart where
  | text (b : Bytes)
  | ph (name : Bytes)
  | plural (varName : Bytes) (cases : List (Int × List NPart)) (dflt : List NPart)

mutual
def skel (nm : Bytes → Bytes → Bytes) : Part → NPart
  | .text b => .text b
  | .ph base src => .ph (nm base src)
  | .plural base src cs d => .plural (nm base src) (skelCases nm cs) (skelList nm d)
def skelList (nm : Bytes → Bytes → Bytes) : List Part → List NPart
  | [] => []
  | p :: ps => skel nm p :: skelList nm ps
def skelCases (nm : Bytes → Bytes → Bytes) : List (Int × List Part) → List (Int × List NPart)
  | [] => []
  | (v, b) :: cs => (v, skelList nm b) :: skelCases nm cs
end

def sPlural : Bytes := [44, 112, 108, 117, 114, 97, 108, 44]  -- ",plural,"
def sOther : Bytes := [111, 116, 104, 101, 114, 123]          -- "other{"

mutual
def writeFP (braces : Bool) : NPart → Bytes
  | .text b => b
  | .ph name => if braces then 123 :: name ++ [125] else name
  | .plural v cs d => 123 :: v ++ sPlural ++ writeFPCases cs ++ sOther ++ writeFPList true d ++ [125, 125]
def writeFPList (braces : Bool) : List NPart → Bytes
  | [] => []
  | p :: ps => writeFP braces p ++ writeFPList braces ps
def writeFPCases : List (Int × List NPart) → Bytes
  | [] => []
  | (v, b) :: cs => 61 :: itoaInt v ++ 123 :: writeFPList true b ++ 125 :: writeFPCases cs
end

/-- the body after `setPlaceholderNames` -/
def namedBody (o : Orders) (body : List Part) : List NPart :=
  skelList (nameFor (queue body) (setNames o body)) body

def writeFingerprint (o : Orders) (m : Msg) (braces : Bool) : Bytes :=
  writeFPList braces (namedBody o m.body)

/-- `SetPlaceholdersAndID`: the id -/
def calcID (o : Orders) (m : Msg) : UInt64 :=
  calcIDOf (writeFingerprint o m false) m.meaning

def placeholderString (o : Orders) (m : Msg) : Bytes := writeFingerprint o m true

-- names of the placeholders / plurals in document order (observation of the tie)
mutual
def namesOf : NPart → List Bytes
  | .text _ => []
  | .ph n => [n]
  | .plural v cs d => v :: namesOfCases cs ++ namesOfList d
def namesOfList : List NPart → List Bytes
  | [] => []
  | p :: ps => namesOf p ++ namesOfList ps
def namesOfCases : List (Int × List NPart) → List Bytes
  | [] => []
  | (_, b) :: cs => namesOfList b ++ namesOfCases cs
end

/-! ## soymsg.Parts -/

inductive MsgPart where
  | text (b : Bytes)
  | ph (name : Bytes)
deriving DecidableEq, Repr

def isPhChar (b : UInt8) : Bool := isUpper b || isDigit b || b == 95

/-- after a `{`: the run of `[A-Z0-9_]` up to the closing `}` (possibly empty), if the input
    continues that way -/
def phRun : Bytes → Option Bytes
  | [] => none
  | b :: r => if b == 125 then some [] else if isPhChar b then (phRun r).map (b :: ·) else none

/-- `{[A-Z0-9_]+}` anchored at the head of the input: the name matched -/
def matchPh : Bytes → Option Bytes
  | 123 :: r =>
    match phRun r with
    | some (n :: ns) => some (n :: ns)
    | _ => none
  | _ => none

def flushText (pend : Bytes) : List MsgPart := if pend.isEmpty then [] else [.text pend]

/-- `FindAllStringIndex` + the loop of `Parts`: `skip` bytes of the current match are
    still to be passed over, `pend` is `str[pos:here]`. -/
def partsGo : Nat → Bytes → Bytes → List MsgPart
  | _, pend, [] => flushText pend
  | skip + 1, pend, _ :: r => partsGo skip pend r
  | 0, pend, b :: r =>
    match matchPh (b :: r) with
    | some name => flushText pend ++ .ph name :: partsGo (name.length + 1) [] r
    | none => partsGo 0 (pend ++ [b]) r

def parts (str : Bytes) : List MsgPart := partsGo 0 [] str

end SoyVerif.Model.Msg
