/-
  Executable model of the Soy lexer, /repo/parse/lexer.go, state function by state
  function.

  Observable: `lexAll input exprMode` = the list of items sent on the channel until it is
  closed (the list ends with an EOF item or an Error item; of an error message the model keeps
  only its class, one byte in the item's `val`, empty for `errorf` — see `clsTag` …), or `panic`
  (a Go runtime panic: slice/index out of range),
  or `fuelOut` (the `run` loop used up its budget of state transitions).

  Conventions
  * `pos`, `start`, `width` are Go `int`s: `Int` here.  Every slice expression
    `l.input[a:b]`, `l.input[a:]` and index expression `l.input[i]` carries Go's bounds
    check explicitly; a failed check is `none` (= PANIC).  This includes the slice inside
    `next` (`l.input[l.pos:]`), so a negative `pos` is not silently tolerated.
  * A rune is an `Int`; `eof = -1`.  `decodeRune` is `utf8.DecodeRuneInString`
    (RuneError U+FFFD with width 1 on every invalid or truncated sequence, surrogates and
    overlong forms included).
  * `unicode.IsLetter/IsDigit/IsSpace` are lookups in the range tables generated from the Go
    toolchain in use (`Gen/Unicode.lean`); `builtinIdents`, `arithmeticItemsBySymbol` and the
    set of tokens after which `-` is unary come from `Gen/LexTables.lean`
    (`parse.VerifTables()` of the running code).
  * Scanning loops are recursive functions whose termination Lean checks with the measure
    `|input| − pos` (`Lexer.rem`); plain `for p(l.next()) {}` loops share `scanWhile`.
    Only the top-level `run` loop takes fuel (`fuelFor |input| = 7·|input| + 8` state
    transitions), and running out of it is the distinguished outcome `fuelOut` — which
    `Props/C05.lean` proves never happens (`lex_total`), as it proves that `panic` never
    happens on the current code (`lex_no_panic`).
  * The unbuffered channel is not modelled: `emit`/`errorf` append to `items`.
-/
import SoyVerif.Model.Token
import SoyVerif.Gen.Unicode
import SoyVerif.Gen.LexTables

namespace SoyVerif.Model.Lex
open SoyVerif SoyVerif.Model

/-! ## Runes -/

/-- runes are plain `Int`s (written `Int` below so that `omega` sees through) -/
abbrev Rune := Int
def eof : Int := -1
def runeError : Nat := 0xFFFD

def byteAt (a : Array UInt8) (i : Nat) : Nat := (a.getD i 0).toNat

/-- lowest / highest second byte accepted after the lead byte `s0` (`acceptRanges`) -/
def acceptLo (s0 : Nat) : Nat := if s0 = 0xE0 then 0xA0 else if s0 = 0xF0 then 0x90 else 0x80
def acceptHi (s0 : Nat) : Nat := if s0 = 0xED then 0x9F else if s0 = 0xF4 then 0x8F else 0xBF

/-- `utf8.DecodeRuneInString(s[i:])` for `i < |s|`: (rune, width).
    (`first[s0]` of package utf8 spelt out: 00–7F ASCII; 80–C1, F5–FF invalid; C2–DF two
    bytes; E0–EF three bytes with second byte in A0–BF after E0, 80–9F after ED; F0–F4 four
    bytes with second byte in 90–BF after F0, 80–8F after F4.) -/
def decodeRune (a : Array UInt8) (i : Nat) : Nat × Nat :=
  let n := a.size - i
  let s0 := byteAt a i
  if s0 < 0x80 then (s0, 1)
  else if s0 < 0xC2 then (runeError, 1)
  else if s0 < 0xE0 then
    if n < 2 then (runeError, 1)
    else
      let s1 := byteAt a (i + 1)
      if s1 < 0x80 ∨ 0xBF < s1 then (runeError, 1)
      else ((s0 % 32) * 64 + s1 % 64, 2)
  else if s0 < 0xF0 then
    if n < 3 then (runeError, 1)
    else
      let s1 := byteAt a (i + 1)
      let s2 := byteAt a (i + 2)
      if s1 < acceptLo s0 ∨ acceptHi s0 < s1 then (runeError, 1)
      else if s2 < 0x80 ∨ 0xBF < s2 then (runeError, 1)
      else ((s0 % 16) * 4096 + (s1 % 64) * 64 + s2 % 64, 3)
  else if s0 < 0xF5 then
    if n < 4 then (runeError, 1)
    else
      let s1 := byteAt a (i + 1)
      let s2 := byteAt a (i + 2)
      let s3 := byteAt a (i + 3)
      if s1 < acceptLo s0 ∨ acceptHi s0 < s1 then (runeError, 1)
      else if s2 < 0x80 ∨ 0xBF < s2 then (runeError, 1)
      else if s3 < 0x80 ∨ 0xBF < s3 then (runeError, 1)
      else ((s0 % 8) * 262144 + (s1 % 64) * 4096 + (s2 % 64) * 64 + s3 % 64, 4)
  else (runeError, 1)

/-- case analysis on an `if` as a lemma: unlike `split`, it leaves both branches as they are written, so a chain of
    `else if`s is walked one condition at a time -/
theorem ite_elim {α : Type} (P : α → Prop) {c : Prop} [Decidable c] {x y : α} (hx : c → P x) (hy : ¬ c → P y) :
    P (if c then x else y) := by
  split
  · exact hx ‹_›
  · exact hy ‹_›

/-- The exits of `decodeRune a i`, by the class of the lead byte: to show `P` of the result, show it of an ASCII byte,
    of the error exit (only behind a lead byte ≥ 0x80) and of the three kinds of well-formed sequence, each of which
    has checked that its bytes are there and in range. -/
theorem decodeRune_elim (P : Nat × Nat → Prop) (a : Array UInt8) (i : Nat)
    (ascii : byteAt a i < 0x80 → P (byteAt a i, 1))
    (err : 0x80 ≤ byteAt a i → P (runeError, 1))
    (two : 0xC2 ≤ byteAt a i → byteAt a i < 0xE0 → i + 2 ≤ a.size → 0x80 ≤ byteAt a (i + 1) ∧ byteAt a (i + 1) ≤ 0xBF →
      P (byteAt a i % 32 * 64 + byteAt a (i + 1) % 64, 2))
    (three : 0xE0 ≤ byteAt a i → byteAt a i < 0xF0 → i + 3 ≤ a.size →
      acceptLo (byteAt a i) ≤ byteAt a (i + 1) ∧ byteAt a (i + 1) ≤ acceptHi (byteAt a i) →
      0x80 ≤ byteAt a (i + 2) ∧ byteAt a (i + 2) ≤ 0xBF →
      P (byteAt a i % 16 * 4096 + byteAt a (i + 1) % 64 * 64 + byteAt a (i + 2) % 64, 3))
    (four : 0xF0 ≤ byteAt a i → byteAt a i < 0xF5 → i + 4 ≤ a.size →
      acceptLo (byteAt a i) ≤ byteAt a (i + 1) ∧ byteAt a (i + 1) ≤ acceptHi (byteAt a i) →
      0x80 ≤ byteAt a (i + 2) ∧ byteAt a (i + 2) ≤ 0xBF → 0x80 ≤ byteAt a (i + 3) ∧ byteAt a (i + 3) ≤ 0xBF →
      P (byteAt a i % 8 * 262144 + byteAt a (i + 1) % 64 * 4096 + byteAt a (i + 2) % 64 * 64 + byteAt a (i + 3) % 64, 4)) :
    P (decodeRune a i) := by
  unfold decodeRune
  refine ite_elim P ascii fun h0 => ?_
  have e := err (by omega)
  exact ite_elim P (fun _ => e) fun h1 =>
    ite_elim P (fun h2 => ite_elim P (fun _ => e) fun hn => ite_elim P (fun _ => e) fun c1 =>
      two (by omega) h2 (by omega) (by omega)) fun h2 =>
    ite_elim P (fun h3 => ite_elim P (fun _ => e) fun hn => ite_elim P (fun _ => e) fun c1 => ite_elim P (fun _ => e) fun c2 =>
      three (by omega) h3 (by omega) (by omega) (by omega)) fun h3 =>
    ite_elim P (fun h4 => ite_elim P (fun _ => e) fun hn => ite_elim P (fun _ => e) fun c1 => ite_elim P (fun _ => e) fun c2 =>
      ite_elim P (fun _ => e) fun c3 => four (by omega) h4 (by omega) (by omega) (by omega) (by omega)) fun _ => e

theorem decodeRune_width (a : Array UInt8) (i : Nat) (h : i < a.size) :
    1 ≤ (decodeRune a i).2 ∧ i + (decodeRune a i).2 ≤ a.size :=
  decodeRune_elim (fun d => 1 ≤ d.2 ∧ i + d.2 ≤ a.size) a i (fun _ => ⟨Nat.le_refl 1, h⟩) (fun _ => ⟨Nat.le_refl 1, h⟩)
    (fun _ _ hn _ => ⟨by omega, hn⟩) (fun _ _ hn _ _ => ⟨by omega, hn⟩) (fun _ _ hn _ _ _ => ⟨by omega, hn⟩)

def inRanges (t : Array (Nat × Nat × Nat)) (r : Nat) : Bool :=
  t.any fun e => e.1 ≤ r && r ≤ e.2.1 && (r - e.1) % e.2.2 == 0

def isLetterU (r : Int) : Bool := decide (0 ≤ r) && inRanges Gen.letterRanges r.toNat
def isDigitU (r : Int) : Bool := decide (0 ≤ r) && inRanges Gen.digitRanges r.toNat
def isSpaceU (r : Int) : Bool := decide (0 ≤ r) && inRanges Gen.spaceRanges r.toNat

/-! ## Helpers of lexer.go -/

def isAlphaNumeric (r : Int) : Bool := r == 95 || isLetterU r || isDigitU r
def isSpace (r : Int) : Bool := r == 32 || r == 9
def isEndOfLine (r : Int) : Bool := r == 13 || r == 10
def isSpaceEOL (r : Int) : Bool := isSpace r || isEndOfLine r
def isLetterOrUnderscore (r : Int) : Bool := (97 ≤ r && r ≤ 122) || (65 ≤ r && r ≤ 90) || r == 95
def isDigit (r : Int) : Bool := 48 ≤ r && r ≤ 57

theorem isAlphaNumeric_eof : isAlphaNumeric eof = false := by
  simp [isAlphaNumeric, isLetterU, isDigitU, eof]

/-- `strings.IndexRune(valid, r) >= 0` for an ASCII-only `valid`: an invalid rune
    (negative: eof) is never found. -/
def indexRune (valid : List Int) (r : Int) : Bool := decide (0 ≤ r) && valid.contains r

theorem indexRune_eof (valid : List Int) : indexRune valid eof = false := by
  simp [indexRune, eof]

/-- `for _, ch := range str` of allSpaceWithNewline over the bytes `a`, from index `i`. -/
def allSpaceLoop (a : Array UInt8) (i : Nat) (seenNewline : Bool) : Bool :=
  if h : i < a.size then
    let d := decodeRune a i
    if !isSpaceEOL d.1 then false   -- space, tab, CR, LF: what line joining treats as whitespace (/repo dbf6196)
    else allSpaceLoop a (i + d.2) (seenNewline || isEndOfLine d.1)
  else seenNewline
termination_by a.size - i
decreasing_by
  have := decodeRune_width a i h
  omega

def allSpaceWithNewline (s : Bytes) : Bool := allSpaceLoop s.toArray 0 false

/-! ## Go slice and index expressions with their bounds checks -/

/-- `s[a:b]`; `none` = slice bounds out of range -/
def sliceOf (s : Array UInt8) (a b : Int) : Option Bytes :=
  if 0 ≤ a ∧ a ≤ b ∧ b ≤ s.size then some (s.extract a.toNat b.toNat).toList else none

/-- `s[a:]` -/
def sliceFrom (s : Array UInt8) (a : Int) : Option Bytes := sliceOf s a s.size

/-- `s[i]`; `none` = index out of range -/
def indexOf (s : Array UInt8) (i : Int) : Option UInt8 :=
  if 0 ≤ i ∧ i < s.size then some (s.getD i.toNat 0) else none

/-- `strings.HasPrefix(s[pos:], pre)` -/
def hasPrefixAt (s : Array UInt8) (pos : Int) (pre : Bytes) : Option Bool :=
  if 0 ≤ pos ∧ pos ≤ s.size then
    some ((s.extract pos.toNat (pos.toNat + pre.length)).toList == pre)
  else none

/-- `strings.Index(hay, needle)` for a non-empty needle -/
def stringsIndex (needle : Bytes) : (hay : Bytes) → Option Nat
  | [] => none
  | b :: t => if needle.isPrefixOf (b :: t) then some 0 else (stringsIndex needle t).map (· + 1)

/-! ## The lexer record and its primitives -/

structure Lexer where
  input : Array UInt8
  pos : Int := 0
  start : Int := 0
  width : Int := 0
  doubleDelim : Bool := false
  /-- start position of the tag being scanned, for errors -/
  tagStart : Int := 0
  lastEmit : Item := Item.zero
  /-- everything sent on the channel so far -/
  items : Array Item := #[]

namespace Lexer

def len (l : Lexer) : Int := l.input.size

/-- the termination measure of the scanning loops -/
def rem (l : Lexer) : Nat := (l.len - l.pos).toNat

/-- the largest position of an item sent so far (0 if none); the lexer invariant bounds it by the length of the
    input (`PosBounded`, Props/C05.lean) -/
def mp (l : Lexer) : Nat := l.items.toList.foldl (fun m it => max m it.pos) 0

/-- `l.next()` -/
def next (l : Lexer) : Option (Int × Lexer) :=
  if l.pos ≥ l.len then some (eof, { l with width := 0 })
  else if l.pos < 0 then none
  else
    let d := decodeRune l.input l.pos.toNat
    some ((d.1 : Int), { l with width := d.2, pos := l.pos + d.2 })

/-- `l.backup()` -/
def backup (l : Lexer) : Lexer := { l with pos := l.pos - l.width }

/-- `l.peek()` -/
def peek (l : Lexer) : Option (Int × Lexer) := do
  let (r, l) ← l.next
  pure (r, l.backup)

/-- `l.ignore()` -/
def ignore (l : Lexer) : Lexer := { l with start := l.pos }

/-- `l.pos += d` -/
def addPos (l : Lexer) (d : Int) : Lexer := { l with pos := l.pos + d }

/-- `l.emit(t)` -/
def emit (l : Lexer) (t : ItemType) : Option Lexer :=
  let l := if l.pos > l.len then { l with pos := l.len } else l
  match sliceOf l.input l.start l.pos with
  | none => none
  | some v =>
    let it : Item := { typ := t, pos := l.pos.toNat, val := v }
    some { l with lastEmit := it, items := l.items.push it, start := l.pos }

end Lexer

/-- the states of the machine (`stateFn` values) -/
inductive St where
  | text | leftDelim | rightDelim | rightDelimEnd | beginTag | insideTag
  | ident | number | headerParam | css | literal
  | str (quote : Int)
  deriving DecidableEq, Repr

/-- result of a state function: `none` = PANIC, `some (none, l)` = returned `nil`,
    `some (some s, l)` = next state `s` -/
abbrev Res := Option (Option St × Lexer)

/-- `l.errorf(...)`: sends an Error item (text not modelled) and returns nil.
    (`pos` is never negative here — a negative `pos` panics at the latest in `next`.) -/
def errorf (l : Lexer) : Res :=
  some (none, { l with items := l.items.push { typ := .tError, pos := l.pos.toNat, val := [] } })

/-- classes of the errors `errorfAt` reports (the model keeps the class of an error in the
    item's `val`, one byte, instead of the message text; `errorf` items have the empty class):
    1 "unclosed tag" and the two malformed tags reported at their `{` ("expected {@param name: ...}",
      "expected closing tag after {literal.."), 2 "unexpected eof while scanning string", 3 "unclosed block comment",
    4 "unexpected eof when scanning soydoc", 5 "unclosed literal",
    6 "expected double closing braces in tag",
    7 "unexpected beginning to name after '.'" / "… after '?.'" -/
def clsTag : UInt8 := 1
def clsString : UInt8 := 2
def clsComment : UInt8 := 3
def clsSoyDoc : UInt8 := 4
def clsLiteral : UInt8 := 5
/-- 6 "expected double closing braces in tag": reported at the start of the pending token, the
    single closing brace (`errorfAt(l.start, …)`, /repo 79f0bfc) -/
def clsBraces : UInt8 := 6
/-- 7 "unexpected beginning to name after '.' / '?.'": reported at the start of the pending token, the
    `.` or the `?`: soy rejects `$a.` and `.٣` as names (/repo 8984077) -/
def clsName : UInt8 := 7

/-- `l.errorfAt(pos, ...)`: an Error item positioned where an unclosed construct begins
    (`l.start`, `docStart` or `l.tagStart`, none of which is ever negative). -/
def errorfAt (l : Lexer) (pos : Int) (cls : UInt8) : Res :=
  some (none, { l with items := l.items.push { typ := .tError, pos := pos.toNat, val := [cls] } })

/-! ### Facts about `next` needed for the termination of the scanning loops -/

theorem next_spec {l l' : Lexer} {r : Int} (h : l.next = some (r, l')) :
    l'.input = l.input ∧
    ((l.len ≤ l.pos ∧ r = eof ∧ l'.pos = l.pos ∧ l'.width = 0) ∨
     (0 ≤ l.pos ∧ l.pos < l.len ∧ 0 ≤ r ∧ 1 ≤ l'.width ∧ l'.pos = l.pos + l'.width ∧ l'.pos ≤ l.len)) := by
  unfold Lexer.next at h
  split at h
  · simp only [Option.some.injEq, Prod.mk.injEq] at h
    obtain ⟨rfl, rfl⟩ := h
    exact ⟨rfl, Or.inl ⟨by assumption, rfl, rfl, rfl⟩⟩
  · split at h
    · exact absurd h (by simp)
    · simp only [Option.some.injEq, Prod.mk.injEq] at h
      obtain ⟨rfl, rfl⟩ := h
      rename_i h1 h2
      simp only [Lexer.len] at h1 h2
      have hlt : l.pos.toNat < l.input.size := by omega
      have hw := decodeRune_width l.input l.pos.toNat hlt
      refine ⟨rfl, Or.inr ⟨by omega, ?_, Int.natCast_nonneg _, ?_, rfl, ?_⟩⟩ <;> (simp only [Lexer.len]; omega)

theorem next_input {l l' : Lexer} {r : Int} (h : l.next = some (r, l')) : l'.input = l.input :=
  (next_spec h).1

theorem next_len {l l' : Lexer} {r : Int} (h : l.next = some (r, l')) : l'.len = l.len := by
  simp [Lexer.len, next_input h]

theorem next_rem_lt {l l' : Lexer} {r : Int} (h : l.next = some (r, l')) (hr : r ≠ eof) :
    l'.rem < l.rem := by
  have hl := next_len h
  rcases (next_spec h).2 with ⟨_, he, _⟩ | ⟨h0, h1, _, hw, hp, _⟩
  · exact absurd he hr
  · simp only [Lexer.rem, hl]; omega

theorem next_rem_le {l l' : Lexer} {r : Int} (h : l.next = some (r, l')) : l'.rem ≤ l.rem := by
  have hl := next_len h
  rcases (next_spec h).2 with ⟨_, _, hp, _⟩ | ⟨h0, h1, _, hw, hp, _⟩
  · simp only [Lexer.rem, hl]; omega
  · simp only [Lexer.rem, hl]; omega

theorem next_backup_pos {l l' : Lexer} {r : Int} (h : l.next = some (r, l')) :
    l'.backup.pos = l.pos ∧ l'.backup.input = l.input := by
  have hi := next_input h
  refine ⟨?_, hi⟩
  simp only [Lexer.backup]
  rcases (next_spec h).2 with ⟨_, _, hp, hw⟩ | ⟨_, _, _, _, hp, _⟩ <;> omega

theorem next_backup_rem {l l' : Lexer} {r : Int} (h : l.next = some (r, l')) :
    l'.backup.rem = l.rem := by
  have := next_backup_pos h
  simp [Lexer.rem, Lexer.len, this.1, this.2]

/-! ### Plain scanning loops -/

/-- `for p(l.next()) {}` — consumes runes while `p` holds; returns the first rune on which
    `p` fails together with the lexer after that `next` (not backed up).  `p eof = false`
    is what makes every such loop of lexer.go stop. -/
def scanWhile (p : Int → Bool) (hp : p eof = false) (l : Lexer) : Option (Int × Lexer) :=
  match h : l.next with
  | none => none
  | some (r, l') => if hr : p r = true then scanWhile p hp l' else some (r, l')
termination_by l.rem
decreasing_by
  exact next_rem_lt h (by intro e; rw [e, hp] at hr; exact absurd hr (by simp))

/-- one iteration of `scanWhile` -/
theorem scanWhile_some {p : Int → Bool} {hp : p eof = false} {l l' : Lexer} {r : Int} (hn : l.next = some (r, l')) :
    scanWhile p hp l = if p r = true then scanWhile p hp l' else some (r, l') := by
  rw [scanWhile]
  split
  · rename_i heq; rw [hn] at heq; exact absurd heq (by simp)
  · rename_i r1 l1 heq
    rw [hn] at heq
    simp only [Option.some.injEq, Prod.mk.injEq] at heq
    obtain ⟨rfl, rfl⟩ := heq
    split <;> rfl

/-- `l.accept(valid)` -/
def accept (l : Lexer) (valid : List Int) : Option (Bool × Lexer) := do
  let (r, l) ← l.next
  if indexRune valid r then pure (true, l) else pure (false, l.backup)

/-- `l.acceptRun(valid)` -/
def acceptRun (l : Lexer) (valid : List Int) : Option (Bool × Lexer) := do
  let pos := l.pos
  let (_, l) ← scanWhile (indexRune valid) (indexRune_eof valid) l
  let l := l.backup
  pure (decide (l.pos > pos), l)

/-- `skipSpace(l)` -/
def skipSpace (l : Lexer) : Option Lexer := do
  let (_, l) ← scanWhile isSpaceEOL (by decide) l
  pure l.backup.ignore

/-- `maybeEmitText(l, backup)` -/
def maybeEmitText (l : Lexer) (backup : Int) : Option Lexer :=
  if l.pos - backup > l.start then
    match sliceOf l.input l.start (l.pos - backup) with
    | none => none
    | some s =>
      match (if allSpaceWithNewline s then some (l.addPos (-backup)).ignore
             else (l.addPos (-backup)).emit .tText) with
      | none => none
      | some l2 => some (l2.addPos backup)
  else some l

/-- the condition `l.doubleDelim && l.next() != '}'` (short-circuit: `next` only runs in a
    double-brace tag) -/
def badDoubleClose (l : Lexer) : Option (Bool × Lexer) :=
  if l.doubleDelim then do
    let (r, l) ← l.next
    pure (decide (r ≠ 125), l)
  else pure (false, l)

/-! ### Facts about the primitives (input never changes; how `pos` moves)

These stand in front of the loops whose termination proofs they serve and ask nothing of the lexer record; the lexer
invariant states the same steps again with what it knows (Lemmas/Lexer.lean `next_raw`, `scan_raw`). -/

theorem emit_spec {l l' : Lexer} {t : ItemType} (h : l.emit t = some l') :
    l'.input = l.input ∧ (l.pos ≤ l.len → l'.pos = l.pos) ∧ l'.pos ≤ l.pos ∧ l'.pos ≤ l.len := by
  unfold Lexer.emit at h
  simp only at h
  split at h
  · exact absurd h (by simp)
  · simp only [Option.some.injEq] at h
    subst h
    refine ⟨?_, ?_, ?_, ?_⟩
    · split <;> rfl
    · intro hle; simp only; split
      · omega
      · rfl
    · simp only; split
      · simp only; omega
      · exact Int.le_refl _
    · simp only; split
      · simp only [Lexer.len]; omega
      · simp only [Lexer.len] at *; omega

theorem scanWhile_spec (p : Int → Bool) (hp : p eof = false) (l : Lexer) {r : Int} {l' : Lexer}
    (h : scanWhile p hp l = some (r, l')) :
    l'.input = l.input ∧ l.pos ≤ l'.pos ∧ (l.pos ≤ l.len → l'.pos ≤ l.len) ∧ p r = false
      ∧ l'.pos - l'.width ≥ l.pos ∧ 0 ≤ l'.width := by
  induction l using scanWhile.induct p hp with
  | case1 l hn =>
    unfold scanWhile at h
    split at h
    · exact absurd h (by simp)
    · rename_i heq; rw [hn] at heq; exact absurd heq (by simp)
  | case2 l r0 l0 hn hr ih =>
    rw [scanWhile_some hn, if_pos hr] at h
    have := ih h
    have hi := next_input hn
    have hl := next_len hn
    rcases (next_spec hn).2 with ⟨_, _, hp0, _⟩ | ⟨_, _, _, hw, hp0, hle⟩
    · refine ⟨this.1.trans hi, by omega, ?_, this.2.2.2.1, by omega, this.2.2.2.2.2⟩
      intro hh; have := this.2.2.1 (by omega); omega
    · refine ⟨this.1.trans hi, by omega, ?_, this.2.2.2.1, by omega, this.2.2.2.2.2⟩
      intro _; have := this.2.2.1 (by omega); omega
  | case3 l r0 l0 hn hr =>
    rw [scanWhile_some hn, if_neg hr] at h
    simp only [Option.some.injEq, Prod.mk.injEq] at h
    obtain ⟨rfl, rfl⟩ := h
    have hi := next_input hn
    have hl := next_len hn
    refine ⟨hi, ?_, ?_, by simpa using hr, ?_, ?_⟩ <;>
      rcases (next_spec hn).2 with ⟨_, _, hp0, hw⟩ | ⟨_, _, _, hw, hp0, hle⟩ <;> omega


theorem maybeEmitText_spec {l l' : Lexer} {k : Int} (h : maybeEmitText l k = some l') :
    l'.input = l.input ∧ (l.pos - k ≤ l.len → l'.pos = l.pos) ∧ l'.pos ≤ l.pos := by
  unfold maybeEmitText at h
  split at h
  · split at h
    · exact absurd h (by simp)
    · split at h
      · exact absurd h (by simp)
      · rename_i l2 heq
        simp only [Option.some.injEq] at h
        subst h
        split at heq
        · simp only [Option.some.injEq] at heq
          subst heq
          refine ⟨rfl, ?_, ?_⟩ <;> (simp only [Lexer.ignore, Lexer.addPos]; intros; omega)
        · have := emit_spec heq
          simp only [Lexer.len, Lexer.addPos] at this ⊢
          refine ⟨this.1, ?_, ?_⟩
          · intro hle; have := this.2.1 hle; omega
          · have := this.2.2.1; omega
  · simp only [Option.some.injEq] at h
    subst h
    exact ⟨rfl, fun _ => rfl, Int.le_refl _⟩

/-! ## State functions -/

/-- `lexLineComment`: "//" has just been read -/
def lexLineComment (l : Lexer) : Res := do
  let (_, l) ← scanWhile (fun r => !(isEndOfLine r || r == eof)) (by decide) l
  let l ← l.emit .tComment
  pure (some .text, l)

/-- `lexBlockComment`: "/*" has just been read; `star` is the loop variable -/
def lexBlockComment (l : Lexer) (star : Bool) : Res :=
  match h : l.next with
  | none => none
  | some (r, l1) =>
    if r = eof then errorfAt l1 l1.start clsComment
    else if r = 42 then lexBlockComment l1 true
    else if r = 47 ∧ star = true then
      match l1.emit .tComment with
      | none => none
      | some l2 => some (some .text, l2)
    else lexBlockComment l1 false
termination_by l.rem
decreasing_by
  · exact next_rem_lt h (by assumption)
  · exact next_rem_lt h (by assumption)

/-- loop condition of "skip all spaces" in lexSoyDocParam: `!(r == eof || !isSpace(r))` -/
def sdpSkip (r : Int) : Bool := !(r == eof || !isSpace r)
/-- loop condition of "extract the param" in lexSoyDocParam: `!(isSpaceEOL(r) || r == eof)` -/
def sdpName (r : Int) : Bool := !(isSpaceEOL r || r == eof)

/-- the second half of `lexSoyDocParam`: skip spaces, extract the param name -/
def lexSoyDocParamName (l : Lexer) : Option Lexer :=
  -- skip all spaces: `for { r := l.next(); if r == eof || !isSpace(r) { break } }`
  match scanWhile sdpSkip (by decide) l with
  | none => none
  | some (_, l1) =>
    -- l.backup(); l.ignore()
    -- extract the param: `for { r := l.next(); if isSpaceEOL(r) || r == eof { … break } }`
    match scanWhile sdpName (by decide) l1.backup.ignore with
    | none => none
    | some (r, l2) =>
      -- back up over the delimiter (eof has no width): `if r != eof { l.pos-- }`; l.emit(itemIdent)
      match Lexer.emit (if r ≠ eof then l2.addPos (-1) else l2) .tIdent with
      | none => none
      | some l3 =>
        -- don't skip newlines. the outer routine needs to know about it
        some (if isSpace r then l3.addPos 1 else l3).ignore

/-- `lexSoyDocParam`: `l.pos` is at "@param" -/
def lexSoyDocParam (l : Lexer) : Option Lexer :=
  let l0 : Lexer := { l with pos := l.pos + 6 }
  match l0.next with
  | none => none
  | some (ch, l1) =>
    if ch = 63 then
      match l1.next with
      | none => none
      | some (c2, l2) =>
        if c2 ≠ 32 then some l2
        else
          match l2.backup.emit .tSoyDocOptionalParam with
          | none => none
          | some l3 => lexSoyDocParamName l3
    else if ch = 32 then
      match l1.backup.emit .tSoyDocParam with
      | none => none
      | some l2 => lexSoyDocParamName l2
    else some l1 -- what a fakeout

theorem lexSoyDocParamName_spec {l l' : Lexer} (h : lexSoyDocParamName l = some l')
    (hle : l.pos ≤ l.len) : l'.input = l.input ∧ l.pos - 1 ≤ l'.pos := by
  unfold lexSoyDocParamName at h
  split at h
  · exact absurd h (by simp)
  · rename_i r1 l1 h1
    have s1 := scanWhile_spec _ _ l h1
    split at h
    · exact absurd h (by simp)
    · rename_i r2 l2 h2
      have s2 := scanWhile_spec _ _ _ h2
      split at h
      · exact absurd h (by simp)
      · rename_i l3 h3
        have s3 := emit_spec h3
        simp only [Option.some.injEq] at h
        simp only [Lexer.backup, Lexer.ignore, Lexer.len] at s1 s2 s3 hle ⊢
        have e1 : l2.input = l.input := s2.1.trans s1.1
        have hl1 : l1.pos ≤ (l.input.size : Int) := s1.2.2.1 hle
        have hl2 : l2.pos ≤ (l.input.size : Int) := by
          have := s2.2.2.1; rw [s1.1] at this; apply this; omega
        have hp3 : l2.pos - 1 ≤ l3.pos := by
          split at s3
          · have := s3.2.1 (by simp only [Lexer.addPos]; rw [e1]; omega)
            simp only [Lexer.addPos] at this; omega
          · have := s3.2.1 (by rw [e1]; omega)
            omega
        have hi3 : l3.input = l.input := by
          split at s3 <;> (try simp only [Lexer.addPos] at s3) <;> exact s3.1.trans e1
        subst h
        refine ⟨?_, ?_⟩
        · split <;> simp only [Lexer.ignore, Lexer.addPos, hi3]
        · split <;> simp only [Lexer.ignore, Lexer.addPos] <;> omega

theorem lexSoyDocParam_spec {l l' : Lexer} (h : lexSoyDocParam l = some l')
    (hle : l.pos + 6 ≤ l.len) : l'.input = l.input ∧ l.pos ≤ l'.pos := by
  unfold lexSoyDocParam at h
  simp only at h
  split at h
  · exact absurd h (by simp)
  · rename_i ch l1 hn1
    have n1 := next_spec hn1
    have i1 : l1.input = l.input := n1.1
    have len0 : (Lexer.len { l with pos := l.pos + 6 }) = l.len := rfl
    have p1 : l.pos + 6 ≤ l1.pos ∧ l1.pos ≤ l.len ∧ l.pos + 6 = l1.pos - l1.width := by
      rcases n1.2 with ⟨_, _, hp, hw⟩ | ⟨_, _, _, hw, hp, hl⟩
      · simp only at hp; rw [len0] at *; omega
      · simp only at hp; rw [len0] at *; omega
    split at h
    · split at h
      · exact absurd h (by simp)
      · rename_i c2 l2 hn2
        have n2 := next_spec hn2
        have i2 : l2.input = l.input := n2.1.trans i1
        have len1 : l1.len = l.len := by simp [Lexer.len, i1]
        have p2 : l1.pos ≤ l2.pos ∧ l2.pos ≤ l.len ∧ l1.pos = l2.pos - l2.width := by
          rcases n2.2 with ⟨_, _, hp, hw⟩ | ⟨_, _, _, hw, hp, hl⟩
          · rw [len1] at *; omega
          · rw [len1] at *; omega
        split at h
        · simp only [Option.some.injEq] at h; subst h
          exact ⟨i2, by omega⟩
        · split at h
          · exact absurd h (by simp)
          · rename_i l3 he
            have e := emit_spec he
            simp only [Lexer.backup, Lexer.len] at e
            have hp3 : l3.pos = l2.pos - l2.width := by
              apply e.2.1; rw [i2]; simp only [Lexer.len] at p1 p2; omega
            have s := lexSoyDocParamName_spec h (by
              simp only [Lexer.len, e.1, i2, hp3]; simp only [Lexer.len] at p1 p2; omega)
            exact ⟨s.1.trans (e.1.trans i2), by omega⟩
    · split at h
      · split at h
        · exact absurd h (by simp)
        · rename_i l2 he
          have e := emit_spec he
          simp only [Lexer.backup, Lexer.len] at e
          have hp2 : l2.pos = l1.pos - l1.width := by
            apply e.2.1; rw [i1]; simp only [Lexer.len] at p1; omega
          have s := lexSoyDocParamName_spec h (by
            simp only [Lexer.len, e.1, i1, hp2]; simp only [Lexer.len] at p1; omega)
          exact ⟨s.1.trans (e.1.trans i1), by omega⟩
      · simp only [Option.some.injEq] at h; subst h
        exact ⟨i1, by omega⟩

theorem hasPrefixAt_true {s : Array UInt8} {pos : Int} {pre : Bytes}
    (h : hasPrefixAt s pos pre = some true) : 0 ≤ pos ∧ pos + pre.length ≤ s.size := by
  unfold hasPrefixAt at h
  split at h
  · rename_i hb
    simp only [Option.some.injEq, beq_iff_eq] at h
    have := congrArg List.length h
    simp only [Array.length_toList, Array.size_extract] at this
    omega
  · exact absurd h (by simp)

def atParam : Bytes := [64, 112, 97, 114, 97, 109] -- "@param"


theorem isEndOfLine_isSpaceEOL {r : Int} (h : isEndOfLine r = true) : isSpaceEOL r = true := by
  simp [isSpaceEOL, h]

/-- the `for` loop of `lexSoyDoc`; `star`, `startOfLine` are its loop variables.
    Measure: a `startOfLine` iteration that meets a non-space, non-`*` character steps back
    (`l.pos--`) and clears `startOfLine`, every other iteration moves forward. -/
def lexSoyDocLoop (l : Lexer) (docStart : Int) (star startOfLine : Bool) : Res :=
  match h : l.next with
  | none => none
  | some (ch, l1) =>
    if hE : ch = eof then errorfAt l1 docStart clsSoyDoc
    else if star = true ∧ ch = 47 then
      match maybeEmitText l1 2 with
      | none => none
      | some l2 =>
        match l2.emit .tSoyDocEnd with
        | none => none
        | some l3 => some (some .text, l3)
    else if hS : startOfLine = true then
      -- ignore any space or asterisks at the beginning of lines
      if hSp : isSpaceEOL ch = true then lexSoyDocLoop l1 docStart star true
      else if hSt : ch = 42 then lexSoyDocLoop l1 docStart true true
      else
        -- l.pos--; l.ignore(); start with @param?
        match hPre : hasPrefixAt l1.input (l1.pos - 1) atParam with
        | none => none
        | some pre =>
          match hP : (if pre = true then lexSoyDocParam (l1.addPos (-1)).ignore
                      else some (l1.addPos (-1)).ignore) with
          | none => none
          | some l2 =>
            -- startOfLine = false
            if hEol : isEndOfLine ch = true then
              match hM : maybeEmitText l2 1 with
              | none => none
              | some l3 => lexSoyDocLoop l3 docStart (ch == 42) true
            else lexSoyDocLoop l2 docStart (ch == 42) false
    else
      if hEol : isEndOfLine ch = true then
        match hM : maybeEmitText l1 1 with
        | none => none
        | some l2 => lexSoyDocLoop l2 docStart (ch == 42) true
      else lexSoyDocLoop l1 docStart (ch == 42) false
termination_by 2 * l.rem + (if startOfLine = true then 1 else 0)
decreasing_by
  · have := next_rem_lt h hE
    simp only [hS, if_true]; omega
  · have := next_rem_lt h hE
    simp only [hS, if_true]; omega
  · exact absurd (isEndOfLine_isSpaceEOL hEol) hSp
  · -- stepped back by one, `startOfLine` cleared
    have n := next_spec h
    have hl1 : l1.len = l.len := next_len h
    rcases n.2 with ⟨_, he, _⟩ | ⟨h0, h1, _, hw, hp, hle⟩
    · exact absurd he hE
    · have key : l2.input = l.input ∧ l1.pos - 1 ≤ l2.pos := by
        split at hP
        · rename_i hpre
          subst hpre
          have := hasPrefixAt_true hPre
          have s := lexSoyDocParam_spec hP (by
            simp only [Lexer.ignore, Lexer.addPos, Lexer.len, atParam, List.length] at this ⊢
            omega)
          simp only [Lexer.ignore, Lexer.addPos] at s
          exact ⟨s.1.trans n.1, by omega⟩
        · simp only [Option.some.injEq] at hP
          subst hP
          simp only [Lexer.ignore, Lexer.addPos]
          exact ⟨n.1, by omega⟩
      simp only [hS, if_true, Lexer.rem, Lexer.len, key.1] at *
      simp only [Bool.false_eq_true, if_false]
      omega
  · -- an end of line: maybeEmitText(l, 1) leaves pos where it was
    have n := next_spec h
    have hl1 : l1.len = l.len := next_len h
    rcases n.2 with ⟨_, he, _⟩ | ⟨h0, h1, _, hw, hp, hle⟩
    · exact absurd he hE
    · have m := maybeEmitText_spec hM
      have : l2.pos = l1.pos := m.2.1 (by omega)
      simp only [Lexer.rem, Lexer.len, m.1, n.1, this] at *
      first | omega | (split <;> omega) | (split <;> split <;> omega)
  · have := next_rem_lt h hE
    first | omega | (split <;> omega) | (split <;> split <;> omega)

/-- `lexSoyDoc`: '/**' has just been read -/
def lexSoyDoc (l : Lexer) : Res :=
  -- var docStart = l.start
  match l.emit .tSoyDocStart with
  | none => none
  | some l1 => lexSoyDocLoop l1 l.start false true

/-- `noChar`: "nothing read yet in this run of text" — not a rune, so a NUL before `//` does not make it a comment
    (/repo 67d6dd1).  Decoding never yields it; `r = eof` (also -1) ends the loop, so `lastChar` never holds `eof`. -/
def noChar : Int := -1

/-- the `for` loop of `lexText`; `lastChar` is the previous value of `r` (`noChar` at the start) -/
def lexTextLoop (l : Lexer) (lastChar : Int) : Res :=
  match h : l.next with
  | none => none
  | some (r, l1) =>
    -- comment / soydoc handling
    if hS : r = 47 then
      match h2 : l1.next with
      | none => none
      | some (r2, l2) =>
        if r2 = 47 then
          -- '//' only begins a comment if the previous character is whitespace,
          -- or if we are the start of input.
          let lastCharEmitted : Int :=
            if lastChar = noChar ∧ l2.lastEmit.val ≠ [] then ((l2.lastEmit.val.getLast?.getD 0).toNat : Int)
            else lastChar
          if lastCharEmitted = noChar ∨ isSpaceEOL lastCharEmitted = true then
            match maybeEmitText l2 3 with
            | none => none
            | some l3 =>
              -- ignore the preceding space, if present.
              lexLineComment (if lastChar ≠ noChar then { l3 with start := l3.start + 1 } else l3)
          else lexTextLoop l2.backup r -- `switch r` has no case for '/'
        else if r2 = 42 then
          match maybeEmitText l2 2 with
          | none => none
          | some l3 =>
            match l3.next with
            | none => none
            | some (r3, l4) =>
              if r3 = 42 then
                -- "/**/" is an empty block comment, not the start of a soydoc (/repo 73e5662)
                match l4.peek with
                | none => none
                | some (p4, l5) =>
                  if p4 = 47 then
                    match l5.next with
                    | none => none
                    | some (_, l6) =>
                      match l6.emit .tComment with
                      | none => none
                      | some l7 => some (some .text, l7)
                  else lexSoyDoc l5
              else lexBlockComment l4.backup false
        else lexTextLoop l2.backup r
    -- eof or entering a tag?
    else if r = 123 then
      match maybeEmitText l1.backup 0 with
      | none => none
      | some l2 => some (some .leftDelim, l2)
    else if r = 125 then errorf l1
    else if hE : r = eof then
      match maybeEmitText l1.backup 0 with
      | none => none
      | some l2 =>
        match l2.emit .tEOF with
        | none => none
        | some l3 => some (none, l3)
    else lexTextLoop l1 r
termination_by l.rem
decreasing_by
  · rw [next_backup_rem h2]; exact next_rem_lt h (by rw [hS]; decide)
  · rw [next_backup_rem h2]; exact next_rem_lt h (by rw [hS]; decide)
  · exact next_rem_lt h hE

/-- `lexText` scans until an opening command delimiter, "{" -/
def lexText (l : Lexer) : Res := lexTextLoop l noChar

/-- `lexLeftDelim` -/
def lexLeftDelim (l : Lexer) : Res := do
  let l : Lexer := { l with tagStart := l.start }
  let (_, l) ← l.next -- read the first {
  let (r, l) ← l.next
  let l : Lexer := if r = 123 then { l with doubleDelim := true } else { l.backup with doubleDelim := false }
  let l ← l.emit .tLeftDelim
  pure (some .beginTag, l)

/-- `lexRightDelim`: } has already been read -/
def lexRightDelim (l : Lexer) : Res := do
  let (bad, l) ← badDoubleClose l
  if bad then errorfAt l l.start clsBraces
  else do
    let l ← l.emit .tRightDelim
    pure (some .text, l)

/-- `lexRightDelimEnd`: / has already been read -/
def lexRightDelimEnd (l : Lexer) : Res := do
  let (_, l) ← l.next
  let (bad, l) ← badDoubleClose l
  if bad then errorfAt l l.start clsBraces
  else do
    let l ← l.emit .tRightDelimEnd
    pure (some .text, l)

/-- `lexBeginTag` -/
def lexBeginTag (l : Lexer) : Res := do
  let (r, l) ← l.peek
  if r = 47 ∨ r = 92 then pure (some .ident, l) else pure (some .insideTag, l)

/-- `lexNegative` (called by lexInsideTag after reading '-') -/
def lexNegative (l : Lexer) : Res :=
  -- unary if it starts a group or an op came just before: the generated predecessor set
  if Gen.unaryMinusAfter.contains l.lastEmit.typ then do
    -- is it a negative number?  `l.peek() >= '0' && l.peek() <= '9'`
    let (p1, l) ← l.peek
    let (isNum, l) ← (if p1 ≥ 48 then do
        let (p2, l) ← l.peek
        pure (decide (p2 ≤ 57), l)
      else pure (false, l) : Option (Bool × Lexer))
    if isNum then pure (some .number, l.backup)
    else do
      let l ← l.emit .tNegate
      pure (some .insideTag, l)
  else do
    let l ← l.emit .tSub
    pure (some .insideTag, l)

/-- emit `t` and stay in lexInsideTag -/
def emitInside (l : Lexer) (t : ItemType) : Res := do
  let l ← l.emit t
  pure (some .insideTag, l)

/-- what may continue a 1-character comparison symbol: only `=` (`>=` `<=` `!=` `==`); `$a<-1` is
    `$a < -1`, not an unknown symbol `<-` (/repo 967cc86) -/
def symbolChars : List Int := [61] -- "="

/-- lexInsideTag, `case r == '>', r == '!', r == '<', r == '=' && l.peek() == '='`:
    1 or 2 character symbols -/
def lexSymbol (l : Lexer) : Res := do
  let (_, l) ← accept l symbolChars
  let sym ← sliceOf l.input l.start l.pos
  match Gen.symbols.lookup sym with
  | none => errorf l
  | some t => emitInside l t

/-- lexInsideTag, the cases after the symbols (`case r == '"', r == '\''` … `default`) -/
def lexInsideTagRest (r : Int) (l : Lexer) : Res :=
  if r = 34 ∨ r = 39 then pure (some (.str r), l)
  else if r = 61 then emitInside l .tEquals
  else if r = eof then errorfAt l l.tagStart clsTag
  else if r = 124 then emitInside l .tPipe
  else if isLetterOrUnderscore r then pure (some .ident, l.backup)
  else if r = 44 then emitInside l .tComma
  else if r = 64 then pure (some .headerParam, l)
  else errorf l

/-- lexInsideTag, the cases from `case r == '$', r == '.'` on (`r` is the rune read, `l` the
    lexer after evaluating the case conditions before) -/
def lexInsideTagMid (r : Int) (l : Lexer) : Res :=
  if r = 36 ∨ r = 46 then pure (some .ident, l.backup)
  else if r = 91 then emitInside l .tLeftBracket
  else if r = 93 then emitInside l .tRightBracket
  else if r = 63 then do -- used by data refs and arithmetic
    let (r2, l) ← l.next
    if r2 = 46 then pure (some .ident, l.addPos (-2))
    else if r2 = 91 then emitInside l .tQuestionKey
    else if r2 = 58 then emitInside l .tElvis
    else emitInside l.backup .tTernIf
  else if r = 45 then lexNegative l
  else if r = 125 then pure (some .rightDelim, l)
  else if 48 ≤ r ∧ r ≤ 57 then pure (some .number, l.backup)
  else if r = 42 ∨ r = 47 ∨ r = 37 ∨ r = 43 ∨ r = 58 ∨ r = 40 ∨ r = 41 then
    -- the single-character symbols: arithmeticItemsBySymbol[string(r)] (zero value if absent)
    emitInside l ((Gen.symbols.lookup [r.toNat.toUInt8]).getD .tInvalid)
  else if r = 62 ∨ r = 33 ∨ r = 60 then lexSymbol l
  else if r = 61 then do
    -- `r == '=' && l.peek() == '='`
    let (p, l) ← l.peek
    if p = 61 then lexSymbol l else lexInsideTagRest r l
  else lexInsideTagRest r l

/-- `lexInsideTag` -/
def lexInsideTag (l : Lexer) : Res := do
  let (r, l) ← l.next
  if isSpaceEOL r then pure (some .insideTag, l.ignore)
  else if r = 47 then do
    -- case r == '/' && l.peek() == '}'
    let (p, l) ← l.peek
    if p = 125 then pure (some .rightDelimEnd, l) else lexInsideTagMid r l
  else lexInsideTagMid r l

/-- the state function returned by `stringLexer(quoteChar)`; the quote has been read -/
def lexString (quote : Int) (l : Lexer) : Res :=
  match h : l.next with
  | none => none
  | some (r, l1) =>
    if hE : r = eof then errorfAt l1 l1.start clsString
    else if r = 92 then
      -- skip escape sequences
      match h2 : l1.next with
      | none => none
      | some (_, l2) => lexString quote l2
    else if r = quote then
      match l1.emit .tString with
      | none => none
      | some l2 => some (some .insideTag, l2)
    else lexString quote l1
termination_by l.rem
decreasing_by
  · exact Nat.lt_of_le_of_lt (next_rem_le h2) (next_rem_lt h hE)
  · exact next_rem_lt h hE

theorem lexString_some {l l1 : Lexer} {r : Int} {quote : Int} (hn : l.next = some (r, l1)) :
    lexString quote l =
      if r = eof then errorfAt l1 l1.start clsString
      else if r = 92 then
        match l1.next with
        | none => none
        | some (_, l2) => lexString quote l2
      else if r = quote then
        match l1.emit .tString with
        | none => none
        | some l2 => some (some .insideTag, l2)
      else lexString quote l1 := by
  rw [lexString]
  split
  · rename_i h; rw [hn] at h; exact absurd h (by simp)
  · rename_i r' l1' h
    rw [hn] at h
    simp only [Option.some.injEq, Prod.mk.injEq] at h
    obtain ⟨rfl, rfl⟩ := h
    split
    · rfl
    · split
      · split
        · rename_i h2; simp only [h2]
        · rename_i r2 l2 h2; simp only [h2]
      · rfl

/-- second part of `lexIdent`: absorb the rest of the identifier and classify it -/
def lexIdentRest (l : Lexer) (itemType : ItemType) : Res := do
  let (_, l) ← scanWhile isAlphaNumeric isAlphaNumeric_eof l
  let l := l.backup
  let word ← sliceOf l.input l.start l.pos
  -- if it's a builtin, return that item type
  match Gen.builtinIdents.lookup word with
  | some t => do
    let l ← l.emit t
    -- {literal} and {css} have unusual lexing rules
    if t = .tLiteral then pure (some .literal, l)
    else if t = .tCss then pure (some .css, l)
    else pure (some .insideTag, l)
  | none =>
    -- if not a builtin, it shouldn't start with / or \
    if itemType = .tCommandEnd ∨ itemType = .tSpecialChar then do
      let _ ← sliceOf l.input l.start l.pos
      errorf { l with pos := l.start }
    else emitInside l itemType -- else, use the type determined at the beginning.

/-- `lexIdent` recognizes the various kinds of identifiers -/
def lexIdent (l : Lexer) : Res := do
  let (r, l) ← l.next
  if r = 46 then do
    let (d, l) ← l.next
    -- a name begins with a letter or an underscore: "$a." or ".٣" is not one (/repo 8984077)
    if isDigit d then lexIdentRest l.backup .tDotIndex
    else if d = 95 ∨ isLetterU d = true then lexIdentRest l.backup .tDotIdent
    else errorfAt l l.start clsName
  else if r = 36 then do
    -- a variable name begins with a letter or an underscore.
    let (p, l) ← l.peek
    if p ≠ 95 ∧ !isLetterU p then errorf l
    else lexIdentRest l .tDollarIdent
  else if r = 47 then lexIdentRest l .tCommandEnd
  else if r = 92 then lexIdentRest l .tSpecialChar
  else if r = 63 then do
    let (dot, l) ← l.next
    if dot ≠ 46 then errorf l
    else do
      let (d, l) ← l.next
      if isDigit d then lexIdentRest l.backup .tQuestionDotIndex
      else if d = 95 ∨ isLetterU d = true then lexIdentRest l.backup .tQuestionDotIdent
      else errorfAt l l.start clsName
  else lexIdentRest l .tIdent

/-- the type scan of `lexHeaderParam`:
    `for ch := l.next(); ch != '=' && ch != '}'; ch = l.next() { if ch == eof {error}; if !isSpace(ch) { lastNonSpace = l.pos } }`.
    Returns the rune that ended the loop (eof = the error exit), the lexer and `lastNonSpace`. -/
def headerTypeLoop (l : Lexer) (lastNonSpace : Int) : Option (Int × Lexer × Int) :=
  match h : l.next with
  | none => none
  | some (ch, l1) =>
    if ch = 61 ∨ ch = 125 then some (ch, l1, lastNonSpace)
    else if hE : ch = eof then some (ch, l1, lastNonSpace)
    else headerTypeLoop l1 (if isSpace ch then lastNonSpace else l1.pos)
termination_by l.rem
decreasing_by exact next_rem_lt h hE

def kwParam : Bytes := [112, 97, 114, 97, 109] -- "param"

/-- `lexHeaderParam`: '@' has just been read -/
def lexHeaderParam (l : Lexer) : Res := do
  let pre ← hasPrefixAt l.input l.pos kwParam
  if !pre then errorf l
  else do
    let l := l.addPos 5
    let (q, l) ← l.next
    let l ← (if q = 63 then l.emit .tHeaderOptionalParam else l.backup.emit .tHeaderParam)
    let l ← skipSpace l
    -- Consume the (simple) identifier.
    let (_, l) ← scanWhile isAlphaNumeric isAlphaNumeric_eof l
    let l ← l.backup.emit .tIdent
    let l ← skipSpace l
    -- Consume the ':'
    let (c, l) ← l.next
    if c ≠ 58 then errorfAt l l.tagStart clsTag   -- reported at the `{` of the tag (/repo ac1c871)
    else do
      let l ← l.emit .tColon
      let l ← skipSpace l
      -- Consume until the equals or end of the tag.
      let (ch, l, lastNonSpace) ← headerTypeLoop l l.pos
      if ch = eof then errorfAt l l.tagStart clsTag
      else do
        let l : Lexer := { l with pos := lastNonSpace }
        let l ← l.emit .tHeaderParamType
        let l ← skipSpace l
        pure (some .insideTag, l)

/-- loop condition of the body scan of `lexCss` (`ch != '}'`, leaving on eof with an error) -/
def cssBody (ch : Int) : Bool := !(ch == 125) && !(ch == eof)

/-- `lexCss`: itemCss has already been emitted -/
def lexCss (l : Lexer) : Res := do
  let (_, l) ← l.next
  let l := l.ignore
  let (ch, l) ← scanWhile cssBody (by decide) l
  if ch = eof then errorfAt l l.tagStart clsTag
  else do
    let l ← l.backup.emit .tText
    let (_, l) ← l.next
    let (bad, l) ← badDoubleClose l
    if bad then errorfAt l l.start clsBraces
    else do
      let l ← l.emit .tRightDelim
      pure (some .text, l)

def closeLiteral1 : Bytes := [123, 47, 108, 105, 116, 101, 114, 97, 108, 125] -- "{/literal}"
def closeLiteral2 : Bytes := [123, 123, 47, 108, 105, 116, 101, 114, 97, 108, 125, 125] -- "{{/literal}}"

/-- `lexLiteral`: itemLiteral has already been emitted -/
def lexLiteral (l : Lexer) : Res := do
  -- emit the closing of the initial {literal} tag
  let (ch, l) ← scanWhile isSpace (by decide) l
  if ch ≠ 125 then errorfAt l l.tagStart clsTag   -- reported at the `{` of the tag (/repo ac1c871)
  else do
    let (bad, l) ← badDoubleClose l
    if bad then errorfAt l l.start clsBraces
    else do
      let l ← l.emit .tRightDelim
      -- Fast forward through the literal section.
      let expectClose := if l.doubleDelim then closeLiteral2 else closeLiteral1
      let delimLen : Int := if l.doubleDelim then 2 else 1
      let rest ← sliceFrom l.input l.pos
      match stringsIndex expectClose rest with
      | none => errorfAt l l.tagStart clsLiteral
      | some i => do
        let l := l.addPos i
        let l ← (if i > 0 then l.emit .tText else pure l)
        let l ← (l.addPos delimLen).emit .tLeftDelim
        let l ← (l.addPos 8).emit .tLiteralEnd
        let l ← (l.addPos delimLen).emit .tRightDelim
        pure (some .text, l)

def decDigits : List Int := [48, 49, 50, 51, 52, 53, 54, 55, 56, 57]
def hexDigits : List Int := [48, 49, 50, 51, 52, 53, 54, 55, 56, 57, 65, 66, 67, 68, 69, 70]

/-- the end of `scanNumber`: next thing must not be alphanumeric -/
def scanNumberEnd (l : Lexer) (typ : ItemType) : Option (ItemType × Bool × Lexer) := do
  let (p, l) ← l.peek
  if isAlphaNumeric p then do
    let (_, l) ← l.next
    pure (typ, false, l)
  else pure (typ, true, l)

/-- optional exponent of a decimal number, then the end check -/
def scanNumberExp (l : Lexer) (typ : ItemType) : Option (ItemType × Bool × Lexer) := do
  let (e, l) ← accept l [101]
  if e then do
    let (_, l) ← accept l [43, 45]
    let (ok, l) ← acceptRun l decDigits
    if !ok then pure (typ, false, l) -- A digit is required after the scientific notation.
    else scanNumberEnd l .tFloat
  else scanNumberEnd l typ

/-- `scanNumber`: (typ, ok, lexer) -/
def scanNumber (l : Lexer) : Option (ItemType × Bool × Lexer) := do
  -- Optional leading sign.
  let (hasSign, l) ← accept l [43, 45]
  let isHex ← (if l.len ≥ l.pos + 2 then do
      let s ← sliceOf l.input l.pos (l.pos + 2)
      pure (s == [48, 120])
    else pure false : Option Bool)
  if isHex then
    -- Hexadecimal.
    if hasSign then pure (.tInteger, false, l) -- No signs for hexadecimals.
    else do
      -- `l.pos += 2`: exactly the two bytes of the prefix, not `acceptRun("0x")` (/repo 7a9e4b4)
      let l : Lexer := { l with pos := l.pos + 2 }
      let (ok, l) ← acceptRun l hexDigits
      if !ok then pure (.tInteger, false, l) -- Requires at least one digit.
      else do
        let (dot, l) ← accept l [46]
        if dot then pure (.tInteger, false, l) -- No dots for hexadecimals.
        else scanNumberEnd l .tInteger
  else do
    -- Decimal.
    let (ok, l) ← acceptRun l decDigits
    if !ok then pure (.tInteger, false, l) -- Requires at least one digit.
    else do
      let (dot, l) ← accept l [46]
      if dot then do
        -- Float.
        let (ok, l) ← acceptRun l decDigits
        if !ok then pure (.tInteger, false, l) -- Requires a digit after the dot.
        else scanNumberExp l .tFloat
      else do
        -- Integers can't start with 0.
        let bad ← (if !hasSign then do
            let b ← indexOf l.input l.start
            pure (b == 48 && decide (l.pos > l.start + 1))
          else do
            let b ← indexOf l.input (l.start + 1)
            pure (b == 48 && decide (l.pos > l.start + 2)) : Option Bool)
        if bad then pure (.tInteger, false, l)
        else scanNumberExp l .tInteger

/-- `lexNumber` -/
def lexNumber (l : Lexer) : Res := do
  let (typ, ok, l) ← scanNumber l
  if !ok then do
    let _ ← sliceOf l.input l.start l.pos -- the argument of the error message
    errorf l
  else emitInside l typ -- Emits itemFloat or itemInteger.

/-! ## The state machine -/

/-- one call `l.state(l)` -/
def step : St → Lexer → Res
  | .text, l => lexText l
  | .leftDelim, l => lexLeftDelim l
  | .rightDelim, l => lexRightDelim l
  | .rightDelimEnd, l => lexRightDelimEnd l
  | .beginTag, l => lexBeginTag l
  | .insideTag, l => lexInsideTag l
  | .ident, l => lexIdent l
  | .number, l => lexNumber l
  | .headerParam, l => lexHeaderParam l
  | .css, l => lexCss l
  | .literal, l => lexLiteral l
  | .str q, l => lexString q l

inductive LexResult where
  /-- the channel was closed after these items -/
  | items (is : List Item)
  /-- a Go runtime panic in the lexer goroutine -/
  | panic
  /-- the budget of state transitions was used up -/
  | fuelOut
  deriving Repr, DecidableEq

/-- `for l.state != nil { l.state = l.state(l) }; close(l.items)` with a budget -/
def run : Nat → St → Lexer → LexResult
  | 0, _, _ => .fuelOut
  | n + 1, s, l =>
    match step s l with
    | none => .panic
    | some (none, l') => .items l'.items.toList
    | some (some s', l') => run n s' l'

/-- budget of state transitions for an input of `n` bytes -/
def fuelFor (n : Nat) : Nat := 7 * n + 8

def initLexer (input : Bytes) : Lexer := { input := input.toArray }

/-- `lex(name, input)` (file mode, starts in lexText) / `lexExpr(name, input)` (starts in
    lexInsideTag): everything the parser can receive from the channel. -/
def lexAll (input : Bytes) (exprMode : Bool) : LexResult :=
  run (fuelFor input.length) (if exprMode then .insideTag else .text) (initLexer input)

/-- the hand-written item type agrees with the running code's const block -/
theorem itemOrder_ok : Gen.itemOrder = ItemType.all := by decide

end SoyVerif.Model.Lex
