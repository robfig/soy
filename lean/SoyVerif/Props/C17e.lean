/-
  C17e — exact evaluation of the lexer model on the MINIMAL soydoc `/** */`.

  Three one-iteration equations of the loop of `lexSoyDoc` (the closing `*/`; a blank and a `*` at the start of a
  line), and from them what ONE `lexText` call does at offset `q`, nothing pending, in front of `n` text bytes and the
  six bytes `/** */` (47 42 42 32 42 47): it sends the text item (if any), SoyDocStart (end `q+n+3`), the Text item
  for the blank, SoyDocEnd (end `q+n+6`) — THREE items behind the text — and returns to `lexText` at `q+n+6`,
  nothing pending (`lexText_text_soydoc_min`; over `Holds`, in the form `run (f+1) = run f`: `soydoc_min_run`).

  NOT proved here: soydocs with any other body (`/**` ++ c ++ `*/` for a general class of c, `@param` lines,
  several lines); the file-level corollary (soydoc in front of `{template}`); anything about the parser's
  `soyDocLoop` skipping the Text item.
-/
import SoyVerif.Props.C15c

namespace SoyVerif.Props.C17e
open SoyVerif SoyVerif.Model SoyVerif.Spec SoyVerif.Props.C15b SoyVerif.Props.C15c
open Lex

/-- the closing `/` behind a `*` -/
theorem lexSoyDocLoop_end {l l1 : Lexer} {ds : Int} {sol : Bool} (hn : l.next = some (47, l1)) :
    lexSoyDocLoop l ds true sol =
      match maybeEmitText l1 2 with
      | none => none
      | some l2 =>
        match l2.emit .tSoyDocEnd with
        | none => none
        | some l3 => some (some .text, l3) := by
  rw [lexSoyDocLoop]
  split
  · rename_i h; rw [hn] at h; exact absurd h (by simp)
  · rename_i r' l1' h
    rw [hn] at h
    simp only [Option.some.injEq, Prod.mk.injEq] at h
    obtain ⟨rfl, rfl⟩ := h
    rw [dif_neg (by decide), if_pos ⟨rfl, rfl⟩]
    rfl

/-- a blank at the start of a line (no `*` before it) is skipped -/
theorem lexSoyDocLoop_sol_space {l l1 : Lexer} {ds : Int} (hn : l.next = some (32, l1)) :
    lexSoyDocLoop l ds false true = lexSoyDocLoop l1 ds false true := by
  rw [lexSoyDocLoop]
  split
  · rename_i h; rw [hn] at h; exact absurd h (by simp)
  · rename_i r' l1' h
    rw [hn] at h
    simp only [Option.some.injEq, Prod.mk.injEq] at h
    obtain ⟨rfl, rfl⟩ := h
    rw [dif_neg (by decide), if_neg (by simp), dif_pos rfl, dif_pos (by decide)]

/-- a `*` at the start of a line (no `*` before it) is skipped and remembered -/
theorem lexSoyDocLoop_sol_star {l l1 : Lexer} {ds : Int} (hn : l.next = some (42, l1)) :
    lexSoyDocLoop l ds false true = lexSoyDocLoop l1 ds true true := by
  rw [lexSoyDocLoop]
  split
  · rename_i h; rw [hn] at h; exact absurd h (by simp)
  · rename_i r' l1' h
    rw [hn] at h
    simp only [Option.some.injEq, Prod.mk.injEq] at h
    obtain ⟨rfl, rfl⟩ := h
    rw [dif_neg (by decide), if_neg (by simp), dif_pos rfl, dif_neg (by decide), dif_pos rfl]

/-- text then `/** */`: ONE `lexText` call sends the text, SoyDocStart, the Text for the blank, SoyDocEnd and
    returns to `lexText` -/
theorem lexText_text_soydoc_min (inp : Array UInt8) (q n : Nat) (w : Int) (dd : Bool) (ts : Int) (le : Item) (its : Array Item)
    (hsz : q + n + 6 ≤ inp.size)
    (htxt : ∀ i, i < n → TextByte (byteAt inp (q + i)) (byteAt inp (q + i + 1)))
    (h1 : byteAt inp (q + n) = 47) (h2 : byteAt inp (q + n + 1) = 42) (h3 : byteAt inp (q + n + 2) = 42)
    (h4 : byteAt inp (q + n + 3) = 32) (h5 : byteAt inp (q + n + 4) = 42) (h6 : byteAt inp (q + n + 5) = 47) :
    ∃ (w' : Int) (dd' : Bool) (ts' : Int) (le' : Item) (its' : Array Item),
      lexText (Lexer.mk inp q q w dd ts le its) =
        some (some .text, Lexer.mk inp ((q + n + 6 : Nat) : Int) ((q + n + 6 : Nat) : Int) w' dd' ts' le' its') ∧
      its'.toList = its.toList ++ textItems inp (q : Int) ((q + n : Nat) : Int) ++
        [⟨.tSoyDocStart, q + n + 3, (inp.extract (q + n) (q + n + 3)).toList⟩] ++
        textItems inp ((q + n + 3 : Nat) : Int) ((q + n + 3 + 1 : Nat) : Int) ++
        [⟨.tSoyDocEnd, q + n + 6, (inp.extract (q + n + 4) (q + n + 6)).toList⟩] := by
  obtain ⟨w3, dd3, ts3, le3, its3, hlx, hit⟩ := lexText_text_slashStar inp q n w dd ts le its (by omega) htxt h1 h2
  -- the lexer after the closing `/` has been read
  obtain ⟨l5, hm, hit5, hp5, hin5, hst5, _⟩ := maybeEmitText_items
    (l := Lexer.mk inp ((q + n + 5 + 1 : Nat) : Int) ((q + n + 3 : Nat) : Int) 1 dd3 ts3
      ⟨.tSoyDocStart, q + n + 3, (inp.extract (q + n) (q + n + 3)).toList⟩
      (its3.push ⟨.tSoyDocStart, q + n + 3, (inp.extract (q + n) (q + n + 3)).toList⟩)) (k := 2)
    (by show (0 : Int) ≤ ((q + n + 3 : Nat) : Int); omega)
    (by show ((q + n + 5 + 1 : Nat) : Int) - 2 ≤ (inp.size : Int); omega)
  obtain ⟨inp5, p5, s5, w5, dd5, ts5, le5, its5⟩ := l5
  simp only at hit5 hp5 hin5 hst5
  subst inp5 p5
  have hs5 : s5 = ((q + n + 4 : Nat) : Int) := by
    rw [hst5 (by omega)]; omega
  subst hs5
  refine ⟨w5, dd5, ts5, ⟨.tSoyDocEnd, q + n + 6, (inp.extract (q + n + 4) (q + n + 6)).toList⟩,
    its5.push ⟨.tSoyDocEnd, q + n + 6, (inp.extract (q + n + 4) (q + n + 6)).toList⟩, ?_, ?_⟩
  · rw [hlx]
    unfold afterSlashStar
    rw [next_mk inp (q + n + 2) _ w3 dd3 ts3 le3 its3 42 (by omega) h3 (by omega)]
    simp only
    rw [if_pos (by decide)]
    unfold Lexer.peek
    rw [next_mk inp (q + n + 2 + 1) _ 1 dd3 ts3 le3 its3 32 (by omega) h4 (by omega)]
    simp only [bind, Option.bind, pure, backup_mk]
    rw [if_neg (by decide)]
    unfold lexSoyDoc
    rw [emit_mk inp (q + n) (q + n + 2 + 1) 1 dd3 ts3 le3 its3 .tSoyDocStart (by omega) (by omega)]
    simp only
    rw [lexSoyDocLoop_sol_space (next_mk inp (q + n + 2 + 1) _ 1 dd3 ts3 _ _ 32 (by omega) h4 (by omega))]
    rw [lexSoyDocLoop_sol_star (next_mk inp (q + n + 2 + 1 + 1) _ 1 dd3 ts3 _ _ 42 (by omega) h5 (by omega))]
    rw [lexSoyDocLoop_end (next_mk inp (q + n + 2 + 1 + 1 + 1) _ 1 dd3 ts3 _ _ 47 (by omega) h6 (by omega))]
    rw [show q + n + 2 + 1 + 1 + 1 + 1 = q + n + 5 + 1 by omega, show q + n + 2 + 1 = q + n + 3 by omega, hm]
    simp only
    rw [emit_mk inp (q + n + 4) (q + n + 5 + 1) w5 dd5 ts5 le5 its5 .tSoyDocEnd (by omega) (by omega)]
  · simp only [Array.toList_push, hit5, hit]
    rw [show ((q + n + 5 + 1 : Nat) : Int) - 2 = ((q + n + 3 + 1 : Nat) : Int) by omega]

/-- a text run `t` (possibly empty) and the minimal soydoc `/** */` behind it: one state function, THREE items
    behind the text item (stated as the premise of `Runs.of_steps`) -/
theorem soydoc_min_run {inp : Array UInt8} {q : Nat} {t post : Bytes} (ht : t = [] ∨ textOK t)
    (hlast : (t.getD (t.length - 1) 0).toNat ≠ 47)
    (h : Holds inp q (t ++ ([47, 42, 42, 32, 42, 47] ++ post))) (f : Nat) (w : Int) (dd : Bool) (ts : Int) (le : Item)
    (its : Array Item) :
    ∃ (w' : Int) (dd' : Bool) (ts' : Int) (le' : Item) (its' : Array Item),
      run (f + 1) .text (Lexer.mk inp q q w dd ts le its) =
        run f .text (Lexer.mk inp ((q + t.length + 6 : Nat) : Int) ((q + t.length + 6 : Nat) : Int)
          w' dd' ts' le' its') ∧
      its'.toList = its.toList ++ textItem t (q + t.length) ++
        [⟨.tSoyDocStart, q + t.length + 3, [47, 42, 42]⟩, ⟨.tText, q + t.length + 4, [32]⟩,
         ⟨.tSoyDocEnd, q + t.length + 6, [42, 47]⟩] := by
  obtain ⟨ht', hcm⟩ := h.append
  obtain ⟨hsrc, _⟩ := hcm.append
  have hA : Holds inp (q + t.length) ([47, 42, 42] ++ [32, 42, 47]) := hsrc
  obtain ⟨hA1, hA2⟩ := hA.append
  have hB : Holds inp (q + t.length + 3) ([32] ++ [42, 47]) := hA2
  obtain ⟨hB1, hB2⟩ := hB.append
  obtain ⟨h0, hb0, r1⟩ := hsrc.cons
  obtain ⟨_, hb1, r2⟩ := r1.cons
  obtain ⟨_, hb2, r3⟩ := r2.cons
  obtain ⟨_, hb3, r4⟩ := r3.cons
  obtain ⟨_, hb4, r5⟩ := r4.cons
  obtain ⟨h5', hb5, _⟩ := r5.cons
  obtain ⟨w', dd', ts', le', its', hlx, hits⟩ := lexText_text_soydoc_min inp q t.length w dd ts le its (by omega)
    (text_bytes ht' ht (Or.inl hlast)) hb0 hb1 hb2 hb3 hb4 hb5
  refine ⟨w', dd', ts', le', its', ?_, ?_⟩
  · rw [Lemmas.LexPrint.run_step (n := f) (show step .text _ = _ from hlx)]
  · rw [hits, textItems_holds ht']
    have e1 := hA1.extract
    have e2 := hB2.extract
    have e3 := textItems_holds hB1
    simp only [List.length_cons, List.length_nil] at e1 e2 e3
    rw [show q + t.length + (0 + 1 + 1 + 1) = q + t.length + 3 by omega] at e1
    rw [show q + t.length + 3 + 1 = q + t.length + 4 by omega,
      show q + t.length + 4 + (0 + 1 + 1) = q + t.length + 6 by omega] at e2
    rw [show q + t.length + 3 + (0 + 1) = q + t.length + 3 + 1 by omega] at e3
    rw [e1, e2, e3]
    have hsp : allSpaceWithNewline [32] = false := by
      unfold allSpaceWithNewline
      have hd : decodeRune [32].toArray 0 = (32, 1) := by decide
      rw [allSpaceLoop, dif_pos (by decide)]
      simp only [hd]
      rw [allSpaceLoop, dif_neg (by decide)]
      decide
    simp [textItem, dropped, hsp]

end SoyVerif.Props.C17e
