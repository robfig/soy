/-
  C16, the `json` directive — "json output parses to a value structurally equal to the input".

  Specification side: Spec/Json.lean, the JSON grammar of RFC 8259 / ECMA-404 written from the standard.  Model side:
  `Model.jsonString` (encoding/json's string encoder in HTML-safe mode; correspondence C16dir `jsonstr` / `dir json`) and
  `Model.JsonMarshal.jsonMarshal` (`json.Marshal` on every Soy value; correspondence C16json).

  What the marshalled text denotes is `toJ v`: undefined / null / nil list / nil map ↦ null, booleans, numbers with their
  literal, strings with every invalid byte replaced by U+FFFD, lists elementwise, maps as objects whose members are sorted
  by key.  `json_roundtrip` has the hypothesis `FloatsOk v` (every float finite, its text a JSON number);
  `json_roundtrip_total` puts in what Lemmas/F64Shape.lean proves of every finite float and has none.  That the float
  literal parses back to the same float is C20's format/parse tie, not part of this file.
-/
import SoyVerif.Lemmas.JsonString
import SoyVerif.Lemmas.JsonValue
import SoyVerif.Lemmas.F64Shape

namespace SoyVerif.Props.C16b
open SoyVerif SoyVerif.Model SoyVerif.Spec SoyVerif.Spec.Json SoyVerif.Lemmas.JsonString
open SoyVerif.Model.JsonMarshal SoyVerif.Lemmas.JsonValue

/-- for EVERY byte string: the output is a JSON string literal (RFC 8259 §7) and denotes the input
    with every invalid byte replaced by U+FFFD -/
theorem jsonString_sanitize (s : Bytes) : jsonDecodeString (jsonString s) = some (sanitize s) := by
  simp only [jsonString, jsonDecodeString, List.cons_append, List.nil_append, List.append_assoc, sanitize]
  rw [roundtrip_body [] s]

/-- valid UTF-8 comes back exactly -/
theorem jsonString_roundtrip (s : Bytes) (hs : ValidUtf8 s) : jsonDecodeString (jsonString s) = some s := by
  rw [jsonString_sanitize, SoyVerif.Lemmas.Utf8.sanitize_valid s hs]

/-- embedding safety, for EVERY byte string: the literal is `"` body `"` where the body has no control
    byte, no raw `<` `>` `&`, no raw U+2028 / U+2029 and no unescaped `"` (and no dangling backslash) -/
theorem jsonString_safe (s : Bytes) :
    ∃ body, jsonString s = [34] ++ body ++ [34] ∧ (∀ b ∈ body, byteSafe b = true) ∧
      quotesEscaped body = true ∧ noLineSep body = true := by
  have h := pieces_ok s
  refine ⟨jsonStringGo 0 s, rfl, h.tok.1, ?_, by simpa [noLineSep] using h.sep []⟩
  simpa [quotesEscaped, quotesEscapedGo] using h.tok.2 []

/-- sanitising leaves valid UTF-8 as it is -/
theorem sanitize_id (s : Bytes) (hs : ValidUtf8 s) : sanitize s = s := SoyVerif.Lemmas.Utf8.sanitize_valid s hs

/-- the marshalled text of a value is a JSON text and denotes the same structure -/
theorem json_roundtrip (v : Value) (out : Bytes) (h : jsonMarshal v = some out) (hf : FloatsOk v) :
    jsonDecode out = some (toJ v) := by
  have hp := parsesV v out h hf [] (out.length + 1) (Or.inl rfl) (Nat.le_succ_of_le (need_le v out h hf))
  simp only [List.append_nil] at hp
  simp [jsonDecode, hp, skipWs]

mutual
  /-- no float anywhere in the value (decidable) -/
  def floatFree : Value → Bool
    | .float _ => false
    | .list _ xs => floatFreeL xs
    | .map _ kvs => floatFreeM kvs
    | _ => true
  def floatFreeL : List Value → Bool
    | [] => true
    | x :: r => floatFree x && floatFreeL r
  def floatFreeM : List (Bytes × Value) → Bool
    | [] => true
    | (_, v) :: r => floatFree v && floatFreeM r
end

mutual
  theorem floatsOk_of_free : (v : Value) → floatFree v = true → FloatsOk v
    | .undefined, _ => trivial
    | .null, _ => trivial
    | .bool _, _ => trivial
    | .int _, _ => trivial
    | .str _, _ => trivial
    | .float _, h => nomatch h
    | .list _ xs, h => Or.inr (floatsOkL_of_free xs h)
    | .map _ kvs, h => Or.inr (floatsOkM_of_free kvs h)
  theorem floatsOkL_of_free : (xs : List Value) → floatFreeL xs = true → FloatsOkL xs
    | [], _ => trivial
    | x :: r, h =>
        have h := Bool.and_eq_true_iff.1 h
        show FloatsOk x ∧ FloatsOkL r from ⟨floatsOk_of_free x h.1, floatsOkL_of_free r h.2⟩
  theorem floatsOkM_of_free : (kvs : List (Bytes × Value)) → floatFreeM kvs = true → FloatsOkM kvs
    | [], _ => trivial
    | (_, v) :: r, h =>
        have h := Bool.and_eq_true_iff.1 h
        show FloatsOk v ∧ FloatsOkM r from ⟨floatsOk_of_free v h.1, floatsOkM_of_free r h.2⟩
end

/-- without floats there is no hypothesis (and `jsonMarshal` cannot fail): strings, ints, booleans,
    null / undefined, lists and maps of these, to any depth -/
theorem json_roundtrip_nofloat (v : Value) (out : Bytes) (h : jsonMarshal v = some out) (hf : floatFree v = true) :
    jsonDecode out = some (toJ v) :=
  json_roundtrip v out h (floatsOk_of_free v hf)

theorem jsonFloat_some_finite {f : F64} {lit : Bytes} (h : jsonFloat f = some lit) : f.isNaN = false ∧ f.isInf = false := by
  unfold jsonFloat at h
  cases hn : f.isNaN <;> cases hi : f.isInf <;> simp [hn, hi] at h ⊢

mutual
  /-- the float hypothesis is no hypothesis: a value that `json.Marshal` accepts has only finite floats
      (where it looks), and every finite float is written as a JSON number
      (`Lemmas.F64Shape.jsonFloat_finite`, the output shape of the soft-float formatter) -/
  theorem floatsOk_of_marshal : (v : Value) → ∀ out, jsonMarshal v = some out → FloatsOk v
    | .undefined, _, _ => trivial
    | .null, _, _ => trivial
    | .bool _, _, _ => trivial
    | .int _, _, _ => trivial
    | .str _, _, _ => trivial
    | .float f, out, h => by
        rw [jsonMarshal] at h
        rw [FloatsOk]
        obtain ⟨hn, hi⟩ := jsonFloat_some_finite h
        exact SoyVerif.Lemmas.F64Shape.jsonFloat_finite f hn hi
    | .list id xs, out, h => by
        rw [FloatsOk]
        rcases marshal_list h with ⟨hid, _⟩ | ⟨_, body, hb, _⟩
        · exact Or.inl (by simpa using hid)
        · exact Or.inr (floatsOkL_of_marshal xs body hb)
    | .map id kvs, out, h => by
        rw [FloatsOk]
        rcases marshal_map h with ⟨hid, _⟩ | ⟨_, ms, hm, _⟩
        · exact Or.inl (by simpa using hid)
        · exact Or.inr (floatsOkM_of_marshal kvs ms hm)
  theorem floatsOkL_of_marshal : (xs : List Value) → ∀ body, marshalElems xs = some body → FloatsOkL xs
    | [], _, _ => trivial
    | [x], body, h => show FloatsOk x ∧ True from ⟨floatsOk_of_marshal x body h, trivial⟩
    | x :: y :: r, body, h => by
        rw [marshalElems] at h
        rw [FloatsOkL]
        split at h
        · rename_i a b ha hb
          exact ⟨floatsOk_of_marshal x a ha, floatsOkL_of_marshal (y :: r) b hb⟩
        · exact absurd h (by simp)
  theorem floatsOkM_of_marshal : (kvs : List (Bytes × Value)) → ∀ ms, marshalMembers kvs = some ms → FloatsOkM kvs
    | [], _, _ => trivial
    | (k, v) :: r, ms, h => by
        rw [marshalMembers] at h
        rw [FloatsOkM]
        split at h
        · rename_i a ms' ha hm
          exact ⟨floatsOk_of_marshal v a ha, floatsOkM_of_marshal r ms' hm⟩
        · exact absurd h (by simp)
end

/-- C16, the json directive, WITHOUT hypothesis: whenever `json.Marshal` produces text for a Soy value
    (it fails exactly on a NaN or an infinity it meets), the text is JSON (RFC 8259) and denotes the same
    structure — floats included -/
theorem json_roundtrip_total (v : Value) (out : Bytes) (h : jsonMarshal v = some out) :
    jsonDecode out = some (toJ v) :=
  json_roundtrip v out h (floatsOk_of_marshal v out h)

/-- ints exactly: the number literal written for an int denotes that int -/
theorem json_int_exact (i : Int64) : toJ (.int i) = .num (F64.intDigits i.toInt) ∧ numInt (F64.intDigits i.toInt) = some i.toInt := by
  refine ⟨by rw [toJ], numInt_intDigits _⟩

/-- `sortByKey`, by which the marshaller orders the members of a map before it writes them, yields nondecreasing bytewise
    key order (of the keys as stored: the reader sanitises them afterwards) -/
theorem json_keys_sorted (kvs : List (Bytes × Value)) : SortedKeys (sortByKey (toJM kvs)) :=
  sorted_sortByKey _

/- `a<"\é😀` + U+2028 + an invalid byte FF + control character 01 -/
example : jsonString [97, 60, 34, 92, 195, 169, 240, 159, 152, 128, 226, 128, 168, 255, 1] =
    [34, 97, 92, 117, 48, 48, 51, 99, 92, 34, 92, 92, 195, 169, 240, 159, 152, 128, 92, 117, 50, 48, 50, 56,
     92, 117, 102, 102, 102, 100, 92, 117, 48, 48, 48, 49, 34] := by decide
example : jsonDecodeString (jsonString [97, 60, 34, 92, 195, 169, 240, 159, 152, 128, 226, 128, 168, 255, 1]) =
    some [97, 60, 34, 92, 195, 169, 240, 159, 152, 128, 226, 128, 168, 239, 191, 189, 1] := by decide
/- `</script>` -/
example : jsonString [60, 47, 115, 99, 114, 105, 112, 116, 62] =
    [34, 92, 117, 48, 48, 51, 99, 47, 115, 99, 114, 105, 112, 116, 92, 117, 48, 48, 51, 101, 34] := by decide
/- the decoder is the RFC's: surrogate pairs, `\/`, upper-case hex; it rejects raw control characters, lone
   surrogates, a raw quote, a truncated literal, invalid UTF-8 -/
example : jsonDecodeString [34, 92, 117, 68, 56, 51, 68, 92, 117, 68, 69, 48, 48, 92, 47, 34] = some [240, 159, 152, 128, 47] := by decide
example : jsonDecodeString [34, 10, 34] = none ∧ jsonDecodeString [34, 92, 117, 68, 56, 51, 68, 34] = none ∧
    jsonDecodeString [34, 97, 34, 98, 34] = none ∧ jsonDecodeString [34, 97] = none ∧
    jsonDecodeString [34, 255, 34] = none ∧ jsonDecodeString [34, 92, 120, 34] = none := by decide
example : sanitize [97, 255, 226, 130, 172, 226, 130] = [97, 239, 191, 189, 226, 130, 172, 239, 191, 189, 239, 191, 189] := by decide


/- values: {"b": [1, -2, "x<"], "a": null, "é": true} with a nil list inside -/
def exV : Value :=
  .map 5 [([98], .list 2 [.int 1, .int (-2), .str [120, 60]]), ([97], .null), ([195, 169], .bool true), ([99], .list 0 [])]

example : jsonMarshal exV = some [123, 34, 97, 34, 58, 110, 117, 108, 108, 44, 34, 98, 34, 58, 91, 49, 44, 45, 50, 44, 34, 120, 92, 117, 48, 48,
    51, 99, 34, 93, 44, 34, 99, 34, 58, 110, 117, 108, 108, 44, 34, 195, 169, 34, 58, 116, 114, 117, 101, 125] := by decide
  -- {"a":null,"b":[1,-2,"x\u003c"],"c":null,"é":true}
example : floatFree exV = true := by decide
example : (jsonDecode [123, 34, 97, 34, 58, 110, 117, 108, 108, 44, 34, 98, 34, 58, 91, 49, 44, 45, 50, 44, 34, 120, 92, 117, 48, 48,
    51, 99, 34, 93, 44, 34, 99, 34, 58, 110, 117, 108, 108, 44, 34, 195, 169, 34, 58, 116, 114, 117, 101, 125]).map
      (JVal.beq (.obj [([97], .null), ([98], .arr [.num [49], .num [45, 50], .str [120, 60]]), ([99], .null), ([195, 169], .bool true)])) =
    some true := by decide
def exOut : Bytes := [123, 34, 97, 34, 58, 110, 117, 108, 108, 44, 34, 98, 34, 58, 91, 49, 44, 45, 50, 44, 34, 120, 92, 117, 48, 48,
    51, 99, 34, 93, 44, 34, 99, 34, 58, 110, 117, 108, 108, 44, 34, 195, 169, 34, 58, 116, 114, 117, 101, 125]
example : jsonDecode exOut = some (toJ exV) := json_roundtrip_nofloat exV exOut (by decide) (by decide)

/- the specification decoder is the RFC's: whitespace, nested arrays, exponents; it rejects trailing commas,
   leading zeros, unquoted keys, a bare minus -/
example : (jsonDecode [32, 91, 49, 44, 32, 91, 93, 44, 10, 123, 34, 107, 34, 32, 58, 32, 50, 46, 53, 69, 43, 51, 125, 93, 32]).map
    (JVal.beq (.arr [.num [49], .arr [], .obj [([107], .num [50, 46, 53, 69, 43, 51])]])) = some true := by decide
example : jsonDecode [91, 49, 44, 93] = none ∧ jsonDecode [48, 49] = none ∧ jsonDecode [123, 107, 58, 49, 125] = none ∧
    jsonDecode [45] = none ∧ jsonDecode [49, 32, 50] = none := by decide


/- floats: 1.5, 1e+22 (exponent layout), -0, and NaN (no JSON form: the directive fails) — the hypothesis
   `FloatsOk` discharged for concrete floats by evaluating the soft-float formatter -/
def f15 : F64 := ⟨0x3ff8000000000000⟩
def f1e22 : F64 := ⟨0x4480f0cf064dd592⟩
def fneg0 : F64 := ⟨0x8000000000000000⟩
def exF : Value := .list 2 [.float f15, .float f1e22, .float fneg0, .int 7]

theorem exF_floats : jsonFloat f15 = some [49, 46, 53] ∧ jsonFloat f1e22 = some [49, 101, 43, 50, 50] ∧
    jsonFloat fneg0 = some [45, 48] ∧ jsonFloat ⟨0x7ff8000000000001⟩ = none ∧ jsonFloat ⟨0x7ff0000000000000⟩ = none := by
  decide +kernel

theorem exF_ok : FloatsOk exF := by
  obtain ⟨h1, h2, h3, _⟩ := exF_floats
  have d1 : AllDigits [49] := List.all_eq_true.1 (by decide)
  have d53 : AllDigits [53] := List.all_eq_true.1 (by decide)
  have d22 : AllDigits [50, 50] := List.all_eq_true.1 (by decide)
  have d0 : AllDigits [48] := List.all_eq_true.1 (by decide)
  simp only [exF, FloatsOk, FloatsOkL]
  refine Or.inr ⟨⟨_, h1, [], [49], [46, 53], [], rfl, Or.inl rfl, by simp, d1, Or.inr (by simp), Or.inr ⟨[53], rfl, by simp, d53⟩, Or.inl rfl⟩,
    ⟨_, h2, [], [49], [], [101, 43, 50, 50], rfl, Or.inl rfl, by simp, d1, Or.inr (by simp), Or.inl rfl,
      Or.inr ⟨101, [43], [50, 50], rfl, Or.inl rfl, Or.inr (Or.inl rfl), by simp, d22⟩⟩,
    ⟨_, h3, [45], [48], [], [], rfl, Or.inr rfl, by simp, d0, Or.inl rfl, Or.inl rfl, Or.inl rfl⟩, trivial, trivial⟩

example : jsonMarshal exF = some [91, 49, 46, 53, 44, 49, 101, 43, 50, 50, 44, 45, 48, 44, 55, 93] := by decide +kernel  -- [1.5,1e+22,-0,7]
example : jsonDecode [91, 49, 46, 53, 44, 49, 101, 43, 50, 50, 44, 45, 48, 44, 55, 93] = some (toJ exF) :=
  json_roundtrip exF _ (by decide +kernel) exF_ok
example : jsonDecode [91, 49, 46, 53, 44, 49, 101, 43, 50, 50, 44, 45, 48, 44, 55, 93] = some (toJ exF) :=
  json_roundtrip_total exF _ (by decide +kernel)
example : jsonMarshal (.list 3 [.float ⟨0x7ff8000000000001⟩]) = none := by decide +kernel

end SoyVerif.Props.C16b
