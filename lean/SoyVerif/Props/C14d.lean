/-
  C14 — the translations of Props/C04c / C04dTr / C04f LAND in the image of Props/C14c.  With `C14c.gen_text_parses` this
  gives `gen_file_is_valid_script_partial`, which has no hypothesis on the translated functions.

  `ExprJs` / `CmdJs` / `FileJs` — what is asked of the Soy tree (the comment in front of `FileJs` says which of it the
  Soy lexer / parser guarantee):
    * names (data keys after `$` and `.`, param keys, `{let}` / loop variables) are ASCII IdentifierNames; template,
      callee and namespace names are dotted ASCII names whose first segment is no reserved word;
    * string literals, raw text, message text, `{css}` names and HTML-tag placeholders are well-formed UTF-8 (the
      escaper writes U+FFFD for a bad byte: the text would still parse, to another string); so are the literal
      arguments of print directives (`DirJs`) and — a hypothesis of its own, `GlobalsJs` — the string values of the
      compile-time globals;
    * the VALUE of a `{let $y: …}`, the list of a `{foreach}` and the limit of a `range(…)` are not exactly `$v.length`
      (`isVarLength`): if `$v` is a local variable the statement is `var y$2 = v$1.length;`, the text of the loop
      statement `varLength` (the length of a LIST; the key `length` of a MAP has another meaning in Spec/JsStmt, so the
      two are not identified by a canonical form).  A data key `.length` elsewhere needs no condition: `$x.length` is
      written `opt_data.x.length` and read as the member access; the length FUNCTION is written `(x).length`;
    * an `{if}` has a first condition (the parser's shape).
-/
import SoyVerif.Props.C14c
import SoyVerif.Lemmas.ScopeAll

namespace SoyVerif.Props.C14d
open SoyVerif SoyVerif.Spec SoyVerif.Spec.JsParse SoyVerif.Model SoyVerif.Model.JsGen
open SoyVerif.Spec.JsSemRef (JsExpr)
open SoyVerif.Props.C04c (toAst globalAst Globals TrExpr AccStep TrAcc TrLoop)
open SoyVerif.Props.C14c (Img lv isNegNum JsName isParenPE plain)
open SoyVerif.Lemmas.JsParseLex (JsIdent)

theorem isIdPart_of_start {c : UInt8} (h : isIdStart c = true) : isIdPart c = true := by simp [isIdPart, h]

theorem natDigits_idPart (n : Nat) : ∀ b ∈ F64.natDigits n, isIdPart b = true := by
  intro b hb
  have h := (SoyVerif.Lemmas.NatDigits.natDigits_shape n).2.1 b hb
  simp [isIdPart, h]

/-- the names the generator makes (scope.go `jsname`: the Soy name, `$`, a use, a counter) are JavaScript variable
    names when the Soy name is an ASCII identifier -/
theorem jsname_jsName (v use : Bytes) (n : Nat) (hv : JsIdent v) (hu : ∀ b ∈ use, isIdPart b = true) :
    JsName (Scope.jsname v use n) := by
  obtain ⟨c, r, rfl, hc, hr⟩ := hv
  have hmem : (36 : UInt8) ∈ Scope.jsname (c :: r) use n := by simp [Scope.jsname]
  refine ⟨⟨c, r ++ [36] ++ use ++ F64.natDigits n, by simp [Scope.jsname], hc, ?_⟩, ?_, ?_, ?_⟩
  · intro b hb
    simp only [List.mem_append, List.mem_singleton] at hb
    rcases hb with ((hb | rfl) | hb) | hb
    · exact hr b hb
    · decide
    · exact hu b hb
    · exact natDigits_idPart n b hb
  · -- no reserved word contains `$`
    cases hres : isReserved (Scope.jsname (c :: r) use n) with
    | false => rfl
    | true =>
      exfalso
      simp only [isReserved, List.contains_eq_mem, decide_eq_true_eq] at hres
      have hall : ∀ w ∈ reserved, (36 : UInt8) ∉ w := by decide
      exact hall _ hres hmem
  · intro h
    rw [h] at hmem
    revert hmem
    decide
  · intro h
    rw [h] at hmem
    revert hmem
    decide

/-- every name a scope holds is a JavaScript variable name -/
def ScImg (sc : Scope) : Prop := ∀ f ∈ sc.stack, ∀ kv ∈ f, JsName kv.2

theorem ScImg.all {sc : Scope} (h : ScImg sc) : StackAll (fun _ v => JsName v) sc.stack := h

theorem ScImg.lookup {sc : Scope} (h : ScImg sc) {k v : Bytes} (hl : sc.lookup k = some v) : JsName v :=
  Scope.all_lookup h.all hl

mutual
  /-- what is asked of a Soy expression (see the header) -/
  def ExprJs : Expr → Prop
    | .str _ _ v => ValidUtf8 v
    | .neg _ a => ExprJs a
    | .not _ a => ExprJs a
    | .bin _ _ a b => ExprJs a ∧ ExprJs b
    | .tern _ c a b => ExprJs c ∧ ExprJs a ∧ ExprJs b
    | .dataRef _ key acc => JsIdent key ∧ AccJs acc
    | .func _ _ args => ArgsJs args
    | _ => True
  def ArgsJs : ExprList → Prop
    | .nil => True
    | .cons e r => ExprJs e ∧ ArgsJs r
  def AccJs : AccessList → Prop
    | .nil => True
    | .cons a r => AccessJs a ∧ AccJs r
  def AccessJs : Access → Prop
    | .key _ _ k => JsIdent k
    | _ => True
end

/-- the string values among the compile-time globals are well-formed UTF-8 -/
def GlobalsJs [Globals] : Prop := ∀ k s, assocGet? Globals.tbl k = some (.str s) → ValidUtf8 s

/-- the number of plain accesses `.k` / `[i]` at the end of a reference chain -/
def depth : JsExpr → Nat
  | .member x _ => depth x + 1
  | .index x _ => depth x + 1
  | .guard _ r => depth r
  | _ => 0

def accLen : AccessList → Nat
  | .nil => 0
  | .cons _ r => accLen r + 1

/-- every access makes the chain one longer -/
theorem accAst_depth : ∀ {acc : AccessList} {x j : JsExpr}, TrAcc acc x j → depth x + accLen acc ≤ depth j
  | _, _, _, .nil _ => by simp [accLen]
  | _, _, _, .plain hy hr => by
    have := accAst_depth hr
    cases hy <;> (simp only [depth, accLen] at this ⊢; omega)
  | _, _, _, .guard hy => by cases hy <;> simp [accLen, depth]

/-- one plain access: the chain stays a MemberExpression that is not written in parentheses (what `Img (.member x k)` asks
    of `x`: it may be followed by `.k`, and `(x).length` would be the length function) -/
theorem step_img {ns : Bool} {a : Access} {x y : JsExpr} (hy : AccStep ns a x y) (hx : Img x) (hl : lv x = 0)
    (hp : isParenPE (plain x) = false) (ha : AccessJs a) :
    Img y ∧ lv y = 0 ∧ isParenPE (plain y) = false ∧ ∀ rest, anyNullSafe (.cons a rest) = (ns || anyNullSafe rest) := by
  cases hy with
  | key _ _ hk => exact ⟨Img.member hx hl (by simpa [AccessJs] using ha) fun _ => hp, rfl, rfl, fun _ => rfl⟩
  | index _ _ hi => exact ⟨Img.index hx hl (by omega), rfl, rfl, fun _ => rfl⟩

theorem accAst_img : ∀ {acc : AccessList} {x j : JsExpr}, TrAcc acc x j → Img x → lv x = 0 →
    isParenPE (plain x) = false → AccJs acc →
    Img j ∧ (anyNullSafe acc = false → lv j = 0) ∧ isNegNum j = false
  | _, _, _, .nil x, hx, hl, _, _ => ⟨hx, fun _ => hl, by cases x <;> simp_all [lv, isNegNum]⟩
  | _, _, _, .plain hy hr, hx, hl, hp, ha => by
    simp only [AccJs] at ha
    obtain ⟨h1, h2, h3, h4⟩ := step_img hy hx hl hp ha.1
    obtain ⟨i1, i2, i3⟩ := accAst_img hr h1 h2 h3 ha.2
    exact ⟨i1, fun h' => i2 (by simpa [h4] using h'), i3⟩
  | _, _, _, .guard hy, hx, hl, hp, ha => by
    simp only [AccJs] at ha
    obtain ⟨h1, _, _, h4⟩ := step_img hy hx hl hp ha.1
    exact ⟨Img.guard hx (by omega) h1, fun h' => (by simp [h4] at h'), rfl⟩

/-- `$v.length` — one plain access `.length` on a variable: as the value of a `{let}` (a loop's list, a range's limit) its
    text `var x = v$1.length;` is that of the loop statement `varLength` -/
def isVarLength : Expr → Bool
  | .dataRef _ _ (.cons (.key _ false k) .nil) => k == JsParse.sLength
  | _ => false

theorem loopAst_img {sc : Scope} (hs : ScImg sc) {name : Bytes} {args : ExprList} {j : JsExpr} (h : TrLoop sc name args j) :
    Img j ∧ lv j = 0 ∧ ∀ l, j ≠ .member (.local l) JsParse.sLength := by
  have hin : ∀ {f k k' x}, Scope.loopFrame sc.stack k = some f → frameGet? f k' = some x → JsName x :=
    fun hf hk => (hs.all.loopFrame hf).get hk
  cases h with
  | index _ hidx => exact ⟨Img.localVar (hs.lookup hidx), rfl, fun l h => by cases h⟩
  | isFirst _ hidx => exact ⟨Img.loopFirst (hs.lookup hidx), rfl, fun l h => by cases h⟩
  | lastEach _ hf _ hv hl => exact ⟨Img.loopLastEach (hin hf hv) (hin hf hl), rfl, fun l h => by cases h⟩
  | lastRange _ hf hs' hv hl => exact ⟨Img.loopLastRange (hin hf hv) (hin hf hs') (hin hf hl), rfl, fun l h => by cases h⟩

/-- a reference `base acc…` as `toAst` writes it (in parentheses if an access is null-safe): in the image, at most a
    UnaryExpression, and `l.length` on a local `l` only as the one plain access `.length` on `l` itself -/
theorem dataRef_img {acc : AccessList} {base j0 : JsExpr} (hacc : TrAcc acc base j0) (hb : Img base) (hl : lv base = 0)
    (hp : isParenPE (plain base) = false) (hd : depth base = 0) (ha : AccJs acc) :
    Img (if anyNullSafe acc then .paren j0 else j0) ∧ lv (if anyNullSafe acc then .paren j0 else j0) ≤ 1 ∧
      ∀ l, (if anyNullSafe acc then .paren j0 else j0) = .member (.local l) JsParse.sLength →
        ∃ p, acc = .cons (.key p false JsParse.sLength) .nil ∧ base = .local l := by
  obtain ⟨h1, h2, h3⟩ := accAst_img hacc hb hl hp ha
  cases hn : anyNullSafe acc
  · simp only [Bool.false_eq_true, if_false]
    refine ⟨h1, by rw [h2 hn]; omega, ?_⟩
    intro l hj
    subst hj
    -- the chain has depth 1: one access, and it is the plain `.length` on `base`
    have hdp := accAst_depth hacc
    simp only [depth, hd] at hdp
    cases hacc with
    | nil => simp [depth] at hd
    | plain hy hr =>
      cases hr with
      | nil => cases hy with | key p _ _ => exact ⟨p, rfl, rfl⟩
      | plain _ _ => simp only [accLen] at hdp; omega
  · simp only [if_true]
    exact ⟨Img.paren h1 h3, by simp [lv], fun l h => by cases h⟩

section
variable [Globals]

/-- what `toAst_img` says, along the rules of the translation -/
theorem img_tr (hg : GlobalsJs) (sc : Scope) (hs : ScImg sc) :
    ∀ {e : Expr} {j : JsExpr}, TrExpr sc e j → ExprJs e →
      Img j ∧ lv j ≤ 1 ∧ (isVarLength e = false → ∀ l, j ≠ .member (.local l) JsParse.sLength)
  | _, _, .null _, _ | _, _, .bool _ _, _ | _, _, .int _ _, _ => ⟨trivial, by simp [lv], fun _ l h => by cases h⟩
  | _, _, .str _ _ _, he => ⟨by simp only [ExprJs] at he; exact he, by simp [lv], fun _ l h => by cases h⟩
  | _, _, .neg _ ha, he => by
    simp only [ExprJs] at he
    have ia := img_tr hg sc hs ha he
    exact ⟨Img.neg ia.1 ia.2.1, by simp [lv], fun _ l h => by cases h⟩
  | _, _, .not _ ha, he => by
    simp only [ExprJs] at he
    exact ⟨Img.not (img_tr hg sc hs ha he).1, by simp [lv], fun _ l h => by cases h⟩
  | _, _, .elvis _ ha hb, he => by
    simp only [ExprJs] at he
    have ia := (img_tr hg sc hs ha he.1).1
    exact ⟨Img.nonNullElse ia ia (img_tr hg sc hs hb he.2).1, by simp [lv], fun _ l h => by cases h⟩
  | _, _, .bin _ _ ha hb, he => by
    simp only [ExprJs] at he
    exact ⟨Img.bin _ (img_tr hg sc hs ha he.1).1 (img_tr hg sc hs hb he.2).1, by simp [lv], fun _ l h => by cases h⟩
  | _, _, .tern _ hc ha hb, he => by
    simp only [ExprJs] at he
    exact ⟨Img.cond (img_tr hg sc hs hc he.1).1 (img_tr hg sc hs ha he.2.1).1 (img_tr hg sc hs hb he.2.2).1,
      by simp [lv], fun _ l h => by cases h⟩
  | _, _, .global _ (name := name) (v := v) hv h, _ => by
    cases v <;> simp only [globalAst, Option.some.injEq, reduceCtorEq] at h <;> subst h
    · exact ⟨trivial, by simp [lv], fun _ l h => by cases h⟩
    · exact ⟨trivial, by simp [lv], fun _ l h => by cases h⟩
    · exact ⟨trivial, by simp [lv], fun _ l h => by cases h⟩
    · exact ⟨hg name _ hv, by simp [lv], fun _ l h => by cases h⟩
  | _, _, .ij _ hacc, he => by
    simp only [ExprJs] at he
    obtain ⟨h1, h2, h3⟩ := dataRef_img hacc trivial rfl rfl rfl he.2
    exact ⟨h1, h2, fun _ l hj => by obtain ⟨_, _, hb⟩ := h3 l hj; cases hb⟩
  | _, _, .ref _ (key := key) _ _ hacc, he => by
    simp only [ExprJs] at he
    cases hl : sc.lookup key with
    | some g =>
      rw [hl] at hacc
      obtain ⟨h1, h2, h3⟩ := dataRef_img hacc (Img.localVar (hs.lookup hl)) rfl rfl rfl he.2
      exact ⟨h1, h2, fun hv l hj => by obtain ⟨p, rfl, _⟩ := h3 l hj; simp [isVarLength] at hv⟩
    | none =>
      rw [hl] at hacc
      obtain ⟨h1, h2, h3⟩ := dataRef_img hacc (Img.optData he.1) rfl rfl rfl he.2
      exact ⟨h1, h2, fun hv l hj => by obtain ⟨p, rfl, _⟩ := h3 l hj; simp [isVarLength] at hv⟩
  | _, _, .loop _ h, _ => by
    have := loopAst_img hs h
    exact ⟨this.1, by rw [this.2.1]; omega, fun _ => this.2.2⟩
  | _, _, .fn1 _ (f := f) _ ha, he => by
    simp only [ExprJs, ArgsJs] at he
    have ia := img_tr hg sc hs ha he.1
    exact ⟨Img.call1 f ia.1 fun _ => ia.2.1, by simp [lv], fun _ l h => by cases h⟩
  | _, _, .fn2 _ (f := f) _ ha hb, he => by
    simp only [ExprJs, ArgsJs] at he
    exact ⟨Img.call2 f (img_tr hg sc hs ha he.1).1 (img_tr hg sc hs hb he.2.1).1, by simp [lv], fun _ l h => by cases h⟩

/-- the translation of a Soy expression with well-formed names (`ExprJs`), in a scope of JavaScript
    names, is in the image of Props/C14c; its text stands at most at the level of a UnaryExpression; and it is
    `l.length` on a local `l` only for the Soy expression `$v.length` -/
theorem toAst_img (hg : GlobalsJs) (sc : Scope) (hs : ScImg sc) :
    ∀ (e : Expr) (j : JsExpr), toAst sc e = some j → ExprJs e → Img j ∧ lv j ≤ 1 ∧ (isVarLength e = false → ∀ l, j ≠ .member (.local l) JsParse.sLength) :=
  fun e j h => img_tr hg sc hs (C04c.toAst_tr sc e j h)

end

theorem ScImg.push {sc : Scope} (h : ScImg sc) : ScImg sc.push := Scope.all_push h.all

theorem ScImg.pop {sc : Scope} (h : ScImg sc) : ScImg sc.pop := Scope.all_pop h.all

theorem ScImg.bind {sc : Scope} (h : ScImg sc) (x g : Bytes) (hg : JsName g) : ScImg (sc.bind x g) :=
  Scope.all_bind h.all hg

theorem ScImg.makevar {sc : Scope} (h : ScImg sc) (x : Bytes) (hx : JsIdent x) :
    JsName (sc.makevar x).1 ∧ ScImg (sc.makevar x).2 :=
  have n0 := jsname_jsName x [] (sc.n + 1) hx (fun _ h => nomatch h)
  ⟨n0, Scope.all_makevar h.all n0⟩

theorem ScImg.genname {sc : Scope} (h : ScImg sc) (x : Bytes) (hx : JsIdent x) :
    JsName (sc.genname x).1 ∧ ScImg (sc.genname x).2 :=
  ⟨jsname_jsName x [] _ hx (fun _ h => nomatch h), Scope.all_genname h.all⟩

/-- the names of a `{foreach}` — (item, list, limit, index) — and its frame -/
theorem ScImg.pushForEach {sc : Scope} (h : ScImg sc) (v : Bytes) (hv : JsIdent v) :
    JsName (sc.pushForEach v).1.1 ∧ JsName (sc.pushForEach v).1.2.1 ∧ JsName (sc.pushForEach v).1.2.2.1 ∧
      JsName (sc.pushForEach v).1.2.2.2 ∧ ScImg (sc.pushForEach v).2 :=
  have n0 := jsname_jsName v [] (sc.n + 1) hv (fun _ h => nomatch h)
  have n2 := jsname_jsName v b!"Limit" (sc.n + 1) hv (by decide)
  have n3 := jsname_jsName v b!"Index" (sc.n + 1) hv (by decide)
  ⟨n0, jsname_jsName v b!"List" (sc.n + 1) hv (by decide), n2, n3, Scope.all_pushForEach h.all n0 n2 n3⟩

/-- the names of a `{for}` — (variable, limit, step, index) — and its frame -/
theorem ScImg.pushForRange {sc : Scope} (h : ScImg sc) (v : Bytes) (hv : JsIdent v) :
    JsName (sc.pushForRange v).1.1 ∧ JsName (sc.pushForRange v).1.2.1 ∧ JsName (sc.pushForRange v).1.2.2.1 ∧
      JsName (sc.pushForRange v).1.2.2.2 ∧ ScImg (sc.pushForRange v).2 :=
  have n0 := jsname_jsName v [] (sc.n + 1) hv (fun _ h => nomatch h)
  have n1 := jsname_jsName v b!"Limit" (sc.n + 1) hv (by decide)
  have n2 := jsname_jsName v b!"Step" (sc.n + 1) hv (by decide)
  have n3 := jsname_jsName v b!"Index" (sc.n + 1) hv (by decide)
  ⟨n0, n1, n2, n3, Scope.all_pushForRange h.all n0 n1 n2 n3 n0⟩

open SoyVerif.Spec.JsStmt (JsStmt JsStmts JsConds JsCases JsPlural DataBase JsFunc)
open SoyVerif.Props.C04d
open SoyVerif.Props.C14c (ImgS ImgSs ImgConds ImgCases ImgPlural ImgParams ImgBase ImgList DirOk QName ImgF)

/-- the literal arguments of a directive are in the image (a string argument is well-formed UTF-8) -/
def DirJs (d : Directive) : Prop := ∀ a ∈ d.args, ∀ j, litAst a = some j → Img j

mutual
  def CmdJs : Cmd → Prop
    | .rawText _ t => ValidUtf8 t
    | .print _ arg dirs => ExprJs arg ∧ ∀ d ∈ dirs, DirJs d
    | .letValue _ x e => JsIdent x ∧ ExprJs e ∧ isVarLength e = false
    | .ifc _ conds => (match conds with | .cons _ (some _) _ _ => True | _ => False) ∧ CondsJs conds
    | .forc _ v list body ie =>
      JsIdent v ∧ (ExprJs list ∧ isVarLength list = false) ∧
        (∀ args, isRangeCall list = some args →
          (∀ l, rangeLimit args = some l → ExprJs l ∧ isVarLength l = false) ∧ ExprJs (rangeInit args)) ∧
        BlockJs body ∧ (match ie with | none => True | some b => BlockJs b)
    | .switch _ value cases => ExprJs value ∧ CasesJs cases
    | .letContent _ name body => JsIdent name ∧ BlockJs body
    | .call _ name _ data params => QName name ∧ (match data with | none => True | some e => ExprJs e) ∧ ParamsJs params
    | .css _ e suffix => ValidUtf8 suffix ∧ (match e with | none => True | some x => ExprJs x)
    | .msg _ _ _ _ _ body => PartsJs body
    | _ => True
  def PartsJs : MsgParts → Prop
    | .nil => True
    | .text _ t r => ValidUtf8 t ∧ PartsJs r
    | .ph _ _ body r => PhJs body ∧ PartsJs r
    | .plural _ _ value cases _ dflt r => ExprJs value ∧ PCasesJs cases ∧ PartsJs dflt ∧ PartsJs r
  def PCasesJs : PluralCases → Prop
    | .nil => True
    | .cons _ _ _ body rest => PartsJs body ∧ PCasesJs rest
  def PhJs : MsgPhBody → Prop
    | .htmlTag _ t => ValidUtf8 t
    | .cmd c => CmdJs c
  def ParamsJs : ParamList → Prop
    | .nil => True
    | .value _ key e rest => JsIdent key ∧ ExprJs e ∧ ParamsJs rest
    | .content _ key body rest => JsIdent key ∧ BlockJs body ∧ ParamsJs rest
  def BlockJs : Block → Prop
    | .mk _ cmds => CmdsJs cmds
  def CmdsJs : CmdList → Prop
    | .nil => True
    | .cons c r => CmdJs c ∧ CmdsJs r
  def CasesJs : CaseList → Prop
    | .nil => True
    | .cons _ values body rest => (∀ e ∈ values, ExprJs e) ∧ BlockJs body ∧ CasesJs rest
  def CondsJs : CondList → Prop
    | .nil => True
    | .cons _ cond body rest => (match cond with | none => True | some c => ExprJs c) ∧ BlockJs body ∧ CondsJs rest
end

theorem imgSs_append : ∀ (a b : JsStmts), ImgSs a → ImgSs b → ImgSs (a.append b)
  | .nil, b, _, hb => by simpa [JsStmts.append] using hb
  | .cons s r, b, ha, hb => by
    simp only [ImgSs] at ha
    exact ImgSs.cons ha.1 (imgSs_append r b ha.2 hb)

theorem imgSs_one (s : JsStmt) (h : ImgS s) : ImgSs (.one s) := ImgSs.cons h trivial

/-- the directives of the table without a JavaScript function are `id` and `noAutoescape` (`collectDirs` drops both) -/
theorem jsDir_without_function : ∀ jd ∈ Gen.jsDirectives, jd.jsName = [] → jd.name = b!"id" ∨ jd.name = b!"noAutoescape" := by decide

theorem escapeHtmlDir_ok : DirOk escapeHtmlDir :=
  ⟨⟨⟨b!"escapeHtml", b!"soy.$$escapeHtml", true⟩, by simp [Gen.jsDirectives], rfl, by decide⟩, fun a ha => by cases ha⟩

theorem collectDirs_ok : ∀ (dirs : List Directive) (ck : Bool × List Directive), collectDirs dirs = some ck →
    (∀ d ∈ dirs, DirJs d) → ∀ d ∈ ck.2, DirOk d
  | [], ck, h, _ => by
    simp only [collectDirs, Option.some.injEq] at h
    subst h
    intro d hd; cases hd
  | d0 :: r, ck, h, hj => by
    simp only [collectDirs] at h
    cases hf : findDirective d0.name with
    | none => simp [hf] at h
    | some e =>
      cases hr : collectDirs r with
      | none => simp [hf, hr] at h
      | some ck' =>
        obtain ⟨c, kept⟩ := ck'
        simp only [hf, hr, Option.some.injEq] at h
        subst h
        have ih := collectDirs_ok r (c, kept) hr (fun d hd => hj d (by simp [hd]))
        simp only at ih ⊢
        split
        · exact ih
        · rename_i hn
          intro d hd
          rcases List.mem_cons.mp hd with rfl | hd
          · have hmem : e ∈ Gen.jsDirectives := List.mem_of_find?_eq_some hf
            have hname : e.name = d.name := by
              have := List.find?_some hf
              simpa using this
            refine ⟨⟨e, hmem, hname, ?_⟩, hj d (by simp)⟩
            intro hempty
            rcases jsDir_without_function e hmem hempty with h1 | h1
            · exact hn (by simp [← hname, h1])
            · exact hn (by simp [← hname, h1])
          · exact ih d hd

theorem withInputEscapes_ok : ∀ (ds : List Directive), (∀ d ∈ ds, DirOk d) → ∀ d ∈ withInputEscapes ds, DirOk d
  | [], _, d, hd => by simp [withInputEscapes] at hd
  | d0 :: r, h, d, hd => by
    have ih := withInputEscapes_ok r (fun d hd => h d (by simp [hd]))
    simp only [withInputEscapes] at hd
    split at hd
    · rcases List.mem_cons.mp hd with rfl | hd
      · exact escapeHtmlDir_ok
      · rcases List.mem_cons.mp hd with rfl | hd
        · exact h d (by simp)
        · exact ih d hd
    · rcases List.mem_cons.mp hd with rfl | hd
      · exact h d (by simp)
      · exact ih d hd

theorem printDirs_ok (ae : Autoescape) (cancel : Bool) (kept : List Directive) (h : ∀ d ∈ kept, DirOk d) :
    ∀ d ∈ printDirs ae cancel kept, DirOk d := by
  intro d hd
  unfold printDirs at hd
  by_cases hc : ((if cancel then Autoescape.off else ae) != .off) = true
  · rw [if_pos hc] at hd
    rcases List.mem_append.mp hd with hd | hd
    · exact withInputEscapes_ok kept h d hd
    · cases List.mem_singleton.mp hd
      exact escapeHtmlDir_ok
  · rw [if_neg hc] at hd
    exact withInputEscapes_ok kept h d hd

/-- `names` is (item, list, limit, index) -/
theorem foreach_img (names : Bytes × Bytes × Bytes × Bytes) (list : JsExpr) (body : JsStmts) (ie : Option JsStmts)
    (hitem : JsName names.1) (hlist : JsName names.2.1) (hlimit : JsName names.2.2.1) (hindex : JsName names.2.2.2)
    (hl : Img list ∧ ∀ l, list ≠ .member (.local l) JsParse.sLength)
    (hb : ImgSs body) (hie : ∀ x, ie = some x → ImgSs x) : ImgSs (foreachStmts names list body ie) := by
  have loop : ImgS (.forUp names.2.2.2 names.2.2.1 (.cons (.varIndex names.1 names.2.1 names.2.2.2) body)) :=
    ImgS.forUp hindex hlimit (ImgSs.cons (ImgS.varIndex hitem hlist hindex) hb)
  simp only [foreachStmts]
  refine ImgSs.cons (ImgS.var hlist hl.1 hl.2) (ImgSs.cons (ImgS.varLength hlimit hlist) (imgSs_one _ ?_))
  cases ie with
  | none => exact loop
  | some x => exact ImgS.ifPos hlimit (imgSs_one _ loop) (hie x rfl)

/-- `names` is (variable, limit, step, index) -/
theorem range_img (names : Bytes × Bytes × Bytes × Bytes) (limit init incr : JsExpr) (body : JsStmts)
    (hvar : JsName names.1) (hlimit : JsName names.2.1) (hstep : JsName names.2.2.1) (hindex : JsName names.2.2.2)
    (h1 : Img limit ∧ ∀ l, limit ≠ .member (.local l) JsParse.sLength) (h2 : Img init)
    (h3 : Img incr ∧ ∀ l, incr ≠ .member (.local l) JsParse.sLength) (hb : ImgSs body) :
    ImgSs (rangeStmts names limit init incr body) :=
  ImgSs.cons (ImgS.var hlimit h1.1 h1.2) (ImgSs.cons (ImgS.var hstep h3.1 h3.2)
    (imgSs_one _ (ImgS.forStep hvar hlimit hstep hindex h2 hb)))

section
variable [Globals] (hg : GlobalsJs) (ae : Autoescape)
include hg

theorem astList_img (sc : Scope) (hs : ScImg sc) : ∀ (vs : List Expr) (js : List JsExpr), astList sc vs = some js →
    (∀ e ∈ vs, ExprJs e) → ImgList js
  | [], js, h, _ => by
    simp only [astList, Option.some.injEq] at h; subst h; trivial
  | e :: r, js, h, he => by
    obtain ⟨j, js', hj, hr, rfl⟩ := astList_cons_some h
    exact ImgList.cons (toAst_img hg sc hs e j hj (he e (by simp))).1 (astList_img sc hs r js' hr (fun x hx => he x (by simp [hx])))

theorem callBase_img (sc : Scope) (hs : ScImg sc) (allData : Bool) (data : Option Expr) (b : DataBase)
    (h : callBase sc allData data = some b) (hd : ∀ e, data = some e → ExprJs e) : ImgBase b := by
  cases allData <;> cases data <;> simp only [callBase, Option.some.injEq, Option.map_eq_some_iff, reduceCtorEq] at h
  · subst h; trivial
  · obtain ⟨j, hj, rfl⟩ := h
    exact (toAst_img hg sc hs _ j hj (hd _ rfl)).1
  · subst h; trivial

mutual
  /-- the translation of a command with well-formed names, in a scope of JavaScript names and with a
      JavaScript name for the output variable, is in the image of Props/C14c — and leaves such a scope -/
  theorem toCmd_img : ∀ (c : Cmd) (buf : Bytes) (sc : Scope) (r : JsStmts × Scope), toCmd ae buf c sc = some r →
      ScImg sc → JsName buf → CmdJs c → ImgSs r.1 ∧ ScImg r.2
    | .rawText p t, buf, sc, r, h, hs, hb, hc => by
      simp only [toCmd, Option.some.injEq] at h; subst h
      simp only [CmdJs] at hc
      exact ⟨imgSs_one _ (ImgS.appendLit hb hc), hs⟩
    | .print p arg dirs, buf, sc, r, h, hs, hb, hc => by
      simp only [CmdJs] at hc
      obtain ⟨_, j, ck, hj, hck, rfl⟩ := toCmd_print_some h
      have ij := (toAst_img hg sc hs arg j hj hc.1).1
      exact ⟨imgSs_one _ (ImgS.append hb ij (printDirs_ok ae ck.1 ck.2 (collectDirs_ok dirs ck hck hc.2))), hs⟩
    | .letValue p x e, buf, sc, r, h, hs, hb, hc => by
      simp only [CmdJs] at hc
      obtain ⟨_, j, hj, rfl⟩ := toCmd_letValue_some h
      have mv := hs.makevar x hc.1
      have ij := toAst_img hg sc hs e j hj hc.2.1
      exact ⟨imgSs_one _ (ImgS.var mv.1 ij.1 (ij.2.2 hc.2.2)), mv.2⟩
    | .ifc p conds, buf, sc, r, h, hs, hb, hc => by
      simp only [CmdJs] at hc
      obtain ⟨rc, hrc, rfl⟩ := toCmd_ifc_some h
      have ic := toConds_img conds buf sc rc hrc hs hb hc.2
      refine ⟨imgSs_one _ ?_, ic.2⟩
      cases conds with
      | nil => exact hc.1.elim
      | cons p' cond body rest =>
        cases cond with
        | none => exact hc.1.elim
        | some c =>
          obtain ⟨_, _, _, _, _, _, rfl⟩ := toConds_cond_some hrc
          exact ImgS.ifs ic.1
    | .forc p v list body ie, buf, sc, r, h, hs, hb, hc => by
      unfold toCmd at h
      cases ie with
      | none =>
        simp only [CmdJs] at hc
        obtain ⟨hv, hl, hrange, hbody, _⟩ := hc
        have pe := hs.pushForEach v hv
        have pr := hs.pushForRange v hv
        simp only at h
        rcases loopJoin_some h with h1 | h1
        · obtain ⟨_, _, j, rbv, hj, hrb, hr⟩ := forcJoin_some h1
          simp only at hr; subst hr
          have ib := toBody_img body buf _ rbv hrb pe.2.2.2.2 hb hbody
          exact ⟨foreach_img _ j rbv.1 none pe.1 pe.2.1 pe.2.2.1 pe.2.2.2.1 (have ij := toAst_img hg sc hs list j hj hl.1; ⟨ij.1, ij.2.2 hl.2⟩) ib.1
            (fun _ h => by cases h), ib.2.pop⟩
        · obtain ⟨args, l, c, jl, ji, rbv, p', ⟨_, hra, hlim, hinc, hpos, hjl, hji, hrb, hr⟩⟩ := rangeJoin_some h1
          subst hr
          have ib := toBody_img body buf _ rbv hrb pr.2.2.2.2 hb hbody
          have hr' := hrange args hra
          exact ⟨range_img _ jl ji (.num c) rbv.1 pr.1 pr.2.1 pr.2.2.1 pr.2.2.2.1 (have ij := toAst_img hg sc hs l jl hjl (hr'.1 l hlim).1; ⟨ij.1, ij.2.2 (hr'.1 l hlim).2⟩)
            (toAst_img hg sc hs _ ji hji hr'.2).1 ⟨trivial, fun l h => by cases h⟩ ib.1, ib.2.pop⟩
      | some ieb =>
        simp only [CmdJs] at hc
        obtain ⟨hv, hl, hrange, hbody, hie⟩ := hc
        have pe := hs.pushForEach v hv
        have pr := hs.pushForRange v hv
        simp only at h
        rcases loopJoin_ie_some h with h1 | ⟨r0, re, h1, hre, hr⟩
        · obtain ⟨_, _, j, rbv, hj, hrb, hr⟩ := forcJoin_some h1
          simp only at hr
          obtain ⟨re, hre, hr⟩ := hr
          subst hr
          have ib := toBody_img body buf _ rbv hrb pe.2.2.2.2 hb hbody
          have ie' := toBlock_img ieb buf _ re hre ib.2.pop hb hie
          exact ⟨foreach_img _ j rbv.1 (some re.1) pe.1 pe.2.1 pe.2.2.1 pe.2.2.2.1 (have ij := toAst_img hg sc hs list j hj hl.1; ⟨ij.1, ij.2.2 hl.2⟩) ib.1
            (fun x h => by cases h; exact ie'.1), ie'.2⟩
        · obtain ⟨args, l, c, jl, ji, rbv, p', ⟨_, hra, hlim, hinc, hpos, hjl, hji, hrb, hr0⟩⟩ := rangeJoin_some h1
          subst hr0
          subst hr
          have ib := toBody_img body buf _ rbv hrb pr.2.2.2.2 hb hbody
          have hr' := hrange args hra
          have ie' := toBlock_img ieb buf _ re hre ib.2.pop hb hie
          refine ⟨imgSs_append _ _ (range_img _ jl ji (.num c) rbv.1 pr.1 pr.2.1 pr.2.2.1 pr.2.2.2.1
            (have ij := toAst_img hg sc hs l jl hjl (hr'.1 l hlim).1; ⟨ij.1, ij.2.2 (hr'.1 l hlim).2⟩) (toAst_img hg sc hs _ ji hji hr'.2).1 ⟨trivial, fun l h => by cases h⟩ ib.1)
            (imgSs_one _ (ImgS.ifZero pr.2.2.2.1 ie'.1)), ie'.2⟩
    | .switch p value cases, buf, sc, r, h, hs, hb, hc => by
      simp only [CmdJs] at hc
      obtain ⟨j, rc, hj, hrc, rfl⟩ := toCmd_switch_some h
      have ic := toCases_img cases buf sc rc hrc hs hb hc.2
      exact ⟨imgSs_one _ (ImgS.switchS (toAst_img hg sc hs value j hj hc.1).1 ic.1), ic.2⟩
    | .letContent p name body, buf, sc, r, h, hs, hb, hc => by
      simp only [CmdJs] at hc
      unfold toCmd at h
      obtain ⟨_, rbv, hrb, rfl⟩ := letJoin_some h
      have gn := hs.genname name hc.1
      have ib := toBlock_img body _ _ rbv hrb gn.2 gn.1 hc.2
      exact ⟨ImgSs.cons (ImgS.varEmpty gn.1) ib.1, ib.2.bind name _ gn.1⟩
    | .call p name allData data params, buf, sc, r, h, hs, hb, hc => by
      simp only [CmdJs] at hc
      unfold toCmd at h
      obtain ⟨b, rp, hbase, hrp, rfl⟩ := callJoin_some h
      have ip := toParams_img params sc rp hrp hs hc.2.2
      have ibase := callBase_img hg sc hs allData data b hbase (fun e he => by subst he; exact hc.2.1)
      exact ⟨imgSs_append _ _ ip.1 (imgSs_one _ (ImgS.call hb hc.1 ibase ip.2.1)), ip.2.2⟩
    | .css p none suffix, buf, sc, r, h, hs, hb, hc => by
      simp only [CmdJs] at hc
      simp only [toCmd, Option.some.injEq] at h; subst h
      exact ⟨imgSs_one _ (ImgS.appendLit hb hc.1), hs⟩
    | .css p (some e) suffix, buf, sc, r, h, hs, hb, hc => by
      simp only [CmdJs] at hc
      obtain ⟨j, hj, rfl⟩ := toCmd_css_some h
      have ij := toAst_img hg sc hs e j hj hc.2
      exact ⟨ImgSs.cons (ImgS.appendCss hb ij.1 ij.2.1) (imgSs_one _ (ImgS.appendLit hb hc.1)), hs⟩
    | .debugger p, buf, sc, r, h, hs, _, _ => by
      simp only [toCmd, Option.some.injEq] at h; subst h
      exact ⟨imgSs_one _ (by simp only [ImgS]), hs⟩
    | .msg p id m d bp body, buf, sc, r, h, hs, hb, hc => by
      simp only [CmdJs] at hc
      unfold toCmd at h
      obtain ⟨rb, hrb, rfl⟩ := msgJoin_some h
      have ib := toParts_img body buf _ rb hrb hs.push hb hc
      exact ⟨ib.1, ib.2.pop⟩
    | .log .., _, _, _, h, _, _, _ | .headerParam .., _, _, _, h, _, _, _ | .namespace .., _, _, _, h, _, _, _
    | .template .., _, _, _, h, _, _, _ | .soyDoc .., _, _, _, h, _, _, _ => by simp [toCmd] at h
  theorem toParts_img : ∀ (ps : MsgParts) (buf : Bytes) (sc : Scope) (r : JsStmts × Scope), toParts ae buf ps sc = some r →
      ScImg sc → JsName buf → PartsJs ps → ImgSs r.1 ∧ ScImg r.2
    | .nil, buf, sc, r, h, hs, _, _ => by
      simp only [toParts, Option.some.injEq] at h; subst h
      exact ⟨trivial, hs⟩
    | .text p t rest, buf, sc, r, h, hs, hb, hc => by
      simp only [PartsJs] at hc
      unfold toParts at h
      obtain ⟨a, b, ha, hb', rfl⟩ := phJoin_some h
      simp only [Option.some.injEq] at ha
      subst ha
      have ir := toParts_img rest buf sc b hb' hs hb hc.2
      exact ⟨imgSs_append _ _ (imgSs_one _ (ImgS.appendLit hb hc.1)) ir.1, ir.2⟩
    | .ph p n body rest, buf, sc, r, h, hs, hb, hc => by
      simp only [PartsJs] at hc
      unfold toParts at h
      obtain ⟨a, b, ha, hb', rfl⟩ := phJoin_some h
      have ia := toPh_img body buf sc a ha hs hb hc.1
      have ir := toParts_img rest buf a.2 b hb' ia.2 hb hc.2
      exact ⟨imgSs_append _ _ ia.1 ir.1, ir.2⟩
    | .plural p vn value cases dp dflt rest, buf, sc, r, h, hs, hb, hc => by
      simp only [PartsJs] at hc
      unfold toParts at h
      obtain ⟨j, rc, rd, rr, hj, hrc, hrd, _, hrr, rfl⟩ := pluralJoin_some h
      have ic := toPCases_img cases buf sc rc hrc hs hb hc.2.1
      have id' := toParts_img dflt buf rc.2 rd hrd ic.2 hb hc.2.2.1
      have ir := toParts_img rest buf rd.2 rr hrr id'.2 hb hc.2.2.2
      exact ⟨ImgSs.cons (ImgS.pluralS (toAst_img hg sc hs value j hj hc.1).1 ic.1 id'.1) ir.1, ir.2⟩
  theorem toPCases_img : ∀ (cs : PluralCases) (buf : Bytes) (sc : Scope) (r : JsPlural × Scope), toPCases ae buf cs sc = some r →
      ScImg sc → JsName buf → PCasesJs cs → ImgPlural r.1 ∧ ScImg r.2
    | .nil, buf, sc, r, h, hs, _, _ => by
      simp only [toPCases, Option.some.injEq] at h; subst h
      exact ⟨trivial, hs⟩
    | .cons p v bp body rest, buf, sc, r, h, hs, hb, hc => by
      simp only [PCasesJs] at hc
      unfold toPCases at h
      obtain ⟨rb, rr, hrb, _, hrr, rfl⟩ := pcaseJoin_some h
      have ib := toParts_img body buf sc rb hrb hs hb hc.1
      have ir := toPCases_img rest buf rb.2 rr hrr ib.2 hb hc.2
      exact ⟨ImgPlural.cons ib.1 ir.1, ir.2⟩
  theorem toPh_img : ∀ (b : MsgPhBody) (buf : Bytes) (sc : Scope) (r : JsStmts × Scope), toPh ae buf b sc = some r →
      ScImg sc → JsName buf → PhJs b → ImgSs r.1 ∧ ScImg r.2
    | .htmlTag p t, buf, sc, r, h, hs, hb, hc => by
      simp only [PhJs] at hc
      simp only [toPh, Option.some.injEq] at h; subst h
      exact ⟨imgSs_one _ (ImgS.appendLit hb hc), hs⟩
    | .cmd c, buf, sc, r, h, hs, hb, hc => by
      simp only [PhJs] at hc
      unfold toPh at h
      exact toCmd_img c buf sc r h hs hb hc
  theorem toParams_img : ∀ (ps : ParamList) (sc : Scope) (r : JsStmts × List (Bytes × JsExpr) × Scope),
      toParams ae ps sc = some r → ScImg sc → ParamsJs ps → ImgSs r.1 ∧ ImgParams r.2.1 ∧ ScImg r.2.2
    | .nil, sc, r, h, hs, _ => by
      simp only [toParams, Option.some.injEq] at h; subst h
      exact ⟨trivial, trivial, hs⟩
    | .value p key e rest, sc, r, h, hs, hc => by
      simp only [ParamsJs] at hc
      unfold toParams at h
      obtain ⟨j, rr, hj, hrr, rfl⟩ := valueParamJoin_some h
      have ir := toParams_img rest sc rr hrr hs hc.2.2
      exact ⟨ir.1, ImgParams.cons hc.1 (toAst_img hg sc hs e j hj hc.2.1).1 ir.2.1, ir.2.2⟩
    | .content p key body rest, sc, r, h, hs, hc => by
      simp only [ParamsJs] at hc
      unfold toParams at h
      obtain ⟨rb, rr, hrb, hrr, rfl⟩ := contentParamJoin_some h
      have gn := hs.genname b!"param" ⟨_, _, rfl, by decide, by decide⟩
      have ib := toBlock_img body _ _ rb hrb gn.2 gn.1 hc.2.1
      have ir := toParams_img rest rb.2 rr hrr ib.2 hc.2.2
      exact ⟨imgSs_append _ _ (ImgSs.cons (ImgS.varEmpty gn.1) ib.1) ir.1, ImgParams.cons hc.1 (Img.localVar gn.1) ir.2.1, ir.2.2⟩
  theorem toBody_img : ∀ (b : Block) (buf : Bytes) (sc : Scope) (r : JsStmts × Scope), toBody ae buf b sc = some r →
      ScImg sc → JsName buf → BlockJs b → ImgSs r.1 ∧ ScImg r.2
    | .mk p cmds, buf, sc, r, h, hs, hb, hc => by
      simp only [BlockJs] at hc
      unfold toBody at h
      exact toCmds_img cmds buf sc r h hs hb hc
  theorem toBlock_img : ∀ (b : Block) (buf : Bytes) (sc : Scope) (r : JsStmts × Scope), toBlock ae buf b sc = some r →
      ScImg sc → JsName buf → BlockJs b → ImgSs r.1 ∧ ScImg r.2
    | .mk p cmds, buf, sc, r, h, hs, hb, hc => by
      simp only [BlockJs] at hc
      obtain ⟨r', hr', rfl⟩ := toBlock_some h
      have ic := toCmds_img cmds buf sc.push r' hr' hs.push hb hc
      exact ⟨ic.1, ic.2.pop⟩
  theorem toCmds_img : ∀ (cs : CmdList) (buf : Bytes) (sc : Scope) (r : JsStmts × Scope), toCmds ae buf cs sc = some r →
      ScImg sc → JsName buf → CmdsJs cs → ImgSs r.1 ∧ ScImg r.2
    | .nil, buf, sc, r, h, hs, _, _ => by
      simp only [toCmds, Option.some.injEq] at h; subst h
      exact ⟨trivial, hs⟩
    | .cons c rest, buf, sc, r, h, hs, hb, hc => by
      simp only [CmdsJs] at hc
      obtain ⟨r1, r2, hr1, hr2, rfl⟩ := toCmds_cons_some h
      have i1 := toCmd_img c buf sc r1 hr1 hs hb hc.1
      have i2 := toCmds_img rest buf r1.2 r2 hr2 i1.2 hb hc.2
      exact ⟨imgSs_append _ _ i1.1 i2.1, i2.2⟩
  theorem toCases_img : ∀ (cs : CaseList) (buf : Bytes) (sc : Scope) (r : JsCases × Scope), toCases ae buf cs sc = some r →
      ScImg sc → JsName buf → CasesJs cs → ImgCases r.1 ∧ ScImg r.2
    | .nil, buf, sc, r, h, hs, _, _ => by
      simp only [toCases, Option.some.injEq] at h; subst h
      exact ⟨trivial, hs⟩
    | .cons p values body rest, buf, sc, r, h, hs, hb, hc => by
      simp only [CasesJs] at hc
      unfold toCases at h
      obtain ⟨rbv, hrb, hr⟩ := caseJoin_some h
      have ib := toBlock_img body buf sc rbv hrb hs hb hc.2.1
      rcases hr with ⟨_, _, rfl⟩ | ⟨hne, js, rr, hjs, hrr, rfl⟩
      · exact ⟨ImgCases.dflt ib.1, ib.2⟩
      · have ir := toCases_img rest buf rbv.2 rr hrr ib.2 hb hc.2.2
        refine ⟨ImgCases.cons ?_ (astList_img hg sc hs values js hjs hc.1) ib.1 ir.1, ir.2⟩
        intro hnil
        subst hnil
        cases values with
        | nil => exact hne rfl
        | cons e r' =>
          obtain ⟨_, _, _, _, h⟩ := astList_cons_some hjs
          cases h
  theorem toConds_img : ∀ (cs : CondList) (buf : Bytes) (sc : Scope) (r : JsConds × Scope), toConds ae buf cs sc = some r →
      ScImg sc → JsName buf → CondsJs cs → ImgConds r.1 ∧ ScImg r.2
    | .nil, buf, sc, r, h, hs, _, _ => by
      simp only [toConds, Option.some.injEq] at h; subst h
      exact ⟨trivial, hs⟩
    | .cons p (some c) body rest, buf, sc, r, h, hs, hb, hc => by
      simp only [CondsJs] at hc
      obtain ⟨j, rb, rr, hj, hrb, hrr, rfl⟩ := toConds_cond_some h
      have ib := toBlock_img body buf sc rb hrb hs hb hc.2.1
      have ir := toConds_img rest buf rb.2 rr hrr ib.2 hb hc.2.2
      exact ⟨ImgConds.cons (toAst_img hg sc hs c j hj hc.1).1 ib.1 ir.1, ir.2⟩
    | .cons p none body rest, buf, sc, r, h, hs, hb, hc => by
      simp only [CondsJs] at hc
      obtain ⟨_, rb, hrb, rfl⟩ := toConds_else_some h
      have ib := toBlock_img body buf sc rb hrb hs hb hc.2.1
      exact ⟨ImgConds.els ib.1, ib.2⟩
end

end

/-! `FileJs f` — the naming conditions on a Soy file.  Of them the Soy lexer / parser guarantee: the shapes (`{if}` has a
  first condition, `{else}` last; a file is a namespace and soydoc / template pairs), that names after `$`, `.` and in
  `{let}` / `{foreach}` / `{param}` are identifiers — but of LETTERS, which for the Go lexer includes letters outside
  ASCII (the generator copies them: Props/C14 `IsIdent`; here `JsIdent` asks for ASCII, the alphabet of Spec/JsParse).
  NOT guaranteed, and asked here: well-formed UTF-8 in raw text, message text and string literals (those that are
  arguments of a print directive included); no `{let}` value / loop list / range limit that is exactly `$v.length`; the
  first segment of the dotted name of the namespace, a template or a callee is no JavaScript reserved word (Soy has no
  such rule: `{namespace var.x}` is accepted — real soyjs then writes `var.x = …`, no JavaScript).  Variable names need
  no such condition: the generator appends `$n`.
  Outside the fragment altogether (`toFile = none`): floats, list / map literals, `[e]` accesses, a null-safe access
  that is not last, functions other than isNonnull / length / floor / ceiling / round / min / max / index / isFirst /
  isLast / range, unknown directives or non-literal directive arguments, `{log}`, `{call}` with `data="all"` and a data
  expression, header `{@param}` declarations, a template without soydoc.  (`toFile` translates a `{msg}` as the generator
  writes it without a message bundle; a bundle is excluded by the hypothesis `o.messages = none` of the theorem.) -/

open SoyVerif.Props.C04f (toTop toFile)
open SoyVerif.Props.C14c (canonF)

/-- nothing is asked of a list of another shape: `toTop` has no translation for it -/
def TopJs : List Cmd → Prop
  | .soyDoc _ _ :: .template _ name body _ _ :: rest => QName name ∧ BlockJs body ∧ TopJs rest
  | _ => True

/-- the naming conditions on a file: the namespace and the templates have dotted JavaScript names, the bodies are
    `BlockJs`.  Nothing is asked of a file that does not begin with its `{namespace}`: `toFile` has no translation for it. -/
def FileJs (f : SoyFile) : Prop :=
  ∀ p name ae rest, f.body = .namespace p name ae :: rest → QName name ∧ TopJs rest

theorem output_name : JsName SoyVerif.Spec.JsStmt.sOutputVar :=
  ⟨⟨_, _, rfl, by decide, by decide⟩, by decide, by decide, by decide⟩

section
variable [Globals] (hg : GlobalsJs)
include hg

theorem toTop_img (nsAe : Autoescape) : ∀ (cmds : List Cmd) (sc : Scope) (r : List JsFunc × Scope), toTop nsAe cmds sc = some r →
    ScImg sc → TopJs cmds → (∀ fn ∈ r.1, ImgF fn) ∧ ScImg r.2 := by
  refine C04f.toTop_induction (motive := fun cmds sc r => ScImg sc → TopJs cmds → (∀ fn ∈ r.1, ImgF fn) ∧ ScImg r.2) ?_ ?_
  · intro sc hs _
    exact ⟨fun _ h => (nomatch h), hs⟩
  · intro p params tp name body ae' y rest sc rb r2 hrb _ ih hs hc
    simp only [TopJs] at hc
    have ib := toBody_img hg _ body _ _ rb hrb hs.push output_name hc.2.1
    have ir := ih ib.2.pop hc.2.2
    refine ⟨fun fn hfn => ?_, ir.2⟩
    rcases List.mem_cons.mp hfn with rfl | hfn
    · exact ⟨hc.1, ib.1⟩
    · exact ir.1 fn hfn

/-- the functions of the translation of a file with well-formed names are in the image of Props/C14c -/
theorem toFile_img (f : SoyFile) (r : List JsFunc × Scope) (h : toFile f = some r) (hf : FileJs f) : ∀ fn ∈ r.1, ImgF fn := by
  unfold toFile at h
  split at h
  · rename_i p name ae rest hbody
    exact (toTop_img hg ae rest _ r h (fun f hf kv hkv => by simp at hf; subst hf; cases hkv) (hf p name ae rest hbody).2).1
  · cases h

/-- Property C14 (the generated JavaScript of a file is a syntactically valid script), on the fragment.  For every file
    of the fragment (`toFile` succeeds) with well-formed names (`FileJs`: conditions on the SOY file, listed above), the
    generator model (ES5 formatter, no message bundle; string globals well-formed UTF-8: `GlobalsJs`) succeeds, and the
    text it writes parses (Spec/JsParse: lexer, grammar and reader of the subset of ECMAScript 5.1 the generator emits)
    to the functions of the translation in canonical form (`canonF`); there is no hypothesis on the translated
    functions. -/
theorem gen_file_is_valid_script_partial (sk : List Bytes → List Bytes) (o : Options) [C04c.GlobalsAre o]
    (ho : o.messages = none) (h5 : isEs6 o = false) (f : SoyFile) (r : List JsFunc × Scope)
    (h : toFile f = some r) (hf : FileJs f) :
    ∃ ps s', visitSoyFile sk o f initState = .ok ((), ps, s') ∧ jsParseFile (printPieces ps) = some (r.1.map canonF) :=
  C14c.gen_text_parses sk o ho h5 f r h (toFile_img hg f r h hf) (fun p name ae rest hb => (hf p name ae rest hb).1)

end

section Examples
open SoyVerif.Props.C14c (identB identB_ok qOkB qOkB_ok ascii_valid)

/-- `{namespace ns}  /** @param x */ {template .t}{$x.y|truncate:5}hi{if $x}{foreach $i in $x.l}{$i}{/foreach}{/if}{/template}` -/
def exFile : SoyFile :=
  { name := b!"a\nb.soy", text := [], body := [
      .namespace 0 b!"ns" .unspecified,
      .soyDoc 0 [⟨0, b!"x", false⟩],
      .template 0 b!"ns.t" (.mk 0
        (.cons (.print 0 (.dataRef 0 b!"x" (.cons (.key 0 false b!"y") .nil)) [⟨0, b!"truncate", [.int 0 5]⟩])
        (.cons (.rawText 0 b!"hi")
        (.cons (.ifc 0 (.cons 0 (some (.dataRef 0 b!"x" .nil))
          (.mk 0 (.cons (.forc 0 b!"i" (.dataRef 0 b!"x" (.cons (.key 0 false b!"l") .nil))
            (.mk 0 (.cons (.print 0 (.dataRef 0 b!"i" .nil) []) .nil)) none) .nil)) .nil)) .nil)))) .unspecified false] }

theorem exFile_js : FileJs exFile := by
  intro p name ae rest hb
  simp only [exFile, List.cons.injEq, Cmd.namespace.injEq] at hb
  obtain ⟨⟨_, rfl, _⟩, rfl⟩ := hb
  refine ⟨qOkB_ok (by decide), ?_⟩
  simp only [TopJs, BlockJs, CmdsJs, CmdJs, CondsJs, ExprJs, AccJs, AccessJs, DirJs, isRangeCall, and_true, true_and]
  repeat' apply And.intro
  all_goals first
    | exact identB_ok (by decide)
    | exact qOkB_ok (by decide)
    | exact ascii_valid _ (by decide)
    | rfl
    | (intro args h; cases h; done)
    | (intro d hd; cases hd; done)
    | skip
  intro d hd a ha j hj
  simp only [List.mem_singleton] at hd
  subst hd
  simp only [List.mem_singleton] at ha
  subst ha
  simp only [litAst, Option.some.injEq] at hj
  subst hj
  trivial

local instance : Globals := ⟨[]⟩
local instance : C04c.GlobalsAre ({} : Options) := ⟨rfl⟩

theorem exGlobalsJs : GlobalsJs := fun k s h => by
  have : (Globals.tbl : List (Bytes × Value)) = [] := rfl
  rw [this] at h
  simp [assocGet?] at h

/-- the file is in the fragment … -/
example : (toFile exFile).isSome = true := by decide +kernel

/-- … so what the generator model writes for it (hostile file name included) is a valid script -/
example : ∃ r ps s', toFile exFile = some r ∧ visitSoyFile id {} exFile initState = .ok ((), ps, s') ∧
    jsParseFile (printPieces ps) = some (r.1.map canonF) := by
  cases h : toFile exFile with
  | none => exact absurd h (by decide +kernel)
  | some r =>
    obtain ⟨ps, s', h1, h2⟩ := gen_file_is_valid_script_partial exGlobalsJs id {} rfl rfl exFile r h exFile_js
    exact ⟨r, ps, s', rfl, h1, h2⟩

-- the data key `length` is in the fragment (soyjs writes `opt_data.x.length`; the length FUNCTION is `(opt_data.x).length`)
example : ExprJs (.dataRef 0 b!"x" (.cons (.key 0 false b!"length") .nil)) := by
  simp only [ExprJs, AccJs, AccessJs, and_true]
  exact ⟨identB_ok (by decide), identB_ok (by decide)⟩

end Examples

end SoyVerif.Props.C14d
