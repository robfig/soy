/-
  C04, command level — the translation and the generator (first of the layers behind Props/C04d).
  `toCmds` translates the commands of the fragment, in the generator scope they are met in, to the statement AST of
  Spec/JsStmt (with one inversion lemma per successful clause); `renderStmts` is the text of the statements in the
  generator's pieces; `walkCmds_renders` (the `Runs` logic of the generator monad): the generator model writes EXACTLY
  `renderStmts` of the translation and leaves its scope as the translation says.  Rests on Props/C04b, C04c.
-/
import SoyVerif.Props.C04b
import SoyVerif.Props.C04c
import SoyVerif.Spec.JsStmt
import SoyVerif.Props.C02SpecLib
import SoyVerif.Lemmas.ScopeAll

namespace SoyVerif.Props.C04d
open SoyVerif SoyVerif.Model SoyVerif.Model.JsGen SoyVerif.Spec.JsSemRef SoyVerif.Spec.JsStmt
open SoyVerif.Props.C02Spec (eq_of_outCode)
open SoyVerif.Props.C04c (toAst render RunsSc Same walkExpr_renders toJsV EnvRel Globals GlobalsAre IjRel GlobRel)

set_option linter.unusedSectionVars false

section Dev
variable [Globals] {ent : Spec.Eval.Binds}

/-- a literal directive argument (`|truncate:8`, `|insertWordBreaks:5`, `|truncate:8,false`) -/
def litAst : Expr → Option JsExpr
  | .null _ => some .null
  | .bool _ b => some (.bool b)
  | .int _ v => some (.num v)
  | .str _ _ v => some (.str v)
  | _ => none

theorem toAst_lit (sc : Scope) : ∀ (a : Expr) (j : JsExpr), litAst a = some j → toAst sc a = some j
  | .null _, _, h => by simpa [litAst, toAst] using h
  | .bool _ _, _, h => by simpa [litAst, toAst] using h
  | .int _ _, _, h => by simpa [litAst, toAst] using h
  | .str _ _ _, _, h => by simpa [litAst, toAst] using h
  | .float _ _, _, h => by simp [litAst] at h
  | .global _ _, _, h => by simp [litAst] at h
  | .func _ _ _, _, h => by simp [litAst] at h
  | .list _ _, _, h => by simp [litAst] at h
  | .map _ _, _, h => by simp [litAst] at h
  | .dataRef _ _ _, _, h => by simp [litAst] at h
  | .not _ _, _, h => by simp [litAst] at h
  | .neg _ _, _, h => by simp [litAst] at h
  | .bin _ _ _ _, _, h => by simp [litAst] at h
  | .tern _ _ _ _, _, h => by simp [litAst] at h

/-- a directive of the fragment: literal arguments, known to the Go renderer too -/
def dirOk (d : Directive) : Bool :=
  d.args.all (fun a => (litAst a).isSome) && (Directives.lookup Gen.directiveTable d.name).isSome

/-- the statements of a foreach loop, from the names `pushForEach` generates (item, list, limit,
    index), the list expression, the body and the `{ifempty}` block -/
def foreachStmts (names : Bytes × Bytes × Bytes × Bytes) (list : JsExpr) (body : JsStmts) (ifEmpty : Option JsStmts) :
    JsStmts :=
  let loop : JsStmt := .forUp names.2.2.2 names.2.2.1 (.cons (.varIndex names.1 names.2.1 names.2.2.2) body)
  .cons (.var names.2.1 list) (.cons (.varLength names.2.2.1 names.2.1)
    (.one (match ifEmpty with
      | none => loop
      | some ie => .ifPos names.2.2.1 (.one loop) ie)))

/-- a positive integer literal (the step of a `range`) -/
def posLit : Expr → Bool
  | .int _ c => decide (0 < c)
  | _ => false

/-- `var vLimit = limit; var vStep = incr; for (var v = init, vIndex = 0; v < vLimit; v += vStep, vIndex++) {…}` -/
def rangeStmts (names : Bytes × Bytes × Bytes × Bytes) (limit init incr : JsExpr) (body : JsStmts) : JsStmts :=
  .cons (.var names.2.1 limit) (.cons (.var names.2.2.1 incr)
    (.one (.forStep names.1 names.2.1 names.2.2.1 names.2.2.2 init body)))

/-- `{for $v in range(…)}` from the translation of its body (in the loop's frame): one to three
    arguments, the step absent or a positive literal.  `noIfEmpty` is `true` at the one call (`loopJoin`): an `{ifempty}`
    block is added behind the loop by `rangeIeJoin` -/
def rangeJoin (v : Bytes) (list : Expr) (sc : Scope) (rb : Option (JsStmts × Scope)) (noIfEmpty : Bool) :
    Option (JsStmts × Scope) :=
  if v.contains 36 || !noIfEmpty then none
  else match isRangeCall list with
    | none => none
    | some args =>
      match rangeLimit args with
      | none => none
      | some l =>
        if posLit (rangeIncr args) then
          match toAst sc l, toAst sc (rangeInit args), toAst sc (rangeIncr args), rb with
          | some jl, some ji, some jc, some rb => some (rangeStmts (sc.pushForRange v).1 jl ji jc rb.1, rb.2.pop)
          | _, _, _, _ => none
        else none

/-- `{foreach $v in list}` from the translations of its parts: the body (in the loop's frame) and the
    `{ifempty}` block (a function of the scope it is met in, after the loop's frame is popped) -/
def forcJoin (v : Bytes) (list : Expr) (sc : Scope) (rb : Option (JsStmts × Scope))
    (ie : Option (Scope → Option (JsStmts × Scope))) : Option (JsStmts × Scope) :=
  if v.contains 36 || (isRangeCall list).isSome then none
  else match toAst sc list, rb with
    | some j, some rb =>
      (match ie with
        | none => some (foreachStmts (sc.pushForEach v).1 j rb.1 none, rb.2.pop)
        | some f =>
          (match f rb.2.pop with
            | none => none
            | some re => some (foreachStmts (sc.pushForEach v).1 j rb.1 (some re.1), re.2)))
    | _, _ => none

/-- the case labels of a clause -/
def astList (sc : Scope) : List Expr → Option (List JsExpr)
  | [] => some []
  | e :: r =>
    match toAst sc e, astList sc r with
    | some j, some js => some (j :: js)
    | _, _ => none

/-- one `{case v, …}` / `{default}` clause from the translations of its parts; `{default}` is the last clause -/
def caseJoin (sc : Scope) (values : List Expr) (rb : Option (JsStmts × Scope)) (last : Bool)
    (rest : Scope → Option (JsCases × Scope)) : Option (JsCases × Scope) :=
  match rb with
  | none => none
  | some rb =>
    if values.isEmpty then (if last then some (.dflt rb.1, rb.2) else none)
    else match astList sc values, rest rb.2 with
      | some js, some rr => some (.cons js rb.1 rr.1, rr.2)
      | _, _ => none

/-- `{let $x}…{/let}` from the translation of its body (run with the new buffer): declare the buffer, fill it,
    bind the name to it -/
def letJoin (name : Bytes) (sc : Scope) (rb : Option (JsStmts × Scope)) : Option (JsStmts × Scope) :=
  if name.contains 36 then none
  else match rb with
    | some rb => some (.cons (.varEmpty (sc.genname name).1) rb.1, rb.2.bind name (sc.genname name).1)
    | none => none

/-- the `{ifempty}` block of a loop over `range(…)` (soyjs visitForRange): after the loop, outside its frame,
    `if (index == 0) {…}` -/
def rangeIeJoin (idx : Bytes) (r0 : Option (JsStmts × Scope)) (ie : Option (Scope → Option (JsStmts × Scope))) :
    Option (JsStmts × Scope) :=
  match ie with
  | none => r0
  | some f =>
    match r0 with
    | none => none
    | some r0 =>
      match f r0.2 with
      | some re => some (r0.1.append (.one (.ifZero idx re.1)), re.2)
      | none => none

/-- a loop command: `{foreach}` over a list, else `{for}` over a range -/
def loopJoin (v : Bytes) (list : Expr) (sc : Scope) (rbEach : Option (JsStmts × Scope))
    (ie : Option (Scope → Option (JsStmts × Scope))) (rbRange : Option (JsStmts × Scope)) :
    Option (JsStmts × Scope) :=
  match forcJoin v list sc rbEach ie with
  | some r => some r
  | none => rangeIeJoin (sc.pushForRange v).1.2.2.2 (rangeJoin v list sc rbRange true) ie

/-- the first argument of the callee: `{}`, `opt_data` (`data="all"`) or the `data="$e"` expression -/
def callBase (sc : Scope) (allData : Bool) (data : Option Expr) : Option DataBase :=
  match allData, data with
  | false, none => some .empty
  | true, none => some .all
  | false, some e => (toAst sc e).map .expr
  | true, some _ => none

/-- a `{param k: e /}` from the translations of its parts -/
def valueParamJoin (key : Bytes) (j : Option JsExpr) (rr : Option (JsStmts × List (Bytes × JsExpr) × Scope)) :
    Option (JsStmts × List (Bytes × JsExpr) × Scope) :=
  match j, rr with
  | some j, some rr => some (rr.1, (key, j) :: rr.2.1, rr.2.2)
  | _, _ => none

/-- a `{param k}…{/param}` from the translation of its body (run with the buffer `g`): declare the buffer, fill
    it; the param's value is the buffer -/
def contentParamJoin (key g : Bytes) (rb : Option (JsStmts × Scope))
    (rest : Scope → Option (JsStmts × List (Bytes × JsExpr) × Scope)) :
    Option (JsStmts × List (Bytes × JsExpr) × Scope) :=
  match rb with
  | none => none
  | some rb =>
    match rest rb.2 with
    | some rr => some ((JsStmts.cons (.varEmpty g) rb.1).append rr.1, (key, .local g) :: rr.2.1, rr.2.2)
    | none => none

/-- `{call}` from the translations of its parts: the statements of the content params, then the call -/
def callJoin (buf name : Bytes) (base : Option DataBase) (rp : Option (JsStmts × List (Bytes × JsExpr) × Scope)) :
    Option (JsStmts × Scope) :=
  match base, rp with
  | some b, some rp => some (rp.1.append (.one (.call buf name b rp.2.1)), rp.2.2)
  | _, _ => none

/-- `{msg}` (no bundle) from the translation of its parts: a scope frame of its own -/
def msgJoin (rb : Option (JsStmts × Scope)) : Option (JsStmts × Scope) :=
  match rb with
  | some r => some (r.1, r.2.pop)
  | none => none

/-- a placeholder of a message, then the rest (in the scope the placeholder leaves) -/
def phJoin (r1 : Option (JsStmts × Scope)) (rest : Scope → Option (JsStmts × Scope)) : Option (JsStmts × Scope) :=
  match r1 with
  | none => none
  | some r1 =>
    match rest r1.2 with
    | some r2 => some (r1.1.append r2.1, r2.2)
    | none => none

/-- one `{case n}` of a `{plural}` from the translations of its parts.  The generator opens NO frame for the body of a
    case: the translation takes only bodies that leave the frames as they found them (print / call placeholders do) -/
def pcaseJoin (sc : Scope) (v : Int) (rb : Option (JsStmts × Scope)) (rest : Scope → Option (JsPlural × Scope)) :
    Option (JsPlural × Scope) :=
  match rb with
  | none => none
  | some rb =>
    if rb.2.stack = sc.stack then
      (match rest rb.2 with
        | some rr => some (.cons v rb.1 rr.1, rr.2)
        | none => none)
    else none

/-- a `{plural}` part of a message (no bundle): the switch on its value, then the rest of the message -/
def pluralJoin (sc : Scope) (j : Option JsExpr) (rc : Option (JsPlural × Scope)) (dflt rest : Scope → Option (JsStmts × Scope)) :
    Option (JsStmts × Scope) :=
  match j, rc with
  | some j, some rc =>
    (match dflt rc.2 with
      | some rd =>
        if rd.2.stack = sc.stack then
          (match rest rd.2 with
            | some rr => some (.cons (.pluralS j rc.1 rd.1) rr.1, rr.2)
            | none => none)
        else none
      | none => none)
  | _, _ => none

section
variable (ae : Autoescape)

mutual
  /-- a command in the scope `sc`: its statements and the scope for the commands after it -/
  def toCmd : Bytes → Cmd → Scope → Option (JsStmts × Scope)
    | buf, .rawText _ t, sc => some (.one (.appendLit buf t), sc)
    | buf, .print _ arg dirs, sc =>
      if dirs.all dirOk then
        match toAst sc arg, collectDirs dirs with
        | some j, some ck => some (.one (.append buf j (printDirs ae ck.1 ck.2)), sc)
        | _, _ => none
      else none
    | buf, .letValue _ x e, sc =>
      if x.contains 36 then none
      else match toAst sc e with
        | some j => some (.one (.var (sc.makevar x).1 j), (sc.makevar x).2)
        | none => none
    | buf, .ifc _ conds, sc =>
      match toConds buf conds sc with
      | some r => some (.one (.ifs r.1), r.2)
      | none => none
    | buf, .forc _ v list body ifEmpty, sc =>
      -- a loop over a list or over `range(…)`: the list / the bounds are evaluated outside the loop frame
      loopJoin v list sc (toBody buf body (sc.pushForEach v).2)
        (match ifEmpty with
          | none => none
          | some ie => some (toBlock buf ie))
        (toBody buf body (sc.pushForRange v).2)
    | buf, .switch _ value cases, sc =>
      match toAst sc value, toCases buf cases sc with
      | some j, some rc => some (.one (.switchS j rc.1), rc.2)
      | _, _ => none
    | _, .letContent _ name body, sc =>
      -- `{let $x}…{/let}`: the body writes to a buffer of its own, which `$x` then names
      letJoin name sc (toBlock (sc.genname name).1 body (sc.genname name).2)
    | buf, .call _ name allData data params, sc =>
      -- `{call name …}`: the content params are rendered into buffers of their own first
      callJoin buf name (callBase sc allData data) (toParams params sc)
    | buf, .css _ e suffix, sc =>
      -- `{css $e, name}`: the value of `e`, a hyphen, the name — unescaped; `{css name}`: the name
      (match e with
        | none => some (.one (.appendLit buf suffix), sc)
        | some e =>
          (match toAst sc e with
            | some j => some (.cons (.appendCss buf j) (.one (.appendLit buf suffix)), sc)
            | none => none))
    | _, .debugger _, sc => some (.one .debuggerS, sc)
    | buf, .msg _ _ _ _ _ body, sc =>
      -- `{msg}` WITHOUT a message bundle: the parts one after the other (no goog.getMsg), in a frame of their own
      msgJoin (toParts buf body sc.push)
    | _, _, _ => none
  /-- the parts of a message: raw text, the placeholders — an HTML tag or a command —, and `{plural}` -/
  def toParts : Bytes → MsgParts → Scope → Option (JsStmts × Scope)
    | _, .nil, sc => some (.nil, sc)
    | buf, .text _ t r, sc => phJoin (some (.one (.appendLit buf t), sc)) (toParts buf r)
    | buf, .ph _ _ body r, sc => phJoin (toPh buf body sc) (toParts buf r)
    | buf, .plural _ _ value cases _ dflt r, sc =>
      pluralJoin sc (toAst sc value) (toPCases buf cases sc) (toParts buf dflt) (toParts buf r)
  /-- the `{case n}` clauses of a plural -/
  def toPCases : Bytes → PluralCases → Scope → Option (JsPlural × Scope)
    | _, .nil, sc => some (.nil, sc)
    | buf, .cons _ v _ body rest, sc => pcaseJoin sc v (toParts buf body sc) (toPCases buf rest)
  def toPh : Bytes → MsgPhBody → Scope → Option (JsStmts × Scope)
    | buf, .htmlTag _ t, sc => some (.one (.appendLit buf t), sc)
    | buf, .cmd c, sc => toCmd buf c sc
  /-- the params of a call: the statements that fill the content params' buffers, the `key: value` list, and the
      scope afterwards (only its counter moved) -/
  def toParams : ParamList → Scope → Option (JsStmts × List (Bytes × JsExpr) × Scope)
    | .nil, sc => some (.nil, [], sc)
    | .value _ key e rest, sc => valueParamJoin key (toAst sc e) (toParams rest sc)
    | .content _ key body rest, sc =>
      contentParamJoin key (sc.genname b!"param").1
        (toBlock (sc.genname b!"param").1 body (sc.genname b!"param").2) (toParams rest)
  /-- the body of a loop: in the loop's frame -/
  def toBody : Bytes → Block → Scope → Option (JsStmts × Scope)
    | buf, .mk _ cmds, sc => toCmds buf cmds sc
  /-- a block has a scope frame of its own -/
  def toBlock : Bytes → Block → Scope → Option (JsStmts × Scope)
    | buf, .mk _ cmds, sc =>
      match toCmds buf cmds sc.push with
      | some r => some (r.1, r.2.pop)
      | none => none
  def toCmds : Bytes → CmdList → Scope → Option (JsStmts × Scope)
    | buf, .nil, sc => some (.nil, sc)
    | buf, .cons c rest, sc =>
      match toCmd buf c sc with
      | none => none
      | some r1 =>
        match toCmds buf rest r1.2 with
        | none => none
        | some r2 => some (r1.1.append r2.1, r2.2)
  def toCases : Bytes → CaseList → Scope → Option (JsCases × Scope)
    | buf, .nil, sc => some (.nil, sc)
    | buf, .cons _ values body rest, sc =>
      caseJoin sc values (toBlock buf body sc) (match rest with | .nil => true | _ => false) (toCases buf rest)
  def toConds : Bytes → CondList → Scope → Option (JsConds × Scope)
    | buf, .nil, sc => some (.nil, sc)
    | buf, .cons _ cond body rest, sc =>
      match cond with
      | some c =>
        (match toAst sc c, toBlock buf body sc with
          | some j, some rb =>
            (match toConds buf rest rb.2 with
              | some rr => some (.cons j rb.1 rr.1, rr.2)
              | none => none)
          | _, _ => none)
      | none =>
        -- `{else}` is the last branch
        (match rest, toBlock buf body sc with
          | .nil, some rb => some (.els rb.1, rb.2)
          | _, _ => none)
end

end

def argPieces (a : Expr) : List Piece :=
  match litAst a with
  | some j => [.fixed b!","] ++ render j
  | none => []

def openPieces (d : Directive) : List Piece := [.fixed (directiveJsName d.name), .fixed b!"("]

def closePieces (d : Directive) : List Piece :=
  d.args.flatMap argPieces ++ (if d.name == b!"truncate" && d.args.length == 1 then [.fixed b!",true"] else []) ++
    [.fixed b!")"]

def basePieces : DataBase → List Piece
  | .empty => [.fixed b!"{}"]
  | .all => [.fixed b!"opt_data"]
  | .expr e => render e

/-- `k: v, k: v, …` -/
def kvPieces : List (Bytes × JsExpr) → Bool → List Piece
  | [], _ => []
  | (k, v) :: r, first => (if first then [] else [.fixed b!", "]) ++ [.ident k, .fixed b!": "] ++ render v ++ kvPieces r false

/-- the data argument of a call -/
def dataPieces (base : DataBase) (params : List (Bytes × JsExpr)) : List Piece :=
  match params with
  | [] => basePieces base
  | ps => [.fixed b!"soy.$$augmentMap("] ++ basePieces base ++ [.fixed b!", {"] ++ kvPieces ps true ++ [.fixed b!"})"]

mutual
  def renderStmt (es6 : Bool) (ind : Nat) : JsStmt → List Piece
    | .appendLit b t => [.fixed (spaces ind), .ident b, .fixed b!" += '", .escaped t, .fixed b!"';\n"]
    | .append b e ds =>
      [.fixed (spaces ind), .ident b, .fixed b!" += "] ++ ds.reverse.flatMap openPieces ++ render e ++
        ds.flatMap closePieces ++ [.fixed b!";\n"]
    | .var x e => [.fixed (spaces ind), .fixed b!"var ", .ident x, .fixed b!" = "] ++ render e ++ [.fixed b!";", .fixed [10]]
    | .ifs conds => [.fixed (spaces ind)] ++ renderConds es6 ind conds true ++ [.fixed [10]]
    | .varEmpty x => [.fixed (spaces ind), .fixed b!"var ", .ident x, .fixed b!" = '';", .fixed [10]]
    | .varLength x list =>
      [.fixed (spaces ind), .fixed b!"var ", .ident x, .fixed b!" = ", .ident list, .fixed b!".length;", .fixed [10]]
    | .varIndex x list idx =>
      [.fixed (spaces ind), .fixed b!"var ", .ident x, .fixed b!" = ", .ident list, .fixed b!"[", .ident idx, .fixed b!"];",
        .fixed [10]]
    | .forUp i lim body =>
      [.fixed (spaces ind), .fixed b!"for (var ", .ident i, .fixed b!" = 0; ", .ident i, .fixed b!" < ", .ident lim,
        .fixed b!"; ", .ident i, .fixed b!"++) {", .fixed [10]] ++ renderStmts es6 (ind + 1) body ++
        [.fixed (spaces ind), .fixed b!"}", .fixed [10]]
    | .forStep i lim step idx init body =>
      [.fixed (spaces ind), .fixed b!"for (var ", .ident i, .fixed b!" = "] ++ render init ++
        [.fixed b!", ", .ident idx, .fixed b!" = 0; ", .ident i, .fixed b!" < ", .ident lim, .fixed b!"; ", .ident i,
          .fixed b!" += ", .ident step, .fixed b!", ", .ident idx, .fixed b!"++) {", .fixed [10]] ++
        renderStmts es6 (ind + 1) body ++ [.fixed (spaces ind), .fixed b!"}", .fixed [10]]
    | .switchS e cases =>
      [.fixed (spaces ind), .fixed b!"switch ("] ++ render e ++ [.fixed b!") {", .fixed [10]] ++ renderCases es6 (ind + 1) cases ++
        [.fixed (spaces ind), .fixed b!"}", .fixed [10]]
    | .call b callee base params =>
      [.fixed (spaces ind), .ident b, .fixed b!" += ", (if es6 then .es6name callee else .qname callee), .fixed b!"("] ++
        dataPieces base params ++ [.fixed b!", opt_sb, opt_ijData);", .fixed [10]]
    | .appendCss b e => [.fixed (spaces ind), .ident b, .fixed b!" += "] ++ render e ++ [.fixed b!" + '-';", .fixed [10]]
    | .debuggerS => [.fixed (spaces ind), .fixed b!"debugger;", .fixed [10]]
    | .pluralS e cases dflt =>
      [.fixed (spaces ind), .fixed b!"switch ("] ++ render e ++ [.fixed b!") {", .fixed [10]] ++ renderPlural es6 (ind + 1) cases ++
        [.fixed (spaces (ind + 1)), .fixed b!"default:", .fixed [10]] ++ renderStmts es6 (ind + 1 + 1) dflt ++
        [.fixed (spaces ind), .fixed b!"}", .fixed [10]]
    | .ifZero idx body =>
      [.fixed (spaces ind), .fixed b!"if (", .ident idx, .fixed b!" == 0) {", .fixed [10]] ++ renderStmts es6 (ind + 1) body ++
        [.fixed (spaces ind), .fixed b!"}", .fixed [10]]
    | .ifPos lim body els =>
      [.fixed (spaces ind), .fixed b!"if (", .ident lim, .fixed b!" > 0) {", .fixed [10]] ++ renderStmts es6 (ind + 1) body ++
        [.fixed (spaces ind), .fixed b!"} else {", .fixed [10]] ++ renderStmts es6 (ind + 1) els ++
        [.fixed (spaces ind), .fixed b!"}", .fixed [10]]
  def renderStmts (es6 : Bool) (ind : Nat) : JsStmts → List Piece
    | .nil => []
    | .cons s r => renderStmt es6 ind s ++ renderStmts es6 ind r
  def renderCases (es6 : Bool) (ind : Nat) : JsCases → List Piece
    | .nil => []
    | .dflt body =>
      [.fixed (spaces ind), .fixed b!"default:", .fixed [10]] ++ renderStmts es6 (ind + 1) body ++
        [.fixed (spaces (ind + 1)), .fixed b!"break;", .fixed [10]]
    | .cons labels body rest =>
      labels.flatMap (fun j => [.fixed (spaces ind), .fixed b!"case "] ++ render j ++ [.fixed b!":", .fixed [10]]) ++
        renderStmts es6 (ind + 1) body ++ [.fixed (spaces (ind + 1)), .fixed b!"break;", .fixed [10]] ++ renderCases es6 ind rest
  def renderPlural (es6 : Bool) (ind : Nat) : JsPlural → List Piece
    | .nil => []
    | .cons v body rest =>
      [.fixed (spaces ind), .fixed b!"case ", .int v, .fixed b!":", .fixed [10]] ++ renderStmts es6 (ind + 1) body ++
        [.fixed (spaces (ind + 1)), .fixed b!"break;", .fixed [10]] ++ renderPlural es6 ind rest
  def renderConds (es6 : Bool) (ind : Nat) : JsConds → Bool → List Piece
    | .nil, _ => []
    | .els body, first =>
      (if first then [] else [.fixed b!" else "]) ++ [.fixed b!"{\n"] ++ renderStmts es6 (ind + 1) body ++
        [.fixed (spaces ind), .fixed b!"}"]
    | .cons c body rest, first =>
      (if first then [] else [.fixed b!" else "]) ++ [.fixed b!"if ("] ++ render c ++ [.fixed b!") ", .fixed b!"{\n"] ++
        renderStmts es6 (ind + 1) body ++ [.fixed (spaces ind), .fixed b!"}"] ++ renderConds es6 ind rest false
end

theorem renderStmts_append (es6 : Bool) (ind : Nat) : ∀ (a b : JsStmts),
    renderStmts es6 ind (a.append b) = renderStmts es6 ind a ++ renderStmts es6 ind b
  | .nil, b => by simp [JsStmts.append, renderStmts]
  | .cons s r, b => by simp [JsStmts.append, renderStmts, renderStmts_append es6 ind r b]

theorem renderStmts_one (es6 : Bool) (ind : Nat) (s : JsStmt) : renderStmts es6 ind (.one s) = renderStmt es6 ind s := by
  simp [JsStmts.one, renderStmts]

/-- from every state satisfying `P`, `m` succeeds, writes exactly `ps` and ends in a state
    satisfying `Q` -/
def Runs (P Q : St → Prop) (m : M Unit) (ps : List Piece) : Prop :=
  ∀ s, P s → ∃ s', m s = .ok ((), ps, s') ∧ Q s'

/-- `Runs` for a walk that returns a value -/
def RunsV {α : Type} (P Q : St → Prop) (m : M α) (a : α) (ps : List Piece) : Prop :=
  ∀ s, P s → ∃ s', m s = .ok (a, ps, s') ∧ Q s'

theorem RunsV.bindV {α β : Type} {P Q R : St → Prop} {m : M α} {k : α → M β} {a : α} {b : β} {ps qs : List Piece}
    (hm : RunsV P Q m a ps) (hk : RunsV Q R (k a) b qs) : RunsV P R (m >>= k) b (ps ++ qs) := by
  intro s hs
  obtain ⟨s1, h1, hs1⟩ := hm s hs
  obtain ⟨s2, h2, hs2⟩ := hk s1 hs1
  exact ⟨s2, by simp [Bind.bind, M.bind, h1, h2], hs2⟩

theorem Runs.seq {P Q R : St → Prop} {m k : M Unit} {ps qs : List Piece} (hm : Runs P Q m ps) (hk : Runs Q R k qs) :
    Runs P R (m >>= fun _ => k) (ps ++ qs) := RunsV.bindV hm hk

theorem RunsV.bind {α : Type} {P Q R : St → Prop} {m : M α} {k : α → M Unit} {a : α} {ps qs : List Piece}
    (hm : RunsV P Q m a ps) (hk : Runs Q R (k a) qs) : Runs P R (m >>= k) (ps ++ qs) := RunsV.bindV hm hk

theorem RunsV.seq {β : Type} {P Q R : St → Prop} {m : M Unit} {k : M β} {b : β} {ps qs : List Piece}
    (hm : Runs P Q m ps) (hk : RunsV Q R k b qs) : RunsV P R (m >>= fun _ => k) b (ps ++ qs) := RunsV.bindV hm hk

theorem Runs.cast {P Q : St → Prop} {m : M Unit} {ps qs : List Piece} (h : Runs P Q m ps) (e : ps = qs) :
    Runs P Q m qs := e ▸ h

theorem Runs.pure {P : St → Prop} : Runs P P (pure ()) [] := fun s hs => ⟨s, rfl, hs⟩
theorem Runs.emits {P : St → Prop} (ps : List Piece) : Runs P P (emits ps) ps := fun s hs => ⟨s, rfl, hs⟩
theorem Runs.emit {P : St → Prop} (p : Piece) : Runs P P (emit p) [p] := fun s hs => ⟨s, rfl, hs⟩
theorem Runs.fx {P : St → Prop} (t : Bytes) : Runs P P (fx t) [.fixed t] := fun s hs => ⟨s, rfl, hs⟩
theorem Runs.nl {P : St → Prop} : Runs P P nl [.fixed [10]] := fun s hs => ⟨s, rfl, hs⟩

theorem Runs.modify {P Q : St → Prop} {f : St → St} (h : ∀ s, P s → Q (f s)) : Runs P Q (JsGen.modify f) [] :=
  fun s hs => ⟨f s, rfl, h s hs⟩

theorem Runs.whenM {P : St → Prop} {m : M Unit} {ps : List Piece} (c : Bool) (h : Runs P P m ps) :
    Runs P P (whenM c m) (if c then ps else []) := by
  cases c
  · exact Runs.pure
  · exact h

/-- what the walk of a block of commands keeps fixed, and the scope it is in -/
def At (ind : Nat) (buf : Bytes) (ae : Autoescape) (sc : Scope) (s : St) : Prop :=
  s.indent = ind ∧ s.bufferName = buf ∧ s.autoescape = ae ∧ s.scope = sc

section
variable {ind : Nat} {buf : Bytes} {ae : Autoescape} {sc : Scope}

theorem Runs.indentP : Runs (At ind buf ae sc) (At ind buf ae sc) indentP [.fixed (spaces ind)] := by
  intro s hs
  exact ⟨s, by simp [JsGen.indentP, hs.1], hs⟩

theorem Runs.incIndent : Runs (At ind buf ae sc) (At (ind + 1) buf ae sc) incIndent [] :=
  Runs.modify fun _ hs => ⟨by simp [hs.1], hs.2.1, hs.2.2.1, hs.2.2.2⟩

theorem Runs.decIndent : Runs (At (ind + 1) buf ae sc) (At ind buf ae sc) decIndent [] :=
  Runs.modify fun _ hs => ⟨by simp [hs.1], hs.2.1, hs.2.2.1, hs.2.2.2⟩

theorem Runs.atOther : Runs (At ind buf ae sc) (At ind buf ae sc) atOther [] :=
  Runs.modify fun _ hs => ⟨hs.1, hs.2.1, hs.2.2.1, hs.2.2.2⟩

theorem Runs.pushScope : Runs (At ind buf ae sc) (At ind buf ae sc.push) pushScope [] :=
  Runs.modify fun _ hs => ⟨hs.1, hs.2.1, hs.2.2.1, by simp [hs.2.2.2]⟩

theorem Runs.popScope : Runs (At ind buf ae sc) (At ind buf ae sc.pop) popScope [] :=
  Runs.modify fun _ hs => ⟨hs.1, hs.2.1, hs.2.2.1, by simp [hs.2.2.2]⟩

theorem Runs.setScope (sc' : Scope) : Runs (At ind buf ae sc) (At ind buf ae sc') (setScope sc') [] :=
  Runs.modify fun _ hs => ⟨hs.1, hs.2.1, hs.2.2.1, rfl⟩

theorem Runs.expr {m : M Unit} {ps : List Piece} (h : RunsSc sc m ps) : Runs (At ind buf ae sc) (At ind buf ae sc) m ps := by
  intro s hs
  obtain ⟨s', h', hsc, e⟩ := h s hs.2.2.2
  exact ⟨s', h', e.1.trans hs.1, e.2.2.1.trans hs.2.1, e.2.2.2.1.trans hs.2.2.1, hsc⟩

theorem RunsV.getBuf {β : Type} {Q : St → Prop} {k : Bytes → M β} {b : β} {ps : List Piece}
    (h : RunsV (At ind buf ae sc) Q (k buf) b ps) : RunsV (At ind buf ae sc) Q (getBuf >>= k) b ps := by
  intro s hs
  obtain ⟨s', h', hq⟩ := h s hs
  refine ⟨s', ?_, hq⟩
  simp only [Bind.bind, M.bind, JsGen.getBuf, hs.2.1, h', List.nil_append]

theorem RunsV.getScope {β : Type} {Q : St → Prop} {k : Scope → M β} {b : β} {ps : List Piece}
    (h : RunsV (At ind buf ae sc) Q (k sc) b ps) : RunsV (At ind buf ae sc) Q (getScope >>= k) b ps := by
  intro s hs
  obtain ⟨s', h', hq⟩ := h s hs
  refine ⟨s', ?_, hq⟩
  simp only [Bind.bind, M.bind, JsGen.getScope, hs.2.2.2, h', List.nil_append]

/-- `s.block(e)`: the text is the value; nothing is written -/
theorem RunsV.block {m : M Unit} {ps : List Piece} (hm : RunsSc sc m ps) :
    RunsV (At ind buf ae sc) (At ind buf ae sc) (block m) ps [] := by
  intro s hs
  obtain ⟨s1, h1, _, _⟩ := hm s hs.2.2.2
  exact ⟨{ s with funcsCalled := s1.funcsCalled }, by simp only [JsGen.block, h1], hs.1, hs.2.1, hs.2.2.1, hs.2.2.2⟩

theorem Runs.getBuf {Q : St → Prop} {k : Bytes → M Unit} {ps : List Piece} (h : Runs (At ind buf ae sc) Q (k buf) ps) :
    Runs (At ind buf ae sc) Q (getBuf >>= k) ps := RunsV.getBuf h

theorem Runs.getScope {Q : St → Prop} {k : Scope → M Unit} {ps : List Piece} (h : Runs (At ind buf ae sc) Q (k sc) ps) :
    Runs (At ind buf ae sc) Q (getScope >>= k) ps := RunsV.getScope h

theorem Runs.block {Q : St → Prop} {m : M Unit} {k : List Piece → M Unit} {ps qs : List Piece} (hm : RunsSc sc m ps)
    (h : Runs (At ind buf ae sc) Q (k ps) qs) : Runs (At ind buf ae sc) Q (block m >>= k) qs :=
  RunsV.bindV (RunsV.block hm) h

theorem writeRawText_runs (es6 : Bool) (t : Bytes) :
    Runs (At ind buf ae sc) (At ind buf ae sc) (writeRawText t) (renderStmt es6 ind (.appendLit buf t)) := by
  unfold writeRawText
  exact (Runs.seq Runs.indentP (Runs.getBuf (Runs.seq (Runs.emit _) (Runs.seq (Runs.fx _) (Runs.seq (Runs.emit _) (Runs.fx _)))))).cast
    (by simp [renderStmt])

end

section
variable (sk : List Bytes → List Bytes) (o : Options) [GlobalsAre o]
variable {ind : Nat} {buf : Bytes} {ae : Autoescape} {sc : Scope}

theorem Runs.getSt {Q : St → Prop} {k : St → M Unit} {ps : List Piece}
    (h : ∀ s0, At ind buf ae sc s0 → Runs (At ind buf ae sc) Q (k s0) ps) : Runs (At ind buf ae sc) Q (getSt >>= k) ps := by
  intro s hs
  obtain ⟨s', h', hq⟩ := h s hs s hs
  refine ⟨s', ?_, hq⟩
  simp only [Bind.bind, M.bind, JsGen.getSt, h', List.nil_append]

theorem Runs.seqM {α : Type} {P : St → Prop} (f : α → M Unit) (g : α → List Piece) :
    ∀ (l : List α), (∀ x ∈ l, Runs P P (f x) (g x)) → Runs P P (seqM (l.map f)) (l.flatMap g)
  | [], _ => Runs.pure
  | x :: r, h => by
    have h1 := h x (by simp)
    have h2 := Runs.seqM f g r (fun y hy => h y (by simp [hy]))
    exact (Runs.seq h1 h2).cast (by simp)

theorem Runs.addCalled (k : Bytes) (v : List Piece) : Runs (At ind buf ae sc) (At ind buf ae sc) (addCalled k v) [] :=
  Runs.modify fun _ hs => ⟨hs.1, hs.2.1, hs.2.2.1, hs.2.2.2⟩

theorem closeDirective_runs (d : Directive) (hd : d.args.all (fun a => (litAst a).isSome) = true) :
    Runs (At ind buf ae sc) (At ind buf ae sc) (closeDirective sk o d) (closePieces d) := by
  unfold closeDirective closePieces
  have h1 : Runs (At ind buf ae sc) (At ind buf ae sc)
      (JsGen.seqM (d.args.map fun a => do fx b!","; walkExpr sk o a)) (d.args.flatMap argPieces) := by
    apply Runs.seqM
    intro a ha
    have hl := List.all_eq_true.mp hd a ha
    cases hj : litAst a with
    | none => simp [hj] at hl
    | some j =>
      have := walkExpr_renders sk o sc a j (toAst_lit sc a j hj)
      exact (Runs.seq (Runs.fx _) (Runs.expr this)).cast (by simp [argPieces, hj])
  exact (Runs.seq h1 (Runs.seq (Runs.whenM _ (Runs.fx _)) (Runs.fx _))).cast (by simp)

theorem print_runs (p : Nat) (arg : Expr) (dirs : List Directive) (j : JsExpr) (ck : Bool × List Directive)
    (hok : dirs.all dirOk = true) (hj : toAst sc arg = some j) (hc : collectDirs dirs = some ck) :
    Runs (At ind buf ae sc) (At ind buf ae sc) (walkCmd sk o (.print p arg dirs))
      (renderStmts (isEs6 o) ind (.one (.append buf j (printDirs ae ck.1 ck.2)))) := by
  sunfold walkCmd
  refine (Runs.seq Runs.atOther ?_).cast (List.nil_append _)
  unfold visitPrint
  refine Runs.getSt ?_
  intro s0 hs0
  obtain ⟨cancel, kept⟩ := ck
  simp only [hc, hs0.2.1, hs0.2.2.1]
  have hargs : ∀ d ∈ printDirs ae cancel kept, d.args.all (fun a => (litAst a).isSome) = true := by
    intro d hd
    rcases SoyVerif.Lemmas.JsGenSafe.printDirs_mem hd with h | h
    · simp [h]
    · have := List.all_eq_true.mp hok d (SoyVerif.Lemmas.JsGenSafe.collectDirs_sub dirs cancel kept hc d h)
      simp only [dirOk, Bool.and_eq_true] at this
      exact this.1
  have h1 : Runs (At ind buf ae sc) (At ind buf ae sc)
      (JsGen.whenM (isEs6 o) (JsGen.seqM (kept.map fun d => addCalled d.name (tableImport (directiveJsName d.name))))) [] := by
    have h0 : Runs (At ind buf ae sc) (At ind buf ae sc)
        (JsGen.seqM (kept.map fun d => addCalled d.name (tableImport (directiveJsName d.name)))) (kept.flatMap fun _ => []) :=
      Runs.seqM _ _ kept (fun d _ => Runs.addCalled _ _)
    have h0' : Runs (At ind buf ae sc) (At ind buf ae sc)
        (JsGen.seqM (kept.map fun d => addCalled d.name (tableImport (directiveJsName d.name)))) [] := h0.cast (by simp)
    exact (Runs.whenM _ h0').cast (by simp)
  have h2 : Runs (At ind buf ae sc) (At ind buf ae sc)
      (JsGen.seqM ((printDirs ae cancel kept).reverse.map fun d => do fx (directiveJsName d.name); fx b!"("))
      ((printDirs ae cancel kept).reverse.flatMap openPieces) :=
    Runs.seqM _ _ _ (fun d _ => Runs.seq (Runs.fx _) (Runs.fx _))
  have h3 : Runs (At ind buf ae sc) (At ind buf ae sc)
      (JsGen.seqM ((printDirs ae cancel kept).map (closeDirective sk o)))
      ((printDirs ae cancel kept).flatMap closePieces) :=
    Runs.seqM _ _ _ (fun d hd => closeDirective_runs sk o d (hargs d hd))
  have h4 := walkExpr_renders sk o sc arg j hj
  exact (Runs.seq h1 (Runs.seq Runs.indentP (Runs.seq (Runs.emit _) (Runs.seq (Runs.fx _) (Runs.seq h2
    (Runs.seq (Runs.expr h4) (Runs.seq h3 (Runs.fx _)))))))).cast (by simp [renderStmts_one, renderStmt])

end

theorem Runs.whenFalse {P : St → Prop} {m : M Unit} : Runs P P (JsGen.whenM false m) [] := Runs.pure
theorem Runs.whenTrue {P Q : St → Prop} {m : M Unit} {ps : List Piece} (h : Runs P Q m ps) : Runs P Q (JsGen.whenM true m) ps := h

theorem forcJoin_some {v : Bytes} {list : Expr} {sc : Scope} {rb : Option (JsStmts × Scope)}
    {ie : Option (Scope → Option (JsStmts × Scope))} {r : JsStmts × Scope} (h : forcJoin v list sc rb ie = some r) :
    v.contains 36 = false ∧ isRangeCall list = none ∧ ∃ j rbv, toAst sc list = some j ∧ rb = some rbv ∧
      (match ie with
        | none => r = (foreachStmts (sc.pushForEach v).1 j rbv.1 none, rbv.2.pop)
        | some f => ∃ re, f rbv.2.pop = some re ∧ r = (foreachStmts (sc.pushForEach v).1 j rbv.1 (some re.1), re.2)) := by
  unfold forcJoin at h
  split at h
  · cases h
  · rename_i hc
    simp only [Bool.or_eq_true, not_or, Bool.not_eq_true, Option.isSome_eq_false_iff, Option.isNone_iff_eq_none] at hc
    refine ⟨hc.1, hc.2, ?_⟩
    split at h
    · refine ⟨_, _, ‹_›, rfl, ?_⟩
      split at h
      · exact (Option.some.inj h).symm
      · split at h
        · cases h
        · exact ⟨_, ‹_›, (Option.some.inj h).symm⟩
    · cases h

theorem loopJoin_some {v : Bytes} {list : Expr} {sc : Scope} {rbEach rbRange : Option (JsStmts × Scope)}
    {r : JsStmts × Scope} (h : loopJoin v list sc rbEach none rbRange = some r) :
    forcJoin v list sc rbEach none = some r ∨ rangeJoin v list sc rbRange true = some r := by
  unfold loopJoin at h
  split at h
  · rename_i r' hf
    simp only [Option.some.injEq] at h
    subst h
    exact Or.inl hf
  · exact Or.inr h

theorem loopJoin_ie_some {v : Bytes} {list : Expr} {sc : Scope} {rbEach rbRange : Option (JsStmts × Scope)}
    {f : Scope → Option (JsStmts × Scope)} {r : JsStmts × Scope} (h : loopJoin v list sc rbEach (some f) rbRange = some r) :
    forcJoin v list sc rbEach (some f) = some r ∨
      ∃ r0 re, rangeJoin v list sc rbRange true = some r0 ∧ f r0.2 = some re ∧
        r = (r0.1.append (.one (.ifZero (sc.pushForRange v).1.2.2.2 re.1)), re.2) := by
  unfold loopJoin at h
  split at h
  · exact Or.inl (h ▸ ‹_›)
  · simp only [rangeIeJoin] at h
    split at h
    · cases h
    · split at h
      · exact Or.inr ⟨_, _, ‹_›, ‹_›, (Option.some.inj h).symm⟩
      · cases h

theorem isRangeCall_some {list : Expr} {args : ExprList} (h : isRangeCall list = some args) :
    ∃ p, list = .func p b!"range" args := by
  cases list <;> simp [isRangeCall] at h
  rename_i p name a
  obtain ⟨hn, rfl⟩ := h
  exact ⟨p, by rw [hn]⟩

/-- what a successful `rangeJoin` consists of (`c`: the step, a positive literal; `rbv`: the translated body) -/
structure RangeTr (v : Bytes) (list : Expr) (sc : Scope) (rb : Option (JsStmts × Scope)) (r : JsStmts × Scope)
    (args : ExprList) (l : Expr) (c : Int) (jl ji : JsExpr) (rbv : JsStmts × Scope) (p : Nat) : Prop where
  var : v.contains 36 = false
  call : isRangeCall list = some args
  limit : rangeLimit args = some l
  step : rangeIncr args = .int p c
  stepPos : 0 < c
  limitAst : toAst sc l = some jl
  initAst : toAst sc (rangeInit args) = some ji
  body : rb = some rbv
  result : r = (rangeStmts (sc.pushForRange v).1 jl ji (.num c) rbv.1, rbv.2.pop)

theorem rangeJoin_some {v : Bytes} {list : Expr} {sc : Scope} {rb : Option (JsStmts × Scope)} {noIE : Bool}
    {r : JsStmts × Scope} (h : rangeJoin v list sc rb noIE = some r) :
    ∃ args l c jl ji rbv p, RangeTr v list sc rb r args l c jl ji rbv p := by
  unfold rangeJoin at h
  split at h
  · cases h
  · rename_i hc
    simp only [Bool.or_eq_true, not_or, Bool.not_eq_true, Bool.not_eq_eq_eq_not, Bool.not_false] at hc
    cases ha : isRangeCall list with
    | none => simp [ha] at h
    | some args =>
      simp only [ha] at h
      cases hl : rangeLimit args with
      | none => simp [hl] at h
      | some l =>
        simp only [hl] at h
        split at h
        · rename_i hpos
          cases hinc : rangeIncr args <;> simp [hinc, posLit] at hpos
          rename_i p c
          cases hjl : toAst sc l with
          | none => simp [hjl] at h
          | some jl =>
            cases hji : toAst sc (rangeInit args) with
            | none => simp [hjl, hji] at h
            | some ji =>
              cases rb with
              | none => simp [hjl, hji, hinc, toAst] at h
              | some rbv =>
                simp only [hjl, hji, hinc, toAst, Option.some.injEq] at h
                exact ⟨args, l, c, jl, ji, rbv, p, hc.1, ha, hl, hinc, hpos, hjl, hji, rfl, h.symm⟩
        · cases h

theorem letJoin_some {name : Bytes} {sc : Scope} {rb : Option (JsStmts × Scope)} {r : JsStmts × Scope}
    (h : letJoin name sc rb = some r) : name.contains 36 = false ∧ ∃ rbv, rb = some rbv ∧
      r = (.cons (.varEmpty (sc.genname name).1) rbv.1, rbv.2.bind name (sc.genname name).1) := by
  unfold letJoin at h
  split at h
  · cases h
  · rename_i hc
    split at h
    · exact ⟨by simpa using hc, _, rfl, (Option.some.inj h).symm⟩
    · cases h

theorem caseJoin_some {sc : Scope} {values : List Expr} {rb : Option (JsStmts × Scope)} {last : Bool}
    {rest : Scope → Option (JsCases × Scope)} {r : JsCases × Scope} (h : caseJoin sc values rb last rest = some r) :
    ∃ rbv, rb = some rbv ∧
      ((values = [] ∧ last = true ∧ r = (.dflt rbv.1, rbv.2)) ∨
       (values ≠ [] ∧ ∃ js rr, astList sc values = some js ∧ rest rbv.2 = some rr ∧ r = (.cons js rbv.1 rr.1, rr.2))) := by
  unfold caseJoin at h
  split at h
  · cases h
  · refine ⟨_, rfl, ?_⟩
    split at h
    · rename_i hv
      split at h
      · exact Or.inl ⟨by simpa using hv, ‹_›, (Option.some.inj h).symm⟩
      · cases h
    · rename_i hv
      split at h
      · exact Or.inr ⟨by simpa using hv, _, _, ‹_›, ‹_›, (Option.some.inj h).symm⟩
      · cases h

theorem astList_cons_some {sc : Scope} {e : Expr} {r : List Expr} {js : List JsExpr} (h : astList sc (e :: r) = some js) :
    ∃ j jr, toAst sc e = some j ∧ astList sc r = some jr ∧ js = j :: jr := by
  unfold astList at h
  split at h
  · exact ⟨_, _, ‹_›, ‹_›, (Option.some.inj h).symm⟩
  · cases h

section
variable (sk : List Bytes → List Bytes) (o : Options) [GlobalsAre o]
variable {ind : Nat} {buf : Bytes} {ae : Autoescape} {sc : Scope}

theorem forc_none_runs (p : Nat) (v : Bytes) (list : Expr) (body : Block) (j : JsExpr) (rb : JsStmts × Scope)
    (hr : isRangeCall list = none) (hj : toAst sc list = some j)
    (hb : Runs (At (ind + 1) buf ae (sc.pushForEach v).2) (At (ind + 1) buf ae rb.2) (walkBody sk o body)
      (renderStmts (isEs6 o) (ind + 1) rb.1)) :
    Runs (At ind buf ae sc) (At ind buf ae rb.2.pop) (walkCmd sk o (.forc p v list body none))
      (renderStmts (isEs6 o) ind (foreachStmts (sc.pushForEach v).1 j rb.1 none)) := by
  sunfold walkCmd
  mred
  rw [hr]
  mred
  refine (Runs.seq Runs.atOther (Runs.block (walkExpr_renders sk o sc list j hj) (Runs.getScope ?_))).cast (List.nil_append _)
  dsimp only
  exact (
    -- setScope (sc.pushForEach v).2
    Runs.seq (Runs.setScope _) <|
    -- indentP; fx "var "; emit itemList; fx " = "; emits listJs; fx ";"; nl
    Runs.seq Runs.indentP <| Runs.seq (Runs.fx _) <| Runs.seq (Runs.emit _) <| Runs.seq (Runs.fx _) <| Runs.seq (Runs.emits _) <|
      Runs.seq (Runs.fx _) <| Runs.seq Runs.nl <|
    -- indentP; fx "var "; emit itemListLen; fx " = "; emit itemList; fx ".length;"; nl
    Runs.seq Runs.indentP <| Runs.seq (Runs.fx _) <| Runs.seq (Runs.emit _) <| Runs.seq (Runs.fx _) <| Runs.seq (Runs.emit _) <|
      Runs.seq (Runs.fx _) <| Runs.seq Runs.nl <|
    -- whenM ifEmpty.isSome …: there is no {ifempty}
    Runs.seq Runs.whenFalse <|
    -- indentP; fx "for (var "; emit itemIndex; fx " = 0; "; emit itemIndex; fx " < "; emit itemListLen; fx "; "; emit itemIndex; fx "++) {"; nl
    Runs.seq Runs.indentP <| Runs.seq (Runs.fx _) <| Runs.seq (Runs.emit _) <| Runs.seq (Runs.fx _) <| Runs.seq (Runs.emit _) <|
      Runs.seq (Runs.fx _) <| Runs.seq (Runs.emit _) <| Runs.seq (Runs.fx _) <| Runs.seq (Runs.emit _) <| Runs.seq (Runs.fx _) <|
      Runs.seq Runs.nl <|
    Runs.seq Runs.incIndent <|
    -- indentP; fx "var "; emit itemData; fx " = "; emit itemList; fx "["; emit itemIndex; fx "];"; nl
    Runs.seq Runs.indentP <| Runs.seq (Runs.fx _) <| Runs.seq (Runs.emit _) <| Runs.seq (Runs.fx _) <| Runs.seq (Runs.emit _) <|
      Runs.seq (Runs.fx _) <| Runs.seq (Runs.emit _) <| Runs.seq (Runs.fx _) <| Runs.seq Runs.nl <|
    -- walkBody body
    Runs.seq hb <|
    Runs.seq Runs.decIndent <|
    -- indentP; fx "}"; nl
    Runs.seq Runs.indentP <| Runs.seq (Runs.fx _) <| Runs.seq Runs.nl <|
    -- popScope; match ifEmpty with | none => pure ()
    Runs.seq Runs.popScope <| Runs.pure).cast
    (by simp [foreachStmts, renderStmts, renderStmt, JsStmts.one])

theorem forc_some_runs (p : Nat) (v : Bytes) (list : Expr) (body ie : Block) (j : JsExpr) (rb re : JsStmts × Scope)
    (hr : isRangeCall list = none) (hj : toAst sc list = some j)
    (hb : Runs (At (ind + 1 + 1) buf ae (sc.pushForEach v).2) (At (ind + 1 + 1) buf ae rb.2) (walkBody sk o body)
      (renderStmts (isEs6 o) (ind + 1 + 1) rb.1))
    (hie : Runs (At (ind + 1) buf ae rb.2.pop) (At (ind + 1) buf ae re.2) (walkBlock sk o ie) (renderStmts (isEs6 o) (ind + 1) re.1)) :
    Runs (At ind buf ae sc) (At ind buf ae re.2) (walkCmd sk o (.forc p v list body (some ie)))
      (renderStmts (isEs6 o) ind (foreachStmts (sc.pushForEach v).1 j rb.1 (some re.1))) := by
  sunfold walkCmd
  mred
  rw [hr]
  mred
  refine (Runs.seq Runs.atOther (Runs.block (walkExpr_renders sk o sc list j hj) (Runs.getScope ?_))).cast (List.nil_append _)
  dsimp only
  exact (
    -- setScope (sc.pushForEach v).2
    Runs.seq (Runs.setScope _) <|
    -- indentP; fx "var "; emit itemList; fx " = "; emits listJs; fx ";"; nl
    Runs.seq Runs.indentP <| Runs.seq (Runs.fx _) <| Runs.seq (Runs.emit _) <| Runs.seq (Runs.fx _) <| Runs.seq (Runs.emits _) <|
      Runs.seq (Runs.fx _) <| Runs.seq Runs.nl <|
    -- indentP; fx "var "; emit itemListLen; fx " = "; emit itemList; fx ".length;"; nl
    Runs.seq Runs.indentP <| Runs.seq (Runs.fx _) <| Runs.seq (Runs.emit _) <| Runs.seq (Runs.fx _) <| Runs.seq (Runs.emit _) <|
      Runs.seq (Runs.fx _) <| Runs.seq Runs.nl <|
    -- whenM ifEmpty.isSome (indentP; fx "if ("; emit itemListLen; fx " > 0) {"; nl; incIndent)
    Runs.seq (Runs.whenTrue <| Runs.seq Runs.indentP <| Runs.seq (Runs.fx _) <| Runs.seq (Runs.emit _) <| Runs.seq (Runs.fx _) <|
      Runs.seq Runs.nl <| Runs.incIndent) <|
    -- indentP; fx "for (var "; emit itemIndex; fx " = 0; "; emit itemIndex; fx " < "; emit itemListLen; fx "; "; emit itemIndex; fx "++) {"; nl
    Runs.seq Runs.indentP <| Runs.seq (Runs.fx _) <| Runs.seq (Runs.emit _) <| Runs.seq (Runs.fx _) <| Runs.seq (Runs.emit _) <|
      Runs.seq (Runs.fx _) <| Runs.seq (Runs.emit _) <| Runs.seq (Runs.fx _) <| Runs.seq (Runs.emit _) <| Runs.seq (Runs.fx _) <|
      Runs.seq Runs.nl <|
    Runs.seq Runs.incIndent <|
    -- indentP; fx "var "; emit itemData; fx " = "; emit itemList; fx "["; emit itemIndex; fx "];"; nl
    Runs.seq Runs.indentP <| Runs.seq (Runs.fx _) <| Runs.seq (Runs.emit _) <| Runs.seq (Runs.fx _) <| Runs.seq (Runs.emit _) <|
      Runs.seq (Runs.fx _) <| Runs.seq (Runs.emit _) <| Runs.seq (Runs.fx _) <| Runs.seq Runs.nl <|
    -- walkBody body
    Runs.seq hb <|
    Runs.seq Runs.decIndent <|
    -- indentP; fx "}"; nl
    Runs.seq Runs.indentP <| Runs.seq (Runs.fx _) <| Runs.seq Runs.nl <|
    Runs.seq Runs.popScope <|
    -- the {ifempty} block: decIndent
    Runs.seq Runs.decIndent <|
    -- indentP; fx "} else {"; nl
    Runs.seq Runs.indentP <| Runs.seq (Runs.fx _) <| Runs.seq Runs.nl <|
    Runs.seq Runs.incIndent <|
    -- walkBlock ie
    Runs.seq hie <|
    Runs.seq Runs.decIndent <|
    -- indentP; fx "}"; nl
    Runs.seq Runs.indentP <| Runs.seq (Runs.fx _) <| Runs.nl).cast
    (by simp [foreachStmts, renderStmts, renderStmt, JsStmts.one])

theorem forc_range_runs (p : Nat) (v : Bytes) (list : Expr) (body : Block) (args : ExprList) (l : Expr)
    (jl ji jc : JsExpr) (rb : JsStmts × Scope) (hr : isRangeCall list = some args) (hl : rangeLimit args = some l)
    (hjl : toAst sc l = some jl) (hji : toAst sc (rangeInit args) = some ji) (hjc : toAst sc (rangeIncr args) = some jc)
    (hb : Runs (At (ind + 1) buf ae (sc.pushForRange v).2) (At (ind + 1) buf ae rb.2) (walkBody sk o body)
      (renderStmts (isEs6 o) (ind + 1) rb.1)) :
    Runs (At ind buf ae sc) (At ind buf ae rb.2.pop) (walkCmd sk o (.forc p v list body none))
      (renderStmts (isEs6 o) ind (rangeStmts (sc.pushForRange v).1 jl ji jc rb.1)) := by
  sunfold walkCmd
  mred
  rw [hr]
  mred
  dsimp only
  rw [hl]
  mred
  refine (Runs.seq Runs.atOther (Runs.block (walkExpr_renders sk o sc l jl hjl)
    (Runs.block (walkExpr_renders sk o sc _ ji hji) (Runs.block (walkExpr_renders sk o sc _ jc hjc)
      (Runs.getScope ?_))))).cast (List.nil_append _)
  exact (
    -- setScope (sc.pushForRange v).2
    Runs.seq (Runs.setScope _) <|
    -- indentP; fx "var "; emit varLimit; fx " = "; emits limitJs; fx ";"; nl
    Runs.seq Runs.indentP <| Runs.seq (Runs.fx _) <| Runs.seq (Runs.emit _) <| Runs.seq (Runs.fx _) <| Runs.seq (Runs.emits _) <|
      Runs.seq (Runs.fx _) <| Runs.seq Runs.nl <|
    -- indentP; fx "var "; emit varStep; fx " = "; emits incrJs; fx ";"; nl
    Runs.seq Runs.indentP <| Runs.seq (Runs.fx _) <| Runs.seq (Runs.emit _) <| Runs.seq (Runs.fx _) <| Runs.seq (Runs.emits _) <|
      Runs.seq (Runs.fx _) <| Runs.seq Runs.nl <|
    -- indentP; fx "for (var "; emit varName; fx " = "; emits initJs; fx ", "
    Runs.seq Runs.indentP <| Runs.seq (Runs.fx _) <| Runs.seq (Runs.emit _) <| Runs.seq (Runs.fx _) <| Runs.seq (Runs.emits _) <|
      Runs.seq (Runs.fx _) <|
    -- emit varIndex; fx " = 0; "
    Runs.seq (Runs.emit _) <| Runs.seq (Runs.fx _) <|
    -- emit varName; fx " < "; emit varLimit; fx "; "
    Runs.seq (Runs.emit _) <| Runs.seq (Runs.fx _) <| Runs.seq (Runs.emit _) <| Runs.seq (Runs.fx _) <|
    -- emit varName; fx " += "; emit varStep; fx ", "; emit varIndex; fx "++) {"; nl
    Runs.seq (Runs.emit _) <| Runs.seq (Runs.fx _) <| Runs.seq (Runs.emit _) <| Runs.seq (Runs.fx _) <| Runs.seq (Runs.emit _) <|
      Runs.seq (Runs.fx _) <| Runs.seq Runs.nl <|
    Runs.seq Runs.incIndent <|
    -- walkBody body
    Runs.seq hb <|
    Runs.seq Runs.decIndent <|
    -- indentP; fx "}"; nl
    Runs.seq Runs.indentP <| Runs.seq (Runs.fx _) <| Runs.seq Runs.nl <|
    -- popScope (no {ifempty})
    Runs.popScope).cast
    (by simp [rangeStmts, renderStmts, renderStmt, JsStmts.one])

theorem forc_range_some_runs (p : Nat) (v : Bytes) (list : Expr) (body ie : Block) (args : ExprList) (l : Expr)
    (jl ji jc : JsExpr) (rb re : JsStmts × Scope) (hr : isRangeCall list = some args) (hl : rangeLimit args = some l)
    (hjl : toAst sc l = some jl) (hji : toAst sc (rangeInit args) = some ji) (hjc : toAst sc (rangeIncr args) = some jc)
    (hb : Runs (At (ind + 1) buf ae (sc.pushForRange v).2) (At (ind + 1) buf ae rb.2) (walkBody sk o body)
      (renderStmts (isEs6 o) (ind + 1) rb.1))
    (hie : Runs (At (ind + 1) buf ae rb.2.pop) (At (ind + 1) buf ae re.2) (walkBlock sk o ie) (renderStmts (isEs6 o) (ind + 1) re.1)) :
    Runs (At ind buf ae sc) (At ind buf ae re.2) (walkCmd sk o (.forc p v list body (some ie)))
      (renderStmts (isEs6 o) ind ((rangeStmts (sc.pushForRange v).1 jl ji jc rb.1).append
        (.one (.ifZero (sc.pushForRange v).1.2.2.2 re.1)))) := by
  sunfold walkCmd
  mred
  rw [hr]
  mred
  dsimp only
  rw [hl]
  mred
  refine (Runs.seq Runs.atOther (Runs.block (walkExpr_renders sk o sc l jl hjl)
    (Runs.block (walkExpr_renders sk o sc _ ji hji) (Runs.block (walkExpr_renders sk o sc _ jc hjc)
      (Runs.getScope ?_))))).cast (List.nil_append _)
  exact (
    -- setScope (sc.pushForRange v).2
    Runs.seq (Runs.setScope _) <|
    -- indentP; fx "var "; emit varLimit; fx " = "; emits limitJs; fx ";"; nl
    Runs.seq Runs.indentP <| Runs.seq (Runs.fx _) <| Runs.seq (Runs.emit _) <| Runs.seq (Runs.fx _) <| Runs.seq (Runs.emits _) <|
      Runs.seq (Runs.fx _) <| Runs.seq Runs.nl <|
    -- indentP; fx "var "; emit varStep; fx " = "; emits incrJs; fx ";"; nl
    Runs.seq Runs.indentP <| Runs.seq (Runs.fx _) <| Runs.seq (Runs.emit _) <| Runs.seq (Runs.fx _) <| Runs.seq (Runs.emits _) <|
      Runs.seq (Runs.fx _) <| Runs.seq Runs.nl <|
    -- indentP; fx "for (var "; emit varName; fx " = "; emits initJs; fx ", "
    Runs.seq Runs.indentP <| Runs.seq (Runs.fx _) <| Runs.seq (Runs.emit _) <| Runs.seq (Runs.fx _) <| Runs.seq (Runs.emits _) <|
      Runs.seq (Runs.fx _) <|
    -- emit varIndex; fx " = 0; "
    Runs.seq (Runs.emit _) <| Runs.seq (Runs.fx _) <|
    -- emit varName; fx " < "; emit varLimit; fx "; "
    Runs.seq (Runs.emit _) <| Runs.seq (Runs.fx _) <| Runs.seq (Runs.emit _) <| Runs.seq (Runs.fx _) <|
    -- emit varName; fx " += "; emit varStep; fx ", "; emit varIndex; fx "++) {"; nl
    Runs.seq (Runs.emit _) <| Runs.seq (Runs.fx _) <| Runs.seq (Runs.emit _) <| Runs.seq (Runs.fx _) <| Runs.seq (Runs.emit _) <|
      Runs.seq (Runs.fx _) <| Runs.seq Runs.nl <|
    Runs.seq Runs.incIndent <|
    -- walkBody body
    Runs.seq hb <|
    Runs.seq Runs.decIndent <|
    -- indentP; fx "}"; nl
    Runs.seq Runs.indentP <| Runs.seq (Runs.fx _) <| Runs.seq Runs.nl <|
    Runs.seq Runs.popScope <|
    -- the {ifempty} block: indentP; fx "if ("; emit varIndex; fx " == 0) {"; nl
    Runs.seq Runs.indentP <| Runs.seq (Runs.fx _) <| Runs.seq (Runs.emit _) <| Runs.seq (Runs.fx _) <| Runs.seq Runs.nl <|
    Runs.seq Runs.incIndent <|
    -- walkBlock ie
    Runs.seq hie <|
    Runs.seq Runs.decIndent <|
    -- indentP; fx "}"; nl
    Runs.seq Runs.indentP <| Runs.seq (Runs.fx _) <| Runs.nl).cast
    (by simp [rangeStmts, renderStmts, renderStmt, JsStmts.one, JsStmts.append])

theorem labels_runs : ∀ (values : List Expr) (js : List JsExpr), astList sc values = some js →
    Runs (At ind buf ae sc) (At ind buf ae sc)
      (JsGen.seqM (values.map fun v => do indentP; fx b!"case "; walkExpr sk o v; fx b!":"; nl))
      (js.flatMap fun j => [.fixed (spaces ind), .fixed b!"case "] ++ render j ++ [.fixed b!":", .fixed [10]])
  | [], js, h => by
    simp only [astList, Option.some.injEq] at h; subst h
    exact Runs.pure
  | v :: r, js, h => by
    obtain ⟨j, jr, hj, hr, rfl⟩ := astList_cons_some h
    have h1 := walkExpr_renders sk o sc v j hj
    have h2 := labels_runs r jr hr
    exact (Runs.seq (Runs.seq Runs.indentP (Runs.seq (Runs.fx _) (Runs.seq (Runs.expr h1) (Runs.seq (Runs.fx _) Runs.nl))))
      h2).cast (by simp)

theorem Runs.setBuf (buf' : Bytes) : Runs (At ind buf ae sc) (At ind buf' ae sc) (JsGen.setBuf buf') [] :=
  Runs.modify fun _ hs => ⟨hs.1, rfl, hs.2.2.1, hs.2.2.2⟩

end

theorem RunsV.pure {α : Type} {P : St → Prop} (a : α) : RunsV P P (pure a) a [] := fun s hs => ⟨s, rfl, hs⟩

theorem RunsV.map {α β : Type} {P Q : St → Prop} {m : M α} {a : α} {ps : List Piece} (f : α → β)
    (hm : RunsV P Q m a ps) : RunsV P Q (m >>= fun x => Pure.pure (f x)) (f a) ps := by
  intro s hs
  obtain ⟨s1, h1, hs1⟩ := hm s hs
  exact ⟨s1, by simp [Bind.bind, M.bind, h1, Pure.pure, M.pure], hs1⟩

theorem Runs.pureBind {α : Type} {P Q : St → Prop} {k : α → M Unit} {a : α} {ps : List Piece} (h : Runs P Q (k a) ps) :
    Runs P Q (Pure.pure a >>= k) ps := (SoyVerif.Lemmas.JsGenMonad.pure_bind a k).symm ▸ h

theorem RunsV.cast {α : Type} {P Q : St → Prop} {m : M α} {a a' : α} {ps qs : List Piece} (h : RunsV P Q m a ps)
    (ea : a = a') (e : ps = qs) : RunsV P Q m a' qs := ea ▸ e ▸ h

section
variable (sk : List Bytes → List Bytes) (o : Options) [GlobalsAre o]
variable {ind : Nat} {buf : Bytes} {ae : Autoescape} {sc : Scope}

theorem valueParamJoin_some {key : Bytes} {j : Option JsExpr} {rr : Option (JsStmts × List (Bytes × JsExpr) × Scope)}
    {r : JsStmts × List (Bytes × JsExpr) × Scope} (h : valueParamJoin key j rr = some r) :
    ∃ j' rr', j = some j' ∧ rr = some rr' ∧ r = (rr'.1, (key, j') :: rr'.2.1, rr'.2.2) := by
  cases j <;> cases rr <;> simp [valueParamJoin] at h
  exact ⟨_, _, rfl, rfl, h.symm⟩

theorem contentParamJoin_some {key g : Bytes} {rb : Option (JsStmts × Scope)}
    {rest : Scope → Option (JsStmts × List (Bytes × JsExpr) × Scope)} {r : JsStmts × List (Bytes × JsExpr) × Scope}
    (h : contentParamJoin key g rb rest = some r) :
    ∃ rb' rr, rb = some rb' ∧ rest rb'.2 = some rr ∧
      r = ((JsStmts.cons (.varEmpty g) rb'.1).append rr.1, (key, .local g) :: rr.2.1, rr.2.2) := by
  unfold contentParamJoin at h
  split at h
  · cases h
  · split at h
    · exact ⟨_, _, rfl, ‹_›, (Option.some.inj h).symm⟩
    · cases h

theorem callJoin_some {buf name : Bytes} {base : Option DataBase} {rp : Option (JsStmts × List (Bytes × JsExpr) × Scope)}
    {r : JsStmts × Scope} (h : callJoin buf name base rp = some r) :
    ∃ b rp', base = some b ∧ rp = some rp' ∧ r = (rp'.1.append (.one (.call buf name b rp'.2.1)), rp'.2.2) := by
  cases base <;> cases rp <;> simp [callJoin] at h
  exact ⟨_, _, rfl, rfl, h.symm⟩

theorem call_tail_runs (name : Bytes) (dps : List Piece) :
    Runs (At ind buf ae sc) (At ind buf ae sc)
      (do
        let b ← getBuf
        indentP
        emit (.ident b); fx b!" += "
        emit (if isEs6 o then .es6name name else .qname name)
        fx b!"("; emits dps; fx b!", opt_sb, opt_ijData);"; nl
        whenM (isEs6 o) (addCalled (es6Identifier name) (callImport name)))
      ([.fixed (spaces ind), .ident buf, .fixed b!" += ", if isEs6 o then .es6name name else .qname name, .fixed b!"("] ++
        dps ++ [.fixed b!", opt_sb, opt_ijData);", .fixed [10]]) := by
  exact (Runs.getBuf <|
    -- indentP; emit b; fx " += "; emit the callee's name
    Runs.seq Runs.indentP <| Runs.seq (Runs.emit _) <| Runs.seq (Runs.fx _) <| Runs.seq (Runs.emit _) <|
    -- fx "("; emits dps; fx ", opt_sb, opt_ijData);"; nl
    Runs.seq (Runs.fx _) <| Runs.seq (Runs.emits _) <| Runs.seq (Runs.fx _) <| Runs.seq Runs.nl <|
    -- whenM (isEs6 o) (addCalled …)
    Runs.whenM _ (Runs.addCalled _ _)).cast (by simp)

/-- the first argument of the callee, as `walkCmd` computes it: `{}`, `opt_data`, or the text of the `data=` expression.
    The `match` repeats the one in the `.call` clause of `walkCmd`; it is a matcher of its own, and `exact` identifies the two by
    unfolding both to `Option.casesOn` -/
theorem callData_runs (allData : Bool) (data : Option Expr) (base : DataBase) (hbase : callBase sc allData data = some base) :
    RunsV (At ind buf ae sc) (At ind buf ae sc)
      (match data with
        | some e => block (walkExpr sk o e)
        | none => pure (if allData then [.fixed b!"opt_data"] else [.fixed b!"{}"]))
      (basePieces base) [] := by
  cases data with
  | none => cases allData <;> simp [callBase] at hbase <;> subst hbase <;> exact RunsV.pure _
  | some d =>
    cases allData <;> simp [callBase] at hbase
    obtain ⟨jd, hjd, rfl⟩ := hbase
    exact RunsV.block (walkExpr_renders sk o sc d jd hjd)

theorem call_runs (p : Nat) (name : Bytes) (allData : Bool) (data : Option Expr) (params : ParamList) (base : DataBase)
    (rp : JsStmts × List (Bytes × JsExpr) × Scope) (hbase : callBase sc allData data = some base)
    (htp : toParams ae params sc = some rp)
    (hp : ∀ acc, RunsV (At ind buf ae sc) (At ind buf ae rp.2.2) (visitParams sk o params true acc)
      (acc ++ kvPieces rp.2.1 true) (renderStmts (isEs6 o) ind rp.1)) :
    Runs (At ind buf ae sc) (At ind buf ae rp.2.2) (walkCmd sk o (.call p name allData data params))
      (renderStmts (isEs6 o) ind (rp.1.append (.one (.call buf name base rp.2.1)))) := by
  have hr : renderStmts (isEs6 o) ind (rp.1.append (.one (.call buf name base rp.2.1))) =
      renderStmts (isEs6 o) ind rp.1 ++
        ([.fixed (spaces ind), .ident buf, .fixed b!" += ", if isEs6 o then .es6name name else .qname name, .fixed b!"("] ++
          dataPieces base rp.2.1 ++ [.fixed b!", opt_sb, opt_ijData);", .fixed [10]]) := by
    rw [renderStmts_append, renderStmts_one]; simp [renderStmt]
  rw [hr]
  -- with params the `key: value` list is not empty: the data argument is an `augmentMap`
  have hcons : params ≠ .nil → ∃ kv r, rp.2.1 = kv :: r := by
    intro hne
    cases params with
    | nil => exact absurd rfl hne
    | value p' key e rest =>
      unfold toParams at htp
      obtain ⟨_, _, _, _, hrp⟩ := valueParamJoin_some htp
      exact ⟨_, _, congrArg (·.2.1) hrp⟩
    | content p' key body rest =>
      unfold toParams at htp
      obtain ⟨_, _, _, _, hrp⟩ := contentParamJoin_some htp
      exact ⟨_, _, congrArg (·.2.1) hrp⟩
  have hd := callData_runs sk o (ind := ind) (buf := buf) (ae := ae) allData data base hbase
  -- `walkCmd` matches on `params`: it is unfolded once `params` is a constructor (the trap noted in Lemmas/SUnfold)
  cases params
  case nil =>
    simp only [toParams, Option.some.injEq] at htp; subst htp
    sunfold walkCmd
    mred
    exact (Runs.seq Runs.atOther (RunsV.bind hd (Runs.pureBind (call_tail_runs o name _)))).cast
      (by simp [dataPieces, renderStmts])
  all_goals
    obtain ⟨kv, r, hkv⟩ := hcons (by simp)
    sunfold walkCmd
    mred
    refine (Runs.seq Runs.atOther (RunsV.bind hd (RunsV.bind (RunsV.map (fun acc => acc ++ [.fixed b!"})"]) (hp _))
      (call_tail_runs o name _)))).cast ?_
    rw [hkv]; simp [dataPieces]

end

theorem msgJoin_some {rb : Option (JsStmts × Scope)} {r : JsStmts × Scope} (h : msgJoin rb = some r) :
    ∃ rb', rb = some rb' ∧ r = (rb'.1, rb'.2.pop) := by
  cases rb <;> simp [msgJoin] at h
  exact ⟨_, rfl, h.symm⟩

theorem phJoin_some {r1 : Option (JsStmts × Scope)} {rest : Scope → Option (JsStmts × Scope)} {r : JsStmts × Scope}
    (h : phJoin r1 rest = some r) : ∃ a b, r1 = some a ∧ rest a.2 = some b ∧ r = (a.1.append b.1, b.2) := by
  unfold phJoin at h
  split at h
  · cases h
  · split at h
    · exact ⟨_, _, rfl, ‹_›, (Option.some.inj h).symm⟩
    · cases h

theorem pcaseJoin_some {sc : Scope} {v : Int} {rb : Option (JsStmts × Scope)} {rest : Scope → Option (JsPlural × Scope)}
    {r : JsPlural × Scope} (h : pcaseJoin sc v rb rest = some r) :
    ∃ rb' rr, rb = some rb' ∧ rb'.2.stack = sc.stack ∧ rest rb'.2 = some rr ∧ r = (.cons v rb'.1 rr.1, rr.2) := by
  unfold pcaseJoin at h
  split at h
  · cases h
  · split at h
    · split at h
      · exact ⟨_, _, rfl, ‹_›, ‹_›, (Option.some.inj h).symm⟩
      · cases h
    · cases h

theorem pluralJoin_some {sc : Scope} {j : Option JsExpr} {rc : Option (JsPlural × Scope)}
    {dflt rest : Scope → Option (JsStmts × Scope)} {r : JsStmts × Scope} (h : pluralJoin sc j rc dflt rest = some r) :
    ∃ j' rc' rd rr, j = some j' ∧ rc = some rc' ∧ dflt rc'.2 = some rd ∧ rd.2.stack = sc.stack ∧ rest rd.2 = some rr ∧
      r = (.cons (.pluralS j' rc'.1 rd.1) rr.1, rr.2) := by
  unfold pluralJoin at h
  split at h
  · split at h
    · split at h
      · split at h
        · exact ⟨_, _, _, _, rfl, rfl, ‹_›, ‹_›, ‹_›, (Option.some.inj h).symm⟩
        · cases h
      · cases h
    · cases h
  · cases h

/-! what a successful translation consists of, for the forms of `toCmd` … `toConds` that are written with a `match` of
  their own (the others: the `…Join_some` above) -/

section
variable {ae : Autoescape} {buf : Bytes} {sc : Scope}

theorem toCmd_print_some {p : Nat} {arg : Expr} {dirs : List Directive} {r : JsStmts × Scope}
    (h : toCmd ae buf (.print p arg dirs) sc = some r) :
    dirs.all dirOk = true ∧ ∃ j ck, toAst sc arg = some j ∧ collectDirs dirs = some ck ∧
      r = (.one (.append buf j (printDirs ae ck.1 ck.2)), sc) := by
  unfold toCmd at h
  split at h
  · split at h
    · exact ⟨‹_›, _, _, ‹_›, ‹_›, (Option.some.inj h).symm⟩
    · cases h
  · cases h

theorem toCmd_letValue_some {p : Nat} {x : Bytes} {e : Expr} {r : JsStmts × Scope}
    (h : toCmd ae buf (.letValue p x e) sc = some r) :
    x.contains 36 = false ∧ ∃ j, toAst sc e = some j ∧ r = (.one (.var (sc.makevar x).1 j), (sc.makevar x).2) := by
  unfold toCmd at h
  split at h
  · cases h
  · rename_i hx
    split at h
    · exact ⟨by simpa using hx, _, ‹_›, (Option.some.inj h).symm⟩
    · cases h

theorem toCmd_ifc_some {p : Nat} {conds : CondList} {r : JsStmts × Scope} (h : toCmd ae buf (.ifc p conds) sc = some r) :
    ∃ rc, toConds ae buf conds sc = some rc ∧ r = (.one (.ifs rc.1), rc.2) := by
  unfold toCmd at h
  split at h
  · exact ⟨_, ‹_›, (Option.some.inj h).symm⟩
  · cases h

theorem toCmd_switch_some {p : Nat} {value : Expr} {cases : CaseList} {r : JsStmts × Scope}
    (h : toCmd ae buf (.switch p value cases) sc = some r) :
    ∃ j rc, toAst sc value = some j ∧ toCases ae buf cases sc = some rc ∧ r = (.one (.switchS j rc.1), rc.2) := by
  unfold toCmd at h
  split at h
  · exact ⟨_, _, ‹_›, ‹_›, (Option.some.inj h).symm⟩
  · cases h

theorem toCmd_css_some {p : Nat} {e : Expr} {suffix : Bytes} {r : JsStmts × Scope}
    (h : toCmd ae buf (.css p (some e) suffix) sc = some r) :
    ∃ j, toAst sc e = some j ∧ r = (.cons (.appendCss buf j) (.one (.appendLit buf suffix)), sc) := by
  simp only [toCmd] at h
  split at h
  · exact ⟨_, ‹_›, (Option.some.inj h).symm⟩
  · cases h

theorem toBlock_some {p : Nat} {cmds : CmdList} {r : JsStmts × Scope} (h : toBlock ae buf (.mk p cmds) sc = some r) :
    ∃ rc, toCmds ae buf cmds sc.push = some rc ∧ r = (rc.1, rc.2.pop) := by
  unfold toBlock at h
  split at h
  · exact ⟨_, ‹_›, (Option.some.inj h).symm⟩
  · cases h

theorem toCmds_cons_some {c : Cmd} {rest : CmdList} {r : JsStmts × Scope} (h : toCmds ae buf (.cons c rest) sc = some r) :
    ∃ r1 r2, toCmd ae buf c sc = some r1 ∧ toCmds ae buf rest r1.2 = some r2 ∧ r = (r1.1.append r2.1, r2.2) := by
  unfold toCmds at h
  split at h
  · cases h
  · split at h
    · cases h
    · exact ⟨_, _, ‹_›, ‹_›, (Option.some.inj h).symm⟩

theorem toConds_cond_some {p : Nat} {c : Expr} {body : Block} {rest : CondList} {r : JsConds × Scope}
    (h : toConds ae buf (.cons p (some c) body rest) sc = some r) :
    ∃ j rb rr, toAst sc c = some j ∧ toBlock ae buf body sc = some rb ∧ toConds ae buf rest rb.2 = some rr ∧
      r = (.cons j rb.1 rr.1, rr.2) := by
  unfold toConds at h
  simp only at h
  split at h
  · split at h
    · exact ⟨_, _, _, ‹_›, ‹_›, ‹_›, (Option.some.inj h).symm⟩
    · cases h
  · cases h

theorem toConds_else_some {p : Nat} {body : Block} {rest : CondList} {r : JsConds × Scope}
    (h : toConds ae buf (.cons p none body rest) sc = some r) :
    rest = .nil ∧ ∃ rb, toBlock ae buf body sc = some rb ∧ r = (.els rb.1, rb.2) := by
  unfold toConds at h
  simp only at h
  split at h
  · exact ⟨rfl, _, ‹_›, (Option.some.inj h).symm⟩
  · cases h

end

section
variable (sk : List Bytes → List Bytes) (o : Options) [GlobalsAre o] (ae : Autoescape)
-- `{msg}` is translated as the generator writes it WITHOUT a message bundle
variable (ho : o.messages = none)
include ho

mutual
  /-- PARTIAL (generator ↔ statement AST): for a command of the fragment, from every state in the
      scope `sc` (any indentation, buffer `buf`, autoescape mode `ae`) the generator writes exactly the
      text of the translation and ends in the scope the translation computes -/
  theorem walkCmd_renders : ∀ (c : Cmd) (buf : Bytes) (sc : Scope) (r : JsStmts × Scope), toCmd ae buf c sc = some r →
      ∀ ind, Runs (At ind buf ae sc) (At ind buf ae r.2) (walkCmd sk o c) (renderStmts (isEs6 o) ind r.1)
    | .rawText p t, buf, sc, r, h, ind => by
      simp only [toCmd, Option.some.injEq] at h; subst h
      sunfold walkCmd
      exact (Runs.seq Runs.atOther (writeRawText_runs (isEs6 o) t)).cast (by simp [renderStmts_one])
    | .print p arg dirs, buf, sc, r, h, ind => by
      obtain ⟨hok, j, ck, hj, hc, rfl⟩ := toCmd_print_some h
      exact print_runs sk o p arg dirs j ck hok hj hc
    | .letValue p x e, buf, sc, r, h, ind => by
      obtain ⟨_, j, hj, rfl⟩ := toCmd_letValue_some h
      sunfold walkCmd
      exact (Runs.seq Runs.atOther (Runs.block (walkExpr_renders sk o sc e j hj) (Runs.getScope (Runs.seq (Runs.setScope _)
        (Runs.seq Runs.indentP (Runs.seq (Runs.fx _) (Runs.seq (Runs.emit _) (Runs.seq (Runs.fx _)
          (Runs.seq (Runs.emits _) (Runs.seq (Runs.fx _) Runs.nl)))))))))).cast (by simp [renderStmts_one, renderStmt])
    | .ifc p conds, buf, sc, r, h, ind => by
      obtain ⟨rc, hrc, rfl⟩ := toCmd_ifc_some h
      sunfold walkCmd
      exact (Runs.seq Runs.atOther (Runs.seq Runs.indentP (Runs.seq (visitConds_renders conds buf sc rc hrc true ind) Runs.nl))).cast
        (by simp [renderStmts_one, renderStmt])
    | .msg p id m d bp body, buf, sc, r, h, ind => by
      unfold toCmd at h
      obtain ⟨rb, hrb, rfl⟩ := msgJoin_some h
      sunfold walkCmd
      simp only [ho]
      exact (Runs.seq Runs.atOther (Runs.seq Runs.pushScope (Runs.seq (visitMsgNode_renders body buf _ rb hrb ind) Runs.popScope))).cast
        (by simp)
    | .css p none suffix, buf, sc, r, h, ind => by
      simp only [toCmd, Option.some.injEq] at h; subst h
      sunfold walkCmd
      exact (Runs.seq Runs.atOther (Runs.seq Runs.pure (writeRawText_runs (isEs6 o) suffix))).cast (by simp [renderStmts_one])
    | .css p (some e) suffix, buf, sc, r, h, ind => by
      obtain ⟨j, hj, rfl⟩ := toCmd_css_some h
      sunfold walkCmd
      exact (Runs.seq Runs.atOther (Runs.seq (Runs.seq Runs.indentP (Runs.getBuf (Runs.seq (Runs.emit _) (Runs.seq (Runs.fx _)
        (Runs.seq (Runs.expr (walkExpr_renders sk o sc e j hj)) (Runs.seq (Runs.fx _) Runs.nl)))))) (writeRawText_runs (isEs6 o) suffix))).cast
        (by simp [renderStmts, renderStmt, JsStmts.one])
    | .debugger p, buf, sc, r, h, ind => by
      simp only [toCmd, Option.some.injEq] at h; subst h
      sunfold walkCmd
      exact (Runs.seq Runs.atOther (Runs.seq Runs.indentP (Runs.seq (Runs.fx _) Runs.nl))).cast
        (by simp [renderStmts_one, renderStmt])
    | .log .., _, _, _, h, _ => by simp [toCmd] at h
    | .forc p v list body none, buf, sc, r, h, ind => by
      unfold toCmd at h
      rcases loopJoin_some h with h | h
      · obtain ⟨_, hr, j, rbv, hj, hrb, he⟩ := forcJoin_some h
        simp only at he
        subst he
        exact forc_none_runs sk o p v list body j rbv hr hj (walkBody_renders body buf _ rbv hrb (ind + 1))
      · obtain ⟨args, l, c, jl, ji, rbv, pc, q⟩ := rangeJoin_some h
        obtain rfl := q.result
        exact forc_range_runs sk o p v list body args l jl ji (.num c) rbv q.call q.limit q.limitAst q.initAst
          (by rw [q.step]; rfl) (walkBody_renders body buf _ rbv q.body (ind + 1))
    | .forc p v list body (some ie), buf, sc, r, h, ind => by
      unfold toCmd at h
      rcases loopJoin_ie_some h with h | ⟨r0, re, hr0, hre, rfl⟩
      · obtain ⟨_, hr, j, rbv, hj, hrb, he⟩ := forcJoin_some h
        simp only at he
        obtain ⟨re, hre, rfl⟩ := he
        exact forc_some_runs sk o p v list body ie j rbv re hr hj (walkBody_renders body buf _ rbv hrb (ind + 1 + 1))
          (walkBlock_renders ie buf _ re hre (ind + 1))
      · obtain ⟨args, l, c, jl, ji, rbv, pc, q⟩ := rangeJoin_some hr0
        obtain rfl := q.result
        exact forc_range_some_runs sk o p v list body ie args l jl ji (.num c) rbv re q.call q.limit q.limitAst q.initAst
          (by rw [q.step]; rfl) (walkBody_renders body buf _ rbv q.body (ind + 1)) (walkBlock_renders ie buf _ re hre (ind + 1))
    | .switch p value cases, buf, sc, r, h, ind => by
      obtain ⟨j, rc, hj, hrc, rfl⟩ := toCmd_switch_some h
      sunfold walkCmd
      exact (Runs.seq Runs.atOther (Runs.seq Runs.indentP (Runs.seq (Runs.fx _) (Runs.seq
        (Runs.expr (walkExpr_renders sk o sc value j hj)) (Runs.seq (Runs.fx _) (Runs.seq Runs.nl (Runs.seq Runs.incIndent
        (Runs.seq (visitCases_renders cases buf sc rc hrc (ind + 1)) (Runs.seq Runs.decIndent (Runs.seq Runs.indentP
          (Runs.seq (Runs.fx _) Runs.nl))))))))))).cast (by simp [renderStmts_one, renderStmt])
    | .call p name allData data params, buf, sc, r, h, ind => by
      unfold toCmd at h
      obtain ⟨b, rp, hb, hrp, rfl⟩ := callJoin_some h
      exact call_runs sk o p name allData data params b rp hb hrp (fun acc => visitParams_renders params true acc buf sc rp hrp ind)
    | .letContent p name body, buf, sc, r, h, ind => by
      unfold toCmd at h
      obtain ⟨_, rbv, hrb, rfl⟩ := letJoin_some h
      sunfold walkCmd
      refine (Runs.seq Runs.atOther (Runs.getBuf (Runs.getScope ?_))).cast (List.nil_append _)
      exact (Runs.seq (Runs.setScope _) (Runs.seq (Runs.setBuf _) (Runs.seq Runs.indentP (Runs.seq (Runs.fx _)
        (Runs.seq (Runs.emit _) (Runs.seq (Runs.fx _) (Runs.seq Runs.nl (Runs.seq (walkBlock_renders body _ _ rbv hrb ind)
          (Runs.getBuf (Runs.getScope (Runs.seq (Runs.setScope _) (Runs.setBuf _)))))))))))).cast (by simp [renderStmts, renderStmt])
    | .headerParam .., _, _, _, h, _ => by simp [toCmd] at h
    | .namespace .., _, _, _, h, _ => by simp [toCmd] at h
    | .template .., _, _, _, h, _ => by simp [toCmd] at h
    | .soyDoc .., _, _, _, h, _ => by simp [toCmd] at h
  theorem visitMsgNode_renders : ∀ (ps : MsgParts) (buf : Bytes) (sc : Scope) (r : JsStmts × Scope), toParts ae buf ps sc = some r →
      ∀ ind, Runs (At ind buf ae sc) (At ind buf ae r.2) (visitMsgNode sk o ps) (renderStmts (isEs6 o) ind r.1)
    | .nil, buf, sc, r, h, ind => by
      simp only [toParts, Option.some.injEq] at h; subst h
      sunfold visitMsgNode
      exact Runs.pure.cast (by simp [renderStmts])
    | .text p t rest, buf, sc, r, h, ind => by
      unfold toParts at h
      obtain ⟨a, rr, ha, hrr, rfl⟩ := phJoin_some h
      simp only [Option.some.injEq] at ha; subst ha
      sunfold visitMsgNode
      exact (Runs.seq Runs.atOther (Runs.seq (writeRawText_runs (isEs6 o) t) (visitMsgNode_renders rest buf sc rr hrr ind))).cast
        (by simp [renderStmts_append, renderStmts_one])
    | .ph p name body rest, buf, sc, r, h, ind => by
      unfold toParts at h
      obtain ⟨a, b, ha, hb, rfl⟩ := phJoin_some h
      sunfold visitMsgNode
      exact (Runs.seq (walkPhBody_renders body buf sc a ha ind) (visitMsgNode_renders rest buf a.2 b hb ind)).cast
        (renderStmts_append (isEs6 o) ind a.1 b.1).symm
    | .plural p vn value cases dp dflt rest, buf, sc, r, h, ind => by
      unfold toParts at h
      obtain ⟨j, rc, rd, rr, hj, hrc, hrd, _, hrr, rfl⟩ := pluralJoin_some h
      sunfold visitMsgNode
      exact (Runs.seq Runs.indentP (Runs.seq (Runs.fx _) (Runs.seq (Runs.expr (walkExpr_renders sk o sc value j hj))
        (Runs.seq (Runs.fx _) (Runs.seq Runs.nl (Runs.seq Runs.incIndent (Runs.seq (walkPluralCases_renders cases buf sc rc hrc (ind + 1))
        (Runs.seq Runs.indentP (Runs.seq (Runs.fx _) (Runs.seq Runs.nl (Runs.seq Runs.incIndent
        (Runs.seq (visitMsgNode_renders dflt buf rc.2 rd hrd (ind + 1 + 1)) (Runs.seq Runs.decIndent (Runs.seq Runs.decIndent
        (Runs.seq Runs.indentP (Runs.seq (Runs.fx _) (Runs.seq Runs.nl (visitMsgNode_renders rest buf rd.2 rr hrr ind)))))))))))))))))).cast
        (by simp [renderStmts, renderStmt])
  theorem walkPluralCases_renders : ∀ (cs : PluralCases) (buf : Bytes) (sc : Scope) (r : JsPlural × Scope),
      toPCases ae buf cs sc = some r →
      ∀ ind, Runs (At ind buf ae sc) (At ind buf ae r.2) (walkPluralCases sk o cs) (renderPlural (isEs6 o) ind r.1)
    | .nil, buf, sc, r, h, ind => by
      simp only [toPCases, Option.some.injEq] at h; subst h
      sunfold walkPluralCases
      exact Runs.pure.cast (by simp [renderPlural])
    | .cons p v bp body rest, buf, sc, r, h, ind => by
      unfold toPCases at h
      obtain ⟨rb, rr, hrb, _, hrr, rfl⟩ := pcaseJoin_some h
      sunfold walkPluralCases
      exact (Runs.seq Runs.indentP (Runs.seq (Runs.fx _) (Runs.seq (Runs.emit _) (Runs.seq (Runs.fx _) (Runs.seq Runs.nl
        (Runs.seq Runs.incIndent (Runs.seq (visitMsgNode_renders body buf sc rb hrb (ind + 1)) (Runs.seq Runs.indentP
        (Runs.seq (Runs.fx _) (Runs.seq Runs.nl (Runs.seq Runs.decIndent
          (walkPluralCases_renders rest buf rb.2 rr hrr ind)))))))))))).cast (by simp [renderPlural])
  theorem walkPhBody_renders : ∀ (b : MsgPhBody) (buf : Bytes) (sc : Scope) (r : JsStmts × Scope), toPh ae buf b sc = some r →
      ∀ ind, Runs (At ind buf ae sc) (At ind buf ae r.2) (walkPhBody sk o b) (renderStmts (isEs6 o) ind r.1)
    | .htmlTag p t, buf, sc, r, h, ind => by
      simp only [toPh, Option.some.injEq] at h; subst h
      sunfold walkPhBody
      exact (Runs.seq Runs.atOther (writeRawText_runs (isEs6 o) t)).cast (by simp [renderStmts_one])
    | .cmd c, buf, sc, r, h, ind => by
      unfold toPh at h
      sunfold walkPhBody
      exact walkCmd_renders c buf sc r h ind
  theorem visitParams_renders : ∀ (ps : ParamList) (first : Bool) (acc : List Piece) (buf : Bytes) (sc : Scope)
      (r : JsStmts × List (Bytes × JsExpr) × Scope), toParams ae ps sc = some r →
      ∀ ind, RunsV (At ind buf ae sc) (At ind buf ae r.2.2) (visitParams sk o ps first acc) (acc ++ kvPieces r.2.1 first)
        (renderStmts (isEs6 o) ind r.1)
    | .nil, first, acc, buf, sc, r, h, ind => by
      simp only [toParams, Option.some.injEq] at h; subst h
      sunfold visitParams
      exact (RunsV.pure acc).cast (by simp [kvPieces]) (by simp [renderStmts])
    | .value p key e rest, first, acc, buf, sc, r, h, ind => by
      unfold toParams at h
      obtain ⟨j, rr, hj, hrr, rfl⟩ := valueParamJoin_some h
      sunfold visitParams
      refine (RunsV.bindV (RunsV.block (walkExpr_renders sk o sc e j hj)) (visitParams_renders rest false
        (acc ++ (if first then [] else [.fixed b!", "]) ++ [.ident key, .fixed b!": "] ++ render j) buf sc rr hrr ind)).cast ?_ ?_
      · simp [kvPieces]
      · simp
    | .content p key body rest, first, acc, buf, sc, r, h, ind => by
      unfold toParams at h
      obtain ⟨rb, rr, hrb, hrr, rfl⟩ := contentParamJoin_some h
      sunfold visitParams
      refine (RunsV.getBuf (RunsV.getScope (RunsV.seq (Runs.setScope _) (RunsV.seq (Runs.setBuf _) (RunsV.seq Runs.indentP
        (RunsV.seq (Runs.fx _) (RunsV.seq (Runs.emit _) (RunsV.seq (Runs.fx _) (RunsV.seq Runs.nl
        (RunsV.seq (walkBlock_renders body _ _ rb hrb ind) (RunsV.getBuf (RunsV.seq (Runs.setBuf _)
          (visitParams_renders rest false _ buf rb.2 rr hrr ind))))))))))))).cast ?_ ?_
      · simp [kvPieces, render]
      · simp [renderStmts_append, renderStmts, renderStmt]
  theorem visitCases_renders : ∀ (cs : CaseList) (buf : Bytes) (sc : Scope) (r : JsCases × Scope), toCases ae buf cs sc = some r →
      ∀ ind, Runs (At ind buf ae sc) (At ind buf ae r.2) (visitCases sk o cs) (renderCases (isEs6 o) ind r.1)
    | .nil, buf, sc, r, h, ind => by
      simp only [toCases, Option.some.injEq] at h; subst h
      sunfold visitCases
      exact Runs.pure
    | .cons p values body rest, buf, sc, r, h, ind => by
      unfold toCases at h
      obtain ⟨rbv, hrb, hc⟩ := caseJoin_some h
      have hbody := walkBlock_renders body buf sc rbv hrb (ind + 1)
      sunfold visitCases
      rcases hc with ⟨rfl, hl, rfl⟩ | ⟨hne, js, rr, hjs, hrr, rfl⟩
      · -- `{default}`: the last clause
        have hr : rest = .nil := by cases rest <;> simp_all
        subst hr
        sunfold visitCases
        exact (Runs.seq Runs.pure (Runs.seq (Runs.whenTrue (Runs.seq Runs.indentP (Runs.seq (Runs.fx _) Runs.nl)))
          (Runs.seq Runs.incIndent (Runs.seq hbody (Runs.seq Runs.indentP (Runs.seq (Runs.fx _) (Runs.seq Runs.nl
            (Runs.seq Runs.decIndent Runs.pure)))))))).cast (by simp [renderCases])
      · have hem : values.isEmpty = false := by cases values <;> simp_all
        rw [hem]
        exact (Runs.seq (labels_runs sk o values js hjs) (Runs.seq Runs.whenFalse
          (Runs.seq Runs.incIndent (Runs.seq hbody (Runs.seq Runs.indentP (Runs.seq (Runs.fx _) (Runs.seq Runs.nl
            (Runs.seq Runs.decIndent (visitCases_renders rest buf rbv.2 rr hrr ind))))))))).cast (by simp [renderCases])
  theorem walkBody_renders : ∀ (b : Block) (buf : Bytes) (sc : Scope) (r : JsStmts × Scope), toBody ae buf b sc = some r →
      ∀ ind, Runs (At ind buf ae sc) (At ind buf ae r.2) (walkBody sk o b) (renderStmts (isEs6 o) ind r.1)
    | .mk p cmds, buf, sc, r, h, ind => by
      unfold toBody at h
      sunfold walkBody
      exact (Runs.seq Runs.atOther (walkCmds_renders cmds buf sc r h ind)).cast (by simp)
  theorem walkBlock_renders : ∀ (b : Block) (buf : Bytes) (sc : Scope) (r : JsStmts × Scope), toBlock ae buf b sc = some r →
      ∀ ind, Runs (At ind buf ae sc) (At ind buf ae r.2) (walkBlock sk o b) (renderStmts (isEs6 o) ind r.1)
    | .mk p cmds, buf, sc, r, h, ind => by
      obtain ⟨rc, hrc, rfl⟩ := toBlock_some h
      sunfold walkBlock
      exact (Runs.seq Runs.pushScope (Runs.seq Runs.atOther (Runs.seq (walkCmds_renders cmds buf sc.push rc hrc ind) Runs.popScope))).cast
        (by simp)
  theorem walkCmds_renders : ∀ (cs : CmdList) (buf : Bytes) (sc : Scope) (r : JsStmts × Scope), toCmds ae buf cs sc = some r →
      ∀ ind, Runs (At ind buf ae sc) (At ind buf ae r.2) (walkCmds sk o cs) (renderStmts (isEs6 o) ind r.1)
    | .nil, buf, sc, r, h, ind => by
      simp only [toCmds, Option.some.injEq] at h; subst h
      sunfold walkCmds
      exact Runs.pure
    | .cons c rest, buf, sc, r, h, ind => by
      obtain ⟨r1, r2, h1, h2, rfl⟩ := toCmds_cons_some h
      sunfold walkCmds
      exact (Runs.seq (walkCmd_renders c buf sc r1 h1 ind) (walkCmds_renders rest buf r1.2 r2 h2 ind)).cast
        (renderStmts_append (isEs6 o) ind r1.1 r2.1).symm
  theorem visitConds_renders : ∀ (cs : CondList) (buf : Bytes) (sc : Scope) (r : JsConds × Scope), toConds ae buf cs sc = some r →
      ∀ (first : Bool) ind, Runs (At ind buf ae sc) (At ind buf ae r.2) (visitConds sk o cs first) (renderConds (isEs6 o) ind r.1 first)
    | .nil, buf, sc, r, h, first, ind => by
      simp only [toConds, Option.some.injEq] at h; subst h
      sunfold visitConds
      exact Runs.pure
    | .cons p (some c) body rest, buf, sc, r, h, first, ind => by
      obtain ⟨j, rb, rr, hj, hb, hr, rfl⟩ := toConds_cond_some h
      sunfold visitConds
      refine (Runs.seq (Runs.whenM (!first) (Runs.fx _)) (Runs.seq (Runs.seq (Runs.fx _) (Runs.seq
        (Runs.expr (walkExpr_renders sk o sc c j hj)) (Runs.fx _))) (Runs.seq (Runs.fx _) (Runs.seq Runs.incIndent
        (Runs.seq (walkBlock_renders body buf sc rb hb (ind + 1)) (Runs.seq Runs.decIndent (Runs.seq Runs.indentP
          (Runs.seq (Runs.fx _) (visitConds_renders rest buf rb.2 rr hr false ind))))))))).cast ?_
      cases first <;> simp [renderConds]
    | .cons p none body rest, buf, sc, r, h, first, ind => by
      obtain ⟨rfl, rb, hb, rfl⟩ := toConds_else_some h
      sunfold visitConds
      sunfold visitConds
      refine (Runs.seq (Runs.whenM (!first) (Runs.fx _)) (Runs.seq Runs.pure (Runs.seq (Runs.fx _) (Runs.seq Runs.incIndent
        (Runs.seq (walkBlock_renders body buf sc rb hb (ind + 1)) (Runs.seq Runs.decIndent (Runs.seq Runs.indentP
          (Runs.seq (Runs.fx _) Runs.pure)))))))).cast ?_
      cases first <;> simp [renderConds]
end

end

end Dev

end SoyVerif.Props.C04d
