/-
  C04 — prints WITH directives against Spec/Eval.render: the hypothesis `PrintLe` of Props/C04f
  (`gen_correct_registry_dirs_partial`) derived from one NAMED hypothesis per
  soyutils function the generator's table names.

  The two sides.  Go: Spec/Eval.render with the library semantics `goLib` = Props/C02SpecLib `modelDirSem` of the live
  directive table — the Lean models of the Go directives (Model/Directives `applyImpl`, Model/Eval `applyDirective`:
  Escape, JsEscape2, JsonMarshal, …), which C02Spec proves the interpreter model refines.  JavaScript: the reference
  semantics of the generated print expression (Props/C04dInv `refPrint`: the order of the calls and the escape decision
  are those of the Go renderer — Props/C04b `print_directives_agree`), the library functions being the symbols
  `F name args`.

  `DirIs F name` — LIBRARY OBLIGATION, not proved here: WHENEVER the soyutils function of the directive `name`
  returns a value (on literal arguments of ANY number and kind), the Go directive returns the same value; it is implied
  by the equation `soy.$$name(x, args) = <Go directive>(x, args)`.  `SoyutilsIs F` collects them, one field per
  function.  The sub-check C16js ties the escapers to the real soyutils.js by execution.  The DOCUMENTED differences
  of the backends are exactly fields that are FALSE of the real library: `escapeUri` (Go `+` and `%XX` of url.QueryEscape against
  encodeURIComponent), `escapeJsString` (`\'` against `\x27`, …), `truncate` on text outside ASCII (bytes against
  UTF-16 units; and on a number that fits Go hands the NUMBER on where soy.$$truncate returns its string); and
  `escapeHtml` at a NUL character.  On templates that use none of these the corresponding fields can be dropped:
  `printLe_dirsIn` / `gen_correct_registry_goLib_in_partial` ask `DirIs` only for the names admitted (`dirsOkIn names`).

  THEN (`gen_correct_registry_goLib_partial`, `gen_correct_file_goLib_partial`): what a generated function returns
  is what Spec/Eval.render renders with the Go library, for templates with arbitrary lists of these directives.
  The directive-free theorems of C04f are the instance `noDirs` of C04f's `_dirs_` theorems (they need `EscapeHtmlIs` only).

  The converse WITH directives (`gen_complete_…_goLib_partial`) is Props/C04h, under the equational obligations `DirEq`.
-/
import SoyVerif.Props.C04f
import SoyVerif.Props.C02SpecLib

namespace SoyVerif.Props.C04g
open SoyVerif SoyVerif.Model SoyVerif.Model.JsGen SoyVerif.Spec.JsSemRef SoyVerif.Spec.JsStmt
open SoyVerif.Props.C04c (toJsV Globals GlobalsAre IjRel GlobRel)
open SoyVerif.Props.C04d SoyVerif.Props.C04e SoyVerif.Props.C04f
open SoyVerif.Spec.Eval (Val Out)
open SoyVerif.Refine (absV Scalar)
open SoyVerif.Model.Eval (applyDirective)
open SoyVerif.Props.C02Spec (modelDirSem concV scalarV)

/-- the Go library as Spec/Eval's library semantics: the live directive table and the Lean models of the Go
    directives (Props/C02SpecLib `modelDirSem`); no message bundle -/
def goLib : Spec.Eval.LibSem := { dirs := some (modelDirSem Gen.directiveTable) }

theorem dirsOf_goLib : Spec.Eval.dirsOf (some goLib) = some (modelDirSem Gen.directiveTable) := rfl

/-- a literal argument of a directive and its value -/
def litVal : Expr → Option Val
  | .null _ => some .null
  | .bool _ b => some (.bool b)
  | .int _ i => some (.int i)
  | .str _ _ s => some (.str s)
  | _ => none

def litVals : List Expr → Option (List Val)
  | [] => some []
  | e :: r => match litVal e, litVals r with
    | some v, some vs => some (v :: vs)
    | _, _ => none

/-- what the generated code passes to the function of a directive: the value, or — for the two functions whose Go
    twins escape their input themselves — the HTML-escaped text of it (soy.$$escapeHtml, `EscapeHtmlIs`) -/
def dirInput (e : Gen.DirectiveEntry) (jv : JVal) : Option JVal :=
  if e.impl == Directives.sDirectiveInsertWordBreaks || e.impl == Directives.sDirectiveChangeNewlineToBr then
    (toStr? jv).map fun s => .str (htmlEscape s)
  else some jv

/-- LIBRARY OBLIGATION (not proved here) for the soyutils function of the directive `name`: whenever it returns a
    value — on the JSON image `jv` of a Soy value `v` (through `dirInput`), with literal arguments — the value `v` is a
    defined scalar (the library is read on these only, as `EscapeHtmlIs` reads soy.$$escapeHtml) and the Go directive
    (Model/Eval `applyDirective` on the table's implementation) returns the same value -/
def DirIs (F : Bytes → List Expr → JVal → JOut) (name : Bytes) : Prop :=
  ∀ (e : Gen.DirectiveEntry), Directives.lookup Gen.directiveTable name = some e →
  ∀ (args : List Expr) (lits : List Val) (v : Val) (jv x r : JVal),
    litVals args = some lits → toJsV v = some jv → dirInput e jv = some x →
    F name args x = .val r →
    scalarV v = true ∧ Spec.Eval.isUndef v = false ∧
      ∃ gv, applyDirective e.impl (concV v) (lits.map concV) = some gv ∧ toJsV (absV gv) = some r

/-- the names of the directives with a soyutils function behind them that both backends implement -/
def libNames : List Bytes :=
  [b!"changeNewlineToBr", b!"escapeHtml", b!"escapeJsString", b!"escapeUri", b!"insertWordBreaks", b!"json", b!"truncate"]

/-- the hypotheses about soyutils.js, one per function the generator's table names (`id` and `noAutoescape` have no
    function: the generator drops them).  See the header for which of them the real library falsifies. -/
structure SoyutilsIs (F : Bytes → List Expr → JVal → JOut) : Prop where
  /-- soy.$$escapeHtml where the generator writes it for autoescaping -/
  escapeHtml : EscapeHtmlIs F
  /-- … and as the directive `|escapeHtml` -/
  escapeHtmlDir : DirIs F b!"escapeHtml"
  changeNewlineToBr : DirIs F b!"changeNewlineToBr"
  escapeJsString : DirIs F b!"escapeJsString"
  escapeUri : DirIs F b!"escapeUri"
  insertWordBreaks : DirIs F b!"insertWordBreaks"
  /-- JSON.stringify -/
  json : DirIs F b!"json"
  truncate : DirIs F b!"truncate"

theorem SoyutilsIs.all {F : Bytes → List Expr → JVal → JOut} (h : SoyutilsIs F) : ∀ name ∈ libNames, DirIs F name := by
  intro name hn
  simp only [libNames, List.mem_cons, List.mem_nil_iff, or_false] at hn
  rcases hn with rfl | rfl | rfl | rfl | rfl | rfl | rfl
  · exact h.changeNewlineToBr
  · exact h.escapeHtmlDir
  · exact h.escapeJsString
  · exact h.escapeUri
  · exact h.insertWordBreaks
  · exact h.json
  · exact h.truncate

/-- a directive the theorem covers: known to the table, a permitted number of arguments, literal arguments; one
    the generator drops (`id`, `noAutoescape`: the Go implementation is the identity) or one of `names` -/
def dirOkIn (names : List Bytes) (d : Directive) : Bool :=
  match Directives.lookup Gen.directiveTable d.name with
  | none => false
  | some e => e.arities.any (· == d.args.length) && (litVals d.args).isSome &&
      (e.impl == Directives.sDirectiveNoAutoescape || names.contains d.name)

def dirsOkIn (names : List Bytes) (ds : List Directive) : Bool := ds.all (dirOkIn names)

/-- every list of the directives both backends implement -/
def dirsOk : List Directive → Bool := dirsOkIn libNames

theorem litVals_cons {e : Expr} {r : List Expr} {lits : List Val} (h : litVals (e :: r) = some lits) :
    ∃ v vs, litVal e = some v ∧ litVals r = some vs ∧ lits = v :: vs := by
  simp only [litVals] at h
  cases hv : litVal e <;> cases hr : litVals r <;> simp [hv, hr] at h
  exact ⟨_, _, rfl, rfl, h.symm⟩

theorem litVal_spec {e : Expr} {v : Val} (h : litVal e = some v) :
    scalarV v = true ∧ ∀ env, Spec.Eval.eval env e = .val v := by
  cases e <;> simp only [litVal, Option.some.injEq, reduceCtorEq] at h <;> subst h <;> exact ⟨rfl, fun _ => by simp [Spec.Eval.eval]⟩

theorem evalAll_lits (env : SEnv) : ∀ (args : List Expr) (lits : List Val), litVals args = some lits →
    Spec.Eval.evalAll env args = .val lits
  | [], lits, h => by cases h; rfl
  | e :: r, lits, h => by
    obtain ⟨v, vs, hv, hr, rfl⟩ := litVals_cons h
    simp [Spec.Eval.evalAll, (litVal_spec hv).2 env, evalAll_lits env r vs hr, Spec.Eval.Out.bind]

theorem lits_scalar : ∀ (args : List Expr) (lits : List Val), litVals args = some lits → lits.all scalarV = true
  | [], lits, h => by cases h; rfl
  | e :: r, lits, h => by
    obtain ⟨v, vs, hv, hr, rfl⟩ := litVals_cons h
    simp [(litVal_spec hv).1, lits_scalar r vs hr]

theorem dirsOkIn_cons {names : List Bytes} {d : Directive} {ds : List Directive} (h : dirsOkIn names (d :: ds) = true) :
    ∃ e lits, Directives.lookup Gen.directiveTable d.name = some e ∧
      (modelDirSem Gen.directiveTable).lookup d.name = some (e.arities, e.impl, e.cancel) ∧
      e.arities.any (· == d.args.length) = true ∧ litVals d.args = some lits ∧ lits.all scalarV = true ∧
      ((e.impl == Directives.sDirectiveNoAutoescape) = true ∨ names.contains d.name = true) ∧ dirsOkIn names ds = true := by
  simp only [dirsOkIn, List.all_cons, Bool.and_eq_true] at h
  obtain ⟨hd, hrest⟩ := h
  unfold dirOkIn at hd
  cases hl : Directives.lookup Gen.directiveTable d.name with
  | none => simp [hl] at hd
  | some e =>
    simp only [hl, Bool.and_eq_true, Bool.or_eq_true] at hd
    obtain ⟨lits, hlits⟩ := Option.isSome_iff_exists.mp hd.1.2
    exact ⟨e, lits, rfl, by simp [modelDirSem, hl], hd.1.1, hlits, lits_scalar d.args lits hlits, hd.2, hrest⟩

theorem scalar_concV (v : Val) (h : scalarV v = true) : Scalar (concV v) = true := by
  cases v <;> simp_all [scalarV, concV, Scalar]

-- `exact i` is |i| ≤ 2^53, well inside the 64-bit range: `ofInt` does not wrap
theorem int64_roundtrip (i : Int) (h : SoyVerif.Spec.JsSem.exact i = true) : (Int64.ofInt i).toInt = i := by
  have h : -9007199254740992 ≤ i ∧ i ≤ 9007199254740992 := by
    unfold SoyVerif.Spec.JsSem.exact SoyVerif.Spec.JsSem.two53 at h
    exact of_decide_eq_true h
  rw [Int64.toInt_ofInt]
  exact Int.bmod_eq_of_le (by simp [Int64.size]; omega) (by simp [Int64.size]; omega)

/-- which images print: those of the defined scalars (`C04c.toJsV_inv` has its file's section variable `[Globals]` as an
    argument and does not use it) -/
theorem toStr_isSome {v : Val} {jv : JVal} (hj : toJsV v = some jv) :
    (toStr? jv).isSome = (scalarV v && !Spec.Eval.isUndef v) := by
  have hi := @C04c.toJsV_inv ⟨[]⟩ _ _ hj
  cases jv <;> simp only at hi
  case num => rw [hi.1]; rfl
  case arr | obj => obtain ⟨xs, rfl, _⟩ := hi; rfl
  all_goals (rw [hi]; rfl)

theorem printable {v : Val} {jv : JVal} {s : Bytes} (hj : toJsV v = some jv) (hs : toStr? jv = some s) :
    scalarV v = true ∧ Spec.Eval.isUndef v = false := by
  have h := toStr_isSome hj
  rw [hs] at h
  simpa using h.symm

theorem toStr_of_image (v : Val) (jv : JVal) (hs : scalarV v = true) (hu : Spec.Eval.isUndef v = false)
    (hj : toJsV v = some jv) : ∃ s, toStr? jv = some s :=
  Option.isSome_iff_exists.mp (by rw [toStr_isSome hj, hs, hu]; rfl)

theorem absV_concV (v : Val) (jv : JVal) (hs : scalarV v = true) (hj : toJsV v = some jv) : absV (concV v) = v := by
  have hi := @C04c.toJsV_inv ⟨[]⟩ _ _ hj
  cases jv <;> simp only at hi
  case num => rw [hi.1]; simp [concV, absV, int64_roundtrip _ hi.2]
  case arr | obj => obtain ⟨xs, rfl, _⟩ := hi; cases hs
  all_goals (rw [hi]; rfl)

/-- the text JavaScript prints for the image is the text Go prints for the value -/
theorem str_concV {v : Val} {jv : JVal} {s : Bytes} (hj : toJsV v = some jv) (hs : toStr? jv = some s) :
    Model.Eval.str (concV v) = some s := by
  have hi := @C04c.toJsV_inv ⟨[]⟩ _ _ hj
  cases jv <;> simp only at hi <;> simp only [toStr?, Option.some.injEq, reduceCtorEq] at hs <;> subst hs
  case num =>
    rw [hi.1]
    show Value.toString id (.int (Int64.ofInt _)) = _
    simp only [Value.toString, int64_roundtrip _ hi.2]
  case bool b => rw [hi]; cases b <;> rfl
  all_goals (rw [hi]; rfl)

section
variable [Globals]
variable (F : Bytes → List Expr → JVal → JOut) (hesc : EscapeHtmlIs F)

theorem goRun_stuck (x : JOut) (hx : ∀ jv, x ≠ .val jv) : ∀ (ds : List Directive) (esc : Bool) (y : JOut) (esc' : Bool),
    C04b.goRun (liftF F) Gen.directiveTable ds x esc = some (y, esc') → y = x
  | [], esc, y, esc', h => by
    simp only [C04b.goRun, Option.some.injEq, Prod.mk.injEq] at h
    exact h.1.symm
  | d :: ds, esc, y, esc', h => by
    simp only [C04b.goRun] at h
    cases hl : Directives.lookup Gen.directiveTable d.name with
    | none => simp [hl] at h
    | some e =>
      simp only [hl] at h
      have hsame : C04b.goApply (liftF F) e d x = x := by
        cases x with
        | val jv => exact absurd rfl (hx jv)
        | error =>
          unfold C04b.goApply
          split
          · rfl
          · split <;> rfl
        | unspec =>
          unfold C04b.goApply
          split
          · rfl
          · split <;> rfl
      rw [hsame] at h
      exact goRun_stuck x hx ds _ y esc' h

omit hesc in
/-- one step of Spec/Eval's loop over the Go library, on a scalar value with literal arguments -/
theorem runDirs_cons (env : SEnv) {d : Directive} (ds : List Directive) {e : Gen.DirectiveEntry} {lits : List Val}
    (hD : (modelDirSem Gen.directiveTable).lookup d.name = some (e.arities, e.impl, e.cancel))
    (har : e.arities.any (· == d.args.length) = true) (hlits : litVals d.args = some lits) (hlsc : lits.all scalarV = true)
    {v : Val} (hsc : scalarV v = true) (esc : Bool) :
    Spec.Eval.runDirs (some (modelDirSem Gen.directiveTable)) env (d :: ds) v esc =
      match applyDirective e.impl (concV v) (lits.map concV) with
      | some gv => Spec.Eval.runDirs (some (modelDirSem Gen.directiveTable)) env ds (absV gv) (if e.cancel then false else esc)
      | none => .error := by
  rw [Spec.Eval.runDirs]
  simp only [hD, har, Bool.not_true, Bool.false_eq_true, if_false, evalAll_lits env d.args lits hlits, Spec.Eval.Out.bind]
  have happ : (modelDirSem Gen.directiveTable).apply e.impl v lits =
      match applyDirective e.impl (concV v) (lits.map concV) with
      | some gv => .val (absV gv)
      | none => .error := by
    simp only [modelDirSem, hsc, hlsc, Bool.and_self, if_true]
    rfl
  rw [happ]
  cases applyDirective e.impl (concV v) (lits.map concV) <;> rfl

include hesc

theorem goApply_val {e : Gen.DirectiveEntry} (d : Directive) {jv x : JVal}
    (hno : ¬ (e.impl == Directives.sDirectiveNoAutoescape) = true) (hx : dirInput e jv = some x) :
    C04b.goApply (liftF F) e d (.val jv) = F d.name d.args x := by
  unfold dirInput at hx
  split at hx
  · rename_i hself
    cases hts : toStr? jv with
    | none => simp [hts] at hx
    | some s0 =>
      simp only [hts, Option.map_some, Option.some.injEq] at hx
      subst hx
      simp only [C04b.goApply, hno, Bool.false_eq_true, if_false, hself, if_true, liftF, JOut.bind, hesc jv, hts]
  · rename_i hself
    simp only [Option.some.injEq] at hx
    subst hx
    simp only [C04b.goApply, hno, Bool.false_eq_true, if_false, hself, liftF, JOut.bind]

/-- one step and the rest: where the reference's loop ends on a value that prints, Spec/Eval's loop over the Go
    library ends on a value with that JSON image, with the same flag; and the value that ENTERED the loop was a defined
    scalar -/
theorem goRun_sim (names : List Bytes) (hdir : ∀ name ∈ names, DirIs F name) (env : SEnv) :
    ∀ (ds : List Directive) (v : Val) (jv : JVal) (esc : Bool) (jr : JVal) (esc' : Bool) (s : Bytes),
      dirsOkIn names ds = true → toJsV v = some jv →
      C04b.goRun (liftF F) Gen.directiveTable ds (.val jv) esc = some (.val jr, esc') → toStr? jr = some s →
      scalarV v = true ∧ Spec.Eval.isUndef v = false ∧
        ∃ vr, Spec.Eval.runDirs (some (modelDirSem Gen.directiveTable)) env ds v esc = .val (vr, esc') ∧ toJsV vr = some jr
  | [], v, jv, esc, jr, esc', s, _, hj, h, hs => by
    simp only [C04b.goRun, Option.some.injEq, Prod.mk.injEq, JOut.val.injEq] at h
    obtain ⟨rfl, rfl⟩ := h
    exact ⟨(printable hj hs).1, (printable hj hs).2, v, rfl, hj⟩
  | d :: ds, v, jv, esc, jr, esc', s, hok, hj, h, hs => by
    obtain ⟨e, lits, hl, hD, har, hlits, hlsc, hname, hrest⟩ := dirsOkIn_cons hok
    simp only [C04b.goRun, hl] at h
    -- the step of the specification, given what the Go directive returns
    have hstep : scalarV v = true → ∀ gv, applyDirective e.impl (concV v) (lits.map concV) = some gv →
        Spec.Eval.runDirs (some (modelDirSem Gen.directiveTable)) env (d :: ds) v esc =
          Spec.Eval.runDirs (some (modelDirSem Gen.directiveTable)) env ds (absV gv) (if e.cancel then false else esc) :=
      fun hsc gv hgv => by rw [runDirs_cons env ds hD har hlits hlsc hsc, hgv]
    by_cases hno : (e.impl == Directives.sDirectiveNoAutoescape) = true
    · -- `id`, `noAutoescape`: nothing is called; the Go implementation is the identity
      have hap : C04b.goApply (liftF F) e d (.val jv) = .val jv := by simp [C04b.goApply, hno]
      rw [hap] at h
      have hgv : applyDirective e.impl (concV v) (lits.map concV) = some (concV v) := by
        simp [applyDirective, hno]
      obtain ⟨hsc, hu, vr, hvr, hjr⟩ := goRun_sim names hdir env ds v jv _ jr esc' s hrest hj h hs
      have hsame := absV_concV v jv hsc hj
      refine ⟨hsc, hu, vr, ?_, hjr⟩
      rw [hstep hsc _ hgv, hsame]
      exact hvr
    · have hin : names.contains d.name = true := by
        rcases hname with h1 | h1
        · exact absurd h1 hno
        · exact h1
      have hdis := hdir d.name (by simpa using hin) e hl
      cases hx : dirInput e jv with
      | none =>
        -- a self-escaping function on a value soy.$$escapeHtml is not read on: the loop is stuck
        exfalso
        unfold dirInput at hx
        split at hx
        · rename_i hself
          have hts : toStr? jv = none := by simpa using hx
          have hap : C04b.goApply (liftF F) e d (.val jv) = .unspec := by
            simp only [C04b.goApply, hno, Bool.false_eq_true, if_false, hself, if_true, liftF, JOut.bind, hesc jv, hts]
          rw [hap] at h
          have := goRun_stuck F .unspec (fun _ h => by cases h) ds _ _ _ h
          cases this
        · cases hx
      | some x =>
        have hap := goApply_val F hesc d hno hx
        rw [hap] at h
        cases hF : F d.name d.args x with
        | error =>
          rw [hF] at h
          have := goRun_stuck F .error (fun _ h => by cases h) ds _ _ _ h
          cases this
        | unspec =>
          rw [hF] at h
          have := goRun_stuck F .unspec (fun _ h => by cases h) ds _ _ _ h
          cases this
        | val r =>
          rw [hF] at h
          obtain ⟨hsc, hu, gv, hgv, hjr'⟩ := hdis d.args lits v jv x r hlits hj hx hF
          obtain ⟨_, _, vr, hvr, hjr⟩ := goRun_sim names hdir env ds (absV gv) r _ jr esc' s hrest hjr' h hs
          refine ⟨hsc, hu, vr, ?_, hjr⟩
          rw [hstep hsc _ hgv]
          exact hvr

omit hesc in
/-- the literal arguments of the admitted directives look nothing up: the loop does not depend on the environment -/
theorem runDirs_env (D : Spec.Eval.DirSem) (names : List Bytes) (env env' : SEnv) :
    ∀ (ds : List Directive) (v : Val) (esc : Bool), dirsOkIn names ds = true →
      Spec.Eval.runDirs (some D) env ds v esc = Spec.Eval.runDirs (some D) env' ds v esc
  | [], _, _, _ => rfl
  | d :: ds, v, esc, hok => by
    obtain ⟨e, lits, _, _, _, hlits, _, _, hrest⟩ := dirsOkIn_cons hok
    rw [Spec.Eval.runDirs, Spec.Eval.runDirs]
    cases D.lookup d.name with
    | none => rfl
    | some x =>
      obtain ⟨ar, impl, cancel⟩ := x
      simp only [evalAll_lits env d.args lits hlits, evalAll_lits env' d.args lits hlits]
      split
      · rfl
      · simp only [Spec.Eval.Out.bind]
        cases D.apply impl v lits with
        | val v' => exact runDirs_env D names env env' ds v' _ hrest
        | error => rfl
        | unspec => rfl

omit hesc in
theorem specPrint_env (names : List Bytes) (env env' : SEnv) (esc : Bool) (dirs : List Directive) (v : Val)
    (hok : dirsOkIn names dirs = true) :
    specPrint (some goLib) esc env dirs v = specPrint (some goLib) esc env' dirs v := by
  unfold specPrint
  rw [dirsOf_goLib, runDirs_env (modelDirSem Gen.directiveTable) names env env' dirs v esc hok]

theorem printLe_dirsIn (names : List Bytes) (hdir : ∀ name ∈ names, DirIs F name) :
    PrintLe F (dirsOkIn names) (some goLib) := by
  intro ae dirs env v s hok h
  by_cases hnil : dirs = []
  · subst hnil
    exact print_le_noDirs F ae hesc (some goLib) [] env v s rfl h
  · have hne : dirs.isEmpty = false := by cases dirs <;> simp_all
    -- where the JSON reading is silent the reference's print IS Spec/Eval's (the arguments are literals)
    cases hjs0 : refPrintJs F ae dirs v with
    | unspec =>
      simp only [refPrint, hjs0, hne, Bool.false_eq_true, if_false] at h
      rw [specPrint_env names env env0 (ae != .off) dirs v hok]
      exact h
    | error => simp [refPrint, hjs0] at h
    | val s' =>
    have hjs : refPrintJs F ae dirs v = .val s := by
      simp only [refPrint, hjs0, Out.val.injEq] at h
      rw [← h]; exact hjs0
    clear hjs0
    unfold refPrintJs at hjs
    cases hv : toJsV v with
    | none => simp [hv] at hjs
    | some jv =>
      simp only [hv] at hjs
      cases hgo : C04b.goPrint (liftF F) Gen.directiveTable ae dirs (.val jv) with
      | none => simp [hgo] at hjs
      | some o =>
        cases o with
        | error => simp [hgo] at hjs
        | unspec => simp [hgo] at hjs
        | val r =>
          simp only [hgo] at hjs
          cases hr : toStr? r with
          | none => simp [hr] at hjs
          | some s' =>
            simp only [hr, Out.val.injEq] at hjs
            subst hjs
            simp only [C04b.goPrint, Option.map_eq_some_iff] at hgo
            obtain ⟨⟨y, esc'⟩, hrun, hfin⟩ := hgo
            -- the loop ends on a value: the final call (if any) is applied to one
            cases y with
            | error => cases esc' <;> simp [liftF, JOut.bind] at hfin
            | unspec => cases esc' <;> simp [liftF, JOut.bind] at hfin
            | val jr =>
              cases esc' with
              | false =>
                simp only [Bool.false_eq_true, if_false, JOut.val.injEq] at hfin
                subst hfin
                obtain ⟨_, hu, vr, hvr, hjr⟩ := goRun_sim F hesc names hdir env dirs v jv _ jr false s' hok hv hrun hr
                have hshow := C04c.showVal_toStr vr jr s' hjr hr
                simp [specPrint, dirsOf_goLib, hu, hvr, hshow, Spec.Eval.Out.bind]
              | true =>
                simp only [if_true, liftF, JOut.bind, hesc jr] at hfin
                cases hs0 : toStr? jr with
                | none => simp [hs0] at hfin
                | some s0 =>
                  simp only [hs0, JOut.val.injEq] at hfin
                  subst hfin
                  simp only [toStr?, Option.some.injEq] at hr
                  subst hr
                  obtain ⟨_, hu, vr, hvr, hjr⟩ := goRun_sim F hesc names hdir env dirs v jv _ jr true s0 hok hv hrun hs0
                  have hshow := C04c.showVal_toStr vr jr s0 hjr hs0
                  simp [specPrint, dirsOf_goLib, hu, hvr, hshow, Spec.Eval.Out.bind]

omit hesc

theorem printLe_dirs (h : SoyutilsIs F) : PrintLe F dirsOk (some goLib) :=
  printLe_dirsIn F h.escapeHtml libNames h.all

/-- A whole registry, prints with lists of the directives `names`.  IF soy.$$escapeHtml is read as
    `EscapeHtmlIs` says and each soyutils function of `names` computes what the Go directive computes (`DirIs`) THEN what
    the generated function `name` — its calls served by the table of the generated functions, `TableOk` — returns on the
    JSON image of `data` is what Spec/Eval.render renders for the template `name` on `data` WITH THE GO LIBRARY (`goLib`:
    the Lean models of the Go directives).  A registry that uses no directive the real soyutils.js is known to compute
    differently needs no hypothesis the real library falsifies; with `names = []` (`|id`, `|noAutoescape` only)
    `EscapeHtmlIs` alone is left. -/
theorem gen_correct_registry_goLib_in_partial (hesc : EscapeHtmlIs F) (names : List Bytes) (hdir : ∀ name ∈ names, DirIs F name)
    (reg : Registry.Reg) (table : List JsFunc) (fuel : Nat)
    (msgs : Bool) (hdirs : ∀ t ∈ reg, dirBlock (dirsOkIn names) msgs t.body = true)
    (htab : TableOk reg table) (globals : Spec.Eval.Binds) (ij : Option Spec.Eval.Binds) (name : Bytes)
    (data : Spec.Eval.Binds) (jd : List (Bytes × JVal)) (hj : C04c.toJsKvs data = some jd)
    (jij : Option (List (Bytes × JVal))) (hij : IjRel ij jij) (hgl : GlobRel globals) (d : Nat) (r : JVal)
    (hx : callFn F table fuel d name (.obj jd) jij = .val r) :
    ∃ text, Spec.Eval.render reg globals ij msgs name data d (some goLib) = .val text ∧ r = .str text :=
  gen_correct_registry_dirs_partial F reg table fuel hesc (dirsOkIn names) (some goLib) (printLe_dirsIn F hesc names hdir) msgs hdirs
    htab globals ij name data jd hj jij hij hgl d r hx

/-- … for ARBITRARY lists of the directives both backends implement (`dirsOk` = `dirsOkIn libNames`), under `SoyutilsIs F`
    (`EscapeHtmlIs` and one `DirIs` per function) -/
theorem gen_correct_registry_goLib_partial (hlib : SoyutilsIs F) (reg : Registry.Reg) (table : List JsFunc) (fuel : Nat)
    (msgs : Bool) (hdirs : ∀ t ∈ reg, dirBlock dirsOk msgs t.body = true)
    (htab : TableOk reg table) (globals : Spec.Eval.Binds) (ij : Option Spec.Eval.Binds) (name : Bytes)
    (data : Spec.Eval.Binds) (jd : List (Bytes × JVal)) (hj : C04c.toJsKvs data = some jd)
    (jij : Option (List (Bytes × JVal))) (hij : IjRel ij jij) (hgl : GlobRel globals) (d : Nat) (r : JVal)
    (hx : callFn F table fuel d name (.obj jd) jij = .val r) :
    ∃ text, Spec.Eval.render reg globals ij msgs name data d (some goLib) = .val text ∧ r = .str text :=
  gen_correct_registry_goLib_in_partial F hlib.escapeHtml libNames hlib.all reg table fuel msgs hdirs htab globals ij name data jd hj
    jij hij hgl d r hx

/-- The functions the generator writes for a file of the fragment (`toFile`; by
    `visitSoyFile_renders` the end of the generated text), prints with arbitrary lists of the directives both backends
    implement, under `SoyutilsIs F`: what the function `name` returns is what Spec/Eval.render renders with the Go library -/
theorem gen_correct_file_goLib_partial (hlib : SoyutilsIs F) (fuel : Nat) (f : SoyFile)
    (rr : List JsFunc × Scope) (hfile : toFile f = some rr) (msgs : Bool)
    (hdirs : ∀ t ∈ regOfFile f, dirBlock dirsOk msgs t.body = true)
    (globals : Spec.Eval.Binds) (ij : Option Spec.Eval.Binds) (name : Bytes)
    (data : Spec.Eval.Binds) (jd : List (Bytes × JVal)) (hj : C04c.toJsKvs data = some jd)
    (jij : Option (List (Bytes × JVal))) (hij : IjRel ij jij) (hgl : GlobRel globals) (d : Nat) (r : JVal)
    (hx : callFn F rr.1 fuel d name (.obj jd) jij = .val r) :
    ∃ text, Spec.Eval.render (regOfFile f) globals ij msgs name data d (some goLib) = .val text ∧ r = .str text :=
  gen_correct_registry_goLib_partial F hlib (regOfFile f) rr.1 fuel msgs hdirs (tableOk_of_file f rr hfile) globals ij name data jd hj
    jij hij hgl d r hx

/-- STATEMENT LEVEL: a list of commands met inside a template of the registry (generator scope `sc`, output variable
    `buf`), prints with directives, under `SoyutilsIs F`: running the generated statements appends to `buf` exactly the
    text Spec/Eval.renderCmds renders with the Go library -/
theorem gen_correct_cmds_goLib_partial (hlib : SoyutilsIs F) (reg : Registry.Reg) (table : List JsFunc) (fuel : Nat) (hasBundle : Bool)
    (hdirs : ∀ t ∈ reg, dirBlock dirsOk hasBundle t.body = true) (htab : TableOk reg table) (d : Nat) (ae : Autoescape) (buf : Bytes)
    (entry : Spec.Eval.Binds) (cmds : CmdList) (hpl : dirCmds dirsOk hasBundle cmds = true) (sc : Scope) (r : JsStmts × Scope)
    (h : toCmds ae buf cmds sc = some r) (env : SEnv) (jenv jenv' : JEnv) (out : Bytes) (hs : ScOk sc) (hg : GoodBuf sc buf)
    (hrel : C04c.EnvRel entry sc env jenv) (hb : BufIs buf jenv out) (fuel' : Nat)
    (hx : execStmts F (callFn F table fuel d) fuel' r.1 jenv = .ok jenv') :
    ∃ text, Spec.Eval.renderCmds reg hasBundle (ae != .off) entry (Spec.Eval.renderTmpl reg hasBundle (some goLib) d) (some goLib)
        cmds env = .val text ∧ BufIs buf jenv' (out ++ text) :=
  gen_correct_registry_cmds_dirs_partial F reg table fuel hlib.escapeHtml dirsOk (some goLib) (printLe_dirs F hlib) hasBundle hdirs htab d
    ae buf entry cmds hpl sc r h env jenv jenv' out hs hg hrel hb fuel' hx

end

section Examples

-- the directive lists the theorems admit …
example : dirsOk [⟨0, b!"truncate", [.int 0 5]⟩, ⟨0, b!"escapeUri", []⟩, ⟨0, b!"noAutoescape", []⟩] = true := by decide
example : dirsOk [⟨0, b!"insertWordBreaks", [.int 0 8]⟩, ⟨0, b!"json", []⟩, ⟨0, b!"id", []⟩] = true := by decide
-- … and those they do not: no Go implementation, a wrong number of arguments, an argument that is no literal, unknown
example : dirsOk [⟨0, b!"bidiSpanWrap", []⟩] = false := by decide
example : dirsOk [⟨0, b!"truncate", []⟩] = false := by decide
example : dirsOk [⟨0, b!"truncate", [.dataRef 0 b!"n" .nil]⟩] = false := by decide
example : dirsOk [⟨0, b!"nope", []⟩] = false := by decide
-- with no name admitted: `|id`, `|noAutoescape` and nothing else — no `DirIs` is asked (`EscapeHtmlIs` alone)
example : dirsOkIn [] [⟨0, b!"noAutoescape", []⟩, ⟨0, b!"id", []⟩] = true := by decide
example : dirsOkIn [] [⟨0, b!"escapeUri", []⟩] = false := by decide

/-- a library that is read at soy.$$escapeHtml only (Ops/JsSem `libF`, the library of the sub-check C04sem) -/
def escF (name : Bytes) (args : List Expr) (jv : JVal) : JOut :=
  if name == escapeHtmlName && args.isEmpty then
    match toStr? jv with
    | some s => .val (.str (htmlEscape s))
    | none => .unspec
  else .unspec

theorem escF_escape : EscapeHtmlIs escF := by
  intro jv
  simp only [escF, escapeHtmlName, List.isEmpty_nil]
  cases toStr? jv <;> simp

/-- a function that is not read satisfies its obligation (it never returns a value) -/
theorem escF_other (name : Bytes) (h : (name == escapeHtmlName) = false) : DirIs escF name := by
  intro e _ args lits v jv x r _ _ _ hF
  simp [escF, h] at hF

/-- … and soy.$$escapeHtml read as `htmlEscape ∘ ToString` satisfies the obligation of the directive `|escapeHtml`:
    the Go directive is `htmlEscape` of the value's text -/
theorem escF_escapeHtmlDir : DirIs escF b!"escapeHtml" := by
  intro e hl args lits v jv x r hlits hj hx hF
  have he : e = ⟨b!"escapeHtml", [0], true, Directives.sDirectiveEscapeHtml⟩ := by
    have : Directives.lookup Gen.directiveTable b!"escapeHtml" = some ⟨b!"escapeHtml", [0], true, Directives.sDirectiveEscapeHtml⟩ := by
      decide
    rw [this] at hl
    exact (Option.some.inj hl).symm
  subst he
  have hx' : x = jv := by
    have : dirInput ⟨b!"escapeHtml", [0], true, Directives.sDirectiveEscapeHtml⟩ jv = some jv := by
      unfold dirInput
      rw [if_neg (by decide)]
    rw [this] at hx
    exact (Option.some.inj hx).symm
  subst hx'
  unfold escF at hF
  split at hF
  · rename_i hc
    simp only [Bool.and_eq_true] at hc
    have hargs : args = [] := by simpa using hc.2
    subst hargs
    simp only [litVals, Option.some.injEq] at hlits
    subst hlits
    cases hs : toStr? x with
    | none => simp [hs] at hF
    | some s =>
      simp only [hs, JOut.val.injEq] at hF
      subst hF
      refine ⟨(printable hj hs).1, (printable hj hs).2, .str (htmlEscape s), ?_, rfl⟩
      simp [applyDirective, str_concV hj hs, Directives.applyImpl, Directives.sDirectiveEscapeHtml, Directives.sDirectiveNoAutoescape,
        Directives.sDirectiveJson, Directives.sDirectiveTruncate, Directives.sDirectiveInsertWordBreaks,
        Directives.sDirectiveChangeNewlineToBr]
  · cases hF

/-- the hypotheses are satisfiable together -/
theorem escF_soyutils : SoyutilsIs escF :=
  { escapeHtml := escF_escape
    escapeHtmlDir := escF_escapeHtmlDir
    changeNewlineToBr := escF_other _ (by decide)
    escapeJsString := escF_other _ (by decide)
    escapeUri := escF_other _ (by decide)
    insertWordBreaks := escF_other _ (by decide)
    json := escF_other _ (by decide)
    truncate := escF_other _ (by decide) }

end Examples

end SoyVerif.Props.C04g
