/-
  C15 / C17 — bodies whose pieces are text runs, arbitrary print commands (written as `PrintNode.String()` writes them)
  and block comments `/*c*/`, from the bytes, lexer and parser: `body_source_spec_cmds_comments`.  This is the general
  class: the bodies of Props/C17d (`body_source_spec_cmds`, the template and namespace frames) are the bodies without
  comments of this file and are derived from it there.  Props/C15c's `body_source_spec_comments` has the same shape for
  the tag `{$ident}` only, but with the positions of the nodes and without table hypotheses.

  Lexer: `lex_xbody` composes the runs `text_cmd_runs` (Props/C17c) and `text_cmt_runs` (Props/C15c); the text run still
  to be read is a parameter of the induction, and the body may stand anywhere in the input, in front of the end of the
  input or of the `{` of a closing command.  Every item has its exact END offset.

  Parser: `parse_xbody_until` is the induction over the pieces with the pending run of Comment tokens as a parameter,
  for any until-set that holds neither Text nor `{` nor a first token of an expression (`hu`, `hu1`, `hu2`) and any
  tokens that end the list, so that the frames of Props/C17d can use it for a body inside `{template}` … `{/template}`;
  `parse_xbody` is the case of the top level (until EOF).  The node list is stated modulo positions (`NodesMatchX`): the `pos` fields of the RawText and print nodes are not
  described.

  A body is described twice over: with and without what ends it — `itemsOfX` / `itemsXB` (joined by `itemsOfX_eq`) for the
  items, `tksOfX` / `tksXB` (`tksOfX_eq`) for the tokens; the first of each pair states the theorems about a whole file,
  the second is what the inductions run over, because a body inside a frame ends with the frame's tokens, not with EOF.
  `itemsOfX_tk` / `itemsXB_tk` join items and tokens.
-/
import SoyVerif.Props.C17c

namespace SoyVerif.Props.C15d
open SoyVerif SoyVerif.Model SoyVerif.Model.Lex SoyVerif.Model.Parser SoyVerif.Model.PrintTokens
open SoyVerif.Model.Printer SoyVerif.Lemmas.LexPrint SoyVerif.Lemmas.ParserBasic
open SoyVerif.Props.C17c SoyVerif.Props.C17d
open SoyVerif.Props.C15c (Holds textOK textItem TextByte dropped cmtOK Runs holds_of_inpAt)

/-- a piece of a body: a stretch of text, a print command, or the block comment `/*c*/` -/
inductive XPiece where
  | text (t : Bytes)
  | cmd (arg : Expr) (dirs : List Directive)
  | cmt (c : Bytes)

abbrev XBody := List XPiece

def XPiece.isText : XPiece → Bool
  | .text _ => true
  | _ => false

def XPiece.isCmt : XPiece → Bool
  | .cmt _ => true
  | _ => false

def cmtSrc (c : Bytes) : Bytes := 47 :: 42 :: (c ++ [42, 47])

theorem cmtSrc_length (c : Bytes) : (cmtSrc c).length = c.length + 4 := by simp [cmtSrc]

section
variable (ff : UInt64 → Bytes)

def srcOfX : XBody → Bytes
  | [] => []
  | .text t :: r => t ++ srcOfX r
  | .cmd a d :: r => printPrint ff a d ++ srcOfX r
  | .cmt c :: r => cmtSrc c ++ srcOfX r

/-- well-formed: text pieces are `textOK` and never adjacent, a text piece directly before a comment does not end
    with `/`; print commands are `CmdOk`; comments are `cmtOK` (non-empty, ASCII, no `*` inside) -/
def WFX : XBody → Prop
  | [] => True
  | .text t :: r =>
    textOK t ∧ (∀ p ∈ r.head?, p.isText = false ∧ (p.isCmt = true → (t.getD (t.length - 1) 0).toNat ≠ 47)) ∧ WFX r
  | .cmd a d :: r => CmdOk ff a d ∧ WFX r
  | .cmt c :: r => cmtOK c ∧ WFX r

/-- the items `lex` sends for a body that begins at byte `q` (exact END offsets) -/
def itemsOfX : Nat → XBody → List Item
  | q, [] => [⟨.tEOF, q, []⟩]
  | q, .text t :: r => textItem t (q + t.length) ++ itemsOfX (q + t.length) r
  | q, .cmd a d :: r => tagItems ff q a d ++ itemsOfX (q + 1 + (spell (piecesBody ff a d)).length + 1) r
  | q, .cmt c :: r => ⟨.tComment, q + 4 + c.length, cmtSrc c⟩ :: itemsOfX (q + 4 + c.length) r

/-- … without the EOF item (`itemsOfX_eq`) -/
def itemsXB : Nat → XBody → List Item
  | _, [] => []
  | q, .text t :: r => textItem t (q + t.length) ++ itemsXB (q + t.length) r
  | q, .cmd a d :: r => tagItems ff q a d ++ itemsXB (q + 1 + (spell (piecesBody ff a d)).length + 1) r
  | q, .cmt c :: r => ⟨.tComment, q + 4 + c.length, cmtSrc c⟩ :: itemsXB (q + 4 + c.length) r

theorem itemsOfX_eq : ∀ (b : XBody) (q : Nat), itemsOfX ff q b = itemsXB ff q b ++ [⟨.tEOF, q + (srcOfX ff b).length, []⟩]
  | [], q => rfl
  | .text t :: r, q => by simp [itemsOfX, itemsXB, srcOfX, itemsOfX_eq r, Nat.add_assoc]
  | .cmd a d :: r, q => by simp [itemsOfX, itemsXB, srcOfX, itemsOfX_eq r, printPrint_length, Nat.add_assoc]
  | .cmt c :: r, q => by simp [itemsOfX, itemsXB, srcOfX, itemsOfX_eq r, cmtSrc_length, Nat.add_assoc, Nat.add_comm 4]

variable (LT : LexTableOK)
include LT

/-- `t`: the text run still to be read; `post`: nothing, or the `{` of a closing command -/
theorem lex_xbody {inp : Array UInt8} (post : Bytes) (hp : post = [] ∨ ∃ p, post = 123 :: p) :
    ∀ (b : XBody) (t : Bytes) (q : Nat), WFX ff b → (t = [] ∨ textOK t) →
    (t ≠ [] → ∀ p ∈ b.head?, p.isText = false ∧ (p.isCmt = true → (t.getD (t.length - 1) 0).toNat ≠ 47)) →
    InpAt inp q (t ++ (srcOfX ff b ++ post)) →
    Runs inp .text q (endSt post) (q + t.length + (srcOfX ff b).length)
      (textItem t (q + t.length) ++ (itemsXB ff (q + t.length) b ++ endItems post (q + t.length + (srcOfX ff b).length)))
      (7 * (srcOfX ff b).length + 1)
  | [], t, q, _, ht, _, hin => by
    simp only [srcOfX, List.nil_append, List.length_nil, Nat.add_zero, itemsXB] at hin ⊢
    exact text_end_runs ht hin hp
  | .text t' :: r, t, q, hwf, ht, hpend, hin => by
    have ht0 : t = [] := by
      rcases ht with h | h
      · exact h
      · have h0 := h.1
        have := (hpend (by intro e; rw [e] at h0; simp at h0) (.text t') (by simp)).1
        simp [XPiece.isText] at this
    subst ht0
    have hl := hwf.1.1
    refine (lex_xbody post hp r t' q hwf.2.2 (Or.inr hwf.1) (fun _ => hwf.2.1) (by simpa [srcOfX] using hin)).mono
      (by simp [srcOfX]; omega) ?_ (by simp only [srcOfX, List.length_append]; omega)
    simp [itemsXB, textItem, srcOfX, Nat.add_assoc]
  | .cmd a d :: r, t, q, hwf, ht, _, hin => by
    have hin' : InpAt inp q (t ++ (printPrint ff a d ++ (srcOfX ff r ++ post))) := by simpa [srcOfX] using hin
    have hlenP := printPrint_length ff a d
    have hnext : InpAt inp (q + t.length + 1 + (spell (piecesBody ff a d)).length + 1) ([] ++ (srcOfX ff r ++ post)) := by
      have := inpAt_append (a := printPrint ff a d) (inpAt_append hin'); rw [hlenP] at this; simpa [Nat.add_assoc] using this
    have h2 := lex_xbody post hp r [] _ hwf.2 (Or.inl rfl) (fun h => absurd rfl h) hnext
    refine ((text_cmd_runs ff LT t ht a d hwf.1 _ hin').trans h2).mono (by simp [srcOfX, hlenP]; omega) ?_
      (by simp only [srcOfX, List.length_append, hlenP]; omega)
    simp [itemsXB, textItem, srcOfX, hlenP, Nat.add_assoc]
  | .cmt c :: r, t, q, hwf, ht, hpend, hin => by
    have hin' : InpAt inp q (t ++ (cmtSrc c ++ (srcOfX ff r ++ post))) := by simpa [srcOfX] using hin
    have hlast : (t.getD (t.length - 1) 0).toNat ≠ 47 := by
      by_cases ht0 : t = []
      · subst ht0; decide
      · exact (hpend ht0 (.cmt c) (by simp)).2 rfl
    have hnext : InpAt inp (q + t.length + 4 + c.length) ([] ++ (srcOfX ff r ++ post)) := by
      have := inpAt_append (a := cmtSrc c) (inpAt_append hin'); rw [cmtSrc_length] at this
      simpa [Nat.add_assoc, Nat.add_comm c.length] using this
    have h1 := C15c.text_cmt_runs ht hwf.1 hlast (holds_of_inpAt (post := []) (by simpa [cmtSrc] using hin'))
    have h2 := lex_xbody post hp r [] _ hwf.2 (Or.inl rfl) (fun h => absurd rfl h) hnext
    refine (h1.trans h2).mono (by simp [srcOfX, cmtSrc_length]; omega) ?_
      (by simp only [srcOfX, List.length_append, cmtSrc_length]; omega)
    simp [itemsXB, textItem, srcOfX, cmtSrc, Nat.add_assoc, Nat.add_comm 4]

theorem lexAll_xbody (b : XBody) (h : WFX ff b) : lexAll (srcOfX ff b) false = .items (itemsOfX ff 0 b) := by
  have := lex_xbody ff LT [] (Or.inl rfl) b [] 0 h (Or.inl rfl) (fun h => absurd rfl h) (inp := (srcOfX ff b).toArray)
    (by simpa using inpAt_zero (srcOfX ff b))
  exact (this.mono rfl (by simp [textItem, endItems, itemsOfX_eq]) (Nat.le_refl _)).lexAll_eq (by omega)

end

/-! ## parser steps for comments over the position-free view `At st.p tks` (C17d's view)

  `textOrTag` computes `seenComment` from the token it is handed and then calls `skipComments`; everything behind that
  depends on the token `skipComments` returns, and on `seenComment` only in the Text branch.  So a comment run in front of
  a `{` or EOF changes nothing (C17c's `textOrTag_print` and the EOF round apply unchanged), and in front of a Text token
  it sets trimBefore. -/

open SoyVerif.Model.FileParser (FState FP Node NodeList textOrTag itemListLoop skipComments collectText rawtextP parseFile parseSource)
open SoyVerif.Spec (joinLines)
open SoyVerif.Props.C15b (skipComments_id textOrTag_halt textOrTag_text)

section
variable (pf : Bytes → Option UInt64)

/-- C15b's `skipComments_spec` in the position-free view: the stream whose tokens are `cs ++ nx :: s` is `cs' ++ x :: s'` -/
theorem skip_run (cs : List Tk) (hcs : ∀ c ∈ cs, c.typ = .tComment) (c0 : Item) (hc0 : c0.typ = .tComment)
    (nx : Tk) (s : List Tk) (hnx : nx.typ ≠ .tComment) (f : Nat) (st : FState) (hj : Just st.p c0 (cs ++ nx :: s)) :
    ∃ n p', skipComments (f + cs.length + 2) c0 st = .ok (n, { st with p := p' }) ∧ n.typ = nx.typ ∧ n.val = nx.val ∧
      Just p' n s := by
  obtain ⟨h0, htop, hm⟩ := just_iff.mp hj
  obtain ⟨cs', r, hst, rfl, hr⟩ := List.map_eq_append_iff.mp hm
  obtain ⟨x, s', rfl, rfl, rfl⟩ := List.map_eq_cons_iff.mp hr
  obtain ⟨st', hsk, hs', ht', hp', hfr⟩ := C15b.skipComments_spec (c0 :: cs') (f + (cs'.map Item.tk).length + 2) c0 x s' st
    (by simp) (by omega) htop (by rw [hst]; rfl)
    (fun c hc => by
      rcases List.mem_cons.mp hc with rfl | hc
      · exact hc0
      · exact hcs c.tk (List.mem_map_of_mem hc))
    hnx
  obtain ⟨p', ns', al', im'⟩ := st'
  obtain ⟨rfl, rfl, rfl⟩ : ns' = st.ns ∧ al' = st.aliases ∧ im' = st.inmsg := hfr
  exact ⟨x, p', hsk, rfl, rfl, just_iff.mpr ⟨by have : p'.peekCount ≤ st.p.peekCount := hp'; omega, ht', hs' ▸ rfl⟩⟩

/-- whatever `skipComments` returns, if it is neither Comment nor Text, `textOrTag` goes on as if handed that token (the
    token handed in matters only for the trim flag of a Text token) -/
theorem textOrTag_skip' (ef fuel : Nat) (untl : List ItemType) (c0 n : Item) (st st1 : FState)
    (hsk : skipComments (fuel + 1) c0 st = .ok (n, st1)) (hn : n.typ ≠ .tComment) (hnt : n.typ ≠ .tText) :
    textOrTag pf ef (fuel + 2) c0 untl st = textOrTag pf ef (fuel + 2) n untl st1 := by
  have hnt' : (n.typ == ItemType.tText) = false := by simpa using hnt
  conv => lhs; unfold textOrTag
  conv => rhs; unfold textOrTag
  simp only
  rw [bind_ok hsk, bind_ok (skipComments_id fuel n st1 hn)]
  simp only [hnt', Bool.false_eq_true, if_false]

set_option linter.unusedVariables false in
/-- `textOrTag_skip'` where `c0` is a comment (`hc0` is not needed) -/
theorem textOrTag_skip (ef fuel : Nat) (untl : List ItemType) (c0 n : Item) (st st1 : FState)
    (hc0 : c0.typ = .tComment) (hsk : skipComments (fuel + 1) c0 st = .ok (n, st1)) (hn : n.typ ≠ .tComment)
    (hnt : n.typ ≠ .tText) :
    textOrTag pf ef (fuel + 2) c0 untl st = textOrTag pf ef (fuel + 2) n untl st1 :=
  textOrTag_skip' pf ef fuel untl c0 n st st1 hsk hn hnt

/-- `textOrTag` handed a token `tok0` behind which `skipComments` finds the Text token `t`, followed by a token `nx` of
    another type: the RawText node of the text normalised with trimBefore = "`tok0` is a comment" and trimAfter = "`nx` is
    a comment" (none if that is empty); `nx` stays unread -/
theorem textOrTag_textG (ef fuel : Nat) (untl : List ItemType) (hu : untl.contains .tText = false) (tok0 t : Item)
    (ht : t.typ = .tText) (st0 st : FState) (hsk : skipComments (fuel + 1) tok0 st0 = .ok (t, st))
    (nx : Tk) (hnx : nx.typ ≠ .tText) (s : List Tk) (hst : At st.p (nx :: s)) :
    ∃ p', textOrTag pf ef (fuel + 2) tok0 untl st0 =
        .ok ((if (joinLines t.val (tok0.typ == .tComment) (nx.typ == .tComment)).isEmpty then none
              else some (.rawText t.pos (joinLines t.val (tok0.typ == .tComment) (nx.typ == .tComment))), false), { st with p := p' }) ∧
      At p' (nx :: s) := by
  obtain ⟨n1, _, hn1, p1, rfl, hty1, hv1, hj1⟩ := Ok.fnext hst
  obtain ⟨_, _, hb2, p2, rfl, ha2⟩ := Ok.fbackup (st := { st with p := p1 }) hj1
  rw [tk_eq hty1 hv1] at ha2
  obtain ⟨n3, _, hn3, p3, rfl, hty3, hv3, hj3⟩ := Ok.fnext (st := { st with p := p2 }) ha2.at
  obtain ⟨_, _, hb4, p4, rfl, ha4⟩ := Ok.fbackup (st := { st with p := p3 }) hj3
  rw [tk_eq hty3 hv3] at ha4
  have hct : collectText (fuel + 1) t.val { st with p := p2 } = .ok ((t.val, n3), { st with p := p3 }) := by
    unfold collectText
    rw [bind_ok hn3]
    have : (n3.typ != ItemType.tText) = true := by rw [hty3]; simpa using hnx
    simp only [this, if_true]
    rfl
  refine ⟨p4, ?_, ha4.at⟩
  rw [textOrTag_text pf hsk ht hu hn1 hb2 hct hb4, hty3]


theorem textOrTag_until (ef fuel : Nat) (untl : List ItemType) (tok0 n : Item) (st0 st1 : FState)
    (hsk : skipComments (fuel + 1) tok0 st0 = .ok (n, st1)) (hu : untl.contains n.typ = true) :
    textOrTag pf ef (fuel + 2) tok0 untl st0 = .ok ((none, true), st1) :=
  textOrTag_halt pf hsk hu

/-- the head of a round of `itemList`: `next` reads `tok0` — the first of the pending comment tokens `cs`, or `nx` itself
    if there is none — and `skipComments` returns `nx` -/
theorem head_run (cs : List Tk) (hcs : ∀ c ∈ cs, c.typ = .tComment) (nx : Tk) (hnx : nx.typ ≠ .tComment) (s : List Tk)
    (f : Nat) (st : FState) (hst : At st.p (cs ++ nx :: s)) :
    ∃ tok0 p0 n p', FileParser.next st = .ok (tok0, { st with p := p0 }) ∧
      skipComments (f + cs.length + 2) tok0 { st with p := p0 } = .ok (n, { st with p := p' }) ∧
      (tok0.typ == .tComment) = !cs.isEmpty ∧ n.typ = nx.typ ∧ n.val = nx.val ∧ Just p' n s := by
  cases cs with
  | nil =>
    obtain ⟨n, _, hn, p1, rfl, hty, hv, hj1⟩ := Ok.fnext (st := st) hst
    refine ⟨n, p1, n, p1, hn, skipComments_id (f + 0 + 1) n _ (by rw [hty]; exact hnx), ?_, hty, hv, hj1⟩
    have : (n.typ == ItemType.tComment) = false := by rw [hty]; simpa using hnx
    rw [this]; rfl
  | cons c cs' =>
    obtain ⟨c0, _, hn, p1, rfl, hty, hv, hj1⟩ := Ok.fnext (st := st) hst
    have hc0 : c0.typ = .tComment := by rw [hty]; exact hcs c (by simp)
    obtain ⟨m, p2, hs, a, b, d⟩ := skip_run cs' (fun x hx => hcs x (by simp [hx])) c0 hc0 nx s hnx (f + 1) { st with p := p1 } hj1
    refine ⟨c0, p1, m, p2, hn, ?_, by simp [hc0], a, b, d⟩
    have e : f + (c :: cs').length + 2 = f + 1 + cs'.length + 2 := by simp; omega
    rw [e]; exact hs

end

section
open SoyVerif.Model.FileParser (FState FP Node NodeList textOrTag itemListLoop skipComments parseFile parseSource)
open SoyVerif.Spec (joinLines)
open SoyVerif.Props.C15c (ctextNodes toList_append)
variable (ff : UInt64 → Bytes) (pf : Bytes → Option UInt64)

/-- the tokens of the items `itemsOfX` (`itemsOfX_tk`) -/
def tksOfX : XBody → List Tk
  | [] => [⟨.tEOF, []⟩]
  | .text t :: r => textTk t ++ tksOfX r
  | .cmd a d :: r => ⟨.tLeftDelim, [123]⟩ :: (unsp (piecesBody ff a d) ++ tRD :: tksOfX r)
  | .cmt c :: r => ⟨.tComment, cmtSrc c⟩ :: tksOfX r

theorem itemsOfX_tk : ∀ (b : XBody) (q : Nat), (itemsOfX ff q b).map Item.tk = tksOfX ff b
  | [], _ => rfl
  | .text t :: r, q => by simp [itemsOfX, tksOfX, textItem_tk, itemsOfX_tk r]
  | .cmd a d :: r, q => by simp [itemsOfX, tksOfX, tagItems, emitT_tk, itemsOfX_tk r, Item.tk, tRD]
  | .cmt c :: r, q => by simp [itemsOfX, tksOfX, itemsOfX_tk r, Item.tk]

/-- the tokens of a body without the EOF token (`tksOfX_eq`) -/
def tksXB : XBody → List Tk
  | [] => []
  | .text t :: r => textTk t ++ tksXB r
  | .cmd a d :: r => ⟨.tLeftDelim, [123]⟩ :: (unsp (piecesBody ff a d) ++ tRD :: tksXB r)
  | .cmt c :: r => ⟨.tComment, cmtSrc c⟩ :: tksXB r

theorem tksOfX_eq : ∀ (b : XBody), tksOfX ff b = tksXB ff b ++ [⟨.tEOF, []⟩]
  | [] => rfl
  | .text t :: r => by simp [tksOfX, tksXB, tksOfX_eq r]
  | .cmd a d :: r => by simp [tksOfX, tksXB, tksOfX_eq r]
  | .cmt c :: r => by simp [tksOfX, tksXB, tksOfX_eq r]

theorem itemsXB_tk : ∀ (b : XBody) (q : Nat), (itemsXB ff q b).map Item.tk = tksXB ff b
  | [], _ => rfl
  | .text t :: r, q => by simp [itemsXB, tksXB, textItem_tk, itemsXB_tk r]
  | .cmd a d :: r, q => by simp [itemsXB, tksXB, tagItems, emitT_tk, itemsXB_tk r, Item.tk, tRD]
  | .cmt c :: r, q => by simp [itemsXB, tksXB, itemsXB_tk r, Item.tk]

def nextIsCmt (r : XBody) : Bool :=
  match r.head? with
  | some p => p.isCmt
  | none => false

/-- every print command of the body is canonical (what the expression parser returns) -/
def CanonX : XBody → Prop
  | [] => True
  | .text _ :: r => CanonX r
  | .cmd a d :: r => CmdCanon ff pf a d ∧ CanonX r
  | .cmt _ :: r => CanonX r

/-- the node list of a body, MODULO POSITIONS; the flag = the piece directly before is a comment.  Per text piece `t` the
    RawText node of `joinLines t tb ta` (`tb` = the piece directly before is a comment, `ta` = the piece directly after is
    one; no node if the lexer drops the piece or the text normalises to nothing), per print command its print node,
    nothing per comment -/
def NodesMatchX : Bool → List Node → XBody → Prop
  | _, nl, [] => nl = []
  | tb, nl, .text t :: r => ∃ p rest, nl = ctextNodes t p tb (nextIsCmt r) ++ rest ∧ NodesMatchX false rest r
  | _, nl, .cmd a d :: r => ∃ pos e' ds' rest, nl = Node.print pos e' ds' :: rest ∧ erase e' = erase a ∧
      ds'.map eraseDir = d.map eraseDir ∧ NodesMatchX false rest r
  | _, nl, .cmt _ :: r => NodesMatchX true nl r

/-- the fuel suffices for every command of the body: `ef` for its expressions (`ExprFuel`), `G` for the loops over its
    directives and their arguments -/
def FuelX (ef G : Nat) : XBody → Prop
  | [] => True
  | .text _ :: r => FuelX ef G r
  | .cmd a d :: r => (ExprFuel ff ef a d ∧ (∀ x ∈ d, x.args.length + d.length + 1 < G) ∧ d.length < G) ∧ FuelX ef G r
  | .cmt _ :: r => FuelX ef G r

theorem tksXB_head (r : XBody) (h : ∀ p ∈ r.head?, p.isText = false) (nx0 : Tk) (s0 : List Tk) (hn1 : nx0.typ ≠ .tText)
    (hn2 : nx0.typ ≠ .tComment) :
    ∃ nx s, tksXB ff r ++ nx0 :: s0 = nx :: s ∧ nx.typ ≠ .tText ∧ (nx.typ == .tComment) = nextIsCmt r := by
  match r, h with
  | [], _ => exact ⟨_, _, rfl, hn1, by simpa [nextIsCmt] using hn2⟩
  | .cmd a d :: r, _ => exact ⟨_, _, rfl, by simp, by simp [nextIsCmt, XPiece.isCmt]⟩
  | .cmt c :: r, _ => exact ⟨_, _, rfl, by simp, by simp [nextIsCmt, XPiece.isCmt]⟩
  | .text t :: r, h => have := h (.text t) (by simp); simp [XPiece.isText] at this

theorem nodesMatchX_flag (tb : Bool) (nl : List Node) (r : XBody) (h : ∀ p ∈ r.head?, p.isText = false)
    (hm : NodesMatchX tb nl r) : NodesMatchX false nl r := by
  match r, h, hm with
  | [], _, hm => exact hm
  | .cmd a d :: r, _, hm => exact hm
  | .cmt c :: r, _, hm => exact hm
  | .text t :: r, h, _ => have := h (.text t) (by simp); simp [XPiece.isText] at this

theorem fuelX_of_len : ∀ (b : XBody) (n : Nat), (tksOfX ff b).length ≤ n → FuelX ff (8 * n + 64) (2 * n + 2) b
  | [], _, _ => trivial
  | .text t :: r, n, h => fuelX_of_len r n (by simp [tksOfX] at h; omega)
  | .cmt c :: r, n, h => fuelX_of_len r n (by simp [tksOfX] at h; omega)
  | .cmd a d :: r, n, h => by
    simp only [tksOfX, List.length_cons, List.length_append] at h
    obtain ⟨f1, f2, f3⟩ := fuel_ok ff a d n (by omega)
    exact ⟨⟨⟨by have := f1.1; omega, fun x hx y hy => by have := f1.2 x hx y hy; omega⟩, f2, f3⟩,
      fuelX_of_len r n (by omega)⟩

variable (T : TableOK)
include T

/-- `itemList(untl…)` on the tokens of a well-formed body in front of the tokens `nx0 :: s0` that end the
    list (`hlast`: what `textOrTag` does with `nx0` — EOF at the top level, the `{` of the closing command inside a
    block); `cs` = the Comment tokens pending in front -/
theorem parse_xbody_until (ef G : Nat) (untl : List ItemType) (hu : untl.contains .tText = false)
    (hu1 : untl.contains .tLeftDelim = false) (hu2 : ∀ t ∈ headTypes, untl.contains t = false)
    (nx0 : Tk) (s0 : List Tk) (hn1 : nx0.typ ≠ .tText) (hn2 : nx0.typ ≠ .tComment) (R : PState → Prop)
    (hlast : ∀ (g : Nat) (n : Item) (p1 : PState) (st : FState), n.typ = nx0.typ → n.val = nx0.val → Just p1 n s0 →
      ∃ p2, textOrTag pf ef (g + 2) n untl { st with p := p1 } = .ok ((none, true), { st with p := p2 }) ∧ R p2) :
    ∀ (b : XBody), WFX ff b → CanonX ff pf b → FuelX ff ef G b →
    ∀ (cs : List Tk), (∀ c ∈ cs, c.typ = .tComment) →
    ∀ (F : Nat) (lpos : Option Nat) (nodes : NodeList) (st : FState), At st.p (cs ++ (tksXB ff b ++ nx0 :: s0)) →
    G + (cs.length + (tksXB ff b).length) + 4 ≤ F →
    ∃ lp nl p' tail, itemListLoop pf ef F untl lpos nodes st = .ok (.list lp nl, { st with p := p' }) ∧
      nl.toList = nodes.toList ++ tail ∧ NodesMatchX (!cs.isEmpty) tail b ∧ R p'
  | [], _, _, _, cs, hcs, F, lpos, nodes, st, hst, hF => by
    simp only [tksXB, List.length_nil, List.nil_append] at hF hst
    obtain ⟨f, rfl⟩ : ∃ f, F = f + cs.length + 1 + 3 := ⟨F - cs.length - 4, by omega⟩
    obtain ⟨tok0, p0, n, p', hn0, hsk, hsc, hty, hv, hj⟩ := head_run cs hcs nx0 hn2 s0 f st hst
    obtain ⟨p2, hto, hr⟩ := hlast (f + cs.length + 1) n p' st hty hv hj
    have hsw := textOrTag_skip' pf ef (f + cs.length + 1) untl tok0 n _ _ hsk (by rw [hty]; exact hn2) (by rw [hty]; exact hn1)
    exact ⟨lpos.getD tok0.pos, nodes, p2, [], C15c.itemListLoop_halt pf hn0 (hsw.trans hto), by simp, rfl, hr⟩
  | .cmt c :: r, hwf, hcan, hfu, cs, hcs, F, lpos, nodes, st, hst, hF => by
    have e : cs ++ (tksXB ff (.cmt c :: r) ++ nx0 :: s0) = (cs ++ [⟨.tComment, cmtSrc c⟩]) ++ (tksXB ff r ++ nx0 :: s0) := by
      simp [tksXB]
    rw [e] at hst
    obtain ⟨lp, nl, p', tail, hr, hnl, hm, hR⟩ := parse_xbody_until ef G untl hu hu1 hu2 nx0 s0 hn1 hn2 R hlast r hwf.2 hcan hfu
      (cs ++ [⟨.tComment, cmtSrc c⟩])
      (by intro x hx
          rcases List.mem_append.mp hx with hx | hx
          · exact hcs x hx
          · simp at hx; rw [hx]) F lpos nodes st hst (by simp [tksXB] at hF ⊢; omega)
    refine ⟨lp, nl, p', tail, hr, hnl, ?_, hR⟩
    have : (!(cs ++ [(⟨.tComment, cmtSrc c⟩ : Tk)]).isEmpty) = true := by cases cs <;> rfl
    rw [this] at hm
    exact hm
  | .cmd a d :: r, hwf, hcan, hfu, cs, hcs, F, lpos, nodes, st, hst, hF => by
    simp only [tksXB, List.length_cons, List.length_append] at hF
    obtain ⟨f, rfl⟩ : ∃ f, F = f + cs.length + 1 + 3 := ⟨F - cs.length - 4, by omega⟩
    have hst' : At st.p (cs ++ ⟨.tLeftDelim, [123]⟩ ::
        (unsp (piecesBody ff a d) ++ tRD :: (tksXB ff r ++ nx0 :: s0))) := by simpa [tksXB] using hst
    obtain ⟨tok0, p0, n, p', hn0, hsk, hsc, hty, hv, hj⟩ := head_run cs hcs ⟨.tLeftDelim, [123]⟩ (by simp) _ f st hst'
    have hty' : n.typ = .tLeftDelim := hty
    have hsw := textOrTag_skip' pf ef (f + cs.length + 1) untl tok0 n _ _ hsk (by rw [hty']; decide) (by rw [hty']; decide)
    obtain ⟨pos, e', ds', p2, hto, he, hd, ha⟩ := textOrTag_print ff pf T a d hcan.1 ef (f + cs.length + 1) hfu.1.1
      (fun x hx => by have := hfu.1.2.1 x hx; omega) (by have := hfu.1.2.2; omega) untl hu1 hu2
      n hty' (tksXB ff r ++ nx0 :: s0) { st with p := p' } hj.at
    have hto' := hsw.trans hto
    obtain ⟨lp, nl, p3, tail, hr, hnl, hm, hR⟩ := parse_xbody_until ef G untl hu hu1 hu2 nx0 s0 hn1 hn2 R hlast r hwf.2 hcan.2
      hfu.2 [] (by simp) (f + cs.length + 1 + 2) (some (lpos.getD tok0.pos)) (nodes.append (.cons (Node.print pos e' ds') .nil))
      { st with p := p2 } ha (by simp; omega)
    refine ⟨lp, nl, p3, Node.print pos e' ds' :: tail, ?_, ?_, ⟨pos, e', ds', tail, rfl, he, hd, hm⟩, hR⟩
    · exact (C15c.itemListLoop_round pf hn0 hto').trans hr
    · rw [hnl, toList_append]
      simp [NodeList.toList]
  | .text t :: r, hwf, hcan, hfu, cs, hcs, F, lpos, nodes, st, hst, hF => by
    have hhead : ∀ p ∈ r.head?, p.isText = false := fun p hp => (hwf.2.1 p hp).1
    obtain ⟨nx, s, hnx, h1, h2⟩ := tksXB_head ff r hhead nx0 s0 hn1 hn2
    by_cases hd : 0 < t.length ∧ dropped t = false
    · have htk : textTk t = [⟨.tText, t⟩] := by simp [textTk, hd]
      simp only [tksXB, htk, List.length_cons, List.cons_append, List.nil_append,
        hnx] at hst hF
      obtain ⟨f, rfl⟩ : ∃ f, F = f + cs.length + 1 + 3 := ⟨F - cs.length - 4, by omega⟩
      obtain ⟨tok0, p0, n, p', hn0, hsk, hsc, hty, hv, hj⟩ := head_run cs hcs ⟨.tText, t⟩ (by simp) (nx :: s) f st hst
      have hty' : n.typ = .tText := hty
      have hv' : n.val = t := hv
      obtain ⟨p2, hto, ha2⟩ := textOrTag_textG pf ef (f + cs.length + 1) untl hu tok0 n hty' _ _ hsk nx h1 s hj.at
      rw [hsc, h2, hv'] at hto
      rw [← hnx] at ha2
      obtain ⟨lp, nl, p3, tail, hr, hnl, hm, hR⟩ := parse_xbody_until ef G untl hu hu1 hu2 nx0 s0 hn1 hn2 R hlast r hwf.2.2 hcan
        hfu [] (by simp) (f + cs.length + 1 + 2) (some (lpos.getD tok0.pos)) (C15c.appendNode nodes _) { st with p := p2 } ha2
        (by simp; omega)
      refine ⟨lp, nl, p3, ctextNodes t n.pos (!cs.isEmpty) (nextIsCmt r) ++ tail,
        (C15c.itemListLoop_round pf hn0 hto).trans hr, ?_, ⟨n.pos, tail, rfl, hm⟩, hR⟩
      rw [hnl, C15c.appendNode_toList]
      by_cases hjl : (joinLines t (!cs.isEmpty) (nextIsCmt r)).isEmpty = true <;> simp [ctextNodes, hjl, hd.2]
    · have htk : textTk t = [] := by simp [textTk, hd]
      have hdr : dropped t = true := by
        have := hwf.1.1
        simpa [this] using hd
      simp only [tksXB, htk, List.nil_append] at hst hF
      obtain ⟨lp, nl, p3, tail, hr, hnl, hm, hR⟩ := parse_xbody_until ef G untl hu hu1 hu2 nx0 s0 hn1 hn2 R hlast r hwf.2.2 hcan
        hfu cs hcs F lpos nodes st hst hF
      refine ⟨lp, nl, p3, tail, hr, hnl, ⟨0, tail, ?_, nodesMatchX_flag _ _ r hhead hm⟩, hR⟩
      simp [ctextNodes, hdr]

/-- `itemList(itemEOF)` on the tokens of a well-formed body, `cs` = the Comment tokens pending in front -/
theorem parse_xbody (ef G : Nat) : ∀ (b : XBody), WFX ff b → CanonX ff pf b → FuelX ff ef G b →
    ∀ (cs : List Tk), (∀ c ∈ cs, c.typ = .tComment) →
    ∀ (F : Nat) (lpos : Option Nat) (nodes : NodeList) (st : FState), At st.p (cs ++ tksOfX ff b) →
    G + (cs.length + (tksOfX ff b).length) + 3 ≤ F →
    ∃ lp nl st' tail, itemListLoop pf ef F [.tEOF] lpos nodes st = .ok (.list lp nl, st') ∧
      nl.toList = nodes.toList ++ tail ∧ NodesMatchX (!cs.isEmpty) tail b := by
  intro b hw hc hfu cs hcs F lpos nodes st hst hF
  rw [tksOfX_eq] at hst hF
  obtain ⟨lp, nl, p', tail, hr, hnl, hm, _⟩ := parse_xbody_until ff pf T ef G [.tEOF] (by decide) (by decide) (by decide)
    ⟨.tEOF, []⟩ [] (by decide) (by decide) (fun _ => True)
    (fun g n p1 st hty _ _ => ⟨p1, textOrTag_until pf ef g [.tEOF] n n _ _ (skipComments_id g n _ (by rw [hty]; decide))
      (by rw [hty]; rfl), trivial⟩)
    b hw hc hfu cs hcs F lpos nodes st hst (by simp at hF; omega)
  exact ⟨lp, nl, _, tail, hr, hnl, hm⟩

end

section
open SoyVerif.Model.FileParser (Node NodeList parseFile parseSource)
variable (ff : UInt64 → Bytes) (pf : Bytes → Option UInt64) (LT : LexTableOK) (T : TableOK)
include LT T

/-- C17d's `body_source_spec_cmds` and C15c's `body_source_spec_comments` combined.
    For every well-formed body `b` (`WFX`: text pieces that are `textOK`, never adjacent, not ending with `/` directly before
    a comment; print commands that are `CmdOk`; block comments `/*c*/` that are `cmtOK`) whose commands are canonical
    (`CanonX`: `CmdCanon` of each), `parse.SoyFile` on the source text `srcOfX ff b`:

    * the lexer sends exactly `itemsOfX ff 0 b`, every item at its exact END offset;
    * the parser returns, in source order and modulo positions (`NodesMatchX`): for every text piece `t` that is not dropped
      and does not normalise to nothing `RawText (joinLines t tb ta)` with `tb` = the piece directly before is a comment,
      `ta` = the piece directly after is a comment; for every command its print node (expression, directive names and
      arguments modulo positions); nothing for a comment. -/
theorem body_source_spec_cmds_comments (b : XBody) (hw : WFX ff b) (hc : CanonX ff pf b) :
    lexAll (srcOfX ff b) false = .items (itemsOfX ff 0 b) ∧
      ∃ nl, parseSource pf (srcOfX ff b) = .ok nl ∧ NodesMatchX false nl b := by
  have hl := lexAll_xbody ff LT b hw
  refine ⟨hl, ?_⟩
  have hlen : (tksOfX ff b).length = (itemsOfX ff 0 b).length := by rw [← itemsOfX_tk ff b 0]; simp
  have hfu := fuelX_of_len ff b (itemsOfX ff 0 b).length (by omega)
  have hst0 := at_init (itemsOfX ff 0 b)
  rw [itemsOfX_tk] at hst0
  obtain ⟨lp, nl, st', tail, hr, hnl, hm⟩ := parse_xbody ff pf T (8 * (itemsOfX ff 0 b).length + 64)
    (2 * (itemsOfX ff 0 b).length + 2) b hw hc hfu [] (by simp) (8 * (itemsOfX ff 0 b).length + 64) none .nil
    { p := initState (itemsOfX ff 0 b) } hst0 (by simp; omega)
  refine ⟨tail, (C15c.parseSource_of_loop pf hl hr).trans ?_, hm⟩
  simp only [hnl, NodeList.toList, List.nil_append]

end

section
open SoyVerif.Props.C15c (ctextNodes)
open SoyVerif.Model.FileParser (Node parseSource)
open SoyVerif.Spec (joinLines)

/-- non-vacuity: `t /* x */ b⏎ c /*y*/` — the text between the two comments is trimmed on both sides -/
def xexBody : XBody := [.text [116, 32], .cmt [32, 120, 32], .text [32, 98, 10, 32, 99, 32], .cmt [121]]

theorem xexBody_wf (ff : UInt64 → Bytes) : WFX ff xexBody := by
  simp only [xexBody, WFX, List.head?_cons, Option.mem_def, Option.some.injEq, forall_eq', XPiece.isText, XPiece.isCmt,
    and_true, true_and, forall_const]
  refine ⟨?_, ?_, ?_, ?_, ?_, ?_⟩ <;> decide

theorem xexBody_spec (ff : UInt64 → Bytes) (pf : Bytes → Option UInt64) (LT : LexTableOK) (T : TableOK) :
    ∃ p1 p2, parseSource pf [116, 32, 47, 42, 32, 120, 32, 42, 47, 32, 98, 10, 32, 99, 32, 47, 42, 121, 42, 47] =
      .ok [.rawText p1 [116], .rawText p2 [98, 32, 99]] := by
  obtain ⟨_, nl, hp, hm⟩ := body_source_spec_cmds_comments ff pf LT T xexBody (xexBody_wf ff) (by simp [xexBody, CanonX])
  have hsrc : srcOfX ff xexBody =
      [116, 32, 47, 42, 32, 120, 32, 42, 47, 32, 98, 10, 32, 99, 32, 47, 42, 121, 42, 47] := by rfl
  have hd := C15c.cexBody_dropped
  have j1 : joinLines [116, 32] false true = [116] := by rfl
  have j2 : joinLines [32, 98, 10, 32, 99, 32] true true = [98, 32, 99] := by rfl
  rw [hsrc] at hp
  simp only [xexBody, NodesMatchX, nextIsCmt, List.head?_cons, XPiece.isCmt, ctextNodes, hd.1, hd.2, j1, j2] at hm
  obtain ⟨p1, r1, h1, p2, r2, h2, h3⟩ := hm
  refine ⟨p1, p2, ?_⟩
  rw [hp, h1, h2, h3]
  simp

end
end SoyVerif.Props.C15d
