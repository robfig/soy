/-
  C02 — the interpreter refines the LEXICAL semantics (Spec/Eval.lean `renderCmd` / `renderBlock`).

  `exec_refines_lexical_partial`: for the command fragment

      raw text, {print e} with directives (|d₁:a₁,…|d₂ …, arguments in the expression fragment), {css},
      {debugger}, {log}, {if}/{elseif}/{else},
      {switch}/{case}/{default} (the matching case wherever it stands, else the first {default}),
      {foreach $x in L}…{ifempty}… / {for $i in L} with L any expression of the fragment (a list literal, a
        range, a variable, an access chain `$x.items`, …),
      {let $x: e /}, {let $x}…{/let},
      {call} without a data attribute, with data="all", with data="e" for any expression of the fragment (a
        variable, an access chain, a map literal, …), with value params and content params ({param k}…{/param}),
      {msg} (text, placeholders — commands of the fragment or HTML tags —, {plural}), without a message bundle
        and THROUGH one (a message without a translation: its source; a translation: raw text, placeholder
        parts = the source placeholder of that name, plural parts = the form the bundle's plural function
        selects; `mparts_agree`, given `BundleOk g hasBundle dsem`: the specification's bundle content is the
        interpreter's — `modelMsgSem`),
      header params
      — nested arbitrarily, templates calling templates to any depth (`render_refines_lexical_partial`),
      with expressions of the fragment of Props/C01.lean at full width (`C01.fragO true`: the ordering
      comparisons `< > <= >=` included),

  over ANY data (scalars, lists, maps, nested): whenever the lexical specification yields text, the model's
  walk (dynamic scope stack over a heap of frames, Model/Eval.lean) ends ok having written exactly that
  text — and, in the induction behind it (`cmd_agree`: `Agree` keeps `Rel`), the bindings visible after a command are
  exactly those of the specification's environment: a `let` is visible to the end of its block and not after
  it, and shadows an outer name only there; whenever the specification yields an error the model's walk yields an error (`execute`, which
  turns an error at a position outside the template's text into a panic: `.err` or `.panic`).

  data="all": `Rel` carries, next to the bindings, `EntRel`: the frames `alldata` passes from the running
  scope bind exactly the specification's `entry` bindings, and the top (let) frame is not among them — so
  what a data="all" call passes is the template's ENTRY data whatever was {let}-bound since.
  data="$m" / a map literal: the callee's data scope is the map's frame (read-only) under a fresh param
  frame; it binds the map's entries (`dataFrag_meets`; a repeated key of a literal: the first item on both sides).

  Print directives: the specification takes a directive semantics `Spec.Eval.DirSem` as a parameter (the `dirs`
  field of `dsem : Option Spec.Eval.LibSem`: which
  names exist, their arities, which cancel autoescaping, what an implementation computes) and fixes the
  loop itself (left to right, unknown name / wrong number of arguments = error, arguments evaluated left
  to right, escape last iff not cancelled).  The theorems hold for every `dsem` with `DirOk g (dirsOf dsem)`: the
  same table as the interpreter's and implementations that `applyDirective` agrees with on scalars;
  `modelDirSem` (the interpreter's own library read as a `DirSem`) is one (`modelDirSem_ok`).  Without a
  `DirSem` a print with directives is `unspec`.

  All of it under `hob : g.oblig = []`: no directive is appended to every print (`obligDirs`).

  A {template} tag inside a body is outside both the fragment (`cfrag`) and the model (Model/Eval.lean header:
  `error`; checked on the real code by the C02exec family `nested-template-tag(impl-only)`); a /** */ comment
  inside a body renders nothing on both sides (/repo 79017f3) and is part of the fragment.

  `$ij` (the injected data, the same in every template of the render) is inside: `render_refines_lexical_partial`
  takes the specification's injected bindings to be the interpreter's (`hij`).

  Outside (exactly): index / isFirst / isLast (Props/C01 has them under `LoopRel` — `eval_refines_spec_loops`;
  supplying `LoopRel` here needs "every list a {foreach} of the execution ranges over is shorter than 2^63" threaded
  through this induction), round, randomInt.  (A map literal whose tree repeats a key
  is outside too, but no parser produces one: `C01.mapFragO_of_sorted`.)

  How the induction goes: `Agree` / `AgreeB` / `AgreeP` / `AgreeT` are `Out.Meets` (Lemmas/OutMeets.lean) at the
  interpreter's outcome (`agree_iff` …), and a command is a chain of steps, each a lemma of the form "the
  specification's next result is met by this part of the walk" joined by `Agree.step`: an expression
  (`evalIn_meets`: the state moves in `next` only, so the relation to the environment is carried over as it is),
  a directive loop, the case values of a {switch}, a block rendered into a buffer (`renderBlockOf_meets`), the
  data scope of a call (`callData_meets`: it sets up `PInv`), its params (`AgreeP.bound` keeps it), `enter`
  (`Rel.entered`); a part of a message followed by the rest is `Agree.andThen`, a command followed by the rest of its
  list `Agree.thenT`: of a command list, as of any block body, only the text is compared (`AgreeT`) — what it binds
  ends with its block (`block_agree`).
-/
import SoyVerif.Props.C01
import SoyVerif.Lemmas.ExecRefine
import SoyVerif.Lemmas.RangeRefine
import SoyVerif.Lemmas.PickPh
import SoyVerif.Props.C02SpecLib

namespace SoyVerif.Props.C02Spec
open SoyVerif SoyVerif.Model SoyVerif.Model.Eval SoyVerif.Refine
open SoyVerif.Spec.Eval (Val Out)
open SoyVerif.Props.C01 (EnvRel)

/-- the expression fragment of Props/C01 at full width; the refinement below uses nothing about expressions but
    `C01.eval_refines_spec_ordering` -/
abbrev frag (e : Expr) : Bool := C01.fragO true false e

open SoyVerif.Props.C02 (ScopeOk)

def optFrag : Option Expr → Bool
  | none => true
  | some e => frag e

def fragList : ExprList → Bool
  | .nil => true
  | .cons e r => frag e && fragList r

def dirsFrag (ds : List Directive) : Bool := ds.all fun d => d.args.all (frag)

def mapFrag : MapItems → Bool
  | .nil => true
  | .cons _ e r => frag e && mapFrag r

/-- what a {call} passes as data="…": any expression of the fragment (a variable, an access chain, a map
    literal, …); a map literal may also repeat a key (the first item wins on both sides) -/
def dataFrag (d : Expr) : Bool :=
  frag d || (match d with
    | .map _ items => mapFrag items
    | _ => false)

def listFrag (e : Expr) : Bool := frag e

mutual
def cfrag : Cmd → Bool
  | .rawText _ _ => true
  | .print _ a dirs => frag a && dirsFrag dirs
  | .css _ e _ => optFrag e
  | .debugger _ => true
  | .log _ b => bfrag b
  | .ifc _ conds => condsFrag conds
  | .switch _ v cases => frag v && casesFrag cases
  -- two clauses for {foreach}: the Option is matched in the patterns so that the recursion through it is structural
  | .forc _ _ e body none => listFrag e && bfrag body
  | .forc _ _ e body (some b) => listFrag e && bfrag body && bfrag b
  | .msg _ _ _ _ _ body => partsFrag body
  | .call _ _ false none ps => paramsFrag ps
  | .call _ _ true none ps => paramsFrag ps
  | .call _ _ false (some d) ps => dataFrag d && paramsFrag ps
  | .letValue _ _ e => frag e
  | .letContent _ _ b => bfrag b
  | .headerParam _ _ _ _ _ _ => true
  | .soyDoc _ _ => true
  | _ => false
def bfrag : Block → Bool
  | .mk _ cs => csFrag cs
def csFrag : CmdList → Bool
  | .nil => true
  | .cons c r => cfrag c && csFrag r
def condsFrag : CondList → Bool
  | .nil => true
  | .cons _ c b r => optFrag c && bfrag b && condsFrag r
def casesFrag : CaseList → Bool
  | .nil => true
  | .cons _ vs b r => vs.all (frag) && bfrag b && casesFrag r
def partsFrag : MsgParts → Bool
  | .nil => true
  | .text _ _ r => partsFrag r
  | .ph _ _ b r => phFrag b && partsFrag r
  | .plural _ _ v cases _ d r => frag v && plFrag cases && partsFrag d && partsFrag r
def phFrag : MsgPhBody → Bool
  | .htmlTag _ _ => true
  | .cmd c => cfrag c
def plFrag : PluralCases → Bool
  | .nil => true
  | .cons _ _ _ b r => partsFrag b && plFrag r
def paramsFrag : ParamList → Bool
  | .nil => true
  | .value _ _ e r => frag e && paramsFrag r
  | .content _ _ b r => bfrag b && paramsFrag r
end

/-- the frames of `cd` bind exactly `B` -/
def FrameRel (heap : List Cell) (cd : Scope) (B : Spec.Eval.Binds) : Prop :=
  ∀ k, absV (lookup heap cd k) = (Spec.Eval.find B k).getD .undefined

/-- the running template's ENTRY data — what a data="all" call passes — against the specification's `entry`
    bindings: the scope is an unmarked top frame above frames whose `alldata` part binds exactly `entry`,
    and the top frame is not one of the passed frames (so a {let} cannot change what is passed) -/
def EntRel (entry : Spec.Eval.Binds) (ctx : Scope) (st : St) : Prop :=
  ∃ f r sc, ctx = f :: r ∧ f.entered = false ∧ alldata r = some sc ∧ (∀ x ∈ sc, x.ref ≠ f.ref) ∧
    (∀ x ∈ sc, x.ref < st.heap.length) ∧ FrameRel st.heap sc entry

/-- the model's scope (through the heap) and the lexical environment bind the same values (up to `absV`), and the frames
    a data="all" call would pass bind the template's entry data -/
structure Rel (g : GEnv) (entry : Spec.Eval.Binds) (ctx : Scope) (st : St) (env : Spec.Eval.Env) : Prop where
  base : EnvRel (eenv g ctx st) env
  ent : EntRel entry ctx st

theorem alldata_sub : ∀ (r sc : Scope), alldata r = some sc → ∀ x ∈ sc, x ∈ r := by
  intro r sc h x hx
  obtain ⟨pre, f, rest, h1, h2, _, _⟩ := C02.alldata_spec r sc h
  rw [h1]; rw [h2] at hx
  exact List.mem_append_right _ hx

theorem Ext.append (st : St) (cells : List Cell) : Ext (fun _ => False) st { st with heap := st.heap ++ cells } :=
  ⟨by simp, fun i c hc => ⟨c, by
    have hi : i < st.heap.length := (List.getElem?_eq_some_iff.mp hc).1
    simp [List.getElem?_append_left hi, hc], rfl, fun _ => rfl⟩, rfl⟩

theorem FrameRel.of_lookup {heap heap' : List Cell} {cd : Scope} {B : Spec.Eval.Binds} (h : FrameRel heap cd B)
    (hl : ∀ k, lookup heap' cd k = lookup heap cd k) : FrameRel heap' cd B :=
  fun k => by rw [hl k]; exact h k

/-- a state change that writes to none of the frames under the top one keeps the entry data (the passed frames
    lie under it) -/
theorem EntRel.of_ext {entry : Spec.Eval.Binds} {ctx : Scope} {st st' : St} {W : Nat → Prop} (h : EntRel entry ctx st)
    (e : Ext W st st') (hW : ∀ x ∈ ctx, x.ref ≠ top ctx → ¬ W x.ref) : EntRel entry ctx st' := by
  obtain ⟨f, r, sc, hc, hf, ha, hne, hlt, hfr⟩ := h
  refine ⟨f, r, sc, hc, hf, ha, hne, fun x hx => Nat.lt_of_lt_of_le (hlt x hx) e.len, ?_⟩
  exact hfr.of_lookup (lookup_ext_W e sc hlt fun x hx =>
    hW x (by rw [hc]; exact List.mem_cons_of_mem _ (alldata_sub r sc ha x hx)) (by rw [hc]; exact hne x hx))

/-- a state change that leaves the frames of the scope — other than writable ones it does not contain —
    alone keeps the relation -/
theorem Rel.of_ext {g : GEnv} {entry : Spec.Eval.Binds} {ctx : Scope} {st st' : St} {env : Spec.Eval.Env} {W : Nat → Prop}
    (h : Rel g entry ctx st env) (e : Ext W st st') (hok : ScopeOk ctx st) (hW : ∀ f ∈ ctx, ¬ W f.ref) :
    Rel g entry ctx st' env := by
  refine ⟨⟨fun k hk => ?_, h.base.globals, h.base.ij⟩, h.ent.of_ext e fun x hx _ => hW x hx⟩
  show absV (lookup st'.heap ctx k) = _
  rw [lookup_ext_W e ctx hok hW k]; exact h.base.vars k hk

theorem Rel.of_heap {g : GEnv} {entry : Spec.Eval.Binds} {ctx : Scope} {st st' : St} {env : Spec.Eval.Env}
    (h : Rel g entry ctx st env) (hh : st'.heap = st.heap) : Rel g entry ctx st' env := by
  refine ⟨⟨fun k hk => ?_, h.base.globals, h.base.ij⟩, ?_⟩
  · show absV (lookup st'.heap ctx k) = _
    rw [hh]; exact h.base.vars k hk
  · obtain ⟨f, r, sc, hc, hf, ha, hne, hlt, hfr⟩ := h.ent
    exact ⟨f, r, sc, hc, hf, ha, hne, by rw [hh]; exact hlt, by rw [hh]; exact hfr⟩

/-- a pushed (unmarked, empty) frame: same bindings, same entry data -/
theorem Rel.pushed {g : GEnv} {entry : Spec.Eval.Binds} {ctx : Scope} {st : St} {env : Spec.Eval.Env}
    (h : Rel g entry ctx st env) (hok : ScopeOk ctx st) : Rel g entry (push ctx st).1 (push ctx st).2 env := by
  obtain ⟨hctx1, _, hext1, _⟩ := push_spec ctx st
  refine ⟨⟨fun k hk => ?_, h.base.globals, h.base.ij⟩, ?_⟩
  · show absV (lookup (push ctx st).2.heap (push ctx st).1 k) = _
    rw [lookup_push ctx st hok k]; exact h.base.vars k hk
  · obtain ⟨f, r, sc, hc, hf, ha, hne, hlt, hfr⟩ := h.ent
    refine ⟨⟨st.heap.length, false⟩, ctx, sc, hctx1, rfl, by rw [hc, alldata, hf]; simpa using ha, ?_, ?_, ?_⟩
    · intro x hx e; have := hlt x hx; simp at e; omega
    · intro x hx; exact Nat.lt_of_lt_of_le (hlt x hx) (hext1 (fun _ => False)).len
    · exact hfr.of_lookup (lookup_ext_W (hext1 (fun _ => False)) sc (fun x hx => hlt x hx) (fun _ _ h => h))

/-- what the model did agrees with what the specification says for a command -/
def Agree (g : GEnv) (entry : Spec.Eval.Binds) (ctx : Scope) (st : St) (r : R) : Spec.Eval.ROut → Prop
  | .val (out, env') => r.cls = .ok ∧ bufBytes r.st.out = bufBytes st.out ++ out ∧ Rel g entry ctx r.st env'
  | .error => r.cls = .err
  | .unspec => True

/-- … and for a block (the environment afterwards is the one before) -/
def AgreeB (g : GEnv) (entry : Spec.Eval.Binds) (ctx : Scope) (st : St) (env : Spec.Eval.Env) (r : R) : Out Bytes → Prop
  | .val out => r.cls = .ok ∧ bufBytes r.st.out = bufBytes st.out ++ out ∧ Rel g entry ctx r.st env
  | .error => r.cls = .err
  | .unspec => True

/-- a run compared by its TEXT only: a callee (its bindings are its own), a command list or block body (what it binds
    ends with it) -/
def AgreeT (st : St) (r : R) : Out Bytes → Prop
  | .val out => r.cls = .ok ∧ bufBytes r.st.out = bufBytes st.out ++ out
  | .error => r.cls = .err
  | .unspec => True

section
variable {g : GEnv} {entry : Spec.Eval.Binds} {ctx : Scope} {st : St} {r : R}

theorem agree_iff {o : Spec.Eval.ROut} :
    Agree g entry ctx st r o ↔ o.Meets
      (fun q => r.cls = .ok ∧ bufBytes r.st.out = bufBytes st.out ++ q.1 ∧ Rel g entry ctx r.st q.2) (r.cls = .err) := by
  cases o <;> exact Iff.rfl

theorem agreeB_iff {env : Spec.Eval.Env} {o : Out Bytes} :
    AgreeB g entry ctx st env r o ↔ o.Meets
      (fun out => r.cls = .ok ∧ bufBytes r.st.out = bufBytes st.out ++ out ∧ Rel g entry ctx r.st env) (r.cls = .err) := by
  cases o <;> exact Iff.rfl

theorem agreeT_iff {o : Out Bytes} :
    AgreeT st r o ↔ o.Meets (fun out => r.cls = .ok ∧ bufBytes r.st.out = bufBytes st.out ++ out) (r.cls = .err) := by
  cases o <;> exact Iff.rfl

theorem Agree.of_out {st0 : St} {o : Spec.Eval.ROut} (h : st0.out = st.out) (ha : Agree g entry ctx st0 r o) :
    Agree g entry ctx st r o :=
  agree_iff.2 ((agree_iff.1 ha).imp (fun _ ⟨c, b, hr⟩ => ⟨c, by rw [b, h], hr⟩) id)

theorem AgreeB.of_out {st1 : St} {env : Spec.Eval.Env} {o : Out Bytes} (ho : st1.out = st.out)
    (h : AgreeB g entry ctx st1 env r o) : AgreeB g entry ctx st env r o :=
  agreeB_iff.2 ((agreeB_iff.1 h).imp (fun _ ⟨c, b, hr⟩ => ⟨c, by rw [b, ho], hr⟩) id)

theorem Agree.of_atNode {g : GEnv} {ctx : Scope} {st : St} {p : Nat} {r : R} {o : Spec.Eval.ROut}
    (h : Agree g entry ctx (atNode st p) r o) : Agree g entry ctx st r o := Agree.of_out rfl h

theorem AgreeB.of_atNode {g : GEnv} {ctx : Scope} {st : St} {env : Spec.Eval.Env} {p : Nat} {r : R} {o : Out Bytes}
    (h : AgreeB g entry ctx (atNode st p) env r o) : AgreeB g entry ctx st env r o := AgreeB.of_out rfl h
end

theorem Agree.append {g : GEnv} {entry : Spec.Eval.Binds} {ctx : Scope} {st st1 : St} {r : R} {out1 : Bytes}
    {o2 : Spec.Eval.ROut} (hb : bufBytes st1.out = bufBytes st.out ++ out1) (h2 : Agree g entry ctx st1 r o2) :
    Agree g entry ctx st r (o2.bind fun q2 => .val (out1 ++ q2.1, q2.2)) :=
  agree_iff.2 ((agree_iff.1 h2).then id fun _ ⟨c, b, hr⟩ => .val ⟨c, by rw [b, hb, List.append_assoc], hr⟩)

/-- two steps in sequence, the first a `Good` run `r1` (afterwards the scope is again `ctx`), the whole of the shape
    of the walk: go on with `k` after an ok, stop otherwise -/
theorem Agree.andThen {g : GEnv} {entry : Spec.Eval.Binds} {W : Nat → Prop} {ctx : Scope} {st : St} {r1 : R}
    {k : Scope → St → R} {o1 : Spec.Eval.ROut} {o2 : Spec.Eval.Env → Spec.Eval.ROut}
    (h1 : Agree g entry ctx st r1 o1) (hg : Good W ctx st r1) (hown : Own ctx st) (hok : ScopeOk ctx st)
    (hk : ∀ env', Rel g entry ctx r1.st env' → Own ctx r1.st → ScopeOk ctx r1.st →
      Agree g entry ctx r1.st (k ctx r1.st) (o2 env')) :
    Agree g entry ctx st
      (match r1.cls with
       | .ok => k r1.ctx r1.st
       | _ => r1)
      (o1.bind fun q => (o2 q.2).bind fun q2 => .val (q.1 ++ q2.1, q2.2)) := by
  cases o1 with
  | val q =>
    simp only [show r1.cls = .ok from h1.1, hg.ctx_eq h1.1]
    exact (hk q.2 h1.2.2 (hown.ext hg.ext) (hok.ext hg.ext)).append h1.2.1
  | error => simp only [show r1.cls = .err from h1]; exact h1
  | unspec => trivial

/-- … and when the second step is compared by its text only (the rest of a command list) -/
theorem Agree.thenT {g : GEnv} {entry : Spec.Eval.Binds} {W : Nat → Prop} {ctx : Scope} {st : St} {r1 : R}
    {k : Scope → St → R} {o1 : Spec.Eval.ROut} {o2 : Spec.Eval.Env → Out Bytes}
    (h1 : Agree g entry ctx st r1 o1) (hg : Good W ctx st r1) (hown : Own ctx st) (hok : ScopeOk ctx st)
    (hk : ∀ env', Rel g entry ctx r1.st env' → Own ctx r1.st → ScopeOk ctx r1.st → AgreeT r1.st (k ctx r1.st) (o2 env')) :
    AgreeT st
      (match r1.cls with
       | .ok => k r1.ctx r1.st
       | _ => r1)
      (o1.bind fun q => (o2 q.2).bind fun more => .val (q.1 ++ more)) := by
  cases o1 with
  | val q =>
    simp only [show r1.cls = .ok from h1.1, hg.ctx_eq h1.1]
    exact agreeT_iff.2 ((agreeT_iff.1 (hk q.2 h1.2.2 (hown.ext hg.ext) (hok.ext hg.ext))).then id
      fun _ ⟨c, b⟩ => .val ⟨c, by rw [b, h1.2.1, List.append_assoc]⟩)
  | error => simp only [show r1.cls = .err from h1]; exact h1
  | unspec => trivial

theorem Agree.text {g : GEnv} {entry : Spec.Eval.Binds} {ctx : Scope} {st : St} {r : R} {o : Spec.Eval.ROut}
    (h : Agree g entry ctx st r o) : AgreeT st r (o.bind fun q => .val q.1) :=
  agreeT_iff.2 ((agree_iff.1 h).then id fun _ ⟨c, b, _⟩ => .val ⟨c, b⟩)

theorem AgreeB.cmd {g : GEnv} {entry : Spec.Eval.Binds} {ctx : Scope} {st : St} {env : Spec.Eval.Env} {r : R}
    {o : Out Bytes} (h : AgreeB g entry ctx st env r o) : Agree g entry ctx st r (o.bind fun out => .val (out, env)) :=
  agree_iff.2 ((agreeB_iff.1 h).then id fun _ h => .val h)

theorem AgreeB.cmd_fst {g : GEnv} {entry : Spec.Eval.Binds} {ctx : Scope} {st : St} {env : Spec.Eval.Env} {r : R}
    {o : Spec.Eval.ROut} (h : AgreeB g entry ctx st env r (o.bind fun q => .val q.1)) :
    Agree g entry ctx st r (o.bind fun q => .val (q.1, env)) := by
  cases o with
  | val a => exact h
  | error => exact h
  | unspec => trivial

/-- a first step of the specification that the model meets (`P`; an error of the step is an error of the run), continued -/
theorem Agree.step {α : Type} {g : GEnv} {entry : Spec.Eval.Binds} {ctx : Scope} {st : St} {r : R} {o : Out α}
    {k : α → Spec.Eval.ROut} {P : α → Prop} {E : Prop} (h : o.Meets P E) (herr : E → r.cls = .err)
    (hval : ∀ a, P a → Agree g entry ctx st r (k a)) : Agree g entry ctx st r (o.bind k) :=
  agree_iff.2 (h.then herr fun a pa => agree_iff.1 (hval a pa))

theorem AgreeB.step {α : Type} {g : GEnv} {entry : Spec.Eval.Binds} {ctx : Scope} {st : St} {env : Spec.Eval.Env} {r : R}
    {o : Out α} {k : α → Out Bytes} {P : α → Prop} {E : Prop} (h : o.Meets P E) (herr : E → r.cls = .err)
    (hval : ∀ a, P a → AgreeB g entry ctx st env r (k a)) : AgreeB g entry ctx st env r (o.bind k) :=
  agreeB_iff.2 (h.then herr fun a pa => agreeB_iff.1 (hval a pa))

/-- the rest of a {switch} after its cases were tried: the matching case's text, else the remembered
    {default} (`sd`), else `tail` (the first default among the cases not yet passed) -/
def specRest (sd : Option (Spec.Eval.Env → Out Bytes)) (tail : Out Bytes) (env : Spec.Eval.Env) : Option Bytes → Out Bytes
  | some out => .val out
  | none => match sd with
    | some s => s env
    | none => tail

theorem orDefault_eq (env : Spec.Eval.Env) (tail : Out Bytes) : (Spec.Eval.orDefault fun _ => tail) = specRest none tail env := by
  funext m; cases m <;> rfl

/-- the {default} the interpreter remembered against the one the specification will fall back to -/
def DfltRel (g : GEnv) (entry : Spec.Eval.Binds) (dflt : Option Run) (sd : Option (Spec.Eval.Env → Out Bytes)) : Prop :=
  (dflt = none ∧ sd = none) ∨
  ∃ d s, dflt = some d ∧ sd = some s ∧ ∀ ctx st env, Rel g entry ctx st env → Own ctx st → ScopeOk ctx st →
    AgreeB g entry ctx st env (d ctx st) (s env)

/-- a case that did not match is passed: the first value-less case is the {default}, remembered on both sides — by
    the interpreter in `pickDefault`, by the specification as the head of `renderDefault` -/
theorem DfltRel.pick {g : GEnv} {entry : Spec.Eval.Binds} {dflt : Option Run} {sd : Option (Spec.Eval.Env → Out Bytes)}
    (hd : DfltRel g entry dflt sd) (values : List Expr) (body : Run) (sbody : Spec.Eval.Env → Out Bytes)
    (hbody : ∀ ctx st env, Rel g entry ctx st env → Own ctx st → ScopeOk ctx st →
      AgreeB g entry ctx st env (body ctx st) (sbody env)) :
    ∃ sd', DfltRel g entry (pickDefault values body dflt) sd' ∧
      ∀ tail env, specRest sd' tail env = specRest sd (if values.isEmpty then sbody env else tail) env := by
  rcases hd with ⟨rfl, rfl⟩ | ⟨d, s, rfl, rfl, hds⟩
  · cases values with
    | nil => exact ⟨some sbody, .inr ⟨body, sbody, rfl, rfl, hbody⟩, fun _ _ => by funext m; cases m <;> rfl⟩
    | cons e es => exact ⟨none, .inl ⟨by simp [pickDefault], rfl⟩, fun _ _ => by funext m; cases m <;> rfl⟩
  · exact ⟨some s, .inr ⟨d, s, by simp [pickDefault], rfl, hds⟩, fun _ _ => by funext m; cases m <;> rfl⟩

theorem absV_undefined (mv : Value) (h : absV mv = .undefined) : mv = .undefined := by
  cases mv <;> simp [absV] at h ⊢

section
variable {entry : Spec.Eval.Binds}

theorem evalIn_meets {g : GEnv} {ctx : Scope} {st : St} {env : Spec.Eval.Env} (hr : Rel g entry ctx st env) (e : Expr)
    (hf : frag e = true) :
    (Spec.Eval.eval env e).Meets (fun v => ∃ mv n', evalIn g e ctx st = some (mv, { st with next := n' }) ∧ absV mv = v)
      (evalIn g e ctx st = none) :=
  (C01.sim_iff.1 (C01.eval_refines_spec_ordering hr.base e hf) st.next).imp
    (fun _ ⟨mv, n', h1, h2⟩ => ⟨mv, n', by simp [evalIn, h1], h2⟩) fun h => by simp [evalIn, h]

theorem fragList_eq : ∀ (es : ExprList), fragList es = C01.listFragO true false es
  | .nil => rfl
  | .cons e r => by rw [fragList, C01.listFragO, fragList_eq r]

theorem evalIn_listValued {g : GEnv} {ctx : Scope} {st : St} {env : Spec.Eval.Env} (hr : Rel g entry ctx st env) (E : Expr)
    (hf : frag E = true) (hl : ∀ v, Spec.Eval.eval env E = .val v → ∃ xs, v = .list xs) :
    (∀ v, Spec.Eval.eval env E = .val v → ∃ id mvs st1, evalIn g E ctx st = some (.list id mvs, st1) ∧
        v = .list (absL mvs) ∧ st1.heap = st.heap ∧ st1.out = st.out) ∧
    (Spec.Eval.eval env E = .error → evalIn g E ctx st = none) :=
  Out.meets_iff.1 ((evalIn_meets hr E hf).impEq (fun v hv ⟨mv, n', he, habs⟩ => by
    obtain ⟨xs, rfl⟩ := hl v hv
    obtain ⟨id, ys, rfl, rfl⟩ := absV_list_iff.mp habs
    exact ⟨id, ys, _, he, rfl, rfl, rfl⟩) id)

theorem evalIn_list_sim {g : GEnv} {ctx : Scope} {st : St} {env : Spec.Eval.Env} (hr : Rel g entry ctx st env) (p : Nat)
    (items : ExprList) (hf : fragList items = true) :
    (∀ v, Spec.Eval.eval env (.list p items) = .val v → ∃ id mvs st1, evalIn g (.list p items) ctx st = some (.list id mvs, st1) ∧
        v = .list (absL mvs) ∧ st1.heap = st.heap ∧ st1.out = st.out) ∧
    (Spec.Eval.eval env (.list p items) = .error → evalIn g (.list p items) ctx st = none) := by
  refine evalIn_listValued hr _ (by rw [frag, C01.fragO, ← fragList_eq]; exact hf) fun v hv => ?_
  rw [Spec.Eval.eval] at hv
  obtain ⟨vs, _, hv⟩ := C01.bind_val hv
  exact ⟨vs, (Out.val.inj hv).symm⟩

theorem find_absK : ∀ (kvs : Frame) (k : Bytes), Spec.Eval.find (absK kvs) k = (Frame.find kvs k).map absV
  | [], _ => rfl
  | (k', v) :: r, k => by
    simp only [absK, Spec.Eval.find, Frame.find]
    split
    · rfl
    · exact find_absK r k

theorem frame_find_mem : ∀ (kvs : Frame) (k : Bytes) (v : Value), Frame.find kvs k = some v → ∃ k', (k', v) ∈ kvs
  | [], _, _, h => by simp [Frame.find] at h
  | (k', v') :: r, k, v, h => by
    simp only [Frame.find] at h
    split at h
    · simp only [Option.some.injEq] at h; subst h; exact ⟨k', List.mem_cons_self⟩
    · obtain ⟨k'', hm⟩ := frame_find_mem r k v h; exact ⟨k'', List.mem_cons_of_mem _ hm⟩

theorem find_filter (B : Spec.Eval.Binds) (key k : Bytes) (h : (key == k) = false) :
    Spec.Eval.find (B.filter fun kv => kv.1 != key) k = Spec.Eval.find B k := by
  induction B with
  | nil => rfl
  | cons p r ih =>
    obtain ⟨k', v⟩ := p
    by_cases hk : k' = key
    · subst hk
      simp only [List.filter, bne_self_eq_false, Spec.Eval.find, h, Bool.false_eq_true, if_false]
      exact ih
    · have : (k' != key) = true := by simpa using hk
      simp only [List.filter, this, Spec.Eval.find]
      rw [ih]

/-- the items of a map literal: the same bindings (a repeated key: the first item on both sides) -/
theorem evalMapItems_meets {m : EEnv} {env : Spec.Eval.Env} (hr : EnvRel m env) :
    (items : MapItems) → mapFrag items = true → ∀ n,
      (Spec.Eval.evalMap env items).Meets
        (fun B => ∃ kvs n', evalMapItems m items n = some (kvs, n') ∧ ∀ k, Spec.Eval.find B k = (Frame.find kvs k).map absV)
        (evalMapItems m items n = none)
  | .nil, _, n => by rw [Spec.Eval.evalMap, evalMapItems]; exact .val ⟨[], n, rfl, fun _ => rfl⟩
  | .cons key e r, hf, n => by
    simp only [mapFrag, Bool.and_eq_true] at hf
    rw [Spec.Eval.evalMap, evalMapItems]
    refine (C01.sim_iff.1 (C01.eval_refines_spec_ordering hr e hf.1) n).then (fun h => by rw [h]) fun mv n1 h1 => ?_
    refine (evalMapItems_meets hr r hf.2 n1).then (fun h => by rw [h1]; simp only [h]) fun Br ⟨kvs, n2, h4, h5⟩ => ?_
    rw [h1]; simp only [h4]
    refine .val ⟨(key, mv) :: kvs, n2, rfl, fun k => ?_⟩
    simp only [Spec.Eval.find, Frame.find]
    split
    · rfl
    · rename_i hk
      rw [find_filter Br key k (by simpa using hk)]; exact h5 k

theorem evalIn_range_sim {g : GEnv} {ctx : Scope} {st : St} {env : Spec.Eval.Env} (hr : Rel g entry ctx st env) (p : Nat)
    (args : ExprList) (hf : fragList args = true) :
    (∀ v, Spec.Eval.eval env (.func p fRange args) = .val v → ∃ id mvs st1, evalIn g (.func p fRange args) ctx st = some (.list id mvs, st1) ∧
        v = .list (absL mvs) ∧ st1.heap = st.heap ∧ st1.out = st.out) ∧
    (Spec.Eval.eval env (.func p fRange args) = .error → evalIn g (.func p fRange args) ctx st = none) := by
  refine evalIn_listValued hr _ (by simp [frag, C01.fragO, fnOk, ← fragList_eq, hf]) fun v hv => ?_
  unfold Spec.Eval.eval at hv
  simp only [show Spec.Eval.isLoopFn fRange = false from by decide, Bool.false_eq_true, if_false] at hv
  obtain ⟨vs, _, hv⟩ := C01.bind_val hv
  exact applyFn_range_list hv

end

mutual
def toT : MParts → Spec.Eval.TParts
  | .nil => .nil
  | .cons (.raw t) rest => .cons (.raw t) (toT rest)
  | .cons (.ph n) rest => .cons (.ph n) (toT rest)
  | .cons (.plural vn cases) rest => .cons (.plural vn (toTC cases)) (toT rest)
def toTC : MCases → Spec.Eval.TCases
  | .nil => .nil
  | .cons parts rest => .cons (toT parts) (toTC rest)
end

/-- the specification's bundle (if its content is given) is the interpreter's: no bundle flag without a
    bundle, the same translations, the same plural function -/
def BundleOk (g : GEnv) (hasBundle : Bool) (dsem : Option Spec.Eval.LibSem) : Prop :=
  (hasBundle = false → g.msgs = none) ∧
  ∀ B, Spec.Eval.msgsOf dsem = some B →
    ∃ b, g.msgs = some b ∧ (∀ n, B.pluralCase n = b.pluralCase n) ∧ ∀ id, B.message id = (b.message id).map toT

/-- the interpreter's directive implementations compute what the specification's parameter `F` says (where
    `F` says something) -/
def DirAgree (F : Bytes → Val → List Val → Out Val) : Prop :=
  ∀ impl mv margs,
    (∀ v', F impl (absV mv) (absL margs) = .val v' →
      ∃ mv', applyDirective impl mv margs = some mv' ∧ absV mv' = v') ∧
    (F impl (absV mv) (absL margs) = .error → applyDirective impl mv margs = none)

/-- the specification's directive semantics (if one is supplied) is the interpreter's: the same table, and
    implementations that agree -/
def DirOk (g : GEnv) (dsem : Option Spec.Eval.DirSem) : Prop :=
  ∀ D, dsem = some D →
    (∀ name, D.lookup name = (Directives.lookup g.tbl name).map fun e => (e.arities, e.impl, e.cancel)) ∧
    DirAgree D.apply

theorem evalPrintAt_undef {g : GEnv} {esc : Bool} {pos : Nat} {arg : Expr} {dirs : List Directive} {ctx : Scope} {st st1 : St}
    (he : evalIn g arg ctx st = some (.undefined, st1)) : (evalPrintAt g esc pos arg dirs ctx st).cls = .err := by
  unfold evalPrintAt; rw [he]

theorem evalPrintAt_def {g : GEnv} {esc : Bool} {pos : Nat} {arg : Expr} {dirs : List Directive} {ctx : Scope} {st st1 : St}
    {mv : Value} (he : evalIn g arg ctx st = some (mv, st1)) (hne : mv ≠ .undefined) :
    evalPrintAt g esc pos arg dirs ctx st =
      match runDirectives g ctx (dirs ++ obligDirs pos g.oblig) mv esc st1 with
      | none => ⟨.err, ctx, atNode st1 (runDirectivesPos g ctx (dirs ++ obligDirs pos g.oblig) mv esc st1)⟩
      | some (r, esc', st2) =>
        match str r with
        | none => ⟨.err, ctx, st2⟩
        | some s => ⟨.ok, ctx, if esc' then writeAll st2 (escChunks s) else write st2 s⟩ := by
  unfold evalPrintAt; rw [he]
  cases mv <;> first | exact absurd rfl hne | rfl

section
variable (g : GEnv) (hob : g.oblig = []) (esc : Bool) (call : Registry.Tmpl → Run) (hcall : ∀ t, GoodRun (call t))
  (reg : Registry.Reg) (hasBundle : Bool) (entry : Spec.Eval.Binds) (scall : Registry.Tmpl → Spec.Eval.CallEnv → Out Bytes)
  (dsem : Option Spec.Eval.LibSem)
  (hreg : g.reg = reg) (hmsg : BundleOk g hasBundle dsem) (hdir : DirOk g (Spec.Eval.dirsOf dsem))
  (hcs : ∀ (t : Registry.Tmpl), t ∈ reg → ∀ (cctx : Scope) (s2 : St) (ce : Spec.Eval.CallEnv),
    Rel g ce.entry cctx s2 { vars := ce.entry, loops := [], ij := ce.ij, globals := ce.globals } → Own cctx s2 → ScopeOk cctx s2 →
    AgreeT s2 (call t cctx s2) (scall t ce))

/-- walkBlock around a body: of the body only the text is compared — what it binds is gone with its frame, every
    lookup through `ctx` reads what it read before -/
theorem block_agree (body : Run) (sbody : Spec.Eval.Env → Out Bytes) (hgood : GoodRun body)
    (hb : ∀ ctx st env, Rel g entry ctx st env → Own ctx st → ScopeOk ctx st → AgreeT st (body ctx st) (sbody env))
    (ctx : Scope) (st : St) (env : Spec.Eval.Env) (hr : Rel g entry ctx st env) (hok : ScopeOk ctx st) :
    AgreeB g entry ctx st env (walkBlockOf body ctx st) (sbody env) := by
  obtain ⟨_, hown1, _, hout1⟩ := push_spec ctx st
  have hwb := walkBlockOf_good' hgood ctx st
  refine agreeB_iff.2 ((agreeT_iff.1 (hb _ _ env (hr.pushed hok) hown1 hok.pushed)).imp (fun out ⟨hcls, hbytes⟩ => ?_)
    walkBlockOf_err)
  rw [walkBlockOf_ok hcls ((hgood _ _ hown1).ctx_eq hcls)] at hwb ⊢
  exact ⟨rfl, by rw [hbytes, hout1], hr.of_ext hwb.ext hok (fun _ _ h => h)⟩

theorem matchCase_meets {ctx : Scope} {env : Spec.Eval.Env} (sv : Value) :
    ∀ (vs : List Expr) (st : St), Rel g entry ctx st env → vs.all (frag) = true →
      (Spec.Eval.matchAny env (absV sv) vs).Meets
        (fun b => ∃ n', matchCase g ctx sv vs st = some (b, { st with next := n' })) (matchCase g ctx sv vs st = none)
  | [], st, _, _ => by rw [Spec.Eval.matchAny, matchCase]; exact .val ⟨st.next, rfl⟩
  | e :: r, st, hr, hf => by
    simp only [List.all_cons, Bool.and_eq_true] at hf
    rw [Spec.Eval.matchAny, matchCase]
    refine (evalIn_meets hr e hf.1).then (fun h => by simp only [h]) fun _ ⟨mv, n1, he, hv⟩ => ?_
    subst hv
    simp only [he]
    refine (equals_refines sv mv).then False.elim fun b hb => ?_
    rw [hb]
    cases b
    · exact matchCase_meets sv r { st with next := n1 } (hr.of_heap rfl) hf.2
    · exact .val ⟨n1, rfl⟩

theorem execBody_agree (p : Nat) (cs : CmdList)
    (h : ∀ ctx st env, Rel g entry ctx st env → Own ctx st → ScopeOk ctx st →
      AgreeT st (execCmds g esc call cs ctx st) (Spec.Eval.renderCmds reg hasBundle esc entry scall dsem cs env))
    (ctx : Scope) (st : St) (env : Spec.Eval.Env) (hr : Rel g entry ctx st env) (hown : Own ctx st) (hok : ScopeOk ctx st) :
    AgreeT st (execBody g esc call (.mk p cs) ctx st) (Spec.Eval.renderBlock reg hasBundle esc entry scall dsem (.mk p cs) env) := by
  rw [execBody, Spec.Eval.renderBlock]; exact h ctx _ env (hr.of_heap rfl) (hown.atNode _) hok

theorem renderBlockOf_meets {body : Run} (hgood : GoodRun body) {ctx : Scope} {st : St} {env : Spec.Eval.Env} {o : Out Bytes}
    (hb : AgreeB g entry ctx { st with out := [] } env (walkBlockOf body ctx { st with out := [] }) o) :
    o.Meets (fun out => ∃ st1, renderBlockOf body ctx st = (⟨.ok, ctx, st1⟩, out) ∧ st1.out = st.out ∧
        Rel g entry ctx st1 env ∧ Ext (fun _ => False) st st1)
      ((renderBlockOf body ctx st).1.cls = .err) := by
  have hg := (renderBlockOf_good' hgood ctx st).1
  obtain ⟨fc, _, fh, fo, fb⟩ := renderBlockOf_facts body ctx st
  refine (agreeB_iff.1 hb).imp (fun out ⟨hcls, hbytes, hrel⟩ => ?_) fc.trans
  have hc := fc.trans hcls
  have hbuf : (renderBlockOf body ctx st).2 = out := fb.trans (by simpa [bufBytes] using hbytes)
  generalize renderBlockOf body ctx st = RB at hg fh fo hc hbuf
  obtain ⟨⟨c, x, s1⟩, b⟩ := RB
  cases hc; cases hbuf; cases hg.ctx_eq rfl
  exact ⟨s1, rfl, fo, hrel.of_heap fh, hg.ext⟩

theorem find_cons (B : Spec.Eval.Binds) (key : Bytes) (v : Val) (k : Bytes) :
    Spec.Eval.find ((key, v) :: B) k = if k == key then some v else Spec.Eval.find B k := by
  simp only [Spec.Eval.find]
  by_cases h : key = k
  · subst h; simp
  · have h1 : (key == k) = false := by simpa using h
    have h2 : (k == key) = false := by simpa using fun e => h e.symm
    simp [h1, h2]

theorem find_bind (env : Spec.Eval.Env) (name : Bytes) (v : Val) (k : Bytes) :
    (env.bind name v).lookup k = if k == name then v else env.lookup k := by
  simp only [Spec.Eval.Env.bind, Spec.Eval.Env.lookup, find_cons]
  split <;> rfl

theorem Rel.set {ctx : Scope} {st st2 : St} {env : Spec.Eval.Env} {name : Bytes} {mv : Value}
    (hr : Rel g entry ctx st env) (hown : Own ctx st) (hs : Eval.set ctx st name mv = some st2) :
    Rel g entry ctx st2 (env.bind name (absV mv)) := by
  refine ⟨⟨fun k hk => ?_, hr.base.globals, hr.base.ij⟩, hr.ent.of_ext (set_ext hown hs) fun _ _ h => h⟩
  show absV (lookup st2.heap ctx k) = _
  rw [lookup_set hown hs k, find_bind]
  split
  · rfl
  · exact hr.base.vars k hk

/-- A loop over `$x` changes the lookup of NO variable name other than `x`: in the frame an iteration runs in
    (pushed, then `x.lastIndex`, `x`, `x.index` bound — the three `set`s of the {foreach} walk) every name
    without a '.' other than `x` reads what it read before the loop.  (The bookkeeping names contain a '.',
    which no variable name can: the loop hides no variable of the template.) -/
theorem loop_hides_only_its_variable (var : Bytes) (x : Value) (last i : Int64) (ctx : Scope) (st st2 st3 st4 : St)
    (hok : ScopeOk ctx st)
    (h2 : Eval.set (push ctx st).1 (push ctx st).2 (var ++ sLastIndexSuffix) (.int last) = some st2)
    (h3 : Eval.set (push ctx st).1 st2 var x = some st3)
    (h4 : Eval.set (push ctx st).1 st3 (var ++ sIndexSuffix) (.int i) = some st4) :
    ∀ k, k ≠ var → (46 : UInt8) ∉ k → lookup st4.heap (push ctx st).1 k = lookup st.heap ctx k := by
  intro k hk hdot
  rw [lookup_loop_frame hok h2 h3 h4 k]
  have n1 : (k == var ++ sIndexSuffix) = false := by
    apply beq_false_of_ne; intro e; apply hdot; rw [e]; simp [sIndexSuffix]
  have n2 : (k == var ++ sLastIndexSuffix) = false := by
    apply beq_false_of_ne; intro e; apply hdot; rw [e]; simp [sLastIndexSuffix]
  have n3 : (k == var) = false := by simpa using hk
  simp [n1, n2, n3]

/-- the iterations of a {foreach}: each runs in a frame of its own that binds the loop variable (and the
    helpers, which the fragment cannot read); afterwards every binding is what it was -/
theorem loop_agree (body : Run) (sbody : Spec.Eval.Env → Out Bytes) (hgood : GoodRun body)
    (hb : ∀ ctx st env, Rel g entry ctx st env → Own ctx st → ScopeOk ctx st → AgreeT st (body ctx st) (sbody env))
    (var : Bytes) (last : Int) (lastN : Nat) :
    ∀ (xs : List Value) (i : Nat) (ctx : Scope) (st : St) (env : Spec.Eval.Env),
      Rel g entry ctx st env → ScopeOk ctx st →
      AgreeB g entry ctx st env (forLoop body var last xs i ctx st) (Spec.Eval.loopSpec sbody env var lastN (absL xs) i) := by
  intro xs
  induction xs with
  | nil => intro i ctx st env hr _; unfold forLoop; rw [absL, Spec.Eval.loopSpec]; exact ⟨rfl, by simp, hr⟩
  | cons x rest ih =>
    intro i ctx st env hr hok
    obtain ⟨hctx1, hown1, hext1, hout1⟩ := push_spec ctx st
    have htop : top (push ctx st).1 = st.heap.length := by rw [hctx1]; rfl
    have fresh : ∀ {s' : St}, Ext (fun i => i = top (push ctx st).1) (push ctx st).2 s' → Ext (fun _ => False) st s' :=
      fun e => (hext1 (fun _ => False)).trans e (fun i hi hw => by rw [htop] at hw; omega)
    obtain ⟨st2, st3, st4, h2, h3, h4, heq⟩ := forLoop_cons body var last x rest i ctx st
    rw [heq, absL, Spec.Eval.loopSpec]
    have e2 := set_ext hown1 h2
    have e3 := e2.trans (set_ext (hown1.ext e2) h3) (fun _ _ h => h)
    have e4 := e3.trans (set_ext (hown1.ext e3) h4) (fun _ _ h => h)
    have own4 := hown1.ext e4
    have hr4 : Rel g entry (push ctx st).1 st4 { (env.bind var (absV x)) with loops := (var, i, lastN) :: env.loops } := by
      refine ⟨⟨fun k hk => ?_, hr.base.globals, hr.base.ij⟩, (hr.pushed hok).ent.of_ext e4 fun _ _ h => h⟩
      show absV (lookup st4.heap (push ctx st).1 k) = (env.bind var (absV x)).lookup k
      rw [lookup_loop_frame hok h2 h3 h4 k, find_bind]
      have n1 : (k == var ++ sIndexSuffix) = false := by
        apply beq_false_of_ne; intro e; rw [e, C01.isHelper_index] at hk; cases hk
      have n2 : (k == var ++ sLastIndexSuffix) = false := by
        apply beq_false_of_ne; intro e; rw [e, C01.isHelper_last] at hk; cases hk
      simp only [n1, n2, Bool.false_eq_true, if_false]
      split
      · rfl
      · exact hr.base.vars k hk
    have hag := hb _ st4 _ hr4 own4 (hok.pushed.ext e4)
    have hg := hgood _ st4 own4
    have hout4 : st4.out = st.out := by
      rw [Refine.set_out h4, Refine.set_out h3, Refine.set_out h2]; exact hout1
    refine AgreeB.step (agreeT_iff.1 hag) (fun h => by simp only [h]) fun q ⟨hcls, hbytes⟩ => ?_
    simp only [hcls]
    rw [hg.ctx_eq hcls, hctx1]
    simp only [pop_cons]
    have hext : Ext (fun _ => False) st (body (push ctx st).1 st4).st := fresh (e4.trans hg.ext (fun _ _ h => h))
    have hi := ih (i + 1) ctx _ env (hr.of_ext hext hok (fun _ _ h => h)) (hok.ext hext)
    rw [hctx1] at hi hbytes
    exact AgreeB.step (agreeB_iff.1 hi) id fun more ⟨hc, hb2, hr2⟩ => ⟨hc, by rw [hb2, hbytes, hout4]; simp, hr2⟩

/-- the params of a call against the specification's: the callee's data scope `cd` binds them over `B` -/
def AgreeP (cd : Scope) (st : St) (B : Spec.Eval.Binds) (r : R) : Out Spec.Eval.Binds → Prop
  | .val R => r.cls = .ok ∧ FrameRel r.st.heap cd (R ++ B) ∧ r.st.out = st.out
  | .error => r.cls = .err
  | .unspec => True

theorem agreeP_iff {cd : Scope} {st : St} {B : Spec.Eval.Binds} {r : R} {o : Out Spec.Eval.Binds} :
    AgreeP cd st B r o ↔ o.Meets (fun R => r.cls = .ok ∧ FrameRel r.st.heap cd (R ++ B) ∧ r.st.out = st.out) (r.cls = .err) := by
  cases o <;> exact Iff.rfl

theorem AgreeP.step {α : Type} {cd : Scope} {st : St} {B : Spec.Eval.Binds} {r : R}
    {o : Out α} {k : α → Out Spec.Eval.Binds} {P : α → Prop} {E : Prop} (h : o.Meets P E) (herr : E → r.cls = .err)
    (hval : ∀ a, P a → AgreeP cd st B r (k a)) : AgreeP cd st B r (o.bind k) :=
  agreeP_iff.2 (h.then herr fun a pa => agreeP_iff.1 (hval a pa))

/-- while the params of a call are bound: the caller's scope `ctx` against `env`, the callee's data scope `cd`
    (its top frame writable, not one of the caller's: `apart`) binding `B` -/
structure PInv (g : GEnv) (entry : Spec.Eval.Binds) (cd ctx : Scope) (st : St) (env : Spec.Eval.Env) (B : Spec.Eval.Binds) : Prop where
  rel : Rel g entry ctx st env
  own : Own ctx st
  ownCd : Own cd st
  okCd : ScopeOk cd st
  frame : FrameRel st.heap cd B
  apart : ∀ f ∈ ctx, f.ref ≠ top cd
  ok : ScopeOk ctx st

theorem PInv.ext {cd ctx : Scope} {st st' : St} {env : Spec.Eval.Env} {B : Spec.Eval.Binds} (h : PInv g entry cd ctx st env B)
    (e : Ext (fun _ => False) st st') : PInv g entry cd ctx st' env B :=
  ⟨h.rel.of_ext e h.ok (fun _ _ h => h), h.own.ext e, h.ownCd.ext e, h.okCd.ext e,
    h.frame.of_lookup (lookup_ext_W e cd h.okCd (fun _ _ h => h)), h.apart, h.ok.ext e⟩

theorem PInv.set {cd ctx : Scope} {st st2 : St} {env : Spec.Eval.Env} {B : Spec.Eval.Binds} (h : PInv g entry cd ctx st env B)
    {key : Bytes} {mv : Value} (hs : Eval.set cd st key mv = some st2) :
    PInv g entry cd ctx st2 env ((key, absV mv) :: B) := by
  have e2 := set_ext h.ownCd hs
  refine ⟨h.rel.of_ext e2 h.ok h.apart, h.own.ext e2, h.ownCd.ext e2, h.okCd.ext e2, fun k => ?_, h.apart, h.ok.ext e2⟩
  rw [lookup_set h.ownCd hs k, find_cons]
  split
  · rfl
  · exact h.frame k

theorem AgreeP.bound {cd ctx : Scope} {st st1 : St} {env : Spec.Eval.Env} {B : Spec.Eval.Binds} {key : Bytes} {mv : Value}
    {rest : Scope → St → R} {o : Out Spec.Eval.Binds} (h : PInv g entry cd ctx st1 env B) (hout : st1.out = st.out)
    (ih : ∀ st2, PInv g entry cd ctx st2 env ((key, absV mv) :: B) → AgreeP cd st2 ((key, absV mv) :: B) (rest ctx st2) o) :
    AgreeP cd st B
      (match Eval.set cd st1 key mv with
       | none => ⟨.err, ctx, st1⟩
       | some st2 => rest ctx st2)
      (o.bind fun r => .val (r ++ [(key, absV mv)])) := by
  cases hs : Eval.set cd st1 key mv with
  | none => exact absurd hs (set_ne_none h.ownCd)
  | some st2 =>
    refine AgreeP.step (agreeP_iff.1 (ih st2 (h.set g entry hs))) id fun R ⟨hc, hfr, ho⟩ => ⟨hc, ?_, by rw [ho, Refine.set_out hs, hout]⟩
    rw [List.append_assoc]; exact hfr

/-- the evaluation of `E` agrees with the specification's: the same value (up to identities), no change of
    the heap or of the output -/
def ValSim (g : GEnv) (E : Expr) (ctx : Scope) (st : St) (env : Spec.Eval.Env) : Prop :=
  (∀ v, Spec.Eval.eval env E = .val v → ∃ mv st1, evalIn g E ctx st = some (mv, st1) ∧ absV mv = v ∧
      st1.heap = st.heap ∧ st1.out = st.out) ∧
  (Spec.Eval.eval env E = .error → evalIn g E ctx st = none)

theorem ValSim.of_frag {e : Expr} {ctx : Scope} {st : St} {env : Spec.Eval.Env} (hr : Rel g entry ctx st env)
    (hf : frag e = true) : ValSim g e ctx st env :=
  Out.meets_iff.1 ((evalIn_meets hr e hf).imp (fun _ ⟨mv, _, he, hv⟩ => ⟨mv, _, he, hv, rfl, rfl⟩) id)

theorem ValSim.of_list {E : Expr} {ctx : Scope} {st : St} {env : Spec.Eval.Env}
    (h : (∀ v, Spec.Eval.eval env E = .val v → ∃ id mvs st1, evalIn g E ctx st = some (.list id mvs, st1) ∧
          v = .list (absL mvs) ∧ st1.heap = st.heap ∧ st1.out = st.out) ∧
        (Spec.Eval.eval env E = .error → evalIn g E ctx st = none)) : ValSim g E ctx st env := by
  refine ⟨fun v hv => ?_, h.2⟩
  obtain ⟨id, mvs, st1, he, hveq, hh, ho⟩ := h.1 v hv
  exact ⟨.list id mvs, st1, he, by rw [hveq]; rfl, hh, ho⟩

theorem ValSim.of_var {ctx : Scope} {st : St} {env : Spec.Eval.Env} (hr : Rel g entry ctx st env) (p : Nat) (key : Bytes)
    (hk : (key == sIj) = false) (hh : C01.isHelper key = false) : ValSim g (.dataRef p key .nil) ctx st env :=
  ValSim.of_frag g entry hr (by simp [frag, C01.fragO, C01.accFrag, hk, hh])

/-- the data="…" expression of a call: the bindings of the map it evaluates to; anything but a map is an error -/
theorem dataFrag_meets {ctx : Scope} {st : St} {env : Spec.Eval.Env} (hr : Rel g entry ctx st env) (d : Expr)
    (hf : dataFrag d = true) :
    ((Spec.Eval.eval env d).bind fun v => match v with
        | .map kvs => Out.val kvs
        | _ => .error).Meets
      (fun B => ∃ id kvs n', evalIn g d ctx st = some (.map id kvs, { st with next := n' }) ∧
        ∀ k, Spec.Eval.find B k = (Frame.find kvs k).map absV)
      (∀ id kvs st1, evalIn g d ctx st ≠ some (.map id kvs, st1)) := by
  by_cases hfr : frag d = true
  · refine (evalIn_meets hr d hfr).then (fun h => by rw [h]; nofun) fun _ ⟨mv, n', he, hv⟩ => ?_
    subst hv
    cases mv with
    | map id kvs => exact .val ⟨id, kvs, n', he, find_absK kvs⟩
    | _ => exact .error (by rw [he]; nofun)
  · have hfr' : frag d = false := by simpa using hfr
    simp only [dataFrag, hfr', Bool.false_or] at hf
    cases d with
    | map p items =>
      rw [Spec.Eval.eval, Out.bind_assoc]
      refine (evalMapItems_meets hr.base items hf st.next).then (fun h => by simp [evalIn, evalE, h]) fun B ⟨kvs, n', h1, h2⟩ => ?_
      exact .val ⟨n', kvs, n' + 1, by simp [evalIn, evalE, h1], h2⟩
    | _ => simp at hf

/-- which data attributes of a {call} the fragment has: none, data="all", data="e" with `e` in `dataFrag` -/
def callFrag : Bool → Option Expr → Prop
  | true, some _ => False
  | false, some d => dataFrag d = true
  | _, none => True

theorem cfrag_call {p : Nat} {name : Bytes} {allData : Bool} {data : Option Expr} {ps : ParamList}
    (h : cfrag (.call p name allData data ps) = true) : callFrag allData data ∧ paramsFrag ps = true := by
  cases allData <;> cases data <;> simp_all [cfrag, callFrag]

/-- a fresh param frame pushed on frames `sc` that bind `B`, in a state `st1` that extends the caller's -/
theorem PInv.pushed {ctx sc : Scope} {st st1 : St} {env : Spec.Eval.Env} {B : Spec.Eval.Binds}
    (hr : Rel g entry ctx st env) (hown : Own ctx st) (hok : ScopeOk ctx st) (e : Ext (fun _ => False) st st1)
    (hsc : ScopeOk sc st1) (hfr : FrameRel st1.heap sc B) :
    PInv g entry (push sc st1).1 ctx (push sc st1).2 env B := by
  obtain ⟨_, hown1, hext1, _⟩ := push_spec sc st1
  have e' := e.trans (hext1 (fun _ => False)) (fun _ _ h => h)
  exact ⟨hr.of_ext e' hok (fun _ _ h => h), hown.ext e', hown1, hsc.pushed,
    fun k => by rw [lookup_push sc st1 hsc k]; exact hfr k,
    fun f hf h => by have := hok f hf; have := e.len; simp only [push, top] at h; omega, hok.ext e'⟩

/-- the data scope of a call (`callData`) against the data the specification passes: a fresh param frame over
    the frames `alldata` passes, over the map's own frame, over none — binding exactly that data; with it the
    param loop's invariant `PInv` holds -/
theorem callData_meets {ctx : Scope} {st : St} {env : Spec.Eval.Env} (hr : Rel g entry ctx st env) (hown : Own ctx st)
    (hok : ScopeOk ctx st) (allData : Bool) (data : Option Expr) (hf : callFrag allData data) :
    (if allData then Out.val entry
      else match (generalizing := false) data with
        | some e => (Spec.Eval.eval env e).bind fun v => match v with
          | .map kvs => Out.val kvs
          | _ => .error
        | none => .val []).Meets
      (fun B => ∃ cd st1, callData g allData data ctx st = some (cd, st1) ∧ PInv g entry cd ctx st1 env B ∧ st1.out = st.out)
      (callData g allData data ctx st = none) := by
  cases allData with
  | true =>
    cases data with
    | some _ => exact hf.elim
    | none =>
      obtain ⟨f0, r0, sc, hc0, hf0, ha0, _, hlt0, hfr0⟩ := hr.ent
      have halld : alldata ctx = some sc := by rw [hc0, alldata, hf0]; simpa using ha0
      exact .val ⟨_, _, by simp only [callData, halld, if_true], PInv.pushed g entry hr hown hok (Ext.refl _ st) hlt0 hfr0, rfl⟩
  | false =>
    cases data with
    | none =>
      exact .val ⟨_, _, rfl, PInv.pushed g entry (sc := []) (B := []) hr hown hok (Ext.refl _ st) nofun (fun _ => rfl), rfl⟩
    | some d =>
      refine (dataFrag_meets g entry hr d hf).imp (fun B ⟨id, kvs, n', he, hfind⟩ => ?_) fun h => ?_
      · -- the map's own frame (read-only) in a cell appended to the heap
        have hfr : FrameRel (st.heap ++ [⟨kvs, true⟩]) [⟨st.heap.length, false⟩] B := fun k => by
          rw [hfind k]
          cases hfk : Frame.find kvs k <;> simp [lookup, heapGet, hfk, absV]
        exact ⟨_, _, by simp [callData, he, newScope],
          PInv.pushed g entry (st1 := { st with next := n', heap := st.heap ++ [⟨kvs, true⟩] }) hr hown hok
            ((Ext.append st [⟨kvs, true⟩]).trans (Ext.of_heap_eq rfl rfl) (fun _ _ h => h))
            (by intro f hf'; simp at hf'; subst hf'; simp) hfr, rfl⟩
      · simp only [callData, Bool.false_eq_true, if_false]

theorem evalList_meets {ctx : Scope} {env : Spec.Eval.Env} : ∀ (es : List Expr), es.all (frag) = true → ∀ (st : St),
    Rel g entry ctx st env →
    (Spec.Eval.evalAll env es).Meets
      (fun vs => ∃ mvs n', evalList g ctx es st = some (mvs, { st with next := n' }) ∧ absL mvs = vs) (evalList g ctx es st = none)
  | [], _, st, _ => by rw [Spec.Eval.evalAll, evalList]; exact .val ⟨[], st.next, rfl, rfl⟩
  | e :: r, hf, st, hr => by
    simp only [List.all_cons, Bool.and_eq_true] at hf
    rw [Spec.Eval.evalAll, evalList]
    refine (evalIn_meets hr e hf.1).then (fun h => by simp only [h]) fun _ ⟨mv, n1, he, hv⟩ => ?_
    subst hv
    refine (evalList_meets r hf.2 { st with next := n1 } (hr.of_heap rfl)).then (fun h => by simp only [he, h])
      fun _ ⟨mvs, n2, hes, hvs⟩ => ?_
    subst hvs
    simp only [he, hes]
    exact .val ⟨mv :: mvs, n2, rfl, rfl⟩

include hdir in
theorem runDirectives_meets {ctx : Scope} {env : Spec.Eval.Env} : ∀ (ds : List Directive), dirsFrag ds = true →
    ∀ (mv : Value) (esc : Bool) (st : St), Rel g entry ctx st env →
    (Spec.Eval.runDirs (Spec.Eval.dirsOf dsem) env ds (absV mv) esc).Meets
      (fun r => ∃ mv' n', runDirectives g ctx ds mv esc st = some (mv', r.2, { st with next := n' }) ∧ absV mv' = r.1)
      (runDirectives g ctx ds mv esc st = none)
  | [], _, mv, esc, st, _ => by rw [Spec.Eval.runDirs, runDirectives]; exact .val ⟨mv, st.next, rfl, rfl⟩
  | d :: ds, hf, mv, esc, st, hr => by
    simp only [dirsFrag, List.all_cons, Bool.and_eq_true] at hf
    cases hD : Spec.Eval.dirsOf dsem with
    | none => rw [Spec.Eval.runDirs]; exact .unspec
    | some D =>
      have ihds := runDirectives_meets (ctx := ctx) (env := env) ds hf.2
      rw [hD] at ihds
      rw [Spec.Eval.runDirs, runDirectives]
      obtain ⟨hlk, hF⟩ := hdir D hD
      simp only [hlk d.name]
      cases hL : Directives.lookup g.tbl d.name with
      | none => exact .error rfl
      | some e =>
        simp only [Option.map_some, Directives.checkNumArgs]
        by_cases har : (!e.arities.any (· == d.args.length)) = true
        · simp only [har, if_true]; exact .error trivial
        · simp only [har, Bool.false_eq_true, if_false]
          refine (evalList_meets g entry d.args hf.1 st hr).then (fun h => by simp only [h]) fun _ ⟨margs, n1, hes, hv⟩ => ?_
          subst hv
          refine (Out.meets_iff.2 (hF e.impl mv margs)).then (fun h => by simp only [hes, h]) fun _ ⟨mv', hap, hv'⟩ => ?_
          subst hv'
          simp only [hes, hap]
          exact ihds mv' (if e.cancel then false else esc) { st with next := n1 } (hr.of_heap rfl)

/-- the placeholder runs of a message against the specification's: same depths, same names, runs that agree -/
inductive PhRel (g : GEnv) (entry : Spec.Eval.Binds) :
    List (Nat × Bytes × Run) → List (Nat × Bytes × (Spec.Eval.Env → Spec.Eval.ROut)) → Prop where
  | nil : PhRel g entry [] []
  | cons {d : Nat} {n : Bytes} {run : Run} {f : Spec.Eval.Env → Spec.Eval.ROut} {l l'} :
      GoodRun run →
      (∀ ctx st env, Rel g entry ctx st env → Own ctx st → ScopeOk ctx st → Agree g entry ctx st (run ctx st) (f env)) →
      PhRel g entry l l' → PhRel g entry ((d, n, run) :: l) ((d, n, f) :: l')

theorem PhRel.append {l1 l2 : List (Nat × Bytes × Run)} {m1 m2} (h1 : PhRel g entry l1 m1) (h2 : PhRel g entry l2 m2) :
    PhRel g entry (l1 ++ l2) (m1 ++ m2) := by
  induction h1 with
  | nil => exact h2
  | cons hg ha _ ih => exact .cons hg ha ih

theorem PhRel.good {l : List (Nat × Bytes × Run)} {m} (h : PhRel g entry l m) : ∀ e ∈ l, GoodRun e.2.2 := by
  induction h with
  | nil => intro e he; cases he
  | cons hg _ _ ih =>
    intro e he
    rcases List.mem_cons.mp he with rfl | he
    · exact hg
    · exact ih e he

theorem PhRel.zip {l : List (Nat × Bytes × Run)} {m} (h : PhRel g entry l m) :
    PhZip (fun run f => GoodRun run ∧ ∀ ctx st env, Rel g entry ctx st env → Own ctx st → ScopeOk ctx st →
      Agree g entry ctx st (run ctx st) (f env)) l m := by
  induction h with
  | nil => exact .nil
  | cons hg ha _ ih => exact .cons ⟨hg, ha⟩ ih

theorem findPlural_eq : ∀ (body : MsgParts) (n : Bytes), findPlural body n = Spec.Eval.findPluralS body n
  | .nil, _ => rfl
  | .text _ _ r, n => by rw [findPlural, Spec.Eval.findPluralS]; exact findPlural_eq r n
  | .ph _ _ _ r, n => by rw [findPlural, Spec.Eval.findPluralS]; exact findPlural_eq r n
  | .plural _ vn v _ _ _ r, n => by
    rw [findPlural, Spec.Eval.findPluralS]
    split
    · rfl
    · exact findPlural_eq r n

theorem findPlural_frag : ∀ (body : MsgParts), partsFrag body = true → ∀ n ve, findPlural body n = some ve → frag ve = true
  | .nil, _, _, _, h => by simp [findPlural] at h
  | .text _ _ r, hf, n, ve, h => by
    rw [findPlural] at h; simp only [partsFrag] at hf; exact findPlural_frag r hf n ve h
  | .ph _ _ _ r, hf, n, ve, h => by
    rw [findPlural] at h; simp only [partsFrag, Bool.and_eq_true] at hf; exact findPlural_frag r hf.2 n ve h
  | .plural _ vn v _ _ _ r, hf, n, ve, h => by
    rw [findPlural] at h
    simp only [partsFrag, Bool.and_eq_true] at hf
    split at h
    · simp only [Option.some.injEq] at h; rw [← h]; exact hf.1.1.1
    · exact findPlural_frag r hf.2 n ve h

section
variable (b : MsgBundle) (hgb : g.msgs = some b) (B : Spec.Eval.MsgSem) (hpl : ∀ n, B.pluralCase n = b.pluralCase n)
  (body : MsgParts) (hbf : partsFrag body = true)
  (phs : List (Nat × Bytes × Run)) (sphs : List (Nat × Bytes × (Spec.Eval.Env → Spec.Eval.ROut)))
  (hrel : PhRel g entry phs sphs)
include hgb hpl hbf hrel

mutual
/-- `evalMsgParts` against the specification's `renderT`: raw text, the placeholder of that name, the plural
    form the bundle selects -/
theorem mparts_agree : (ps : MParts) → ∀ (ctx : Scope) (st : St) (env : Spec.Eval.Env),
    Rel g entry ctx st env → Own ctx st → ScopeOk ctx st →
    Agree g entry ctx st (evalMParts g phs body ps ctx st) (Spec.Eval.renderT B sphs body (toT ps) env)
  | .nil, ctx, st, env, hr, _, _ => by
    rw [evalMParts, toT, Spec.Eval.renderT]; exact ⟨rfl, by simp, hr⟩
  | .cons (.raw t) rest, ctx, st, env, hr, hown, hok => by
    rw [evalMParts, toT, Spec.Eval.renderT]
    have ih := mparts_agree rest ctx (write st t) env (hr.of_heap rfl) (hown.ext (write_ext (fun _ => False) _ t)) hok
    exact ih.append (bufBytes_write st t)
  | .cons (.ph name) rest, ctx, st, env, hr, hown, hok => by
    rw [evalMParts, toT, Spec.Eval.renderT]
    -- the interpreter's `pickPh` and the specification's `pickPhS` find the same placeholder
    have hp := (PhRel.zip g entry hrel).pick name .none
    rw [← pickPh_eq_pickPhS] at hp
    cases hm : pickPh name phs none with
    | none =>
      rw [hm] at hp
      generalize Spec.Eval.pickPhS name sphs none = o at hp ⊢
      cases hp
      simp [Agree]
    | some run =>
      rw [hm] at hp
      obtain ⟨f, hs, hgr, hag⟩ := hp.of_some_left
      rw [hs]
      exact Agree.andThen (hag ctx st env hr hown hok) (hgr ctx st hown) hown hok
        fun env1 hr1 hown1 hok1 => mparts_agree rest ctx _ env1 hr1 hown1 hok1
  | .cons (.plural vn cases) rest, ctx, st, env, hr, hown, hok => by
    rw [evalMParts, toT, Spec.Eval.renderT, ← findPlural_eq]
    cases hfp : findPlural body vn with
    | none => simp [Agree]
    | some ve =>
      simp only
      refine Agree.step (evalIn_meets hr ve (findPlural_frag body hbf vn ve hfp)) (fun h => by simp only [h])
        fun _ ⟨mv, n', he, hv⟩ => ?_
      subst hv
      simp only [he]
      cases mv with
      | int i =>
        simp only [absV, hgb, hpl]
        by_cases hneg : b.pluralCase i.toInt < 0
        · simp [hneg, Agree]
        · simp only [hneg, if_false]
          exact Agree.of_out (st0 := { st with next := n' }) rfl (Agree.andThen
            (mcases_agree cases (b.pluralCase i.toInt).toNat ctx _ env (hr.of_heap rfl) hown hok)
            (evalMCases_good g phs body (PhRel.good g entry hrel) cases (b.pluralCase i.toInt).toNat ctx _ hown) hown hok
            fun env1 hr1 hown1 hok1 => mparts_agree rest ctx _ env1 hr1 hown1 hok1)
      | _ => simp [absV, Agree]
theorem mcases_agree : (cs : MCases) → ∀ (n : Nat) (ctx : Scope) (st : St) (env : Spec.Eval.Env),
    Rel g entry ctx st env → Own ctx st → ScopeOk ctx st →
    Agree g entry ctx st (evalMCases g phs body cs n ctx st) (Spec.Eval.renderTCases B sphs body (toTC cs) n env)
  | .nil, n, ctx, st, env, _, _, _ => by rw [evalMCases, toTC, Spec.Eval.renderTCases]; simp [Agree]
  | .cons parts _, 0, ctx, st, env, hr, hown, hok => by
    rw [evalMCases, toTC, Spec.Eval.renderTCases]; exact mparts_agree parts ctx st env hr hown hok
  | .cons _ rest, n + 1, ctx, st, env, hr, hown, hok => by
    rw [evalMCases, toTC, Spec.Eval.renderTCases]; exact mcases_agree rest n ctx st env hr hown hok
end
end

include hcall in
/-- {foreach} / {for}, given the evaluation of its list (`hE`), its body (`hb`) and its {ifempty} block -/
theorem forc_core (p0 : Nat) (var : Bytes) (E : Expr) (body : Block) (ifE : Option Block)
    (ctx : Scope) (st : St) (env : Spec.Eval.Env) (hr : Rel g entry ctx st env) (hok : ScopeOk ctx st)
    (hb : ∀ ctx' st' env', Rel g entry ctx' st' env' → Own ctx' st' → ScopeOk ctx' st' →
        AgreeT st' (execBody g esc call body ctx' st') (Spec.Eval.renderBlock reg hasBundle esc entry scall dsem body env'))
    (hemp : ∀ bE, ifE = some bE → ∀ st1, Rel g entry ctx st1 env → ScopeOk ctx st1 →
        AgreeB g entry ctx st1 env (walkBlockOf (execBody g esc call bE) ctx st1)
          (Spec.Eval.renderBlock reg hasBundle esc entry scall dsem bE env))
    (hE : ValSim g E ctx st env) :
    Agree g entry ctx st (execCmd g esc call (.forc p0 var E body ifE) ctx st)
      (Spec.Eval.renderCmd reg hasBundle esc entry scall dsem (.forc p0 var E body ifE) env) := by
  rw [execCmd, Spec.Eval.renderCmd.eq_def]
  simp only
  refine Agree.step (Out.meets_iff.2 hE) (fun h => by simp only [h]) fun _ ⟨mv, st1, he, hveq, hheap, hout⟩ => ?_
  subst hveq
  have hr1 : Rel g entry ctx st1 env := hr.of_heap hheap
  have hok1 : ScopeOk ctx st1 := hok.of_heap hheap
  simp only [he]
  cases mv with
  | list id mvs =>
    simp only [absV]
    cases mvs with
    | nil =>
      simp only [List.isEmpty_nil, if_true, absL]
      cases ifE with
      | none => exact ⟨rfl, by rw [hout]; simp, hr1⟩
      | some bE =>
        exact Agree.of_out hout (hemp bE rfl st1 hr1 hok1).cmd
    | cons x rest =>
      simp only [List.isEmpty_cons, Bool.false_eq_true, if_false, absL]
      have hl := loop_agree g entry (execBody g esc call body) _ (execBody_good g esc call hcall _) hb var
        (((x :: rest).length : Int) - 1) ((absV x :: absL rest).length - 1) (x :: rest) 0 ctx st1 env hr1 hok1
      rw [absL] at hl
      exact Agree.of_out hout hl.cmd
  | _ => simp [absV, Agree]

/-- what `evalCall` does once the callee's data scope `cd` is made: the params into `cd`, enter, the callee.
    It is the tail of `execCmd`'s `.call` clause word for word, named so that `call_core` can be
    stated; where it is used (`cmd_agree`, `.call`) the goal is that clause, and `callRest` unfolds to it. -/
def callRest (g : GEnv) (esc : Bool) (call : Registry.Tmpl → Run) (callee : Registry.Tmpl) (ps : ParamList)
    (cd ctx : Scope) (st1 : St) : R :=
  let r := execParams g esc call ps cd ctx st1
  match r.cls with
  | .ok =>
    match enter cd r.st with
    | none => ⟨.err, r.ctx, r.st⟩
    | some (cctx, st2) => ⟨(call callee cctx st2).cls, r.ctx, atNode (call callee cctx st2).st r.st.node⟩
  | _ => r

/-- `enter`: the scope a callee starts in — its data scope `⟨n, _⟩ :: sc`, marked as the entry data, under a fresh
    top frame — binds what the data scope binds, and that is its entry data -/
theorem Rel.entered {n : Nat} {sc : Scope} {P : St} {BB : Spec.Eval.Binds} {ij : Option Spec.Eval.Binds} {globals : Spec.Eval.Binds}
    (hsc : ScopeOk (⟨n, true⟩ :: sc) P) (hfr : FrameRel P.heap (⟨n, true⟩ :: sc) BB)
    (hglob : ∀ k, match Frame.find g.globals k with
      | some v => Spec.Eval.find globals k = some (absV v)
      | none => Spec.Eval.find globals k = none)
    (hij : (g.ij.map fun p => absK p.2) = ij) :
    Rel g BB (push (⟨n, true⟩ :: sc) P).1 (push (⟨n, true⟩ :: sc) P).2 { vars := BB, loops := [], ij := ij, globals := globals } := by
  obtain ⟨hctx, _, hext, _⟩ := push_spec (⟨n, true⟩ :: sc) P
  refine ⟨⟨fun k _ => ?_, hglob, hij⟩, ⟨P.heap.length, false⟩, ⟨n, true⟩ :: sc, ⟨n, true⟩ :: sc, hctx, rfl, by simp [alldata], ?_, ?_, ?_⟩
  · show absV (lookup (push (⟨n, true⟩ :: sc) P).2.heap (push (⟨n, true⟩ :: sc) P).1 k) = _
    rw [lookup_push _ P hsc k]; exact hfr k
  · intro x hx e; have := hsc x hx; simp only at e; omega
  · intro x hx; exact Nat.lt_of_lt_of_le (hsc x hx) (hext (fun _ => False)).len
  · exact hfr.of_lookup (lookup_ext_W (hext (fun _ => False)) _ hsc (fun _ _ h => h))

include hcall hcs in
/-- a {call} from the point where the callee's data scope `cd` (a fresh param frame over the passed frames,
    binding `B`) is made: the params overlay `B`, the callee runs on exactly that; afterwards the caller's
    bindings are what they were (`hrel`) -/
theorem call_core (callee : Registry.Tmpl) (hmem : callee ∈ reg) (ps : ParamList)
    (ctx : Scope) (st0 : St) (env : Spec.Eval.Env) (cd : Scope) (B : Spec.Eval.Binds)
    (hinv : PInv g entry cd ctx st0 env B)
    (hp : AgreeP cd st0 B (execParams g esc call ps cd ctx st0)
      (Spec.Eval.renderParams reg hasBundle esc entry scall dsem ps env))
    (hrel : Rel g entry ctx (callRest g esc call callee ps cd ctx st0).st env) :
    Agree g entry ctx st0 (callRest g esc call callee ps cd ctx st0)
      ((Spec.Eval.renderParams reg hasBundle esc entry scall dsem ps env).bind fun R =>
        (scall callee { entry := R ++ B, ij := env.ij, globals := env.globals }).bind fun out => .val (out, env)) := by
  obtain ⟨⟨n, b⟩, sc, _, rfl, _, _⟩ := hinv.ownCd
  have hpg := execParams_good g esc call hcall ps (⟨n, b⟩ :: sc) ctx st0 hinv.ownCd
  unfold callRest at hrel ⊢
  simp only at hrel ⊢
  refine Agree.step (agreeP_iff.1 hp) (fun h => by simp only [h]) fun R ⟨hpc, hpf, hpo⟩ => ?_
  simp only [hpc, hpg.ctx_eq hpc] at hrel ⊢
  have hsc : ScopeOk (⟨n, true⟩ :: sc) (execParams g esc call ps (⟨n, b⟩ :: sc) ctx st0).st :=
    (hinv.okCd.ext hpg.ext).entered
  generalize (execParams g esc call ps (⟨n, b⟩ :: sc) ctx st0).st = P at *
  obtain ⟨_, ownc, _, hout⟩ := push_spec (⟨n, true⟩ :: sc) P
  have hct := hcs callee hmem _ _ { entry := R ++ B, ij := env.ij, globals := env.globals }
    (Rel.entered g hsc (fun k => by simpa [lookup] using hpf k) hinv.rel.base.globals hrel.base.ij) ownc hsc.pushed
  simp only [enter] at hrel ⊢
  refine Agree.step (agreeT_iff.1 hct) id fun out ⟨hc, hb⟩ => ⟨hc, ?_, hrel⟩
  show bufBytes (call callee _ _).st.out = _
  rw [hb, hout, hpo]

include hob hcall hreg hmsg hdir hcs in
mutual
theorem cmd_agree : (c : Cmd) → cfrag c = true → ∀ (ctx : Scope) (st : St) (env : Spec.Eval.Env),
    Rel g entry ctx st env → Own ctx st → ScopeOk ctx st →
    Agree g entry ctx st (execCmd g esc call c ctx st) (Spec.Eval.renderCmd reg hasBundle esc entry scall dsem c env)
  | .rawText _ t, _, ctx, st, env, hr, _, _ => by
    rw [execCmd, Spec.Eval.renderCmd]
    exact ⟨rfl, bufBytes_write st t, hr.of_heap rfl⟩
  | .debugger _, _, ctx, st, env, hr, _, _ => by
    rw [execCmd, Spec.Eval.renderCmd]
    exact ⟨rfl, by simp, hr⟩
  | .headerParam _ _ _ _ _ _, _, ctx, st, env, hr, _, _ => by
    rw [execCmd, Spec.Eval.renderCmd]
    exact ⟨rfl, by simp, hr⟩
  | .soyDoc _ _, _, ctx, st, env, hr, _, _ => by
    rw [execCmd, Spec.Eval.renderCmd]
    exact ⟨rfl, by simp, hr⟩
  | .print pos arg dirs, hf, ctx, st, env, hr, _, _ => by
    simp only [cfrag, Bool.and_eq_true] at hf
    rw [execCmd, Spec.Eval.renderCmd]
    unfold evalPrint
    refine Agree.of_atNode (p := Expr.pos arg) ?_
    have hr : Rel g entry ctx (atNode st (Expr.pos arg)) env := hr.of_heap rfl
    generalize atNode st (Expr.pos arg) = st at hr ⊢
    by_cases hU : (!dirs.isEmpty && (Spec.Eval.dirsOf dsem).isNone) = true
    · simp only [hU, if_true]; trivial
    simp only [hU, Bool.false_eq_true, if_false]
    refine Agree.step (evalIn_meets hr arg hf.1) (fun h => by unfold evalPrintAt; simp only [h]) fun _ ⟨mv, n1, he, hv⟩ => ?_
    subst hv
    by_cases hund : mv = .undefined
    · subst hund; exact evalPrintAt_undef he
    have hnu : Spec.Eval.isUndef (absV mv) = false := by cases mv <;> first | exact absurd rfl hund | rfl
    rw [evalPrintAt_def he hund, hob, show dirs ++ obligDirs pos [] = dirs from List.append_nil _]
    simp only [hnu, Bool.false_eq_true, if_false]
    refine Agree.step (runDirectives_meets g entry dsem hdir dirs hf.2 mv esc { st with next := n1 } (hr.of_heap rfl)) (fun h => by simp only [h])
      fun r ⟨mv', n2, hrun, hv'⟩ => ?_
    simp only [hrun, ← hv']
    refine Agree.step (show_val mv') (fun h => by simp only [h]) fun s hs => ?_
    simp only [hs]
    cases r.2
    · exact ⟨rfl, by simp [bufBytes_write], hr.of_heap rfl⟩
    · exact ⟨rfl, by simp [bufBytes_writeAll, escChunks_flatten], hr.of_heap (writeAll_heap _ _).1⟩
  | .css _ none suffix, _, ctx, st, env, hr, _, _ => by
    rw [execCmd, Spec.Eval.renderCmd]
    exact ⟨rfl, bufBytes_write st suffix, hr.of_heap rfl⟩
  | .css _ (some e) suffix, hf, ctx, st, env, hr, _, _ => by
    simp only [cfrag, optFrag] at hf
    rw [execCmd, Spec.Eval.renderCmd]
    refine Agree.step (evalIn_meets hr e hf) (fun h => by simp only [h]) fun _ ⟨mv, n', he, hv⟩ => ?_
    subst hv
    simp only [he]
    refine Agree.step (show_val mv) (fun h => by simp only [h]) fun s hs => ?_
    simp only [hs]
    exact ⟨rfl, bufBytes_write _ _, hr.of_heap rfl⟩
  | .log _ body, hf, ctx, st, env, hr, hown, hok => by
    simp only [cfrag] at hf
    rw [execCmd, Spec.Eval.renderCmd]
    refine Agree.step (renderBlockOf_meets g entry (execBody_good g esc call hcall body)
      (body_agree body hf ctx { st with out := [] } env (hr.of_heap rfl) hok)) id
      fun out ⟨st1, hrb, hout, hr1, e1⟩ => ?_
    simp only [hrb]
    exact ⟨rfl, by rw [hout]; simp, hr1⟩
  | .ifc _ conds, hf, ctx, st, env, hr, hown, hok => by
    simp only [cfrag] at hf
    rw [execCmd, Spec.Eval.renderCmd]
    exact (conds_agree conds hf ctx st env hr hown hok).cmd
  | .letValue _ name e, hf, ctx, st, env, hr, hown, _ => by
    simp only [cfrag] at hf
    rw [execCmd, Spec.Eval.renderCmd]
    refine Agree.step (evalIn_meets hr e hf) (fun h => by simp only [h]) fun _ ⟨mv, n', he, hv⟩ => ?_
    subst hv
    simp only [he]
    cases hs : Eval.set ctx { st with next := n' } name mv with
    | none => exact absurd hs (set_ne_none hown)
    | some st2 => exact ⟨rfl, by rw [Refine.set_out hs]; simp, Rel.set g entry (st := { st with next := n' }) (hr.of_heap rfl) hown hs⟩
  | .letContent _ name body, hf, ctx, st, env, hr, hown, hok => by
    simp only [cfrag] at hf
    rw [execCmd, Spec.Eval.renderCmd]
    refine Agree.step (renderBlockOf_meets g entry (execBody_good g esc call hcall body)
      (body_agree body hf ctx { st with out := [] } env (hr.of_heap rfl) hok)) (fun h => by simp only [h])
      fun out ⟨st1, hrb, hout, hr1, e1⟩ => ?_
    simp only [hrb]
    cases hs : Eval.set ctx st1 name (.str out) with
    | none => exact absurd hs (set_ne_none (hown.ext e1))
    | some st2 => exact ⟨rfl, by rw [Refine.set_out hs, hout]; simp, Rel.set g entry hr1 (hown.ext e1) hs⟩
  | .msg _ id _ _ _ body, hf, ctx, st, env, hr, hown, hok => by
    simp only [cfrag] at hf
    rw [execCmd, Spec.Eval.renderCmd]
    -- the source path: the message is one block, a fresh frame around its parts
    have hsrc : Agree g entry ctx st (walkBlockOf (walkMsgBody g esc call body) ctx st)
        ((Spec.Eval.renderParts reg hasBundle esc entry scall dsem body env).bind fun r => .val (r.1, env)) := by
      have hb := block_agree g entry (walkMsgBody g esc call body)
        (fun env' => (Spec.Eval.renderParts reg hasBundle esc entry scall dsem body env').bind fun r => .val r.1)
        (walkMsgBody_good g esc call hcall body)
        (fun ctx' st' env' hr' hown' hok' => (parts_agree body hf ctx' st' env' hr' hown' hok').text)
        ctx st env hr hok
      exact hb.cmd_fst
    cases hB : hasBundle with
    | false =>
      rw [hB] at hsrc
      simp only [hmsg.1 hB, Bool.not_false, if_true]
      exact hsrc
    | true =>
      rw [hB] at hsrc
      simp only [Bool.not_true, Bool.false_eq_true, if_false]
      cases hM : Spec.Eval.msgsOf dsem with
      | none => simp [Agree]
      | some B =>
        obtain ⟨b, hgb, hpl, hmm⟩ := hmsg.2 B hM
        simp only [hgb, hmm id]
        cases hbm : b.message id with
        | none => simp only [Option.map_none]; exact hsrc
        | some parts =>
          simp only [Option.map_some]
          -- the translation: its parts, the placeholders those of the source
          have hrelp := phAll_rel body hf 0
          have hb := block_agree g entry (evalMParts g (phAll g esc call body 0) body parts)
            (fun env' => (Spec.Eval.renderT B (Spec.Eval.sphAll reg hasBundle esc entry scall dsem body 0) body (toT parts) env').bind
              fun r => .val r.1)
            (evalMParts_good g _ body (phAll_good g esc call hcall body 0) parts)
            (fun ctx' st' env' hr' hown' hok' =>
              (mparts_agree g entry b hgb B hpl body hf _ _ hrelp parts ctx' st' env' hr' hown' hok').text)
            ctx st env hr hok
          rw [hB] at hb
          exact hb.cmd_fst
  | .forc p0 var E (.mk bp cs) none, hf, ctx, st, env, hr, hown, hok => by
    simp only [cfrag, bfrag, Bool.and_eq_true] at hf
    exact forc_core g esc call hcall reg hasBundle entry scall dsem p0 var E (.mk bp cs) none ctx st env hr hok
      (execBody_agree g esc call reg hasBundle entry scall dsem bp cs (cmds_agree cs hf.2)) nofun (ValSim.of_frag g entry hr hf.1)
  | .forc p0 var E (.mk bp cs) (some bE), hf, ctx, st, env, hr, hown, hok => by
    simp only [cfrag, bfrag, Bool.and_eq_true] at hf
    exact forc_core g esc call hcall reg hasBundle entry scall dsem p0 var E (.mk bp cs) (some bE) ctx st env hr hok
      (execBody_agree g esc call reg hasBundle entry scall dsem bp cs (cmds_agree cs hf.1.2))
      (fun _ h st1 hr1 hok1 => Option.some.inj h ▸ body_agree bE hf.2 ctx st1 env hr1 hok1) (ValSim.of_frag g entry hr hf.1.1)
  | .switch _ value cases, hf, ctx, st, env, hr, hown, hok => by
    simp only [cfrag, Bool.and_eq_true] at hf
    rw [execCmd, Spec.Eval.renderCmd]
    refine Agree.step (evalIn_meets hr value hf.1) (fun h => by simp only [h]) fun _ ⟨mv, n', he, hv⟩ => ?_
    subst hv
    simp only [he, orDefault_eq env]
    exact Agree.of_out rfl
      (cases_agree cases mv hf.2 none none (Or.inl ⟨rfl, rfl⟩) ctx { st with next := n' } env (hr.of_heap rfl) hown hok).cmd
  | .call p name allData data ps, hf, ctx, st, env, hr, hown, hok => by
    obtain ⟨hfd, hfp⟩ := cfrag_call hf
    -- after the call the caller's bindings are what they were (Props/C02 block_cmd_scoped)
    have hrel : Rel g entry ctx (execCmd g esc call (.call p name allData data ps) ctx st).st env :=
      hr.of_ext (C02.block_cmd_scoped g esc call hcall (.call p name allData data ps) (by intros; simp) (by intros; simp)
        ctx st hown).ext hok (fun _ _ h => h)
    rw [execCmd] at hrel ⊢
    rw [Spec.Eval.renderCmd.eq_def, hreg]
    rw [hreg] at hrel
    simp only
    cases hl : Registry.lookup reg name with
    | none => exact rfl
    | some callee =>
      rw [hl] at hrel
      simp only at hrel ⊢
      refine Agree.step (callData_meets g entry hr hown hok allData data hfd) (fun h => by simp only [h])
        fun B ⟨cd, st1, hcd, hinv, hout⟩ => ?_
      rw [hcd] at hrel ⊢
      exact Agree.of_out hout (call_core g esc call hcall reg hasBundle entry scall dsem hcs callee
        (List.mem_of_find?_eq_some hl) ps ctx st1 env cd B hinv
        (params_agree ps hfp _ ctx _ env B hinv.rel hinv.own hinv.ownCd hinv.okCd hinv.frame hinv.apart hinv.ok) hrel)
  | .namespace .., hf, _, _, _, _, _, _ => by simp [cfrag] at hf
  | .template .., hf, _, _, _, _, _, _ => by simp [cfrag] at hf
theorem body_agree : (b : Block) → bfrag b = true → ∀ (ctx : Scope) (st : St) (env : Spec.Eval.Env),
    Rel g entry ctx st env → ScopeOk ctx st →
    AgreeB g entry ctx st env (walkBlockOf (execBody g esc call b) ctx st) (Spec.Eval.renderBlock reg hasBundle esc entry scall dsem b env)
  | .mk p cs, hf, ctx, st, env, hr, hok =>
    block_agree g entry (execBody g esc call (.mk p cs)) _ (execBody_good g esc call hcall _)
      (execBody_agree g esc call reg hasBundle entry scall dsem p cs (cmds_agree cs hf)) ctx st env hr hok
/-- a command list against `renderCmds`: each command hands the next its environment (`cmd_agree` keeps `Rel`); of the
    list as a whole only the text is compared, the block it is the body of ends with it -/
theorem cmds_agree : (cs : CmdList) → csFrag cs = true → ∀ (ctx : Scope) (st : St) (env : Spec.Eval.Env),
    Rel g entry ctx st env → Own ctx st → ScopeOk ctx st →
    AgreeT st (execCmds g esc call cs ctx st) (Spec.Eval.renderCmds reg hasBundle esc entry scall dsem cs env)
  | .nil, _, ctx, st, env, _, _, _ => by
    rw [execCmds, Spec.Eval.renderCmds]; exact ⟨rfl, by simp⟩
  | .cons c rest, hf, ctx, st, env, hr, hown, hok => by
    simp only [csFrag, Bool.and_eq_true] at hf
    rw [execCmds, Spec.Eval.renderCmds]
    exact (cmd_agree c hf.1 ctx (atNode st (cmdPos c)) env (hr.of_heap rfl) (hown.atNode _) hok).thenT
      (execCmd_good g esc call hcall c ctx _ (hown.atNode _)) (hown.atNode _) hok
      fun env1 hr1 hown1 hok1 => cmds_agree rest hf.2 ctx _ env1 hr1 hown1 hok1
theorem cases_agree : (cs : CaseList) → (sv : Value) → casesFrag cs = true →
    ∀ (dflt : Option Run) (sd : Option (Spec.Eval.Env → Out Bytes)), DfltRel g entry dflt sd →
    ∀ (ctx : Scope) (st : St) (env : Spec.Eval.Env), Rel g entry ctx st env → Own ctx st → ScopeOk ctx st →
    AgreeB g entry ctx st env (execCases g esc call cs dflt sv ctx st)
      ((Spec.Eval.renderMatch reg hasBundle esc entry scall dsem cs (absV sv) env).bind
        (specRest sd (Spec.Eval.renderDefault reg hasBundle esc entry scall dsem cs env) env))
  | .nil, _, _, dflt, sd, hd, ctx, st, env, hr, hown, hok => by
    rw [execCases, Spec.Eval.renderMatch, Spec.Eval.renderDefault]
    simp only [Spec.Eval.Out.bind]
    rcases hd with ⟨rfl, rfl⟩ | ⟨d, s, rfl, rfl, hds⟩
    · exact ⟨rfl, by simp [runDefault], hr⟩
    · exact hds ctx st env hr hown hok
  | .cons cp values body rest, sv, hf, dflt, sd, hd, ctx, st, env, hr, hown, hok => by
    simp only [casesFrag, Bool.and_eq_true] at hf
    rw [execCases, Spec.Eval.renderMatch, Out.bind_assoc]
    refine AgreeB.step (matchCase_meets g entry sv values st hr hf.1.1) (fun h => by simp only [h]) fun b ⟨n', hmc⟩ => ?_
    have hr1 : Rel g entry ctx { st with next := n' } env := hr.of_heap rfl
    have hbody : ∀ ctx' st' env', Rel g entry ctx' st' env' → Own ctx' st' → ScopeOk ctx' st' →
        AgreeB g entry ctx' st' env' (walkBlockOf (execBody g esc call body) ctx' st')
          (Spec.Eval.renderBlock reg hasBundle esc entry scall dsem body env') :=
      fun ctx' st' env' hr' _ hok' => body_agree body hf.1.2 ctx' st' env' hr' hok'
    simp only [hmc]
    refine AgreeB.of_out (st1 := { st with next := n' }) rfl ?_
    cases b with
    | true =>
      simp only [if_true]
      rw [Out.bind_assoc]
      exact AgreeB.step (agreeB_iff.1 (hbody ctx _ env hr1 hown hok)) id fun out h => h
    | false =>
      simp only [Bool.false_eq_true, if_false]
      obtain ⟨sd', hd', e⟩ := hd.pick values _ _ hbody
      rw [Spec.Eval.renderDefault, ← e]
      exact cases_agree rest sv hf.2 _ sd' hd' ctx _ env hr1 hown hok
theorem conds_agree : (cs : CondList) → condsFrag cs = true → ∀ (ctx : Scope) (st : St) (env : Spec.Eval.Env),
    Rel g entry ctx st env → Own ctx st → ScopeOk ctx st →
    AgreeB g entry ctx st env (execConds g esc call cs ctx st) (Spec.Eval.renderConds reg hasBundle esc entry scall dsem cs env)
  | .nil, _, ctx, st, env, hr, _, _ => by
    rw [execConds, Spec.Eval.renderConds]; exact ⟨rfl, by simp, hr⟩
  | .cons _ none body _, hf, ctx, st, env, hr, _, hok => by
    simp only [condsFrag, Bool.and_eq_true] at hf
    rw [execConds, Spec.Eval.renderConds]
    exact body_agree body hf.1.2 ctx st env hr hok
  | .cons _ (some c) body rest, hf, ctx, st, env, hr, hown, hok => by
    simp only [condsFrag, Bool.and_eq_true, optFrag] at hf
    rw [execConds, Spec.Eval.renderConds]
    refine AgreeB.step (evalIn_meets hr c hf.1.1) (fun h => by simp only [h]) fun _ ⟨mv, n', he, hv⟩ => ?_
    subst hv
    simp only [he, truthy_abs]
    cases mv.truthy
    · exact AgreeB.of_out rfl (conds_agree rest hf.2 ctx { st with next := n' } env (hr.of_heap rfl) hown hok)
    · exact AgreeB.of_out rfl (body_agree body hf.1.2 ctx { st with next := n' } env (hr.of_heap rfl) hok)
/-- the params of a call: evaluated / rendered in the caller's environment, bound in the callee's param frame (the seven
    hypotheses are the fields of `PInv`) -/
theorem params_agree : (ps : ParamList) → paramsFrag ps = true →
    ∀ (cd ctx : Scope) (st : St) (env : Spec.Eval.Env) (B0 : Spec.Eval.Binds),
    Rel g entry ctx st env → Own ctx st → Own cd st → ScopeOk cd st → FrameRel st.heap cd B0 → (∀ f ∈ ctx, f.ref ≠ top cd) → ScopeOk ctx st →
    AgreeP cd st B0 (execParams g esc call ps cd ctx st) (Spec.Eval.renderParams reg hasBundle esc entry scall dsem ps env)
  | .nil, _, cd, ctx, st, env, B0, _, _, _, _, hfr, _, _ => by
    rw [Spec.Eval.renderParams, execParams]
    exact ⟨rfl, by simpa using hfr, rfl⟩
  | .value _ key e rest, hf, cd, ctx, st, env, B0, hr, hown, owncd, hcd, hfr, hne, hok => by
    simp only [paramsFrag, Bool.and_eq_true] at hf
    rw [Spec.Eval.renderParams, execParams]
    refine AgreeP.step (evalIn_meets hr e hf.1) (fun h => by simp only [h]) fun _ ⟨mv, n', he, hv⟩ => ?_
    subst hv
    simp only [he]
    exact AgreeP.bound g entry (st1 := { st with next := n' }) (rest := execParams g esc call rest cd)
      ((PInv.mk hr hown owncd hcd hfr hne hok).ext g entry (Ext.of_heap_eq rfl rfl)) rfl
      fun st2 h => params_agree rest hf.2 cd ctx st2 env _ h.rel h.own h.ownCd h.okCd h.frame h.apart h.ok
  | .content _ key body rest, hf, cd, ctx, st, env, B0, hr, hown, owncd, hcd, hfr, hne, hok => by
    simp only [paramsFrag, Bool.and_eq_true] at hf
    rw [Spec.Eval.renderParams, execParams]
    refine AgreeP.step (renderBlockOf_meets g entry (execBody_good g esc call hcall body)
      (body_agree body hf.1 ctx { st with out := [] } env (hr.of_heap rfl) hok)) (fun h => by simp only [h])
      fun out ⟨st1, hrb, hout, _, e1⟩ => ?_
    simp only [hrb]
    exact AgreeP.bound g entry (mv := .str out) (rest := execParams g esc call rest cd)
      ((PInv.mk hr hown owncd hcd hfr hne hok).ext g entry e1) hout
      fun st2 h => params_agree rest hf.2 cd ctx st2 env _ h.rel h.own h.ownCd h.okCd h.frame h.apart h.ok
/-- the parts of a {msg} without a bundle: walked in order -/
theorem parts_agree : (ps : MsgParts) → partsFrag ps = true → ∀ (ctx : Scope) (st : St) (env : Spec.Eval.Env),
    Rel g entry ctx st env → Own ctx st → ScopeOk ctx st →
    Agree g entry ctx st (walkMsgBody g esc call ps ctx st) (Spec.Eval.renderParts reg hasBundle esc entry scall dsem ps env)
  | .nil, _, ctx, st, env, hr, _, _ => by
    rw [walkMsgBody, Spec.Eval.renderParts]; exact ⟨rfl, by simp, hr⟩
  | .text p t rest, hf, ctx, st, env, hr, hown, hok => by
    simp only [partsFrag] at hf
    rw [walkMsgBody, Spec.Eval.renderParts]
    have ih := parts_agree rest hf ctx (write (atNode st p) t) env (hr.of_heap rfl)
      ((hown.atNode p).ext (write_ext (fun _ => False) _ t)) hok
    exact ih.append (bufBytes_write _ t)
  | .ph _ _ b rest, hf, ctx, st, env, hr, hown, hok => by
    simp only [partsFrag, Bool.and_eq_true] at hf
    rw [walkMsgBody, Spec.Eval.renderParts]
    exact Agree.andThen (ph_agree b hf.1 ctx st env hr hown hok) (execPh_good g esc call hcall b ctx st hown) hown hok
      fun env1 hr1 hown1 hok1 => parts_agree rest hf.2 ctx _ env1 hr1 hown1 hok1
  | .plural _ _ value cases _ dflt rest, hf, ctx, st, env, hr, hown, hok => by
    simp only [partsFrag, Bool.and_eq_true] at hf
    obtain ⟨⟨⟨hfv, hfc⟩, hfd⟩, hfr⟩ := hf
    rw [walkMsgBody, Spec.Eval.renderParts]
    refine Agree.step (evalIn_meets hr value hfv) (fun h => by simp only [h]) fun _ ⟨mv, n', he, hv⟩ => ?_
    subst hv
    simp only [he]
    cases mv with
    | int i =>
      simp only [absV]
      exact Agree.of_out (st0 := { st with next := n' }) rfl (Agree.andThen
        (plural_agree cases hfc (walkMsgBody g esc call dflt) (Spec.Eval.renderParts reg hasBundle esc entry scall dsem dflt)
          (fun ctx' st' env' hr' hown' hok' => parts_agree dflt hfd ctx' st' env' hr' hown' hok') i.toInt ctx _ env
          (hr.of_heap rfl) hown hok)
        (walkPluralCases_good g esc call hcall cases (walkMsgBody g esc call dflt) (walkMsgBody_good g esc call hcall dflt)
          i.toInt ctx _ hown) hown hok
        fun env1 hr1 hown1 hok1 => parts_agree rest hfr ctx _ env1 hr1 hown1 hok1)
    | _ => simp [absV, Agree]
theorem ph_agree : (b : MsgPhBody) → phFrag b = true → ∀ (ctx : Scope) (st : St) (env : Spec.Eval.Env),
    Rel g entry ctx st env → Own ctx st → ScopeOk ctx st →
    Agree g entry ctx st (execPh g esc call b ctx st) (Spec.Eval.renderPh reg hasBundle esc entry scall dsem b env)
  | .htmlTag p text, _, ctx, st, env, hr, _, _ => by
    rw [execPh, Spec.Eval.renderPh]
    exact ⟨rfl, bufBytes_write _ text, hr.of_heap rfl⟩
  | .cmd c, hf, ctx, st, env, hr, hown, hok => by
    simp only [phFrag] at hf
    rw [execPh, Spec.Eval.renderPh]
    exact Agree.of_atNode (cmd_agree c hf ctx _ env (hr.of_heap rfl) (hown.atNode _) hok)
/-- the cases of a {plural}: the first whose number equals the value, else the default -/
theorem plural_agree : (cs : PluralCases) → plFrag cs = true → ∀ (dflt : Run) (sd : Spec.Eval.Env → Spec.Eval.ROut),
    (∀ ctx st env, Rel g entry ctx st env → Own ctx st → ScopeOk ctx st → Agree g entry ctx st (dflt ctx st) (sd env)) →
    ∀ (i : Int) (ctx : Scope) (st : St) (env : Spec.Eval.Env),
    Rel g entry ctx st env → Own ctx st → ScopeOk ctx st →
    Agree g entry ctx st (walkPluralCases g esc call cs dflt i ctx st) (Spec.Eval.renderPlural reg hasBundle esc entry scall dsem cs sd i env)
  | .nil, _, dflt, sd, hd, i, ctx, st, env, hr, hown, hok => by
    rw [walkPluralCases, Spec.Eval.renderPlural]; exact hd ctx st env hr hown hok
  | .cons _ v _ body rest, hf, dflt, sd, hd, i, ctx, st, env, hr, hown, hok => by
    simp only [plFrag, Bool.and_eq_true] at hf
    rw [walkPluralCases, Spec.Eval.renderPlural]
    split
    · exact parts_agree body hf.1 ctx st env hr hown hok
    · exact plural_agree rest hf.2 dflt sd hd i ctx st env hr hown hok
/-- the placeholders of a message: the interpreter's runs against the specification's renderings -/
theorem phAll_rel : (ps : MsgParts) → partsFrag ps = true → ∀ (d : Nat),
    PhRel g entry (phAll g esc call ps d) (Spec.Eval.sphAll reg hasBundle esc entry scall dsem ps d)
  | .nil, _, d => by rw [phAll, Spec.Eval.sphAll]; exact .nil
  | .text _ _ rest, hf, d => by
    rw [phAll, Spec.Eval.sphAll]; simp only [partsFrag] at hf; exact phAll_rel rest hf d
  | .ph _ name b rest, hf, d => by
    rw [phAll, Spec.Eval.sphAll]
    simp only [partsFrag, Bool.and_eq_true] at hf
    exact .cons (execPh_good g esc call hcall b) (fun ctx st env hr ho hk => ph_agree b hf.1 ctx st env hr ho hk)
      (phAll_rel rest hf.2 d)
  | .plural _ _ v cases _ dflt rest, hf, d => by
    rw [phAll, Spec.Eval.sphAll]
    simp only [partsFrag, Bool.and_eq_true] at hf
    exact ((phAllCases_rel cases hf.1.1.2 (d + 3)).append g entry (phAll_rel dflt hf.1.2 (d + 2))).append g entry
      (phAll_rel rest hf.2 d)
theorem phAllCases_rel : (cs : PluralCases) → plFrag cs = true → ∀ (d : Nat),
    PhRel g entry (phAllCases g esc call cs d) (Spec.Eval.sphAllCases reg hasBundle esc entry scall dsem cs d)
  | .nil, _, d => by rw [phAllCases, Spec.Eval.sphAllCases]; exact .nil
  | .cons _ _ _ body rest, hf, d => by
    rw [phAllCases, Spec.Eval.sphAllCases]
    simp only [plFrag, Bool.and_eq_true] at hf
    exact (phAll_rel body hf.1 d).append g entry (phAllCases_rel rest hf.2 d)
end

include hob hcall hreg hmsg hdir hcs in
/-- The walk of a template body refines the lexical semantics: on the fragment, whenever `Spec.renderBlock`
    yields text the model ends ok and has written exactly that text after what was written before;
    whenever it yields an error the model yields an error. -/
theorem exec_refines_lexical_partial (b : Block) (hf : bfrag b = true) (ctx : Scope) (st : St) (env : Spec.Eval.Env)
    (hr : Rel g entry ctx st env) (hown : Own ctx st) (hok : ScopeOk ctx st) :
    match Spec.Eval.renderBlock reg hasBundle esc entry scall dsem b env with
    | .val out => (execBody g esc call b ctx st).cls = .ok ∧
        bufBytes (execBody g esc call b ctx st).st.out = bufBytes st.out ++ out
    | .error => (execBody g esc call b ctx st).cls = .err
    | .unspec => True := by
  obtain ⟨p, cs⟩ := b
  exact execBody_agree g esc call reg hasBundle entry scall dsem p cs
    (cmds_agree g hob esc call hcall reg hasBundle entry scall dsem hreg hmsg hdir hcs cs hf) ctx st env hr hown hok

include hob hcall hreg hmsg hdir hcs in
/-- {foreach $x in E} over a list VALUE: for ANY list expression `E` whose evaluation agrees with the
    specification's in the current state (`hE` — e.g. a variable bound to a list of scalars,
    `list_variable_agrees`), the loop refines the lexical semantics: the body runs once per element in a
    frame of its own, the loop variable is gone afterwards. -/
theorem foreach_over_value_refines (p0 : Nat) (var : Bytes) (E : Expr) (bp : Nat) (cs : CmdList) (hfb : csFrag cs = true)
    (ctx : Scope) (st : St) (env : Spec.Eval.Env) (hr : Rel g entry ctx st env) (hown : Own ctx st) (hok : ScopeOk ctx st)
    (hE : (∀ v, Spec.Eval.eval env E = .val v → ∃ id mvs st1, evalIn g E ctx st = some (.list id mvs, st1) ∧
          v = .list (absL mvs) ∧ st1.heap = st.heap ∧ st1.out = st.out) ∧
        (Spec.Eval.eval env E = .error → evalIn g E ctx st = none)) :
    Agree g entry ctx st (execCmd g esc call (.forc p0 var E (.mk bp cs) none) ctx st)
      (Spec.Eval.renderCmd reg hasBundle esc entry scall dsem (.forc p0 var E (.mk bp cs) none) env) :=
  forc_core g esc call hcall reg hasBundle entry scall dsem p0 var E (.mk bp cs) none ctx st env hr hok
    (execBody_agree g esc call reg hasBundle entry scall dsem bp cs
      (cmds_agree g hob esc call hcall reg hasBundle entry scall dsem hreg hmsg hdir hcs cs hfb)) nofun (ValSim.of_list g hE)

/-- a variable bound to a list (in both environments) is such an `E` -/
theorem list_variable_agrees (p : Nat) (key : Bytes) (hk : (key == sIj) = false) (ctx : Scope) (st : St) (env : Spec.Eval.Env)
    (id : Nat) (xs : List Value)
    (hm : lookup st.heap ctx key = .list id xs) (hs : env.lookup key = .list (absL xs)) :
    (∀ v, Spec.Eval.eval env (.dataRef p key .nil) = .val v → ∃ id mvs st1, evalIn g (.dataRef p key .nil) ctx st = some (.list id mvs, st1) ∧
        v = .list (absL mvs) ∧ st1.heap = st.heap ∧ st1.out = st.out) ∧
    (Spec.Eval.eval env (.dataRef p key .nil) = .error → evalIn g (.dataRef p key .nil) ctx st = none) := by
  have hk2 : (key == Spec.Eval.sIj) = false := hk
  have hS : Spec.Eval.eval env (.dataRef p key .nil) = .val (.list (absL xs)) := by
    rw [Spec.Eval.eval]; simp only [hk2, Bool.false_eq_true, if_false, Spec.Eval.evalAcc, hs]
  have hM : evalIn g (.dataRef p key .nil) ctx st = some (.list id xs, st) := by
    simp [evalIn, evalE, hk, evalAccesses, eenv, hm]
  rw [hS]
  exact ⟨fun v hv => by simp only [Out.val.injEq] at hv; exact ⟨id, xs, st, hM, hv.symm, rfl, rfl⟩, fun h => by simp at h⟩

end

def regFrag (reg : Registry.Reg) : Prop := ∀ t ∈ reg, bfrag t.body = true

/-- a template invocation refines the specification's, at every call depth -/
theorem tmpl_refines (g : GEnv) (hob : g.oblig = []) (hasBundle : Bool) (dsem : Option Spec.Eval.LibSem)
    (hmsg : BundleOk g hasBundle dsem) (hdir : DirOk g (Spec.Eval.dirsOf dsem)) (hfr : regFrag g.reg) :
    ∀ (fuel : Nat) (t : Registry.Tmpl), t ∈ g.reg → ∀ (cctx : Scope) (s2 : St) (ce : Spec.Eval.CallEnv),
      Rel g ce.entry cctx s2 { vars := ce.entry, loops := [], ij := ce.ij, globals := ce.globals } → Own cctx s2 → ScopeOk cctx s2 →
      AgreeT s2 (runTmpl g fuel t cctx s2) (Spec.Eval.renderTmpl g.reg hasBundle dsem fuel t ce) := by
  intro fuel
  induction fuel with
  | zero => intro t _ cctx s2 ce _ _ _; rw [Spec.Eval.renderTmpl]; trivial
  | succ n ih =>
    intro t ht cctx s2 ce hr hown hok
    rw [runTmpl, Spec.Eval.renderTmpl]
    exact exec_refines_lexical_partial g hob (escapeOf t) (runTmpl g n) (runTmpl_good g n) g.reg hasBundle ce.entry
      (Spec.Eval.renderTmpl g.reg hasBundle dsem n) dsem rfl hmsg hdir ih t.body (hfr t ht) cctx (atNode s2 t.pos)
      { vars := ce.entry, loops := [], ij := ce.ij, globals := ce.globals } (hr.of_heap rfl) (hown.atNode _) hok

theorem Rel.init (g : GEnv) (data : Frame) (next : Nat) (ij : Option Spec.Eval.Binds)
    (hij : (g.ij.map fun p => absK p.2) = ij) :
    Rel g (absK data) [⟨1, false⟩, ⟨0, true⟩] { heap := [⟨data, true⟩, ⟨[], false⟩], out := [], next := next, foreign := 0 }
      { vars := absK data, loops := [], ij := ij, globals := absK g.globals } := by
  refine Rel.entered g (n := 0) (sc := []) (P := { heap := [⟨data, true⟩], out := [], next := next, foreign := 0 })
    (fun f hf => by simp at hf; subst hf; simp) (fun k => ?_) (fun k => ?_) hij
  · simp only [lookup, heapGet, find_absK]
    cases hf : Frame.find data k <;> simp [Frame.find, absV, hf]
  · rw [find_absK]
    cases hf : Frame.find g.globals k <;> simp

/-- `exec_refines_lexical_partial` closed over calls: for a registry all of whose templates are in the command
    fragment (`regFrag g.reg`, i.e. `cfrag` on every body), without obligatory directives (`hob : g.oblig = []`),
    with the specification's injected data the interpreter's (`hij`), its bundle the interpreter's
    (`BundleOk`) and its directive semantics the interpreter's (`DirOk`), on ANY data: whenever `Spec.render`
    yields text, `execute` ends ok having written exactly that text; whenever it yields an error, `execute`
    ends in `.err` or — when the failing node's position lies outside the template's text — in `.panic`. -/
theorem render_refines_lexical_partial (g : GEnv) (hob : g.oblig = []) (hfr : regFrag g.reg)
    (name : Bytes) (data : Frame)
    (fuel : Nat) (ij : Option Spec.Eval.Binds) (hij : (g.ij.map fun p => absK p.2) = ij)
    (hasBundle : Bool) (dsem : Option Spec.Eval.LibSem)
    (hmsg : BundleOk g hasBundle dsem) (hdir : DirOk g (Spec.Eval.dirsOf dsem)) :
    match Spec.Eval.render g.reg (absK g.globals) ij hasBundle name (absK data) fuel dsem with
    | .val out => (execute g name data fuel).cls = .ok ∧ (execute g name data fuel).chunks.flatten = out
    | .error => (execute g name data fuel).cls = .err ∨ (execute g name data fuel).cls = .panic
    | .unspec => True := by
  unfold Spec.Eval.render
  cases hl : Registry.lookup g.reg name with
  | none => simp [execute, hl]
  | some t =>
    have ht : t ∈ g.reg := List.mem_of_find?_eq_some hl
    rw [execute_some g name data fuel t hl]
    simp only
    have hrel := Rel.init g data (freshBase g data) ij hij
    have h := tmpl_refines g hob hasBundle dsem hmsg hdir hfr fuel t ht _ _ { entry := absK data, ij := ij, globals := absK g.globals } hrel
      (Own.init rfl) (ScopeOk.init rfl)
    cases hv : Spec.Eval.renderTmpl g.reg hasBundle dsem fuel t { entry := absK data, ij := ij, globals := absK g.globals } with
    | unspec => trivial
    | error =>
      rw [hv] at h
      simp only [show _ = Cls.err from h]
      split <;> simp
    | val out =>
      rw [hv] at h
      simp only [h.1]
      exact ⟨trivial, by simpa [bufBytes] using h.2⟩

/-- `render_refines_lexical_partial` where the specification gives text: this is how the examples below get
    what `execute` writes from an evaluation of `Spec.render` -/
theorem execute_of_render (g : GEnv) (hob : g.oblig = []) (hfr : regFrag g.reg) (name : Bytes) (data : Frame)
    (fuel : Nat) (hasBundle : Bool) (dsem : Option Spec.Eval.LibSem)
    (hmsg : BundleOk g hasBundle dsem) (hdir : DirOk g (Spec.Eval.dirsOf dsem)) (out : Bytes)
    (hs : Spec.Eval.render g.reg (absK g.globals) (g.ij.map fun p => absK p.2) hasBundle name (absK data) fuel dsem =
      .val out) :
    (execute g name data fuel).cls = .ok ∧ (execute g name data fuel).chunks.flatten = out := by
  have h := render_refines_lexical_partial g hob hfr name data fuel _ rfl hasBundle dsem hmsg hdir
  rw [hs] at h
  exact h

/-! ### non-vacuity: `{if true}{let $x: 'in' /}{$x}{/if}{$x}` on x = 'out' -/

def body0 : Block :=
  .mk 0 (.cons (.ifc 1 (.cons 1 (some (.bool 1 true))
      (.mk 2 (.cons (.letValue 2 [120] (.str 2 [] [105, 110])) (.cons (.print 3 (.dataRef 3 [120] .nil) []) .nil))) .nil))
    (.cons (.print 4 (.dataRef 4 [120] .nil) []) .nil))

def g0 : GEnv := { reg := [], globals := [], ij := none, msgs := none, tbl := [], oblig := [] }
def st0 : St := { heap := [⟨[([120], .str [111, 117, 116])], true⟩, ⟨[], false⟩], out := [], next := 2, foreign := 0 }
def ctx0 : Scope := [⟨1, false⟩, ⟨0, true⟩]
def env0 : Spec.Eval.Env := { vars := [([120], .str [111, 117, 116])], loops := [], ij := none, globals := [] }

theorem rel0 : Rel g0 env0.vars ctx0 st0 env0 :=
  Rel.init g0 [([120], .str [111, 117, 116])] 2 none rfl

theorem execBody0_of_render (body : Block) (hf : bfrag body = true) (out : Bytes)
    (hs : Spec.Eval.renderBlock [] false true env0.vars (fun _ _ => .unspec) none body env0 = .val out) :
    bufBytes (execBody g0 true (fun _ ctx st => ⟨.fuelOut, ctx, st⟩) body ctx0 st0).st.out = out := by
  have hcall : ∀ t, GoodRun ((fun _ ctx st => ⟨.fuelOut, ctx, st⟩ : Registry.Tmpl → Run) t) :=
    fun _ ctx st _ => ⟨by simp, fun h => by simp at h, Ext.refl _ _⟩
  have h := exec_refines_lexical_partial g0 rfl true _ hcall [] false env0.vars (fun _ _ => .unspec) none rfl
    ⟨fun _ => rfl, nofun⟩ nofun (fun _ _ _ _ _ _ _ _ => trivial) body hf ctx0 st0 env0 rel0
    (Own.init rfl) (ScopeOk.init rfl)
  rw [hs] at h
  simpa [bufBytes, st0] using h.2

/-- the specification says "inout" (the inner `x` does not leak); by the theorem the model writes "inout" -/
example : bufBytes (execBody g0 true (fun _ ctx st => ⟨.fuelOut, ctx, st⟩) body0 ctx0 st0).st.out = [105, 110, 111, 117, 116] :=
  execBody0_of_render body0 (by decide) _ (eq_of_outCode (by decide +kernel))

/-- `{foreach $y in ['a', 'b']}{$y}{switch $y}{case 'b'}!{/switch}{/foreach}{$x}`: "ab!out" — the loop variable is
    gone after the loop, `x` is what it was -/
def body1 : Block :=
  .mk 0 (.cons (.forc 1 [121] (.list 1 (.cons (.str 1 [] [97]) (.cons (.str 1 [] [98]) .nil)))
      (.mk 2 (.cons (.print 2 (.dataRef 2 [121] .nil) [])
        (.cons (.switch 3 (.dataRef 3 [121] .nil) (.cons 3 [.str 3 [] [98]] (.mk 3 (.cons (.rawText 3 [33]) .nil)) .nil)) .nil))) none)
    (.cons (.print 4 (.dataRef 4 [120] .nil) []) .nil))

example : bufBytes (execBody g0 true (fun _ ctx st => ⟨.fuelOut, ctx, st⟩) body1 ctx0 st0).st.out = [97, 98, 33, 111, 117, 116] :=
  execBody0_of_render body1 (by decide) _ (eq_of_outCode (by decide +kernel))

/-! ### non-vacuity of the closed theorem: `{let $x: 'L' /}{call .c}{param p: $x /}{/call}{$x}` with
    .c = `[{$p}]` (`$x` is NOT visible in the callee): "[L]L" -/

def tCallee : Registry.Tmpl :=
  { name := [99], params := [], body := .mk 10 (.cons (.rawText 11 [91]) (.cons (.print 12 (.dataRef 13 [112] .nil) []) (.cons (.rawText 14 [93]) .nil))),
    autoescape := .unspecified, nsName := [110], nsAutoescape := .unspecified, pos := 9, file := [102], text := [] }

def tCaller : Registry.Tmpl :=
  { name := [116], params := [],
    body := .mk 1 (.cons (.letValue 2 [120] (.str 2 [] [76]))
      (.cons (.call 3 [99] false none (.value 4 [112] (.dataRef 4 [120] .nil) .nil))
      (.cons (.print 5 (.dataRef 5 [120] .nil) []) .nil))),
    autoescape := .unspecified, nsName := [110], nsAutoescape := .unspecified, pos := 0, file := [102], text := [] }

def gCall : GEnv := { reg := [tCaller, tCallee], globals := [], ij := none, msgs := none, tbl := [], oblig := [] }

example : (execute gCall [116] [] 4).cls = .ok ∧ (execute gCall [116] [] 4).chunks.flatten = [91, 76, 93, 76] :=
  execute_of_render gCall rfl (by unfold regFrag; decide) [116] [] 4 false none
    ⟨fun _ => rfl, nofun⟩ nofun _ (eq_of_outCode (by decide +kernel))

/-! ### `$ij`: the same bundle with injected data {u: 'J'}: the caller `{$ij.u}{call .c}{param p: $ij.u /}{/call}`, the
    callee (`[{$p}]`, extended by `{$ij.u}`) sees the same injected data: "J[J]J" … and without injected data
    the specification says error and the render fails -/

def ijRef (p : Nat) : Expr := .dataRef p [105, 106] (.cons (.key p false [117]) .nil)

def tCalleeIj : Registry.Tmpl :=
  { name := [99], params := [], body := .mk 10 (.cons (.rawText 11 [91]) (.cons (.print 12 (.dataRef 13 [112] .nil) [])
      (.cons (.rawText 14 [93]) (.cons (.print 15 (ijRef 15) []) .nil)))),
    autoescape := .unspecified, nsName := [110], nsAutoescape := .unspecified, pos := 9, file := [102], text := [] }

def tCallerIj : Registry.Tmpl :=
  { name := [116], params := [],
    body := .mk 1 (.cons (.print 2 (ijRef 2) []) (.cons (.call 3 [99] false none (.value 4 [112] (ijRef 4) .nil)) .nil)),
    autoescape := .unspecified, nsName := [110], nsAutoescape := .unspecified, pos := 0, file := [102], text := [] }

def gIj (ij : Option (Nat × Frame)) : GEnv :=
  { reg := [tCallerIj, tCalleeIj], globals := [], ij := ij, msgs := none, tbl := [], oblig := [] }

theorem gIj_frag (ij : Option (Nat × Frame)) : regFrag (gIj ij).reg := by
  intro t ht
  simp only [gIj, List.mem_cons, List.mem_nil_iff, or_false] at ht
  rcases ht with rfl | rfl <;> decide

example : (execute (gIj (some (1, [([117], .str [74])]))) [116] [] 4).cls = .ok ∧
    (execute (gIj (some (1, [([117], .str [74])]))) [116] [] 4).chunks.flatten = [74, 91, 74, 93, 74] :=
  execute_of_render (gIj (some (1, [([117], .str [74])]))) rfl (gIj_frag _) [116] [] 4 false none
    ⟨fun _ => rfl, nofun⟩ nofun _ (eq_of_outCode (by decide +kernel))

example : (execute (gIj none) [116] [] 4).cls = .err ∨ (execute (gIj none) [116] [] 4).cls = .panic := by
  have h := render_refines_lexical_partial (gIj none) rfl (gIj_frag _) [116] [] 4 none rfl false none
    ⟨fun _ => rfl, fun _ h => by cases h⟩ (fun _ h => by cases h)
  have hs : Spec.Eval.render (gIj none).reg (absK (gIj none).globals) none false [116] (absK []) 4 = .error :=
    eq_of_outCode (by decide +kernel)
  rw [hs] at h
  exact h

/-! ### ordering comparisons are inside: `{if $n < 3}a{elseif $n >= 2.5}b{else}c{/if}` with n = 3: "b" -/

def tOrd : Registry.Tmpl :=
  { name := [116], params := [],
    body := .mk 1 (.cons (.ifc 2
      (.cons 3 (some (.bin .lt 3 (.dataRef 3 [110] .nil) (.int 3 3))) (.mk 4 (.cons (.rawText 4 [97]) .nil))
      (.cons 5 (some (.bin .ge 5 (.dataRef 5 [110] .nil) (.float 5 0x4004000000000000))) (.mk 6 (.cons (.rawText 6 [98]) .nil))
      (.cons 7 none (.mk 8 (.cons (.rawText 8 [99]) .nil)) .nil)))) .nil),
    autoescape := .unspecified, nsName := [110], nsAutoescape := .unspecified, pos := 0, file := [102], text := [] }
def gOrd : GEnv := { reg := [tOrd], globals := [], ij := none, msgs := none, tbl := [], oblig := [] }

example : (execute gOrd [116] [([110], .int 3)] 4).cls = .ok ∧ (execute gOrd [116] [([110], .int 3)] 4).chunks.flatten = [98] :=
  execute_of_render gOrd rfl (by unfold regFrag; decide) [116] [([110], .int 3)] 4 false none
    ⟨fun _ => rfl, nofun⟩ nofun _ (eq_of_outCode (by decide +kernel))

/-! ### data="all": `{let $x: 'L' /}{call .d data="all"}{param p: $x /}{/call}` on data {x: 'D'} with
    .d = `[{$p}{$x}]`: "[LD]" — the callee gets the ENTRY `x`, not the caller's {let} -/

def tCalleeAll : Registry.Tmpl :=
  { name := [100], params := [], body := .mk 10 (.cons (.rawText 11 [91]) (.cons (.print 12 (.dataRef 13 [112] .nil) [])
      (.cons (.print 13 (.dataRef 13 [120] .nil) []) (.cons (.rawText 14 [93]) .nil)))),
    autoescape := .unspecified, nsName := [110], nsAutoescape := .unspecified, pos := 9, file := [102], text := [] }

def tCallerAll : Registry.Tmpl :=
  { name := [116], params := [],
    body := .mk 1 (.cons (.letValue 2 [120] (.str 2 [] [76]))
      (.cons (.call 3 [100] true none (.value 4 [112] (.dataRef 4 [120] .nil) .nil)) .nil)),
    autoescape := .unspecified, nsName := [110], nsAutoescape := .unspecified, pos := 0, file := [102], text := [] }

def gAll : GEnv := { reg := [tCallerAll, tCalleeAll], globals := [], ij := none, msgs := none, tbl := [], oblig := [] }

example : (execute gAll [116] [([120], .str [68])] 4).cls = .ok ∧
    (execute gAll [116] [([120], .str [68])] 4).chunks.flatten = [91, 76, 68, 93] :=
  execute_of_render gAll rfl (by unfold regFrag; decide) [116] [([120], .str [68])] 4 false none
    ⟨fun _ => rfl, nofun⟩ nofun _ (eq_of_outCode (by decide +kernel))

/-! ### collections in the data: on {l: ['a', 'b'], m: {x: 'M'}}

      {foreach $y in $l}{$y}{/foreach}{call .d data="$m"}{param p: 'P' /}{/call}{call .d data="['x': 'Q', 'p': 'R']" /}

    with .d = `[{$p}{$x}]`: "ab[PM][RQ]" -/

def tCallerData : Registry.Tmpl :=
  { name := [116], params := [],
    body := .mk 1 (.cons (.forc 1 [121] (.dataRef 1 [108] .nil) (.mk 2 (.cons (.print 2 (.dataRef 2 [121] .nil) []) .nil)) none)
      (.cons (.call 3 [100] false (some (.dataRef 3 [109] .nil)) (.value 4 [112] (.str 4 [] [80]) .nil))
      (.cons (.call 5 [100] false (some (.map 5 (.cons [120] (.str 5 [] [81]) (.cons [112] (.str 5 [] [82]) .nil)))) .nil) .nil))),
    autoescape := .unspecified, nsName := [110], nsAutoescape := .unspecified, pos := 0, file := [102], text := [] }

def gData : GEnv := { reg := [tCallerData, tCalleeAll], globals := [], ij := none, msgs := none, tbl := [], oblig := [] }

def dataLM : Frame := [([108], .list 7 [.str [97], .str [98]]), ([109], .map 8 [([120], .str [77])])]

set_option maxHeartbeats 2000000 in
example : (execute gData [116] dataLM 4).cls = .ok ∧
    (execute gData [116] dataLM 4).chunks.flatten = [97, 98, 91, 80, 77, 93, 91, 82, 81, 93] :=
  execute_of_render gData rfl (by unfold regFrag; decide) [116] dataLM 4 false none
    ⟨fun _ => rfl, nofun⟩ nofun _ (eq_of_outCode (by decide +kernel))

/-! ### `foreach_over_value_refines` with `list_variable_agrees`: `{foreach $y in $l}{$y}{/foreach}` on l = ['a', 'b'] -/

def stL : St := { heap := [⟨[([108], .list 7 [.str [97], .str [98]])], true⟩, ⟨[], false⟩], out := [], next := 9, foreign := 0 }
def envL : Spec.Eval.Env := { vars := [([108], .list [.str [97], .str [98]])], loops := [], ij := none, globals := [] }

theorem relL : Rel g0 envL.vars ctx0 stL envL :=
  Rel.init g0 [([108], .list 7 [.str [97], .str [98]])] 9 none rfl

example : bufBytes (execCmd g0 true (fun _ ctx st => ⟨.fuelOut, ctx, st⟩)
    (.forc 1 [121] (.dataRef 1 [108] .nil) (.mk 2 (.cons (.print 2 (.dataRef 2 [121] .nil) []) .nil)) none) ctx0 stL).st.out = [97, 98] := by
  have hcall : ∀ t, GoodRun ((fun _ ctx st => ⟨.fuelOut, ctx, st⟩ : Registry.Tmpl → Run) t) :=
    fun _ ctx st _ => ⟨by simp, fun h => by simp at h, Ext.refl _ _⟩
  have h := foreach_over_value_refines g0 rfl true _ hcall [] false envL.vars (fun _ _ => .unspec) none rfl ⟨fun _ => rfl, fun _ h => by cases h⟩ (fun _ h => by cases h) (fun _ _ _ _ _ _ _ _ => trivial)
    1 [121] (.dataRef 1 [108] .nil) 2 (.cons (.print 2 (.dataRef 2 [121] .nil) []) .nil) (by decide) ctx0 stL envL relL
    (Own.init rfl) (ScopeOk.init rfl)
    (list_variable_agrees g0 1 [108] rfl ctx0 stL envL 7 [.str [97], .str [98]] rfl rfl)
  have hs : Spec.Eval.renderCmd [] false true envL.vars (fun _ _ => .unspec) none
      (.forc 1 [121] (.dataRef 1 [108] .nil) (.mk 2 (.cons (.print 2 (.dataRef 2 [121] .nil) []) .nil)) none) envL = .val ([97, 98], envL) := by rfl
  rw [hs] at h
  simpa [bufBytes, stL] using h.2.1

/-! ### a content param: `{call .c}{param p}{let $x: 'L' /}({$x}){/param}{/call}` with .c = `[{$p}]`: "[(L)]" -/

def tCallerContent : Registry.Tmpl :=
  { name := [116], params := [],
    body := .mk 1 (.cons (.call 3 [99] false none (.content 4 [112]
        (.mk 5 (.cons (.letValue 5 [120] (.str 5 [] [76])) (.cons (.rawText 6 [40])
          (.cons (.print 6 (.dataRef 6 [120] .nil) []) (.cons (.rawText 7 [41]) .nil))))) .nil)) .nil),
    autoescape := .unspecified, nsName := [110], nsAutoescape := .unspecified, pos := 0, file := [102], text := [] }

def gContent : GEnv := { reg := [tCallerContent, tCallee], globals := [], ij := none, msgs := none, tbl := [], oblig := [] }

example : (execute gContent [116] [] 4).cls = .ok ∧ (execute gContent [116] [] 4).chunks.flatten = [91, 40, 76, 41, 93] :=
  execute_of_render gContent rfl (by unfold regFrag; decide) [116] [] 4 false none
    ⟨fun _ => rfl, nofun⟩ nofun _ (eq_of_outCode (by decide +kernel))

/-! ### {msg} without a bundle: `{msg desc=""}H{$x}{plural $n}{case 1}one{default}{$n}s{/plural}{/msg}` on
    x = 'out', n = 3: "Hout3s" -/

def tMsg : Registry.Tmpl :=
  { name := [116], params := [],
    body := .mk 1 (.cons (.msg 2 77 [] [] 3
        (.text 3 [72] (.ph 4 [88] (.cmd (.print 4 (.dataRef 4 [120] .nil) []))
          (.plural 5 [78] (.dataRef 5 [110] .nil)
            (.cons 6 1 7 (.text 7 [111, 110, 101] .nil) .nil) 8
            (.ph 8 [78] (.cmd (.print 8 (.dataRef 8 [110] .nil) [])) (.text 9 [115] .nil)) .nil)))) .nil),
    autoescape := .unspecified, nsName := [110], nsAutoescape := .unspecified, pos := 0, file := [102], text := [] }

def gMsg : GEnv := { reg := [tMsg], globals := [], ij := none, msgs := none, tbl := [], oblig := [] }

def dataMsg : Frame := [([120], .str [111, 117, 116]), ([110], .int 3)]

example : (execute gMsg [116] dataMsg 4).cls = .ok ∧ (execute gMsg [116] dataMsg 4).chunks.flatten = [72, 111, 117, 116, 51, 115] :=
  execute_of_render gMsg rfl (by unfold regFrag; decide) [116] dataMsg 4 false none
    ⟨fun _ => rfl, nofun⟩ nofun _ (eq_of_outCode (by decide +kernel))

theorem applyDirective_scalar (impl : Bytes) (mv : Value) (args : List Value) (r : Value) (h : Scalar mv = true)
    (ha : applyDirective impl mv args = some r) : Scalar r = true := by
  unfold applyDirective at ha
  have key : r = mv ∨ ∃ s, r = .str s := by
    repeat' split at ha
    all_goals (try simp at ha)
    all_goals (try split at ha)
    all_goals (try simp at ha)
    all_goals first
      | exact Or.inl ha.symm
      | exact Or.inl ha.2.symm
      | exact Or.inr ⟨_, ha.symm⟩
      | (obtain ⟨j, _, hj⟩ := ha; exact Or.inr ⟨_, hj.symm⟩)
  rcases key with rfl | ⟨s, rfl⟩
  · exact h
  · rfl

theorem modelDirSem_ok (g : GEnv) : DirOk g (some (modelDirSem g.tbl)) := by
  intro D hD
  simp only [Option.some.injEq] at hD
  subst hD
  refine ⟨fun _ => rfl, ?_⟩
  intro impl mv margs
  simp only [modelDirSem]
  by_cases hs : (scalarV (absV mv) && (absL margs).all scalarV) = true
  · simp only [hs, if_true]
    simp only [Bool.and_eq_true] at hs
    have hsc : Scalar mv = true := by rw [← scalarV_abs]; exact hs.1
    have hscs := scalarV_absL margs hs.2
    simp only [concV_absV mv hsc, concL_absL margs hscs]
    cases ha : applyDirective impl mv margs with
    | none => exact ⟨fun v' h => by simp at h, fun _ => rfl⟩
    | some r =>
      refine ⟨fun v' h => ?_, fun h => by simp at h⟩
      simp only [Out.val.injEq] at h
      exact ⟨r, rfl, h⟩
  · simp only [hs, Bool.false_eq_true, if_false]
    exact ⟨fun v' h => by simp at h, fun h => by simp at h⟩

/-! `{$x}{$x|noAutoescape}{$x|truncate:2|noAutoescape}` on x = '<b>c': "&lt;b&gt;c" "<b>c" "<b" -/

def sNoAutoescape : Bytes := [110, 111, 65, 117, 116, 111, 101, 115, 99, 97, 112, 101]
def sTruncate : Bytes := [116, 114, 117, 110, 99, 97, 116, 101]

def tDir : Registry.Tmpl :=
  { name := [116], params := [],
    body := .mk 1 (.cons (.print 2 (.dataRef 2 [120] .nil) [])
      (.cons (.print 3 (.dataRef 3 [120] .nil) [⟨3, sNoAutoescape, []⟩])
      (.cons (.print 4 (.dataRef 4 [120] .nil) [⟨4, sTruncate, [.int 4 2]⟩, ⟨4, sNoAutoescape, []⟩]) .nil))),
    autoescape := .unspecified, nsName := [110], nsAutoescape := .unspecified, pos := 0, file := [102], text := [] }

def gDir : GEnv := { reg := [tDir], globals := [], ij := none, msgs := none, tbl := Gen.directiveTable, oblig := [] }

example : (execute gDir [116] [([120], .str [60, 98, 62, 99])] 4).cls = .ok ∧
    (execute gDir [116] [([120], .str [60, 98, 62, 99])] 4).chunks.flatten =
      [38, 108, 116, 59, 98, 38, 103, 116, 59, 99, 60, 98, 62, 99, 60, 98] :=
  execute_of_render gDir rfl (by unfold regFrag; decide) [116] [([120], .str [60, 98, 62, 99])] 4 false (some { dirs := some (modelDirSem gDir.tbl) })
    ⟨fun _ => rfl, nofun⟩ (modelDirSem_ok gDir) _ (eq_of_outCode (by decide +kernel))

/-- a {default} written BEFORE a {case}: `{switch $x}{default}D{case 'out'}C{case 'zz'}Z{/switch}{switch $x}{default}E{case 'q'}Q{/switch}`
    on x = 'out': "CE" — the case after the default is found; the default runs when nothing matches -/
def body3 : Block :=
  .mk 0 (.cons (.switch 1 (.dataRef 1 [120] .nil)
      (.cons 2 [] (.mk 2 (.cons (.rawText 2 [68]) .nil))
        (.cons 3 [.str 3 [] [111, 117, 116]] (.mk 3 (.cons (.rawText 3 [67]) .nil))
          (.cons 4 [.str 4 [] [122, 122]] (.mk 4 (.cons (.rawText 4 [90]) .nil)) .nil))))
    (.cons (.switch 5 (.dataRef 5 [120] .nil)
      (.cons 6 [] (.mk 6 (.cons (.rawText 6 [69]) .nil))
        (.cons 7 [.str 7 [] [113]] (.mk 7 (.cons (.rawText 7 [81]) .nil)) .nil))) .nil))

example : bufBytes (execBody g0 true (fun _ ctx st => ⟨.fuelOut, ctx, st⟩) body3 ctx0 st0).st.out = [67, 69] :=
  execBody0_of_render body3 (by decide) _ (eq_of_outCode (by decide +kernel))

/-! ### {msg} through a message bundle: the interpreter's bundle read as the specification's `MsgSem` -/

def modelMsgSem (b : MsgBundle) : Spec.Eval.MsgSem :=
  { message := fun id => (b.message id).map toT, pluralCase := b.pluralCase }

theorem modelMsgSem_ok (g : GEnv) (b : MsgBundle) (hb : g.msgs = some b) (dirs : Option Spec.Eval.DirSem) :
    BundleOk g true (some { dirs := dirs, msgs := some (modelMsgSem b) }) := by
  refine ⟨fun h => (by cases h), fun B hB => ?_⟩
  simp only [Spec.Eval.msgsOf, Option.bind_some, Option.some.injEq] at hB
  subst hB
  exact ⟨b, hb, fun _ => rfl, fun _ => rfl⟩

/-! `{msg}H{$x} and {$n}{/msg}{msg}{plural $n}{case 1}one{default}{$n}s{/plural}{/msg}` on x = 'out', n = 3, with

      message 77 ↦ `[{N}|{X}]`                       (the placeholders REORDERED)
      message 78 ↦ plural V: form 0 `eins`, form 1 `{N} viele`;   pluralCase n = 0 if n = 1, else 1

    renders "[3|out]3 viele" — through the translations, not the source text. -/

def tMsgB : Registry.Tmpl :=
  { name := [116], params := [],
    body := .mk 1 (.cons (.msg 2 77 [] [] 3
        (.text 3 [72] (.ph 4 [88] (.cmd (.print 4 (.dataRef 4 [120] .nil) []))
          (.text 5 [32, 97, 110, 100, 32] (.ph 6 [78] (.cmd (.print 6 (.dataRef 6 [110] .nil) [])) .nil)))))
      (.cons (.msg 7 78 [] [] 8
        (.plural 8 [86] (.dataRef 8 [110] .nil)
          (.cons 9 1 10 (.text 10 [111, 110, 101] .nil) .nil) 11
          (.ph 11 [78] (.cmd (.print 11 (.dataRef 11 [110] .nil) [])) (.text 12 [115] .nil)) .nil)) .nil)),
    autoescape := .unspecified, nsName := [110], nsAutoescape := .unspecified, pos := 0, file := [102], text := [] }

def bundleB : MsgBundle :=
  { message := fun id =>
      if id == 77 then some (.cons (.raw [91]) (.cons (.ph [78]) (.cons (.raw [124]) (.cons (.ph [88]) (.cons (.raw [93]) .nil)))))
      else if id == 78 then some (.cons (.plural [86]
        (.cons (.cons (.raw [101, 105, 110, 115]) .nil)
          (.cons (.cons (.ph [78]) (.cons (.raw [32, 118, 105, 101, 108, 101]) .nil)) .nil))) .nil)
      else none
    pluralCase := fun n => if n == 1 then 0 else 1 }

def gMsgB : GEnv := { reg := [tMsgB], globals := [], ij := none, msgs := some bundleB, tbl := [], oblig := [] }

set_option maxHeartbeats 2000000 in
example : (execute gMsgB [116] dataMsg 4).cls = .ok ∧
    (execute gMsgB [116] dataMsg 4).chunks.flatten = [91, 51, 124, 111, 117, 116, 93, 51, 32, 118, 105, 101, 108, 101] :=
  execute_of_render gMsgB rfl (by unfold regFrag; decide) [116] dataMsg 4 true (some { dirs := none, msgs := some (modelMsgSem bundleB) })
    (modelMsgSem_ok gMsgB bundleB rfl none) nofun _ (eq_of_outCode (by decide +kernel))

/-! ### accesses, collection literals and builtins in a program: on x = {items: [{name: 'a', tag: null}, {name: 'b', tag: 'T'}]}

      {foreach $it in $x.items}{$it.name}{if isNonnull($it.tag)}:{$it.tag}{/if}{/foreach}{length($x.items)}
      {call .d data="['x': $x.items[0].name, 'p': min(1, 2)]" /}

    with .d = `[{$p}{$x}]`: "ab:T2[1a]" -/

def kItems : Bytes := [105, 116, 101, 109, 115]
def kName : Bytes := [110, 97, 109, 101]
def kTag : Bytes := [116, 97, 103]
def kIt : Bytes := [105, 116]

def tAcc : Registry.Tmpl :=
  { name := [116], params := [],
    body := .mk 1 (.cons (.forc 1 kIt (.dataRef 1 [120] (.cons (.key 1 false kItems) .nil))
        (.mk 2 (.cons (.print 2 (.dataRef 2 kIt (.cons (.key 2 false kName) .nil)) [])
          (.cons (.ifc 3 (.cons 3 (some (.func 3 fIsNonnull (.cons (.dataRef 3 kIt (.cons (.key 3 false kTag) .nil)) .nil)))
            (.mk 4 (.cons (.rawText 4 [58]) (.cons (.print 4 (.dataRef 4 kIt (.cons (.key 4 false kTag) .nil)) []) .nil))) .nil)) .nil))) none)
      (.cons (.print 5 (.func 5 fLength (.cons (.dataRef 5 [120] (.cons (.key 5 false kItems) .nil)) .nil)) [])
      (.cons (.call 6 [100] false (some (.map 6 (.cons [120]
          (.dataRef 6 [120] (.cons (.key 6 false kItems) (.cons (.index 6 false 0) (.cons (.key 6 false kName) .nil))))
          (.cons [112] (.func 6 fMin (.cons (.int 6 1) (.cons (.int 6 2) .nil))) .nil)))) .nil) .nil))),
    autoescape := .unspecified, nsName := [110], nsAutoescape := .unspecified, pos := 0, file := [102], text := [] }

def gAcc : GEnv := { reg := [tAcc, tCalleeAll], globals := [], ij := none, msgs := none, tbl := [], oblig := [] }

def dataAcc : Frame := [([120], .map 3 [(kItems, .list 4
  [.map 5 [(kName, .str [97]), (kTag, .null)], .map 6 [(kName, .str [98]), (kTag, .str [84])]])])]

set_option maxHeartbeats 4000000 in
example : (execute gAcc [116] dataAcc 4).cls = .ok ∧
    (execute gAcc [116] dataAcc 4).chunks.flatten = [97, 98, 58, 84, 50, 91, 49, 97, 93] :=
  execute_of_render gAcc rfl (by unfold regFrag; decide) [116] dataAcc 4 false none
    ⟨fun _ => rfl, nofun⟩ nofun _ (eq_of_outCode (by decide +kernel))

/-- a loop over `$y` leaves `$x` (and every other name) as it was: the frame of an iteration of
    `{foreach $y in …}` over the example scope -/
example : ∃ st2 st3 st4,
    Eval.set (push ctx0 st0).1 (push ctx0 st0).2 ([121] ++ sLastIndexSuffix) (.int 1) = some st2 ∧
    Eval.set (push ctx0 st0).1 st2 [121] (.str [97]) = some st3 ∧
    Eval.set (push ctx0 st0).1 st3 ([121] ++ sIndexSuffix) (.int 0) = some st4 ∧
    lookup st4.heap (push ctx0 st0).1 [120] = lookup st0.heap ctx0 [120] :=
  ⟨_, _, _, rfl, rfl, rfl, loop_hides_only_its_variable [121] (.str [97]) 1 0 ctx0 st0 _ _ _
    (by intro f hf; simp [ctx0] at hf; rcases hf with rfl | rfl <;> simp [st0]) rfl rfl rfl [120] (by decide) (by decide)⟩

/-- `{for $i in range(1, 4)}{$i}{/for}{$x}`: "123out" -/
def body2 : Block :=
  .mk 0 (.cons (.forc 1 [105] (.func 1 fRange (.cons (.int 1 1) (.cons (.int 1 4) .nil)))
      (.mk 2 (.cons (.print 2 (.dataRef 2 [105] .nil) []) .nil)) none)
    (.cons (.print 4 (.dataRef 4 [120] .nil) []) .nil))

example : bufBytes (execBody g0 true (fun _ ctx st => ⟨.fuelOut, ctx, st⟩) body2 ctx0 st0).st.out = [49, 50, 51, 111, 117, 116] :=
  execBody0_of_render body2 (by decide) _ (eq_of_outCode (by decide +kernel))

end SoyVerif.Props.C02Spec
