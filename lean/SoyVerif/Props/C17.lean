/-
  C17 — a printed expression parses back to the same expression; C01 (parser half) — every
  well-formed expression, with minimal or redundant parentheses, is accepted with the right tree.

  TOKEN level: the printer's output is viewed as the token list the lexer delivers for it
  (`PrintTokens.pieces` / `toks`; `toks_spell_printer` proves that spelling these tokens with the
  recorded spaces IS `Printer.printExpr`); that the lexer reads these tokens from the spelled text is
  `LexPrint.lexAll_pieces`, used in Props/C17b.lean, not here.  The parser is the model `Parser.parseExprEntry`
  (tied to parse.Expr by the correspondence C01parse; the printer model to `String()` by C17).

  The facts about the GENERATED operator tables enter as the hypothesis `TableOK`; `Inst/C17.lean`
  discharges it by `decide` on the tables regenerated from /repo and states the theorems without it.

  Float literals: `FormatFloat`/`ParseFloat` are parameters `ff`/`pf`; `Canon` asks of every float
  in the tree that `pf (fmtFloatLit ff bits) = some bits` (validated by correspondence, not proved).
-/
import SoyVerif.Lemmas.ParserAll
import SoyVerif.Lemmas.ParserToks
import SoyVerif.Lemmas.ParserQuote
import SoyVerif.Lemmas.ParserAdj

namespace SoyVerif.Props.C17
open SoyVerif SoyVerif.Model SoyVerif.Model.Parser SoyVerif.Model.PrintTokens SoyVerif.Model.Printer
open SoyVerif.Lemmas.ParserBasic SoyVerif.Lemmas.ParserRound SoyVerif.Lemmas.ParserToks

/-- token lists with arbitrary positions: `items` carries the tokens `ts` -/
def Carries (items : List Item) (ts : List Tk) : Prop := items.map Item.tk = ts

/-- a concrete assignment of positions (used for the corollaries and the examples) -/
def withPos : Nat → List Tk → List Item
  | _, [] => []
  | p, t :: r => ⟨t.typ, p, t.val⟩ :: withPos (p + 1) r

theorem withPos_carries : (p : Nat) → (ts : List Tk) → Carries (withPos p ts) ts
  | _, [] => rfl
  | p, t :: r => by
    have ih : List.map Item.tk (withPos (p + 1) r) = r := withPos_carries (p + 1) r
    simp [Carries, withPos, Item.tk, ih]

/-- a top-level spelling of `e`: a rendering inside any number of redundant parentheses -/
def RendersTop (pf : Bytes → Option UInt64) (e : Expr) (ts : List Tk) : Prop := Slot 0 e (Renders pf e) ts

section
variable (ff : UInt64 → Bytes) (pf : Bytes → Option UInt64)

/-- the token view is the printer's output — spelling the pieces (tokens by their text,
    markers as one space) gives exactly `printExpr`, and `toks` are those tokens -/
theorem toks_spell_printer (e : Expr) :
    spell (pieces ff e) = printExpr ff e ∧ toks ff e = unsp (pieces ff e) :=
  ⟨spell_pieces ff e, rfl⟩

/-- the printer's parenthesisation is one of the renderings (the minimal one) -/
theorem printed_tokens_render (e : Expr) (hC : Canon ff pf e) : Renders pf e (toks ff e) :=
  renders_toks ff pf e hC

/-- lexer-facing: in the printed tokens of ANY tree, preceded by the start of input, every token that
    may begin with a unary `-` (Negate, Integer, Float) follows a token of `beforeOperand`, every binary
    minus follows a token of `afterOperand` (`chainOK`), and the last token is one of `afterOperand` -/
theorem minus_context (e : Expr) :
    SoyVerif.Lemmas.ParserAdj.chainOK .tInvalid (SoyVerif.Lemmas.ParserAdj.typs (toks ff e)) = true ∧
    SoyVerif.Lemmas.ParserAdj.lastOf .tInvalid (SoyVerif.Lemmas.ParserAdj.typs (toks ff e)) ∈ SoyVerif.Lemmas.ParserAdj.afterOperand :=
  SoyVerif.Lemmas.ParserAdj.good_toks ff e .tInvalid (by simp [SoyVerif.Lemmas.ParserAdj.beforeOperand])

/-- `unquote_quote` for the Soy string-literal grammar: the printer's quoting of ANY byte
    string — escapes, multi-byte runes, bytes that are not valid UTF-8 — reads back as that string;
    this is why `Canon` needs no condition on map keys -/
theorem key_requotable (k : Bytes) : Quote.unquoteString (quoteString k) = some k :=
  SoyVerif.Lemmas.ParserQuote.requote k

/-- C01, string-literal side: every byte string `v` has a Soy literal (`quoteString v`) that the
    parser reads as `v` — the string node `'…'` with that spelling is canonical, so the round-trip
    theorems apply to it -/
theorem unquote_quote (v : Bytes) (p : Nat) :
    Quote.unquoteString (quoteString v) = some v ∧ Canon ff pf (.str p (quoteString v) v) := by
  refine ⟨SoyVerif.Lemmas.ParserQuote.requote v, ?_⟩
  rw [Canon]; exact SoyVerif.Lemmas.ParserQuote.requote v

variable (T : TableOK)
include T

/-- C01, parser completeness with redundant parentheses: every token spelling of `e` — the
    minimal parenthesisation or any number of redundant parentheses around any operand, list item,
    argument, map value, index expression or the whole expression; any spelling of the number and
    map-key literals — with ANY positions, followed by EOF, is accepted by `parse.Expr` (model,
    with the fuel it really uses) and yields `e` modulo positions -/
theorem parse_complete_redundant_parens (e : Expr) (ts : List Tk) (items : List Item)
    (hR : RendersTop pf e ts) (hit : Carries items (ts ++ [tEOF])) :
    ∃ e', parseExprEntry pf items = .ok e' ∧ erase e' = erase e :=
  parse_slot_entry pf T e ts items hR hit

/-- the same for EVERY fuel of at least 8 per token (+1): the result does not depend on the fuel
    (so the round trip does not go through the fuel monotonicity of Lemmas/FuelMono), and the parser stops in front of EOF -/
theorem parse_complete_any_fuel (e : Expr) (ts : List Tk) (items : List Item)
    (hR : RendersTop pf e ts) (hit : Carries items (ts ++ [tEOF])) (F : Nat) (hF : 8 * ts.length + 1 ≤ F) :
    ∃ e' st2, parseExpr pf F 0 (initState items) = .ok (e', st2) ∧ erase e' = erase e ∧ At1 st2 [tEOF] :=
  parse_slot_fuel pf T e ts items hR hit F hF

/-- C17 at the token level: the tokens of the printed text of a canonical tree, with any positions, parse back to the
    tree modulo positions -/
theorem print_parse_roundtrip_tokens (e : Expr) (hC : Canon ff pf e) (items : List Item)
    (hit : Carries items (toks ff e ++ [tEOF])) :
    ∃ e', parseExprEntry pf items = .ok e' ∧ erase e' = erase e :=
  parse_slot_entry pf T e (toks ff e) items (slot_plain ff pf e (renders_toks ff pf e hC)) hit

/-- the token grammar is unambiguous: one token list renders at most one tree -/
theorem renders_unique (a b : Expr) (ts : List Tk) (ha : RendersTop pf a ts) (hb : RendersTop pf b ts) :
    erase a = erase b := by
  obtain ⟨ea, h1, h2⟩ := parse_slot_entry pf T a ts (withPos 0 (ts ++ [tEOF])) ha (withPos_carries 0 _)
  obtain ⟨eb, h3, h4⟩ := parse_slot_entry pf T b ts (withPos 0 (ts ++ [tEOF])) hb (withPos_carries 0 _)
  rw [h1] at h3
  injection h3 with h3
  rw [← h2, ← h4, h3]

/-- corollary: two canonical trees that print the same tokens are the same tree -/
theorem print_injective_tokens (a b : Expr) (ha : Canon ff pf a) (hb : Canon ff pf b)
    (h : toks ff a = toks ff b) : erase a = erase b :=
  renders_unique pf T a b (toks ff a) (slot_plain ff pf a (renders_toks ff pf a ha))
    (by rw [h]; exact slot_plain ff pf b (renders_toks ff pf b hb))

end

end SoyVerif.Props.C17
