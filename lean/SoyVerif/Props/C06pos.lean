/-
  C06 (positions): every node position the renderer can slice the source with lies inside
  the source — `posOk`, the hypothesis of `Props/C06.execute_contract`, holds for parser output.

  `errRecover` → `errFromNode` evaluates `src[:node.Position()]`; a position beyond `len(src)`
  would panic inside the deferred handler and escape `Render`.  The parser models carry, as a
  post-condition of every function (Lemmas/ParserPos `EP` / `NP`, threaded through
  Lemmas/ParserExprSafe, FileParserLoops, FileParserBlocks), that every node of a successfully
  built tree is positioned at a token the parser was given:

  * the expression parser puts every node at the token that begins it (or, for a binary
    operator, at the operator token; a ternary at its condition);
  * the command parsers put every node at the command's token, a list at its first token;
  * `parseQuotedExpr` (data="…", value="…", {css e, …}) parses the attribute text with a nested
    scanner and then MOVES the whole tree to the enclosing parser's current token
    (`setPos`, /repo 4a8a189: offsets into the unquoted attribute text can lie beyond the file);
  * `placeholderize` / `parseMsgRawText` give every piece of a message text the position of
    that text (/repo a9dace7).

  Every token of the lexer lies inside the input (`lex_items`), hence `parsed_positions_in_input`; over the
  converted tree (`Node.toCmd?` → `Cmd`) `toCmd_positions`; for the registry `soyFile_posOk`, `addAll_posOk`; and
  `execute_no_panic_of_parsed`.

  Notions of Lemmas/ParserPos used throughout: `PosOK S p` (some item satisfying `S` sits at `p`), `EP S e` /
  `NP S n` (every node of the expression / of the tree is at such a position).
-/
import SoyVerif.Props.C05parse
import SoyVerif.Model.FileParserAst
import SoyVerif.Model.Eval
import SoyVerif.Props.C06

namespace SoyVerif.Props.C06pos
open SoyVerif SoyVerif.Model SoyVerif.Model.FileParser SoyVerif.Model.Eval SoyVerif.Lemmas.ParserSafe

def AllOK (S : Item → Prop) (l : List Nat) : Prop := ∀ p ∈ l, PosOK S p

theorem allOK_nil {S : Item → Prop} : AllOK S [] := fun _ h => absurd h (by simp)
theorem allOK_cons {S : Item → Prop} {p : Nat} {l : List Nat} (hp : PosOK S p) (hl : AllOK S l) : AllOK S (p :: l) := by
  intro q hq
  rcases List.mem_cons.mp hq with h | h
  · rw [h]; exact hp
  · exact hl q h
theorem allOK_append {S : Item → Prop} {a b : List Nat} (ha : AllOK S a) (hb : AllOK S b) : AllOK S (a ++ b) := by
  intro q hq
  rcases List.mem_append.mp hq with h | h
  · exact ha q h
  · exact hb q h
theorem allOK_single {S : Item → Prop} {p : Nat} (hp : PosOK S p) : AllOK S [p] := allOK_cons hp allOK_nil

mutual
  theorem posE_ok {S : Item → Prop} : ∀ e : Expr, EP S e → AllOK S (posE e)
    | .null _, h | .bool _ _, h | .int _ _, h | .float _ _, h | .str _ _ _, h | .global _ _, h => by
      simp only [EP] at h; simp only [posE]; exact allOK_single h
    | .func _ _ args, h => by
      simp only [EP] at h; simp only [posE]; exact allOK_cons h.1 (posEs_ok args h.2)
    | .list _ items, h => by
      simp only [EP] at h; simp only [posE]; exact allOK_cons h.1 (posEs_ok items h.2)
    | .map _ items, h => by
      simp only [EP] at h; simp only [posE]; exact allOK_cons h.1 (posM_ok items h.2)
    | .dataRef _ _ acc, h => by
      simp only [EP] at h; simp only [posE]; exact allOK_cons h.1 (posA_ok acc h.2)
    | .not _ a, h => by simp only [EP] at h; simp only [posE]; exact allOK_cons h.1 (posE_ok a h.2)
    | .neg _ a, h => by simp only [EP] at h; simp only [posE]; exact allOK_cons h.1 (posE_ok a h.2)
    | .bin _ _ a b, h => by
      simp only [EP] at h; simp only [posE]
      exact allOK_cons h.1 (allOK_append (posE_ok a h.2.1) (posE_ok b h.2.2))
    | .tern _ c a b, h => by
      simp only [EP] at h; simp only [posE]
      exact allOK_cons h.1 (allOK_append (posE_ok c h.2.1) (allOK_append (posE_ok a h.2.2.1) (posE_ok b h.2.2.2)))
  theorem posEs_ok {S : Item → Prop} : ∀ l : ExprList, EPs S l → AllOK S (posEs l)
    | .nil, _ => by simp only [posEs]; exact allOK_nil
    | .cons e r, h => by
      simp only [EPs] at h; simp only [posEs]; exact allOK_append (posE_ok e h.1) (posEs_ok r h.2)
  theorem posM_ok {S : Item → Prop} : ∀ m : MapItems, EPm S m → AllOK S (posM m)
    | .nil, _ => by simp only [posM]; exact allOK_nil
    | .cons _ e r, h => by
      simp only [EPm] at h; simp only [posM]; exact allOK_append (posE_ok e h.1) (posM_ok r h.2)
  theorem posA_ok {S : Item → Prop} : ∀ a : AccessList, EPa S a → AllOK S (posA a)
    | .nil, _ => by simp only [posA]; exact allOK_nil
    | .cons (.key _ _ _) r, h => by simp only [EPa] at h; simp only [posA]; exact posA_ok r h.2
    | .cons (.index _ _ _) r, h => by simp only [EPa] at h; simp only [posA]; exact posA_ok r h.2
    | .cons (.expr _ _ e) r, h => by
      simp only [EPa] at h; simp only [posA]; exact allOK_append (posE_ok e h.2.1) (posA_ok r h.2.2)
end

theorem posOpt_ok {S : Item → Prop} : ∀ e : Option Expr, EPo S e → AllOK S (posOpt e)
  | none, _ => by simp only [posOpt]; exact allOK_nil
  | some e, h => by simp only [EPo] at h; simp only [posOpt]; exact posE_ok e h

theorem posList_ok {S : Item → Prop} : ∀ l : List Expr, EPl S l → AllOK S (posList l)
  | [], _ => by simp only [posList]; exact allOK_nil
  | e :: r, h => by
    simp only [posList]
    exact allOK_append (posE_ok e (h e (by simp))) (posList_ok r (fun x hx => h x (by simp [hx])))

theorem posDirs_ok {S : Item → Prop} : ∀ l : List Directive, DirsP S l → AllOK S (posDirs l)
  | [], _ => by simp only [posDirs]; exact allOK_nil
  | d :: r, h => by
    simp only [posDirs]
    exact allOK_append (posList_ok d.args (h d (by simp)).2) (posDirs_ok r (fun x hx => h x (by simp [hx])))

mutual
  theorem toCmd_pos {S : Item → Prop} : ∀ (n : Node) (c : Cmd), n.toCmd? = some c → NP S n → AllOK S (posCmd c)
    | .rawText p t, c, h, hn => by
      simp only [Node.toCmd?, Option.some.injEq] at h; subst h
      simp only [NP] at hn; simp only [posCmd]; exact allOK_single hn
    | .print p a ds, c, h, hn => by
      simp only [Node.toCmd?, Option.some.injEq] at h; subst h
      simp only [NP] at hn; simp only [posCmd]
      exact allOK_cons hn.1 (allOK_append (posE_ok a hn.2.1) (posDirs_ok ds hn.2.2))
    | .msg p m d body, c, h, hn => by
      cases body with
      | list bp ns =>
        simp only [NP] at hn
        simp only [Node.toCmd?, Option.map_eq_some_iff] at h
        obtain ⟨parts, hp, rfl⟩ := h
        simp only [posCmd]
        exact allOK_cons hn.1 (toParts_pos ns parts hp hn.2.2)
      | _ => simp [Node.toCmd?] at h
    | .css p e s, c, h, hn => by
      simp only [Node.toCmd?, Option.some.injEq] at h; subst h
      simp only [NP] at hn; simp only [posCmd]; exact allOK_cons hn.1 (posOpt_ok e hn.2)
    | .debugger p, c, h, hn => by
      simp only [Node.toCmd?, Option.some.injEq] at h; subst h
      simp only [NP] at hn; simp only [posCmd]; exact allOK_single hn
    | .log p b, c, h, hn => by
      simp only [Node.toCmd?, Option.map_eq_some_iff] at h
      obtain ⟨b', hb, rfl⟩ := h
      simp only [NP] at hn; simp only [posCmd]; exact allOK_cons hn.1 (toBlock_pos b b' hb hn.2)
    | .ifc p conds, c, h, hn => by
      simp only [Node.toCmd?, Option.map_eq_some_iff] at h
      obtain ⟨cs, hc, rfl⟩ := h
      simp only [NP] at hn; simp only [posCmd]; exact allOK_cons hn.1 (toConds_pos conds cs hc hn.2)
    | .forc p v l b .nil, c, h, hn => by
      simp only [Node.toCmd?, Option.map_eq_some_iff] at h
      obtain ⟨b', hb, rfl⟩ := h
      simp only [NP] at hn; simp only [posCmd]
      exact allOK_cons hn.1 (allOK_append (posE_ok l hn.2.1) (allOK_append (toBlock_pos b b' hb hn.2.2.1) allOK_nil))
    | .forc p v l b (.cons e r), c, h, hn => by
      simp only [NP] at hn
      unfold Node.toCmd? at h
      split at h
      · rename_i b' e' hb he
        simp only [Option.some.injEq] at h; subst h
        have hie := hn.2.2.2
        simp only [NPL] at hie
        simp only [posCmd]
        exact allOK_cons hn.1 (allOK_append (posE_ok l hn.2.1)
          (allOK_append (toBlock_pos b b' hb hn.2.2.1) (toBlock_pos e e' he hie.1)))
      · exact absurd h (by simp)
    | .switch p v cases, c, h, hn => by
      simp only [Node.toCmd?, Option.map_eq_some_iff] at h
      obtain ⟨cs, hc, rfl⟩ := h
      simp only [NP] at hn; simp only [posCmd]
      exact allOK_cons hn.1 (allOK_append (posE_ok v hn.2.1) (toCases_pos cases cs hc hn.2.2))
    | .call p nm all d params, c, h, hn => by
      simp only [Node.toCmd?, Option.map_eq_some_iff] at h
      obtain ⟨ps, hp, rfl⟩ := h
      simp only [NP] at hn; simp only [posCmd]
      exact allOK_cons hn.1 (allOK_append (posOpt_ok d hn.2.1) (toParams_pos params ps hp hn.2.2))
    | .letValue p nm e, c, h, hn => by
      simp only [Node.toCmd?, Option.some.injEq] at h; subst h
      simp only [NP] at hn; simp only [posCmd]; exact allOK_cons hn.1 (posE_ok e hn.2)
    | .letContent p nm b, c, h, hn => by
      simp only [Node.toCmd?, Option.map_eq_some_iff] at h
      obtain ⟨b', hb, rfl⟩ := h
      simp only [NP] at hn; simp only [posCmd]; exact allOK_cons hn.1 (toBlock_pos b b' hb hn.2)
    | .headerParam p o nm tp t d, c, h, hn => by
      simp only [Node.toCmd?, Option.some.injEq] at h; subst h
      simp only [NP] at hn; simp only [posCmd]; exact allOK_single hn.1
    | .nspace p nm ae, c, h, hn => by
      simp only [Node.toCmd?, Option.some.injEq] at h; subst h
      simp only [NP] at hn; simp only [posCmd]; exact allOK_single hn
    | .template p nm b ae pr, c, h, hn => by
      simp only [Node.toCmd?, Option.map_eq_some_iff] at h
      obtain ⟨b', hb, rfl⟩ := h
      simp only [NP] at hn; simp only [posCmd]; exact allOK_single hn.1
    | .soyDoc p ps, c, h, hn => by
      simp only [Node.toCmd?, Option.some.injEq] at h; subst h
      simp only [NP] at hn; simp only [posCmd]; exact allOK_single hn
    | .ifCond .., _, h, _ | .switchCase .., _, h, _ | .paramValue .., _, h, _
    | .paramContent .., _, h, _ | .list .., _, h, _ | .plural .., _, h, _ | .pluralCase .., _, h, _
    | .placeholder .., _, h, _ | .htmlTag .., _, h, _ => by simp [Node.toCmd?] at h
  theorem toBlock_pos {S : Item → Prop} : ∀ (n : Node) (b : Block), toBlock? n = some b → NP S n → AllOK S (posBlock b)
    | .list p ns, b, h, hn => by
      simp only [toBlock?, Option.map_eq_some_iff] at h
      obtain ⟨cs, hc, rfl⟩ := h
      simp only [NP] at hn; simp only [posBlock]; exact allOK_cons hn.1 (toCmds_pos ns cs hc hn.2)
    | .rawText .., _, h, _ | .print .., _, h, _ | .msg .., _, h, _ | .css .., _, h, _ | .debugger .., _, h, _
    | .log .., _, h, _ | .ifc .., _, h, _ | .ifCond .., _, h, _ | .forc .., _, h, _ | .switch .., _, h, _
    | .switchCase .., _, h, _ | .call .., _, h, _ | .paramValue .., _, h, _ | .paramContent .., _, h, _
    | .letValue .., _, h, _ | .letContent .., _, h, _ | .headerParam .., _, h, _ | .nspace .., _, h, _
    | .template .., _, h, _ | .soyDoc .., _, h, _ | .plural .., _, h, _ | .pluralCase .., _, h, _
    | .placeholder .., _, h, _ | .htmlTag .., _, h, _ => by simp [toBlock?] at h
  theorem toCmds_pos {S : Item → Prop} : ∀ (ns : NodeList) (cs : CmdList), toCmds? ns = some cs → NPL S ns →
      AllOK S (posCmds cs)
    | .nil, cs, h, _ => by
      simp only [toCmds?, Option.some.injEq] at h; subst h; simp only [posCmds]; exact allOK_nil
    | .cons n r, cs, h, hn => by
      simp only [NPL] at hn
      unfold toCmds? at h
      split at h
      · rename_i c cs' hc hcs
        simp only [Option.some.injEq] at h; subst h
        simp only [posCmds]
        exact allOK_append (toCmd_pos n c hc hn.1) (toCmds_pos r cs' hcs hn.2)
      · exact absurd h (by simp)
  theorem toConds_pos {S : Item → Prop} : ∀ (ns : NodeList) (cs : CondList), toConds? ns = some cs → NPL S ns →
      AllOK S (posConds cs)
    | .nil, cs, h, _ => by
      simp only [toConds?, Option.some.injEq] at h; subst h; simp only [posConds]; exact allOK_nil
    | .cons n r, cs, h, hn => by
      cases n with
      | ifCond p c b =>
        simp only [NPL, NP] at hn
        simp only [toConds?] at h
        split at h
        · rename_i b' r' hb hr
          simp only [Option.some.injEq] at h; subst h
          simp only [posConds]
          exact allOK_append (posOpt_ok c hn.1.2.1) (allOK_append (toBlock_pos b b' hb hn.1.2.2) (toConds_pos r r' hr hn.2))
        · exact absurd h (by simp)
      | _ => simp [toConds?] at h
  theorem toCases_pos {S : Item → Prop} : ∀ (ns : NodeList) (cs : CaseList), toCases? ns = some cs → NPL S ns →
      AllOK S (posCases cs)
    | .nil, cs, h, _ => by
      simp only [toCases?, Option.some.injEq] at h; subst h; simp only [posCases]; exact allOK_nil
    | .cons n r, cs, h, hn => by
      cases n with
      | switchCase p vs b =>
        simp only [NPL, NP] at hn
        simp only [toCases?] at h
        split at h
        · rename_i b' r' hb hr
          simp only [Option.some.injEq] at h; subst h
          simp only [posCases]
          exact allOK_append (posList_ok vs hn.1.2.1) (allOK_append (toBlock_pos b b' hb hn.1.2.2) (toCases_pos r r' hr hn.2))
        · exact absurd h (by simp)
      | _ => simp [toCases?] at h
  theorem toParams_pos {S : Item → Prop} : ∀ (ns : NodeList) (ps : ParamList), toParams? ns = some ps → NPL S ns →
      AllOK S (posParams ps)
    | .nil, ps, h, _ => by
      simp only [toParams?, Option.some.injEq] at h; subst h; simp only [posParams]; exact allOK_nil
    | .cons n r, ps, h, hn => by
      cases n with
      | paramValue p k e =>
        simp only [NPL, NP] at hn
        simp only [toParams?, Option.map_eq_some_iff] at h
        obtain ⟨r', hr, rfl⟩ := h
        simp only [posParams]
        exact allOK_append (posE_ok e hn.1.2) (toParams_pos r r' hr hn.2)
      | paramContent p k b =>
        simp only [NPL, NP] at hn
        simp only [toParams?] at h
        split at h
        · rename_i b' r' hb hr
          simp only [Option.some.injEq] at h; subst h
          simp only [posParams]
          exact allOK_append (toBlock_pos b b' hb hn.1.2) (toParams_pos r r' hr hn.2)
        · exact absurd h (by simp)
      | _ => simp [toParams?] at h
  theorem toParts_pos {S : Item → Prop} : ∀ (ns : NodeList) (ps : MsgParts), toParts? ns = some ps → NPL S ns →
      AllOK S (posParts ps)
    | .nil, ps, h, _ => by
      simp only [toParts?, Option.some.injEq] at h; subst h; simp only [posParts]; exact allOK_nil
    | .cons n r, ps, h, hn => by
      cases n with
      | rawText p t =>
        simp only [NPL, NP] at hn
        simp only [toParts?, Option.map_eq_some_iff] at h
        obtain ⟨r', hr, rfl⟩ := h
        simp only [posParts]
        exact allOK_cons hn.1 (toParts_pos r r' hr hn.2)
      | placeholder p body =>
        simp only [NPL, NP] at hn
        unfold toParts? at h
        simp only at h
        split at h
        · simp only [Option.map_eq_some_iff] at h
          obtain ⟨r', hr, rfl⟩ := h
          simp only [posParts, posPh]
          exact allOK_append (allOK_single (by simpa only [NP] using hn.1.2)) (toParts_pos r r' hr hn.2)
        · split at h
          · rename_i c r' hcm hr
            simp only [Option.some.injEq] at h; subst h
            simp only [posParts, posPh]
            exact allOK_append (toCmd_pos body c hcm hn.1.2) (toParts_pos r r' hr hn.2)
          · exact absurd h (by simp)
      | plural p v cases dflt =>
        cases dflt with
        | list dp dns =>
          simp only [NPL, NP] at hn
          simp only [toParts?] at h
          split at h
          · rename_i cs d r' hcs hd hr
            simp only [Option.some.injEq] at h; subst h
            simp only [posParts]
            exact allOK_append (posE_ok v hn.1.2.1) (allOK_append (toPlCases_pos cases cs hcs hn.1.2.2.1)
              (allOK_append (toParts_pos dns d hd hn.1.2.2.2.2) (toParts_pos r r' hr hn.2)))
          · exact absurd h (by simp)
        | _ => simp [toParts?] at h
      | _ => simp [toParts?] at h
  theorem toPlCases_pos {S : Item → Prop} : ∀ (ns : NodeList) (cs : PluralCases), toPlCases? ns = some cs → NPL S ns →
      AllOK S (posPl cs)
    | .nil, cs, h, _ => by
      simp only [toPlCases?, Option.some.injEq] at h; subst h; simp only [posPl]; exact allOK_nil
    | .cons n r, cs, h, hn => by
      cases n with
      | pluralCase p v body =>
        cases body with
        | list bp bns =>
          simp only [NPL, NP] at hn
          simp only [toPlCases?] at h
          split at h
          · rename_i b r' hb hr
            simp only [Option.some.injEq] at h; subst h
            simp only [posPl]
            exact allOK_append (toParts_pos bns b hb hn.1.2.2) (toPlCases_pos r r' hr hn.2)
          · exact absurd h (by simp)
        | _ => simp [toPlCases?] at h
      | _ => simp [toPlCases?] at h
end

theorem NPL_toList {S : Item → Prop} : ∀ ns : NodeList, NPL S ns → ∀ n ∈ ns.toList, NP S n
  | .nil, _, n, h => by simp [NodeList.toList] at h
  | .cons c r, hn, n, h => by
    simp only [NPL] at hn
    simp only [NodeList.toList, List.mem_cons] at h
    rcases h with h | h
    · rw [h]; exact hn.1
    · exact NPL_toList r hn.2 n h

/-- the item predicate "positioned at most `B`" (not `Lemmas.Check.Below`, which is about checker targets) -/
def Below (B : Nat) : Item → Prop := fun it => it.pos ≤ B

theorem posOK_below {B p : Nat} : PosOK (Below B) p ↔ p ≤ B :=
  ⟨fun ⟨it, h, e⟩ => e ▸ h, fun h => ⟨⟨.tInvalid, p, []⟩, h, rfl⟩⟩

theorem parseFile_positions (pf : Bytes → Option UInt64) (items : List Item) (B : Nat)
    (hb : ∀ it ∈ items, it.pos ≤ B) (nodes : List Node)
    (h : parseFile pf (exprFuel items) items = .ok nodes) : ∀ n ∈ nodes, NP (Below B) n := by
  -- `top_safe` at: panics allowed (`AP := True`, which answers the two well-formedness obligations `hwf`, `hlex` by
  -- `Or.inl trivial`), nothing assumed of EOF items or the lexer's shape (`EL := ⟨False, False⟩`, so `hel`, `hlx`
  -- are vacuous), `S` := positioned at most `B`
  have hsafe := C05.top_safe pf (AP := True) (EL := ⟨False, False⟩) (S := Below B) (Nat.zero_le B) items hb
    (fun _ _ => Or.inl trivial) (fun h => absurd h id) (fun h => absurd h id)
  unfold FSafe at hsafe
  unfold parseFile at h
  simp only [StateT.run] at h
  split at h
  · rename_i p ns st' he
    rw [he] at hsafe
    simp only [Except.ok.injEq] at h
    subst h
    have hn := hsafe.2.2
    simp only [NP] at hn
    exact NPL_toList ns hn.2
  · exact absurd h (by simp)
  · exact absurd h (by simp)

/-- `parse.SoyFile(name, input)`: every node of the result — commands, lists, expressions, the
    expressions of quoted attributes, the pieces of message texts — is positioned inside the
    input.  No exception. -/
theorem parsed_positions_in_input (pf : Bytes → Option UInt64) (input : Bytes) (nodes : List Node)
    (h : parseSource pf input = .ok nodes) : ∀ n ∈ nodes, NP (Below input.length) n := by
  unfold parseSource at h
  obtain ⟨is, hl, _, hb, _⟩ := C05.lex_items input false
  rw [hl] at h
  exact parseFile_positions pf is input.length (fun it hit => by have := hb it hit; omega) nodes h

theorem soyFile_positions_in_input (input : Bytes) (nodes : List Node) (h : soyFile input = .ok nodes) :
    ∀ n ∈ nodes, NP (Below input.length) n := parsed_positions_in_input parseFloat64 input nodes h

theorem toCmd_template {n : Node} {p : Nat} {nm : Bytes} {b : Block} {ae : Autoescape} {pr : Bool}
    (hc : n.toCmd? = some (.template p nm b ae pr)) :
    ∃ body, n = .template p nm body ae pr ∧ toBlock? body = some b := by
  cases n with
  | template p' nm' body ae' pr' =>
    simp only [Node.toCmd?, Option.map_eq_some_iff, Option.some.injEq, Cmd.template.injEq] at hc
    obtain ⟨b', hb, rfl, rfl, rfl, rfl, rfl⟩ := hc
    exact ⟨body, rfl, hb⟩
  | msg p' m d body => cases body <;> simp [Node.toCmd?] at hc
  | forc p' v l body ie =>
    cases ie with
    | nil => simp [Node.toCmd?] at hc
    | cons e r =>
      unfold Node.toCmd? at hc
      split at hc <;> simp at hc
  | _ => simp [Node.toCmd?] at hc

/-- over the converted tree: exactly the positions `Eval.posCmd` collects, and for a template
    also those of its body (`posBlock`) -/
theorem toCmd_positions (input : Bytes) (nodes : List Node) (h : soyFile input = .ok nodes)
    (n : Node) (hn : n ∈ nodes) (c : Cmd) (hc : n.toCmd? = some c) :
    (∀ p ∈ posCmd c, p ≤ input.length) ∧
    (∀ p nm b ae pr, c = .template p nm b ae pr → ∀ q ∈ posBlock b, q ≤ input.length) := by
  have hnp := soyFile_positions_in_input input nodes h n hn
  refine ⟨fun p hp => posOK_below.mp (toCmd_pos n c hc hnp p hp), ?_⟩
  intro p nm b ae pr he q hq
  subst he
  obtain ⟨body, rfl, hb⟩ := toCmd_template hc
  simp only [NP] at hnp
  exact posOK_below.mp (toBlock_pos _ _ hb hnp.2 q hq)

theorem mapM_some_mem {α β : Type} (f : α → Option β) : ∀ (l : List α) (r : List β), l.mapM f = some r →
    ∀ c ∈ r, ∃ n ∈ l, f n = some c
  | [], r, h, c, hc => by
    simp only [List.mapM_nil, Option.pure_def, Option.some.injEq] at h
    subst h; simp at hc
  | a :: l, r, h, c, hc => by
    simp only [List.mapM_cons, Option.pure_def, Option.bind_eq_bind] at h
    cases hfa : f a with
    | none => rw [hfa] at h; simp at h
    | some b =>
      rw [hfa] at h
      cases hl : l.mapM f with
      | none => rw [hl] at h; simp at h
      | some bs =>
        rw [hl] at h
        simp only [Option.bind_some, Option.some.injEq] at h
        subst h
        rcases List.mem_cons.mp hc with e | e
        · exact ⟨a, by simp, by rw [hfa, e]⟩
        · obtain ⟨n, hn, hfn⟩ := mapM_some_mem f l bs hl c e
          exact ⟨n, by simp [hn], hfn⟩

/-- a template command whose own position and whose body lie within `L` -/
def TmplWithin (L : Nat) (c : Cmd) : Prop :=
  ∀ p nm b ae pr, c = .template p nm b ae pr → p ≤ L ∧ ∀ q ∈ posBlock b, q ≤ L

theorem splitHeaderParams_pos : ∀ (cmds : CmdList) (q : Nat),
    q ∈ posCmds (Registry.splitHeaderParams cmds).2 → q ∈ posCmds cmds
  | .nil, q, h => by simpa [Registry.splitHeaderParams] using h
  | .cons c rest, q, h => by
    cases c with
    | headerParam p o nm tp t d =>
      simp only [Registry.splitHeaderParams] at h
      simp only [posCmds, List.mem_append]
      exact Or.inr (splitHeaderParams_pos rest q h)
    | rawText p txt =>
      simp only [Registry.splitHeaderParams] at h
      split at h
      · -- a blank: either it stays (no header param follows) or the result is that of the rest
        split at h
        · exact h
        · rename_i ps r _ heq
          simp only [posCmds, List.mem_append]
          exact Or.inr (splitHeaderParams_pos rest q (by rw [heq]; exact h))
      · exact h
    | _ => simpa [Registry.splitHeaderParams] using h

/-- `Registry.Add`'s template loop registers only templates with `posOk` when the file's template
    commands lie within its text -/
theorem addTemplates_posOk (fileName text nsName : Bytes) (nsAe : Autoescape) :
    ∀ (cmds : List Cmd) (prev : Option Cmd) (reg reg' : Registry.Reg),
      (∀ c ∈ cmds, TmplWithin text.length c) → (∀ t ∈ reg, posOk t = true) →
      Registry.addTemplates fileName text nsName nsAe cmds prev reg = some reg' → ∀ t ∈ reg', posOk t = true
  | [], prev, reg, reg', _, hreg, h => by
    simp only [Registry.addTemplates, Option.some.injEq] at h
    subst h; exact hreg
  | c :: rest, prev, reg, reg', hc, hreg, h => by
    unfold Registry.addTemplates at h
    split at h
    · rename_i pos name bpos cmds ae pr
      obtain ⟨hp, hb⟩ := hc _ (by simp) pos name (.mk bpos cmds) ae pr rfl
      have key : ∀ (ps : List Check.Param) (a : Autoescape) (n1 n2 n3 : Bytes) (a2 : Autoescape),
          posOk { name := n1, params := ps, body := .mk bpos (Registry.splitHeaderParams cmds).2, autoescape := a,
                  nsName := n2, nsAutoescape := a2, pos := pos, file := n3, text := text } = true := by
        intro ps a n1 n2 n3 a2
        simp only [posOk, List.all_cons, Bool.and_eq_true, decide_eq_true_eq, List.all_eq_true, posBlock]
        refine ⟨hp, hb bpos (by simp [posBlock]), ?_⟩
        intro q hq
        exact hb q (by simp only [posBlock, List.mem_cons]; exact Or.inr (splitHeaderParams_pos cmds q hq))
      have hstep : ∀ (prev' : Option Cmd) (t : Registry.Tmpl), posOk t = true →
          Registry.addTemplates fileName text nsName nsAe rest prev' (reg ++ [t]) = some reg' →
          ∀ t ∈ reg', posOk t = true := by
        intro prev' t hpt h'
        refine addTemplates_posOk fileName text nsName nsAe rest _ _ reg' (fun c' hc' => hc c' (by simp [hc'])) ?_ h'
        intro t' ht'
        rcases List.mem_append.mp ht' with ht' | ht'
        · exact hreg t' ht'
        · simp only [List.mem_singleton] at ht'
          subst ht'
          exact hpt
      simp only at h
      repeat' split at h
      all_goals first
        | exact hstep _ _ (key _ _ _ _ _ _) h
        | exact absurd h (by simp)
    · exact addTemplates_posOk fileName text nsName nsAe rest _ reg reg' (fun c' hc' => hc c' (by simp [hc'])) hreg h
    · exact addTemplates_posOk fileName text nsName nsAe rest _ reg reg' (fun c' hc' => hc c' (by simp [hc'])) hreg h
    · exact addTemplates_posOk fileName text nsName nsAe rest _ reg reg' (fun c' hc' => hc c' (by simp [hc'])) hreg h
    · cases h

/-- `Registry.Add(parse.SoyFile(name, input))`: every registered template satisfies `posOk` — the
    hypothesis of `Props/C06.execute_contract` — provided the templates registered before do. -/
theorem soyFile_posOk (name input : Bytes) (nodes : List Node) (f : SoyFile) (reg reg' : Registry.Reg)
    (hparse : soyFile input = .ok nodes) (hf : toSoyFile? name input nodes = some f)
    (hreg : ∀ t ∈ reg, posOk t = true) (hadd : Registry.add reg f = some reg') :
    ∀ t ∈ reg', posOk t = true := by
  unfold toSoyFile? at hf
  simp only [Option.map_eq_some_iff] at hf
  obtain ⟨cmds, hm, rfl⟩ := hf
  unfold Registry.add at hadd
  split at hadd
  · exact absurd hadd (by simp)
  · refine addTemplates_posOk _ _ _ _ cmds none reg reg' ?_ hreg hadd
    intro c hc p nm b ae pr he
    obtain ⟨n, hn, hcn⟩ := mapM_some_mem _ nodes cmds hm c hc
    have := toCmd_positions input nodes hparse n hn c hcn
    subst he
    exact ⟨this.1 p (by simp [posCmd]), this.2 p nm b ae pr rfl⟩

/-- a file as `parse.SoyFile` delivers it -/
def Parsed (f : SoyFile) : Prop :=
  ∃ nodes, soyFile f.text = .ok nodes ∧ toSoyFile? f.name f.text nodes = some f

theorem add_posOk (f : SoyFile) (hf : Parsed f) (reg reg' : Registry.Reg) (hreg : ∀ t ∈ reg, posOk t = true)
    (hadd : Registry.add reg f = some reg') : ∀ t ∈ reg', posOk t = true := by
  obtain ⟨nodes, hp, ht⟩ := hf
  exact soyFile_posOk f.name f.text nodes f reg reg' hp ht hreg hadd

/-- a registry filled with parsed files only: every template satisfies `posOk` -/
theorem addAll_posOk : ∀ (fs : List SoyFile) (reg reg' : Registry.Reg), (∀ f ∈ fs, Parsed f) →
    (∀ t ∈ reg, posOk t = true) → Registry.addAll reg fs = some reg' → ∀ t ∈ reg', posOk t = true
  | [], reg, reg', _, hreg, h => by
    simp only [Registry.addAll, Option.some.injEq] at h; subst h; exact hreg
  | f :: fs, reg, reg', hfs, hreg, h => by
    simp only [Registry.addAll] at h
    cases hadd : Registry.add reg f with
    | none => rw [hadd] at h; simp at h
    | some r =>
      rw [hadd] at h
      simp only [Option.bind_some] at h
      exact addAll_posOk fs r reg' (fun f' hf' => hfs f' (by simp [hf'])) (add_posOk f (hfs f (by simp)) reg r hreg hadd) h

/-- `Tofu.Render` on a bundle of PARSED files never panics: the last hypothesis of
    `Props/C06.execute_contract` is discharged — every failure is an error value -/
theorem execute_no_panic_of_parsed (g : GEnv) (fs : List SoyFile) (hfs : ∀ f ∈ fs, Parsed f)
    (hreg : Registry.addAll [] fs = some g.reg) (name : Bytes) (data : Frame) (fuel : Nat) :
    (execute g name data fuel).cls ≠ .panic := by
  apply (C06.execute_contract g name data fuel).2
  intro t ht
  have hall := addAll_posOk fs [] g.reg hfs (fun _ h => absurd h (by simp)) hreg
  exact hall t (List.mem_of_find?_eq_some ht)

/-- `setPos`: the tree of `'a' - 1` parsed from an attribute (offsets 3, 4, 6 in the attribute
    text) moved to the attribute token at 7 -/
example : reposition 7 (.bin .sub 4 (.str 3 [39, 97, 39] [97]) (.int 6 1)) =
    .bin .sub 7 (.str 7 [39, 97, 39] [97]) (.int 7 1) := by rfl

example (e : Expr) : EP (Below 10) (reposition 7 e) := EP_reposition (posOK_below.mpr (by decide)) e

/-- the message text `aa<b>` of a Text token at 100: both pieces stay at 100 — the tag is not put
    at 102, its offset inside the text (/repo a9dace7) -/
example : (parseMsgRawText 10 100 [97, 97, 60, 98, 62]).toList.map Node.pos = [100, 100] := by rfl

/-- a parse result that is one raw-text node, read as (position, text): `Node` has no decidable equality,
    this view of it has, so that the kernel can evaluate the parse below -/
def rawTextView : Except FErr (List Node) → Option (Nat × Bytes)
  | .ok [.rawText p t] => some (p, t)
  | _ => none

theorem rawTextView_eq {x : Except FErr (List Node)} {p : Nat} {t : Bytes} (h : rawTextView x = some (p, t)) :
    x = .ok [.rawText p t] := by
  unfold rawTextView at h
  split at h
  · cases h; rfl
  · cases h

/-- `parseFile … = .ok …` does happen: the tokens of `hi`; the one node sits at the Text token -/
example : parseFile (fun _ => none) (exprFuel [⟨.tText, 2, [104, 105]⟩, ⟨.tEOF, 2, []⟩])
    [⟨.tText, 2, [104, 105]⟩, ⟨.tEOF, 2, []⟩] = .ok [.rawText 2 [104, 105]] := rawTextView_eq (by decide +kernel)

end SoyVerif.Props.C06pos
