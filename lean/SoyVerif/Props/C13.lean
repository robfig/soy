/-
  C13 — Compilation and code generation are deterministic functions of the sources
  (the code-generation half; the naming / message-id half is Props/C10).

  Theorems about `Model/JsGen.lean` (the model of soyjs.Write, tied to the code by the
  correspondence sub-check C14gen, which also runs the model under several iteration orders,
  and by C13det, the implementation against itself).

  Go randomises the order of every `range` over a map.  soyjs.Write ranges over two kinds of map:
  the items of a map literal (exec.go, MapLiteralNode) and `funcsCalled` (the ES6 import block,
  `difference`).  The model takes that order as the parameter `o : List Bytes → List Bytes`
  (what the runtime does to the list of keys).  The theorems quantify over ALL such parameters
  that are permutations.
-/
import SoyVerif.Model.JsGen
import SoyVerif.Lemmas.Value
import SoyVerif.Lemmas.FirstMatch

namespace SoyVerif.Props.C13
open SoyVerif SoyVerif.Model SoyVerif.Model.JsGen

/-- an iteration order of Go maps: whatever it does, it returns the keys it was given -/
def IterOrder (o : List Bytes → List Bytes) : Prop := ∀ l, (o l).Perm l

/-- `sort.Strings` after a range over a map is the same list for every iteration order -/
theorem sorted_keys_order_independent (o₁ o₂ : List Bytes → List Bytes) (h₁ : IterOrder o₁) (h₂ : IterOrder o₂) :
    (fun l => Value.sortStrings (o₁ l)) = (fun l => Value.sortStrings (o₂ l)) := by
  funext l
  exact Value.sortStrings_eq_of_perm ((h₁ l).trans (h₂ l).symm)

/-- … also when keys are dropped between the range and the sort (`difference`) -/
theorem difference_order_independent (o₁ o₂ : List Bytes → List Bytes) (h₁ : IterOrder o₁) (h₂ : IterOrder o₂)
    (called : List (Bytes × List Piece)) (inFile : List Bytes) :
    difference o₁ called inFile = difference o₂ called inFile := by
  unfold difference
  exact Value.sortStrings_eq_of_perm (((h₁ _).trans (h₂ _).symm).filter _)

/-- The pieces — hence the bytes — `soyjs.Write` produces for a file do not
    depend on the iteration order of the Go maps, for every file, formatter, message bundle and
    globals: ES5 and ES6, with and without messages. -/
theorem genPieces_order_independent (o₁ o₂ : List Bytes → List Bytes) (h₁ : IterOrder o₁) (h₂ : IterOrder o₂)
    (f : SoyFile) (opts : Options) :
    genPieces o₁ f opts = genPieces o₂ f opts := by
  unfold genPieces
  rw [sorted_keys_order_independent o₁ o₂ h₁ h₂]
  cases visitSoyFile (fun l => Value.sortStrings (o₂ l)) opts f initState with
  | error e => rfl
  | ok r =>
    obtain ⟨u, body, s⟩ := r
    simp only [importPieces, difference_order_independent o₁ o₂ h₁ h₂]

theorem gen_order_independent (o₁ o₂ : List Bytes → List Bytes) (h₁ : IterOrder o₁) (h₂ : IterOrder o₂)
    (f : SoyFile) (opts : Options) :
    gen o₁ f opts = gen o₂ f opts := by
  unfold gen
  rw [genPieces_order_independent o₁ o₂ h₁ h₂]

/-- in particular: every order gives what the order-free reading (keys as stored) gives -/
theorem gen_canonical (o : List Bytes → List Bytes) (h : IterOrder o) (f : SoyFile) (opts : Options) :
    gen o f opts = gen id f opts :=
  gen_order_independent o id h (fun _ => List.Perm.refl _) f opts

/-! ### the orders the driver runs the model under are iteration orders -/

theorem iterOrder_id : IterOrder id := fun _ => List.Perm.refl _
theorem iterOrder_reverse : IterOrder List.reverse := fun l => List.reverse_perm l
theorem iterOrder_rotate : IterOrder (fun l => match l with | [] => [] | x :: r => r ++ [x]) := by
  intro l
  cases l with
  | nil => exact List.Perm.refl _
  | cons x r => exact (List.perm_append_comm (l₁ := r) (l₂ := [x]))

/-- soyjs.Generator.WriteFile / the harness: the first file of that name -/
def fileByName (fs : List SoyFile) (name : Bytes) : Option SoyFile := fs.find? (·.name == name)

/-- With distinct file names, the file found under a name — and
    therefore the JavaScript generated for it — is the same for every insertion order. -/
theorem file_permutation {fs fs' : List SoyFile} (h : fs.Perm fs') (nd : (fs.map (·.name)).Nodup) (name : Bytes) :
    fileByName fs name = fileByName fs' name :=
  FirstMatch.find_perm (fun f : SoyFile => f.name) h nd name

theorem gen_file_permutation {fs fs' : List SoyFile} (h : fs.Perm fs') (nd : (fs.map (·.name)).Nodup)
    (o₁ o₂ : List Bytes → List Bytes) (h₁ : IterOrder o₁) (h₂ : IterOrder o₂) (name : Bytes) (opts : Options) :
    (fileByName fs name).map (fun f => gen o₁ f opts) = (fileByName fs' name).map (fun f => gen o₂ f opts) := by
  rw [file_permutation h nd name]
  cases fileByName fs' name with
  | none => rfl
  | some f => simp [gen_order_independent o₁ o₂ h₁ h₂]

/-- duplicate names are what the hypothesis excludes: then the FIRST file wins and the order shows -/
example :
    (fileByName [{ name := [97], text := [], body := [] }, { name := [97], text := [1], body := [] }] [97]).map (·.text)
      ≠ (fileByName [{ name := [97], text := [1], body := [] }, { name := [97], text := [], body := [] }] [97]).map (·.text) := by
  decide

/-! ### non-vacuity: an order CAN change the intermediate lists; only the sort hides it -/

example : List.reverse [[98], [97]] ≠ id [[98], [97]] := by decide
example : Value.sortStrings (List.reverse [[98], [97], [99]]) = Value.sortStrings [[98], [97], [99]] := by decide

/-- without the sort the import block would follow the iteration order of the Go map (soyjs sorts the called
    functions before it writes the imports): the unsorted difference differs -/
example : ((List.reverse [[98], [97]]).filter fun k => !([] : List Bytes).contains k)
    ≠ ((id [[98], [97]]).filter fun k => !([] : List Bytes).contains k) := by decide

end SoyVerif.Props.C13
