/-
  C14 — the generated statements never READ a JavaScript variable that is not declared on every path
  to the read (partial: the command fragment of Props/C04d).

  `scopedStmt D st` / `scopedStmts D sts` (with `scopedCases`, `scopedPlural`, `scopedConds` for the bodies inside a
  statement) is a definite-assignment analysis of the statement AST of Spec/JsStmt, written
  against JavaScript (ECMA-262 5.1 §12.2: a `var` is visible in the whole function, but holds a
  value only after its declaration ran): going through a statement list with the set `D` of
  variables that certainly hold a value,
    * every variable an expression reads (`JsExpr.local`; `opt_data` is a parameter), every buffer
      `x += …` appends to, the list / index of `xs[i]`, the limit of `for (…; i < n; …)` must be in `D`;
    * `var x = e` adds `x` AFTER `e` was checked; a declaration inside a branch of an `if` or inside
      a loop body adds nothing for what follows the `if` / the loop (that path may not be taken);
    * the callee of a `.call` statement is a qualified name, not a variable: it is not a read.
  `no_undeclared_js_variable_partial`: for the statements the generator writes for a command list of
  the fragment (Props/C04dTr: `walkCmds_renders`), started with every local of the generator scope and
  the output variable declared, the analysis succeeds.  What makes this go along a body is the stronger
  `scoped_cmds` (`After`): every local of the scope the generator ends in is declared afterwards.

  Every `scoped_*` lemma carries `ScOk sc` (Props/C04dInv).  The analysis itself does not need it; it is the hypothesis of
  `toBody_inv`, `toConds_scope` … of Props/C04dInv (a block leaves the scope stack as it found it), by which `Covers`
  of the scope before a block is `Covers` of the scope after it (`Covers.stack`).
-/
import SoyVerif.Props.C04d

namespace SoyVerif.Props.C14b
open SoyVerif SoyVerif.Model SoyVerif.Model.JsGen SoyVerif.Spec.JsSemRef SoyVerif.Spec.JsStmt
open SoyVerif.Props.C04c (toAst Globals TrExpr TrAcc TrLoop toAst_tr)
open SoyVerif.Props.C04d

-- `[Globals]` is a section variable below; Lean puts an instance variable into every theorem of the section, also
-- where the statement does not mention it, and the linter would report each of those
set_option linter.unusedSectionVars false

/-- the variables an expression reads -/
def readsE : JsExpr → List Bytes
  | .null => []
  | .bool _ => []
  | .num _ => []
  | .str _ => []
  | .neg a => readsE a
  | .not a => readsE a
  | .bin _ a b => readsE a ++ readsE b
  | .cond c a b => readsE c ++ readsE a ++ readsE b
  | .nonNullElse a a' b => readsE a ++ readsE a' ++ readsE b
  | .local g => [g]
  | .optData _ => []
  | .ijData => []
  | .member x _ => readsE x
  | .index x _ => readsE x
  | .guard g r => readsE g ++ readsE r
  | .paren x => readsE x
  | .call1 _ a => readsE a
  | .call2 _ a b => readsE a ++ readsE b
  | .loopFirst idx => [idx]
  | .loopLastEach idx lim => [idx, lim]
  | .loopLastRange v step lim => [v, step, lim]

def allIn (D : List Bytes) (xs : List Bytes) : Bool := xs.all fun x => D.contains x

/-- the locals the first argument of a call reads -/
def readsBase : DataBase → List Bytes
  | .empty => []
  | .all => []
  | .expr e => readsE e

mutual
  /-- `none`: some read is not covered; `some D'`: the variables that certainly hold a value afterwards -/
  def scopedStmt (D : List Bytes) : JsStmt → Option (List Bytes)
    | .appendLit buf _ => if D.contains buf then some D else none
    | .append buf e _ => if D.contains buf && allIn D (readsE e) then some D else none
    | .var x e => if allIn D (readsE e) then some (x :: D) else none
    | .varEmpty x => some (x :: D)
    | .ifs conds => if scopedConds D conds then some D else none
    | .varLength x list => if D.contains list then some (x :: D) else none
    | .varIndex x list idx => if D.contains list && D.contains idx then some (x :: D) else none
    | .forUp i lim body =>
      -- `var i = 0` runs first; the test reads `i` and `lim`
      if D.contains lim && (scopedStmts (i :: D) body).isSome then some (i :: D) else none
    | .forStep i lim step idx init body =>
      -- `var i = init, idx = 0` runs first; the test reads `i` and `lim`, the update `i`, `step` and `idx`
      if D.contains lim && D.contains step && allIn D (readsE init) && (scopedStmts (idx :: i :: D) body).isSome
      then some (idx :: i :: D) else none
    | .switchS e cases => if allIn D (readsE e) && scopedCases D cases then some D else none
    | .ifZero idx body => if D.contains idx && (scopedStmts D body).isSome then some D else none
    | .ifPos lim body els =>
      if D.contains lim && (scopedStmts D body).isSome && (scopedStmts D els).isSome then some D else none
    | .call buf _ base params =>
      if D.contains buf && allIn D (readsBase base) && params.all (fun kv => allIn D (readsE kv.2)) then some D else none
    | .appendCss buf e => if D.contains buf && allIn D (readsE e) then some D else none
    | .debuggerS => some D
    | .pluralS e cases dflt =>
      if allIn D (readsE e) && scopedPlural D cases && (scopedStmts D dflt).isSome then some D else none
  def scopedStmts (D : List Bytes) : JsStmts → Option (List Bytes)
    | .nil => some D
    | .cons s r =>
      match scopedStmt D s with
      | none => none
      | some D1 => scopedStmts D1 r
  def scopedCases (D : List Bytes) : JsCases → Bool
    | .nil => true
    | .dflt body => (scopedStmts D body).isSome
    | .cons labels body rest =>
      labels.all (fun j => allIn D (readsE j)) && (scopedStmts D body).isSome && scopedCases D rest
  def scopedPlural (D : List Bytes) : JsPlural → Bool
    | .nil => true
    | .cons _ body rest => (scopedStmts D body).isSome && scopedPlural D rest
  def scopedConds (D : List Bytes) : JsConds → Bool
    | .nil => true
    | .els body => (scopedStmts D body).isSome
    | .cons c body rest => allIn D (readsE c) && (scopedStmts D body).isSome && scopedConds D rest
end

section Dev
variable [Globals]

/-- every local the generator scope can hand out is declared -/
def Covers (D : List Bytes) (sc : Scope) : Prop := ∀ f ∈ sc.stack, ∀ kv ∈ f, D.contains kv.2 = true

theorem Covers.all {D : List Bytes} {sc : Scope} (h : Covers D sc) : StackAll (fun _ g => D.contains g = true) sc.stack := h

theorem Covers.lookup {D : List Bytes} {sc : Scope} (h : Covers D sc) {k g : Bytes} (hl : sc.lookup k = some g) :
    D.contains g = true := Scope.all_lookup h.all hl

theorem allIn_append {D a b : List Bytes} (ha : allIn D a = true) (hb : allIn D b = true) : allIn D (a ++ b) = true := by
  simp only [allIn, List.all_append, Bool.and_eq_true] at *
  exact ⟨ha, hb⟩

theorem allIn_nil (D : List Bytes) : allIn D [] = true := rfl

def Sub (D D' : List Bytes) : Prop := ∀ g, D.contains g = true → D'.contains g = true

theorem allIn_mono {D D' xs : List Bytes} (h : allIn D xs = true) (hs : Sub D D') : allIn D' xs = true := by
  simp only [allIn, List.all_eq_true] at *
  exact fun x hx => hs x (h x hx)

theorem accAst_reads (D : List Bytes) : ∀ {acc : AccessList} {x j : JsExpr}, TrAcc acc x j →
    allIn D (readsE x) = true → allIn D (readsE j) = true
  | _, _, _, .nil _, hx => hx
  | _, _, _, .plain hy hr, hx => accAst_reads D hr (by cases hy <;> exact hx)
  | _, _, _, .guard hy, hx => allIn_append hx (by cases hy <;> exact hx)

theorem loop_reads (D : List Bytes) (sc : Scope) (hc : Covers D sc) {name : Bytes} {args : ExprList} {j : JsExpr}
    (h : TrLoop sc name args j) : allIn D (readsE j) = true := by
  have hin : ∀ {f k k' x}, Scope.loopFrame sc.stack k = some f → frameGet? f k' = some x → x ∈ D :=
    fun hf hk => by simpa using (hc.all.loopFrame hf).get hk
  simp only [allIn]
  cases h with
  | index _ hidx | isFirst _ hidx => simpa [readsE] using hc.lookup hidx
  | lastEach _ hf _ hv hl => simpa [readsE] using ⟨hin hf hv, hin hf hl⟩
  | lastRange _ hf hs hv hl => simpa [readsE] using ⟨hin hf hv, hin hf hs, hin hf hl⟩

theorem reads_tr (D : List Bytes) (sc : Scope) (hc : Covers D sc) :
    ∀ {e : Expr} {j : JsExpr}, TrExpr sc e j → allIn D (readsE j) = true
  | _, _, .null _ | _, _, .bool _ _ | _, _, .int _ _ | _, _, .str _ _ _ => rfl
  | _, _, .neg _ ha | _, _, .not _ ha => have := reads_tr D sc hc ha; this
  | _, _, .elvis _ ha hb => allIn_append (allIn_append (reads_tr D sc hc ha) (reads_tr D sc hc ha)) (reads_tr D sc hc hb)
  | _, _, .bin _ _ ha hb => allIn_append (reads_tr D sc hc ha) (reads_tr D sc hc hb)
  | _, _, .tern _ hcd ha hb => allIn_append (allIn_append (reads_tr D sc hc hcd) (reads_tr D sc hc ha)) (reads_tr D sc hc hb)
  | _, _, .global _ (v := v) _ h => by
    cases v <;> simp only [C04c.globalAst, Option.some.injEq, reduceCtorEq] at h <;> subst h <;> rfl
  | _, _, .ij _ hacc => by
    have := accAst_reads D hacc (show allIn D (readsE JsExpr.ijData) = true from rfl)
    split <;> exact this
  | _, _, .ref _ (key := key) _ _ hacc => by
    have hbase : allIn D (readsE (match sc.lookup key with
        | some g => JsExpr.local g
        | none => JsExpr.optData key)) = true := by
      cases hl : sc.lookup key with
      | none => rfl
      | some g =>
        simp only [readsE, allIn, List.all_cons, List.all_nil, Bool.and_true]
        exact hc.lookup hl
    have := accAst_reads D hacc hbase
    split <;> exact this
  | _, _, .loop _ h => loop_reads D sc hc h
  | _, _, .fn1 _ _ ha => have := reads_tr D sc hc ha; this
  | _, _, .fn2 _ _ ha hb => allIn_append (reads_tr D sc hc ha) (reads_tr D sc hc hb)

theorem toAst_reads (D : List Bytes) (sc : Scope) (hc : Covers D sc) :
    ∀ (e : Expr) (j : JsExpr), toAst sc e = some j → allIn D (readsE j) = true :=
  fun e j h => reads_tr D sc hc (toAst_tr sc e j h)

theorem astList_reads (D : List Bytes) (sc : Scope) (hc : Covers D sc) : ∀ (values : List Expr) (js : List JsExpr),
    astList sc values = some js → js.all (fun j => allIn D (readsE j)) = true
  | [], js, h => by simp only [astList, Option.some.injEq] at h; subst h; rfl
  | v :: r, js, h => by
    obtain ⟨j, jr, hj, hr, rfl⟩ := astList_cons_some h
    simp only [List.all_cons, Bool.and_eq_true]
    exact ⟨toAst_reads D sc hc v j hj, astList_reads D sc hc r jr hr⟩

theorem Sub.refl (D : List Bytes) : Sub D D := fun _ h => h
theorem Sub.trans {a b c : List Bytes} (h1 : Sub a b) (h2 : Sub b c) : Sub a c := fun g h => h2 g (h1 g h)
theorem Sub.cons (x : Bytes) (D : List Bytes) : Sub D (x :: D) := by
  intro g h
  simp only [List.contains_cons, Bool.or_eq_true]
  exact Or.inr h

theorem contains_head (x : Bytes) (D : List Bytes) : (x :: D).contains x = true := by simp

theorem Covers.mono {D D' : List Bytes} {sc : Scope} (h : Covers D sc) (hs : Sub D D') : Covers D' sc :=
  h.all.mono (fun _ g => hs g)

theorem Covers.push {D : List Bytes} {sc : Scope} (h : Covers D sc) : Covers D sc.push := Scope.all_push h.all

theorem Covers.stack {D : List Bytes} {sc sc' : Scope} (h : Covers D sc) (hs : sc'.stack = sc.stack) : Covers D sc' :=
  fun f hf => h f (hs ▸ hf)

/-- the result `r = (statements, scope after)` of translating a command / a command list, started with `D` declared:
    the analysis passes the statements, what it returns covers the scope after, and nothing declared before is lost -/
def After (D : List Bytes) (r : JsStmts × Scope) : Prop :=
  ∃ D', scopedStmts D r.1 = some D' ∧ Covers D' r.2 ∧ Sub D D'

theorem scopedStmts_append : ∀ (a b : JsStmts) (D : List Bytes),
    scopedStmts D (a.append b) = (scopedStmts D a).bind fun D1 => scopedStmts D1 b
  | .nil, b, D => by simp [JsStmts.append, scopedStmts]
  | .cons s r, b, D => by
    simp only [JsStmts.append, scopedStmts]
    cases scopedStmt D s with
    | none => rfl
    | some D1 => exact scopedStmts_append r b D1

theorem scopedStmts_one (D : List Bytes) (s : JsStmt) : scopedStmts D (.one s) = scopedStmt D s := by
  simp only [JsStmts.one, scopedStmts]
  cases scopedStmt D s <;> rfl

theorem covers_makevar {D : List Bytes} {sc : Scope} (h : Covers D sc) (x : Bytes) :
    Covers ((sc.makevar x).1 :: D) (sc.makevar x).2 :=
  Scope.all_makevar (h.mono (Sub.cons _ D)).all (contains_head _ _)

theorem covers_bind {D : List Bytes} {sc : Scope} {g : Bytes} (h : Covers D sc) (hg : D.contains g = true) (x : Bytes) :
    Covers D (sc.bind x g) :=
  Scope.all_bind h.all hg

theorem covers_pushForEach {D : List Bytes} {sc : Scope} (h : Covers D sc) (v : Bytes) :
    Covers ((sc.pushForEach v).1.1 :: (sc.pushForEach v).1.2.2.2 :: (sc.pushForEach v).1.2.2.1 :: D) (sc.pushForEach v).2 :=
  Scope.all_pushForEach (h.mono ((Sub.cons _ D).trans ((Sub.cons _ _).trans (Sub.cons _ _)))).all (by simp) (by simp) (by simp)

theorem covers_pushForRange {D : List Bytes} {sc : Scope} (h : Covers D sc) (v : Bytes) :
    Covers ((sc.pushForRange v).1.2.2.2 :: (sc.pushForRange v).1.1 :: (sc.pushForRange v).1.2.2.1 ::
      (sc.pushForRange v).1.2.1 :: D) (sc.pushForRange v).2 :=
  Scope.all_pushForRange (h.mono ((Sub.cons _ D).trans ((Sub.cons _ _).trans ((Sub.cons _ _).trans (Sub.cons _ _))))).all
    (by simp) (by simp) (by simp) (by simp) (by simp)

section
variable (ae : Autoescape)

/-! ### loops: everything but the two recursive calls, which are hypotheses

   `ihb` is the result for the loop body, `ihe` the one for the `{ifempty}` block `f` (with the fact that a block
   leaves the scope stack as it found it). -/

section Loop
variable {D : List Bytes} {buf v : Bytes} {list : Expr} {body : Block} {sc : Scope}
  (ihb : ∀ sc' r D', toBody ae buf body sc' = some r → ScOk sc' → Covers D' sc' → D'.contains buf = true → After D' r)
include ihb

theorem scoped_loopBody {D1 : List Bytes} {sc1 : Scope} {rbv : JsStmts × Scope} (hrb : toBody ae buf body sc1 = some rbv)
    (p : ScOk sc1 ∧ sc1.stack.tail = sc.stack ∧ sc1.n = sc.n + 1) (hc1 : Covers D1 sc1) (hb1 : D1.contains buf = true) :
    (∃ D4, scopedStmts D1 rbv.1 = some D4) ∧ rbv.2.pop.stack = sc.stack ∧ sc.n ≤ rbv.2.pop.n := by
  obtain ⟨D4, h4, _, _⟩ := ihb _ rbv _ hrb p.1 hc1 hb1
  exact ⟨⟨D4, h4⟩, loopBody_scope ae p hrb⟩

/-- `{for $v in range(…)}` without its `{ifempty}`: the four names of the loop are declared afterwards -/
theorem scoped_range {r0 : JsStmts × Scope}
    (h : rangeJoin v list sc (toBody ae buf body (sc.pushForRange v).2) true = some r0)
    (hs : ScOk sc) (hc : Covers D sc) (hb : D.contains buf = true) :
    scopedStmts D r0.1 = some ((sc.pushForRange v).1.2.2.2 :: (sc.pushForRange v).1.1 :: (sc.pushForRange v).1.2.2.1 ::
        (sc.pushForRange v).1.2.1 :: D) ∧ r0.2.stack = sc.stack ∧ sc.n ≤ r0.2.n := by
  obtain ⟨args, l, c, jl, ji, rbv, pc, ⟨hv, _, _, _, _, hjl, hji, hrb, rfl⟩⟩ := rangeJoin_some h
  obtain ⟨⟨D4, h4⟩, hst, hn⟩ := scoped_loopBody ae ihb hrb (scOk_pushForRange hs v hv) (covers_pushForRange hc v)
    (Sub.cons _ _ _ (Sub.cons _ _ _ (Sub.cons _ _ _ (Sub.cons _ _ _ hb))))
  refine ⟨?_, hst, hn⟩
  have r1 := toAst_reads D sc hc l jl hjl
  have hsub2 : Sub D ((sc.pushForRange v).1.2.2.1 :: (sc.pushForRange v).1.2.1 :: D) := (Sub.cons _ D).trans (Sub.cons _ _)
  have r2 := allIn_mono (toAst_reads D sc hc _ ji hji) hsub2
  simp [rangeStmts, JsStmts.one, scopedStmts, scopedStmt, r1, r2, h4, readsE, allIn_nil]

variable {ie : Option (Scope → Option (JsStmts × Scope))}
  (ihe : ∀ f sc' re D', ie = some f → f sc' = some re → ScOk sc' → Covers D' sc' → D'.contains buf = true →
    (∃ D5, scopedStmts D' re.1 = some D5) ∧ re.2.stack = sc'.stack)
include ihe

/-- `{foreach $v in list}` with or without `{ifempty}`: the list variable and its length are declared afterwards, and
    without `{ifempty}` the index too (with it the loop stands in a branch of `if (length > 0)`); the item, declared
    inside the loop body, is not -/
theorem scoped_foreach {r : JsStmts × Scope}
    (h : forcJoin v list sc (toBody ae buf body (sc.pushForEach v).2) ie = some r)
    (hs : ScOk sc) (hc : Covers D sc) (hb : D.contains buf = true) : After D r := by
  obtain ⟨hv, _, j, rbv, hj, hrb, he⟩ := forcJoin_some h
  -- inside the loop the list, its length, the index and the item are declared
  obtain ⟨⟨D4, h4⟩, hst, hn⟩ := scoped_loopBody ae ihb hrb (scOk_pushForEach hs v hv)
    (covers_pushForEach (hc.mono (Sub.cons (sc.pushForEach v).1.2.1 D)) v)
    (Sub.cons _ _ _ (Sub.cons _ _ _ (Sub.cons _ _ _ (Sub.cons _ _ _ hb))))
  have hsub : Sub D ((sc.pushForEach v).1.2.2.1 :: (sc.pushForEach v).1.2.1 :: D) := (Sub.cons _ D).trans (Sub.cons _ _)
  have rj := toAst_reads D sc hc list j hj
  cases ie with
  | none =>
    simp only at he
    subst he
    refine ⟨(sc.pushForEach v).1.2.2.2 :: (sc.pushForEach v).1.2.2.1 :: (sc.pushForEach v).1.2.1 :: D, ?_,
      (hc.mono (hsub.trans (Sub.cons _ _))).stack hst, hsub.trans (Sub.cons _ _)⟩
    simp [foreachStmts, JsStmts.one, scopedStmts, scopedStmt, rj, h4]
  | some f =>
    simp only at he
    obtain ⟨re, hre, rfl⟩ := he
    obtain ⟨⟨D5, h5⟩, c1⟩ := ihe f _ re _ rfl hre (scOk_of_stack hs hst hn) ((hc.mono hsub).stack hst) (hsub _ hb)
    refine ⟨_, ?_, (hc.mono hsub).stack (c1.trans hst), hsub⟩
    simp [foreachStmts, JsStmts.one, scopedStmts, scopedStmt, rj, h4, h5]

/-- a loop command: a foreach, else a loop over a range, whose `{ifempty}` is an `if (index == 0)` after it -/
theorem scoped_loop {r : JsStmts × Scope}
    (h : loopJoin v list sc (toBody ae buf body (sc.pushForEach v).2) ie (toBody ae buf body (sc.pushForRange v).2) = some r)
    (hs : ScOk sc) (hc : Covers D sc) (hb : D.contains buf = true) : After D r := by
  have hsub : Sub D ((sc.pushForRange v).1.2.2.2 :: (sc.pushForRange v).1.1 :: (sc.pushForRange v).1.2.2.1 ::
      (sc.pushForRange v).1.2.1 :: D) := (((Sub.cons _ D).trans (Sub.cons _ _)).trans (Sub.cons _ _)).trans (Sub.cons _ _)
  cases ie with
  | none =>
    rcases loopJoin_some h with h | h
    · exact scoped_foreach ae ihb ihe h hs hc hb
    · obtain ⟨h1, hst, _⟩ := scoped_range ae ihb h hs hc hb
      exact ⟨_, h1, (hc.mono hsub).stack hst, hsub⟩
  | some f =>
    rcases loopJoin_ie_some h with h | ⟨r0, re, hr0, hre, rfl⟩
    · exact scoped_foreach ae ihb ihe h hs hc hb
    · obtain ⟨h1, hst, hn⟩ := scoped_range ae ihb hr0 hs hc hb
      obtain ⟨⟨D5, h5⟩, c1⟩ := ihe f _ re _ rfl hre (scOk_of_stack hs hst hn) ((hc.mono hsub).stack hst) (hsub _ hb)
      refine ⟨_, ?_, (hc.mono hsub).stack (c1.trans hst), hsub⟩
      rw [scopedStmts_append, h1]
      simp [JsStmts.one, scopedStmts, scopedStmt, h5]

end Loop

mutual
  theorem scoped_cmd : ∀ (c : Cmd) (buf : Bytes) (sc : Scope) (r : JsStmts × Scope) (D : List Bytes), toCmd ae buf c sc = some r →
      ScOk sc → Covers D sc → D.contains buf = true → After D r
    | .rawText p t, buf, sc, r, D, h, hs, hc, hb => by
      simp only [toCmd, Option.some.injEq] at h; subst h
      exact ⟨D, by simp only [scopedStmts_one, scopedStmt, hb, if_true], hc, Sub.refl D⟩
    | .print p arg dirs, buf, sc, r, D, h, hs, hc, hb => by
      obtain ⟨_, j, ck, hj, _, rfl⟩ := toCmd_print_some h
      exact ⟨D, by simp only [scopedStmts_one, scopedStmt, hb, toAst_reads D sc hc arg j hj, Bool.and_self, if_true], hc,
        Sub.refl D⟩
    | .letValue p x e, buf, sc, r, D, h, hs, hc, hb => by
      obtain ⟨_, j, hj, rfl⟩ := toCmd_letValue_some h
      exact ⟨_, by simp [scopedStmts_one, scopedStmt, toAst_reads D sc hc e j hj], covers_makevar hc x, Sub.cons _ _⟩
    | .ifc p conds, buf, sc, r, D, h, hs, hc, hb => by
      obtain ⟨rc, hrc, rfl⟩ := toCmd_ifc_some h
      have := scoped_conds conds buf sc rc D hrc hs hc hb
      obtain ⟨h1, _⟩ := toConds_scope ae conds buf sc rc hrc hs
      exact ⟨D, by simp [scopedStmts_one, scopedStmt, this], hc.stack h1, Sub.refl D⟩
    | .forc p v list body none, buf, sc, r, D, h, hs, hc, hb => by
      unfold toCmd at h
      exact scoped_loop ae (scoped_body body buf) (ie := none) (fun _ _ _ _ hf => nomatch hf) h hs hc hb
    | .forc p v list body (some ie), buf, sc, r, D, h, hs, hc, hb => by
      unfold toCmd at h
      refine scoped_loop ae (scoped_body body buf) (ie := some (toBlock ae buf ie)) ?_ h hs hc hb
      intro f sc' re D' hf hre hs' hc' hb'
      cases hf
      obtain ⟨D5, h5, _⟩ := scoped_block ie buf sc' re D' hre hs' hc' hb'
      exact ⟨⟨D5, h5⟩, (toBlock_scope ae ie buf sc' re hre hs').1⟩
    | .msg p id m d bp body, buf, sc, r, D, h, hs, hc, hb => by
      unfold toCmd at h
      obtain ⟨rb, hrb, rfl⟩ := msgJoin_some h
      obtain ⟨D', a1, a2, a3⟩ := scoped_parts body buf sc.push rb D hrb (scOk_push hs.2) hc.push hb
      refine ⟨D', a1, ?_, a3⟩
      intro f hf kv hkv
      exact a2 f (List.mem_of_mem_tail hf) kv hkv
    | .css p none suffix, buf, sc, r, D, h, hs, hc, hb => by
      simp only [toCmd, Option.some.injEq] at h; subst h
      exact ⟨D, by simp only [scopedStmts_one, scopedStmt, hb, if_true], hc, Sub.refl D⟩
    | .css p (some e) suffix, buf, sc, r, D, h, hs, hc, hb => by
      obtain ⟨j, hj, rfl⟩ := toCmd_css_some h
      have hb' : buf ∈ D := by simpa using hb
      exact ⟨D, by simp [scopedStmts, JsStmts.one, scopedStmt, hb', toAst_reads D sc hc e j hj], hc, Sub.refl D⟩
    | .debugger p, buf, sc, r, D, h, hs, hc, hb => by
      simp only [toCmd, Option.some.injEq] at h; subst h
      exact ⟨D, by simp only [scopedStmts_one, scopedStmt], hc, Sub.refl D⟩
    | .log .., _, _, _, _, h, _, _, _ => by simp [toCmd] at h
    | .switch p value cases, buf, sc, r, D, h, hs, hc, hb => by
      obtain ⟨j, rc, hj, hrc, rfl⟩ := toCmd_switch_some h
      have := scoped_cases cases buf sc rc D hrc hs hc hb
      obtain ⟨h1, _⟩ := toCases_scope ae cases buf sc rc hrc hs
      exact ⟨D, by simp [scopedStmts_one, scopedStmt, this, toAst_reads D sc hc value j hj], hc.stack h1, Sub.refl D⟩
    | .call p name allData data params, buf, sc, r, D, h, hs, hc, hb => by
      unfold toCmd at h
      obtain ⟨base, rp, hbase, hrp, rfl⟩ := callJoin_some h
      obtain ⟨a1, _⟩ := toParams_scope ae params sc rp hrp hs
      obtain ⟨D', h1, hsub, hall⟩ := scoped_params params sc rp D hrp hs hc
      have hbase' : allIn D' (readsBase base) = true := by
        cases allData <;> cases data <;>
          simp only [callBase, Option.some.injEq, Option.map_eq_some_iff, reduceCtorEq] at hbase
        · subst hbase; rfl
        · obtain ⟨j, hj, rfl⟩ := hbase
          exact allIn_mono (toAst_reads D sc hc _ j hj) hsub
        · subst hbase; rfl
      refine ⟨D', ?_, (hc.mono hsub).stack a1, hsub⟩
      rw [scopedStmts_append, h1]
      simp only [Option.bind, scopedStmts_one, scopedStmt, hsub _ hb, hbase', hall, Bool.and_self, if_true]
    | .letContent p name body, buf, sc, r, D, h, hs, hc, hb => by
      unfold toCmd at h
      obtain ⟨hname, rbv, hrb, rfl⟩ := letJoin_some h
      have hs' : ScOk (sc.genname name).2 := scOk_of_stack hs rfl (Nat.le_succ _)
      obtain ⟨a1, a2⟩ := toBlock_scope ae body _ _ rbv hrb hs'
      have hc' : Covers ((sc.genname name).1 :: D) (sc.genname name).2 := (hc.mono (Sub.cons _ D)).stack rfl
      obtain ⟨D1, h1, hsub⟩ := scoped_block body _ _ rbv _ hrb hs' hc' (contains_head _ _)
      refine ⟨D1, by simp [scopedStmts, scopedStmt, h1], ?_, (Sub.cons _ D).trans hsub⟩
      have hcr : Covers D1 rbv.2 := ((hc.mono (Sub.cons _ D)).mono hsub).stack a1
      exact covers_bind hcr (hsub _ (contains_head _ _)) name
    | .headerParam .., _, _, _, _, h, _, _, _ => by simp [toCmd] at h
    | .namespace .., _, _, _, _, h, _, _, _ => by simp [toCmd] at h
    | .template .., _, _, _, _, h, _, _, _ => by simp [toCmd] at h
    | .soyDoc .., _, _, _, _, h, _, _, _ => by simp [toCmd] at h
  theorem scoped_params : ∀ (ps : ParamList) (sc : Scope) (r : JsStmts × List (Bytes × JsExpr) × Scope) (D : List Bytes),
      toParams ae ps sc = some r → ScOk sc → Covers D sc →
      ∃ D', scopedStmts D r.1 = some D' ∧ Sub D D' ∧ r.2.1.all (fun kv => allIn D' (readsE kv.2)) = true
    | .nil, sc, r, D, h, hs, hc => by
      simp only [toParams, Option.some.injEq] at h; subst h
      exact ⟨D, by simp [scopedStmts], Sub.refl D, by simp⟩
    | .value p key e rest, sc, r, D, h, hs, hc => by
      unfold toParams at h
      obtain ⟨j, rr, hj, hrr, rfl⟩ := valueParamJoin_some h
      obtain ⟨D', h1, hsub, hall⟩ := scoped_params rest sc rr D hrr hs hc
      refine ⟨D', h1, hsub, ?_⟩
      simp only [List.all_cons, Bool.and_eq_true]
      exact ⟨allIn_mono (toAst_reads D sc hc e j hj) hsub, hall⟩
    | .content p key body rest, sc, r, D, h, hs, hc => by
      unfold toParams at h
      obtain ⟨rb, rr, hrb, hrr, rfl⟩ := contentParamJoin_some h
      have hs' : ScOk (sc.genname b!"param").2 := scOk_of_stack hs rfl (Nat.le_succ _)
      obtain ⟨a1, a2⟩ := toBlock_scope ae body _ _ rb hrb hs'
      have hc' : Covers ((sc.genname b!"param").1 :: D) (sc.genname b!"param").2 := (hc.mono (Sub.cons _ D)).stack rfl
      obtain ⟨D1, h1, hsub1⟩ := scoped_block body _ _ rb _ hrb hs' hc' (contains_head _ _)
      have hcr : Covers D1 rb.2 := ((hc.mono (Sub.cons _ D)).mono hsub1).stack a1
      obtain ⟨D2, h2, hsub2, hall⟩ := scoped_params rest rb.2 rr D1 hrr (scOk_of_stack hs' a1 a2) hcr
      refine ⟨D2, ?_, ((Sub.cons _ D).trans hsub1).trans hsub2, ?_⟩
      · rw [scopedStmts_append]
        simp [scopedStmts, scopedStmt, h1, h2]
      · simp only [List.all_cons, Bool.and_eq_true]
        refine ⟨?_, hall⟩
        simp only [readsE, allIn, List.all_cons, List.all_nil, Bool.and_true]
        exact hsub2 _ (hsub1 _ (contains_head _ _))
  theorem scoped_body : ∀ (b : Block) (buf : Bytes) (sc : Scope) (r : JsStmts × Scope) (D : List Bytes), toBody ae buf b sc = some r →
      ScOk sc → Covers D sc → D.contains buf = true → After D r
    | .mk p cmds, buf, sc, r, D, h, hs, hc, hb => by
      unfold toBody at h
      exact scoped_cmds cmds buf sc r D h hs hc hb
  theorem scoped_block : ∀ (b : Block) (buf : Bytes) (sc : Scope) (r : JsStmts × Scope) (D : List Bytes), toBlock ae buf b sc = some r →
      ScOk sc → Covers D sc → D.contains buf = true → ∃ D', scopedStmts D r.1 = some D' ∧ Sub D D'
    | .mk p cmds, buf, sc, r, D, h, hs, hc, hb => by
      obtain ⟨rc, hrc, rfl⟩ := toBlock_some h
      obtain ⟨D', h1, _, h3⟩ := scoped_cmds cmds buf sc.push rc D hrc (scOk_push hs.2) hc.push hb
      exact ⟨D', h1, h3⟩
  theorem scoped_cmds : ∀ (cs : CmdList) (buf : Bytes) (sc : Scope) (r : JsStmts × Scope) (D : List Bytes), toCmds ae buf cs sc = some r →
      ScOk sc → Covers D sc → D.contains buf = true → After D r
    | .nil, buf, sc, r, D, h, hs, hc, hb => by
      simp only [toCmds, Option.some.injEq] at h; subst h
      exact ⟨D, rfl, hc, Sub.refl D⟩
    | .cons c rest, buf, sc, r, D, h, hs, hc, hb => by
      obtain ⟨r1, r2, h1, h2, rfl⟩ := toCmds_cons_some h
      obtain ⟨D1, a1, a2, a3⟩ := scoped_cmd c buf sc r1 D h1 hs hc hb
      have s1 := (toCmd_inv ae c buf sc r1 h1 hs).scOk
      obtain ⟨D2, b1, b2, b3⟩ := scoped_cmds rest buf r1.2 r2 D1 h2 s1 a2 (a3 _ hb)
      exact ⟨D2, by rw [scopedStmts_append, a1]; exact b1, b2, a3.trans b3⟩
  theorem scoped_parts : ∀ (ps : MsgParts) (buf : Bytes) (sc : Scope) (r : JsStmts × Scope) (D : List Bytes), toParts ae buf ps sc = some r →
      ScOk sc → Covers D sc → D.contains buf = true → After D r
    | .nil, buf, sc, r, D, h, hs, hc, hb => by
      simp only [toParts, Option.some.injEq] at h; subst h
      exact ⟨D, rfl, hc, Sub.refl D⟩
    | .text p t rest, buf, sc, r, D, h, hs, hc, hb => by
      unfold toParts at h
      obtain ⟨a, b, ha, hb2, rfl⟩ := phJoin_some h
      simp only [Option.some.injEq] at ha; subst ha
      obtain ⟨D2, b1, b2, b3⟩ := scoped_parts rest buf sc b D hb2 hs hc hb
      refine ⟨D2, ?_, b2, b3⟩
      rw [scopedStmts_append]
      simp only [scopedStmts_one, scopedStmt, hb, if_true, Option.bind]
      exact b1
    | .ph p name body rest, buf, sc, r, D, h, hs, hc, hb => by
      unfold toParts at h
      obtain ⟨a, b, ha, hb2, rfl⟩ := phJoin_some h
      obtain ⟨D1, a1, a2, a3⟩ := scoped_ph body buf sc a D ha hs hc hb
      have s1 := (toPh_inv ae body buf sc a ha hs).scOk
      obtain ⟨D2, b1, b2, b3⟩ := scoped_parts rest buf a.2 b D1 hb2 s1 a2 (a3 _ hb)
      exact ⟨D2, by rw [scopedStmts_append, a1]; exact b1, b2, a3.trans b3⟩
    | .plural p vn value cases dp dflt rest, buf, sc, r, D, h, hs, hc, hb => by
      unfold toParts at h
      obtain ⟨j, rc, rd, rr, hj, hrc, hrd, hstd, hrr, rfl⟩ := pluralJoin_some h
      obtain ⟨c1, c2, _⟩ := toPCases_scope ae cases buf sc rc hrc hs
      have d1 := (toParts_inv ae dflt buf rc.2 rd hrd c1).scOk
      have hpc := scoped_pcases cases buf sc rc D hrc hs hc hb
      obtain ⟨Dd, k1, _, _⟩ := scoped_parts dflt buf rc.2 rd D hrd c1 (hc.stack c2) hb
      obtain ⟨D2, b1, b2, b3⟩ := scoped_parts rest buf rd.2 rr D hrr d1 (hc.stack hstd) hb
      refine ⟨D2, ?_, b2, b3⟩
      simp only [scopedStmts, scopedStmt, toAst_reads D sc hc value j hj, hpc, k1, Option.isSome_some, Bool.and_self, if_true]
      exact b1
  theorem scoped_pcases : ∀ (cs : PluralCases) (buf : Bytes) (sc : Scope) (r : JsPlural × Scope) (D : List Bytes),
      toPCases ae buf cs sc = some r → ScOk sc → Covers D sc → D.contains buf = true → scopedPlural D r.1 = true
    | .nil, buf, sc, r, D, h, hs, hc, hb => by
      simp only [toPCases, Option.some.injEq] at h; subst h
      rfl
    | .cons p v bp body rest, buf, sc, r, D, h, hs, hc, hb => by
      unfold toPCases at h
      obtain ⟨rb, rr, hrb, hst, hrr, rfl⟩ := pcaseJoin_some h
      have a1 := (toParts_inv ae body buf sc rb hrb hs).scOk
      obtain ⟨D1, k1, _, _⟩ := scoped_parts body buf sc rb D hrb hs hc hb
      have := scoped_pcases rest buf rb.2 rr D hrr a1 (hc.stack hst) hb
      simp [scopedPlural, k1, this]
  theorem scoped_ph : ∀ (b : MsgPhBody) (buf : Bytes) (sc : Scope) (r : JsStmts × Scope) (D : List Bytes), toPh ae buf b sc = some r →
      ScOk sc → Covers D sc → D.contains buf = true → After D r
    | .htmlTag p t, buf, sc, r, D, h, hs, hc, hb => by
      simp only [toPh, Option.some.injEq] at h; subst h
      exact ⟨D, by simp only [scopedStmts_one, scopedStmt, hb, if_true], hc, Sub.refl D⟩
    | .cmd c, buf, sc, r, D, h, hs, hc, hb => by
      unfold toPh at h
      exact scoped_cmd c buf sc r D h hs hc hb
  theorem scoped_cases : ∀ (cs : CaseList) (buf : Bytes) (sc : Scope) (r : JsCases × Scope) (D : List Bytes), toCases ae buf cs sc = some r →
      ScOk sc → Covers D sc → D.contains buf = true → scopedCases D r.1 = true
    | .nil, buf, sc, r, D, h, hs, hc, hb => by
      simp only [toCases, Option.some.injEq] at h; subst h
      rfl
    | .cons p values body rest, buf, sc, r, D, h, hs, hc, hb => by
      unfold toCases at h
      obtain ⟨rbv, hrb, hcj⟩ := caseJoin_some h
      obtain ⟨D1, a1, _⟩ := scoped_block body buf sc rbv D hrb hs hc hb
      obtain ⟨e1, e2⟩ := toBlock_scope ae body buf sc rbv hrb hs
      rcases hcj with ⟨_, _, rfl⟩ | ⟨_, js, rr, hjs, hrr, rfl⟩
      · simp [scopedCases, a1]
      · have := scoped_cases rest buf rbv.2 rr D hrr (scOk_of_stack hs e1 e2) (hc.stack e1) hb
        simp [scopedCases, a1, this, astList_reads D sc hc values js hjs]
  theorem scoped_conds : ∀ (cs : CondList) (buf : Bytes) (sc : Scope) (r : JsConds × Scope) (D : List Bytes), toConds ae buf cs sc = some r →
      ScOk sc → Covers D sc → D.contains buf = true → scopedConds D r.1 = true
    | .nil, buf, sc, r, D, h, hs, hc, hb => by
      simp only [toConds, Option.some.injEq] at h; subst h
      rfl
    | .cons p (some c) body rest, buf, sc, r, D, h, hs, hc, hb => by
      obtain ⟨j, rb, rr, hj, hbk, hr, rfl⟩ := toConds_cond_some h
      obtain ⟨D1, a1, _⟩ := scoped_block body buf sc rb D hbk hs hc hb
      obtain ⟨e1, e2⟩ := toBlock_scope ae body buf sc rb hbk hs
      have := scoped_conds rest buf rb.2 rr D hr (scOk_of_stack hs e1 e2) (hc.stack e1) hb
      simp [scopedConds, toAst_reads D sc hc c j hj, a1, this]
    | .cons p none body rest, buf, sc, r, D, h, hs, hc, hb => by
      obtain ⟨_, rb, hbk, rfl⟩ := toConds_else_some h
      obtain ⟨D1, a1, _⟩ := scoped_block body buf sc rb D hbk hs hc hb
      simp [scopedConds, a1]
end

end

/-- The statements `toCmds` gives for a command list of the fragment of Props/C04d, translated in a scope of one empty
    frame with the output variable declared, never read a variable that is not declared on every path to the read.
    The statement is about `toCmds`; that the generator writes exactly `renderStmts` of it is `walkCmds_renders` of
    Props/C04dTr and is not composed here. -/
theorem no_undeclared_js_variable_partial (ae : Autoescape) (body : CmdList) (n : Nat) (r : JsStmts × Scope)
    (h : toCmds ae b!"output" body ⟨[[]], n⟩ = some r) : (scopedStmts [b!"output"] r.1).isSome = true := by
  have hc : Covers [b!"output"] ⟨[[]], n⟩ :=
    StackAll.cons (P := fun _ g => [b!"output"].contains g = true) FrameAll.nil StackAll.nil
  obtain ⟨D', h1, _, _⟩ := scoped_cmds ae body b!"output" _ r _ h (scOk_fresh n) hc (by simp)
  simp [h1]

end Dev

section Examples
local instance : Globals := exGlobals

example : ((toCmds .on b!"output" sampleCmds ⟨[[]], 0⟩).bind fun r => scopedStmts [b!"output"] r.1) =
    some [b!"x$1", b!"output"] := by decide +kernel

example : ((toCmds .off b!"output" sampleLoop ⟨[[]], 0⟩).bind fun r => scopedStmts [b!"output"] r.1) =
    some [b!"x$Limit1", b!"x$List1", b!"output"] := by decide +kernel

/-- the analysis has teeth: reading the inner `{let}` of a branch after the `{if}` is rejected … -/
example : scopedStmts [b!"output"]
    (.cons (.ifs (.cons (.bool true) (.cons (.var b!"x$1" (.num 1)) .nil) .nil))
      (.cons (.append b!"output" (.local b!"x$1") []) .nil)) = none := rfl

/-- … and so is appending to a buffer that was never declared -/
example : scopedStmts [] (.cons (.appendLit b!"output" b!"a") .nil) = none := rfl

end Examples

end SoyVerif.Props.C14b
