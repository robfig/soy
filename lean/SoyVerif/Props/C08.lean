/-
  C08 — Rendering is pure: it changes neither caller data nor compiled templates.

  The model threads the state that more than one render can reach explicitly:

    Shared = the compiled bundle and the extension registries (registry, globals, message bundle,
             directive table, obligatory directives) and the pool of caller-owned maps
             (data maps, injected-data maps), plus `foreignWrites`, the number of interpreter
             writes that ever reached a caller-owned map through an alias (a map value used as
             a scope frame by `data="$e"`).

  Frames of a scope are references into a heap (Model/Eval.lean); `set` really writes the referenced
  cell.  The caller's data map is cell 0 of every render.  `exec_frame` says a render — succeeding,
  failing, or out of call depth, for every configuration of the registries — returns the shared state
  unchanged: the data map is bit-for-bit what it was, no aliasing write happened.  `history_independent`
  follows by induction over any sequence of renders.

  The tree itself: the model's interpreter has no operation that writes the tree (the obligatory directives
  are appended to a copy of `PrintNode.Directives`: `dirs ++ obligDirs …` in `evalPrint`), so the registry
  component is unchanged by construction;
  the theorems below cover the part that is NOT by construction, the maps reached through references.
-/
import SoyVerif.Lemmas.EvalGood

namespace SoyVerif.Props.C08
open SoyVerif SoyVerif.Model SoyVerif.Model.Eval

/-- everything more than one render can reach -/
structure Shared where
  reg : Registry.Reg
  globals : Frame
  msgs : Option MsgBundle
  tbl : Directives.Table
  oblig : List Bytes
  maps : List Frame          -- caller-owned maps
  foreignWrites : Nat

/-- one render request: template, which maps are the data and the $ij, the call-depth bound -/
structure Input where
  name : Bytes
  data : Nat
  ij : Option Nat
  fuel : Nat

structure Result where
  cls : Cls
  chunks : List Bytes

def genv (sh : Shared) (inp : Input) : GEnv :=
  { reg := sh.reg, globals := sh.globals, msgs := sh.msgs, tbl := sh.tbl, oblig := sh.oblig,
    ij := inp.ij.map fun i => (i + 2, sh.maps.getD i []) }   -- map identities 0 and 1 are reserved

/-- a render on the shared state: the data map is written back as the interpreter left it -/
def exec (sh : Shared) (inp : Input) : Shared × Result :=
  let o := execute (genv sh inp) inp.name (sh.maps.getD inp.data []) inp.fuel
  ({ sh with maps := if inp.data < sh.maps.length then sh.maps.set inp.data o.data else sh.maps,
             foreignWrites := sh.foreignWrites + o.foreign },
   { cls := o.cls, chunks := o.chunks })

/-- rendering leaves the shared state exactly as it was -/
theorem exec_frame (sh : Shared) (inp : Input) : (exec sh inp).1 = sh := by
  obtain ⟨_, hd, hf⟩ := execute_spec (genv sh inp) inp.name (sh.maps.getD inp.data []) inp.fuel
  unfold exec
  simp only [hd, hf, Nat.add_zero]
  split
  · rename_i hlt
    rw [List.getD_eq_getElem?_getD, List.getElem?_eq_getElem hlt, Option.getD_some, List.set_getElem_self]
  · rfl

/-- the caller's data map and the injected data are what they were (the `maps` component alone) -/
theorem caller_maps_untouched (sh : Shared) (inp : Input) : (exec sh inp).1.maps = sh.maps := by
  rw [exec_frame]

/-- no `set` reached a caller-owned map through an alias -/
theorem no_foreign_write (sh : Shared) (inp : Input) : (exec sh inp).1.foreignWrites = sh.foreignWrites := by
  rw [exec_frame]

/-- a history of renders (of any templates, with any data, failing ones included) -/
def runAll (sh : Shared) : List Input → Shared
  | [] => sh
  | i :: r => runAll (exec sh i).1 r

theorem runAll_frame (sh : Shared) (hist : List Input) : runAll sh hist = sh := by
  induction hist generalizing sh with
  | nil => rfl
  | cons i r ih => simp only [runAll, exec_frame, ih]

/-- the outcome of a render does not depend on what was rendered before it -/
theorem history_independent (sh : Shared) (hist : List Input) (inp : Input) :
    (exec (runAll sh hist) inp).2 = (exec sh inp).2 := by
  rw [runAll_frame]

/-- in particular the n-th repetition of a render gives what the first gave -/
theorem repeat_same (sh : Shared) (inp : Input) (n : Nat) :
    (exec (runAll sh (List.replicate n inp)) inp).2 = (exec sh inp).2 :=
  history_independent sh _ inp

/-- inside a render: a template invocation (hence a call) changes no cell that existed before except
    the invocation's own top frame — the callee pushes its own frame before any `set`, and shared
    frames (`data="all"`) are never written -/
theorem callee_writes_only_own_frame (g : GEnv) (fuel : Nat) (t : Registry.Tmpl) (ctx : Scope) (st : St)
    (hown : Own ctx st) (i : Nat) (c : Cell) (hc : st.heap[i]? = some c) (hi : i ≠ top ctx) :
    ∃ c', (runTmpl g fuel t ctx st).st.heap[i]? = some c' ∧ c'.vars = c.vars ∧ c'.ro = c.ro := by
  obtain ⟨c', h1, h2, h3⟩ := (runTmpl_good g fuel t ctx st hown).ext.keep i c hc
  exact ⟨c', h1, h3 hi, h2⟩

/-! ### non-vacuity: the template binds a variable of the caller's name, prints it and fails -/

/-- `{let $x: 'a' /}{$x}{$u}` -/
def tmpl : Registry.Tmpl :=
  { name := [116], params := [],
    body := .mk 0 (.cons (.letValue 1 [120] (.str 1 [] [97]))
      (.cons (.print 3 (.dataRef 3 [120] .nil) [])
      (.cons (.print 4 (.dataRef 4 [117] .nil) []) .nil))),
    autoescape := .unspecified, nsName := [110], nsAutoescape := .unspecified, pos := 0, file := [102], text := [0, 0, 0, 0, 0] }

def sh0 : Shared :=
  { reg := [tmpl], globals := [], msgs := none, tbl := [], oblig := [], maps := [[([120], .str [98])]], foreignWrites := 0 }

def inp0 : Input := { name := [116], data := 0, ij := none, fuel := 3 }

/-- the render writes "a", then fails on the undefined `$u`; the caller's `x` is untouched although the
    template bound its own `x` (exec_frame), and the same request gives the same result afterwards -/
example : (exec sh0 inp0).2.cls = .err := by decide +kernel
example : (exec sh0 inp0).2.chunks = [[97]] := by decide +kernel
example : (exec (runAll sh0 [inp0, inp0]) inp0).2.chunks = [[97]] := by rw [history_independent]; decide

end SoyVerif.Props.C08
