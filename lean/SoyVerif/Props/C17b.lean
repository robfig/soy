/-
  C17 / C01 — the BYTE-LEVEL link: lexing the printer's bytes yields exactly the printer's tokens,
  so the round trip of Props/C17.lean holds from bytes to tree.

    printExpr ff e  --lexAll … true-->  items  --parseExprEntry-->  e'      erase e' = erase e

  * `lexAll input true` is the model of `lexExpr` (Model/Lexer.lean, tied to parse/lexer.go by the
    correspondence C05lex and proved total and panic-free in Props/C05.lean); `parseExprEntry` is
    the model of `parse.Expr` on that item list (correspondence C01parse).
  * THE LAST ITEM IS NOT EOF.  In expression mode the lexer starts in `lexInsideTag`, i.e. inside a
    "tag" that never closes: at the end of a well-formed expression it sends the Error item
    "unclosed tag" (`case r == eof: return l.errorfAt(l.tagStart, …)`, position `tagStart = 0`; the
    model records the class of the message, `clsTag`, not its text) and stops.  `parse.Expr` has returned before reading it — the
    parser stops in front of any token that does not continue the expression.  The theorems are
    stated with this ACTUAL final item (`errTk`), and the token-level theorem is used in its
    variant for an arbitrary terminating follower (`Lemmas.ParserRound.parse_slot_entry_term`).
  * Hypotheses on the tree: `NamesOk ff e` (Lemmas/LexPrintNames.lean; a decidable `Bool`): names are
    identifiers as the lexer reads them (letters / digits / `_` of any script in UTF-8, with the
    first-character rule of each token kind) and not keywords where the lexer would read a keyword,
    index accesses are not negative, string literals are well quoted, float literals have the shape
    `scanNumber` accepts as a float (a hypothesis on the parameter `ff`, discharged for Go's formatting of finite
    floats at the end of this file: `namesOk_go`, `lex_float_finite`, `lex_print_go`); for the parse step in
    addition `Canon ff pf e` (Props/C17.lean).  Both are meant to hold of every tree `parse.Expr` returns
    (each clause mirrors what the lexer can emit; that inclusion itself is not a theorem).
  * The facts about the GENERATED tables enter as `LexTableOK` (lexer: symbols, keywords, the set
    after which `-` is unary, `unicode.IsLetter/IsDigit` on ASCII) and `TableOK` (parser);
    Inst/LexTables.lean and Inst/C17.lean discharge them by evaluation, and Inst/C17b.lean restates the theorems
    without them.
-/
import SoyVerif.Lemmas.LexPrintAdj
import SoyVerif.Lemmas.F64Shape
import SoyVerif.Props.C17


namespace SoyVerif.Props.C17b
open SoyVerif SoyVerif.Model SoyVerif.Model.Lex SoyVerif.Model.Parser SoyVerif.Model.PrintTokens
open SoyVerif.Model.Printer SoyVerif.Lemmas.LexPrint SoyVerif.Lemmas.ParserBasic

/-- the token of the Error item that ends every item list of `lexExpr` on a complete expression
    ("unclosed tag"; the model keeps the class of the message, `clsTag`, in `val`) -/
def errTk : Tk := ⟨.tError, [clsTag]⟩

section
variable (ff : UInt64 → Bytes) (pf : Bytes → Option UInt64)
variable (LT : LexTableOK)
include LT

/-- per token, strings: `stringLexer` reads the printer's quoting of ANY byte string (escapes,
    multi-byte runes, invalid UTF-8) back as one String token with that spelling -/
theorem lex_quoted_string (v : Bytes) :
    lexAll (quoteString v) true =
      .items [⟨.tString, (quoteString v).length, quoteString v⟩, errItem] := by
  have h := lexAll_pieces LT [.tok (tString (quoteString v))]
    ⟨.str _ _ (strOk_quoteString v), trivial⟩ (by simp [unsp, SoyVerif.Lemmas.ParserAdj.typs, SoyVerif.Lemmas.ParserAdj.chainOK,
      SoyVerif.Lemmas.ParserAdj.pairOK, tString])
  simpa [spell, emitAll, itemOf, tString] using h

/-- per token, integers: `scanNumber` reads `strconv.FormatInt(v, 10)` back as one Integer token -/
theorem lex_int (v : Int) :
    lexAll (fmtInt v) true = .items [⟨.tInteger, (fmtInt v).length, fmtInt v⟩, errItem] := by
  have h := lexAll_pieces LT [.tok ⟨.tInteger, fmtInt v⟩]
    ⟨tok_int v (closer_numEnd closer_nil), trivial⟩
    (by simp [unsp, SoyVerif.Lemmas.ParserAdj.typs, SoyVerif.Lemmas.ParserAdj.chainOK,
      SoyVerif.Lemmas.ParserAdj.pairOK, SoyVerif.Lemmas.ParserAdj.beforeOperand])
  simpa [spell, emitAll, itemOf] using h

/-- per token, floats: any spelling of the float shape (`floatSpelling`) is read back as one Float token -/
theorem lex_float (val : Bytes) (h : floatSpelling val = true) :
    lexAll val true = .items [⟨.tFloat, val.length, val⟩, errItem] := by
  have h := lexAll_pieces LT [.tok ⟨.tFloat, val⟩]
    ⟨tok_float h (closer_numEnd closer_nil), trivial⟩
    (by simp [unsp, SoyVerif.Lemmas.ParserAdj.typs, SoyVerif.Lemmas.ParserAdj.chainOK,
      SoyVerif.Lemmas.ParserAdj.pairOK, SoyVerif.Lemmas.ParserAdj.beforeOperand])
  simpa [spell, emitAll, itemOf] using h

/-- lexing the printed text of a tree yields exactly its printed tokens — each
    with its spelling, in order, spaces skipped — followed by the Error item of the end of input.
    With positions: `emitAll 0 (pieces ff e)` (every item carries its END offset, as in lexer.go). -/
theorem lex_print_items (e : Expr) (hN : NamesOk ff e = true) :
    lexAll (printExpr ff e) true = .items (emitAll 0 (pieces ff e)) := by
  have h := lexAll_pieces LT (pieces ff e) (adjE LT ff e hN [] closer_nil)
    (SoyVerif.Lemmas.ParserAdj.good_toks ff e .tInvalid (by simp [SoyVerif.Lemmas.ParserAdj.beforeOperand])).1
  rwa [SoyVerif.Lemmas.ParserToks.spell_pieces] at h

/-- … position-free: the tokens are `toks ff e`, then the Error token -/
theorem lex_print (e : Expr) (hN : NamesOk ff e = true) :
    ∃ items, lexAll (printExpr ff e) true = .items items ∧ items.map Item.tk = toks ff e ++ [errTk] :=
  ⟨_, lex_print_items ff LT e hN, emitAll_tk 0 (pieces ff e)⟩

variable (T : TableOK)
include T

/-- C17 from bytes to tree: the printed text of a canonical tree, lexed by `lexExpr` and
    parsed by `parse.Expr` (models), gives the tree back modulo positions -/
theorem print_parse_roundtrip_bytes (e : Expr) (hC : Canon ff pf e) (hN : NamesOk ff e = true) :
    ∃ items e', lexAll (printExpr ff e) true = .items items ∧ parseExprEntry pf items = .ok e' ∧
      erase e' = erase e := by
  obtain ⟨items, hl, ht⟩ := lex_print ff LT e hN
  obtain ⟨e', hp, he⟩ := SoyVerif.Lemmas.ParserRound.parse_slot_entry_term pf T e (toks ff e) errTk items
    (SoyVerif.Lemmas.ParserToks.slot_plain ff pf e (SoyVerif.Lemmas.ParserToks.renders_toks ff pf e hC))
    (Or.inr (Or.inr (Or.inr (Or.inr rfl)))) ht
  exact ⟨items, e', hl, hp, he⟩

/-- C01, parser completeness from BYTES: any text that spells a rendering of `e` — minimal or
    redundant parentheses (`RendersTop`), any spelling of the literals, spaces wherever the piece list
    `ps` has them — in which every token is followed by bytes that do not extend it (`Adj`) and every
    `-` stands after a token that decides unary/binary as intended (`chainOK`), is lexed and parsed
    to `e` modulo positions.  (`print_parse_roundtrip_bytes` is the instance `ps = pieces ff e`.) -/
theorem parse_complete_bytes (e : Expr) (ps : List Piece) (ha : Adj ps [])
    (hc : SoyVerif.Lemmas.ParserAdj.chainOK .tInvalid (SoyVerif.Lemmas.ParserAdj.typs (unsp ps)) = true)
    (hR : SoyVerif.Props.C17.RendersTop pf e (unsp ps)) :
    ∃ items e', lexAll (spell ps) true = .items items ∧ parseExprEntry pf items = .ok e' ∧ erase e' = erase e := by
  obtain ⟨e', hp, he⟩ := SoyVerif.Lemmas.ParserRound.parse_slot_entry_term pf T e (unsp ps) errTk (emitAll 0 ps)
    hR (Or.inr (Or.inr (Or.inr (Or.inr rfl)))) (emitAll_tk 0 ps)
  exact ⟨_, e', lexAll_pieces LT ps ha hc, hp, he⟩

/-- C17, the statement of the property: two canonical trees that print the same TEXT are the same
    tree (modulo positions) -/
theorem print_injective_bytes (a b : Expr) (ha : Canon ff pf a) (hb : Canon ff pf b)
    (hna : NamesOk ff a = true) (hnb : NamesOk ff b = true) (h : printExpr ff a = printExpr ff b) :
    erase a = erase b := by
  obtain ⟨i1, e1, hl1, hp1, he1⟩ := print_parse_roundtrip_bytes ff pf LT T a ha hna
  obtain ⟨i2, e2, hl2, hp2, he2⟩ := print_parse_roundtrip_bytes ff pf LT T b hb hnb
  rw [h, hl2] at hl1
  injection hl1 with hi
  subst hi
  rw [hp2] at hp1
  injection hp1 with hp1
  rw [← he1, ← he2, hp1]

end

/-- `strconv.FormatFloat(v, 'g', -1, 64)` on the bits of a float node: the soft-float formatter -/
def ffGo : UInt64 → Bytes := fun b => F64.format ⟨b⟩

mutual
  /-- every float literal of the tree is finite (decidable) -/
  def floatsFinite : Expr → Bool
    | .float _ bits => !(F64.mk bits).isNaN && !(F64.mk bits).isInf
    | .func _ _ args => floatsFiniteL args
    | .list _ items => floatsFiniteL items
    | .map _ items => floatsFiniteM items
    | .dataRef _ _ acc => floatsFiniteAL acc
    | .not _ a => floatsFinite a
    | .neg _ a => floatsFinite a
    | .bin _ _ a b => floatsFinite a && floatsFinite b
    | .tern _ c a b => floatsFinite c && floatsFinite a && floatsFinite b
    | _ => true
  def floatsFiniteL : ExprList → Bool
    | .nil => true
    | .cons e r => floatsFinite e && floatsFiniteL r
  def floatsFiniteM : MapItems → Bool
    | .nil => true
    | .cons _ e r => floatsFinite e && floatsFiniteM r
  def floatsFiniteAL : AccessList → Bool
    | .nil => true
    | .cons a r => floatsFiniteA a && floatsFiniteAL r
  def floatsFiniteA : Access → Bool
    | .expr _ _ e => floatsFinite e
    | _ => true
end

/-- a formatter under which every float literal is trivially fine: `NamesOk ff1 e` is the condition on
    names, string spellings and indices alone -/
def ff1 : UInt64 → Bytes := fun _ => [49, 46, 53]

mutual
  /-- with Go's formatting the float clause of `NamesOk` holds of every finite float; everywhere else
      both conditions unfold to the same clause -/
  theorem namesOk_go : (e : Expr) → floatsFinite e = true → NamesOk ff1 e = true → NamesOk ffGo e = true
    | .null _, _, _ => rfl
    | .bool _ _, _, _ => rfl
    | .int _ _, _, _ => rfl
    | .float _ bits, hf, _ =>
        SoyVerif.Lemmas.F64Shape.floatSpelling_finite bits (by simpa using (Bool.and_eq_true_iff.1 hf).1) (by simpa using (Bool.and_eq_true_iff.1 hf).2)
    | .str _ q _, _, hn => hn
    | .global _ n, _, hn => hn
    | .func _ n args, hf, hn => Bool.and_eq_true_iff.2 ⟨(Bool.and_eq_true_iff.1 hn).1, namesOkL_go args hf (Bool.and_eq_true_iff.1 hn).2⟩
    | .list _ items, hf, hn => namesOkL_go items hf hn
    | .map _ items, hf, hn => namesOkM_go items hf hn
    | .dataRef _ k acc, hf, hn => Bool.and_eq_true_iff.2 ⟨(Bool.and_eq_true_iff.1 hn).1, namesOkAL_go acc hf (Bool.and_eq_true_iff.1 hn).2⟩
    | .not _ a, hf, hn => namesOk_go a hf hn
    | .neg _ a, hf, hn => namesOk_go a hf hn
    | .bin _ _ a b, hf, hn =>
        Bool.and_eq_true_iff.2 ⟨namesOk_go a (Bool.and_eq_true_iff.1 hf).1 (Bool.and_eq_true_iff.1 hn).1, namesOk_go b (Bool.and_eq_true_iff.1 hf).2 (Bool.and_eq_true_iff.1 hn).2⟩
    | .tern _ c a b, hf, hn =>
        have hf' := Bool.and_eq_true_iff.1 hf
        have hn' := Bool.and_eq_true_iff.1 hn
        Bool.and_eq_true_iff.2 ⟨Bool.and_eq_true_iff.2 ⟨namesOk_go c (Bool.and_eq_true_iff.1 hf'.1).1 (Bool.and_eq_true_iff.1 hn'.1).1,
          namesOk_go a (Bool.and_eq_true_iff.1 hf'.1).2 (Bool.and_eq_true_iff.1 hn'.1).2⟩, namesOk_go b hf'.2 hn'.2⟩
  theorem namesOkL_go : (l : ExprList) → floatsFiniteL l = true → NamesOkL ff1 l = true → NamesOkL ffGo l = true
    | .nil, _, _ => rfl
    | .cons e r, hf, hn =>
        Bool.and_eq_true_iff.2 ⟨namesOk_go e (Bool.and_eq_true_iff.1 hf).1 (Bool.and_eq_true_iff.1 hn).1, namesOkL_go r (Bool.and_eq_true_iff.1 hf).2 (Bool.and_eq_true_iff.1 hn).2⟩
  theorem namesOkM_go : (m : MapItems) → floatsFiniteM m = true → NamesOkM ff1 m = true → NamesOkM ffGo m = true
    | .nil, _, _ => rfl
    | .cons _ e r, hf, hn =>
        Bool.and_eq_true_iff.2 ⟨namesOk_go e (Bool.and_eq_true_iff.1 hf).1 (Bool.and_eq_true_iff.1 hn).1, namesOkM_go r (Bool.and_eq_true_iff.1 hf).2 (Bool.and_eq_true_iff.1 hn).2⟩
  theorem namesOkAL_go : (l : AccessList) → floatsFiniteAL l = true → NamesOkAL ff1 l = true → NamesOkAL ffGo l = true
    | .nil, _, _ => rfl
    | .cons a r, hf, hn =>
        Bool.and_eq_true_iff.2 ⟨namesOkA_go a (Bool.and_eq_true_iff.1 hf).1 (Bool.and_eq_true_iff.1 hn).1, namesOkAL_go r (Bool.and_eq_true_iff.1 hf).2 (Bool.and_eq_true_iff.1 hn).2⟩
  theorem namesOkA_go : (a : Access) → floatsFiniteA a = true → NamesOkA ff1 a = true → NamesOkA ffGo a = true
    | .key _ _ _, _, hn => hn
    | .index _ _ _, _, hn => hn
    | .expr _ _ e, hf, hn => namesOk_go e hf hn
end
section
variable (LT : LexTableOK)
include LT

/-- per token, floats, WITHOUT hypothesis on the spelling: `FloatNode.String()` of every finite double
    is read back by the lexer as one Float token -/
theorem lex_float_finite (bits : UInt64) (hn : (F64.mk bits).isNaN = false) (hi : (F64.mk bits).isInf = false) :
    lexAll (fmtFloatLit ffGo bits) true =
      .items [⟨.tFloat, (fmtFloatLit ffGo bits).length, fmtFloatLit ffGo bits⟩, errItem] :=
  lex_float LT _ (SoyVerif.Lemmas.F64Shape.floatSpelling_finite bits hn hi)

/-- `lex_print` with Go's float formatting: the hypothesis on floats is finiteness -/
theorem lex_print_go (e : Expr) (hF : floatsFinite e = true) (hN : NamesOk ff1 e = true) :
    ∃ items, lexAll (printExpr ffGo e) true = .items items ∧ items.map Item.tk = toks ffGo e ++ [errTk] :=
  lex_print ffGo LT e (namesOk_go e hF hN)

end

end SoyVerif.Props.C17b
