/-
  C09, instantiated: concurrent renders of ONE compiled bundle in the interpreter model.

  Props/C09.lean proves schedule-independence for threads whose steps leave the shared
  state unchanged; Props/C08.lean proves that a render of the interpreter model is such a
  step (`exec_frame`).  Together: any number of goroutines, each performing any list of
  render requests (any templates, any data / $ij maps of the shared pool, failing renders
  included) against the same `Shared` state, under EVERY schedule, never change the shared
  state — so no step writes shared memory — and each render returns exactly the result it
  returns when it runs alone.
-/
import SoyVerif.Props.C09
import SoyVerif.Props.C08

namespace SoyVerif.Props.C09
open SoyVerif.Model.Interleave SoyVerif.Props.C08

/-- a render request as an atomic step over the shared state -/
def renderStep (inp : Input) : Step Shared Result := fun sh => exec sh inp

theorem renderStep_readOnly (sh : Shared) (inp : Input) : ReadOnly sh (renderStep inp) :=
  exec_frame sh inp

theorem render_threads_readOnly (sh : Shared) (threads : List (List Input)) :
    AllReadOnly sh (threads.map (fun t => t.map renderStep)) := by
  intro t ht f hf
  simp only [List.mem_map] at ht
  obtain ⟨reqs, _, rfl⟩ := ht
  simp only [List.mem_map] at hf
  obtain ⟨inp, _, rfl⟩ := hf
  exact renderStep_readOnly sh inp

/-- concurrent renders never change the compiled bundle, the caller's
    maps or the registries, under any schedule -/
theorem concurrent_renders_leave_shared_state (sh : Shared) (threads : List (List Input)) (sched : List Nat) :
    (runSched (init sh (threads.map (fun t => t.map renderStep))) sched).shared = sh :=
  (shared_unchanged (init sh (threads.map (fun t => t.map renderStep)))
    (by simpa [init] using render_threads_readOnly sh threads) sched).1

/-- whichever render request a goroutine executes next, at whatever point of whatever
    schedule, it produces the outcome (class and bytes) it produces alone on the initial state -/
theorem concurrent_render_result (sh : Shared) (threads : List (List Input)) (sched : List Nat)
    (i : Nat) (f : Step Shared Result) (rest : List (Step Shared Result))
    (hp : (runSched (init sh (threads.map (fun t => t.map renderStep))) sched).pending[i]? = some (f :: rest)) :
    f (runSched (init sh (threads.map (fun t => t.map renderStep))) sched).shared = (sh, (f sh).2) :=
  obs_schedule_independent sh _ (render_threads_readOnly sh threads) sched i f rest hp

end SoyVerif.Props.C09
