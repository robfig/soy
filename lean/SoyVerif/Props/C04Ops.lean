/-
  C04 — the closed-expression fragment: its translation `toAst` to the expression AST of Spec/JsSem, the text `render`
  of that AST in the generator's pieces, `Runs`, the value correspondence `toJs`, and what Props/C04c shares with it
  (the operator table, the generator and the specification on a binary operator).  The theorems are in Props/C04.
-/
import SoyVerif.Spec.JsSem
import SoyVerif.Spec.Eval
import SoyVerif.Model.JsGen

namespace SoyVerif.Props.C04
open SoyVerif SoyVerif.Model SoyVerif.Model.JsGen SoyVerif.Spec.JsSem

def opOf : BinOp → Option JsOp
  | .mul => some .mul | .mod => some .mod | .add => some .add | .sub => some .sub
  | .eq => some .eq | .ne => some .ne | .lt => some .lt | .le => some .le | .gt => some .gt | .ge => some .ge
  | .and => some .and | .or => some .or
  | .div => none | .elvis => none

def toAst : Expr → Option JsExpr
  | .null _ => some .null
  | .bool _ b => some (.bool b)
  | .int _ v => some (.num v)
  | .str _ _ v => some (.str v)
  | .neg _ a => (toAst a).map .neg
  | .not _ a => (toAst a).map .not
  | .bin op _ a b =>
    match op with
    | .elvis => match toAst a, toAst b with
      | some ja, some jb => some (.nonNull ja ja jb)
      | _, _ => none
    | op => match opOf op, toAst a, toAst b with
      | some jo, some ja, some jb => some (.bin jo ja jb)
      | _, _, _ => none
  | .tern _ c a b => match toAst c, toAst a, toAst b with
    | some jc, some ja, some jb => some (.cond jc ja jb)
    | _, _, _ => none
  | _ => none

def opSym : JsOp → Bytes
  | .mul => b!"*" | .mod => b!"%" | .add => b!"+" | .sub => b!"-"
  | .eq => b!"==" | .ne => b!"!=" | .lt => b!"<" | .le => b!"<=" | .gt => b!">" | .ge => b!">="
  | .and => b!"&&" | .or => b!"||"

/-- the text of a `JsExpr`, in the generator's pieces -/
def render : JsExpr → List Piece
  | .null => [.fixed b!"null"]
  | .bool b => [.fixed (if b then b!"true" else b!"false")]
  | .num i => [.int i]
  | .str s => [.fixed b!"'", .escaped s, .fixed b!"'"]
  | .neg a => [.fixed b!"(- "] ++ render a ++ [.fixed b!")"]
  | .not a => [.fixed b!"!("] ++ render a ++ [.fixed b!")"]
  | .bin op a b => [.fixed b!"(("] ++ render a ++ [.fixed b!") ", .fixed (opSym op), .fixed b!" ("] ++ render b ++ [.fixed b!"))"]
  | .cond c a b => [.fixed b!"(("] ++ render c ++ [.fixed b!") ?"] ++ render a ++ [.fixed b!":"] ++ render b ++ [.fixed b!")"]
  | .nonNull a a' b =>
    [.fixed b!"(("] ++ render a ++ [.fixed b!") != null ? "] ++ render a' ++ [.fixed b!" : "] ++ render b ++ [.fixed b!")"]

/-- `m` succeeds from every state and writes exactly `ps`.  (With variables the judgement is `C04c.RunsSc` — from the
    states of one scope —, for commands `C04d.Runs P Q m ps` between state predicates; `C04d.Runs.expr` embeds the former.) -/
def Runs (m : M Unit) (ps : List Piece) : Prop := ∀ s, ∃ s', m s = .ok ((), ps, s')

theorem walkExpr_bin (sk : List Bytes → List Bytes) (o : Options) {op : BinOp} {jo : JsOp} (hop : opOf op = some jo)
    (p : Nat) (a b : Expr) :
    walkExpr sk o (.bin op p a b) = (do
      atOther
      fx b!"(("; walkExpr sk o a; fx b!") "; fx (opSym jo); fx b!" ("; walkExpr sk o b; fx b!"))") := by
  conv => lhs; unfold walkExpr
  cases op <;> simp [opOf] at hop <;> subst hop <;> rfl

theorem specEval_strict (env : Spec.Eval.Env) {op : BinOp} {jo : JsOp} (hop : opOf op = some jo) (hand : jo ≠ .and)
    (hor : jo ≠ .or) (p : Nat) (a b : Expr) :
    Spec.Eval.eval env (.bin op p a b) =
      (Spec.Eval.eval env a).bind fun va => (Spec.Eval.eval env b).bind fun vb => Spec.Eval.binop op va vb := by
  cases op <;> simp [opOf] at hop <;> subst hop <;> first | rfl | exact absurd rfl hand | exact absurd rfl hor

theorem specEval_logic (env : Spec.Eval.Env) {op : BinOp} {jo : JsOp} (hop : opOf op = some jo) (hl : jo = .and ∨ jo = .or)
    (p : Nat) (a b : Expr) :
    Spec.Eval.eval env (.bin op p a b) =
      (Spec.Eval.eval env a).bind fun va =>
        if Spec.Eval.truthy va = (jo == .or) then .val (.bool (Spec.Eval.truthy va))
        else (Spec.Eval.eval env b).bind fun vb => .val (.bool (Spec.Eval.truthy vb)) := by
  rcases hl with rfl | rfl <;> cases op <;> simp [opOf] at hop <;>
  · conv => lhs; unfold Spec.Eval.eval
    simp only []
    congr 1
    funext va
    cases Spec.Eval.truthy va <;> rfl

open SoyVerif.Spec.Eval (Val Out)

/-- Soy value ↦ JavaScript value (the values of the fragment) -/
def toJs : Val → Option JVal
  | .null => some .null
  | .bool b => some (.bool b)
  | .int i => some (.num i)
  | .str s => some (.str s)
  | _ => none

theorem exact_inI64 {i : Int} (h : exact i = true) : Spec.Eval.inI64 i = true := by
  have h' : -9007199254740992 ≤ i ∧ i ≤ 9007199254740992 := of_decide_eq_true h
  have : -9223372036854775808 ≤ i ∧ i < 9223372036854775808 := by omega
  exact decide_eq_true this

end SoyVerif.Props.C04
