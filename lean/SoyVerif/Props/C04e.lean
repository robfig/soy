/-
  C04 — the converse direction for the command fragment of Props/C04d (partial): where the reference
  semantics renders a text, the emitted JavaScript does not THROW.

  `expr_no_throw`: if the JavaScript text of an expression of the fragment throws (a TypeError: a
  property of null / undefined, `.length` of null / undefined — the only errors of Spec/JsSemRef), then
  the specification does not give the Soy expression a value (it is an error there too, or open).
  `gen_complete_cmds_partial`: if `refCmds` renders the commands to `t`, then running the emitted
  statements from a related environment either completes — and then (Props/C04d) with the buffer
  holding the old content followed by `t` — or leaves the common subset (`unspec`, e.g. an inexact
  integer, a print of a list, a callee or a directive function that is `unspec`, fuel); it never throws.  Both directions are ONE simulation each — Props/C04c `TrExpr.sim`
  for expressions, Props/C04d `cmd_sim` for statements; this file reads their clauses for a throw, the latter under the
  hypothesis `CallRelE` about the callees (`NoThrow` of Props/C04d).
  Then the callee oracle is discharged (`calls_correct`: `genCall` against `refCall`, by call depth); Props/C04f builds on it.
-/
import SoyVerif.Props.C04d

namespace SoyVerif.Props.C04e
open SoyVerif SoyVerif.Model SoyVerif.Model.JsGen SoyVerif.Spec.JsSemRef SoyVerif.Spec.JsStmt
open SoyVerif.Spec.JsSem (JsOp exact)
open SoyVerif.Props.C04 (opOf)
open SoyVerif.Props.C04c (toAst accAst toJsV EnvRel fn1Of fn2Of Globals GlobalsAre IjRel GlobRel)

set_option linter.unusedSectionVars false

section Dev
variable [Globals] {ent : Spec.Eval.Binds}
open SoyVerif.Props.C04d
open SoyVerif.Spec.Eval (Val Out)

/-- PARTIAL (C04, converse at the expression level): under the environment relation, if the JavaScript
    text of an expression of the fragment THROWS, the specification gives the expression no value. -/
theorem expr_no_throw (sc : Scope) (env : SEnv) (jenv : JEnv) (hrel : EnvRel ent sc env jenv) :
    ∀ (e : Expr) (j : JsExpr), toAst sc e = some j → eval jenv j = .error → ∀ v, Spec.Eval.eval env e ≠ .val v :=
  fun e j h hj v hv => by
    have hs := (C04c.toAst_tr sc e j h).sim (E := True) env jenv hrel
    rw [hj] at hs
    cases hs with
    | error hn => exact hn trivial v hv

section
variable (F : Bytes → List Expr → JVal → JOut) (G : Callee)

theorem applyCalls_error_in : ∀ (ds : List Directive), applyCalls F ds .error = .error :=
  fun ds => applyCalls_abrupt F ds .error (by simp)

variable (R : RefCtx) (ae : Autoescape) (buf : Bytes)

/-- `CmdSim` (Props/C04d) read for the runs that throw: from the start situation of `CmdOk`, a run of the statements that
    throws means that the reference does not render the node (`BlockNe`, `CondsNe` … below: the same for the other syntactic
    classes) -/
def CmdNe (c : Cmd) : Prop :=
  ∀ (fuel : Nat) (sc : Scope) (r : JsStmts × Scope) (env : SEnv) (jenv : JEnv) (out : Bytes),
    toCmd ae buf c sc = some r → ScOk sc → GoodBuf sc buf → EnvRel R.entry sc env jenv → BufIs buf jenv out →
    execStmts F G fuel r.1 jenv = .error → ∀ x, refCmd F R ae c env ≠ .val x

def BlockNe (b : Block) : Prop :=
  ∀ (fuel : Nat) (sc : Scope) (r : JsStmts × Scope) (env : SEnv) (jenv : JEnv) (out : Bytes),
    toBlock ae buf b sc = some r → ScOk sc → GoodBuf sc buf → EnvRel R.entry sc env jenv → BufIs buf jenv out →
    execStmts F G fuel r.1 jenv = .error → ∀ x, refBlock F R ae b env ≠ .val x

def BodyNe (b : Block) : Prop :=
  ∀ (fuel : Nat) (sc : Scope) (r : JsStmts × Scope) (env : SEnv) (jenv : JEnv) (out : Bytes),
    toBody ae buf b sc = some r → ScOk sc → GoodBuf sc buf → EnvRel R.entry sc env jenv → BufIs buf jenv out →
    execStmts F G fuel r.1 jenv = .error → ∀ x, refBlock F R ae b env ≠ .val x

def CondsNe (cs : CondList) : Prop :=
  ∀ (fuel : Nat) (sc : Scope) (r : JsConds × Scope) (env : SEnv) (jenv : JEnv) (out : Bytes),
    toConds ae buf cs sc = some r → ScOk sc → GoodBuf sc buf → EnvRel R.entry sc env jenv → BufIs buf jenv out →
    execConds F G fuel r.1 jenv = .error → ∀ x, refConds F R ae cs env ≠ .val x

def CasesNe (cs : CaseList) : Prop :=
  ∀ (fuel : Nat) (sc : Scope) (r : JsCases × Scope) (env : SEnv) (jenv : JEnv) (out : Bytes) (sv : Val) (jv : JVal),
    toCases ae buf cs sc = some r → ScOk sc → GoodBuf sc buf → EnvRel R.entry sc env jenv → BufIs buf jenv out → toJsV sv = some jv →
    execCases F G fuel r.1 jv jenv = .error → ∀ x, refCases F R ae cs sv env ≠ .val x

def PartsNe (ps : MsgParts) : Prop :=
  ∀ (fuel : Nat) (sc : Scope) (r : JsStmts × Scope) (env : SEnv) (jenv : JEnv) (out : Bytes),
    toParts ae buf ps sc = some r → ScOk sc → GoodBuf sc buf → EnvRel R.entry sc env jenv → BufIs buf jenv out →
    execStmts F G fuel r.1 jenv = .error → ∀ x, refParts F R ae ps env ≠ .val x

def PhNe (b : MsgPhBody) : Prop :=
  ∀ (fuel : Nat) (sc : Scope) (r : JsStmts × Scope) (env : SEnv) (jenv : JEnv) (out : Bytes),
    toPh ae buf b sc = some r → ScOk sc → GoodBuf sc buf → EnvRel R.entry sc env jenv → BufIs buf jenv out →
    execStmts F G fuel r.1 jenv = .error → ∀ x, refPh F R ae b env ≠ .val x

/-- the `{case n}` clauses of a plural: a clause that throws is a case the reference does not render -/
def PCasesNe (cs : PluralCases) : Prop :=
  ∀ (fuel : Nat) (sc : Scope) (r : JsPlural × Scope) (env : SEnv) (jenv : JEnv) (out : Bytes) (i : Int),
    toPCases ae buf cs sc = some r → ScOk sc → GoodBuf sc buf → EnvRel R.entry sc env jenv → BufIs buf jenv out →
    execPlural F G fuel r.1 i jenv = some .error → ∃ ro, refPlural F R ae cs i env = some ro ∧ ∀ x, ro ≠ .val x

/-- the callee oracle throws only where the reference's `call` does not render (`NoThrow` of Props/C04d, word for word:
    `CallRelE.noThrow`) -/
def CallRelE : Prop :=
  ∀ (name : Bytes) (ce : Spec.Eval.CallEnv) (jd : List (Bytes × JVal)) (jij : Option (List (Bytes × JVal))),
    C04c.toJsKvs ce.entry = some jd → IjRel ce.ij jij → GlobRel ce.globals → G name (.obj jd) jij = .error →
    ∀ callee out, Registry.lookup R.reg name = some callee → R.call callee ce ≠ .val out

/-- the params of a call: where the statements that fill the content params' buffers throw, or the `key: value`
    list throws when evaluated afterwards, the reference has no params -/
def ParamsNe (ps : ParamList) : Prop :=
  ∀ (fuel : Nat) (sc : Scope) (r : JsStmts × List (Bytes × JsExpr) × Scope) (env : SEnv) (jenv : JEnv),
    toParams ae ps sc = some r → ScOk sc → EnvRel R.entry sc env jenv →
    (execStmts F G fuel r.1 jenv = .error → ∀ bs, refParams F R ae ps env ≠ .val bs) ∧
    (∀ (jenvF jenv2 : JEnv) (acc : List (Bytes × JVal)), execStmts F G fuel r.1 jenv = .ok jenvF →
      KeepsAll r.2.2.n jenvF jenv2 → evalParams jenv2 r.2.1 acc = .inl .error → ∀ bs, refParams F R ae ps env ≠ .val bs)

theorem CallRelE.noThrow {G : Callee} {R : RefCtx} (h : CallRelE G R) : NoThrow G R := h

theorem call_ne (hGe : CallRelE G R) (p : Nat) (name : Bytes) (allData : Bool) (data : Option Expr)
    (params : ParamList) (ihok : ParamsOk F G R ae params) (ihne : ParamsNe F G R ae params) :
    CmdNe F G R ae buf (.call p name allData data params) :=
  -- the completed run of the call itself is not looked at: no `CallRel` is needed (`A := False`)
  fun fuel sc r env jenv out ht hs hg hrel hb hx =>
    (call_sim (E := True) (hE := fun _ => hGe.noThrow) (A := False) (hG := False.elim) p name allData data params
      (ParamsSim.of_runs F G R ae True ihok fun _ => ihne) fuel sc r env jenv out ht ⟨hs, hg, hrel, hb⟩).run_error trivial hx

variable (hG : CallRel G R) (hGe : CallRelE G R)
include hG hGe

theorem cmd_ne : ∀ (c : Cmd) (buf : Bytes), CmdNe F G R ae buf c :=
  fun c buf fuel sc r env jenv out ht hs hg hrel hb hx =>
    (cmd_sim F G R ae (E := True) (hE := fun _ => hGe.noThrow) hG c buf fuel sc r env jenv out ht ⟨hs, hg, hrel, hb⟩).run_error trivial hx

theorem parts_ne : ∀ (ps : MsgParts) (buf : Bytes), PartsNe F G R ae buf ps :=
  fun ps buf fuel sc r env jenv out ht hs hg hrel hb hx =>
    (parts_sim F G R ae (E := True) (hE := fun _ => hGe.noThrow) hG ps buf fuel sc r env jenv out ht ⟨hs, hg, hrel, hb⟩).run_error trivial hx

theorem pcases_ne : ∀ (cs : PluralCases) (buf : Bytes), PCasesNe F G R ae buf cs := by
  intro cs buf fuel sc r env jenv out i ht hs hg hrel hb hx
  have := pcases_sim F G R ae (E := True) (hE := fun _ => hGe.noThrow) hG cs buf fuel sc r env jenv out i ht ⟨hs, hg, hrel, hb⟩
  rw [hx] at this
  cases this with
  | some ro h hs => exact ⟨ro, h, hs.run_error trivial rfl⟩

theorem ph_ne : ∀ (b : MsgPhBody) (buf : Bytes), PhNe F G R ae buf b :=
  fun b buf fuel sc r env jenv out ht hs hg hrel hb hx =>
    (ph_sim F G R ae (E := True) (hE := fun _ => hGe.noThrow) hG b buf fuel sc r env jenv out ht ⟨hs, hg, hrel, hb⟩).run_error trivial hx

theorem params_ne : ∀ (ps : ParamList), ParamsNe F G R ae ps := by
  intro ps fuel sc r env jenv ht hs hrel
  have := params_sim F G R ae (E := True) (hE := fun _ => hGe.noThrow) hG ps fuel sc r env jenv ht hs hrel
  refine ⟨fun hx => this.run_error trivial hx, fun jenvF jenv2 acc hx hk hev => ?_⟩
  have := (this.run_ok hx).2 jenv2 acc hk
  rw [hev] at this
  cases this with
  | error h => exact h trivial
  | other h => exact absurd rfl h

theorem body_ne' : ∀ (b : Block) (buf : Bytes), BodyNe F G R ae buf b :=
  fun b buf fuel sc r env jenv out ht hs hg hrel hb hx =>
    (body_sim F G R ae (E := True) (hE := fun _ => hGe.noThrow) hG b buf fuel sc r env jenv out ht ⟨hs, hg, hrel, hb⟩).run_error trivial hx

theorem block_ne' : ∀ (b : Block) (buf : Bytes), BlockNe F G R ae buf b :=
  fun b buf fuel sc r env jenv out ht hs hg hrel hb hx =>
    (block_sim F G R ae (E := True) (hE := fun _ => hGe.noThrow) hG b buf fuel sc r env jenv out ht ⟨hs, hg, hrel, hb⟩).run_error trivial hx

theorem cases_ne : ∀ (cs : CaseList) (buf : Bytes), CasesNe F G R ae buf cs :=
  fun cs buf fuel sc r env jenv out sv jv ht hs hg hrel hb hsv hx =>
    (cases_sim F G R ae (E := True) (hE := fun _ => hGe.noThrow) hG cs buf fuel sc r env jenv out sv jv ht ⟨hs, hg, hrel, hb⟩ hsv).run_error
      trivial hx

theorem conds_ne : ∀ (cs : CondList) (buf : Bytes), CondsNe F G R ae buf cs :=
  fun cs buf fuel sc r env jenv out ht hs hg hrel hb hx =>
    (conds_sim F G R ae (E := True) (hE := fun _ => hGe.noThrow) hG cs buf fuel sc r env jenv out ht ⟨hs, hg, hrel, hb⟩).run_error trivial hx

/-- PARTIAL (C04, the converse for the command fragment): if the reference semantics renders the commands
    to `t` in `env`, then running the emitted statements from a related JavaScript environment — any
    fuel, any interpretation `F` of the directive functions — either COMPLETES with the buffer holding its
    old content followed by exactly `t`, or leaves the common subset (`unspec`, e.g. an integer a double does
    not hold exactly, a print of a list or a map, a comparison outside the subset, a callee `G` or a directive function
    `F` that is `unspec`, the loop bound `fuel`).  It never throws.  `{call}`: under `CallRel` and `CallRelE` (the callee's function returns the text the
    reference's `call` renders, and throws only where `call` does not render). -/
theorem gen_complete_cmds_partial (cmds : CmdList) (sc : Scope) (r : JsStmts × Scope) (h : toCmds ae buf cmds sc = some r)
    (env : SEnv) (jenv : JEnv) (out : Bytes) (hs : ScOk sc) (hg : GoodBuf sc buf) (hrel : EnvRel R.entry sc env jenv)
    (hb : BufIs buf jenv out) (t : Bytes) (ht : refCmds F R ae cmds env = .val t) (fuel : Nat) :
    (∃ jenv', execStmts F G fuel r.1 jenv = .ok jenv' ∧ BufIs buf jenv' (out ++ t)) ∨ execStmts F G fuel r.1 jenv = .unspec := by
  have hsim := cmds_sim F G R ae (E := True) (hE := fun _ => hGe.noThrow) hG cmds buf fuel sc r env jenv out h ⟨hs, hg, hrel, hb⟩
  cases hx : execStmts F G fuel r.1 jenv with
  | ok jenv' =>
    obtain ⟨text, ht', hb', _⟩ := hsim.run_ok hx
    rw [ht] at ht'
    simp only [Out.val.injEq] at ht'
    subst ht'
    exact Or.inl ⟨jenv', rfl, hb'⟩
  | error => exact absurd ht (hsim.run_error trivial hx t)
  | unspec => exact Or.inr rfl

/-- the same, read as "no TypeError where the reference renders" -/
theorem gen_no_throw_cmds_partial (cmds : CmdList) (sc : Scope) (r : JsStmts × Scope)
    (h : toCmds ae buf cmds sc = some r) (env : SEnv) (jenv : JEnv) (out : Bytes) (hs : ScOk sc) (hg : GoodBuf sc buf)
    (hrel : EnvRel R.entry sc env jenv) (hb : BufIs buf jenv out) (t : Bytes) (ht : refCmds F R ae cmds env = .val t) (fuel : Nat) :
    execStmts F G fuel r.1 jenv ≠ .error :=
  fun hx => (cmds_sim F G R ae (E := True) (hE := fun _ => hGe.noThrow) hG cmds buf fuel sc r env jenv out h ⟨hs, hg, hrel, hb⟩).run_error
    trivial hx t ht

end

/-! ## the callee oracle, discharged: calls to any depth

  The oracle the call theorems assume (`CallRel`, `CallRelE`) instantiated with what a generated function DOES —
  `genCall`: look the template up, run the statements of its body (`toCmds` from a fresh scope) from `opt_data` = the
  data object and `output = ''`, return `output` (the function header `opt_data = opt_data || {}`, `var output = ''`,
  `return output` is read into this definition, it is not generator output the theorems talk about) — against the
  reference `refCall`: the callee's body rendered by `refCmds` in the environment its data makes.  Both are indexed
  by the nesting depth of calls they allow; `calls_correct` proves the two hypotheses by induction on it. -/

section
variable (F : Bytes → List Expr → JVal → JOut) (reg : Registry.Reg) (fuel : Nat)

/-- the autoescape mode in force for a template -/
def tmplAe (t : Registry.Tmpl) : Autoescape := if t.autoescape != .unspecified then t.autoescape else t.nsAutoescape

def blockCmds : Block → CmdList
  | .mk _ cmds => cmds

/-- the reference's `call`, by depth: the body of the callee in the environment of its data -/
def refCall : Nat → Registry.Tmpl → Spec.Eval.CallEnv → Out Bytes
  | 0, _, _ => .unspec
  | d + 1, t, ce =>
    refCmds F ⟨reg, ce.entry, refCall d⟩ (tmplAe t) (blockCmds t.body)
      { vars := ce.entry, loops := [], ij := ce.ij, globals := ce.globals }

/-- what the body of a generated function computes from the data object `kvs`, given the functions it may call -/
def genBody (G : Callee) (t : Registry.Tmpl) (kvs : List (Bytes × JVal)) (ij : Option (List (Bytes × JVal))) : JOut :=
  match toCmds (tmplAe t) b!"output" (blockCmds t.body) ⟨[[]], 0⟩ with
  | some r =>
    (match execStmts F G fuel r.1 ⟨kvs, ij, [(b!"output", .str [])]⟩ with
      | .ok e =>
        (match e.locals.find? (·.1 == b!"output") with
          | some (_, .str out) => .val (.str out)
          | _ => .unspec)
      | .error => .error
      | .unspec => .unspec)
  | none => .unspec

/-- the generated functions, by depth -/
def genCall : Nat → Callee
  | 0, _, _, _ => .unspec
  | d + 1, name, data, ij =>
    match data with
    | .obj kvs =>
      (match Registry.lookup reg name with
        | some t => genBody F fuel (genCall d) t kvs ij
        | none => .unspec)
    | _ => .unspec

/-- the callee oracle and the reference's call agree at every depth: the two hypotheses of the call theorems hold
    for the generated functions themselves -/
theorem calls_correct : ∀ (d : Nat) (e : Spec.Eval.Binds),
    CallRel (genCall F reg fuel d) ⟨reg, e, refCall F reg d⟩ ∧ CallRelE (genCall F reg fuel d) ⟨reg, e, refCall F reg d⟩
  | 0, e => ⟨fun _ _ _ _ _ _ _ _ h => by simp [genCall] at h, fun _ _ _ _ _ _ _ h => by simp [genCall] at h⟩
  | d + 1, e => by
    have ih := calls_correct d
    refine ⟨?_, ?_⟩
    · intro name ce jd jij r hj hij hgl hg
      simp only [genCall] at hg
      cases hl : Registry.lookup reg name with
      | none => simp [hl] at hg
      | some t =>
        simp only [hl, genBody] at hg
        split at hg
        · rename_i rr hrr
          split at hg
          · rename_i jenv' hx
            have hbody := gen_correct_body_partial F (genCall F reg fuel d) ⟨reg, ce.entry, refCall F reg d⟩ (tmplAe t)
              (ih ce.entry).1 (blockCmds t.body) 0 rr hrr
              { vars := ce.entry, loops := [], ij := ce.ij, globals := ce.globals } jd jij rfl hj hij hgl jenv' fuel hx
            obtain ⟨text, ht, hb⟩ := hbody
            unfold BufIs at hb
            rw [hb] at hg
            simp only [JOut.val.injEq] at hg
            exact ⟨t, text, rfl, ht, hg.symm⟩
          · cases hg
          · cases hg
        · cases hg
    · intro name ce jd jij hj hij hgl hg callee out hlk
      simp only [Registry.lookup] at hlk
      simp only [genCall, Registry.lookup, hlk, genBody] at hg
      split at hg
      · rename_i rr hrr
        split at hg
        · split at hg <;> cases hg
        · rename_i hx
          intro hc
          have hrel : EnvRel ce.entry ⟨[[]], 0⟩ { vars := ce.entry, loops := [], ij := ce.ij, globals := ce.globals }
              ⟨jd, jij, [(b!"output", .str [])]⟩ :=
            C04c.envRel_params _ { vars := ce.entry, loops := [], ij := ce.ij, globals := ce.globals } _
              (fun k => by simp [Scope.lookup, Scope.lookupIn, frameGet?]) hj hij hgl
          exact gen_no_throw_cmds_partial F (genCall F reg fuel d) ⟨reg, ce.entry, refCall F reg d⟩ (tmplAe callee) b!"output"
            (ih ce.entry).1 (ih ce.entry).2 (blockCmds callee.body) ⟨[[]], 0⟩ rr hrr _ _ [] (scOk_fresh 0)
            (goodBuf_plain 0 _ (by decide)) hrel (bufIs_init _ _ _) out hc fuel hx
        · cases hg
      · cases hg

/-- PARTIAL (C04, a template with the templates it calls, to any depth): the body of a template of the fragment, its
    `{call}`s answered by the generated functions themselves (`genCall`, depth `d`) — when its statements complete,
    `output` holds what the reference renders with the callees' bodies as `call` (`refCall`, the shape of
    Spec/Eval.renderTmpl).  No hypothesis about the callees is left: `calls_correct` supplies it. -/
theorem gen_correct_program_partial (ae : Autoescape) (d : Nat) (body : CmdList) (n : Nat) (r : JsStmts × Scope)
    (h : toCmds ae b!"output" body ⟨[[]], n⟩ = some r) (env : SEnv) (optData : List (Bytes × JVal))
    (ij : Option (List (Bytes × JVal))) (hdata : C04c.toJsKvs env.vars = some optData) (hij : IjRel env.ij ij)
    (hgl : GlobRel env.globals) (jenv' : JEnv) (fuel' : Nat)
    (hx : execStmts F (genCall F reg fuel d) fuel' r.1 ⟨optData, ij, [(b!"output", .str [])]⟩ = .ok jenv') :
    ∃ text, refCmds F ⟨reg, env.vars, refCall F reg d⟩ ae body env = .val text ∧ BufIs b!"output" jenv' text :=
  gen_correct_body_partial F (genCall F reg fuel d) ⟨reg, env.vars, refCall F reg d⟩ ae (calls_correct F reg fuel d env.vars).1
    body n r h env optData ij rfl hdata hij hgl jenv' fuel' hx

/-- … and the converse: where the reference renders `t`, the statements complete with `output` holding `t`, or leave the
    common subset (`unspec`) — they do not throw.  (`fuel` bounds the loops of the callees' runs inside `genCall`, `fuel'`
    those of the outer run: two budgets.) -/
theorem gen_complete_program_partial (ae : Autoescape) (d : Nat) (body : CmdList) (r : JsStmts × Scope)
    (h : toCmds ae b!"output" body ⟨[[]], 0⟩ = some r) (env : SEnv) (optData : List (Bytes × JVal))
    (ij : Option (List (Bytes × JVal))) (hdata : C04c.toJsKvs env.vars = some optData) (hij : IjRel env.ij ij)
    (hgl : GlobRel env.globals) (fuel' : Nat) (t : Bytes)
    (ht : refCmds F ⟨reg, env.vars, refCall F reg d⟩ ae body env = .val t) :
    (∃ jenv', execStmts F (genCall F reg fuel d) fuel' r.1 ⟨optData, ij, [(b!"output", .str [])]⟩ = .ok jenv' ∧
      BufIs b!"output" jenv' t) ∨
    execStmts F (genCall F reg fuel d) fuel' r.1 ⟨optData, ij, [(b!"output", .str [])]⟩ = .unspec := by
  have hrel : EnvRel env.vars ⟨[[]], 0⟩ env ⟨optData, ij, [(b!"output", .str [])]⟩ :=
    C04c.envRel_params _ env _ (fun k => by simp [Scope.lookup, Scope.lookupIn, frameGet?]) hdata hij hgl
  have := gen_complete_cmds_partial F (genCall F reg fuel d) ⟨reg, env.vars, refCall F reg d⟩ ae b!"output"
    (calls_correct F reg fuel d env.vars).1 (calls_correct F reg fuel d env.vars).2 body ⟨[[]], 0⟩ r h env _ [] (scOk_fresh 0)
    (goodBuf_plain 0 _ (by decide)) hrel (bufIs_init _ _ _) t ht fuel'
  simpa using this

end

end Dev

section Examples
open SoyVerif.Spec.Eval (Val Out)
open SoyVerif.Props.C04d
local instance : Globals := exGlobals

/-- `A{$m.q.z}B` -/
def throwCmds : CmdList :=
  .cons (.rawText 0 b!"A") (.cons (.print 0 (.dataRef 0 b!"m" (.cons (.key 0 false b!"q") (.cons (.key 0 false b!"z") .nil))) [])
    (.cons (.rawText 0 b!"B") .nil))

def throwRun (m : JVal) : Option SRes :=
  (toCmds .off b!"output" throwCmds ⟨[[]], 0⟩).map fun r =>
    execStmts sampleF noCall 5 r.1 ⟨[(b!"m", m)], none, [(b!"output", .str [])]⟩

-- `q` missing: JavaScript throws (a property of undefined), and the reference semantics has no text either
example : (throwRun (.obj [(b!"a", .num 1)])).map (fun r => match r with | .error => true | _ => false) = some true := by decide +kernel
example : refCmds sampleF noRef .off throwCmds
    { vars := [(b!"m", .map [(b!"a", .int 1)])], loops := [], ij := none, globals := [] } = .error := C02Spec.eq_of_outCode (by decide +kernel)
-- `q` present: the reference renders, and the statements complete
example : refCmds sampleF noRef .off throwCmds
    { vars := [(b!"m", .map [(b!"q", .map [(b!"z", .int 7)])])], loops := [], ij := none, globals := [] } = .val b!"A7B" := C02Spec.eq_of_outCode (by decide +kernel)
example : (throwRun (.obj [(b!"q", .obj [(b!"z", .num 7)])])).map (fun r => match r with
    | .ok e => (e.locals.find? (·.1 == b!"output")).map (·.2)
    | _ => none) = some (some (.str b!"A7B")) := eq_of_bind_strOf (by decide +kernel)

/-- the template `sem.c`: `{$p}:{$c|noAutoescape}:{$a}` -/
def calleeT : Registry.Tmpl :=
  { (default : Registry.Tmpl) with
    name := b!"sem.c", autoescape := .on, nsAutoescape := .on,
    body := .mk 0 (.cons (.print 0 (.dataRef 0 b!"p" .nil) []) (.cons (.rawText 0 b!":")
      (.cons (.print 0 (.dataRef 0 b!"c" .nil) [⟨0, b!"noAutoescape", []⟩]) (.cons (.rawText 0 b!":")
      (.cons (.print 0 (.dataRef 0 b!"a" .nil) []) .nil))))) }

-- `sampleCall` (Props/C04d: `[{call sem.c data="all"}{param p: $a + 1 /}{param c}<{$a}>{/param}{/call}]`) with the
-- generated function of `sem.c` as the callee: the run, the reference, and `gen_correct_program_partial` on it
example : (match toCmds .on b!"output" sampleCall ⟨[[]], 0⟩ with
    | some r => (match execStmts sampleF (genCall sampleF [calleeT] 10 2) 10 r.1 (sampleJEnv 5) with
      | .ok e => (e.locals.find? (·.1 == b!"output")).map (·.2)
      | _ => none)
    | none => none) = some (.str b!"[6:<5>:5]") := eq_of_strOf (by decide +kernel)

example : refCmds sampleF ⟨[calleeT], (sampleEnv 5).vars, refCall sampleF [calleeT] 2⟩ .on sampleCall (sampleEnv 5) =
    .val b!"[6:<5>:5]" := C02Spec.eq_of_outCode (by decide +kernel)

example (a : Int) (ha : SoyVerif.Spec.JsSem.exact a = true) (jenv' : JEnv) (r : JsStmts × Scope)
    (h : toCmds .on b!"output" sampleCall ⟨[[]], 0⟩ = some r)
    (hx : execStmts sampleF (genCall sampleF [calleeT] 10 2) 10 r.1 (sampleJEnv a) = .ok jenv') :
    ∃ text, refCmds sampleF ⟨[calleeT], (sampleEnv a).vars, refCall sampleF [calleeT] 2⟩ .on sampleCall (sampleEnv a) = .val text ∧
      BufIs b!"output" jenv' text :=
  gen_correct_program_partial sampleF [calleeT] 10 .on 2 sampleCall 0 r h (sampleEnv a) _ none
    (by simp [sampleEnv, C04c.toJsKvs, C04c.toJsV, ha]) rfl (exGlobRel _) jenv' 10 hx

-- depth 0 allows no call: the semantics says nothing (`unspec`), and so does the reference
example : (match toCmds .on b!"output" sampleCall ⟨[[]], 0⟩ with
    | some r => (match execStmts sampleF (genCall sampleF [calleeT] 10 0) 10 r.1 (sampleJEnv 5) with
      | .unspec => true
      | _ => false)
    | none => false) = true := by decide +kernel

end Examples

end SoyVerif.Props.C04e
