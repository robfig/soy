/-
  C04 — the FUNCTION level of soyjs (`visitTemplate`) and the file around it, as a translation and its text.

  `toTemplate` / `toTop` translate the template nodes of a file — each after its soydoc comment — to the function AST
  of Spec/JsStmt (`JsFunc`: name, the `opt_data = opt_data || {}` line, the statements of the body translated by
  Props/C04dTr `toBody` in a fresh frame, the counter of generated names running on through the file); the generator
  model writes exactly `renderFunc` of each, behind the two comment lines and the namespace declarations
  (`C14c.file_renders`: the whole file, piece by piece; the reader of Props/C14c reads that text back, hence the names).
  Nothing here speaks of what the functions compute: Props/C04f does, and the reader (Props/C14c, C14d) needs only this.
-/
import SoyVerif.Props.C04dTr

namespace SoyVerif.Props.C04f
open SoyVerif SoyVerif.Model SoyVerif.Model.JsGen SoyVerif.Spec.JsSemRef SoyVerif.Spec.JsStmt
open SoyVerif.Props.C04c (toAst render RunsSc toJsV EnvRel Globals GlobalsAre IjRel GlobRel)
open SoyVerif.Props.C04d
open SoyVerif.Spec.Eval (Val Out)

set_option linter.unusedSectionVars false

section Dev
variable [Globals]

/-- the autoescape mode in force inside a template -/
def aeOf (ae nsAe : Autoescape) : Autoescape := if ae != .unspecified then ae else nsAe

/-- a `{template}` node in the scope `sc` of the file: its function, and the scope after it (only the counter moved) -/
def toTemplate (nsAe : Autoescape) (optional : Bool) : Cmd → Scope → Option (JsFunc × Scope)
  | .template _ name body ae _, sc =>
    match toBody (aeOf ae nsAe) sOutputVar body sc.push with
    | some r => some (⟨name, optional, r.1⟩, r.2.pop)
    | none => none
  | _, _ => none

/-- the template nodes of a file, each behind its soydoc comment -/
def toTop (nsAe : Autoescape) : List Cmd → Scope → Option (List JsFunc × Scope)
  | [], sc => some ([], sc)
  | .soyDoc _ params :: c :: rest, sc =>
    match toTemplate nsAe (allOptional (.soydoc params)) c sc with
    | some r1 =>
      (match toTop nsAe rest r1.2 with
        | some r2 => some (r1.1 :: r2.1, r2.2)
        | none => none)
    | none => none
  | _, _ => none

/-- the text of one function as soyjs visitTemplate writes it: an empty line, the definition line (`.header`), the
    `opt_data = opt_data || {}` line when all params are optional, `var output = '';`, the body, `return output;`, `};` -/
def renderFunc (es6 : Bool) (ind : Nat) (f : JsFunc) : List Piece :=
  [.fixed (spaces ind), .fixed [10], .fixed (spaces ind), .header es6 f.name, .fixed [10]] ++
  (if f.optional then [.fixed (spaces (ind + 1)), .fixed b!"opt_data = opt_data || {};", .fixed [10]] else []) ++
  [.fixed (spaces (ind + 1)), .fixed b!"var output = '';", .fixed [10]] ++
  renderStmts es6 (ind + 1) f.body ++
  [.fixed (spaces (ind + 1)), .fixed b!"return output;", .fixed [10], .fixed (spaces ind), .fixed b!"};", .fixed [10]]

def AtN (ind : Nat) (buf : Bytes) (ae : Autoescape) (sc : Scope) (tag : NodeTag) (s : St) : Prop :=
  At ind buf ae sc s ∧ s.node = tag

def AtF (ind : Nat) (ae : Autoescape) (sc : Scope) (s : St) : Prop := ∃ buf, At ind buf ae sc s

section
variable (sk : List Bytes → List Bytes) (o : Options) [GlobalsAre o]
variable {ind : Nat} {buf : Bytes} {ae : Autoescape} {sc : Scope}

theorem Runs.atOtherSt {tag : NodeTag} {Q : St → Prop} {k : St → M Unit} {ps : List Piece}
    (h : ∀ s0, At ind buf ae sc s0 → s0.lastNode = tag → Runs (At ind buf ae sc) Q (k s0) ps) :
    Runs (AtN ind buf ae sc tag) Q (atOther >>= fun _ => getSt >>= k) ps := by
  intro s hs
  have h1 : At ind buf ae sc { s with lastNode := s.node, node := .other } := ⟨hs.1.1, hs.1.2.1, hs.1.2.2.1, hs.1.2.2.2⟩
  obtain ⟨s', h', hq⟩ := h _ h1 hs.2 _ h1
  refine ⟨s', ?_, hq⟩
  simp only [Bind.bind, M.bind, atOther, atNode, JsGen.modify, JsGen.getSt, h', List.nil_append]

theorem Runs.setAe (ae' : Autoescape) :
    Runs (At ind buf ae sc) (At ind buf ae' sc) (JsGen.modify fun s => { s with autoescape := ae' }) [] :=
  Runs.modify fun _ hs => ⟨hs.1, hs.2.1, rfl, hs.2.2.2⟩

theorem Runs.whenAe (ae' : Autoescape) :
    Runs (At ind buf ae sc) (At ind buf (aeOf ae' ae) sc)
      (JsGen.whenM (ae' != .unspecified) (JsGen.modify fun s => { s with autoescape := ae' })) [] := by
  unfold aeOf
  cases h : (ae' != .unspecified)
  · exact Runs.pure
  · exact Runs.setAe ae'

theorem Runs.addInFile (k : Bytes) : Runs (At ind buf ae sc) (At ind buf ae sc) (addInFile k) [] :=
  Runs.modify fun _ hs => hs

theorem Runs.soyDoc (p : Nat) (params : List SoyDocParam) :
    Runs (At ind buf ae sc) (AtN ind buf ae sc (.soydoc params)) (walkCmd sk o (.soyDoc p params)) [] := by
  sunfold walkCmd
  intro s hs
  exact ⟨_, rfl, ⟨hs.1, hs.2.1, hs.2.2.1, hs.2.2.2⟩, rfl⟩

/-- visitTemplate writes the function.  The chain follows the statements of visitTemplate in order: autoescape, the two
    `jsln` of the header, funcsInFile, indent, the optional-params line, `var output`, bufferName, push, the body, `return`,
    unindent, `};`, autoescape restored, pop. -/
theorem template_runs (p : Nat) (name : Bytes) (body : Block) (ae' : Autoescape) (x : Bool) (tag : NodeTag)
    (rb : JsStmts × Scope)
    (hb : Runs (At (ind + 1) sOutputVar (aeOf ae' ae) sc.push) (At (ind + 1) sOutputVar (aeOf ae' ae) rb.2)
      (walkBody sk o body) (renderStmts (isEs6 o) (ind + 1) rb.1)) :
    Runs (AtN ind buf ae sc tag) (At ind sOutputVar ae rb.2.pop) (walkCmd sk o (.template p name body ae' x))
      (renderFunc (isEs6 o) ind ⟨name, allOptional tag, rb.1⟩) := by
  sunfold walkCmd
  apply Runs.atOtherSt
  intro s0 hs0 hl
  have hae : s0.autoescape = ae := hs0.2.2.1
  rw [hl, hae]
  apply Runs.cast
  · exact Runs.seq (Runs.whenAe ae') (Runs.seq Runs.indentP (Runs.seq Runs.nl (Runs.seq Runs.indentP (Runs.seq (Runs.emit _)
      (Runs.seq Runs.nl (Runs.seq (Runs.addInFile _) (Runs.seq Runs.incIndent
      (Runs.seq (Runs.whenM _ (Runs.seq Runs.indentP (Runs.seq (Runs.fx _) Runs.nl)))
      (Runs.seq Runs.indentP (Runs.seq (Runs.fx _) (Runs.seq Runs.nl (Runs.seq (Runs.setBuf _) (Runs.seq Runs.pushScope
      (Runs.seq hb (Runs.seq Runs.indentP (Runs.seq (Runs.fx _) (Runs.seq Runs.nl (Runs.seq Runs.decIndent
      (Runs.seq Runs.indentP (Runs.seq (Runs.fx _) (Runs.seq Runs.nl (Runs.seq (Runs.setAe ae) Runs.popScope))))))))))))))))))))))
  · simp [renderFunc]

theorem Runs.post {P Q Q' : St → Prop} {m : M Unit} {ps : List Piece} (h : Runs P Q m ps) (hq : ∀ s, Q s → Q' s) :
    Runs P Q' m ps := fun s hs => let ⟨s', h1, h2⟩ := h s hs; ⟨s', h1, hq s' h2⟩

theorem toTemplate_some {nsAe : Autoescape} {x : Bool} {c : Cmd} {sc : Scope} {r : JsFunc × Scope}
    (h : toTemplate nsAe x c sc = some r) :
    ∃ p name body ae' y rb, c = .template p name body ae' y ∧ toBody (aeOf ae' nsAe) sOutputVar body sc.push = some rb ∧
      r = (⟨name, x, rb.1⟩, rb.2.pop) := by
  cases c <;> simp only [toTemplate, reduceCtorEq] at h
  rename_i p name body ae' y
  split at h
  · rename_i rb hrb
    simp only [Option.some.injEq] at h
    exact ⟨p, name, body, ae', y, rb, rfl, hrb, h.symm⟩
  · cases h

/-- the template nodes of a file, read by `toTop`: none, or a soydoc comment, its template, and the rest -/
theorem toTop_induction {nsAe : Autoescape} {motive : List Cmd → Scope → List JsFunc × Scope → Prop}
    (nil : ∀ sc, motive [] sc ([], sc))
    (cons : ∀ p params p' name body ae' y rest sc rb r2,
      toBody (aeOf ae' nsAe) sOutputVar body sc.push = some rb → toTop nsAe rest rb.2.pop = some r2 → motive rest rb.2.pop r2 →
      motive (.soyDoc p params :: .template p' name body ae' y :: rest) sc
        (⟨name, allOptional (.soydoc params), rb.1⟩ :: r2.1, r2.2)) :
    ∀ (cmds : List Cmd) (sc : Scope) (r : List JsFunc × Scope), toTop nsAe cmds sc = some r → motive cmds sc r
  | [], sc, r, h => by
    simp only [toTop, Option.some.injEq] at h; subst h
    exact nil sc
  | .soyDoc p params :: c :: rest, sc, r, h => by
    unfold toTop at h
    split at h
    · rename_i r1 h1
      split at h
      · rename_i r2 h2
        simp only [Option.some.injEq] at h; subst h
        obtain ⟨p', name, body, ae', y, rb, rfl, hrb, rfl⟩ := toTemplate_some h1
        exact cons p params p' name body ae' y rest sc rb r2 hrb h2 (toTop_induction nil cons rest _ r2 h2)
      · cases h
    · cases h
  | [.soyDoc ..], _, _, h => by simp [toTop] at h
  | .rawText .. :: _, _, _, h | .print .. :: _, _, _, h | .msg .. :: _, _, _, h | .css .. :: _, _, _, h
  | .debugger .. :: _, _, _, h | .log .. :: _, _, _, h | .ifc .. :: _, _, _, h | .switch .. :: _, _, _, h
  | .forc .. :: _, _, _, h | .call .. :: _, _, _, h | .letValue .. :: _, _, _, h | .letContent .. :: _, _, _, h
  | .headerParam .. :: _, _, _, h | .namespace .. :: _, _, _, h | .template .. :: _, _, _, h => by simp [toTop] at h

/-- The walk over the soydoc / template nodes of a file writes exactly the
    functions of the translation, one after the other, and leaves the scope the translation computes -/
theorem walkTop_renders (ho : o.messages = none) (nsAe : Autoescape) : ∀ (cmds : List Cmd) (buf : Bytes) (sc : Scope) (r : List JsFunc × Scope),
    toTop nsAe cmds sc = some r →
    ∀ ind, Runs (At ind buf nsAe sc) (AtF ind nsAe r.2) (walkTop sk o cmds) (r.1.flatMap (renderFunc (isEs6 o) ind)) := by
  intro cmds buf sc r h ind
  refine toTop_induction (motive := fun cmds sc r => ∀ buf, Runs (At ind buf nsAe sc) (AtF ind nsAe r.2) (walkTop sk o cmds)
    (r.1.flatMap (renderFunc (isEs6 o) ind))) ?_ ?_ cmds sc r h buf
  · intro sc buf
    unfold walkTop
    exact Runs.post Runs.pure (fun s hs => ⟨buf, hs⟩)
  · intro p params p' name body ae' y rest sc rb r2 hrb _ ih buf
    unfold walkTop
    unfold walkTop
    have hb := walkBody_renders sk o (aeOf ae' nsAe) ho body sOutputVar sc.push rb hrb (ind + 1)
    have ht := template_runs sk o (buf := buf) p' name body ae' y (.soydoc params) rb hb
    exact (Runs.seq (Runs.soyDoc sk o p params) (Runs.seq ht (ih sOutputVar))).cast (by simp)

/-- a file: the namespace, then the templates behind their soydoc comments -/
def toFile (f : SoyFile) : Option (List JsFunc × Scope) :=
  match f.body with
  | .namespace _ _ ae :: rest => toTop ae rest ⟨[[]], 0⟩
  | _ => none

/-! the text in front of the functions (named in `SoyVerif.Props.C14c`, whose reader reads it back) -/

/-- where the next prefix of a dotted name ends -/
def _root_.SoyVerif.Props.C14c.nsNext (name : Bytes) (i : Nat) : Nat :=
  match indexOfDot (name.drop (i + 1)) with
  | none => name.length
  | some j => j + (i + 1)

/-- one line of visitNamespace: `if (typeof a.b == 'undefined') { a.b = {}; }` -/
def _root_.SoyVerif.Props.C14c.nsLine (ind : Nat) (pre : Bytes) : List Piece :=
  [.fixed (spaces ind), .fixed b!"if (typeof ", .qname pre, .fixed b!" == 'undefined') { ",
    .fixed (if pre.contains 46 then [] else b!"var "), .qname pre, .fixed b!" = {}; }", .fixed [10]]

def _root_.SoyVerif.Props.C14c.nsPieces (ind : Nat) (name : Bytes) : Nat → Nat → List Piece
  | 0, _ => []
  | fuel + 1, i =>
    if i < name.length then C14c.nsLine ind (name.take (C14c.nsNext name i)) ++ C14c.nsPieces ind name fuel (C14c.nsNext name i) else []

theorem _root_.SoyVerif.Props.C14c.nsLoop_pieces (name : Bytes) : ∀ (fuel i : Nat),
    Runs (At ind buf ae sc) (At ind buf ae sc) (nsLoop name fuel i) (C14c.nsPieces ind name fuel i)
  | 0, _ => by unfold nsLoop C14c.nsPieces; exact Runs.pure
  | fuel + 1, i => by
    unfold nsLoop C14c.nsPieces
    split
    · have h := C14c.nsLoop_pieces name fuel (C14c.nsNext name i)
      exact (Runs.seq Runs.indentP (Runs.seq (Runs.fx _) (Runs.seq (Runs.emit _) (Runs.seq (Runs.fx _) (Runs.seq (Runs.fx _)
        (Runs.seq (Runs.emit _) (Runs.seq (Runs.fx _) (Runs.seq Runs.nl h)))))))).cast rfl
    · exact Runs.pure

/-- the comment lines in front of a file -/
def _root_.SoyVerif.Props.C14c.headerPieces (fname : Bytes) : List Piece :=
  [.fixed (spaces 0), .fixed b!"// This file was automatically generated from ", .comment fname, .fixed b!".", .fixed [10],
    .fixed (spaces 0), .fixed b!"// Please don't edit this file by hand.", .fixed [10], .fixed (spaces 0), .fixed [10]]

/-- what the generator model writes for a file of the fragment, piece by piece, and the scope it ends in -/
theorem _root_.SoyVerif.Props.C14c.file_renders (ho : o.messages = none) (f : SoyFile)
    (r : List JsFunc × Scope) (h : toFile f = some r) :
    ∃ p name ae' rest s', f.body = .namespace p name ae' :: rest ∧
      visitSoyFile sk o f initState =
        .ok ((), C14c.headerPieces (commentName f.name) ++
          (C14c.nsPieces 0 name (name.length + 1) 0 ++ r.1.flatMap (renderFunc (isEs6 o) 0)), s') ∧ s'.scope = r.2 := by
  unfold toFile at h
  split at h
  · rename_i p name ae' rest hbody
    have hm : Runs (At 0 [] .unspecified ⟨[[]], 0⟩) (At 0 [] ae' ⟨[[]], 0⟩)
        (JsGen.modify fun s => { s with ns := name, autoescape := ae' }) [] :=
      Runs.modify fun _ hs => ⟨hs.1, hs.2.1, rfl, hs.2.2.2⟩
    have hn : Runs (At 0 [] .unspecified ⟨[[]], 0⟩) (At 0 [] ae' ⟨[[]], 0⟩) (walkCmd sk o (.namespace p name ae'))
        (C14c.nsPieces 0 name (name.length + 1) 0) := by
      sunfold walkCmd
      exact (Runs.seq Runs.atOther (Runs.seq hm (C14c.nsLoop_pieces name (name.length + 1) 0))).cast (by simp)
    have ht := walkTop_renders sk o ho ae' rest [] _ r h 0
    have hall : Runs (At 0 [] .unspecified ⟨[[]], 0⟩) (AtF 0 ae' r.2) (visitSoyFile sk o f)
        (C14c.headerPieces (commentName f.name) ++
          (C14c.nsPieces 0 name (name.length + 1) 0 ++ r.1.flatMap (renderFunc (isEs6 o) 0))) := by
      unfold visitSoyFile
      rw [hbody]
      unfold walkTop
      refine Runs.cast (Runs.seq Runs.atOther (Runs.seq Runs.indentP (Runs.seq (Runs.fx _) (Runs.seq (Runs.emit _) (Runs.seq (Runs.fx _)
        (Runs.seq Runs.nl (Runs.seq Runs.indentP (Runs.seq (Runs.fx _) (Runs.seq Runs.nl (Runs.seq Runs.indentP (Runs.seq Runs.nl
        (Runs.seq hn ht)))))))))))) (by simp [C14c.headerPieces])
    obtain ⟨s', h1, b, h2⟩ := hall initState ⟨rfl, rfl, rfl, rfl⟩
    exact ⟨p, name, ae', rest, s', hbody, h1, h2.2.2.2⟩
  · cases h

/-- What the generator model writes for a file of the fragment ENDS
    with the functions of the translation (before them: the two comment lines and the namespace declarations) -/
theorem visitSoyFile_renders (ho : o.messages = none) (f : SoyFile) (r : List JsFunc × Scope) (h : toFile f = some r) :
    ∃ pre s', visitSoyFile sk o f initState = .ok ((), pre ++ r.1.flatMap (renderFunc (isEs6 o) 0), s') ∧ s'.scope = r.2 := by
  obtain ⟨_, _, _, _, s', _, hw, hsc⟩ := C14c.file_renders sk o ho f r h
  exact ⟨_, s', by rw [hw, ← List.append_assoc], hsc⟩

end

end Dev

end SoyVerif.Props.C04f
