/-
  C04, command level — the reference against Spec/Eval.renderCmds (fourth layer, on Props/C04dSim for
  `gen_correct_cmds_spec` only; otherwise on the definitions of Props/C04dInv).
  `led_*`: one induction, in a direction flag, for "the specification renders what the reference renders" and its
  converse on the admitted directive lists; `ref_le_spec_*` / `spec_le_ref_*` are its two readings.
-/
import SoyVerif.Props.C04dSim

namespace SoyVerif.Props.C04d
open SoyVerif SoyVerif.Model SoyVerif.Model.JsGen SoyVerif.Spec.JsSemRef SoyVerif.Spec.JsStmt
open SoyVerif.Props.C02Spec (eq_of_outCode)
open SoyVerif.Props.C04c (toAst render RunsSc Same walkExpr_renders toJsV EnvRel Globals GlobalsAre IjRel GlobRel)

set_option linter.unusedSectionVars false

section Dev
variable [Globals] {ent : Spec.Eval.Binds}
open SoyVerif.Spec.Eval (Val Out)
open SoyVerif.Props.C04c (VarRel LoopRel FrameRel)

def noDirs (ds : List Directive) : Bool := ds.isEmpty

mutual
  /-- every print of the command has a directive list that `ok` accepts, and the command is in the fragment of the reference
      (`hb`: a message bundle is installed, Spec/Eval's `hasBundle`) -/
  def dirCmd (ok : List Directive → Bool) (hb : Bool) : Cmd → Bool
    | .print _ _ dirs => ok dirs
    | .ifc _ conds => dirConds ok hb conds
    | .switch _ _ cases => dirCases ok hb cases
    | .letContent _ _ body => dirBlock ok hb body
    | .call _ _ _ _ params => dirParams ok hb params
    -- a message is rendered part by part only when there is no message bundle
    | .msg _ _ _ _ _ body => !hb && dirParts ok hb body
    | .forc _ _ _ body ifEmpty =>
      dirBlock ok hb body && (match ifEmpty with
        | none => true
        | some b => dirBlock ok hb b)
    | .rawText .. => true
    | .letValue .. => true
    | .css .. => true
    | .debugger .. => true
    -- `{log}` and the structural nodes are outside the fragment of the reference semantics
    | _ => false
  def dirParts (ok : List Directive → Bool) (hb : Bool) : MsgParts → Bool
    | .nil => true
    | .text _ _ rest => dirParts ok hb rest
    | .ph _ _ body rest => dirPh ok hb body && dirParts ok hb rest
    | .plural _ _ _ cases _ dflt rest => dirPCases ok hb cases && dirParts ok hb dflt && dirParts ok hb rest
  def dirPCases (ok : List Directive → Bool) (hb : Bool) : PluralCases → Bool
    | .nil => true
    | .cons _ _ _ body rest => dirParts ok hb body && dirPCases ok hb rest
  def dirPh (ok : List Directive → Bool) (hb : Bool) : MsgPhBody → Bool
    | .htmlTag .. => true
    | .cmd c => dirCmd ok hb c
  def dirBlock (ok : List Directive → Bool) (hb : Bool) : Block → Bool
    | .mk _ cmds => dirCmds ok hb cmds
  def dirCmds (ok : List Directive → Bool) (hb : Bool) : CmdList → Bool
    | .nil => true
    | .cons c r => dirCmd ok hb c && dirCmds ok hb r
  def dirParams (ok : List Directive → Bool) (hb : Bool) : ParamList → Bool
    | .nil => true
    | .value _ _ _ rest => dirParams ok hb rest
    | .content _ _ body rest => dirBlock ok hb body && dirParams ok hb rest
  def dirCases (ok : List Directive → Bool) (hb : Bool) : CaseList → Bool
    | .nil => true
    -- a {default} (a value-less case) is the LAST case — as `toCases` (`caseJoin`) requires; there the
    -- first-match reading `refCases` and Spec/Eval.renderCases (the default wherever it stands) coincide
    | .cons _ values body rest =>
      dirBlock ok hb body && dirCases ok hb rest && (!values.isEmpty || (match rest with | .nil => true | _ => false))
  def dirConds (ok : List Directive → Bool) (hb : Bool) : CondList → Bool
    | .nil => true
    | .cons _ _ body rest => dirBlock ok hb body && dirConds ok hb rest
end

/-- no print of the command has a directive -/
abbrev plainCmd (hb : Bool) : Cmd → Bool := dirCmd noDirs hb
abbrev plainBlock (hb : Bool) : Block → Bool := dirBlock noDirs hb
abbrev plainCmds (hb : Bool) : CmdList → Bool := dirCmds noDirs hb

/-- `b` renders every value that `a` renders -/
def OutLe {α : Type} (a b : Out α) : Prop := ∀ r, a = .val r → b = .val r

/-- at the value `r`, `OutLe` read from left to right (`d = true`) or from right to left -/
def OutLeAt (d : Bool) {α : Type} (a b : Out α) (r : α) : Prop :=
  match d with
  | true => a = .val r → b = .val r
  | false => b = .val r → a = .val r

/-- `OutLe a b` (`d = true`) or `OutLe b a`: `≤` in the direction `d` (`led_*`: "less or equal, in direction d") -/
def OutLeD (d : Bool) {α : Type} (a b : Out α) : Prop := ∀ r, OutLeAt d a b r

theorem OutLe.bind {α β : Type} {a b : Out α} {f g : α → Out β} (h : OutLe a b) (hf : ∀ x, OutLe (f x) (g x)) :
    OutLe (a.bind f) (b.bind g) := by
  intro r hr
  obtain ⟨x, hx, hr⟩ := out_bind_val hr
  rw [h x hx]
  exact hf x r hr

theorem OutLeD.refl (d : Bool) {α : Type} (a : Out α) : OutLeD d a a := by
  cases d <;> exact fun _ h => h

theorem OutLeD.bind {d : Bool} {α β : Type} {a b : Out α} {f g : α → Out β} (h : OutLeD d a b)
    (hf : ∀ x, OutLeD d (f x) (g x)) : OutLeD d (a.bind f) (b.bind g) := by
  cases d
  · exact OutLe.bind h hf
  · exact OutLe.bind h hf

theorem OutLeD.of_iff {d : Bool} {α : Type} {a b c : Out α} (hab : OutLeD d a b) (h : ∀ r, b = .val r ↔ c = .val r) :
    OutLeD d a c := by
  cases d
  · exact fun r hr => hab r ((h r).mpr hr)
  · exact fun r hr => (h r).mp (hab r hr)

theorem OutLeD.loopSpec {d : Bool} {b1 b2 : SEnv → Out Bytes} (h : ∀ env, OutLeD d (b1 env) (b2 env)) (env : SEnv) (v : Bytes)
    (last : Nat) : ∀ (xs : List Val) (i : Nat),
    OutLeD d (Spec.Eval.loopSpec b1 env v last xs i) (Spec.Eval.loopSpec b2 env v last xs i)
  | [], _ => .refl _ _
  | _ :: r, i => OutLeD.bind (h _) fun _ => OutLeD.bind (OutLeD.loopSpec h env v last r (i + 1)) fun _ => .refl _ _

section
variable (reg : Registry.Reg) (hasBundle : Bool) (entry : Spec.Eval.Binds)
variable (call' : Registry.Tmpl → Spec.Eval.CallEnv → Out Bytes) (dsem : Option Spec.Eval.LibSem)

/-- the `.print` clause of Spec/Eval.renderCmd renders what `specPrint` renders of the argument's value -/
theorem renderCmd_print_iff (escape : Bool) (p : Nat) (arg : Expr) (dirs : List Directive) (env : SEnv) (r : Bytes × SEnv) :
    Spec.Eval.renderCmd reg hasBundle escape entry call' dsem (.print p arg dirs) env = .val r ↔
      ((Spec.Eval.eval env arg).bind fun v => (specPrint dsem escape env dirs v).bind fun s => .val (s, env)) = .val r := by
  rw [Spec.Eval.renderCmd]
  unfold specPrint
  split
  · refine ⟨fun h => (nomatch h), fun h => ?_⟩
    obtain ⟨v, _, h⟩ := out_bind_val h
    cases h
  · refine iff_of_eq (congrArg (fun k => (Spec.Eval.eval env arg).bind k = Out.val r) (funext fun v => ?_))
    split
    · rfl
    · simp only [Spec.Eval.Out.bind_assoc]
      rfl

theorem renderCases_cons (escape : Bool) (p : Nat) (values : List Expr) (body : Block) (rest : CaseList) (sv : Val) (env : SEnv)
    (hv : values.isEmpty = false) :
    Spec.Eval.renderCases reg hasBundle escape entry call' dsem (.cons p values body rest) sv env =
      (Spec.Eval.matchAny env sv values).bind fun hit =>
        if hit then Spec.Eval.renderBlock reg hasBundle escape entry call' dsem body env
        else Spec.Eval.renderCases reg hasBundle escape entry call' dsem rest sv env := by
  rw [Spec.Eval.renderCases, Spec.Eval.renderMatch, Spec.Eval.renderDefault, Spec.Eval.Out.bind_assoc]
  simp only [hv, Bool.false_eq_true, if_false]
  congr 1
  funext hit
  cases hit
  · rfl
  · simp only [if_true, Spec.Eval.Out.bind_assoc]
    cases Spec.Eval.renderBlock reg hasBundle escape entry call' dsem body env <;> rfl

theorem renderCases_default (escape : Bool) (p : Nat) (body : Block) (sv : Val) (env : SEnv) :
    Spec.Eval.renderCases reg hasBundle escape entry call' dsem (.cons p [] body .nil) sv env =
      Spec.Eval.renderBlock reg hasBundle escape entry call' dsem body env := by
  rw [Spec.Eval.renderCases, Spec.Eval.renderMatch, Spec.Eval.renderDefault]
  simp only [Spec.Eval.matchAny, Spec.Eval.Out.bind, Bool.false_eq_true, if_false, Spec.Eval.renderMatch,
    Spec.Eval.orDefault, List.isEmpty_nil, if_true]

end

section
variable {F : Bytes → List Expr → JVal → JOut} {ae : Autoescape}
variable {reg : Registry.Reg} {hasBundle : Bool} {entry : Spec.Eval.Binds}
variable {call call' : Registry.Tmpl → Spec.Eval.CallEnv → Out Bytes}
variable {ok : List Directive → Bool} {dsem : Option Spec.Eval.LibSem} {d : Bool}
-- in the direction `d`: the two prints, on the directive lists admitted, and the two `call`s
variable (hpr : ∀ (dirs : List Directive) (env : SEnv) (v : Val) (s : Bytes), ok dirs = true →
  OutLeAt d (refPrint F ae dirs v) (specPrint dsem (ae != .off) env dirs v) s)
variable (hcall : ∀ (name : Bytes) (t : Registry.Tmpl) (ce : Spec.Eval.CallEnv) (out : Bytes),
  Registry.lookup reg name = some t → OutLeAt d (call t ce) (call' t ce) out)
include hpr hcall

mutual
  theorem led_cmd : ∀ (c : Cmd) (env : SEnv), dirCmd ok hasBundle c = true →
      OutLeD d (refCmd F ⟨reg, entry, call⟩ ae c env) (Spec.Eval.renderCmd reg hasBundle (ae != .off) entry call' dsem c env)
    | .rawText p t, env, _ => by
      rw [Spec.Eval.renderCmd]
      exact .refl _ _
    | .print p arg dirs, env, hp => by
      simp only [refCmd]
      exact (OutLeD.bind (.refl _ _) fun v => OutLeD.bind (fun s => hpr dirs env v s (by simpa [dirCmd] using hp)) fun _ => .refl _ _).of_iff
        fun r => (renderCmd_print_iff reg hasBundle entry call' dsem (ae != .off) p arg dirs env r).symm
    | .letValue p x e, env, _ => by
      rw [Spec.Eval.renderCmd]
      exact .refl _ _
    | .ifc p conds, env, hp => by
      rw [Spec.Eval.renderCmd]
      simp only [refCmd]
      exact OutLeD.bind (led_conds conds env (by simpa [dirCmd] using hp)) fun _ => .refl _ _
    | .msg p id m dd bp body, env, hp => by
      simp only [dirCmd, Bool.and_eq_true, Bool.not_eq_true'] at hp
      rw [Spec.Eval.renderCmd, if_pos (by simp [hp.1])]
      simp only [refCmd]
      exact OutLeD.bind (led_parts body env hp.2) fun _ => .refl _ _
    | .css p none suffix, env, _ => by
      rw [Spec.Eval.renderCmd]
      exact .refl _ _
    | .css p (some e) suffix, env, _ => by
      rw [Spec.Eval.renderCmd]
      exact .refl _ _
    | .debugger p, env, _ => by
      rw [Spec.Eval.renderCmd]
      exact .refl _ _
    | .forc p v list body none, env, hp => by
      rw [Spec.Eval.renderCmd]
      simp only [dirCmd, Bool.and_eq_true] at hp
      simp only [refCmd]
      refine OutLeD.bind (.refl _ _) fun lv => ?_
      cases lv with
      | list xs =>
        dsimp only
        split
        · exact .refl _ _
        · exact OutLeD.bind (OutLeD.loopSpec (fun env' => led_block body env' hp.1) env v _ xs 0) fun _ => .refl _ _
      | _ => exact .refl _ _
    | .forc p v list body (some b), env, hp => by
      rw [Spec.Eval.renderCmd]
      simp only [dirCmd, Bool.and_eq_true] at hp
      simp only [refCmd]
      refine OutLeD.bind (.refl _ _) fun lv => ?_
      cases lv with
      | list xs =>
        dsimp only
        split
        · exact OutLeD.bind (led_block b env hp.2) fun _ => .refl _ _
        · exact OutLeD.bind (OutLeD.loopSpec (fun env' => led_block body env' hp.1) env v _ xs 0) fun _ => .refl _ _
      | _ => exact .refl _ _
    | .switch p value cases, env, hp => by
      rw [Spec.Eval.renderCmd]
      simp only [refCmd]
      exact OutLeD.bind (.refl _ _) fun sv => OutLeD.bind (led_cases cases sv env (by simpa [dirCmd] using hp)) fun _ => .refl _ _
    | .call p name allData data params, env, hp => by
      unfold Spec.Eval.renderCmd
      simp only [refCmd]
      cases hl : Registry.lookup reg name with
      | none => exact .refl _ _
      | some callee =>
        exact OutLeD.bind (.refl _ _) fun b => OutLeD.bind (led_params params env (by simpa [dirCmd] using hp)) fun ps =>
          OutLeD.bind (fun out => hcall name callee _ out hl) fun _ => .refl _ _
    | .letContent p name body, env, hp => by
      rw [Spec.Eval.renderCmd]
      simp only [refCmd]
      exact OutLeD.bind (led_block body env (by simpa [dirCmd] using hp)) fun _ => .refl _ _
    | .log .., _, hp => by simp [dirCmd] at hp
    | .headerParam .., _, hp => by simp [dirCmd] at hp
    | .namespace .., _, hp => by simp [dirCmd] at hp
    | .template .., _, hp => by simp [dirCmd] at hp
    | .soyDoc .., _, hp => by simp [dirCmd] at hp
  theorem led_parts : ∀ (ps : MsgParts) (env : SEnv), dirParts ok hasBundle ps = true →
      OutLeD d (refParts F ⟨reg, entry, call⟩ ae ps env)
        (Spec.Eval.renderParts reg hasBundle (ae != .off) entry call' dsem ps env)
    | .nil, env, _ => by
      rw [Spec.Eval.renderParts]
      exact .refl _ _
    | .text p t rest, env, hp => by
      rw [Spec.Eval.renderParts]
      simp only [refParts]
      exact OutLeD.bind (led_parts rest env (by simpa [dirParts] using hp)) fun _ => .refl _ _
    | .ph p name body rest, env, hp => by
      simp only [dirParts, Bool.and_eq_true] at hp
      rw [Spec.Eval.renderParts]
      simp only [refParts]
      exact OutLeD.bind (led_ph body env hp.1) fun r1 => OutLeD.bind (led_parts rest r1.2 hp.2) fun _ => .refl _ _
    | .plural p vn value cases dp dflt rest, env, hp => by
      simp only [dirParts, Bool.and_eq_true] at hp
      rw [Spec.Eval.renderParts]
      simp only [refParts]
      refine OutLeD.bind (.refl _ _) fun v => ?_
      cases v with
      | int i =>
        exact OutLeD.bind (led_plural cases i env _ _ hp.1.1 (led_parts dflt env hp.1.2)) fun r1 =>
          OutLeD.bind (led_parts rest r1.2 hp.2) fun _ => .refl _ _
      | _ => exact .refl _ _
  /-- the clause that renders: the first `{case}` with the value, else what stands for the `{default}` -/
  theorem led_plural : ∀ (cs : PluralCases) (i : Int) (env : SEnv) (x : Spec.Eval.ROut) (dfltF : SEnv → Spec.Eval.ROut),
      dirPCases ok hasBundle cs = true → OutLeD d x (dfltF env) →
      OutLeD d (match refPlural F ⟨reg, entry, call⟩ ae cs i env with
          | some r => r
          | none => x)
        (Spec.Eval.renderPlural reg hasBundle (ae != .off) entry call' dsem cs dfltF i env)
    | .nil, i, env, x, dfltF, _, hx => by
      rw [Spec.Eval.renderPlural]
      exact hx
    | .cons p v bp body rest, i, env, x, dfltF, hp, hx => by
      simp only [dirPCases, Bool.and_eq_true] at hp
      rw [Spec.Eval.renderPlural]
      simp only [refPlural]
      by_cases hiv : (i == v) = true
      · simp only [hiv, if_true]
        exact led_parts body env hp.1
      · simp only [hiv, Bool.false_eq_true, if_false]
        exact led_plural rest i env x dfltF hp.2 hx
  theorem led_ph : ∀ (b : MsgPhBody) (env : SEnv), dirPh ok hasBundle b = true →
      OutLeD d (refPh F ⟨reg, entry, call⟩ ae b env) (Spec.Eval.renderPh reg hasBundle (ae != .off) entry call' dsem b env)
    | .htmlTag p t, env, _ => by
      rw [Spec.Eval.renderPh]
      exact .refl _ _
    | .cmd c, env, hp => by
      rw [Spec.Eval.renderPh]
      exact led_cmd c env (by simpa [dirPh] using hp)
  theorem led_params : ∀ (ps : ParamList) (env : SEnv), dirParams ok hasBundle ps = true →
      OutLeD d (refParams F ⟨reg, entry, call⟩ ae ps env)
        (Spec.Eval.renderParams reg hasBundle (ae != .off) entry call' dsem ps env)
    | .nil, env, _ => by
      rw [Spec.Eval.renderParams]
      exact .refl _ _
    | .value p key e rest, env, hp => by
      rw [Spec.Eval.renderParams]
      simp only [refParams]
      exact OutLeD.bind (.refl _ _) fun _ => OutLeD.bind (led_params rest env (by simpa [dirParams] using hp)) fun _ => .refl _ _
    | .content p key body rest, env, hp => by
      rw [Spec.Eval.renderParams]
      simp only [dirParams, Bool.and_eq_true] at hp
      simp only [refParams]
      exact OutLeD.bind (led_block body env hp.1) fun _ => OutLeD.bind (led_params rest env hp.2) fun _ => .refl _ _
  theorem led_block : ∀ (b : Block) (env : SEnv), dirBlock ok hasBundle b = true →
      OutLeD d (refBlock F ⟨reg, entry, call⟩ ae b env) (Spec.Eval.renderBlock reg hasBundle (ae != .off) entry call' dsem b env)
    | .mk p cmds, env, hp => by
      rw [Spec.Eval.renderBlock]
      exact led_cmds cmds env (by simpa [dirBlock] using hp)
  theorem led_cmds : ∀ (cs : CmdList) (env : SEnv), dirCmds ok hasBundle cs = true →
      OutLeD d (refCmds F ⟨reg, entry, call⟩ ae cs env) (Spec.Eval.renderCmds reg hasBundle (ae != .off) entry call' dsem cs env)
    | .nil, env, _ => by
      rw [Spec.Eval.renderCmds]
      exact .refl _ _
    | .cons c rest, env, hp => by
      rw [Spec.Eval.renderCmds]
      simp only [dirCmds, Bool.and_eq_true] at hp
      simp only [refCmds]
      exact OutLeD.bind (led_cmd c env hp.1) fun r => OutLeD.bind (led_cmds rest r.2 hp.2) fun _ => .refl _ _
  theorem led_cases : ∀ (cs : CaseList) (sv : Val) (env : SEnv), dirCases ok hasBundle cs = true →
      OutLeD d (refCases F ⟨reg, entry, call⟩ ae cs sv env)
        (Spec.Eval.renderCases reg hasBundle (ae != .off) entry call' dsem cs sv env)
    | .nil, sv, env, _ => .refl _ _
    | .cons p values body rest, sv, env, hp => by
      simp only [dirCases, Bool.and_eq_true, Bool.or_eq_true, Bool.not_eq_true'] at hp
      obtain ⟨⟨hpb, hpr⟩, hlast⟩ := hp
      simp only [refCases]
      cases hem : values.isEmpty with
      | true =>
        -- the `{default}`: the last clause, nothing can match after it
        have hv : values = [] := by simpa using hem
        subst hv
        have hr : rest = .nil := by
          rcases hlast with h0 | h0
          · simp at h0
          · cases rest with
            | nil => rfl
            | cons _ _ _ _ => simp at h0
        subst hr
        rw [renderCases_default]
        exact led_block body env hpb
      | false =>
        rw [renderCases_cons _ _ _ _ _ _ _ _ _ _ _ _ hem]
        refine OutLeD.bind (.refl _ _) fun hit => ?_
        cases hit
        · exact led_cases rest sv env hpr
        · exact led_block body env hpb
  theorem led_conds : ∀ (cs : CondList) (env : SEnv), dirConds ok hasBundle cs = true →
      OutLeD d (refConds F ⟨reg, entry, call⟩ ae cs env) (Spec.Eval.renderConds reg hasBundle (ae != .off) entry call' dsem cs env)
    | .nil, env, _ => by
      rw [Spec.Eval.renderConds]
      exact .refl _ _
    | .cons p (some c) body rest, env, hp => by
      rw [Spec.Eval.renderConds]
      simp only [dirConds, Bool.and_eq_true] at hp
      simp only [refConds]
      refine OutLeD.bind (.refl _ _) fun v => ?_
      split
      · exact led_block body env hp.1
      · exact led_conds rest env hp.2
    | .cons p none body rest, env, hp => by
      rw [Spec.Eval.renderConds]
      simp only [dirConds, Bool.and_eq_true] at hp
      exact led_block body env hp.1
end

end

theorem specPrint_nil (ae : Autoescape) (dsem : Option Spec.Eval.LibSem) (env : SEnv) (v : Val) :
    specPrint dsem (ae != .off) env [] v = specPlain ae v := by
  simp only [specPrint, specPlain, List.isEmpty_nil, Bool.not_true, Bool.false_and, Bool.false_eq_true, if_false,
    Spec.Eval.runDirs, Spec.Eval.Out.bind]

theorem renderPlural_of_none (F : Bytes → List Expr → JVal → JOut) (R : RefCtx) (ae : Autoescape) (reg : Registry.Reg)
    (hasBundle escape : Bool) (entry : Spec.Eval.Binds) (call' : Registry.Tmpl → Spec.Eval.CallEnv → Out Bytes)
    (dsem : Option Spec.Eval.LibSem) (dfltF : SEnv → Spec.Eval.ROut) (i : Int) (env : SEnv) : ∀ (cs : PluralCases),
    refPlural F R ae cs i env = none →
    Spec.Eval.renderPlural reg hasBundle escape entry call' dsem cs dfltF i env = dfltF env
  | .nil, _ => by rw [Spec.Eval.renderPlural]
  | .cons p v bp body rest, h => by
    rw [Spec.Eval.renderPlural]
    simp only [refPlural] at h
    split at h
    · cases h
    · rename_i hiv
      simp only [hiv, Bool.false_eq_true, if_false]
      exact renderPlural_of_none F R ae reg hasBundle escape entry call' dsem dfltF i env rest h

/-- LIBRARY OBLIGATION (not proved here): soy.$$escapeHtml is Spec/Eval's htmlEscape of ToString.  The vendored soyutils.js
    does NOT meet it at a NUL character (`&#0;` where Go writes the character raw: known finding c04:escapeHtml-nul) -/
def EscapeHtmlIs (F : Bytes → List Expr → JVal → JOut) : Prop :=
  ∀ jv, F escapeHtmlName [] jv = match toStr? jv with
    | some s => .val (.str (htmlEscape s))
    | none => .unspec

section
variable (F : Bytes → List Expr → JVal → JOut) (G : Callee) (ae : Autoescape) (hesc : EscapeHtmlIs F)
variable (reg : Registry.Reg) (hasBundle : Bool) (entry : Spec.Eval.Binds)
variable (call call' : Registry.Tmpl → Spec.Eval.CallEnv → Out Bytes)
-- the directive lists admitted, the specification's library semantics, and what links the two prints
variable (ok : List Directive → Bool) (dsem : Option Spec.Eval.LibSem)
variable (hle : ∀ (dirs : List Directive) (env : SEnv) (v : Val) (s : Bytes), ok dirs = true →
  refPrint F ae dirs v = .val s → specPrint dsem (ae != .off) env dirs v = .val s)
-- the reference's `call` and the specification's: the latter renders what the former does
variable (hcall : ∀ (name : Bytes) (t : Registry.Tmpl) (ce : Spec.Eval.CallEnv) (out : Bytes),
  Registry.lookup reg name = some t → call t ce = .val out → call' t ce = .val out)
include hesc

theorem refPrintJs_nil (v : Val) : refPrintJs F ae [] v =
    match (toJsV v).bind toStr? with
    | some s => .val (if ae != .off then htmlEscape s else s)
    | none => .unspec := by
  unfold refPrintJs
  cases toJsV v with
  | none => rfl
  | some jv =>
    have hgo : C04b.goPrint (liftF F) Gen.directiveTable ae [] (.val jv) =
        some (if ae != .off then F escapeHtmlName [] jv else .val jv) := by
      simp only [C04b.goPrint, C04b.goRun, Option.map_some, liftF, JOut.bind]
    simp only [hgo, Option.bind_some]
    cases hae : ae != .off <;> simp only [Bool.false_eq_true, if_false, if_true, hesc jv] <;> cases toStr? jv <;> rfl

theorem refPrint_nil_eq (v : Val) : refPrint F ae [] v = specPlain ae v := by
  unfold refPrint
  rw [refPrintJs_nil F ae hesc]
  cases hv : toJsV v with
  | none => rfl
  | some jv =>
    cases hs : toStr? jv with
    | none => simp only [Option.bind_some, hs, List.isEmpty_nil, if_true]
    | some s =>
      have hsv := C04c.showVal_toStr v jv s hv hs
      have hu : Spec.Eval.isUndef v = false := by cases v <;> simp_all [Spec.Eval.isUndef, Spec.Eval.showVal]
      simp [hs, specPlain, hu, hsv, Spec.Eval.Out.bind]

/-- the hypothesis `hle` of `ref_le_spec_*` for directive-free prints (any library semantics on the other side) -/
theorem print_le_noDirs (dsem : Option Spec.Eval.LibSem) (dirs : List Directive) (env : SEnv) (v : Val) (s : Bytes)
    (hd : noDirs dirs = true) (h : refPrint F ae dirs v = .val s) : specPrint dsem (ae != .off) env dirs v = .val s := by
  have hd : dirs = [] := by simpa [noDirs] using hd
  subst hd
  rw [specPrint_nil, ← refPrint_nil_eq F ae hesc]
  exact h

include hle hcall

theorem ref_le_spec_cmd : ∀ (c : Cmd) (env : SEnv) (r : Bytes × SEnv), dirCmd ok hasBundle c = true →
    refCmd F ⟨reg, entry, call⟩ ae c env = .val r → Spec.Eval.renderCmd reg hasBundle (ae != .off) entry call' dsem c env = .val r :=
  fun x env r hp => led_cmd (d := true) hle hcall x env hp r

theorem ref_le_spec_parts : ∀ (ps : MsgParts) (env : SEnv) (r : Bytes × SEnv), dirParts ok hasBundle ps = true →
    refParts F ⟨reg, entry, call⟩ ae ps env = .val r →
    Spec.Eval.renderParts reg hasBundle (ae != .off) entry call' dsem ps env = .val r :=
  fun x env r hp => led_parts (d := true) hle hcall x env hp r

theorem ref_le_spec_plural : ∀ (cs : PluralCases) (i : Int) (env : SEnv), dirPCases ok hasBundle cs = true →
    (∀ r, refPlural F ⟨reg, entry, call⟩ ae cs i env = some (.val r) →
      ∀ dfltF, Spec.Eval.renderPlural reg hasBundle (ae != .off) entry call' dsem cs dfltF i env = .val r) ∧
    (refPlural F ⟨reg, entry, call⟩ ae cs i env = none →
      ∀ dfltF, Spec.Eval.renderPlural reg hasBundle (ae != .off) entry call' dsem cs dfltF i env = dfltF env) := by
  intro cs i env hp
  refine ⟨fun r h dfltF => ?_, fun h dfltF => renderPlural_of_none F _ ae reg hasBundle _ entry call' dsem dfltF i env cs h⟩
  have := led_plural (entry := entry) (d := true) hle hcall cs i env (dfltF env) dfltF hp (.refl _ _)
  rw [h] at this
  exact this r rfl

theorem ref_le_spec_ph : ∀ (b : MsgPhBody) (env : SEnv) (r : Bytes × SEnv), dirPh ok hasBundle b = true →
    refPh F ⟨reg, entry, call⟩ ae b env = .val r →
    Spec.Eval.renderPh reg hasBundle (ae != .off) entry call' dsem b env = .val r :=
  fun x env r hp => led_ph (d := true) hle hcall x env hp r

theorem ref_le_spec_params : ∀ (ps : ParamList) (env : SEnv) (out : Spec.Eval.Binds), dirParams ok hasBundle ps = true →
    refParams F ⟨reg, entry, call⟩ ae ps env = .val out →
    Spec.Eval.renderParams reg hasBundle (ae != .off) entry call' dsem ps env = .val out :=
  fun x env r hp => led_params (d := true) hle hcall x env hp r

theorem ref_le_spec_block : ∀ (b : Block) (env : SEnv) (out : Bytes), dirBlock ok hasBundle b = true →
    refBlock F ⟨reg, entry, call⟩ ae b env = .val out → Spec.Eval.renderBlock reg hasBundle (ae != .off) entry call' dsem b env = .val out :=
  fun x env r hp => led_block (d := true) hle hcall x env hp r

theorem ref_le_spec_cmds : ∀ (cs : CmdList) (env : SEnv) (out : Bytes), dirCmds ok hasBundle cs = true →
    refCmds F ⟨reg, entry, call⟩ ae cs env = .val out → Spec.Eval.renderCmds reg hasBundle (ae != .off) entry call' dsem cs env = .val out :=
  fun x env r hp => led_cmds (d := true) hle hcall x env hp r

theorem ref_le_spec_cases : ∀ (cs : CaseList) (sv : Val) (env : SEnv) (out : Bytes), dirCases ok hasBundle cs = true →
    refCases F ⟨reg, entry, call⟩ ae cs sv env = .val out → Spec.Eval.renderCases reg hasBundle (ae != .off) entry call' dsem cs sv env = .val out :=
  fun cs sv env out hp => led_cases (d := true) hle hcall cs sv env hp out

theorem ref_le_spec_conds : ∀ (cs : CondList) (env : SEnv) (out : Bytes), dirConds ok hasBundle cs = true →
    refConds F ⟨reg, entry, call⟩ ae cs env = .val out → Spec.Eval.renderConds reg hasBundle (ae != .off) entry call' dsem cs env = .val out :=
  fun x env r hp => led_conds (d := true) hle hcall x env hp r

end

/-! The converse, on the directive lists `ok` admits (`hge`): what Spec/Eval renders, the reference renders — its print falls
  back to Spec/Eval's where the JSON image is silent (`refPrint`). -/

section
variable (F : Bytes → List Expr → JVal → JOut) (ae : Autoescape) (hesc : EscapeHtmlIs F)
variable (reg : Registry.Reg) (hasBundle : Bool) (entry : Spec.Eval.Binds)
variable (call call' : Registry.Tmpl → Spec.Eval.CallEnv → Out Bytes)
variable (ok : List Directive → Bool) (dsem : Option Spec.Eval.LibSem)
variable (hge : ∀ (dirs : List Directive) (env : SEnv) (v : Val) (s : Bytes), ok dirs = true →
  specPrint dsem (ae != .off) env dirs v = .val s → refPrint F ae dirs v = .val s)
variable (hcall : ∀ (name : Bytes) (t : Registry.Tmpl) (ce : Spec.Eval.CallEnv) (out : Bytes),
  Registry.lookup reg name = some t → call' t ce = .val out → call t ce = .val out)
include hesc

/-- the hypothesis `hge` of `spec_le_ref_*` for directive-free prints (any library semantics on the other side) -/
theorem print_ge_noDirs (dsem : Option Spec.Eval.LibSem) (dirs : List Directive) (env : SEnv) (v : Val) (s : Bytes)
    (hd : noDirs dirs = true) (h : specPrint dsem (ae != .off) env dirs v = .val s) : refPrint F ae dirs v = .val s := by
  have hd : dirs = [] := by simpa [noDirs] using hd
  subst hd
  rw [refPrint_nil_eq F ae hesc, ← specPrint_nil ae dsem env]
  exact h

include hge hcall

theorem spec_le_ref_cmd : ∀ (c : Cmd) (env : SEnv) (r : Bytes × SEnv), dirCmd ok hasBundle c = true →
    Spec.Eval.renderCmd reg hasBundle (ae != .off) entry call' dsem c env = .val r → refCmd F ⟨reg, entry, call⟩ ae c env = .val r :=
  fun x env r hp => led_cmd (d := false) hge hcall x env hp r

theorem spec_le_ref_parts : ∀ (ps : MsgParts) (env : SEnv) (r : Bytes × SEnv), dirParts ok hasBundle ps = true →
    Spec.Eval.renderParts reg hasBundle (ae != .off) entry call' dsem ps env = .val r →
    refParts F ⟨reg, entry, call⟩ ae ps env = .val r :=
  fun x env r hp => led_parts (d := false) hge hcall x env hp r

theorem spec_le_ref_plural : ∀ (cs : PluralCases) (i : Int) (env : SEnv) (dfltF : SEnv → Spec.Eval.ROut) (r : Bytes × SEnv),
    dirPCases ok hasBundle cs = true →
    Spec.Eval.renderPlural reg hasBundle (ae != .off) entry call' dsem cs dfltF i env = .val r →
    refPlural F ⟨reg, entry, call⟩ ae cs i env = some (.val r) ∨
      (refPlural F ⟨reg, entry, call⟩ ae cs i env = none ∧ dfltF env = .val r) := by
  intro cs i env dfltF r hp h
  have := led_plural (entry := entry) (d := false) hge hcall cs i env (dfltF env) dfltF hp (.refl _ _) r h
  cases hq : refPlural F ⟨reg, entry, call⟩ ae cs i env with
  | some r' => rw [hq] at this; exact Or.inl (congrArg some this)
  | none => rw [hq] at this; exact Or.inr ⟨rfl, this⟩

theorem spec_le_ref_ph : ∀ (b : MsgPhBody) (env : SEnv) (r : Bytes × SEnv), dirPh ok hasBundle b = true →
    Spec.Eval.renderPh reg hasBundle (ae != .off) entry call' dsem b env = .val r →
    refPh F ⟨reg, entry, call⟩ ae b env = .val r :=
  fun x env r hp => led_ph (d := false) hge hcall x env hp r

theorem spec_le_ref_params : ∀ (ps : ParamList) (env : SEnv) (out : Spec.Eval.Binds), dirParams ok hasBundle ps = true →
    Spec.Eval.renderParams reg hasBundle (ae != .off) entry call' dsem ps env = .val out →
    refParams F ⟨reg, entry, call⟩ ae ps env = .val out :=
  fun x env r hp => led_params (d := false) hge hcall x env hp r

theorem spec_le_ref_block : ∀ (b : Block) (env : SEnv) (out : Bytes), dirBlock ok hasBundle b = true →
    Spec.Eval.renderBlock reg hasBundle (ae != .off) entry call' dsem b env = .val out → refBlock F ⟨reg, entry, call⟩ ae b env = .val out :=
  fun x env r hp => led_block (d := false) hge hcall x env hp r

theorem spec_le_ref_cmds : ∀ (cs : CmdList) (env : SEnv) (out : Bytes), dirCmds ok hasBundle cs = true →
    Spec.Eval.renderCmds reg hasBundle (ae != .off) entry call' dsem cs env = .val out → refCmds F ⟨reg, entry, call⟩ ae cs env = .val out :=
  fun x env r hp => led_cmds (d := false) hge hcall x env hp r

theorem spec_le_ref_cases : ∀ (cs : CaseList) (sv : Val) (env : SEnv) (out : Bytes), dirCases ok hasBundle cs = true →
    Spec.Eval.renderCases reg hasBundle (ae != .off) entry call' dsem cs sv env = .val out → refCases F ⟨reg, entry, call⟩ ae cs sv env = .val out :=
  fun cs sv env out hp => led_cases (d := false) hge hcall cs sv env hp out

theorem spec_le_ref_conds : ∀ (cs : CondList) (env : SEnv) (out : Bytes), dirConds ok hasBundle cs = true →
    Spec.Eval.renderConds reg hasBundle (ae != .off) entry call' dsem cs env = .val out → refConds F ⟨reg, entry, call⟩ ae cs env = .val out :=
  fun x env r hp => led_conds (d := false) hge hcall x env hp r

end

section
variable (F : Bytes → List Expr → JVal → JOut) (G : Callee) (R : RefCtx) (ae : Autoescape)

/-- against Spec/Eval.renderCmds itself: directive-free prints, soy.$$escapeHtml read as htmlEscape -/
theorem gen_correct_cmds_spec (hesc : EscapeHtmlIs F) (buf : Bytes)
    (reg : Registry.Reg) (hasBundle : Bool) (entry : Spec.Eval.Binds)
    (call : Registry.Tmpl → Spec.Eval.CallEnv → Out Bytes) (hG : CallRel G ⟨reg, entry, call⟩)
    (cmds : CmdList) (hplain : plainCmds hasBundle cmds = true) (sc : Scope) (r : JsStmts × Scope)
    (h : toCmds ae buf cmds sc = some r) (env : SEnv) (jenv jenv' : JEnv) (out : Bytes) (hs : ScOk sc)
    (hg : GoodBuf sc buf) (hrel : EnvRel entry sc env jenv) (hb : BufIs buf jenv out) (fuel : Nat)
    (hx : execStmts F G fuel r.1 jenv = .ok jenv') :
    ∃ text, Spec.Eval.renderCmds reg hasBundle (ae != .off) entry call none cmds env = .val text ∧
      BufIs buf jenv' (out ++ text) := by
  obtain ⟨text, ht, hb', _⟩ := cmds_ok F G ⟨reg, entry, call⟩ ae hG cmds buf fuel sc r env jenv jenv' out h hs hg hrel hb hx
  exact ⟨text, ref_le_spec_cmds F ae hesc reg hasBundle entry call call noDirs none (print_le_noDirs F ae hesc none)
    (fun _ _ _ _ _ h => h) cmds env text hplain ht, hb'⟩

end

end Dev

end SoyVerif.Props.C04d
