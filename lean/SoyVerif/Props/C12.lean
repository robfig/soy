/-
  C12 — A failing output writer always surfaces as a render error.

  Theorems about the model of soyhtml's output discipline (Model/Writer.lean), for
  EVERY writer obeying the io.Writer contract, every fault behaviour and every chunk
  list.  The tie (harness/c12.go) checks that the real renderer, run against a writer
  with an injected fault at every write call and at every byte offset, returns exactly
  the outcome `render` predicts from the chunk list of the fault-free run.
-/
import SoyVerif.Model.Writer

namespace SoyVerif.Props.C12
open SoyVerif SoyVerif.Model.Writer

/-- the one induction behind the next two theorems -/
theorem render_accepted {σ : Type} (w : Writer σ) (hc : Contract w) :
    ∀ (chunks : List Bytes) (s : σ) (acc : Bytes),
      ∃ tail, (render w chunks s acc).accepted ++ tail = acc ++ chunks.flatten ∧
        ((render w chunks s acc).ok = true → tail = [])
  | [], s, acc => ⟨[], by simp [render]⟩
  | c :: rest, s, acc => by
    unfold render
    simp only
    by_cases hw : (w.write s c).2.2 = true
    · simp only [hw, if_true]
      obtain ⟨tail, ht, hok⟩ := render_accepted w hc rest (w.write s c).1 (acc ++ c.take (w.write s c).2.1)
      refine ⟨tail, ?_, hok⟩
      rw [ht, (hc s c).2 hw]
      simp [List.take_length]
    · simp only [hw, if_false, Bool.false_eq_true]
      refine ⟨c.drop (w.write s c).2.1 ++ rest.flatten, ?_, fun h => nomatch h⟩
      simp [List.append_assoc]
      rw [← List.append_assoc, List.take_append_drop]

/-- A render returns nil only if every byte of the output was accepted. -/
theorem nil_error_implies_all_accepted {σ : Type} (w : Writer σ) (hc : Contract w)
    (chunks : List Bytes) (s : σ) (h : (render w chunks s []).ok = true) :
    (render w chunks s []).accepted = chunks.flatten := by
  obtain ⟨tail, ht, hok⟩ := render_accepted w hc chunks s []
  simpa [hok h] using ht

/-- The bytes the writer accepted before failing are a prefix of the output of an
    unfailing render (for every writer obeying the contract, every fault plan). -/
theorem accepted_is_prefix {σ : Type} (w : Writer σ) (hc : Contract w) (chunks : List Bytes) (s : σ) :
    ∃ tail, (render w chunks s []).accepted ++ tail = chunks.flatten := by
  obtain ⟨tail, ht, _⟩ := render_accepted w hc chunks s []
  exact ⟨tail, by simpa using ht⟩

/-- If any write reports an error the render reports an error: `ok` implies that
    every write of the run succeeded (stated through the writer's own log of results).  This is about the render
    loop alone: the writer need not obey the contract. -/
theorem write_error_surfaces {σ : Type} (w : Writer σ) :
    ∀ (chunks : List Bytes) (s : σ) (acc : Bytes),
      (render w chunks s acc).ok = true →
      ∀ (k : Nat) (hk : k < chunks.length),
        -- the k-th write, issued in the state reached after the first k writes, succeeded
        (w.write ((List.range k).foldl (fun st i => (w.write st (chunks.getD i [])).1) s) (chunks.getD k [])).2.2 = true
  | [], _, _, _, k, hk => by simp at hk
  | c :: rest, s, acc, h, k, hk => by
    unfold render at h
    simp only at h
    by_cases hw : (w.write s c).2.2 = true
    · simp only [hw, if_true] at h
      cases k with
      | zero => simpa using hw
      | succ k =>
        have ih := write_error_surfaces w rest (w.write s c).1 _ h k (by simpa using hk)
        have e : (List.range (k + 1)).foldl (fun st i => (w.write st ((c :: rest).getD i [])).1) s
            = (List.range k).foldl (fun st i => (w.write st (rest.getD i [])).1) (w.write s c).1 := by
          rw [List.range_succ_eq_map, List.foldl_cons, List.foldl_map]
          simp
        rw [e]
        simpa using ih
    · simp [hw] at h

/-- the fault writers of the correspondence obey the io.Writer contract -/
theorem faultWriter_contract : Contract faultWriter := by
  intro s p
  unfold faultWriter
  simp only
  split
  · simp
  · split <;> simp_all <;> omega

/- Non-vacuity: a concrete run with a fault in the second write. -/
example : (render faultWriter [[1, 2], [3, 4], [5]] { room := 3, calls := 0, failAt := none } []).ok = false := by decide
example : (render faultWriter [[1, 2], [3, 4], [5]] { room := 3, calls := 0, failAt := none } []).accepted = [1, 2, 3] := by decide
example : (render faultWriter [[1, 2], [3, 4], [5]] { room := 9, calls := 0, failAt := none } []).ok = true := by decide

end SoyVerif.Props.C12
