/-
  C20 / C01 / C16 / C17 — the OUTPUT SHAPE of the soft-float formatters `F64.format` (Go 'g', -1: `FloatNode.String`, the
  Soy literal) and `F64.formatJS` (ECMAScript Number::toString: `data.Float.String`, encoding/json), for every double.
  These are statements about the digit lists produced by `shortest` / `natDigits` / `fmtE` / `fmtEJS` / `fmtF`
  (digits are ASCII digits, the shortest digit string of a non-zero double is not 0, the exponent has a sign
  and at least one digit, a '.' is followed by a digit) — not about numeric correctness, which the bit-for-bit
  correspondence C20f64 decides.
-/
import SoyVerif.Lemmas.F64Shape

namespace SoyVerif.Props.C20b
open SoyVerif SoyVerif.Lemmas.LexPrint SoyVerif.Lemmas.F64Shape

/-- Go's `strconv.FormatFloat(x, 'g', -1, 64)` of a finite double is a decimal text -/
theorem format_finite_decimal (x : F64) (hn : x.isNaN = false) (hi : x.isInf = false) : DecShape x.format :=
  format_shape x hn hi

/-- ECMAScript's Number::toString of a finite double is a decimal text -/
theorem formatJS_finite_decimal (x : F64) (hn : x.isNaN = false) (hi : x.isInf = false) : DecShape x.formatJS :=
  formatJS_shape x hn hi

/-- the other outputs of `format`: NaN, +Inf, -Inf -/
theorem format_nonfinite (x : F64) :
    (x.isNaN = true → x.format = [78, 97, 78]) ∧
    (x.isNaN = false → x.isInf = true → x.format = if x.sign then [45, 73, 110, 102] else [43, 73, 110, 102]) := by
  constructor
  · intro h; simp [F64.format, h]
  · intro h1 h2; simp [F64.format, h1, h2]

/-- the other outputs of `formatJS`: NaN, Infinity, -Infinity -/
theorem formatJS_nonfinite (x : F64) :
    (x.isNaN = true → x.formatJS = [78, 97, 78]) ∧
    (x.isNaN = false → x.isInf = true →
      x.formatJS = if x.sign then [45, 73, 110, 102, 105, 110, 105, 116, 121] else [73, 110, 102, 105, 110, 105, 116, 121]) := by
  constructor
  · intro h; simp [F64.formatJS, h]
  · intro h1 h2; simp [F64.formatJS, h1, h2]

/-- both zeros print "0" in JavaScript layout, "0" / "-0" in Go's -/
theorem format_zero (x : F64) (hn : x.isNaN = false) (hi : x.isInf = false) (hz : x.isZero = true) :
    x.formatJS = [48] ∧ x.format = (if x.sign then [45, 48] else [48]) := by
  simp [F64.formatJS, F64.format, hn, hi, hz]

/-- C16b's float hypothesis, discharged: encoding/json writes every finite double as a JSON number -/
theorem jsonFloat_finite_jnum (x : F64) (hn : x.isNaN = false) (hi : x.isInf = false) :
    ∃ lit, SoyVerif.Model.JsonMarshal.jsonFloat x = some lit ∧ SoyVerif.Lemmas.JsonValue.JNum lit :=
  jsonFloat_finite x hn hi

/-- C17b's float hypothesis, discharged: `FloatNode.String()` of a finite double is a Soy float literal
    (what `scanNumber` accepts as a Float) -/
theorem floatLiteral_finite (bits : UInt64) (hn : (F64.mk bits).isNaN = false) (hi : (F64.mk bits).isInf = false) :
    floatSpelling (SoyVerif.Model.Printer.fmtFloatLit (fun b => F64.format ⟨b⟩) bits) = true :=
  floatSpelling_finite bits hn hi


-- 1.5, 1e21, 1e-7, 5e-324, -0, 100
example : (F64.mk 0x3ff8000000000000).format = [49, 46, 53] ∧ (F64.mk 0x3ff8000000000000).formatJS = [49, 46, 53] := by decide +kernel
example : (F64.mk 0x444b1ae4d6e2ef50).format = [49, 101, 43, 50, 49] ∧ (F64.mk 0x444b1ae4d6e2ef50).formatJS = [49, 101, 43, 50, 49] := by
  decide +kernel
example : (F64.mk 0x3e7ad7f29abcaf48).format = [49, 101, 45, 48, 55] ∧ (F64.mk 0x3e7ad7f29abcaf48).formatJS = [49, 101, 45, 55] := by
  decide +kernel
example : (F64.mk 0x0000000000000001).formatJS = [53, 101, 45, 51, 50, 52] := by decide +kernel
example : (F64.mk 0x8000000000000000).format = [45, 48] ∧ (F64.mk 0x8000000000000000).formatJS = [48] := by decide +kernel
example : (F64.mk 0x4059000000000000).format = [49, 48, 48] ∧
    SoyVerif.Model.Printer.fmtFloatLit (fun b => F64.format ⟨b⟩) 0x4059000000000000 = [49, 48, 48, 46, 48] := by decide +kernel
example : floatSpelling (SoyVerif.Model.Printer.fmtFloatLit (fun b => F64.format ⟨b⟩) 0x4059000000000000) = true :=
  floatLiteral_finite _ (by decide +kernel) (by decide +kernel)
example : floatSpelling (SoyVerif.Model.Printer.fmtFloatLit (fun b => F64.format ⟨b⟩) 0x7ff8000000000001) = false := by decide +kernel

end SoyVerif.Props.C20b
