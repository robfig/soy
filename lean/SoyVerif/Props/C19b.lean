/-
  C19 (render half) — a render error carries the file that defines the ENTRY template and a line of that
  file: the line of the node the entry template's own walk was at when the failure occurred.

  The model (Model/Eval.lean) tracks `s.node` as the Go code does: `walk` moves it to every node it visits
  (`s.at`), `eval` restores it only on a normal return, `renderBlock` restores it after a block that ended
  normally, `evalCall` runs the callee in a NEW state — so while a callee's panic propagates, the caller's
  `s.node` stays at the call node — and the top-level recover handler reports `Registry.Filename / LineNumber`
  of the entry state.  The exec correspondences (C01eval, C02exec, C06total) compare the reported line and
  file with the real code's `errortypes.ToErrFilePos(err)` on every failing case.

  Full (c) of the property — "the LAST node visited before the failure" — would need the visit trace in the
  model; `failing_command_reported` pins the node to the failing command's subtree, which is what the reported
  line needs.
-/
import SoyVerif.Lemmas.EvalPos
import SoyVerif.Lemmas.ExecEqns

namespace SoyVerif.Props.C19b
open SoyVerif SoyVerif.Model SoyVerif.Model.Eval

theorem execBody_node_mem (g : GEnv) (esc : Bool) (call : Registry.Tmpl → Run) (b : Block) (ctx : Scope) (st : St) :
    (execBody g esc call b ctx st).st.node ∈ posBlock b := by
  obtain ⟨p, cmds⟩ := b
  have hp : p ∈ posBlock (.mk p cmds) := by rw [posBlock]; exact List.mem_cons_self
  rw [execBody]
  have hc := execCmds_tracks (S := fun q => q ∈ posBlock (.mk p cmds)) g esc call cmds
    (fun q hq => by rw [posBlock]; exact List.mem_cons_of_mem _ hq) ctx (atNode st p)
  rcases hc with hc | hc
  · rw [hc]; exact hp
  · exact hc

/-- (c) after walking a command — successfully or not — the state is at a node of that command -/
theorem walk_ends_in_command (g : GEnv) (esc : Bool) (call : Registry.Tmpl → Run) (c : Cmd) (ctx : Scope) (st : St) :
    (execCmd g esc call c ctx (atNode st (cmdPos c))).st.node ∈ posCmd c := by
  rcases execCmd_tracks (S := fun p => p ∈ posCmd c) g esc call c (fun _ hp => hp) ctx (atNode st (cmdPos c)) with h | h
  · rw [h]; exact cmdPos_mem c
  · exact h

/-- a call leaves the caller's `s.node` at a node of the CALL COMMAND (where the evaluation of its own data
    / params left it), whatever the callee — any runner — did with its own state -/
theorem call_keeps_node (g : GEnv) (esc : Bool) (call : Registry.Tmpl → Run) (p : Nat) (name : Bytes) (allData : Bool)
    (data : Option Expr) (params : ParamList) (ctx : Scope) (st : St) :
    (execCmd g esc call (.call p name allData data params) ctx (atNode st p)).st.node ∈
      posCmd (.call p name allData data params) :=
  walk_ends_in_command g esc call (.call p name allData data params) ctx st

/-- (c) when a command list fails, the reported node belongs to the first failing command -/
theorem failing_command_reported (g : GEnv) (esc : Bool) (call : Registry.Tmpl → Run) :
    ∀ (cs : CmdList) (ctx : Scope) (st : St), (execCmds g esc call cs ctx st).cls = .err →
      ∃ pre c post, cs.toList = pre ++ c :: post ∧ (execCmds g esc call cs ctx st).st.node ∈ posCmd c ∧
        ∃ ctx' st', (execCmds g esc call cs ctx st) = execCmd g esc call c ctx' (atNode st' (cmdPos c)) ∧
          (execCmd g esc call c ctx' (atNode st' (cmdPos c))).cls = .err
  | .nil, ctx, st, h => by rw [execCmds] at h; simp at h
  | .cons c rest, ctx, st, h => by
    rw [execCmds] at h ⊢
    split at h
    · rename_i hok
      obtain ⟨pre, c', post, h1, h2, ctx', st', h3, h4⟩ := failing_command_reported g esc call rest _ _ h
      exact ⟨c :: pre, c', post, by rw [CmdList.toList, h1]; rfl, h2, ctx', st', h3, h4⟩
    · exact ⟨[], c, rest.toList, rfl, walk_ends_in_command g esc call c ctx st, ctx, st, rfl, h⟩

/-! ### a {call} whose params were evaluated without error reports the CALL node

  `renderBlock` restores `s.node` when the block ends normally, `eval` does too: after the params of a call
  — values and content blocks — the caller's state is at the node it was at before them, the call node. -/

theorem renderBlockOf_ok_node {body : Run} {ctx : Scope} {st : St} (h : (renderBlockOf body ctx st).1.cls = .ok) :
    (renderBlockOf body ctx st).1.st.node = st.node := by
  unfold renderBlockOf at h ⊢
  simp only at h ⊢
  simp [restoreNode, h, atNode]

theorem execParams_ok_node (g : GEnv) (esc : Bool) (call : Registry.Tmpl → Run) :
    ∀ (ps : ParamList) (cd ctx : Scope) (st : St), (execParams g esc call ps cd ctx st).cls = .ok →
      (execParams g esc call ps cd ctx st).st.node = st.node
  | .nil, _, _, _, _ => by rw [execParams]
  | .value _ key e rest, cd, ctx, st, h => by
    obtain ⟨v, st1, st2, he, hs, heq⟩ := execParams_value_ok h
    rw [heq] at h ⊢
    rw [execParams_ok_node g esc call rest cd ctx st2 h, (set_ghost hs).1, (evalIn_ghost he).1]
  | .content _ key body rest, cd, ctx, st, h => by
    obtain ⟨hc, st2, hs, heq⟩ := execParams_content_ok h
    rw [heq] at h ⊢
    rw [execParams_ok_node g esc call rest cd _ st2 h, (set_ghost hs).1, renderBlockOf_ok_node hc]

/-- (c), for calls: once the data expression and the params of a {call} have been evaluated / rendered
    without error, whatever happens next — the callee fails at any depth, or succeeds — the caller's state is
    at the {call} NODE ITSELF: that is the node (file, line) an error of the callee is reported at, also
    when the call has {param}…{/param} content blocks -/
theorem call_reports_call_node (g : GEnv) (esc : Bool) (call : Registry.Tmpl → Run) (p : Nat) (name : Bytes)
    (allData : Bool) (data : Option Expr) (params : ParamList) (ctx : Scope) (st : St) (callee : Registry.Tmpl)
    (cd : Scope) (st1 : St) (hl : Registry.lookup g.reg name = some callee)
    (hcd : callData g allData data ctx (atNode st p) = some (cd, st1))
    (hps : (execParams g esc call params cd ctx st1).cls = .ok) :
    (execCmd g esc call (.call p name allData data params) ctx (atNode st p)).st.node = p := by
  have hn : (execParams g esc call params cd ctx st1).st.node = p := by
    rw [execParams_ok_node g esc call params cd ctx st1 hps, (callData_ghost hcd).1]; rfl
  rw [execCmd, hl]
  simp only [hcd, hps]
  split
  · exact hn
  · exact hn

theorem runTmpl_node_mem (g : GEnv) (fuel : Nat) (t : Registry.Tmpl) (ctx : Scope) (st : St) :
    (runTmpl g (fuel + 1) t ctx st).st.node ∈ posBlock t.body := by
  rw [runTmpl]; exact execBody_node_mem g _ _ t.body ctx _

/-- the number of lines of a text, in the form of `Eval.lineNumber` (Props/C19 `lineCount` counts the same with a filter) -/
def lineCount (text : Bytes) : Nat := 1 + text.count 10

/-- (a) on an error, the reported position is the position of a node of the ENTRY template's body -/
theorem err_pos_in_entry_template (g : GEnv) (name : Bytes) (data : Frame) (fuel : Nat) (t : Registry.Tmpl)
    (ht : Registry.lookup g.reg name = some t)
    (herr : (execute g name data fuel).cls = .err ∨ (execute g name data fuel).cls = .panic) :
    (execute g name data fuel).pos ∈ posBlock t.body := by
  rw [execute_some g name data fuel t ht] at herr ⊢
  cases fuel with
  | zero =>
    -- out of call depth at once: neither err nor panic
    simp [runTmpl] at herr
  | succ n => exact runTmpl_node_mem g n t _ _

/-- (b) the reported file is the file that defines the entry template -/
theorem err_file_is_entry_file (g : GEnv) (name : Bytes) (data : Frame) (fuel : Nat) (t : Registry.Tmpl)
    (ht : Registry.lookup g.reg name = some t) : (execute g name data fuel).file = t.file := by
  rw [execute_some g name data fuel t ht]

/-- (b) the reported line is a line of the entry template's file … -/
theorem err_line_in_range (g : GEnv) (name : Bytes) (data : Frame) (fuel : Nat) (t : Registry.Tmpl)
    (ht : Registry.lookup g.reg name = some t) :
    (execute g name data fuel).line = lineNumber t.text (execute g name data fuel).pos ∧
    1 ≤ (execute g name data fuel).line ∧ (execute g name data fuel).line ≤ lineCount t.text := by
  rw [execute_some g name data fuel t ht]
  refine ⟨rfl, by simp [lineNumber], ?_⟩
  simp only [lineNumber, lineCount]
  exact Nat.add_le_add_left ((List.take_sublist _ _).count_le _) 1

/-- … and under `posOk` the reported position lies inside the source: the slice `src[:pos]` of
    Registry.LineNumber / ColNumber is in range -/
theorem err_pos_in_source (g : GEnv) (name : Bytes) (data : Frame) (fuel : Nat) (t : Registry.Tmpl)
    (ht : Registry.lookup g.reg name = some t) (hp : posOk t = true)
    (herr : (execute g name data fuel).cls = .err) : (execute g name data fuel).pos ≤ t.text.length := by
  have hm := err_pos_in_entry_template g name data fuel t ht (Or.inl herr)
  simp only [posOk, List.all_eq_true, decide_eq_true_eq] at hp
  exact hp _ (List.mem_cons_of_mem _ hm)

/-! ### non-vacuity

  file f (text "\n\n{call}\nxx"): template .t = `{call .c /}` at position 2 (line 3); template .c prints an
  undefined value at its own position 9.  The error is reported at the CALL node of .t, line 3 — not at
  the callee's failing print. -/

def tC : Registry.Tmpl :=
  { name := [99], params := [], body := .mk 8 (.cons (.print 9 (.dataRef 10 [117] .nil) []) .nil),
    autoescape := .unspecified, nsName := [110], nsAutoescape := .unspecified, pos := 7, file := [103], text := [0, 0, 0, 0, 0, 0, 0, 0, 0, 0, 0, 0] }

def tT : Registry.Tmpl :=
  { name := [116], params := [], body := .mk 1 (.cons (.call 2 [99] false none .nil) .nil),
    autoescape := .unspecified, nsName := [110], nsAutoescape := .unspecified, pos := 0, file := [102], text := [10, 10, 123, 125, 10, 120, 120] }

def g0 : GEnv := { reg := [tT, tC], globals := [], ij := none, msgs := none, tbl := [], oblig := [] }

example : (execute g0 [116] [] 5).cls = .err := by decide +kernel
example : (execute g0 [116] [] 5).pos = 2 ∧ (execute g0 [116] [] 5).line = 3 ∧ (execute g0 [116] [] 5).file = [102] := by decide +kernel
/-- rendered directly, the callee reports its own node -/
example : (execute g0 [99] [] 5).pos = 10 ∧ (execute g0 [99] [] 5).file = [103] := by decide +kernel

/-! a call with a content block: template .p = `{call .c}{param x}⏎line⏎{/param}{/call}` — call node at
    position 2 (line 3), the param's block at 10…16 (lines 4–5).  The callee fails: reported at the CALL
    node, line 3, not at the last node of the param body. -/
def tP : Registry.Tmpl :=
  { name := [112], params := [],
    body := .mk 1 (.cons (.call 2 [99] false none (.content 5 [120] (.mk 10 (.cons (.rawText 12 [108]) .nil)) .nil)) .nil),
    autoescape := .unspecified, nsName := [110], nsAutoescape := .unspecified, pos := 0, file := [102],
    text := [10, 10, 123, 99, 125, 123, 112, 125, 10, 108, 10, 123, 47, 112, 125, 123, 47, 99, 125] }

def g1 : GEnv := { reg := [tP, tC], globals := [], ij := none, msgs := none, tbl := [], oblig := [] }

example : (execute g1 [112] [] 5).cls = .err ∧ (execute g1 [112] [] 5).pos = 2 ∧ (execute g1 [112] [] 5).line = 3 := by
  decide +kernel

/-- the same by the theorem: the params ended ok, so the node is the call node -/
example : (execCmd g1 true (runTmpl g1 4) (.call 2 [99] false none (.content 5 [120] (.mk 10 (.cons (.rawText 12 [108]) .nil)) .nil))
    [⟨1, false⟩, ⟨0, true⟩] (atNode { heap := [⟨[], true⟩, ⟨[], false⟩], out := [], next := 2, foreign := 0 } 2)).st.node = 2 :=
  call_reports_call_node g1 true (runTmpl g1 4) 2 [99] false none _ _ _ tC _ _ rfl rfl (by decide)

end SoyVerif.Props.C19b
