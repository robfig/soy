/-
  C04 — generated JavaScript ≡ Go renderer, FUNCTION and REGISTRY level (partial).

  1. The function level of soyjs (`visitTemplate`) as a translation — `toTemplate` / `toTop` / `toFile`, `renderFunc` —
     and the text the generator model writes for it stand in Props/C04fFile.lean.
  2. Calls through the TABLE of these functions (Spec/JsStmt `callFn`) instead of a callee oracle: for a table that
     holds the translated bodies of a registry's templates (`TableOk`; the functions of a file are one) the hypotheses
     `CallRel` / `CallRelE` of the statement theorems hold against the reference `refCall`, by induction on the call depth.
  3. The registry and file theorems, in both directions, against the reference and against Spec/Eval.render itself;
     stated relative to `PrintLe` / `PrintGe` (the reference's print and Spec/Eval's agree on the directive lists
     admitted), the directive-free ones being the instance `noDirs`.
  The function header is generator output (`renderFunc`), and its meaning is the trusted `callFn` of Spec/JsStmt
  (tied to otto by the harness property C04sem, which runs the entry function THROUGH the table).
-/
import SoyVerif.Props.C04e
import SoyVerif.Props.C04fFile

namespace SoyVerif.Props.C04f
open SoyVerif SoyVerif.Model SoyVerif.Model.JsGen SoyVerif.Spec.JsSemRef SoyVerif.Spec.JsStmt
open SoyVerif.Props.C04c (toAst render RunsSc toJsV EnvRel Globals GlobalsAre IjRel GlobRel)
open SoyVerif.Props.C04d SoyVerif.Props.C04e
open SoyVerif.Spec.Eval (Val Out)

set_option linter.unusedSectionVars false

section Dev
variable [Globals]

section
variable (F : Bytes → List Expr → JVal → JOut) (reg : Registry.Reg) (table : List JsFunc) (fuel : Nat)

/-- NAMED HYPOTHESIS: whatever function the table holds under a name is the translated body of the registry's template of
    that name.  (Nothing is asked to BE in the table: a call of a name that is not there is `unspec`.) -/
def TableOk : Prop :=
  ∀ (name : Bytes) (f : JsFunc), table.find? (fun f => f.name == name) = some f →
    ∃ t sc rb, Registry.lookup reg name = some t ∧ ScOk sc ∧ (∀ k, sc.lookup k = none) ∧ GoodBuf sc sOutputVar ∧
      toBody (tmplAe t) sOutputVar t.body sc = some rb ∧ f.body = rb.1

theorem defaultData_obj (x : Bool) (kvs : List (Bytes × JVal)) : defaultData x (.obj kvs) = .obj kvs := by
  simp [defaultData, toBoolean]

theorem toBody_cmds {ae : Autoescape} {buf : Bytes} {b : Block} {sc : Scope} {rb : JsStmts × Scope}
    (h : toBody ae buf b sc = some rb) : toCmds ae buf (blockCmds b) sc = some rb := by
  cases b with
  | mk p cmds => unfold toBody at h; exact h

/-- a call through the table that is not `unspec` found its function; what it returns is the run of the translated body of the
    registry's template, from related environments -/
theorem callFn_found (htab : TableOk reg table) (d : Nat) (name : Bytes) (ce : Spec.Eval.CallEnv) (jd : List (Bytes × JVal))
    (jij : Option (List (Bytes × JVal))) (hj : C04c.toJsKvs ce.entry = some jd) (hij : IjRel ce.ij jij) (hgl : GlobRel ce.globals)
    (hne : callFn F table fuel (d + 1) name (.obj jd) jij ≠ .unspec) :
    ∃ t sc rb, Registry.lookup reg name = some t ∧ ScOk sc ∧ GoodBuf sc sOutputVar ∧
      toBody (tmplAe t) sOutputVar t.body sc = some rb ∧
      EnvRel ce.entry sc { vars := ce.entry, loops := [], ij := ce.ij, globals := ce.globals } ⟨jd, jij, [(sOutputVar, .str [])]⟩ ∧
      callFn F table fuel (d + 1) name (.obj jd) jij =
        match execStmts F (callFn F table fuel d) fuel rb.1 ⟨jd, jij, [(sOutputVar, .str [])]⟩ with
        | .ok e => (match e.locals.find? (·.1 == sOutputVar) with
          | some kv => .val kv.2
          | none => .unspec)
        | .error => .error
        | .unspec => .unspec := by
  cases hf : table.find? (fun f => f.name == name) with
  | none => simp [callFn, hf] at hne
  | some f =>
    obtain ⟨t, sc, rb, hlk, hs, hsc, hgb, hrb, hfb⟩ := htab name f hf
    exact ⟨t, sc, rb, hlk, hs, hgb, hrb,
      C04c.envRel_params sc { vars := ce.entry, loops := [], ij := ce.ij, globals := ce.globals } _ hsc hj hij hgl,
      by simp only [callFn, hf, defaultData_obj, hfb]; rfl⟩

/-- the functions of the table and the reference's call agree at every depth -/
theorem calls_table_correct (htab : TableOk reg table) : ∀ (d : Nat) (e : Spec.Eval.Binds),
    CallRel (callFn F table fuel d) ⟨reg, e, refCall F reg d⟩ ∧ CallRelE (callFn F table fuel d) ⟨reg, e, refCall F reg d⟩
  | 0, e => ⟨fun _ _ _ _ _ _ _ _ h => by simp [callFn] at h, fun _ _ _ _ _ _ _ h => by simp [callFn] at h⟩
  | d + 1, e => by
    have ih := calls_table_correct htab d
    refine ⟨?_, ?_⟩
    · intro name ce jd jij r hj hij hgl hg
      obtain ⟨t, sc, rb, hlk, hs, hgb, hrb, hrel, heq⟩ :=
        callFn_found F reg table fuel htab d name ce jd jij hj hij hgl (by rw [hg]; exact fun h => nomatch h)
      rw [heq] at hg
      split at hg
      · rename_i jenv' hx
        obtain ⟨text, ht, hb, _⟩ := cmds_ok F (callFn F table fuel d) ⟨reg, ce.entry, refCall F reg d⟩ (tmplAe t) (ih ce.entry).1
          (blockCmds t.body) sOutputVar fuel sc rb _ _ jenv' [] (toBody_cmds hrb) hs hgb hrel (bufIs_init _ _ _) hx
        unfold BufIs at hb
        rw [hb] at hg
        simp only [List.nil_append, JOut.val.injEq] at hg
        exact ⟨t, text, hlk, ht, hg.symm⟩
      · cases hg
      · cases hg
    · intro name ce jd jij hj hij hgl hg callee out hlk
      obtain ⟨t, sc, rb, hlk', hs, hgb, hrb, hrel, heq⟩ :=
        callFn_found F reg table fuel htab d name ce jd jij hj hij hgl (by rw [hg]; exact fun h => nomatch h)
      have ht : t = callee := by
        have : Registry.lookup ({ reg := reg, entry := e, call := refCall F reg (d + 1) } : RefCtx).reg name = some t := hlk'
        rw [hlk] at this
        exact (Option.some.inj this).symm
      subst ht
      rw [heq] at hg
      split at hg
      · split at hg <;> cases hg
      · rename_i hx
        intro hc
        exact gen_no_throw_cmds_partial F (callFn F table fuel d) ⟨reg, ce.entry, refCall F reg d⟩ (tmplAe t) sOutputVar
          (ih ce.entry).1 (ih ce.entry).2 (blockCmds t.body) sc rb (toBody_cmds hrb) _ _ [] hs hgb hrel (bufIs_init _ _ _) out hc fuel hx
      · cases hg

theorem mem_of_lookup {name : Bytes} {t : Registry.Tmpl} (h : Registry.lookup reg name = some t) : t ∈ reg :=
  List.mem_of_find?_eq_some h

/-- the link between the two prints that the theorems against Spec/Eval take as a hypothesis: on the directive lists
    `ok` accepts, in every autoescape mode, the reference's print (`refPrint`: the Go directive loop over the JSON image,
    the library functions `F`) renders only what Spec/Eval's print (`specPrint`, library semantics `dsem`) renders.
    `print_le_noDirs`: holds for `noDirs` and every `dsem` under `EscapeHtmlIs`; Props/C04g `printLe_dirs`: for the
    directive lists of the generator's table under the hypotheses `DirIs` on the soyutils functions. -/
def PrintLe (ok : List Directive → Bool) (dsem : Option Spec.Eval.LibSem) : Prop :=
  ∀ (ae : Autoescape) (dirs : List Directive) (env : SEnv) (v : Val) (s : Bytes), ok dirs = true →
    refPrint F ae dirs v = .val s → specPrint dsem (ae != .off) env dirs v = .val s

theorem printLe_noDirs (hesc : EscapeHtmlIs F) (dsem : Option Spec.Eval.LibSem) : PrintLe F noDirs dsem :=
  fun ae dirs env v s hd h => print_le_noDirs F ae hesc dsem dirs env v s hd h

/-- on templates whose prints carry directive lists `ok` accepts, the reference's call renders only what
    Spec/Eval.renderTmpl (library semantics `dsem`) renders -/
theorem refCall_le_dirs (hesc : EscapeHtmlIs F) (ok : List Directive → Bool) (dsem : Option Spec.Eval.LibSem)
    (hle : PrintLe F ok dsem) (hasBundle : Bool) (hdirs : ∀ t ∈ reg, dirBlock ok hasBundle t.body = true) :
    ∀ (d : Nat) (name : Bytes) (t : Registry.Tmpl) (ce : Spec.Eval.CallEnv) (out : Bytes), Registry.lookup reg name = some t →
      refCall F reg d t ce = .val out → Spec.Eval.renderTmpl reg hasBundle dsem d t ce = .val out
  | 0, _, _, _, _, _, h => by simp [refCall] at h
  | d + 1, name, t, ce, out, hl, h => by
    simp only [refCall] at h
    rw [Spec.Eval.renderTmpl]
    have hb : refBlock F ⟨reg, ce.entry, refCall F reg d⟩ (tmplAe t) t.body
        { vars := ce.entry, loops := [], ij := ce.ij, globals := ce.globals } = .val out := by
      cases hbody : t.body with
      | mk p cmds => rw [hbody] at h; simpa [refBlock, blockCmds] using h
    exact ref_le_spec_block F (tmplAe t) hesc reg hasBundle ce.entry (refCall F reg d) (Spec.Eval.renderTmpl reg hasBundle dsem d)
      ok dsem (hle (tmplAe t))
      (fun name t ce out hl h => refCall_le_dirs hesc ok dsem hle hasBundle hdirs d name t ce out hl h) t.body _ out
      (hdirs t (mem_of_lookup reg hl)) hb

/-- A whole registry, prints with directives.  `table`: the generated functions (`TableOk`); the prints
    of every template carry directive lists `ok` accepts; relative to `PrintLe F ok dsem` (the two prints agree on these
    lists; Props/C04g derives it from one named hypothesis per soyutils function).  When the generated function `name`,
    called on the JSON image of `data` — its calls served by the table, to depth `d` — returns `r`, then Spec/Eval.render
    with the library semantics `dsem` renders the template `name` on `data` (same depth), and `r` is this text. -/
theorem gen_correct_registry_dirs_partial (hesc : EscapeHtmlIs F) (ok : List Directive → Bool) (dsem : Option Spec.Eval.LibSem)
    (hle : PrintLe F ok dsem) (msgs : Bool) (hdirs : ∀ t ∈ reg, dirBlock ok msgs t.body = true)
    (htab : TableOk reg table) (globals : Spec.Eval.Binds) (ij : Option Spec.Eval.Binds) (name : Bytes)
    (data : Spec.Eval.Binds) (jd : List (Bytes × JVal)) (hj : C04c.toJsKvs data = some jd)
    (jij : Option (List (Bytes × JVal))) (hij : IjRel ij jij) (hgl : GlobRel globals) (d : Nat) (r : JVal)
    (hx : callFn F table fuel d name (.obj jd) jij = .val r) :
    ∃ text, Spec.Eval.render reg globals ij msgs name data d dsem = .val text ∧ r = .str text := by
  obtain ⟨callee, out, hlk, hc, rfl⟩ :=
    (calls_table_correct F reg table fuel htab d data).1 name ⟨data, ij, globals⟩ jd jij r hj hij hgl hx
  refine ⟨out, ?_, rfl⟩
  have hlk' : Registry.lookup reg name = some callee := hlk
  simp only [Spec.Eval.render, hlk']
  exact refCall_le_dirs F reg hesc ok dsem hle msgs hdirs d name callee _ out hlk' hc

/-- The same for templates without print directives (`hplain`) and Spec/Eval.render
    without a library; of `PrintLe` only soy.$$escapeHtml read as `htmlEscape ∘ ToString` is left (`hesc`, a library
    obligation). -/
theorem gen_correct_registry_partial (hesc : EscapeHtmlIs F) (msgs : Bool) (hplain : ∀ t ∈ reg, plainBlock msgs t.body = true)
    (htab : TableOk reg table) (globals : Spec.Eval.Binds) (ij : Option Spec.Eval.Binds) (name : Bytes)
    (data : Spec.Eval.Binds) (jd : List (Bytes × JVal)) (hj : C04c.toJsKvs data = some jd)
    (jij : Option (List (Bytes × JVal))) (hij : IjRel ij jij) (hgl : GlobRel globals) (d : Nat) (r : JVal)
    (hx : callFn F table fuel d name (.obj jd) jij = .val r) :
    ∃ text, Spec.Eval.render reg globals ij msgs name data d = .val text ∧ r = .str text :=
  gen_correct_registry_dirs_partial F reg table fuel hesc noDirs none (printLe_noDirs F hesc none) msgs hplain htab globals ij name data jd
    hj jij hij hgl d r hx

/-- the same for a list of commands met inside a template: `gen_correct_cmds_spec` with the table for the oracle and
    Spec/Eval.renderTmpl for the call, relative to `PrintLe F ok dsem` -/
theorem gen_correct_registry_cmds_dirs_partial (hesc : EscapeHtmlIs F) (ok : List Directive → Bool) (dsem : Option Spec.Eval.LibSem)
    (hle : PrintLe F ok dsem) (hasBundle : Bool)
    (hdirs : ∀ t ∈ reg, dirBlock ok hasBundle t.body = true) (htab : TableOk reg table) (d : Nat) (ae : Autoescape) (buf : Bytes) (entry : Spec.Eval.Binds)
    (cmds : CmdList) (hpl : dirCmds ok hasBundle cmds = true) (sc : Scope) (r : JsStmts × Scope) (h : toCmds ae buf cmds sc = some r)
    (env : SEnv) (jenv jenv' : JEnv) (out : Bytes) (hs : ScOk sc) (hg : GoodBuf sc buf) (hrel : EnvRel entry sc env jenv)
    (hb : BufIs buf jenv out) (fuel' : Nat) (hx : execStmts F (callFn F table fuel d) fuel' r.1 jenv = .ok jenv') :
    ∃ text, Spec.Eval.renderCmds reg hasBundle (ae != .off) entry (Spec.Eval.renderTmpl reg hasBundle dsem d) dsem cmds env = .val text ∧
      BufIs buf jenv' (out ++ text) := by
  obtain ⟨text, ht, hb', _⟩ := cmds_ok F (callFn F table fuel d) ⟨reg, entry, refCall F reg d⟩ ae
    (calls_table_correct F reg table fuel htab d entry).1 cmds buf fuel' sc r env jenv jenv' out h hs hg hrel hb hx
  exact ⟨text, ref_le_spec_cmds F ae hesc reg hasBundle entry (refCall F reg d) (Spec.Eval.renderTmpl reg hasBundle dsem d)
    ok dsem (hle ae)
    (fun name t ce out hl h => refCall_le_dirs F reg hesc ok dsem hle hasBundle hdirs d name t ce out hl h) cmds env text hpl ht, hb'⟩

theorem gen_correct_registry_cmds_partial (hesc : EscapeHtmlIs F) (hasBundle : Bool)
    (hplain : ∀ t ∈ reg, plainBlock hasBundle t.body = true) (htab : TableOk reg table) (d : Nat) (ae : Autoescape) (buf : Bytes) (entry : Spec.Eval.Binds)
    (cmds : CmdList) (hpl : plainCmds hasBundle cmds = true) (sc : Scope) (r : JsStmts × Scope) (h : toCmds ae buf cmds sc = some r)
    (env : SEnv) (jenv jenv' : JEnv) (out : Bytes) (hs : ScOk sc) (hg : GoodBuf sc buf) (hrel : EnvRel entry sc env jenv)
    (hb : BufIs buf jenv out) (fuel' : Nat) (hx : execStmts F (callFn F table fuel d) fuel' r.1 jenv = .ok jenv') :
    ∃ text, Spec.Eval.renderCmds reg hasBundle (ae != .off) entry (Spec.Eval.renderTmpl reg hasBundle none d) none cmds env = .val text ∧
      BufIs buf jenv' (out ++ text) :=
  gen_correct_registry_cmds_dirs_partial F reg table fuel hesc noDirs none (printLe_noDirs F hesc none) hasBundle hplain htab d ae buf entry
    cmds hpl sc r h env jenv jenv' out hs hg hrel hb fuel' hx

/-- The converse for a whole registry, at the level of the reference semantics: where the reference
    renders the template `name` on `data` (calls to depth `d`), the generated function returns this text or leaves
    the common subset (`unspec`); it does not throw -/
theorem gen_complete_registry_partial (htab : TableOk reg table) (name : Bytes) (t : Registry.Tmpl)
    (hlk : Registry.lookup reg name = some t) (ce : Spec.Eval.CallEnv) (jd : List (Bytes × JVal))
    (hj : C04c.toJsKvs ce.entry = some jd) (jij : Option (List (Bytes × JVal))) (hij : IjRel ce.ij jij)
    (hgl : GlobRel ce.globals) (d : Nat) (text : Bytes) (ht : refCall F reg d t ce = .val text) :
    callFn F table fuel d name (.obj jd) jij = .val (.str text) ∨ callFn F table fuel d name (.obj jd) jij = .unspec := by
  obtain ⟨h1, h2⟩ := calls_table_correct F reg table fuel htab d ce.entry
  cases hx : callFn F table fuel d name (.obj jd) jij with
  | val r =>
    obtain ⟨callee, out, hlk', hc, rfl⟩ := h1 name ce jd jij r hj hij hgl hx
    have : callee = t := by
      have e1 : Registry.lookup reg name = some callee := hlk'
      rw [hlk] at e1; exact (Option.some.inj e1).symm
    subst this
    have e2 : refCall F reg d callee ce = .val out := hc
    rw [ht] at e2
    simp only [Out.val.injEq] at e2
    subst e2
    exact Or.inl rfl
  | error => exact absurd ht (h2 name ce jd jij hj hij hgl hx t text hlk)
  | unspec => exact Or.inr rfl

/-- the mirror of `PrintLe`: on the directive lists `ok` accepts, the reference's print renders what Spec/Eval's print
    (library semantics `dsem`) renders.  `printGe_noDirs`: holds for `noDirs` under `EscapeHtmlIs`; Props/C04h
    `printGe_dirsIn`: for the directive lists of the generator's table under the equational obligations `DirEq`. -/
def PrintGe (ok : List Directive → Bool) (dsem : Option Spec.Eval.LibSem) : Prop :=
  ∀ (ae : Autoescape) (dirs : List Directive) (env : SEnv) (v : Val) (s : Bytes), ok dirs = true →
    specPrint dsem (ae != .off) env dirs v = .val s → refPrint F ae dirs v = .val s

theorem printGe_noDirs (hesc : EscapeHtmlIs F) (dsem : Option Spec.Eval.LibSem) : PrintGe F noDirs dsem :=
  fun ae dirs env v s hd h => print_ge_noDirs F ae hesc dsem dirs env v s hd h

/-- … and conversely: the reference's call renders everything Spec/Eval.renderTmpl (library semantics `dsem`) renders,
    on templates whose prints carry directive lists `ok` accepts (`spec_le_ref_block`: the reference's print falls back
    to Spec/Eval's where the JSON image is silent) -/
theorem renderTmpl_le_dirs (hesc : EscapeHtmlIs F) (ok : List Directive → Bool) (dsem : Option Spec.Eval.LibSem)
    (hge : PrintGe F ok dsem) (hasBundle : Bool) (hdirs : ∀ t ∈ reg, dirBlock ok hasBundle t.body = true) :
    ∀ (d : Nat) (name : Bytes) (t : Registry.Tmpl) (ce : Spec.Eval.CallEnv) (out : Bytes), Registry.lookup reg name = some t →
      Spec.Eval.renderTmpl reg hasBundle dsem d t ce = .val out → refCall F reg d t ce = .val out
  | 0, _, _, _, _, _, h => by simp [Spec.Eval.renderTmpl] at h
  | d + 1, name, t, ce, out, hl, h => by
    rw [Spec.Eval.renderTmpl] at h
    simp only [refCall]
    have hb := spec_le_ref_block F (tmplAe t) hesc reg hasBundle ce.entry (refCall F reg d) (Spec.Eval.renderTmpl reg hasBundle dsem d)
      ok dsem (hge (tmplAe t))
      (fun name t ce out hl h => renderTmpl_le_dirs hesc ok dsem hge hasBundle hdirs d name t ce out hl h) t.body _ out
      (hdirs t (mem_of_lookup reg hl)) h
    cases hbody : t.body with
    | mk p cmds => rw [hbody] at hb; simpa [refBlock, blockCmds] using hb

theorem renderTmpl_le (hesc : EscapeHtmlIs F) (hasBundle : Bool) (hplain : ∀ t ∈ reg, plainBlock hasBundle t.body = true) :
    ∀ (d : Nat) (name : Bytes) (t : Registry.Tmpl) (ce : Spec.Eval.CallEnv) (out : Bytes), Registry.lookup reg name = some t →
      Spec.Eval.renderTmpl reg hasBundle none d t ce = .val out → refCall F reg d t ce = .val out :=
  renderTmpl_le_dirs F reg hesc noDirs none (printGe_noDirs F hesc none) hasBundle hplain

/-- where a generated function throws, Spec/Eval (library semantics `dsem`) does not render -/
theorem calls_table_throw_dirs (hesc : EscapeHtmlIs F) (ok : List Directive → Bool) (dsem : Option Spec.Eval.LibSem)
    (hge : PrintGe F ok dsem) (hasBundle : Bool) (hdirs : ∀ t ∈ reg, dirBlock ok hasBundle t.body = true)
    (htab : TableOk reg table) (d : Nat) (e : Spec.Eval.Binds) :
    CallRelE (callFn F table fuel d) ⟨reg, e, Spec.Eval.renderTmpl reg hasBundle dsem d⟩ := by
  intro name ce jd jij hj hij hgl hg callee out hlk hc
  have hlk' : Registry.lookup reg name = some callee := hlk
  exact (calls_table_correct F reg table fuel htab d e).2 name ce jd jij hj hij hgl hg callee out hlk
    (renderTmpl_le_dirs F reg hesc ok dsem hge hasBundle hdirs d name callee ce out hlk' hc)

/-- where a generated function throws, Spec/Eval does not render: `CallRelE` against Spec/Eval.renderTmpl itself -/
theorem calls_table_throw (hesc : EscapeHtmlIs F) (hasBundle : Bool) (hplain : ∀ t ∈ reg, plainBlock hasBundle t.body = true)
    (htab : TableOk reg table) (d : Nat) (e : Spec.Eval.Binds) :
    CallRelE (callFn F table fuel d) ⟨reg, e, Spec.Eval.renderTmpl reg hasBundle none d⟩ :=
  calls_table_throw_dirs F reg table fuel hesc noDirs none (printGe_noDirs F hesc none) hasBundle hplain htab d e

/-- The converse against Spec/Eval.render for a whole registry, prints with directives.  Relative to
    `PrintLe` and `PrintGe` (the two prints agree on the directive lists `ok` accepts): where Spec/Eval.render with the
    library semantics `dsem` renders the template `name` on `data`, the generated function — called on the JSON image of
    the data, its calls served by the table to the same depth — returns exactly this text or leaves the common subset
    (`unspec`); it does NOT throw. -/
theorem gen_complete_registry_spec_dirs_partial (hesc : EscapeHtmlIs F) (ok : List Directive → Bool) (dsem : Option Spec.Eval.LibSem)
    (hle : PrintLe F ok dsem) (hge : PrintGe F ok dsem) (msgs : Bool)
    (hdirs : ∀ t ∈ reg, dirBlock ok msgs t.body = true)
    (htab : TableOk reg table) (globals : Spec.Eval.Binds) (ij : Option Spec.Eval.Binds) (name : Bytes)
    (data : Spec.Eval.Binds) (jd : List (Bytes × JVal)) (hj : C04c.toJsKvs data = some jd)
    (jij : Option (List (Bytes × JVal))) (hij : IjRel ij jij) (hgl : GlobRel globals) (d : Nat)
    (text : Bytes) (ht : Spec.Eval.render reg globals ij msgs name data d dsem = .val text) :
    callFn F table fuel d name (.obj jd) jij = .val (.str text) ∨ callFn F table fuel d name (.obj jd) jij = .unspec := by
  cases hx : callFn F table fuel d name (.obj jd) jij with
  | val r =>
    obtain ⟨text', ht', rfl⟩ :=
      gen_correct_registry_dirs_partial F reg table fuel hesc ok dsem hle msgs hdirs htab globals ij name data jd hj jij hij hgl d r hx
    rw [ht] at ht'
    simp only [Out.val.injEq] at ht'
    subst ht'
    exact Or.inl rfl
  | error =>
    exfalso
    simp only [Spec.Eval.render] at ht
    cases hlk : Registry.lookup reg name with
    | none => simp [hlk] at ht
    | some t =>
      simp only [hlk] at ht
      exact calls_table_throw_dirs F reg table fuel hesc ok dsem hge msgs hdirs htab d data name ⟨data, ij, globals⟩ jd jij hj hij hgl hx
        t text hlk ht
  | unspec => exact Or.inr rfl

/-- The converse against Spec/Eval.render itself for a whole registry.  Same hypotheses as
    `gen_correct_registry_partial` (`TableOk`, no print directives, `EscapeHtmlIs`): where Spec/Eval.render renders the
    template `name` on `data`, the generated function — called on the JSON image of the data, its calls served by the
    table to the same depth — returns exactly this text or leaves the common subset (`unspec`: a print of a list or a
    map, an integer beyond 2^53, the loop bound, a callee that is not in the table or lies deeper than `d`, a library
    function `F` that is silent); it does NOT throw. -/
theorem gen_complete_registry_spec_partial (hesc : EscapeHtmlIs F) (msgs : Bool)
    (hplain : ∀ t ∈ reg, plainBlock msgs t.body = true)
    (htab : TableOk reg table) (globals : Spec.Eval.Binds) (ij : Option Spec.Eval.Binds) (name : Bytes)
    (data : Spec.Eval.Binds) (jd : List (Bytes × JVal)) (hj : C04c.toJsKvs data = some jd)
    (jij : Option (List (Bytes × JVal))) (hij : IjRel ij jij) (hgl : GlobRel globals) (d : Nat)
    (text : Bytes) (ht : Spec.Eval.render reg globals ij msgs name data d = .val text) :
    callFn F table fuel d name (.obj jd) jij = .val (.str text) ∨ callFn F table fuel d name (.obj jd) jij = .unspec :=
  gen_complete_registry_spec_dirs_partial F reg table fuel hesc noDirs none (printLe_noDirs F hesc none) (printGe_noDirs F hesc none) msgs
    hplain htab globals ij name data jd hj jij hij hgl d text ht

/-- STATEMENT LEVEL, the converse with directives (relative to `PrintGe`): a list of commands met inside a template
    of the registry.  Where Spec/Eval.renderCmds (library semantics `dsem`, calls rendered by Spec/Eval.renderTmpl to depth
    `d`) renders the commands to `t`, running the generated statements — calls served by the table of the generated
    functions — COMPLETES with the buffer holding its old content followed by exactly `t`, or leaves the common subset
    (`unspec`); it never throws. -/
theorem gen_complete_registry_cmds_dirs_partial (hesc : EscapeHtmlIs F) (ok : List Directive → Bool) (dsem : Option Spec.Eval.LibSem)
    (hge : PrintGe F ok dsem) (hasBundle : Bool)
    (hdirs : ∀ t ∈ reg, dirBlock ok hasBundle t.body = true) (htab : TableOk reg table) (d : Nat) (ae : Autoescape) (buf : Bytes)
    (entry : Spec.Eval.Binds) (cmds : CmdList) (hpl : dirCmds ok hasBundle cmds = true) (sc : Scope) (r : JsStmts × Scope)
    (h : toCmds ae buf cmds sc = some r) (env : SEnv) (jenv : JEnv) (out : Bytes) (hs : ScOk sc) (hg : GoodBuf sc buf)
    (hrel : EnvRel entry sc env jenv) (hb : BufIs buf jenv out) (t : Bytes)
    (ht : Spec.Eval.renderCmds reg hasBundle (ae != .off) entry (Spec.Eval.renderTmpl reg hasBundle dsem d) dsem cmds env = .val t)
    (fuel' : Nat) :
    (∃ jenv', execStmts F (callFn F table fuel d) fuel' r.1 jenv = .ok jenv' ∧ BufIs buf jenv' (out ++ t)) ∨
      execStmts F (callFn F table fuel d) fuel' r.1 jenv = .unspec := by
  have href : refCmds F ⟨reg, entry, refCall F reg d⟩ ae cmds env = .val t :=
    spec_le_ref_cmds F ae hesc reg hasBundle entry (refCall F reg d) (Spec.Eval.renderTmpl reg hasBundle dsem d) ok dsem (hge ae)
      (fun name t ce out hl h => renderTmpl_le_dirs F reg hesc ok dsem hge hasBundle hdirs d name t ce out hl h) cmds env t hpl ht
  exact gen_complete_cmds_partial F (callFn F table fuel d) ⟨reg, entry, refCall F reg d⟩ ae buf
    (calls_table_correct F reg table fuel htab d entry).1 (calls_table_correct F reg table fuel htab d entry).2
    cmds sc r h env jenv out hs hg hrel hb t href fuel'

end

/-- the registry entries of the template nodes of a file (name, body and autoescape modes; the rest plays no part) -/
def regOfTop (nsAe : Autoescape) : List Cmd → Registry.Reg
  | .soyDoc _ _ :: .template _ name body ae _ :: rest =>
    { (default : Registry.Tmpl) with name := name, body := body, autoescape := ae, nsAutoescape := nsAe } :: regOfTop nsAe rest
  | _ => []

theorem fileScope_facts {sc : Scope} (h : sc.stack = [[]]) :
    ScOk sc.push ∧ (∀ k, sc.push.lookup k = none) ∧ GoodBuf sc.push sOutputVar := by
  have hb : Bounded sc := by
    obtain ⟨st, n⟩ := sc
    cases h
    exact (scOk_fresh n).2
  refine ⟨scOk_push hb, ?_, old_plain _ (by decide), ?_⟩
  · intro k
    simp [Scope.lookup, Scope.push, h, Scope.lookupIn, frameGet?]
  · intro f hf kv hkv
    simp only [Scope.push, h, List.mem_cons, List.not_mem_nil, or_false] at hf
    rcases hf with rfl | rfl <;> cases hkv

theorem tableOk_of_toTop (nsAe : Autoescape) (cmds : List Cmd) (sc : Scope) (r : List JsFunc × Scope)
    (h : toTop nsAe cmds sc = some r) : sc.stack = [[]] → TableOk (regOfTop nsAe cmds) r.1 := by
  refine toTop_induction (motive := fun cmds sc r => sc.stack = [[]] → TableOk (regOfTop nsAe cmds) r.1) ?_ ?_ cmds sc r h
  · intro sc _ name f hf
    simp at hf
  · intro p params p' name body ae' y rest sc rb r2 hrb _ ih hst
    obtain ⟨hs, hlook, hgb⟩ := fileScope_facts hst
    have b2 := (toBody_inv (aeOf ae' nsAe) body sOutputVar sc.push rb hrb hs).tail
    have hst' : rb.2.pop.stack = [[]] := by
      simp only [Scope.pop]; rw [b2]; simp [Scope.push, hst]
    intro name0 f hf
    simp only [List.find?_cons] at hf
    by_cases hn : (name == name0) = true
    · simp only [hn] at hf
      simp only [Option.some.injEq] at hf; subst hf
      refine ⟨{ (default : Registry.Tmpl) with name := name, body := body, autoescape := ae', nsAutoescape := nsAe },
        sc.push, rb, ?_, hs, hlook, hgb, hrb, rfl⟩
      simp [regOfTop, Registry.lookup, hn]
    · have hn' : (name == name0) = false := by simpa using hn
      simp only [hn'] at hf
      obtain ⟨t, sc1, rb1, hlk, rest'⟩ := ih hst' name0 f hf
      refine ⟨t, sc1, rb1, ?_, rest'⟩
      simpa [regOfTop, Registry.lookup, List.find?_cons, hn'] using hlk

/-- the registry entries of the templates of a file, read off the tree as `toFile` reads it (NOT `Registry.add`: no
    header params, no duplicate check) -/
def regOfFile (f : SoyFile) : Registry.Reg :=
  match f.body with
  | .namespace _ _ ae :: rest => regOfTop ae rest
  | _ => []

/-- the functions the generator writes for a file of the fragment (`visitSoyFile_renders`) are a table for its templates -/
theorem tableOk_of_file (f : SoyFile) (r : List JsFunc × Scope) (h : toFile f = some r) : TableOk (regOfFile f) r.1 := by
  unfold toFile at h
  unfold regOfFile
  split at h
  · rename_i p name ae' rest hbody
    rw [hbody]
    exact tableOk_of_toTop ae' rest _ r h rfl
  · cases h

/-- The functions the generator writes for a file of the fragment — `toFile`, by
    `visitSoyFile_renders` the end of the generated text — calling one another: what the function `name` returns on the
    JSON image of `data` is what Spec/Eval.render renders for the template `name` of the file on `data`.  Hypotheses:
    no print directives in the file (`hplain`), soy.$$escapeHtml is `htmlEscape ∘ ToString` (`hesc`). -/
theorem gen_correct_file_partial (F : Bytes → List Expr → JVal → JOut) (fuel : Nat) (hesc : EscapeHtmlIs F) (f : SoyFile)
    (rr : List JsFunc × Scope) (hfile : toFile f = some rr) (msgs : Bool)
    (hplain : ∀ t ∈ regOfFile f, plainBlock msgs t.body = true)
    (globals : Spec.Eval.Binds) (ij : Option Spec.Eval.Binds) (name : Bytes)
    (data : Spec.Eval.Binds) (jd : List (Bytes × JVal)) (hj : C04c.toJsKvs data = some jd)
    (jij : Option (List (Bytes × JVal))) (hij : IjRel ij jij) (hgl : GlobRel globals) (d : Nat) (r : JVal)
    (hx : callFn F rr.1 fuel d name (.obj jd) jij = .val r) :
    ∃ text, Spec.Eval.render (regOfFile f) globals ij msgs name data d = .val text ∧ r = .str text :=
  gen_correct_registry_partial F (regOfFile f) rr.1 fuel hesc msgs hplain (tableOk_of_file f rr hfile) globals ij name data jd hj jij hij hgl d r hx

/-- … and conversely: where Spec/Eval.render renders a template of the file, its generated function returns this text or
    leaves the common subset; it does not throw -/
theorem gen_complete_file_partial (F : Bytes → List Expr → JVal → JOut) (fuel : Nat) (hesc : EscapeHtmlIs F) (f : SoyFile)
    (rr : List JsFunc × Scope) (hfile : toFile f = some rr) (msgs : Bool)
    (hplain : ∀ t ∈ regOfFile f, plainBlock msgs t.body = true)
    (globals : Spec.Eval.Binds) (ij : Option Spec.Eval.Binds) (name : Bytes)
    (data : Spec.Eval.Binds) (jd : List (Bytes × JVal)) (hj : C04c.toJsKvs data = some jd)
    (jij : Option (List (Bytes × JVal))) (hij : IjRel ij jij) (hgl : GlobRel globals) (d : Nat) (text : Bytes)
    (ht : Spec.Eval.render (regOfFile f) globals ij msgs name data d = .val text) :
    callFn F rr.1 fuel d name (.obj jd) jij = .val (.str text) ∨ callFn F rr.1 fuel d name (.obj jd) jij = .unspec :=
  gen_complete_registry_spec_partial F (regOfFile f) rr.1 fuel hesc msgs hplain (tableOk_of_file f rr hfile) globals ij name data jd hj
    jij hij hgl d text ht

end Dev

section Examples
open SoyVerif.Spec.Eval (Val Out)
local instance : Globals := exGlobals
local instance : GlobalsAre ({} : Options) := ⟨rfl⟩


/-- `{namespace sem}` `/** @param a */ {template .t}` (Props/C04d `sampleCall`: a call of `.c` with `data="all"`, a value and a
    content param) `/** @param? p  @param? c  @param? a */ {template .c}{$p}:{$c|noAutoescape}:{$a}{/template}` -/
def sampleFile : SoyFile :=
  { name := b!"sem.soy", text := [], body := [
      .namespace 0 b!"sem" .unspecified,
      .soyDoc 0 [⟨0, b!"a", false⟩],
      .template 0 b!"sem.t" (.mk 0 sampleCall) .unspecified false,
      .soyDoc 0 [⟨0, b!"p", true⟩, ⟨0, b!"c", true⟩, ⟨0, b!"a", true⟩],
      .template 0 b!"sem.c" calleeT.body .unspecified false] }

def sampleFuncsText : Bytes :=
  b!"\nsem.t = function(opt_data, opt_sb, opt_ijData) {\n  var output = '';\n  output += '[';\n  var param$1 = '';\n  param$1 += '\\u003C';\n  param$1 += soy.$$escapeHtml(opt_data.a);\n  param$1 += '\\u003E';\n  output += sem.c(soy.$$augmentMap(opt_data, {p: ((opt_data.a) + (1)), c: param$1}), opt_sb, opt_ijData);\n  output += ']';\n  return output;\n};\n\nsem.c = function(opt_data, opt_sb, opt_ijData) {\n  opt_data = opt_data || {};\n  var output = '';\n  output += soy.$$escapeHtml(opt_data.p);\n  output += ':';\n  output += opt_data.c;\n  output += ':';\n  output += soy.$$escapeHtml(opt_data.a);\n  return output;\n};\n"

-- the functions of the file (the second one has only optional parameters: `opt_data = opt_data || {}`) …
set_option maxRecDepth 16000 in
example : (toFile sampleFile).map (fun r => printPieces (r.1.flatMap (renderFunc false 0))) = some sampleFuncsText := by decide +kernel

-- … are what the generator model writes after the comment lines and the namespace declaration
example : (gen id sampleFile {}).toOption = some
    (b!"// This file was automatically generated from sem.soy.\n// Please don't edit this file by hand.\n\nif (typeof sem == 'undefined') { var sem = {}; }\n" ++ sampleFuncsText) := by decide +kernel

-- the entry function called through the table of the file's functions
set_option maxRecDepth 16000 in
example : (toFile sampleFile).map (fun r => match callFn sampleF r.1 10 3 b!"sem.t" (.obj [(b!"a", .num 5)]) none with
    | .val (.str t) => some t
    | _ => none) = some (some b!"[6:<5>:5]") := by decide +kernel

-- depth 1 is the entry function alone: its call finds depth 0
set_option maxRecDepth 16000 in
example : (toFile sampleFile).map (fun r => match callFn sampleF r.1 10 1 b!"sem.t" (.obj [(b!"a", .num 5)]) none with
    | .unspec => true
    | _ => false) = some true := by decide +kernel

/-- the same file with a callee without print directives: `{$p}:{$c}:{$a}` -/
def plainFile : SoyFile :=
  { sampleFile with body := [
      .namespace 0 b!"sem" .unspecified,
      .soyDoc 0 [⟨0, b!"a", false⟩],
      .template 0 b!"sem.t" (.mk 0 sampleCall) .unspecified false,
      .soyDoc 0 [⟨0, b!"p", true⟩, ⟨0, b!"c", true⟩, ⟨0, b!"a", true⟩],
      .template 0 b!"sem.c" (.mk 0 (.cons (.print 0 (.dataRef 0 b!"p" .nil) []) (.cons (.rawText 0 b!":")
        (.cons (.print 0 (.dataRef 0 b!"c" .nil) []) (.cons (.rawText 0 b!":")
        (.cons (.print 0 (.dataRef 0 b!"a" .nil) []) .nil)))))) .unspecified false] }

theorem plainFile_plain : ∀ t ∈ regOfFile plainFile, plainBlock false t.body = true := by
  have h : (regOfFile plainFile).all (fun t => plainBlock false t.body) = true := by decide +kernel
  exact fun t ht => List.all_eq_true.mp h t ht

-- the generated functions and Spec/Eval.render on the file: the content param is escaped once more by the callee
set_option maxRecDepth 16000 in
example : (toFile plainFile).map (fun r => match callFn sampleF r.1 10 3 b!"sem.t" (.obj [(b!"a", .num 5)]) none with
    | .val (.str t) => some t
    | _ => none) = some (some b!"[6:&lt;5&gt;:5]") := by decide +kernel

set_option maxRecDepth 16000 in
example : (match Spec.Eval.render (regOfFile plainFile) [] none false b!"sem.t" [(b!"a", .int 5)] 3 with
    | .val t => some t
    | _ => none) = some b!"[6:&lt;5&gt;:5]" := by decide +kernel

/-- `gen_complete_file_partial` on it: for every `a` the function returns Spec/Eval's text or is `unspec`, never an error -/
example (a : Int) (ha : SoyVerif.Spec.JsSem.exact a = true) (rr : List JsFunc × Scope) (hfile : toFile plainFile = some rr)
    (text : Bytes) (ht : Spec.Eval.render (regOfFile plainFile) [] none false b!"sem.t" [(b!"a", .int a)] 3 = .val text) :
    callFn sampleF rr.1 10 3 b!"sem.t" (.obj [(b!"a", .num a)]) none = .val (.str text) ∨
      callFn sampleF rr.1 10 3 b!"sem.t" (.obj [(b!"a", .num a)]) none = .unspec :=
  gen_complete_file_partial sampleF 10 sampleF_escape plainFile rr hfile false plainFile_plain [] none b!"sem.t" _ _
    (by simp [C04c.toJsKvs, C04c.toJsV, ha]) none rfl (exGlobRel _) 3 text ht

/-- `gen_correct_file_partial` on it, for every `a` -/
example (a : Int) (ha : SoyVerif.Spec.JsSem.exact a = true) (rr : List JsFunc × Scope) (hfile : toFile plainFile = some rr)
    (r : JVal) (hx : callFn sampleF rr.1 10 3 b!"sem.t" (.obj [(b!"a", .num a)]) none = .val r) :
    ∃ text, Spec.Eval.render (regOfFile plainFile) [] none false b!"sem.t" [(b!"a", .int a)] 3 = .val text ∧ r = .str text :=
  gen_correct_file_partial sampleF 10 sampleF_escape plainFile rr hfile false plainFile_plain [] none b!"sem.t" _ _
    (by simp [C04c.toJsKvs, C04c.toJsV, ha]) none rfl (exGlobRel _) 3 r hx

end Examples

end SoyVerif.Props.C04f
