/-
  C15 (glue): WHICH text and WHICH flags the parser hands to `rawtext`.

  Props/C15 proves `rawtext s tb ta = some (joinLines s tb ta)` for every byte string and both
  flags.  This file ties the arguments, over the file-parser model (Model/FileParser.lean,
  itself tied to parse.go by C05parse) and the lexer model (Model/Lexer.lean, C05lex):

  * `textOrTag_text_spec` — when `textOrTag` is handed a token sequence
    `comments ++ t :: texts ++ nxt :: s` (`comments` Comment tokens, `t` and `texts` Text tokens,
    `nxt` not a Text token), it consumes exactly `comments ++ t :: texts`, leaves `nxt :: s`,
    and the node it builds is
        RawTextNode{ pos := t.pos,
                     value := joinLines (t.val ++ texts' values) (comments ≠ []) (nxt is a Comment) }
    — or no node at all if that value is empty.  Nothing else reaches `rawtext`: the flag
    `trimBefore` is "the token textOrTag was called with is a Comment" (so only a Comment
    IMMEDIATELY before the run counts), `trimAfter` is "the token that ends the run is a Comment".
  * for the source-level specs: the primitives on the stream view of Lemmas/ParserSafe with the frame `Fr`, and the four
    branches of `textOrTag` (`textOrTag_halt`, `_closing`, `_tag`, `_text`), each over the results of the primitives it
    calls, so that it serves every description of the parser state.
  * lexer side (second part): where `lexTextLoop` cuts a text run — `PlainRun`, the five cuts `lexText_cut_*`,
    `textItems` (what `maybeEmitText` sends or drops); evaluated inputs with `//` and `/**/` at the end.
-/
import SoyVerif.Props.C05parse
import SoyVerif.Props.C15
import SoyVerif.Lemmas.LexPrintBase

namespace SoyVerif.Props.C15b
open SoyVerif SoyVerif.Model SoyVerif.Model.Parser SoyVerif.Model.FileParser SoyVerif.Lemmas.ParserSafe
open SoyVerif.Spec

/-- the part of the file-parser state the token-level actions leave alone -/
def Fr (st st' : FState) : Prop := st'.ns = st.ns ∧ st'.aliases = st.aliases ∧ st'.inmsg = st.inmsg

theorem Fr.refl (st : FState) : Fr st st := ⟨rfl, rfl, rfl⟩

theorem Fr.trans {a b c : FState} (h1 : Fr a b) (h2 : Fr b c) : Fr a c :=
  ⟨h2.1.trans h1.1, h2.2.1.trans h1.2.1, h2.2.2.trans h1.2.2⟩

theorem fnext_stream {st : FState} {x : Item} {s : List Item} (hpc : st.p.peekCount ≤ 2) (h : stream st.p = x :: s) :
    ∃ st', FileParser.next st = .ok (x, st') ∧ stream st'.p = s ∧ top st'.p = x ∧
      st'.p.peekCount = st.p.peekCount - 1 ∧ Fr st st' := by
  obtain ⟨p', hn, a, b, c⟩ := stream_next hpc h
  exact ⟨{ st with p := p' }, by simp [FileParser.next, liftP, hn], a, b, c, rfl, rfl, rfl⟩

theorem fbackup_stream {st : FState} (hpc : st.p.peekCount ≤ 1) :
    ∃ st', FileParser.backup st = .ok ((), st') ∧ stream st'.p = top st.p :: stream st.p ∧
      st'.p.peekCount = st.p.peekCount + 1 ∧ Fr st st' := by
  obtain ⟨p', hn, a, b⟩ := stream_backup hpc
  exact ⟨{ st with p := p' }, by simp [FileParser.backup, liftP, hn], a, b, rfl, rfl, rfl⟩

/-- `for token.typ == itemComment { token = t.next() }` runs over the Comment tokens -/
theorem skipComments_spec : ∀ (comments : List Item) (fuel : Nat) (token t : Item) (s : List Item) (st : FState),
    comments.length + 1 ≤ fuel → st.p.peekCount ≤ 1 → top st.p = token →
    token :: stream st.p = comments ++ t :: s → (∀ c ∈ comments, c.typ = .tComment) → t.typ ≠ .tComment →
    ∃ st', skipComments fuel token st = .ok (t, st') ∧ stream st'.p = s ∧ top st'.p = t ∧
      st'.p.peekCount ≤ st.p.peekCount ∧ Fr st st' := by
  intro comments
  induction comments with
  | nil =>
    intro fuel token t s st hf hpc htop hs _ ht
    simp only [List.nil_append, List.cons.injEq] at hs
    obtain ⟨rfl, hs⟩ := hs
    obtain ⟨f, rfl⟩ : ∃ f, fuel = f + 1 := ⟨fuel - 1, by simp at hf; omega⟩
    refine ⟨st, ?_, hs, htop, Nat.le_refl _, Fr.refl st⟩
    unfold skipComments
    have : (token.typ == ItemType.tComment) = false := by simpa using ht
    simp [this, pure, StateT.pure, Except.pure]
  | cons c cs ih =>
    intro fuel token t s st hf hpc htop hs hc ht
    simp only [List.cons_append, List.cons.injEq] at hs
    obtain ⟨rfl, hs⟩ := hs
    obtain ⟨f, rfl⟩ : ∃ f, fuel = f + 1 := ⟨fuel - 1, by simp at hf; omega⟩
    have hty : (token.typ == ItemType.tComment) = true := by simpa using hc token (by simp)
    obtain ⟨x, s1, hx⟩ : ∃ x s1, stream st.p = x :: s1 := by
      cases hst : stream st.p with
      | nil => rw [hst] at hs; cases cs <;> simp at hs
      | cons x s1 => exact ⟨x, s1, rfl⟩
    obtain ⟨st1, hn, hs1, ht1, hp1, hfr1⟩ := fnext_stream (by omega) hx
    obtain ⟨st', hr, a, b, c, hfr2⟩ := ih f x t s st1 (by simp at hf ⊢; omega) (by omega) ht1
      (by rw [hs1, ← hx]; exact hs) (fun c' hc' => hc c' (by simp [hc'])) ht
    refine ⟨st', ?_, a, b, by omega, hfr1.trans hfr2⟩
    unfold skipComments
    simp only [hty, if_true]
    show (FileParser.next >>= fun t => skipComments f t) st = _
    rw [bind_run, hn]
    exact hr

/-- the text-merging loop appends the values of the Text tokens that follow -/
theorem collectText_spec' : ∀ (texts : List Item) (fuel : Nat) (acc : Bytes) (nxt : Item) (s : List Item) (st : FState),
    texts.length + 1 ≤ fuel → st.p.peekCount ≤ 1 → stream st.p = texts ++ nxt :: s →
    (∀ x ∈ texts, x.typ = .tText) → nxt.typ ≠ .tText →
    ∃ st', collectText fuel acc st = .ok ((acc ++ texts.flatMap (·.val), nxt), st') ∧ stream st'.p = s ∧
      top st'.p = nxt ∧ st'.p.peekCount ≤ 1 ∧ Fr st st' := by
  intro texts
  induction texts with
  | nil =>
    intro fuel acc nxt s st hf hpc hs _ hn
    obtain ⟨f, rfl⟩ : ∃ f, fuel = f + 1 := ⟨fuel - 1, by simp at hf; omega⟩
    obtain ⟨st1, hnx, hs1, ht1, hp1, hfr1⟩ := fnext_stream (st := st) (by omega) (by simpa using hs)
    refine ⟨st1, ?_, hs1, ht1, by omega, hfr1⟩
    unfold collectText
    rw [bind_run, hnx]
    have : (nxt.typ != ItemType.tText) = true := by simpa using hn
    simp [this, pure, StateT.pure, Except.pure]
  | cons x xs ih =>
    intro fuel acc nxt s st hf hpc hs hx hn
    obtain ⟨f, rfl⟩ : ∃ f, fuel = f + 1 := ⟨fuel - 1, by simp at hf; omega⟩
    obtain ⟨st1, hnx, hs1, ht1, hp1, hfr1⟩ := fnext_stream (st := st) (by omega) (by simpa using hs)
    obtain ⟨st', hr, a, b, c, hfr2⟩ := ih f (acc ++ x.val) nxt s st1 (by simp at hf ⊢; omega) (by omega) hs1
      (fun y hy => hx y (by simp [hy])) hn
    refine ⟨st', ?_, a, b, c, hfr1.trans hfr2⟩
    unfold collectText
    rw [bind_run, hnx]
    have : (x.typ != ItemType.tText) = false := by simpa using hx x (by simp)
    simp only [this, Bool.false_eq_true, if_false]
    rw [hr]
    simp [List.flatMap_cons, List.append_assoc]

theorem collectText_spec (texts : List Item) (fuel : Nat) (acc : Bytes) (nxt : Item) (s : List Item) (st : FState)
    (hf : texts.length + 1 ≤ fuel) (hpc : st.p.peekCount ≤ 1) (hs : stream st.p = texts ++ nxt :: s)
    (hx : ∀ x ∈ texts, x.typ = .tText) (hn : nxt.typ ≠ .tText) :
    ∃ st', collectText fuel acc st = .ok ((acc ++ texts.flatMap (·.val), nxt), st') ∧ stream st'.p = s ∧
      top st'.p = nxt ∧ st'.p.peekCount ≤ 1 := by
  obtain ⟨st', a, b, c, d, _⟩ := collectText_spec' texts fuel acc nxt s st hf hpc hs hx hn
  exact ⟨st', a, b, c, d⟩

theorem skipComments_id (fuel : Nat) (token : Item) (st : FState) (hc : token.typ ≠ .tComment) :
    skipComments (fuel + 1) token st = .ok (token, st) := by
  unfold skipComments
  have : (token.typ == ItemType.tComment) = false := by simpa using hc
  simp [this, pure, StateT.pure, Except.pure]

/-! ### the four branches of `textOrTag`

  `textOrTag` is handed `tok0`; `skipComments` goes on to the first token `n` that is no Comment.  What follows depends
  on `n` (and on `tok0` only through `seenComment`, in the Text branch).  Each branch is stated over the results of the
  primitives it calls, so that it serves every description of the parser state (`stream`, `Strm`, `At`). -/

section branches
variable (pf : Bytes → Option UInt64) {ef fuel : Nat} {untl : List ItemType} {tok0 n c : Item} {st0 st1 st2 st3 st4 st5 : FState}

/-- `n` is an until token: the list ends, nothing more is read -/
theorem textOrTag_halt (hsk : skipComments fuel tok0 st0 = .ok (n, st1)) (hu : untl.contains n.typ = true) :
    textOrTag pf ef (fuel + 1) tok0 untl st0 = .ok ((none, true), st1) := by
  unfold textOrTag
  simp only
  rw [bind_run, hsk]
  simp only [hu, if_true]
  rfl

/-- `n` is `{` and the command token `c` behind it is an until token (`{/if}`, `{else}` …): the list ends, `c` is consumed -/
theorem textOrTag_closing (hsk : skipComments fuel tok0 st0 = .ok (n, st1)) (hn : n.typ = .tLeftDelim)
    (hu : untl.contains .tLeftDelim = false) (hnx : FileParser.next st1 = .ok (c, st2)) (hc : untl.contains c.typ = true) :
    textOrTag pf ef (fuel + 1) tok0 untl st0 = .ok ((none, true), st2) := by
  unfold textOrTag
  simp only
  rw [bind_run, hsk]
  simp only [hn, hu, Bool.false_eq_true, if_false]
  rw [bind_run, hnx]
  simp only [hc, beq_self_eq_true, Bool.and_self, if_true]
  rfl

/-- `n` is `{` and `c` is no until token: `c` is backed up and `beginTag` reads the command -/
theorem textOrTag_tag {node : Option Node} (hsk : skipComments fuel tok0 st0 = .ok (n, st1)) (hn : n.typ = .tLeftDelim)
    (hu : untl.contains .tLeftDelim = false) (hnx : FileParser.next st1 = .ok (c, st2)) (hc : untl.contains c.typ = false)
    (hb : FileParser.backup st2 = .ok ((), st3)) (hbt : beginTag pf ef fuel st3 = .ok (node, st4)) :
    textOrTag pf ef (fuel + 1) tok0 untl st0 = .ok ((node, false), st4) := by
  unfold textOrTag
  simp only
  rw [bind_run, hsk]
  simp only [hn, hu, Bool.false_eq_true, if_false]
  rw [bind_run, hnx]
  simp only [hc, Bool.and_false, Bool.false_eq_true, if_false]
  rw [bind_run, hb]
  simp only [show (ItemType.tLeftDelim == ItemType.tText) = false by decide, Bool.false_eq_true, if_false,
    beq_self_eq_true, if_true]
  rw [bind_run, hbt]
  rfl

/-- `n` is a Text token: the Text tokens behind it are merged (`collectText`), the token `nxt` that ends the run is backed
    up, and the node is the text normalised with trimBefore = "`tok0` is a Comment", trimAfter = "`nxt` is a Comment" -/
theorem textOrTag_text {text : Bytes} {nxt : Item} (hsk : skipComments fuel tok0 st0 = .ok (n, st1)) (hn : n.typ = .tText)
    (hu : untl.contains .tText = false) (hnx : FileParser.next st1 = .ok (c, st2))
    (hb : FileParser.backup st2 = .ok ((), st3)) (hct : collectText fuel n.val st3 = .ok ((text, nxt), st4))
    (hb2 : FileParser.backup st4 = .ok ((), st5)) :
    textOrTag pf ef (fuel + 1) tok0 untl st0 =
      .ok ((if (joinLines text (tok0.typ == .tComment) (nxt.typ == .tComment)).isEmpty then none
            else some (.rawText n.pos (joinLines text (tok0.typ == .tComment) (nxt.typ == .tComment))), false), st5) := by
  unfold textOrTag
  simp only
  rw [bind_run, hsk]
  simp only [hn, hu, Bool.false_eq_true, if_false]
  rw [bind_run, hnx]
  simp only [show (ItemType.tText == ItemType.tLeftDelim) = false by decide, Bool.false_and, Bool.false_eq_true, if_false]
  rw [bind_run, hb]
  simp only [beq_self_eq_true, if_true]
  rw [bind_run, hct]
  simp only
  rw [bind_run, hb2]
  simp only
  rw [bind_run]
  unfold rawtextP
  rw [C15.rawtext_spec]
  simp only [pure, StateT.pure, Except.pure]
  split <;> rfl

end branches

/-- the RawTextNode of a text run (none if the normalised text is empty) -/
def textNode (comments : List Item) (t : Item) (texts : List Item) (nxt : Item) : Option Node :=
  let v := joinLines (t.val ++ texts.flatMap (·.val)) (!comments.isEmpty) (nxt.typ == .tComment)
  if v.isEmpty then none else some (.rawText t.pos v)

/-- `textOrTag_text_spec` (file header; `token` is the token `itemList` has just read) with the frame `Fr` -/
theorem textOrTag_text_spec' (pf : Bytes → Option UInt64) (ef fuel : Nat) (untl : List ItemType)
    (token : Item) (st : FState) (comments : List Item) (t : Item) (texts : List Item) (nxt : Item) (s : List Item)
    (hpc : st.p.peekCount ≤ 1) (htop : top st.p = token)
    (hs : token :: stream st.p = comments ++ t :: (texts ++ nxt :: s))
    (hc : ∀ c ∈ comments, c.typ = .tComment) (ht : t.typ = .tText) (hts : ∀ x ∈ texts, x.typ = .tText)
    (hn : nxt.typ ≠ .tText) (hu : untl.contains .tText = false)
    (hf : comments.length + texts.length + 2 ≤ fuel) :
    ∃ st', textOrTag pf ef (fuel + 1) token untl st = .ok ((textNode comments t texts nxt, false), st') ∧
      stream st'.p = nxt :: s ∧ st'.p.peekCount ≤ 2 ∧ Fr st st' := by
  -- seenComment: the token handed over is a Comment iff `comments` is not empty
  have hseen : (token.typ == ItemType.tComment) = !comments.isEmpty := by
    cases comments with
    | nil =>
      simp only [List.nil_append, List.cons.injEq] at hs
      rw [hs.1, ht]; rfl
    | cons c cs =>
      simp only [List.cons_append, List.cons.injEq] at hs
      rw [hs.1, hc c (by simp)]; rfl
  obtain ⟨st1, hsk, hs1, ht1, hp1, hfr1⟩ := skipComments_spec comments fuel token t (texts ++ nxt :: s) st (by omega) hpc htop hs hc
    (by rw [ht]; decide)
  obtain ⟨x2, s2, hx2⟩ : ∃ x2 s2, stream st1.p = x2 :: s2 := by
    rw [hs1]; cases texts with
    | nil => exact ⟨_, _, rfl⟩
    | cons y ys => exact ⟨_, _, rfl⟩
  obtain ⟨st2, hn2, hs2, ht2, hp2, hfr2⟩ := fnext_stream (by omega) hx2
  obtain ⟨st3, hb3, hs3, hp3, hfr3⟩ := fbackup_stream (st := st2) (by omega)
  rw [ht2, hs2, ← hx2, hs1] at hs3
  obtain ⟨st4, hct, hs4, ht4, hp4, hfr4⟩ := collectText_spec' texts fuel t.val nxt s st3 (by omega) (by omega) hs3 hts hn
  obtain ⟨st5, hb5, hs5, hp5, hfr5⟩ := fbackup_stream (st := st4) hp4
  rw [ht4, hs4] at hs5
  refine ⟨st5, ?_, hs5, by omega, (((hfr1.trans hfr2).trans hfr3).trans hfr4).trans hfr5⟩
  rw [textOrTag_text pf hsk ht hu hn2 hb3 hct hb5, hseen]
  rfl

theorem textOrTag_text_spec (pf : Bytes → Option UInt64) (ef fuel : Nat) (untl : List ItemType)
    (token : Item) (st : FState) (comments : List Item) (t : Item) (texts : List Item) (nxt : Item) (s : List Item)
    (hpc : st.p.peekCount ≤ 1) (htop : top st.p = token)
    (hs : token :: stream st.p = comments ++ t :: (texts ++ nxt :: s))
    (hc : ∀ c ∈ comments, c.typ = .tComment) (ht : t.typ = .tText) (hts : ∀ x ∈ texts, x.typ = .tText)
    (hn : nxt.typ ≠ .tText) (hu : untl.contains .tText = false)
    (hf : comments.length + texts.length + 2 ≤ fuel) :
    ∃ st', textOrTag pf ef (fuel + 1) token untl st = .ok ((textNode comments t texts nxt, false), st') ∧
      stream st'.p = nxt :: s ∧ st'.p.peekCount ≤ 2 := by
  obtain ⟨st', a, b, c, _⟩ := textOrTag_text_spec' pf ef fuel untl token st comments t texts nxt s hpc htop hs hc ht hts hn hu hf
  exact ⟨st', a, b, c⟩

/-! ## the lexer side: where `lexText` cuts a text run

  `lexTextLoop l lastChar` reads one rune after the other (`lastChar` = the rune read before, `noChar` at
  the start of the run).  A rune that is NOT a cut is consumed, nothing is sent, and the loop goes on with that
  rune as `lastChar`.  Not a cut: anything but `{`, `}`, the end of input and `/`; a `/` unless it is followed
  by `*`, or by a second `/` while the text before it is empty-or-whitespace (`LineStart`).  In particular a
  `//` that follows a non-space character stays in the text — and so does a `//` right after a block comment
  (`a /* c *///b`: there `lastChar = noChar` and the last byte sent is `/`; `lex_slashes_after_comment`).  So the text
  run is cut at the FIRST rune at which one of the cut conditions holds (`lexText_cut_*`: statements about
  `lexTextLoop`, the loop of the state function `lexText`). -/

section lexer
open Lex

theorem next_width (l : Lexer) (w : Int) : ({ l with width := w } : Lexer).next = l.next := by
  unfold Lexer.next
  simp only [Lexer.len]

/-- what `lexTextLoop` does after `/*` (the text before it has been sent), copied from its definition so that
    `lexText_cut_block` can name it: `/**/` is an empty block comment (soy's lexer.go tests for it first), `/**`
    otherwise starts a soydoc comment, anything else a block comment -/
def afterSlashStar (l3 : Lexer) : Res :=
  match l3.next with
  | none => none
  | some (r3, l4) =>
    if r3 = 42 then
      match l4.peek with
      | none => none
      | some (p4, l5) =>
        if p4 = 47 then
          match l5.next with
          | none => none
          | some (_, l6) =>
            match l6.emit .tComment with
            | none => none
            | some l7 => some (some .text, l7)
        else lexSoyDoc l5
    else lexBlockComment l4.backup false

theorem lexTextLoop_some {l l1 : Lexer} {lc r : Int} (hn : l.next = some (r, l1)) :
    lexTextLoop l lc =
      if r = 47 then
        match l1.next with
        | none => none
        | some (r2, l2) =>
          if r2 = 47 then
            let lce : Int := if lc = noChar ∧ l2.lastEmit.val ≠ [] then ((l2.lastEmit.val.getLast?.getD 0).toNat : Int) else lc
            if lce = noChar ∨ isSpaceEOL lce = true then
              match maybeEmitText l2 3 with
              | none => none
              | some l3 => lexLineComment (if lc ≠ noChar then { l3 with start := l3.start + 1 } else l3)
            else lexTextLoop l2.backup r
          else if r2 = 42 then
            match maybeEmitText l2 2 with
            | none => none
            | some l3 =>
              afterSlashStar l3
          else lexTextLoop l2.backup r
      else if r = 123 then
        match maybeEmitText l1.backup 0 with
        | none => none
        | some l2 => some (some .leftDelim, l2)
      else if r = 125 then errorf l1
      else if r = eof then
        match maybeEmitText l1.backup 0 with
        | none => none
        | some l2 =>
          match l2.emit .tEOF with
          | none => none
          | some l3 => some (none, l3)
      else lexTextLoop l1 r := by
  rw [lexTextLoop]
  split
  · rename_i h; rw [hn] at h; exact absurd h (by simp)
  · rename_i r' l1' h
    rw [hn] at h
    simp only [Option.some.injEq, Prod.mk.injEq] at h
    obtain ⟨rfl, rfl⟩ := h
    split
    · rename_i h47
      subst h47
      simp only
      split
      · rename_i h2; simp only [h2]
      · rename_i r2 l2 h2; simp only [h2]; rfl
    · rfl

theorem lexTextLoop_none {l : Lexer} {lc : Int} (hn : l.next = none) : lexTextLoop l lc = none := by
  rw [lexTextLoop]
  split
  · rfl
  · rename_i h; rw [hn] at h; exact absurd h (by simp)

theorem lexTextLoop_width (l : Lexer) (w : Int) (lc : Int) :
    lexTextLoop { l with width := w } lc = lexTextLoop l lc := by
  cases hn : l.next with
  | none => rw [lexTextLoop_none hn, lexTextLoop_none (by rw [next_width]; exact hn)]
  | some x =>
    obtain ⟨r, l1⟩ := x
    rw [lexTextLoop_some hn, lexTextLoop_some (by rw [next_width]; exact hn)]

theorem next_backup {l l' : Lexer} {r : Int} (h : l.next = some (r, l')) :
    l'.backup = { l with width := l'.width } := by
  unfold Lexer.next at h
  split at h
  · simp only [Option.some.injEq, Prod.mk.injEq] at h
    obtain ⟨_, rfl⟩ := h
    simp [Lexer.backup]
  · split at h
    · exact absurd h (by simp)
    · simp only [Option.some.injEq, Prod.mk.injEq] at h
      obtain ⟨_, rfl⟩ := h
      simp [Lexer.backup]

theorem next_lastEmit {l l' : Lexer} {r : Int} (h : l.next = some (r, l')) :
    l'.lastEmit = l.lastEmit ∧ l'.items = l.items ∧ l'.start = l.start ∧ l'.input = l.input := by
  unfold Lexer.next at h
  split at h
  · simp only [Option.some.injEq, Prod.mk.injEq] at h
    obtain ⟨_, rfl⟩ := h
    exact ⟨rfl, rfl, rfl, rfl⟩
  · split at h
    · exact absurd h (by simp)
    · simp only [Option.some.injEq, Prod.mk.injEq] at h
      obtain ⟨_, rfl⟩ := h
      exact ⟨rfl, rfl, rfl, rfl⟩

/-- `//` begins a line comment only here: the text before it is empty — nothing read in this
    run (`lastChar = noChar`) and nothing sent before, or what was sent last ends with whitespace —
    or the character before it is whitespace.  (`lastChar = noChar` with a last item: the byte that
    ended that item decides.) -/
def LineStart (lastChar : Int) (lastEmit : Item) : Prop :=
  (if lastChar = noChar ∧ lastEmit.val ≠ [] then ((lastEmit.val.getLast?.getD 0).toNat : Int) else lastChar) = noChar ∨
  isSpaceEOL (if lastChar = noChar ∧ lastEmit.val ≠ [] then ((lastEmit.val.getLast?.getD 0).toNat : Int) else lastChar) = true

theorem lexTextLoop_plain {l l1 : Lexer} {lc r : Int} (hn : l.next = some (r, l1))
    (h1 : r ≠ 47) (h2 : r ≠ 123) (h3 : r ≠ 125) (h4 : r ≠ eof) :
    lexTextLoop l lc = lexTextLoop l1 r := by
  rw [lexTextLoop_some hn]
  simp only [h1, h2, h3, h4, if_false]

theorem lexTextLoop_slash {l l1 l2 : Lexer} {lc r2 : Int} (hn : l.next = some (47, l1))
    (hn2 : l1.next = some (r2, l2)) (h1 : r2 ≠ 42) (h2 : r2 = 47 → ¬ LineStart lc l.lastEmit) :
    lexTextLoop l lc = lexTextLoop l1 47 := by
  rw [lexTextLoop_some hn]
  simp only [if_true, hn2]
  have hle : l2.lastEmit = l.lastEmit := by rw [(next_lastEmit hn2).1, (next_lastEmit hn).1]
  have hb : lexTextLoop l2.backup 47 = lexTextLoop l1 47 := by rw [next_backup hn2, lexTextLoop_width]
  by_cases h47 : r2 = 47
  · have := h2 h47
    unfold LineStart at this
    simp only [h47, if_true, hle, this, if_false, hb]
  · simp only [h47, h1, if_false, hb]

/-- a run of runes none of which is a cut -/
inductive PlainRun : Lexer → Int → Lexer → Int → Prop where
  | refl (l : Lexer) (lc : Int) : PlainRun l lc l lc
  | plain {l l1 l' : Lexer} {lc r lc' : Int} : l.next = some (r, l1) → r ≠ 47 → r ≠ 123 → r ≠ 125 → r ≠ eof →
      PlainRun l1 r l' lc' → PlainRun l lc l' lc'
  | slash {l l1 l2 l' : Lexer} {lc r2 lc' : Int} : l.next = some (47, l1) → l1.next = some (r2, l2) → r2 ≠ 42 →
      (r2 = 47 → ¬ LineStart lc l.lastEmit) → PlainRun l1 47 l' lc' → PlainRun l lc l' lc'

theorem lexTextLoop_run {l l' : Lexer} {lc lc' : Int} (h : PlainRun l lc l' lc') :
    lexTextLoop l lc = lexTextLoop l' lc' ∧ l'.items = l.items ∧ l'.start = l.start ∧ l'.input = l.input ∧
      l'.lastEmit = l.lastEmit := by
  induction h with
  | refl l lc => exact ⟨rfl, rfl, rfl, rfl, rfl⟩
  | plain hn h1 h2 h3 h4 _ ih =>
    obtain ⟨a, b, c, d⟩ := next_lastEmit hn
    exact ⟨(lexTextLoop_plain hn h1 h2 h3 h4).trans ih.1, ih.2.1.trans b, ih.2.2.1.trans c, ih.2.2.2.1.trans d,
      ih.2.2.2.2.trans a⟩
  | slash hn hn2 h1 h2 _ ih =>
    obtain ⟨a, b, c, d⟩ := next_lastEmit hn
    exact ⟨(lexTextLoop_slash hn hn2 h1 h2).trans ih.1, ih.2.1.trans b, ih.2.2.1.trans c, ih.2.2.2.1.trans d,
      ih.2.2.2.2.trans a⟩

/-- the Text item `maybeEmitText` sends for the pending text `input[start, q)`: none if it is
    empty or consists of whitespace with a line break -/
def textItems (input : Array UInt8) (start q : Int) : List Item :=
  if q > start ∧ allSpaceWithNewline (input.extract start.toNat q.toNat).toList = false then
    [{ typ := .tText, pos := q.toNat, val := (input.extract start.toNat q.toNat).toList }]
  else []

/-- `maybeEmitText(l, k)`: the pending text up to `pos - k` is sent (or skipped); `pos` stays -/
theorem maybeEmitText_items {l : Lexer} {k : Int} (h0 : 0 ≤ l.start) (hp : l.pos - k ≤ l.len) :
    ∃ l', maybeEmitText l k = some l' ∧ l'.items.toList = l.items.toList ++ textItems l.input l.start (l.pos - k) ∧
      l'.pos = l.pos ∧ l'.input = l.input ∧ (l.start < l.pos - k → l'.start = l.pos - k) ∧
      (l.pos - k ≤ l.start → l' = l) := by
  unfold maybeEmitText textItems
  by_cases hgt : l.pos - k > l.start
  · simp only [hgt, if_true, true_and]
    have hp' := hp
    unfold sliceOf
    simp only [Lexer.len] at hp
    rw [if_pos ⟨h0, by omega, hp⟩]
    simp only
    by_cases hsp : allSpaceWithNewline (l.input.extract l.start.toNat (l.pos - k).toNat).toList = true
    · simp only [hsp, if_true, Bool.true_eq_false, if_false, List.append_nil]
      refine ⟨_, rfl, rfl, ?_, rfl, fun _ => ?_, fun h => absurd h (by omega)⟩
      · simp only [Lexer.addPos, Lexer.ignore]; omega
      · simp only [Lexer.addPos, Lexer.ignore]; omega
    · have hsp' : allSpaceWithNewline (l.input.extract l.start.toNat (l.pos - k).toNat).toList = false := by
        simpa using hsp
      simp only [hsp', Bool.false_eq_true, if_false, if_true]
      rw [Lemmas.LexPrint.emit_eq (l.addPos (-k)) .tText _ (by simpa using h0) (by simp only [Lexer.addPos]; omega)
        (by simp only [Lexer.addPos, Lexer.len]; omega) rfl]
      refine ⟨_, rfl, ?_, ?_, rfl, fun _ => ?_, fun h => absurd h (by omega)⟩
      · simp only [Lexer.addPos, Array.toList_push, List.append_cancel_left_eq, List.cons.injEq, and_true]
        have : l.pos + -k = l.pos - k := by omega
        rw [this]
      · simp only [Lexer.addPos]; omega
      · simp only [Lexer.addPos]; omega
  · simp only [hgt, if_false, false_and, List.append_nil]
    exact ⟨l, rfl, rfl, rfl, rfl, fun h => h.elim, fun _ => rfl⟩

theorem PlainRun.pos_le {l l' : Lexer} {lc lc' : Int} (h : PlainRun l lc l' lc') (h0 : 0 ≤ l.pos) :
    l.pos ≤ l'.pos ∧ (l.pos ≤ l.len → l'.pos ≤ l'.len) := by
  induction h with
  | refl => exact ⟨Int.le_refl _, id⟩
  | plain hn _ _ _ _ _ ih =>
    have hf := next_facts hn h0
    have hl := hf.1.1
    have hf := hf.2.2
    unfold NextFacts at hf
    have := ih (by omega)
    exact ⟨by omega, fun _ => this.2 (by omega)⟩
  | slash hn _ _ _ _ ih =>
    have hf := next_facts hn h0
    have hl := hf.1.1
    have hf := hf.2.2
    unfold NextFacts at hf
    have := ih (by omega)
    exact ⟨by omega, fun _ => this.2 (by omega)⟩

/-- CUT at `{`: after a plain run from `l` the next rune is `{` at `q`.  The pending text
    `input[start, q)` is sent as one Text item (`textItems`) and `lexLeftDelim` goes on at `q`. -/
theorem lexText_cut_open {l l' l1 : Lexer} {lc lc' : Int} (hrun : PlainRun l lc l' lc')
    (hn : l'.next = some (123, l1)) (h0 : 0 ≤ l.start) (h1 : l.start ≤ l.pos) :
    ∃ lf, lexTextLoop l lc = some (some .leftDelim, lf) ∧
      lf.items.toList = l.items.toList ++ textItems l.input l.start l'.pos ∧ lf.pos = l'.pos ∧ lf.start = l'.pos ∧
      lf.input = l.input := by
  obtain ⟨he, hi, hs, hin, _⟩ := lexTextLoop_run hrun
  have hple := (hrun.pos_le (by omega)).1
  have hf := (next_facts hn (by omega)).2.2
  unfold NextFacts at hf
  rw [he, lexTextLoop_some hn]
  simp only [show (123 : Int) ≠ 47 by decide, if_false, if_true]
  rw [next_backup hn]
  obtain ⟨lf, hm, hit, hp, hinf, hst, heq⟩ := maybeEmitText_items (l := { l' with width := l1.width }) (k := 0)
    (by show 0 ≤ l'.start; omega) (by show l'.pos - 0 ≤ (l'.input.size : Int); simp only [Lexer.len] at hf; omega)
  rw [hm]
  refine ⟨lf, rfl, ?_, hp, ?_, hinf.trans hin⟩
  · rw [hit]; show l'.items.toList ++ textItems l'.input l'.start (l'.pos - 0) = _
    rw [hi, hin, hs, Int.sub_zero]
  · by_cases hlt : l'.start < l'.pos
    · have := hst (by show l'.start < l'.pos - 0; omega); simpa using this
    · have := heq (by show l'.pos - 0 ≤ l'.start; omega)
      rw [this]; show l'.start = l'.pos; omega

/-- CUT at the end of input: the pending text is sent, then the EOF item; the scan ends. -/
theorem lexText_cut_eof {l l' l1 : Lexer} {lc lc' : Int} (hrun : PlainRun l lc l' lc')
    (hn : l'.next = some (eof, l1)) (h0 : 0 ≤ l.start) (h1 : l.start ≤ l.pos) (h2 : l.pos ≤ l.len) :
    ∃ lf, lexTextLoop l lc = some (none, lf) ∧
      lf.items.toList = l.items.toList ++ textItems l.input l.start l'.pos ++ [⟨.tEOF, l'.pos.toNat, []⟩] := by
  obtain ⟨he, hi, hs, hin, _⟩ := lexTextLoop_run hrun
  have hple := (hrun.pos_le (by omega)).1
  have hplen := (hrun.pos_le (by omega)).2 h2
  simp only [Lexer.len] at hplen
  have hf := (next_facts hn (by omega)).2.2
  unfold NextFacts at hf
  simp only [eof, Lexer.len] at hf
  rw [he, lexTextLoop_some hn]
  simp only [eof, show (-1 : Int) ≠ 47 by decide, show (-1 : Int) ≠ 123 by decide, show (-1 : Int) ≠ 125 by decide,
    if_false, if_true]
  rw [next_backup hn]
  obtain ⟨lm, hm, hit, hp, hinm, hst, heq⟩ := maybeEmitText_items (l := { l' with width := l1.width }) (k := 0)
    (by show 0 ≤ l'.start; omega) (by show l'.pos - 0 ≤ (l'.input.size : Int); omega)
  rw [hm]
  simp only
  have hpm : lm.pos = l'.pos := hp
  have hsm : lm.start = l'.pos := by
    by_cases hlt : l'.start < l'.pos
    · have := hst (by show l'.start < l'.pos - 0; omega); simpa using this
    · have := heq (by show l'.pos - 0 ≤ l'.start; omega)
      rw [this]; show l'.start = l'.pos; omega
  have hinm' : lm.input = l'.input := hinm
  rw [Lemmas.LexPrint.emit_eq lm .tEOF _ (by rw [hsm]; omega) (by rw [hsm, hpm]; exact Int.le_refl _)
    (by simp only [Lexer.len]; rw [hpm, hinm']; have := hf; omega) rfl]
  refine ⟨_, rfl, ?_⟩
  simp only [Array.toList_push, hit, hsm, hpm]
  show l'.items.toList ++ textItems l'.input l'.start (l'.pos - 0) ++ _ = _
  rw [hi, hin, hs, Int.sub_zero]
  congr 2
  simp

/-- CUT at `}`: the pending text is NOT sent; an Error item positioned behind the `}` ends
    the scan ("unexpected closing delimiter"). -/
theorem lexText_cut_close {l l' l1 : Lexer} {lc lc' : Int} (hrun : PlainRun l lc l' lc')
    (hn : l'.next = some (125, l1)) :
    ∃ lf, lexTextLoop l lc = some (none, lf) ∧ lf.items.toList = l.items.toList ++ [⟨.tError, l1.pos.toNat, []⟩] := by
  obtain ⟨he, hi, _, _, _⟩ := lexTextLoop_run hrun
  rw [he, lexTextLoop_some hn]
  simp only [show (125 : Int) ≠ 47 by decide, show (125 : Int) ≠ 123 by decide, if_false, if_true]
  refine ⟨_, rfl, ?_⟩
  simp [(next_lastEmit hn).2.1, hi]

/-- CUT at `/*`: the text before it is sent, then the comment scanners take over from a lexer
    whose pending token starts at the `/*` -/
theorem lexText_cut_block {l l' l1 l2 : Lexer} {lc lc' : Int} (hrun : PlainRun l lc l' lc')
    (hn : l'.next = some (47, l1)) (hn2 : l1.next = some (42, l2)) (h0 : 0 ≤ l.start) (h1 : l.start ≤ l.pos) :
    ∃ l3 : Lexer, l3.items.toList = l.items.toList ++ textItems l.input l.start l'.pos ∧ l3.pos = l2.pos ∧
      l3.input = l.input ∧
      lexTextLoop l lc = afterSlashStar l3 ∧ l3.start = l'.pos := by
  obtain ⟨he, hi, hs, hin, _⟩ := lexTextLoop_run hrun
  have hple := (hrun.pos_le (by omega)).1
  have hf := (next_facts hn (by omega)).2.2
  unfold NextFacts at hf
  have hf2 := (next_facts hn2 (by omega)).2.2
  unfold NextFacts at hf2
  obtain ⟨_, hi1, hs1, hin1⟩ := next_lastEmit hn
  obtain ⟨_, hi2, hs2, hin2⟩ := next_lastEmit hn2
  have hl1 := (next_facts hn (by omega)).1.1
  have hl2 := (next_facts hn2 (by omega)).1.1
  simp only [Lexer.len] at hf hf2 hl1 hl2
  obtain ⟨l3, hm, hit, hp, hinm, hst, heq⟩ := maybeEmitText_items (l := l2) (k := 2) (by omega) (by simp only [Lexer.len]; omega)
  refine ⟨l3, ?_, hp, by rw [hinm, hin2, hin1, hin], ?_, ?_⟩
  · rw [hit, hi2, hi1, hi, hin2, hin1, hin, hs2, hs1, hs]
    congr 2; omega
  · rw [he, lexTextLoop_some hn]
    simp only [if_true, hn2, show (42 : Int) ≠ 47 by decide, if_false, hm]
  · by_cases hlt : l2.start < l2.pos - 2
    · rw [hst hlt]; omega
    · rw [heq (by omega)]; omega

/-- CUT at a line comment: `//` at a `LineStart`.  The text before it — without the
    whitespace character that precedes the `//`, if any was read in this run — is sent, then
    `lexLineComment` scans to the end of the line. -/
theorem lexText_cut_line {l l' l1 l2 : Lexer} {lc lc' : Int} (hrun : PlainRun l lc l' lc')
    (hn : l'.next = some (47, l1)) (hn2 : l1.next = some (47, l2)) (hls : LineStart lc' l.lastEmit)
    (h0 : 0 ≤ l.start) (h1 : l.start ≤ l.pos) :
    ∃ l3 : Lexer, l3.items.toList = l.items.toList ++ textItems l.input l.start (l'.pos - 1) ∧ l3.pos = l2.pos ∧
      lexTextLoop l lc = lexLineComment (if lc' ≠ noChar then { l3 with start := l3.start + 1 } else l3) := by
  obtain ⟨he, hi, hs, hin, hle⟩ := lexTextLoop_run hrun
  have hple := (hrun.pos_le (by omega)).1
  have hf := (next_facts hn (by omega)).2.2
  unfold NextFacts at hf
  have hf2 := (next_facts hn2 (by omega)).2.2
  unfold NextFacts at hf2
  obtain ⟨hle1, hi1, hs1, hin1⟩ := next_lastEmit hn
  obtain ⟨hle2, hi2, hs2, hin2⟩ := next_lastEmit hn2
  have hl1 := (next_facts hn (by omega)).1.1
  have hl2 := (next_facts hn2 (by omega)).1.1
  simp only [Lexer.len] at hf hf2 hl1 hl2
  obtain ⟨l3, hm, hit, hp, _, _, _⟩ := maybeEmitText_items (l := l2) (k := 3) (by omega) (by simp only [Lexer.len]; omega)
  refine ⟨l3, ?_, hp, ?_⟩
  · rw [hit, hi2, hi1, hi, hin2, hin1, hin, hs2, hs1, hs]
    congr 2; omega
  · rw [he, lexTextLoop_some hn]
    unfold LineStart at hls
    rw [← hle, ← hle1, ← hle2] at hls
    simp only [if_true, hn2, hls, hm]

/-- an ASCII byte is the rune `next` delivers, one byte wide (so on ASCII text the runes of
    `PlainRun` and the cut conditions are simply the bytes) -/
theorem next_ascii {l : Lexer} (h0 : 0 ≤ l.pos) (h1 : l.pos < l.len) (hb : byteAt l.input l.pos.toNat < 128) :
    l.next = some ((byteAt l.input l.pos.toNat : Int), { l with width := 1, pos := l.pos + 1 }) := by
  unfold Lexer.next
  rw [if_neg (by omega), if_neg (by omega)]
  have : decodeRune l.input l.pos.toNat = (byteAt l.input l.pos.toNat, 1) := by
    unfold decodeRune
    simp only [hb, if_true]
  simp only [this]
  rfl

theorem next_eof {l : Lexer} (h1 : l.len ≤ l.pos) : l.next = some (eof, { l with width := 0 }) := by
  unfold Lexer.next
  rw [if_pos (by omega)]

theorem byteAt_append_left (pre post : Bytes) (i : Nat) (h : i < pre.length) :
    byteAt (pre ++ post).toArray i = (pre[i]).toNat := by
  unfold byteAt
  simp [Array.getD_eq_getD_getElem?, List.getElem?_append_left h, List.getElem?_eq_getElem h]

/-! ### what `maybeEmitText` drops

  A pending text that is "all whitespace with a line break" is not sent.  The test is `isSpaceEOL` on every rune
  (lexer.go, /repo dbf6196) — space, tab, CR, LF, exactly `Spec.isWs`, the whitespace of the line-joining rule — so no
  character that line joining would keep is ever dropped by the lexer (`unicode.IsSpace` would drop a no-break space,
  a form feed, U+2028 … with a line break between two tags). -/

theorem isSpaceEOL_cases {r : Int} (h : Lex.isSpaceEOL r = true) : r = 32 ∨ r = 9 ∨ r = 13 ∨ r = 10 := by
  simp only [Lex.isSpaceEOL, Lex.isSpace, Lex.isEndOfLine, Bool.or_eq_true, beq_iff_eq] at h
  omega

theorem allSpaceLoop_bytes : ∀ (n : Nat) (a : Array UInt8) (i : Nat) (sn : Bool), a.size - i = n →
    allSpaceLoop a i sn = true →
    ∀ j, i ≤ j → j < a.size → byteAt a j = 32 ∨ byteAt a j = 9 ∨ byteAt a j = 13 ∨ byteAt a j = 10 := by
  intro n
  induction n using Nat.strongRecOn with
  | _ n ih =>
    intro a i sn hn h j hij hj
    rw [allSpaceLoop] at h
    have hi : i < a.size := by omega
    simp only [hi, dite_true] at h
    split at h
    · exact absurd h (by simp)
    · rename_i hsp
      have hsp' : Lex.isSpaceEOL ((decodeRune a i).1 : Int) = true := by simpa using hsp
      have hc := isSpaceEOL_cases hsp'
      have hsmall : (decodeRune a i).1 < 128 := by omega
      have hb := decodeRune_small a i hsmall
      have hw : (decodeRune a i).2 = 1 := by
        rcases decodeRune_ascii a i with h1 | h1
        · exact h1
        · omega
      by_cases hji : j = i
      · subst hji; omega
      · rw [hw] at h
        exact ih (a.size - (i + 1)) (by omega) a (i + 1) _ rfl h j (by omega) hj

/-- a text run the lexer drops consists of the whitespace bytes of the line-joining rule only -/
theorem dropped_run_is_whitespace (s : Bytes) (h : allSpaceWithNewline s = true) :
    ∀ b ∈ s, Spec.isWs b = true := by
  intro b hb
  obtain ⟨j, hj, rfl⟩ := List.getElem_of_mem hb
  have := allSpaceLoop_bytes _ s.toArray 0 false rfl h j (Nat.zero_le _) (by simpa using hj)
  have e : byteAt s.toArray j = (s[j]).toNat := by
    have := byteAt_append_left s [] j hj
    simpa using this
  rw [e] at this
  simp only [Spec.isWs, Bool.or_eq_true, beq_iff_eq]
  rcases this with h | h | h | h
  · exact Or.inl (Or.inl (Or.inl (UInt8.toNat_inj.mp h)))
  · exact Or.inl (Or.inl (Or.inr (UInt8.toNat_inj.mp h)))
  · exact Or.inl (Or.inr (UInt8.toNat_inj.mp h))
  · exact Or.inr (UInt8.toNat_inj.mp h)

/-- in terms of `textItems`: when a non-empty pending text yields no Text item, all its bytes
    are `isWs` -/
theorem textItems_nil_whitespace (input : Array UInt8) (start q : Int) (hq : q > start)
    (h : textItems input start q = []) :
    ∀ b ∈ (input.extract start.toNat q.toNat).toList, Spec.isWs b = true := by
  unfold textItems at h
  by_cases hs : allSpaceWithNewline (input.extract start.toNat q.toNat).toList = true
  · exact dropped_run_is_whitespace _ hs
  · have hs' : allSpaceWithNewline (input.extract start.toNat q.toNat).toList = false := by simpa using hs
    rw [if_pos ⟨hq, hs'⟩] at h
    exact absurd h (by simp)

/-- `a /* c *///b`: the `//` right after the block comment is NOT a line comment — `//b` is text -/
theorem lex_slashes_after_comment :
    lexAll [97, 32, 47, 42, 32, 99, 32, 42, 47, 47, 47, 98] false =
      .items [⟨.tText, 2, [97, 32]⟩, ⟨.tComment, 9, [47, 42, 32, 99, 32, 42, 47]⟩,
        ⟨.tText, 12, [47, 47, 98]⟩, ⟨.tEOF, 12, []⟩] := by
  simp [lexAll, Lex.fuelFor, run, step, lexText, lexTextLoop, lexBlockComment, Lexer.next, initLexer, Lexer.len,
    decodeRune, byteAt, maybeEmitText, Lexer.backup, eof, noChar, Lexer.emit, sliceOf, Lexer.addPos, allSpaceWithNewline,
    allSpaceLoop, Lex.isSpaceEOL, Lex.isSpace, Lex.isEndOfLine]

/-- `a/**/b`: `/**/` is an empty block comment, not the beginning of a soydoc comment (lexer.go, /repo 73e5662) -/
theorem lex_empty_block_comment :
    lexAll [97, 47, 42, 42, 47, 98] false =
      .items [⟨.tText, 1, [97]⟩, ⟨.tComment, 5, [47, 42, 42, 47]⟩, ⟨.tText, 6, [98]⟩, ⟨.tEOF, 6, []⟩] := by
  simp [lexAll, Lex.fuelFor, run, step, lexText, lexTextLoop, Lexer.next, Lexer.peek, initLexer, Lexer.len,
    decodeRune, byteAt, maybeEmitText, Lexer.backup, eof, noChar, Lexer.emit, sliceOf, Lexer.addPos, allSpaceWithNewline,
    allSpaceLoop, Lex.isSpaceEOL, Lex.isSpace, Lex.isEndOfLine]

/-- `a //b`: whitespace before `//` — a line comment; the Text item is `a` without the space -/
theorem lex_line_comment_after_space :
    lexAll [97, 32, 47, 47, 98] false =
      .items [⟨.tText, 1, [97]⟩, ⟨.tComment, 5, [47, 47, 98]⟩, ⟨.tEOF, 5, []⟩] := by
  simp [lexAll, Lex.fuelFor, run, step, lexText, lexTextLoop, lexLineComment, scanWhile, Lexer.next, initLexer, Lexer.len,
    decodeRune, byteAt, maybeEmitText, Lexer.backup, eof, noChar, Lexer.emit, sliceOf, Lexer.addPos, allSpaceWithNewline,
    allSpaceLoop, Lex.isSpaceEOL, Lex.isSpace, Lex.isEndOfLine]

/-- `a//b`: no whitespace before `//` — it stays in the text -/
theorem lex_slashes_in_text :
    lexAll [97, 47, 47, 98] false = .items [⟨.tText, 4, [97, 47, 47, 98]⟩, ⟨.tEOF, 4, []⟩] := by
  simp [lexAll, Lex.fuelFor, run, step, lexText, lexTextLoop, Lexer.next, initLexer, Lexer.len,
    decodeRune, byteAt, maybeEmitText, Lexer.backup, eof, noChar, Lexer.emit, sliceOf, Lexer.addPos, allSpaceWithNewline,
    allSpaceLoop, Lex.isSpaceEOL, Lex.isSpace, Lex.isEndOfLine]

/-- `a\x00//b`: a NUL before `//` is a character like any other — the text goes on ("nothing read yet" is `noChar`,
    not 0: lexer.go, /repo 67d6dd1) -/
theorem lex_nul_before_slashes :
    lexAll [97, 0, 47, 47, 98] false = .items [⟨.tText, 5, [97, 0, 47, 47, 98]⟩, ⟨.tEOF, 5, []⟩] := by
  simp [lexAll, Lex.fuelFor, run, step, lexText, lexTextLoop, Lexer.next, initLexer, Lexer.len,
    decodeRune, byteAt, maybeEmitText, Lexer.backup, eof, noChar, Lexer.emit, sliceOf, Lexer.addPos, allSpaceWithNewline,
    allSpaceLoop, Lex.isSpaceEOL, Lex.isSpace, Lex.isEndOfLine]

end lexer

/-- parser side: a Comment token, the Text token ` a⏎ b` and a tag.  The comment immediately
    before the run makes `trimBefore` true: the leading space is dropped, the line break and the
    indentation are joined away — the node is `RawText "a b"` at the Text token's position -/
example : textNode [⟨.tComment, 7, [47, 42, 120, 42, 47]⟩] ⟨.tText, 13, [32, 97, 10, 32, 98]⟩ [] ⟨.tLeftDelim, 14, [123]⟩ =
    some (.rawText 13 [97, 32, 98]) := by rfl

/-- … while without the comment the leading space stays -/
example : textNode [] ⟨.tText, 13, [32, 97, 10, 32, 98]⟩ [] ⟨.tLeftDelim, 14, [123]⟩ =
    some (.rawText 13 [32, 97, 32, 98]) := by rfl

/-- the hypotheses of `textOrTag_text_spec` are satisfiable: `/*x*/ a⏎ b{` seen by `itemList` -/
example : ∃ st', textOrTag (fun _ => none) 0 (5 + 1) ⟨.tComment, 7, [47, 42, 120, 42, 47]⟩ [.tEOF]
      { p := { rest := [⟨.tText, 13, [32, 97, 10, 32, 98]⟩, ⟨.tLeftDelim, 14, [123]⟩, ⟨.tEOF, 14, []⟩],
               tok0 := ⟨.tComment, 7, [47, 42, 120, 42, 47]⟩, tok1 := Item.zero, peekCount := 0 } } =
      .ok ((some (.rawText 13 [97, 32, 98]), false), st') ∧
      stream st'.p = [⟨.tLeftDelim, 14, [123]⟩, ⟨.tEOF, 14, []⟩] ∧ st'.p.peekCount ≤ 2 :=
  textOrTag_text_spec (fun _ => none) 0 5 [.tEOF] _ _ [⟨.tComment, 7, [47, 42, 120, 42, 47]⟩]
    ⟨.tText, 13, [32, 97, 10, 32, 98]⟩ [] ⟨.tLeftDelim, 14, [123]⟩ [⟨.tEOF, 14, []⟩]
    (by decide) rfl rfl (by decide) rfl (by decide) (by decide) rfl (by decide)


/-- the until-token ends the list: nothing is consumed -/
theorem textOrTag_until (pf : Bytes → Option UInt64) (ef fuel : Nat) (untl : List ItemType) (token : Item) (st : FState)
    (hc : token.typ ≠ .tComment) (hu : untl.contains token.typ = true) :
    textOrTag pf ef (fuel + 2) token untl st = .ok ((none, true), st) :=
  textOrTag_halt pf (skipComments_id fuel token st hc) hu

end SoyVerif.Props.C15b
