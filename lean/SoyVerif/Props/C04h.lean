/-
  C04 — the converse WITH directives (`gen_complete_…_goLib`).

  `printGe_dirs`: under the EQUATIONAL form of the library obligations (`DirEq`: the soyutils function computes what the
  Go directive computes, value for value, and fails where it fails), for a SCALAR value that has a JSON image, where
  Spec/Eval's print with the Go library (`specPrint (some goLib)`) renders a text, the reference's print (`refPrint`,
  Props/C04dInv) renders the same text.  This is the mirror of Props/C04g `printLe_dirsIn`.

  The lifting (`gen_complete_registry_goLib_partial`, `gen_complete_file_goLib_partial`): on a value WITHOUT a JSON image
  (a float, an integer beyond 2^53) Spec/Eval with the Go library renders a text while the JSON reading of the print is
  silent; `refPrint` is Spec/Eval's print with the Go library where `refPrintJs` is `unspec` (the theorems about the
  generated statements look at the `val` / `error` answers of `refPrintJs` only).  So `PrintGe` holds (`printGe_dirsIn`),
  `spec_le_ref_*` of Props/C04dLed lift it through the commands (the reference renders what Spec/Eval renders), and
  `calls_table_correct` (a generated function that throws ⇒ the reference does not render) gives the converse: it
  returns the text or is `unspec`; it does not throw.
-/
import SoyVerif.Props.C04g

namespace SoyVerif.Props.C04h
open SoyVerif SoyVerif.Model SoyVerif.Model.JsGen SoyVerif.Spec.JsSemRef SoyVerif.Spec.JsStmt
open SoyVerif.Props.C04c (toJsV Globals)
open SoyVerif.Props.C04d SoyVerif.Props.C04f SoyVerif.Props.C04g
open SoyVerif.Spec.Eval (Val Out)
open SoyVerif.Refine (absV absL Scalar)
open SoyVerif.Model.Eval (applyDirective)
open SoyVerif.Props.C02Spec (modelDirSem concV scalarV)

/-- LIBRARY OBLIGATION, equational form (not proved here): on the JSON image of a defined scalar value (through
    `dirInput`) and literal arguments, the soyutils function of the directive `name` returns the JSON image of what
    the Go directive returns, and fails where the Go directive fails.  (On defined scalars it gives what `C04g.DirIs`
    asks; `DirIs` also says the function returns no value outside them.) -/
def DirEq (F : Bytes → List Expr → JVal → JOut) (name : Bytes) : Prop :=
  ∀ (e : Gen.DirectiveEntry), Directives.lookup Gen.directiveTable name = some e →
  ∀ (args : List Expr) (lits : List Val) (v : Val) (jv x : JVal),
    litVals args = some lits → scalarV v = true → Spec.Eval.isUndef v = false → toJsV v = some jv →
    dirInput e jv = some x →
    F name args x = match applyDirective e.impl (concV v) (lits.map concV) with
      | some gv => (match toJsV (absV gv) with | some r => .val r | none => .unspec)
      | none => .error

theorem applyDirective_shape (impl : Bytes) (mv : Value) (args : List Value) (r : Value)
    (ha : applyDirective impl mv args = some r) : r = mv ∨ ∃ s, r = .str s := by
  unfold applyDirective at ha
  repeat' split at ha
  all_goals (try simp at ha)
  all_goals (try split at ha)
  all_goals (try simp at ha)
  all_goals first
    | exact Or.inl ha.symm
    | exact Or.inl ha.2.symm
    | exact Or.inr ⟨_, ha.symm⟩
    | (obtain ⟨j, _, hj⟩ := ha; exact Or.inr ⟨_, hj.symm⟩)

section
variable [Globals]
variable (F : Bytes → List Expr → JVal → JOut) (hesc : EscapeHtmlIs F)
include hesc

/-- the mirror of `C04g.goRun_sim`: where Spec/Eval's loop over the Go library ends on a value, the reference's loop
    ends on its JSON image, with the same flag -/
theorem runDirs_sim (names : List Bytes) (hdir : ∀ name ∈ names, DirEq F name) (env : SEnv) :
    ∀ (ds : List Directive) (v : Val) (jv : JVal) (esc : Bool) (vr : Val) (esc' : Bool),
      dirsOkIn names ds = true → scalarV v = true → Spec.Eval.isUndef v = false → toJsV v = some jv →
      Spec.Eval.runDirs (some (modelDirSem Gen.directiveTable)) env ds v esc = .val (vr, esc') →
      ∃ jr, C04b.goRun (liftF F) Gen.directiveTable ds (.val jv) esc = some (.val jr, esc') ∧ toJsV vr = some jr ∧
        scalarV vr = true ∧ Spec.Eval.isUndef vr = false
  | [], v, jv, esc, vr, esc', _, hsc, hu, hj, h => by
    simp only [Spec.Eval.runDirs, Out.val.injEq, Prod.mk.injEq] at h
    obtain ⟨rfl, rfl⟩ := h
    exact ⟨jv, rfl, hj, hsc, hu⟩
  | d :: ds, v, jv, esc, vr, esc', hok, hsc, hu, hj, h => by
    obtain ⟨e, lits, hl, hD, har, hlits, hlsc, hname, hrest⟩ := dirsOkIn_cons hok
    rw [runDirs_cons env ds hD har hlits hlsc hsc] at h
    cases hgv : applyDirective e.impl (concV v) (lits.map concV) with
    | none => simp [hgv] at h
    | some gv =>
      simp only [hgv] at h
      -- the value goes on: itself, or a string
      have hsame := absV_concV v jv hsc hj
      obtain ⟨r, hr, hsc', hu'⟩ : ∃ r, toJsV (absV gv) = some r ∧ scalarV (absV gv) = true ∧ Spec.Eval.isUndef (absV gv) = false := by
        rcases applyDirective_shape e.impl (concV v) (lits.map concV) gv hgv with rfl | ⟨s, rfl⟩
        · rw [hsame]; exact ⟨jv, hj, hsc, hu⟩
        · exact ⟨.str s, rfl, rfl, rfl⟩
      obtain ⟨jr, hrun, hjr, hsr, hur⟩ := runDirs_sim names hdir env ds (absV gv) r _ vr esc' hrest hsc' hu' hr h
      refine ⟨jr, ?_, hjr, hsr, hur⟩
      simp only [C04b.goRun, hl]
      have hap : C04b.goApply (liftF F) e d (.val jv) = .val r := by
        by_cases hno : (e.impl == Directives.sDirectiveNoAutoescape) = true
        · have hgv' : applyDirective e.impl (concV v) (lits.map concV) = some (concV v) := by
            simp [applyDirective, hno]
          rw [hgv] at hgv'
          simp only [Option.some.injEq] at hgv'
          subst hgv'
          rw [hsame, hj] at hr
          simp only [Option.some.injEq] at hr
          subst hr
          simp [C04b.goApply, hno]
        · have hin : names.contains d.name = true := hname.resolve_left hno
          obtain ⟨s0, hs0⟩ := toStr_of_image v jv hsc hu hj
          obtain ⟨x, hx⟩ : ∃ x, dirInput e jv = some x := by
            unfold dirInput
            split
            · exact ⟨_, by rw [hs0]; rfl⟩
            · exact ⟨_, rfl⟩
          rw [goApply_val F hesc d hno hx, hdir d.name (by simpa using hin) e hl d.args lits v jv x hlits hsc hu hj hx, hgv]
          simp only [hr]
      rw [hap]
      exact hrun

theorem printGe_dirs (names : List Bytes) (hdir : ∀ name ∈ names, DirEq F name) (ae : Autoescape) (dirs : List Directive)
    (env : SEnv) (v : Val) (jv : JVal) (s : Bytes) (hok : dirsOkIn names dirs = true)
    (hsc : scalarV v = true) (hj : toJsV v = some jv)
    (h : specPrint (some goLib) (ae != .off) env dirs v = .val s) : refPrint F ae dirs v = .val s := by
  unfold specPrint at h
  rw [dirsOf_goLib] at h
  simp only [Option.isNone_some, Bool.and_false, Bool.false_eq_true, if_false] at h
  split at h
  · cases h
  · rename_i hu
    have hu' : Spec.Eval.isUndef v = false := by simpa using hu
    obtain ⟨r, hr, h⟩ := out_bind_val h
    obtain ⟨s0, hs0, h⟩ := out_bind_val h
    simp only [Out.val.injEq] at h
    obtain ⟨vr, esc'⟩ := r
    obtain ⟨jr, hrun, hjr, hsr, hur⟩ := runDirs_sim F hesc names hdir env dirs v jv _ vr esc' hok hsc hu' hj hr
    obtain ⟨s1, hs1⟩ := toStr_of_image vr jr hsr hur hjr
    have hshow := C04c.showVal_toStr vr jr s1 hjr hs1
    simp only at hs0
    rw [hshow] at hs0
    simp only [Out.val.injEq] at hs0
    subst hs0
    have hjs : refPrintJs F ae dirs v = .val s := by
      unfold refPrintJs
      simp only [hj, C04b.goPrint, hrun, Option.map_some]
      cases esc' with
      | false =>
        simp only [Bool.false_eq_true, if_false] at h ⊢
        simp [hs1, h]
      | true =>
        simp only [if_true] at h ⊢
        simp only [liftF, JOut.bind, hesc jr, hs1]
        simp [toStr?, h]
    unfold refPrint
    rw [hjs]


/-- by cases on the value: with a JSON image, `printGe_dirs`; without one (a float, an integer beyond 2^53) the reference's
    print IS Spec/Eval's with the Go library; a list or a map Spec/Eval with directives does not render -/
theorem printGe_dirsIn (names : List Bytes) (hdir : ∀ name ∈ names, DirEq F name) : PrintGe F (dirsOkIn names) (some goLib) := by
  intro ae dirs env v s hok h
  by_cases hnil : dirs = []
  · subst hnil
    exact print_ge_noDirs F ae hesc (some goLib) [] env v s rfl h
  · have hne : dirs.isEmpty = false := by cases dirs <;> simp_all
    cases hj : toJsV v with
    | none =>
      have hjs : refPrintJs F ae dirs v = .unspec := by simp [refPrintJs, hj]
      simp only [refPrint, hjs, hne, Bool.false_eq_true, if_false]
      show specPrint (some goLib) (ae != .off) env0 dirs v = .val s
      rw [← specPrint_env names env env0 (ae != .off) dirs v hok]
      exact h
    | some jv =>
      by_cases hsc : scalarV v = true
      · exact printGe_dirs F hesc names hdir ae dirs env v jv s hok hsc hj h
      · -- a list or a map: the Go library is not read on it
        exfalso
        cases dirs with
        | nil => exact hnil rfl
        | cons d ds =>
          obtain ⟨e, lits, _, hDl, har, hlits, _, _, _⟩ := dirsOkIn_cons hok
          have happ : (modelDirSem Gen.directiveTable).apply e.impl v lits = .unspec := by
            simp [modelDirSem, hsc]
          unfold specPrint at h
          rw [dirsOf_goLib] at h
          simp only [Option.isNone_some, Bool.and_false, Bool.false_eq_true, if_false] at h
          split at h
          · cases h
          · rw [Spec.Eval.runDirs] at h
            simp [hDl, har, evalAll_lits env d.args lits hlits, happ, Spec.Eval.Out.bind] at h

omit hesc

/-- the equational obligations about soyutils.js, one per directive function (the `DirIs` fields of `C04g.SoyutilsIs` in
    equational form; soy.$$escapeHtml as the autoescaper stays with `SoyutilsIs.escapeHtml`) -/
structure SoyutilsEq (F : Bytes → List Expr → JVal → JOut) : Prop where
  escapeHtmlDir : DirEq F b!"escapeHtml"
  changeNewlineToBr : DirEq F b!"changeNewlineToBr"
  escapeJsString : DirEq F b!"escapeJsString"
  escapeUri : DirEq F b!"escapeUri"
  insertWordBreaks : DirEq F b!"insertWordBreaks"
  json : DirEq F b!"json"
  truncate : DirEq F b!"truncate"

theorem SoyutilsEq.all {F : Bytes → List Expr → JVal → JOut} (h : SoyutilsEq F) : ∀ name ∈ libNames, DirEq F name := by
  intro name hn
  simp only [libNames, List.mem_cons, List.mem_nil_iff, or_false] at hn
  rcases hn with rfl | rfl | rfl | rfl | rfl | rfl | rfl
  · exact h.changeNewlineToBr
  · exact h.escapeHtmlDir
  · exact h.escapeJsString
  · exact h.escapeUri
  · exact h.insertWordBreaks
  · exact h.json
  · exact h.truncate

/-- The converse for a whole registry with directives `names`.  IF soy.$$escapeHtml is read as `EscapeHtmlIs`
    says and each soyutils function of `names` computes what the Go directive computes (`DirIs` and the equational `DirEq`)
    THEN where Spec/Eval.render WITH THE GO LIBRARY renders the template `name` on `data`, the generated function — called
    on the JSON image of the data, its calls served by the table of the generated functions to the same depth — returns
    exactly this text or leaves the common subset (`unspec`: a float, an integer beyond 2^53, a print of a list or a map,
    the loop bound, a callee missing from the table or deeper than `d`); it does NOT throw.  With `names = []` (`|id`,
    `|noAutoescape` only) `EscapeHtmlIs` alone is left — satisfied by `C04g.escF` (`escF_escape`); no library is exhibited
    that satisfies `DirEq` for a non-empty `names`. -/
theorem gen_complete_registry_goLib_in_partial (hesc : EscapeHtmlIs F) (names : List Bytes)
    (his : ∀ name ∈ names, DirIs F name) (heq : ∀ name ∈ names, DirEq F name) (reg : Registry.Reg) (table : List JsFunc)
    (fuel : Nat) (msgs : Bool) (hdirs : ∀ t ∈ reg, dirBlock (dirsOkIn names) msgs t.body = true)
    (htab : TableOk reg table) (globals : Spec.Eval.Binds) (ij : Option Spec.Eval.Binds) (name : Bytes)
    (data : Spec.Eval.Binds) (jd : List (Bytes × JVal)) (hj : C04c.toJsKvs data = some jd)
    (jij : Option (List (Bytes × JVal))) (hij : C04c.IjRel ij jij) (hgl : C04c.GlobRel globals) (d : Nat)
    (text : Bytes) (ht : Spec.Eval.render reg globals ij msgs name data d (some goLib) = .val text) :
    callFn F table fuel d name (.obj jd) jij = .val (.str text) ∨ callFn F table fuel d name (.obj jd) jij = .unspec :=
  gen_complete_registry_spec_dirs_partial F reg table fuel hesc (dirsOkIn names) (some goLib) (printLe_dirsIn F hesc names his)
    (printGe_dirsIn F hesc names heq) msgs hdirs htab globals ij name data jd hj jij hij hgl d text ht

/-- … for ARBITRARY lists of the directives both backends implement, under `SoyutilsIs F` and `SoyutilsEq F` -/
theorem gen_complete_registry_goLib_partial (hlib : SoyutilsIs F) (heq : SoyutilsEq F) (reg : Registry.Reg) (table : List JsFunc)
    (fuel : Nat) (msgs : Bool) (hdirs : ∀ t ∈ reg, dirBlock dirsOk msgs t.body = true)
    (htab : TableOk reg table) (globals : Spec.Eval.Binds) (ij : Option Spec.Eval.Binds) (name : Bytes)
    (data : Spec.Eval.Binds) (jd : List (Bytes × JVal)) (hj : C04c.toJsKvs data = some jd)
    (jij : Option (List (Bytes × JVal))) (hij : C04c.IjRel ij jij) (hgl : C04c.GlobRel globals) (d : Nat)
    (text : Bytes) (ht : Spec.Eval.render reg globals ij msgs name data d (some goLib) = .val text) :
    callFn F table fuel d name (.obj jd) jij = .val (.str text) ∨ callFn F table fuel d name (.obj jd) jij = .unspec :=
  gen_complete_registry_goLib_in_partial F hlib.escapeHtml libNames hlib.all heq.all reg table fuel msgs hdirs htab globals ij name data
    jd hj jij hij hgl d text ht

example : EscapeHtmlIs escF ∧ (∀ name ∈ ([] : List Bytes), DirIs escF name) ∧ (∀ name ∈ ([] : List Bytes), DirEq escF name) :=
  ⟨escF_escape, fun _ h => (by cases h), fun _ h => (by cases h)⟩

/-- STATEMENT LEVEL (C04, the converse WITH directives): a list of commands met inside a template of the registry
    (generator scope `sc`, output variable `buf`), prints with arbitrary lists of the directives both backends implement,
    under `SoyutilsIs F` and `SoyutilsEq F`.  Where Spec/Eval.renderCmds WITH THE GO LIBRARY renders the commands to `t`,
    running the generated statements — calls served by the table of the generated functions — COMPLETES with the buffer
    holding its old content followed by exactly `t`, or leaves the common subset (`unspec`); it never throws.  (Of `hlib`
    only the field `escapeHtml` is used: at statement level the converse needs no `DirIs`.) -/
theorem gen_complete_cmds_goLib_partial (hlib : SoyutilsIs F) (heq : SoyutilsEq F) (reg : Registry.Reg) (table : List JsFunc)
    (fuel : Nat) (hasBundle : Bool) (hdirs : ∀ t ∈ reg, dirBlock dirsOk hasBundle t.body = true) (htab : TableOk reg table)
    (d : Nat) (ae : Autoescape) (buf : Bytes) (entry : Spec.Eval.Binds) (cmds : CmdList)
    (hpl : dirCmds dirsOk hasBundle cmds = true) (sc : Scope) (r : JsStmts × Scope) (h : toCmds ae buf cmds sc = some r)
    (env : SEnv) (jenv : JEnv) (out : Bytes) (hs : ScOk sc) (hg : GoodBuf sc buf) (hrel : C04c.EnvRel entry sc env jenv)
    (hb : BufIs buf jenv out) (t : Bytes)
    (ht : Spec.Eval.renderCmds reg hasBundle (ae != .off) entry (Spec.Eval.renderTmpl reg hasBundle (some goLib) d) (some goLib)
      cmds env = .val t) (fuel' : Nat) :
    (∃ jenv', execStmts F (callFn F table fuel d) fuel' r.1 jenv = .ok jenv' ∧ BufIs buf jenv' (out ++ t)) ∨
      execStmts F (callFn F table fuel d) fuel' r.1 jenv = .unspec :=
  gen_complete_registry_cmds_dirs_partial F reg table fuel hlib.escapeHtml dirsOk (some goLib)
    (printGe_dirsIn F hlib.escapeHtml libNames heq.all) hasBundle hdirs htab d ae buf entry cmds hpl sc r h env jenv out hs hg hrel hb t ht
    fuel'

/-- the same, read as "no TypeError where Spec/Eval with the Go library renders" -/
theorem gen_no_throw_cmds_goLib_partial (hlib : SoyutilsIs F) (heq : SoyutilsEq F) (reg : Registry.Reg) (table : List JsFunc)
    (fuel : Nat) (hasBundle : Bool) (hdirs : ∀ t ∈ reg, dirBlock dirsOk hasBundle t.body = true) (htab : TableOk reg table)
    (d : Nat) (ae : Autoescape) (buf : Bytes) (entry : Spec.Eval.Binds) (cmds : CmdList)
    (hpl : dirCmds dirsOk hasBundle cmds = true) (sc : Scope) (r : JsStmts × Scope) (h : toCmds ae buf cmds sc = some r)
    (env : SEnv) (jenv : JEnv) (out : Bytes) (hs : ScOk sc) (hg : GoodBuf sc buf) (hrel : C04c.EnvRel entry sc env jenv)
    (hb : BufIs buf jenv out) (t : Bytes)
    (ht : Spec.Eval.renderCmds reg hasBundle (ae != .off) entry (Spec.Eval.renderTmpl reg hasBundle (some goLib) d) (some goLib)
      cmds env = .val t) (fuel' : Nat) :
    execStmts F (callFn F table fuel d) fuel' r.1 jenv ≠ .error := by
  intro hx
  rcases gen_complete_cmds_goLib_partial F hlib heq reg table fuel hasBundle hdirs htab d ae buf entry cmds hpl sc r h env jenv out hs hg
    hrel hb t ht fuel' with ⟨_, h1, _⟩ | h1 <;> rw [hx] at h1 <;> cases h1

/-- … and for the functions the generator writes for a file of the fragment (`toFile`) -/
theorem gen_complete_file_goLib_partial (hlib : SoyutilsIs F) (heq : SoyutilsEq F) (fuel : Nat) (f : SoyFile)
    (rr : List JsFunc × Scope) (hfile : toFile f = some rr) (msgs : Bool)
    (hdirs : ∀ t ∈ regOfFile f, dirBlock dirsOk msgs t.body = true)
    (globals : Spec.Eval.Binds) (ij : Option Spec.Eval.Binds) (name : Bytes)
    (data : Spec.Eval.Binds) (jd : List (Bytes × JVal)) (hj : C04c.toJsKvs data = some jd)
    (jij : Option (List (Bytes × JVal))) (hij : C04c.IjRel ij jij) (hgl : C04c.GlobRel globals) (d : Nat) (text : Bytes)
    (ht : Spec.Eval.render (regOfFile f) globals ij msgs name data d (some goLib) = .val text) :
    callFn F rr.1 fuel d name (.obj jd) jij = .val (.str text) ∨ callFn F rr.1 fuel d name (.obj jd) jij = .unspec :=
  gen_complete_registry_goLib_partial F hlib heq (regOfFile f) rr.1 fuel msgs hdirs (tableOk_of_file f rr hfile) globals ij name data jd
    hj jij hij hgl d text ht

end

end SoyVerif.Props.C04h
