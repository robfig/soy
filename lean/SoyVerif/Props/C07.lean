/-
  C07 — the checker accepts exactly the bundles satisfying the data-reference rules.

  `Spec.Valid` (Spec/Valid.lean) states the rules R1–R6 and R_loopfn declaratively, with lexical
  environments and an existential notion of "used".  `Check.check` (Model/Check.lean) is the
  model of parsepasses.CheckDataRefs, tied to the code by the C07 correspondence.

  Route: `framed_block` (Lemmas/CheckWalk.lean) characterises the state-passing walk over a
  template body by the pure data of the specification (well-scopedness + the list of resolved
  free reference occurrences); `checkOne` then only has to look at the params.
-/
import SoyVerif.Lemmas.CheckWalk
import SoyVerif.Model.Registry

namespace SoyVerif.Props.C07
open SoyVerif SoyVerif.Model SoyVerif.Model.Check SoyVerif.Spec SoyVerif.Lemmas.Check

/-- one template: the walk over its body, started in the empty state (`framed_block`), succeeds iff the body is
    well-scoped, and then `usedKeys` holds exactly the params among its free reference occurrences -/
theorem checkOne_iff_validTemplate (reg : List Check.Template) (t : Check.Template) :
    checkOne reg t = true ↔ ValidTemplate reg t := by
  have hF := (framed_block (reg := reg) (params := t.params.map (·.name)) t.body).inScope
    { vars := [], usedKeys := [] }
  simp only [envOf, List.map_nil] at hF
  unfold checkOne ValidTemplate ParamUsed
  simp only [exec] at hF
  cases hrun : (inScope (checkBlock reg (t.params.map (·.name)) t.body)).run { vars := [], usedKeys := [] } with
  | none =>
    simp only [hrun, Option.map_none, reduceCtorEq, false_iff] at hF
    have hno : ¬ OkBlock reg (t.params.map (·.name)) [] t.body := by
      intro hok
      exact hF _ ⟨hok, rfl⟩
    simp only [hrun, hno, false_and, reduceCtorEq]
  | some r =>
    obtain ⟨u, st⟩ := r
    have h := (hF st).mp (by simp [hrun])
    obtain ⟨hok, hst⟩ := h
    subst hst
    simp only [hrun, hok, true_and, List.all_eq_true, after, List.nil_append, List.contains_iff_mem, mem_keysOf]

/-- the checker decides the data-reference rules -/
theorem check_iff_valid (reg : List Check.Template) : check reg = true ↔ Valid reg := by
  simp only [check, Valid, List.all_eq_true, checkOne_iff_validTemplate]

/-- a bundle the checker accepts satisfies every rule R1–R6 and R_loopfn -/
theorem check_sound (reg : List Check.Template) : check reg = true → Valid reg :=
  (check_iff_valid reg).mp

/-- a bundle satisfying the rules R1–R6 and R_loopfn is accepted -/
theorem check_complete (reg : List Check.Template) : Valid reg → check reg = true :=
  (check_iff_valid reg).mpr

/-- R1 on its own — the safety half the renderer relies on: in an accepted bundle every reference
    occurrence `$k` is bound in ITS lexical environment (by `$ij`, a let/loop variable in scope there,
    or a declared param) -/
theorem check_sound_refs (reg : List Check.Template) (h : check reg = true) :
    ∀ t ∈ reg, AllRefsBound t := by
  intro t ht o ho
  exact okBlock_occs t.body [] ((check_sound reg h) t ht).1 o ho

/-- a bundle violating some rule is rejected -/
theorem check_rejects (reg : List Check.Template) : ¬ Valid reg → check reg = false := by
  intro h
  cases hc : check reg with
  | false => rfl
  | true => exact absurd (check_sound reg hc) h

/-- the relation `Resolves` is functional: a reference denotes at most one thing -/
theorem resolves_unique {params : List Bytes} {env : Env} {k : Bytes} {t t' : Target}
    (h : Resolves params env k t) (h' : Resolves params env k t') : t = t' := by
  have h1 := resolve_eq_some_iff.mpr h
  have h2 := resolve_eq_some_iff.mpr h'
  rw [h1] at h2
  exact Option.some.inj h2

/-- `Spec.resolve` computes the relation `Resolves` -/
theorem resolve_spec {params : List Bytes} {env : Env} {k : Bytes} {t : Target} :
    resolve params env k = some t ↔ Resolves params env k t := resolve_eq_some_iff

/-- the free reference occurrences of a command lie below the height of its environment (with the way `refsCmds`
    threads the environment: a let's own value, and whatever precedes the let, never refers to it) -/
theorem refs_below_env (reg : List Check.Template) (params : List Bytes) (env : Env) (c : Cmd) :
    ∀ t ∈ refsCmd reg params env c, t.below env.length = true := refsCmd_below c env

/-- the remaining rule of the property ("not both soydoc and header params") is enforced one step earlier, when
    the registry is built: `addTemplates`, the template loop of `Registry.Add`, fails at a template whose body
    begins with a header param when the node before it is a soydoc with at least one param -/
theorem soydoc_and_header_params_rejected (fileName text ns : Bytes) (nsAe ae : Autoescape)
    (pos bpos dpos hpos tpos : Nat) (name hname typ : Bytes) (opt priv : Bool) (dflt : Option Expr)
    (sp : SoyDocParam) (sps : List SoyDocParam) (body : CmdList) (rest : List Cmd) (reg : Registry.Reg) :
    Registry.addTemplates fileName text ns nsAe
      (.template pos name (.mk bpos (.cons (.headerParam hpos opt hname tpos typ dflt) body)) ae priv :: rest)
      (some (.soyDoc dpos (sp :: sps))) reg = none := by
  simp [Registry.addTemplates, Registry.splitHeaderParams]

/-! ### examples: the specification is satisfiable, and every rule bites

  Bundle (two templates; `$x` is shadowed by a let whose value still sees the param, a loop
  with a nested shadowing let, a `data="all"` call that passes `w` on, a `data="$x"` call that
  need not pass the required params):

    {template a}  @param x  @param? y  @param w
      {let $x: $x /}{$x}
      {foreach $i in $y}{$i}{let $x: $i /}{$x}{ifempty}…{/foreach}
      {call b data="all"}{param z: $x /}{/call}
      {call b data="$x" /}
    {template b}  @param w  @param z  @param? y
      {$w}{$z}{if $y}{$ij}{/if}
-/
namespace Examples

def ref (k : Bytes) : Expr := .dataRef 0 k .nil
def pr (e : Expr) : Cmd := .print 0 e []
def blk (cs : List Cmd) : Block := .mk 0 (CmdList.ofList cs)
def x : Bytes := [120]
def y : Bytes := [121]
def z : Bytes := [122]
def w : Bytes := [119]
def i : Bytes := [105]
def q : Bytes := [113]
def v : Bytes := [118]
def ij : Bytes := [105, 106]

def tB (extraParams : List Param := []) : Check.Template :=
  { name := [98]
    params := [⟨w, false⟩, ⟨z, false⟩, ⟨y, true⟩] ++ extraParams
    body := blk [pr (ref w), pr (ref z), .ifc 0 (.cons 0 (some (ref y)) (blk [pr (ref ij)]) .nil)] }

def bodyA : List Cmd :=
  [ .letValue 0 x (ref x),
    pr (ref x),
    .forc 0 i (ref y) (blk [pr (ref i), .letValue 0 x (ref i), pr (ref x)]) (some (blk [.rawText 0 []])),
    .call 0 [98] true none (.value 0 z (ref x) .nil),
    .call 0 [98] false (some (ref x)) .nil ]

def tA (extra : List Cmd := []) : Check.Template :=
  { name := [97]
    params := [⟨x, false⟩, ⟨y, true⟩, ⟨w, false⟩]
    body := blk (bodyA ++ extra) }

def good : List Check.Template := [tA, tB]

theorem KeysBound_iff (params : List Bytes) (env : Env) (ks : List Bytes) :
    KeysBound params env ks ↔ ∀ k ∈ ks, (resolve params env k).isSome := by
  simp [KeysBound, resolve_isSome_iff]

/-- the bundle satisfies the rules — shown from the definitions of the specification alone -/
example : Valid good := by
  simp [Valid, good, ValidTemplate, ParamUsed, tA, tB, bodyA, blk, pr, ref, CmdList.ofList, OkBlock, OkCmds, OkCmd,
    OkConds, OkParams, ExprsOk, LoopsOk, exprLoops, accessLoops, dirsLoops, optLoops,
    KeysBound_iff, exprKeys, accessKeys, dirsKeys, optKeys, decl, LetUsed, LetNameOk,
    refsCmds, refsCmd, refsBlock, refsConds, refsParams, refsKeys, resolve, lastIndex, ijName, x, y, z, w, i, ij,
    CallOk, callee, passedByAll, callKeys, Target.below]

/-- … and is accepted -/
example : check good = true := by decide +kernel

/-- the shadowing let resolves to the let, not to the param: in `{let $x: $x/}{$x}` the second
    `$x` denotes level 0, the first one the param -/
example : refsCmds good ([x, y, w]) [] (CmdList.ofList [.letValue 0 x (ref x), pr (ref x)])
    = [Target.param x, Target.var 0] := by decide +kernel

/-- R1: an undeclared name -/
example : check [tA [pr (ref q)], tB] = false := by decide +kernel
/-- R1: the loop variable after its loop -/
example : check [tA [pr (ref i)], tB] = false := by decide +kernel
/-- R1: use before the definition (the later use keeps the let used) -/
example : check [tA [pr (ref v), .letValue 0 v (.int 0 1), pr (ref v)], tB] = false := by decide +kernel
/-- R1: use after the block of the let has ended -/
example : check [tA [.ifc 0 (.cons 0 none (blk [.letValue 0 v (.int 0 1), pr (ref v)]) .nil), pr (ref v)], tB]
    = false := by decide +kernel
/-- … whereas inside the block it is fine -/
example : check [tA [.ifc 0 (.cons 0 none (blk [.letValue 0 v (.int 0 1), pr (ref v)]) .nil)], tB]
    = true := by decide +kernel
/-- R1: the loop variable in the loop's own list expression -/
example : check [tA [.forc 0 v (ref v) (blk [pr (ref v)]) none], tB] = false := by decide +kernel
/-- R1: a let in its own content -/
example : check [tA [.letContent 0 v (blk [pr (ref v)]), pr (ref v)], tB] = false := by decide +kernel
/-- R2: an unused (optional, so that no call is affected) param -/
example : check [tA, tB [⟨q, true⟩]] = false := by decide +kernel
/-- R2: a param that is only shadowed: `{let $x: 1/}{$x}` does not use the param `x` -/
example : check [{ name := [99], params := [⟨x, false⟩], body := blk [.letValue 0 x (.int 0 1), pr (ref x)] }]
    = false := by decide +kernel
/-- R3: an unused let -/
example : check [tA [.letValue 0 v (.int 0 1)], tB] = false := by decide +kernel
/-- R3: a let that is only shadowed, `{let $v: 1/}{let $v: 2/}{$v}` -/
example : check [tA [.letValue 0 v (.int 0 1), .letValue 0 v (.int 0 2), pr (ref v)], tB] = false := by
  decide +kernel
/-- R4: a let called `ij` -/
example : check [tA [.letValue 0 ij (.int 0 1), pr (ref ij)], tB] = false := by decide +kernel
/-- R5: an unknown callee -/
example : check [tA [.call 0 [100] false none .nil], tB] = false := by decide +kernel
/-- R5: a param the callee does not declare -/
example : check [tA [.call 0 [98] true none (.value 0 z (ref x) (.value 0 q (ref x) .nil))], tB] = false := by
  decide +kernel
/-- R5: a required param is missing (`w` is not passed without `data="all"`) -/
example : check [tA [.call 0 [98] false none (.value 0 z (ref x) .nil)], tB] = false := by decide +kernel
/-- R6: a `{@param}` that is not at the head of the body -/
example : check [tA [.headerParam 0 false q 0 [] none], tB] = false := by decide +kernel

/-! R_loopfn: `index` / `isFirst` / `isLast` speak about an enclosing loop (/repo e0343b6). -/

def fn (name : Bytes) (args : List Expr) : Expr := .func 0 name (ExprList.ofList args)
def isFirstN : Bytes := [105, 115, 70, 105, 114, 115, 116]
def indexN : Bytes := [105, 110, 100, 101, 120]
def isLastN : Bytes := [105, 115, 76, 97, 115, 116]
def tL (body : List Cmd) : Check.Template := { name := [99], params := [⟨x, false⟩], body := blk body }

/-- in the body of the loop, also under a let that shadows the loop variable, all three are fine -/
example : check [tL [.forc 0 i (ref x) (blk [pr (fn isFirstN [ref i]), .letValue 0 i (.int 0 1),
    pr (fn indexN [ref i]), pr (fn isLastN [ref i])]) none]] = true := by decide +kernel
/-- … and from the specification alone -/
example : ValidTemplate [] (tL [.forc 0 i (ref x) (blk [pr (fn isFirstN [ref i])]) none]) := by
  simp [ValidTemplate, ParamUsed, tL, blk, pr, ref, fn, isFirstN, CmdList.ofList, ExprList.ofList, OkBlock, OkCmds,
    OkCmd, ExprsOk, LoopsOk, LoopArgOk, exprLoops, exprsLoops, accessLoops, dirsLoops, Check.loopFn, Check.loopArg,
    KeysBound_iff, exprKeys, exprsKeys, accessKeys, dirsKeys, decl, refsCmds, refsCmd, refsBlock, refsKeys,
    resolve, lastIndex, ijName, x, i, Target.below]
/-- applied to a param: rejected -/
example : check [tL [pr (fn isFirstN [ref x])]] = false := by decide +kernel
example : ¬ ValidTemplate [] (tL [pr (fn isFirstN [ref x])]) := by
  simp [ValidTemplate, tL, blk, pr, ref, fn, isFirstN, CmdList.ofList, ExprList.ofList, OkBlock, OkCmds,
    OkCmd, ExprsOk, LoopsOk, LoopArgOk, exprLoops, exprsLoops, accessLoops, dirsLoops, Check.loopFn, Check.loopArg]
/-- applied to a let: rejected -/
example : check [tL [.letValue 0 v (ref x), pr (fn indexN [ref v])]] = false := by decide +kernel
/-- a let called like a loop variable, after that loop -/
example : check [tL [.forc 0 i (ref x) (blk [pr (ref i)]) none, .letValue 0 i (ref x), pr (fn indexN [ref i])]]
    = false := by decide +kernel
/-- an access on the loop variable, no argument, two arguments, a string -/
example : check [tL [.forc 0 i (ref x) (blk [pr (fn isLastN [.dataRef 0 i (.cons (.key 0 false y) .nil)])]) none]]
    = false := by decide +kernel
example : check [tL [.forc 0 i (ref x) (blk [pr (ref i), pr (fn isLastN [])]) none]] = false := by decide +kernel
example : check [tL [.forc 0 i (ref x) (blk [pr (fn isLastN [ref i, ref i])]) none]] = false := by decide +kernel
example : check [tL [.forc 0 i (ref x) (blk [pr (ref i), pr (fn isLastN [.str 0 i i])]) none]] = false := by
  decide +kernel
/-- the loop's own list expression and its `ifempty` are outside the loop -/
example : check [tL [.forc 0 i (.tern 0 (fn isFirstN [ref i]) (ref x) (ref x)) (blk [pr (ref i)]) none]] = false := by
  decide +kernel
example : check [tL [.forc 0 i (ref x) (blk [pr (ref i)]) (some (blk [pr (fn isFirstN [ref i])]))]] = false := by
  decide +kernel
/-- other functions are not concerned -/
example : check [tL [pr (fn [108, 101, 110, 103, 116, 104] [ref x])]] = true := by decide +kernel

/-! Edge cases of the rules, as soy's compiler decides them:
    `$ij` never denotes a variable or a param. -/

/-- a param called `ij` cannot be used by `{$ij}`: rejected as unused (R2) -/
example : check [{ name := [99], params := [⟨ij, false⟩], body := blk [pr (ref ij)] }] = false := by
  decide +kernel
/-- a LOOP variable may be called `ij` (R4 is about lets only); `{$ij}` in the body is still the injected data -/
example : check [{ name := [99], params := [⟨x, false⟩], body := blk [.forc 0 ij (ref x) (blk [pr (ref ij)]) none] }]
    = true := by decide +kernel
example : refsCmd [] [x] [] (.forc 0 ij (ref x) (blk [pr (ref ij)]) none) = [Target.param x, Target.ij] := by
  decide +kernel
/-- inside `{msg}` every child is a placeholder node of its own, so a let there has an empty scope:
    `{msg …}{let $v: 1/}{$v}{/msg}` is rejected (unused let), while a let BEFORE the msg is visible in it -/
example : check [{ name := [99], params := [], body := blk [.msg 0 0 [] [] 0
    (.ph 0 [] (.cmd (.letValue 0 v (.int 0 1))) (.ph 0 [] (.cmd (pr (ref v))) .nil))] }] = false := by
  decide +kernel
example : check [{ name := [99], params := [], body := blk [.letValue 0 v (.int 0 1), .msg 0 0 [] [] 0
    (.ph 0 [] (.cmd (pr (ref v))) .nil)] }] = true := by
  decide +kernel

/-- a rejected bundle violates the specification (by `check_complete`) -/
example : ¬ Valid [tA [.letValue 0 v (.int 0 1)], tB] :=
  fun h => absurd (check_complete _ h) (by decide +kernel)

end Examples

end SoyVerif.Props.C07
