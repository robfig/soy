/-
  C02 — Commands, variable scoping and calls behave as the language defines.

  Scoping theorems about the interpreter model (Model/Eval.lean), for every tree, every state and every
  call-depth fuel (`runTmpl g fuel` is the callee runner; all theorems hold for any runner that is
  itself `GoodRun`): blocks and loops restore the scope (`let_scoped`, `content_block_scoped`, `loop_var_scoped`,
  `block_cmd_scoped`), a call returns text only (`caller_env_unchanged_by_call`), and the callee's scope holds no
  frame of the caller above its entry frame (`callee_env_*`).  The refinement to Spec.render is Props/C02Spec.lean.

  Bodies containing a {template} tag are outside the model (Model/Eval.lean header): `execCmd` answers
  `error` there, the theorems hold vacuously.
-/
import SoyVerif.Lemmas.EvalGood

namespace SoyVerif.Props.C02
open SoyVerif SoyVerif.Model SoyVerif.Model.Eval

def ScopeOk (ctx : Scope) (st : St) : Prop := ∀ f ∈ ctx, f.ref < st.heap.length

theorem ScopeOk.init {st : St} {c0 c1 : Cell} (h : st.heap = [c0, c1]) : ScopeOk [⟨1, false⟩, ⟨0, true⟩] st := by
  intro f hf
  rw [h]
  simp at hf
  rcases hf with rfl | rfl <;> simp

theorem heapGet_ext {st st' : St} (e : Ext (fun _ => False) st st') (i : Nat) (hi : i < st.heap.length) :
    heapGet st'.heap i = heapGet st.heap i := by
  have hc : st.heap[i]? = some st.heap[i] := List.getElem?_eq_getElem hi
  obtain ⟨c', h1, _, h3⟩ := e.keep i _ hc
  simp only [heapGet, h1, hc]
  exact h3 (fun h => h)

theorem lookup_ext {st st' : St} (e : Ext (fun _ => False) st st') :
    ∀ (ctx : Scope), ScopeOk ctx st → ∀ k, lookup st'.heap ctx k = lookup st.heap ctx k := by
  intro ctx
  induction ctx with
  | nil => intro _ k; rfl
  | cons f r ih =>
    intro hok k
    have hf : f.ref < st.heap.length := hok f List.mem_cons_self
    have hr : ScopeOk r st := fun x hx => hok x (List.mem_cons_of_mem _ hx)
    simp only [lookup, heapGet_ext e f.ref hf, ih hr k]

section
variable (g : GEnv) (esc : Bool) (call : Registry.Tmpl → Run) (hcall : ∀ t, GoodRun (call t))
include hcall

/-- a {let} inside a block is invisible after the block, and whatever it shadowed is visible again -/
theorem let_scoped (b : Block) (ctx : Scope) (st : St) (hok : ScopeOk ctx st)
    (h : (walkBlockOf (execBody g esc call b) ctx st).cls = .ok) :
    (walkBlockOf (execBody g esc call b) ctx st).ctx = ctx ∧
    ∀ k, lookup (walkBlockOf (execBody g esc call b) ctx st).st.heap ctx k = lookup st.heap ctx k := by
  have hg := walkBlockOf_good' (execBody_good g esc call hcall b) ctx st
  exact ⟨hg.ctx_eq h, lookup_ext hg.ext ctx hok⟩

/-- the same for content blocks ({let}…{/let}, {param}…{/param}, {log}) -/
theorem content_block_scoped (b : Block) (ctx : Scope) (st : St) (hok : ScopeOk ctx st)
    (h : (renderBlockOf (execBody g esc call b) ctx st).1.cls = .ok) :
    (renderBlockOf (execBody g esc call b) ctx st).1.ctx = ctx ∧
    (∀ k, lookup (renderBlockOf (execBody g esc call b) ctx st).1.st.heap ctx k = lookup st.heap ctx k) ∧
    (renderBlockOf (execBody g esc call b) ctx st).1.st.out = st.out := by
  have hg := renderBlockOf_good' (execBody_good g esc call hcall b) ctx st
  exact ⟨hg.1.ctx_eq h, lookup_ext hg.1.ext ctx hok, hg.2⟩

/-- only `let` binds in the current frame: every other command leaves ALL existing frames alone -/
theorem block_cmd_scoped (c : Cmd) (hnl : ∀ p n e, c ≠ .letValue p n e) (hnc : ∀ p n b, c ≠ .letContent p n b)
    (ctx : Scope) (st : St) (hown : Own ctx st) : Good (fun _ => False) ctx st (execCmd g esc call c ctx st) :=
  (execCmd_scoped g esc call hcall c ctx st hown).mono fun i hi => by
    cases c with
    | letValue p n e => exact absurd rfl (hnl p n e)
    | letContent p n b => exact absurd rfl (hnc p n b)
    | _ => exact hi

/-- a loop variable (and `index` / `isFirst` / `isLast`'s helpers) is visible in the loop body only -/
theorem loop_var_scoped (p : Nat) (var : Bytes) (list : Expr) (body : Block) (ifEmpty : Option Block)
    (ctx : Scope) (st : St) (hown : Own ctx st) (hok : ScopeOk ctx st)
    (h : (execCmd g esc call (.forc p var list body ifEmpty) ctx st).cls = .ok) :
    (execCmd g esc call (.forc p var list body ifEmpty) ctx st).ctx = ctx ∧
    ∀ k, lookup (execCmd g esc call (.forc p var list body ifEmpty) ctx st).st.heap ctx k = lookup st.heap ctx k := by
  have hg := block_cmd_scoped g esc call hcall (.forc p var list body ifEmpty) (by intros; simp) (by intros; simp) ctx st hown
  exact ⟨hg.ctx_eq h, lookup_ext hg.ext ctx hok⟩

/-- nothing a callee binds is visible to the caller afterwards: after a call the caller's scope and every
    variable visible through it are what they were (the call contributes text only) -/
theorem caller_env_unchanged_by_call (p : Nat) (name : Bytes) (allData : Bool) (data : Option Expr) (params : ParamList)
    (ctx : Scope) (st : St) (hown : Own ctx st) (hok : ScopeOk ctx st) :
    ((execCmd g esc call (.call p name allData data params) ctx st).cls = .ok →
      (execCmd g esc call (.call p name allData data params) ctx st).ctx = ctx) ∧
    ∀ k, lookup (execCmd g esc call (.call p name allData data params) ctx st).st.heap ctx k = lookup st.heap ctx k := by
  have hg := block_cmd_scoped g esc call hcall (.call p name allData data params) (by intros; simp) (by intros; simp) ctx st hown
  exact ⟨hg.ctx_eq, lookup_ext hg.ext ctx hok⟩
end

/-- `alldata` returns the frames from the innermost entered frame down: every frame above it is dropped -/
theorem alldata_spec : ∀ (ctx sc : Scope), alldata ctx = some sc →
    ∃ pre f r, ctx = pre ++ f :: r ∧ sc = f :: r ∧ f.entered = true ∧ ∀ x ∈ pre, x.entered = false
  | [], sc, h => by simp [alldata] at h
  | f :: r, sc, h => by
    unfold alldata at h
    split at h
    · rename_i he
      simp only [Option.some.injEq] at h
      exact ⟨[], f, r, rfl, h.symm, he, by simp⟩
    · rename_i he
      obtain ⟨pre, f', r', h1, h2, h3, h4⟩ := alldata_spec r sc h
      refine ⟨f :: pre, f', r', by rw [h1]; rfl, h2, h3, ?_⟩
      intro x hx
      rcases List.mem_cons.mp hx with rfl | hx
      · simpa using he
      · exact h4 x hx

theorem alldata_of_shape (locals : Scope) (f : SFrame) (rest : Scope) (hl : ∀ x ∈ locals, x.entered = false)
    (hf : f.entered = true) : alldata (locals ++ f :: rest) = some (f :: rest) := by
  induction locals with
  | nil => simp [alldata, hf]
  | cons l ls ih =>
    have h1 : l.entered = false := hl l List.mem_cons_self
    simp only [List.cons_append, alldata, h1]
    exact ih (fun x hx => hl x (List.mem_cons_of_mem _ hx))

/-- data="all": the callee's param scope is a fresh frame on top of exactly the caller's frames from its
    entry frame down — none of the caller's let / loop / block frames (`locals`) -/
theorem callee_env_all (g : GEnv) (d : Option Expr) (locals : Scope) (f : SFrame) (rest : Scope) (st : St)
    (hl : ∀ x ∈ locals, x.entered = false) (hf : f.entered = true) :
    callData g true d (locals ++ f :: rest) st =
      some (⟨st.heap.length, false⟩ :: f :: rest, { st with heap := st.heap ++ [⟨[], false⟩] }) := by
  simp [callData, alldata_of_shape locals f rest hl hf, push]

/-- a scope with an entered frame somewhere (every scope of a running template: `enter` marks the param /
    data frame and pushes, blocks and loop iterations push unmarked frames on top) -/
def Shaped (ctx : Scope) : Prop := ∃ locals f rest, ctx = locals ++ f :: rest ∧ (∀ x ∈ locals, x.entered = false) ∧ f.entered = true

theorem shaped_iff_alldata (ctx : Scope) : Shaped ctx ↔ ∃ sc, alldata ctx = some sc := by
  constructor
  · rintro ⟨l, f, r, rfl, hl, hf⟩; exact ⟨_, alldata_of_shape l f r hl hf⟩
  · rintro ⟨sc, h⟩
    obtain ⟨pre, f, r, h1, _, h3, h4⟩ := alldata_spec ctx sc h
    exact ⟨pre, f, r, h1, h4, h3⟩

theorem shaped_push (ctx : Scope) (st : St) (h : Shaped ctx) : Shaped (push ctx st).1 := by
  obtain ⟨l, f, r, rfl, hl, hf⟩ := h
  refine ⟨⟨st.heap.length, false⟩ :: l, f, r, rfl, ?_, hf⟩
  intro x hx
  rcases List.mem_cons.mp hx with rfl | hx
  · rfl
  · exact hl x hx

theorem shaped_enter (f : SFrame) (r : Scope) (st : St) (cctx : Scope) (s2 : St)
    (h : enter (f :: r) st = some (cctx, s2)) : Shaped cctx := by
  simp only [enter, push, Option.some.injEq, Prod.mk.injEq] at h
  rw [← h.1]
  exact ⟨[⟨st.heap.length, false⟩], { f with entered := true }, r, rfl, by simp, rfl⟩

/-- data="all" WITHOUT a shape hypothesis: whenever the call's data scope exists at all, the caller's scope
    splits into unmarked frames above an entered frame, and the callee's param scope is a fresh frame on
    top of exactly the frames from the entered one down.  (On a `Shaped` scope it always exists: `callee_env_all`;
    every scope the walk reaches is `Shaped`: Props/C02b.) -/
theorem callee_env_all_of_success (g : GEnv) (d : Option Expr) (ctx cd : Scope) (st st1 : St)
    (h : callData g true d ctx st = some (cd, st1)) :
    ∃ locals f rest, ctx = locals ++ f :: rest ∧ (∀ x ∈ locals, x.entered = false) ∧ f.entered = true ∧
      cd = ⟨st.heap.length, false⟩ :: f :: rest := by
  simp only [callData, if_true] at h
  split at h
  · simp at h
  · rename_i sc hsc
    obtain ⟨pre, f, r, h1, h2, h3, h4⟩ := alldata_spec ctx sc hsc
    simp only [push, Option.some.injEq, Prod.mk.injEq] at h
    exact ⟨pre, f, r, h1, h4, h3, by rw [← h.1, h2]⟩

/-- no data attribute: one fresh empty map, nothing of the caller -/
theorem callee_env_none (g : GEnv) (ctx : Scope) (st : St) :
    callData g false none ctx st = some ([⟨st.heap.length, false⟩], { st with heap := st.heap ++ [⟨[], false⟩] }) := by
  simp [callData, newScope]

/-- data="$e": the map `$e` evaluates to (as a caller-owned, read-only frame) under a fresh param frame,
    nothing else of the caller -/
theorem callee_env_data (g : GEnv) (e : Expr) (ctx cd : Scope) (st st1 : St)
    (h : callData g false (some e) ctx st = some (cd, st1)) :
    ∃ id kvs s', evalIn g e ctx st = some (.map id kvs, s') ∧
      cd = [⟨s'.heap.length + 1, false⟩, ⟨s'.heap.length, false⟩] ∧
      st1.heap = s'.heap ++ [⟨kvs, true⟩, ⟨[], false⟩] := by
  unfold callData at h
  simp only [Bool.false_eq_true, if_false] at h
  split at h
  · rename_i id kvs s' he
    simp only [newScope, push, Option.some.injEq, Prod.mk.injEq] at h
    obtain ⟨h1, h2⟩ := h
    refine ⟨id, kvs, s', he, ?_, ?_⟩
    · rw [← h1]; simp
    · rw [← h2]; simp
  · simp at h

/-- entering the callee: the param frame becomes the ENTERED frame, a fresh frame for the callee's own
    lets goes on top; a later data="all" inside the callee passes the param frame and what is below -/
theorem enter_then_alldata (f : SFrame) (r : Scope) (st : St) :
    ∃ cctx s2, enter (f :: r) st = some (cctx, s2) ∧ alldata cctx = some ({ f with entered := true } :: r) := by
  refine ⟨_, _, rfl, ?_⟩
  simp [push, alldata]

/-! ### non-vacuity: `{if true}{let $x: 'in' /}{$x}{/if}{$x}` with data x = 'out' prints in, then out -/

def tLeak : Registry.Tmpl :=
  { name := [116], params := [],
    body := .mk 0 (.cons (.ifc 1 (.cons 1 (some (.bool 1 true))
        (.mk 2 (.cons (.letValue 2 [120] (.str 2 [] [105, 110])) (.cons (.print 3 (.dataRef 3 [120] .nil) []) .nil))) .nil))
      (.cons (.print 4 (.dataRef 4 [120] .nil) []) .nil)),
    autoescape := .unspecified, nsName := [110], nsAutoescape := .unspecified, pos := 0, file := [102], text := [0, 0, 0, 0, 0] }

example : (execute { reg := [tLeak], globals := [], ij := none, msgs := none, tbl := [], oblig := [] } [116]
    [([120], .str [111, 117, 116])] 3).chunks = [[105, 110], [111, 117, 116]] := by decide +kernel

end SoyVerif.Props.C02
