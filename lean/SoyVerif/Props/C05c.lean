/-
  C05 (completeness at source level): WHICH sources are accepted, and with WHICH tree.

  `parse_source_total` / `parse_source_no_panic` (Props/C05parse) say that `parse.SoyFile` always answers; they say
  nothing about what is accepted.  This file states the converse direction for a structured,
  unbounded family of template bodies: text, print tags `{$id}` and the nested block commands

      {if e}…{elseif e}…{else}…{/if}      {foreach $x in e}…{ifempty}…{/foreach}
      {let $x: e /}                        {let $x}…{/let}
      {switch e}{case e}…{default}…{/switch}   (no text between `{switch}` and the first case)
      {call .t}{param k: e /}…{/call}     {call .t /}     {call .t data="all" /}     (no text between the params)

  (`e` a variable `$id` or an integer literal).  For every well-formed tree (`Blk`),
  `block_source_spec`:  `lexAll (srcOf b) false = .items (itemsOf b)` and
  `parseSource pf (srcOf b) = .ok (nodesOf b)` — the AST with every position the real parser assigns.

  Layers:
  * lexer (Props/SrcLex) — tags as lists of elements (`Elem`); a source is a list of segments (text run, tag)
    (`lex_segs`, `lexAll_segs`);
  * trees — `Cmd` / `Blk` / `IfTail`, flattened into segments (`segsCmd`, `initBlk`);
  * parser — `itemList` until an end-token set, one round at a time (`halt_round`, `close_round`, `tag_round`,
    `text_round` of Props/C15c, here as `stop_iter`, `text_iter` for a tag / a text run of the family) and every command's
    parse function, walked through one action at a time (`Does`, `Strm` of Props/C15c), by mutual induction over the
    tree.  What a command, an `{if}` tail, the cases of a `{switch}` and a block do is stated as `CmdSpec`, `TailSpec`,
    `CasesSpec`, `BlkSpec` — with `∃ st'`, the stream, `peekCount` and the frame `Fr` spelled out; `BlkSpec.does`,
    `CasesSpec.does` and `CmdSpec.intro` turn them into `Does` steps for the walks and back (`TailSpec` is applied as it
    is, once, in `if_body`).  A body is always followed by more segments (`itemsSegs_closeBlk`); `if_body` is what
    `parseIf`'s loop does behind the condition of an `{if}` / `{elseif}` / `{else}` tag (the `}`, the body, the rest of
    the chain), `after_body` what `parseCase` and `parseSwitch`'s loop do behind the `}` of a `{case}` / `{default}` tag
    (the body, the other cases).
-/
import SoyVerif.Props.C15c

namespace SoyVerif.Props.C05c
open SoyVerif SoyVerif.Model SoyVerif.Model.Parser SoyVerif.Model.FileParser SoyVerif.Lemmas.ParserSafe
open SoyVerif.Spec SoyVerif.Props.C15b SoyVerif.Props.C15c
open Lex


/-- the simple expressions of the family -/
inductive SExp where
  /-- a variable `$id` -/
  | var (id : Bytes)
  | int (ds : Bytes)
  deriving Repr, DecidableEq

def SExp.elem : SExp → Elem
  | .var id => .dollar id
  | .int ds => .int ds

def SExp.ok : SExp → Prop
  | .var id => idOK id
  | .int ds => intOK ds

instance (e : SExp) : Decidable e.ok := by cases e <;> (unfold SExp.ok; infer_instance)

mutual
  /-- a command; the text before it is kept by the enclosing block -/
  inductive Cmd where
    /-- `{$id}` -/
    | print (id : Bytes)
    /-- `{if e}` body, then the rest of the if chain -/
    | ifc (e : SExp) (b : Blk) (t : IfTail)
    /-- `{foreach $x in e}` body `{/foreach}` -/
    | foreach (x : Bytes) (e : SExp) (b : Blk)
    /-- `{foreach $x in e}` body `{ifempty}` body `{/foreach}` -/
    | foreachE (x : Bytes) (e : SExp) (b : Blk) (ie : Blk)
    /-- `{let $x: e /}` -/
    | letv (x : Bytes) (e : SExp)
    /-- `{let $x}` body `{/let}` -/
    | letc (x : Bytes) (b : Blk)
    /-- `{switch e}` cases `{/switch}` (no text between `{switch e}` and the first case) -/
    | switch (e : SExp) (cs : Cases)
    /-- `{call .name}` `{param k: e /}`… `{/call}` (no text between the params) -/
    | call (name : Bytes) (ps : List (Bytes × SExp))
    /-- `{call .name /}` -/
    | callSelf (name : Bytes)
    /-- `{call .name data="all" /}` -/
    | callAll (name : Bytes)
  /-- a block: commands, each preceded by a (possibly empty) text run, and a trailing text run -/
  inductive Blk where
    | done (t : Bytes)
    | cons (t : Bytes) (c : Cmd) (r : Blk)
  /-- what follows the body of an `{if}` / `{elseif}` -/
  inductive IfTail where
    /-- `{/if}` -/
    | fi
    /-- `{else}` body `{/if}` -/
    | els (b : Blk)
    /-- `{elseif e}` body, and so on -/
    | elif (e : SExp) (b : Blk) (r : IfTail)
  /-- the cases of a `{switch}` -/
  inductive Cases where
    /-- `{/switch}` -/
    | nil
    /-- `{case v}` body, then the other cases -/
    | case (v : SExp) (b : Blk) (r : Cases)
    /-- `{default}` body, then the other cases -/
    | dflt (b : Blk) (r : Cases)
end

def kIf : Bytes := [105, 102]
def kElseif : Bytes := [101, 108, 115, 101, 105, 102]
def kElse : Bytes := [101, 108, 115, 101]
def kForeach : Bytes := [102, 111, 114, 101, 97, 99, 104]
def kIfempty : Bytes := [105, 102, 101, 109, 112, 116, 121]
def kLet : Bytes := [108, 101, 116]
/-- `in` (the same bytes as the parser model's `FileParser.kIn`) -/
def kwIn : Bytes := [105, 110]
def kSwitch : Bytes := [115, 119, 105, 116, 99, 104]
def kCase : Bytes := [99, 97, 115, 101]
def kDefault : Bytes := [100, 101, 102, 97, 117, 108, 116]
def kCall : Bytes := [99, 97, 108, 108]
def kParam : Bytes := [112, 97, 114, 97, 109]

def printTag (id : Bytes) : Tag := .open [.dollar id] false
def ifTag (e : SExp) : Tag := .open [.word kIf, .sp, e.elem] false
def elseifTag (e : SExp) : Tag := .open [.word kElseif, .sp, e.elem] false
def elseTag : Tag := .open [.word kElse] false
def foreachTag (x : Bytes) (e : SExp) : Tag := .open [.word kForeach, .sp, .dollar x, .sp, .word kwIn, .sp, e.elem] false
def ifemptyTag : Tag := .open [.word kIfempty] false
def letvTag (x : Bytes) (e : SExp) : Tag := .open [.word kLet, .sp, .dollar x, .colon, .sp, e.elem, .sp] true
def letcTag (x : Bytes) : Tag := .open [.word kLet, .sp, .dollar x] false
def switchTag (e : SExp) : Tag := .open [.word kSwitch, .sp, e.elem] false
def caseTag (v : SExp) : Tag := .open [.word kCase, .sp, v.elem] false
def defaultTag : Tag := .open [.word kDefault] false
def callTag (name : Bytes) : Tag := .open [.word kCall, .sp, .dotIdent name] false
def callSelfTag (name : Bytes) : Tag := .open [.word kCall, .sp, .dotIdent name, .sp] true
def callAllTag (name : Bytes) : Tag :=
  .open [.word kCall, .sp, .dotIdent name, .sp, .word kData, .eq, .str kAll, .sp] true
def paramTag (k : Bytes) (e : SExp) : Tag := .open [.word kParam, .sp, .word k, .colon, .sp, e.elem, .sp] true

/-- the segments of the params of a call: no text between them -/
def segsParams : List (Bytes × SExp) → List Seg
  | [] => []
  | p :: r => ([], paramTag p.1 p.2) :: segsParams r

/-- a param name: an identifier that is no keyword; its value: a simple expression -/
def paramsOK : List (Bytes × SExp) → Prop
  | [] => True
  | p :: r => (wordOK p.1 ∧ wordType p.1 = .tIdent ∧ p.2.ok) ∧ paramsOK r

def Blk.trail : Blk → Bytes
  | .done t => t
  | .cons _ _ r => r.trail

/-- the first tag of an if tail: it closes the body before it -/
def IfTail.head : IfTail → Tag
  | .fi => .close kIf
  | .els _ => elseTag
  | .elif e _ _ => elseifTag e

def Cases.head : Cases → Tag
  | .nil => .close kSwitch
  | .case v _ _ => caseTag v
  | .dflt _ _ => defaultTag

mutual
  /-- the segments of a command preceded by the text `t` -/
  def segsCmd (t : Bytes) : Cmd → List Seg
    | .print id => [(t, printTag id)]
    | .ifc e b tl => (t, ifTag e) :: (initBlk b ++ [(b.trail, tl.head)] ++ segsTail tl)
    | .foreach x e b => (t, foreachTag x e) :: (initBlk b ++ [(b.trail, .close kForeach)])
    | .foreachE x e b ie =>
      (t, foreachTag x e) :: (initBlk b ++ [(b.trail, ifemptyTag)] ++ (initBlk ie ++ [(ie.trail, .close kForeach)]))
    | .letv x e => [(t, letvTag x e)]
    | .letc x b => (t, letcTag x) :: (initBlk b ++ [(b.trail, .close kLet)])
    | .switch e cs => (t, switchTag e) :: ([], cs.head) :: segsCases cs
    | .call name ps => (t, callTag name) :: (segsParams ps ++ [([], .close kCall)])
    | .callSelf name => [(t, callSelfTag name)]
    | .callAll name => [(t, callAllTag name)]
  /-- the segments of a block without its trailing text -/
  def initBlk : Blk → List Seg
    | .done _ => []
    | .cons t c r => segsCmd t c ++ initBlk r
  /-- the segments behind the first tag of an if tail -/
  def segsTail : IfTail → List Seg
    | .fi => []
    | .els b => initBlk b ++ [(b.trail, .close kIf)]
    | .elif _ b r => initBlk b ++ [(b.trail, r.head)] ++ segsTail r
  /-- the segments behind the first tag of a list of cases -/
  def segsCases : Cases → List Seg
    | .nil => []
    | .case _ b r => initBlk b ++ [(b.trail, r.head)] ++ segsCases r
    | .dflt b r => initBlk b ++ [(b.trail, r.head)] ++ segsCases r
end

/-- no second `{default}` (`sd`: one has been seen already): soy rejects a second one (parse.go, /repo d0c22f5) -/
def Cases.okSaw : Bool → Cases → Prop
  | _, .nil => True
  | sd, .case _ _ r => r.okSaw sd
  | sd, .dflt _ r => sd = false ∧ r.okSaw true

/-- a block closed by the tag `g` (`Tag.eof` at the top level) -/
def closeBlk (b : Blk) (g : Tag) : List Seg := initBlk b ++ [(b.trail, g)]

/-- the source text of a template body -/
def srcOf (b : Blk) : Bytes := srcSegs (initBlk b) ++ b.trail

/-- the items `lex` sends for it -/
def itemsOf (b : Blk) : List Item := itemsSegs 0 (closeBlk b .eof)

mutual
  def wfCmd : Cmd → Prop
    | .print id => idOK id
    | .ifc e b tl => e.ok ∧ wfBlk b ∧ wfTail tl
    | .foreach x e b => idOK x ∧ e.ok ∧ wfBlk b
    | .foreachE x e b ie => idOK x ∧ e.ok ∧ wfBlk b ∧ wfBlk ie
    | .letv x e => idOK x ∧ e.ok
    | .letc x b => idOK x ∧ wfBlk b
    | .switch e cs => e.ok ∧ wfCases cs ∧ cs.okSaw false
    | .call name ps => idOK name ∧ paramsOK ps
    | .callSelf name => idOK name
    | .callAll name => idOK name
  /-- well-formed: every text run is empty or `textOK`, identifiers and literals are well-formed -/
  def wfBlk : Blk → Prop
    | .done t => txtOK t
    | .cons t c r => txtOK t ∧ wfCmd c ∧ wfBlk r
  def wfTail : IfTail → Prop
    | .fi => True
    | .els b => wfBlk b
    | .elif e b r => e.ok ∧ wfBlk b ∧ wfTail r
  def wfCases : Cases → Prop
    | .nil => True
    | .case v b r => v.ok ∧ wfBlk b ∧ wfCases r
    | .dflt b r => wfBlk b ∧ wfCases r
end


theorem SExp.elem_ok {e : SExp} (h : e.ok) : e.elem.ok := by
  cases e <;> exact h

theorem SExp.elem_next {e : SExp} {d : UInt8} (h : delimByte d.toNat) : e.elem.nextOK d := by
  cases e <;> exact h

theorem d32 : delimByte (32 : UInt8).toNat := by decide
theorem d125 : delimByte (125 : UInt8).toNat := by decide
theorem d58 : delimByte (58 : UInt8).toNat := by decide
theorem nd {P : Prop} : false = true → P := fun h => absurd h (by decide)

theorem printTag_ok {id : Bytes} (h : idOK id) : (printTag id).ok :=
  ⟨by simp, h, d125, trivial⟩

theorem ifTag_ok {e : SExp} (h : e.ok) : (ifTag e).ok :=
  ⟨by simp, by decide, d32, trivial, trivial, (SExp.elem_ok h), SExp.elem_next d125, trivial⟩

theorem elseifTag_ok {e : SExp} (h : e.ok) : (elseifTag e).ok :=
  ⟨by simp, by decide, d32, trivial, trivial, (SExp.elem_ok h), SExp.elem_next d125, trivial⟩

theorem elseTag_ok : elseTag.ok := by decide
theorem ifemptyTag_ok : ifemptyTag.ok := by decide
theorem closeIf_ok : (Tag.close kIf).ok := by decide
theorem closeForeach_ok : (Tag.close kForeach).ok := by decide
theorem closeLet_ok : (Tag.close kLet).ok := by decide

theorem foreachTag_ok {x : Bytes} {e : SExp} (hx : idOK x) (h : e.ok) : (foreachTag x e).ok :=
  ⟨by simp, by decide, d32, trivial, trivial, hx, d32, trivial,
    trivial, by decide, d32, trivial, trivial, (SExp.elem_ok h), SExp.elem_next d125, trivial⟩

theorem letvTag_ok {x : Bytes} {e : SExp} (hx : idOK x) (h : e.ok) : (letvTag x e).ok :=
  ⟨by simp, by decide, d32, trivial, trivial, hx, d58, trivial,
    trivial, trivial, trivial, (SExp.elem_ok h), SExp.elem_next d32, trivial, trivial, trivial⟩

theorem letcTag_ok {x : Bytes} (hx : idOK x) : (letcTag x).ok :=
  ⟨by simp, by decide, d32, trivial, trivial, hx, d125, trivial⟩

theorem switchTag_ok {e : SExp} (h : e.ok) : (switchTag e).ok :=
  ⟨by simp, by decide, d32, trivial, trivial, (SExp.elem_ok h), SExp.elem_next d125, trivial⟩

theorem caseTag_ok {e : SExp} (h : e.ok) : (caseTag e).ok :=
  ⟨by simp, by decide, d32, trivial, trivial, (SExp.elem_ok h), SExp.elem_next d125, trivial⟩

theorem defaultTag_ok : defaultTag.ok := by decide
theorem closeSwitch_ok : (Tag.close kSwitch).ok := by decide

theorem callTag_ok {name : Bytes} (h : idOK name) : (callTag name).ok :=
  ⟨by simp, by decide, d32, trivial, trivial, h, d125, trivial⟩

theorem callSelfTag_ok {name : Bytes} (h : idOK name) : (callSelfTag name).ok :=
  ⟨by simp, by decide, d32, trivial, trivial, h, d32, trivial, trivial, trivial⟩

theorem callAllTag_ok {name : Bytes} (h : idOK name) : (callAllTag name).ok :=
  ⟨by simp, by decide, d32, trivial, trivial, h, d32, trivial, trivial, by decide, by decide, trivial, by decide,
    by decide, trivial, trivial, trivial, trivial⟩

theorem paramTag_ok {k : Bytes} {e : SExp} (hk : wordOK k) (h : e.ok) : (paramTag k e).ok :=
  ⟨by simp, by decide, d32, trivial, trivial, hk, d58, trivial, trivial, trivial, trivial, (SExp.elem_ok h),
    SExp.elem_next d32, trivial, trivial, trivial⟩

theorem closeCall_ok : (Tag.close kCall).ok := by decide

theorem segsParams_ok : ∀ (ps : List (Bytes × SExp)), paramsOK ps → ∀ s ∈ segsParams ps, SegOK s
  | [], _ => by intro s hs; simp [segsParams] at hs
  | p :: r, h => by
    intro s hs
    simp only [segsParams] at hs
    rcases List.mem_cons.mp hs with rfl | hs
    · exact ⟨Or.inl rfl, paramTag_ok h.1.1 h.1.2.2⟩
    · exact segsParams_ok r h.2 s hs

theorem Cases.head_ok {cs : Cases} (h : wfCases cs) : cs.head.ok := by
  cases cs with
  | nil => exact closeSwitch_ok
  | case v b r => exact caseTag_ok h.1
  | dflt b r => exact defaultTag_ok

theorem IfTail.head_ok {tl : IfTail} (h : wfTail tl) : tl.head.ok := by
  cases tl with
  | fi => exact closeIf_ok
  | els b => exact elseTag_ok
  | elif e b r => exact elseifTag_ok h.1

theorem Blk.trail_ok : ∀ {b : Blk}, wfBlk b → txtOK b.trail
  | .done _, h => h
  | .cons _ _ r, h => Blk.trail_ok (b := r) h.2.2

theorem segOK_append {a b : List Seg} (ha : ∀ s ∈ a, SegOK s) (hb : ∀ s ∈ b, SegOK s) : ∀ s ∈ a ++ b, SegOK s := by
  intro s hs
  rcases List.mem_append.mp hs with h | h
  · exact ha s h
  · exact hb s h

theorem segOK_close {b : Blk} {g : Tag} (hi : ∀ s ∈ initBlk b, SegOK s) (hb : wfBlk b) (hg : g.ok) :
    ∀ s ∈ initBlk b ++ [(b.trail, g)], SegOK s :=
  segOK_append hi (by intro s hs; simp at hs; subst hs; exact ⟨Blk.trail_ok hb, hg⟩)

mutual
  theorem segsCmd_ok : ∀ (t : Bytes) (c : Cmd), txtOK t → wfCmd c → ∀ s ∈ segsCmd t c, SegOK s
    | t, .print id, ht, h => by
      intro s hs; simp [segsCmd] at hs; subst hs; exact ⟨ht, printTag_ok h⟩
    | t, .ifc e b tl, ht, h => by
      simp only [segsCmd]
      intro s hs
      rcases List.mem_cons.mp hs with rfl | hs
      · exact ⟨ht, ifTag_ok h.1⟩
      · exact segOK_append (segOK_close (initBlk_ok b h.2.1) h.2.1 (IfTail.head_ok h.2.2)) (segsTail_ok tl h.2.2) s hs
    | t, .foreach x e b, ht, h => by
      simp only [segsCmd]
      intro s hs
      rcases List.mem_cons.mp hs with rfl | hs
      · exact ⟨ht, foreachTag_ok h.1 h.2.1⟩
      · exact segOK_close (initBlk_ok b h.2.2) h.2.2 closeForeach_ok s hs
    | t, .foreachE x e b ie, ht, h => by
      simp only [segsCmd]
      intro s hs
      rcases List.mem_cons.mp hs with rfl | hs
      · exact ⟨ht, foreachTag_ok h.1 h.2.1⟩
      · exact segOK_append (segOK_close (initBlk_ok b h.2.2.1) h.2.2.1 ifemptyTag_ok)
          (segOK_close (initBlk_ok ie h.2.2.2) h.2.2.2 closeForeach_ok) s hs
    | t, .letv x e, ht, h => by
      intro s hs; simp [segsCmd] at hs; subst hs; exact ⟨ht, letvTag_ok h.1 h.2⟩
    | t, .letc x b, ht, h => by
      simp only [segsCmd]
      intro s hs
      rcases List.mem_cons.mp hs with rfl | hs
      · exact ⟨ht, letcTag_ok h.1⟩
      · exact segOK_close (initBlk_ok b h.2) h.2 closeLet_ok s hs
    | t, .switch e cs, ht, h => by
      simp only [segsCmd]
      intro s hs
      rcases List.mem_cons.mp hs with rfl | hs
      · exact ⟨ht, switchTag_ok h.1⟩
      · rcases List.mem_cons.mp hs with rfl | hs
        · exact ⟨Or.inl rfl, Cases.head_ok h.2.1⟩
        · exact segsCases_ok cs h.2.1 s hs
    | t, .call name ps, ht, h => by
      simp only [segsCmd]
      intro s hs
      rcases List.mem_cons.mp hs with rfl | hs
      · exact ⟨ht, callTag_ok h.1⟩
      · exact segOK_append (segsParams_ok ps h.2)
          (by intro s hs; simp at hs; subst hs; exact ⟨Or.inl rfl, closeCall_ok⟩) s hs
    | t, .callSelf name, ht, h => by
      intro s hs; simp [segsCmd] at hs; subst hs; exact ⟨ht, callSelfTag_ok h⟩
    | t, .callAll name, ht, h => by
      intro s hs; simp [segsCmd] at hs; subst hs; exact ⟨ht, callAllTag_ok h⟩
  theorem initBlk_ok : ∀ (b : Blk), wfBlk b → ∀ s ∈ initBlk b, SegOK s
    | .done _, _ => by intro s hs; simp [initBlk] at hs
    | .cons t c r, h => by
      simp only [initBlk]
      exact segOK_append (segsCmd_ok t c h.1 h.2.1) (initBlk_ok r h.2.2)
  theorem segsTail_ok : ∀ (tl : IfTail), wfTail tl → ∀ s ∈ segsTail tl, SegOK s
    | .fi, _ => by intro s hs; simp [segsTail] at hs
    | .els b, h => by
      simp only [segsTail]
      exact segOK_close (initBlk_ok b h) h closeIf_ok
    | .elif e b r, h => by
      simp only [segsTail]
      exact segOK_append (segOK_close (initBlk_ok b h.2.1) h.2.1 (IfTail.head_ok h.2.2)) (segsTail_ok r h.2.2)
  theorem segsCases_ok : ∀ (cs : Cases), wfCases cs → ∀ s ∈ segsCases cs, SegOK s
    | .nil, _ => by intro s hs; simp [segsCases] at hs
    | .case v b r, h => by
      simp only [segsCases]
      exact segOK_append (segOK_close (initBlk_ok b h.2.1) h.2.1 (Cases.head_ok h.2.2)) (segsCases_ok r h.2.2)
    | .dflt b r, h => by
      simp only [segsCases]
      exact segOK_append (segOK_close (initBlk_ok b h.1) h.1 (Cases.head_ok h.2)) (segsCases_ok r h.2)
end

theorem itemsSegs_append : ∀ (a b : List Seg) (q : Nat),
    itemsSegs q (a ++ b) = itemsSegs q a ++ itemsSegs (q + (srcSegs a).length) b
  | [], b, q => by simp [itemsSegs, srcSegs]
  | s :: r, b, q => by
    simp only [List.cons_append, itemsSegs, srcSegs, itemsSegs_append r b, List.append_assoc, List.length_append]
    rw [show q + s.1.length + s.2.src.length + (srcSegs r).length = q + (s.1.length + (s.2.src.length + (srcSegs r).length)) by omega]

theorem srcSegs_append : ∀ (a b : List Seg), srcSegs (a ++ b) = srcSegs a ++ srcSegs b
  | [], b => rfl
  | s :: r, b => by simp [srcSegs, srcSegs_append r b]

theorem lexAll_tree (b : Blk) (h : wfBlk b) : lexAll (srcOf b) false = .items (itemsOf b) := by
  have := lexAll_segs (initBlk b) b.trail (initBlk_ok b h) (Blk.trail_ok h)
  unfold srcOf itemsOf closeBlk
  rw [this, itemsSegs_append]
  simp [itemsSegs, Tag.items]


section parser
variable (pf : Bytes → Option UInt64)

theorem nl_append_nil : ∀ (a : NodeList), a.append .nil = a
  | .nil => rfl
  | .cons n r => by simp [NodeList.append, nl_append_nil r]

theorem nl_append_assoc : ∀ (a b c : NodeList), (a.append b).append c = a.append (b.append c)
  | .nil, _, _ => rfl
  | .cons n r, b, c => by simp [NodeList.append, nl_append_assoc r b c]

def natVal (ds : Bytes) : Nat := ds.foldl (fun a d => a * 10 + (d.toNat - 48)) 0

/-- the token of a simple expression that ends at `pos` -/
def exprItem (pos : Nat) : SExp → Item
  | .var id => ⟨.tDollarIdent, pos, 36 :: id⟩
  | .int ds => ⟨.tInteger, pos, ds⟩

/-- its node -/
def exprOf (pos : Nat) : SExp → Expr
  | .var id => .dataRef pos id .nil
  | .int ds => .int pos (natVal ds)

theorem elem_items (e : SExp) (q : Nat) : e.elem.items q = [exprItem (q + e.elem.src.length) e] := by
  cases e with
  | var id => simp [SExp.elem, Elem.items, exprItem, Elem.src]; omega
  | int ds => simp [SExp.elem, Elem.items, exprItem, Elem.src]

theorem foldl_digits_lt : ∀ (ds : Bytes) (acc : Nat), (∀ d ∈ ds, 48 ≤ d.toNat ∧ d.toNat ≤ 57) →
    ds.foldl (fun a d => a * 10 + (d.toNat - 48)) acc < (acc + 1) * 10 ^ ds.length
  | [], acc, _ => by simp
  | d :: r, acc, h => by
    have hd := h d (by simp)
    have ih := foldl_digits_lt r (acc * 10 + (d.toNat - 48)) (fun x hx => h x (by simp [hx]))
    simp only [List.foldl, List.length_cons]
    have h1 : (acc * 10 + (d.toNat - 48) + 1) * 10 ^ r.length ≤ ((acc + 1) * 10) * 10 ^ r.length :=
      Nat.mul_le_mul_right _ (by omega)
    rw [Nat.pow_succ, Nat.mul_comm (10 ^ r.length) 10, ← Nat.mul_assoc]
    omega

/-- `strconv.ParseInt` (through `newValueNode`) on a well-formed integer literal: at most 18 digits fit `int64` -/
theorem intLiteral_ok {ds : Bytes} (h : intOK ds) : Parser.intLiteral ds = some (natVal ds : Int) := by
  obtain ⟨hlen, h18, hdig, _⟩ := h
  have hall : ∀ d ∈ ds, 48 ≤ d.toNat ∧ d.toNat ≤ 57 := by
    intro d hd
    obtain ⟨i, hi, rfl⟩ := List.getElem_of_mem hd
    have := hdig i hi
    rw [List.getD_eq_getElem?_getD, List.getElem?_eq_getElem hi] at this
    exact this
  refine Lemmas.ParserLit.intLiteral_digits (fun e => by rw [e] at hlen; exact absurd hlen (by decide))
    (fun d hd => by simpa [Spec.Json.isDigit, UInt8.le_iff_toNat_le] using hall d hd) ?_
  show Parser.inInt64 (natVal ds : Int) = true
  have hlt : natVal ds < (0 + 1) * 10 ^ ds.length := foldl_digits_lt ds 0 hall
  have h2 : 10 ^ ds.length ≤ 10 ^ 18 := Nat.pow_le_pow_right (by omega) h18
  have : (10 : Nat) ^ 18 = 1000000000000000000 := by decide
  simp only [Parser.inInt64, Bool.and_eq_true, decide_eq_true_eq]
  omega


/-- a simple expression before `}` / `/}` -/
theorem parseExpr_simple (f : Nat) (e : SExp) (pos : Nat) (nxt : Item) (s : List Item) (st : PState)
    (hpc : st.peekCount ≤ 2) (hs : stream st = exprItem pos e :: nxt :: s) (he : e.ok) (hn : isTerm nxt.typ) :
    ∃ st', parseExpr pf (f + 4) 0 st = .ok (exprOf pos e, st') ∧ stream st' = nxt :: s ∧ st'.peekCount ≤ 1 := by
  obtain ⟨st1, hn1, hs1, ht1, hp1⟩ := stream_next hpc hs
  cases e with
  | var id => exact parseExpr_dollar pf f _ nxt id s st hpc hs rfl rfl hn
  | int ds =>
    obtain ⟨st3, hl3, hs3, hp3⟩ := exprLoop_term pf (f + 2) (.int pos (natVal ds)) nxt s st1 (by omega) hs1 hn
    refine ⟨st3, ?_, hs3, hp3⟩
    show parseExpr pf ((f + 3) + 1) 0 st = _
    unfold parseExpr
    rw [bind_run]
    have hft : parseExprFirstTerm pf (f + 3) st = .ok (.int pos (natVal ds), st1) := by
      show parseExprFirstTerm pf ((f + 2) + 1) st = _
      unfold parseExprFirstTerm
      rw [bind_run, hn1]
      have htyp : (exprItem pos (SExp.int ds)).typ = .tInteger := rfl
      have hval : (exprItem pos (SExp.int ds)).val = ds := rfl
      simp only [htyp, show isUnaryOp .tInteger = false by decide, Bool.false_eq_true, if_false,
        show (ItemType.tInteger == ItemType.tLeftParen) = false by decide,
        show isValue .tInteger = true by decide, if_true]
      show newValueNode pf ((f + 1) + 1) _ st1 = _
      unfold newValueNode
      simp only [htyp, hval, intLiteral_ok he]
      rfl
    rw [hft]
    exact hl3

theorem parseExpr0_does {st0 st : FState} {k : Nat} (ef : Nat) (e : SExp) {pos : Nat} {nxt : Item} {s : List Item}
    (h : Strm st0 k (exprItem pos e :: nxt :: s) st) (he : e.ok) (hn : isTerm nxt.typ) :
    Does (parseExpr0 pf (ef + 4)) st (exprOf pos e) (Strm st0 1 (nxt :: s)) := by
  obtain ⟨p1, he1, hs1, hp1⟩ := parseExpr_simple pf ef e pos nxt s st.p (Nat.le_trans h.pc h.k2) h.eq he hn
  exact Does.mk (st' := { st with p := p1 }) (by simp only [parseExpr0, liftP, he1]) ⟨hs1, hp1, by omega, h.fr.trans ⟨rfl, rfl, rfl⟩⟩


/-- position of the first token of a stream.  `itemList` gives its list node the position of the first token it reads, so
    the list node of a body has the position of the body's first item — for an empty body, the `{` of the closing tag -/
def headPos : List Item → Nat
  | [] => 0
  | x :: _ => x.pos

/-- the RawText node of a text run that ends at `e` -/
def textNL (t : Bytes) (e : Nat) : NodeList :=
  if 0 < t.length ∧ dropped t = false ∧ (joinLines t false false).isEmpty = false then
    .cons (.rawText e (joinLines t false false)) .nil
  else .nil

def lenS (l : List Seg) : Nat := (srcSegs l).length

def lenBlk (b : Blk) : Nat := lenS (initBlk b) + b.trail.length

/-- the ParamValue nodes of a call; `qp` = where the first `{param` begins -/
def paramNodes : Nat → List (Bytes × SExp) → NodeList
  | _, [] => .nil
  | qp, p :: r =>
    .cons (.paramValue (qp + 1) p.1 (exprOf (qp + 9 + p.1.length + p.2.elem.src.length) p.2))
      (paramNodes (qp + (paramTag p.1 p.2).src.length) r)

mutual
  /-- the node of the command `c` whose preceding text `t` begins at `q` (its `{` is at `q + |t|`) -/
  def nodeCmd (q : Nat) (t : Bytes) : Cmd → Node
    | .print id => .print (q + t.length + 2 + id.length) (.dataRef (q + t.length + 2 + id.length) id .nil) []
    | .ifc e b tl =>
      .ifc (q + t.length + 3)
        (.cons (.ifCond (q + t.length + 3) (some (exprOf (q + t.length + 4 + e.elem.src.length) e))
            (.list (headPos (itemsSegs (q + t.length + (ifTag e).src.length) (closeBlk b tl.head)))
              (nodesBlk (q + t.length + (ifTag e).src.length) b)))
          (condsTail (q + t.length + 3) (q + t.length + (ifTag e).src.length + lenBlk b) tl))
    | .foreach x e b =>
      .forc (q + t.length + 8) x (exprOf (q + t.length + 14 + x.length + e.elem.src.length) e)
        (.list (headPos (itemsSegs (q + t.length + (foreachTag x e).src.length) (closeBlk b (.close kForeach))))
          (nodesBlk (q + t.length + (foreachTag x e).src.length) b))
        .nil
    | .foreachE x e b ie =>
      .forc (q + t.length + 8) x (exprOf (q + t.length + 14 + x.length + e.elem.src.length) e)
        (.list (headPos (itemsSegs (q + t.length + (foreachTag x e).src.length) (closeBlk b ifemptyTag)))
          (nodesBlk (q + t.length + (foreachTag x e).src.length) b))
        (.cons (.list (headPos (itemsSegs (q + t.length + (foreachTag x e).src.length + lenBlk b + ifemptyTag.src.length)
              (closeBlk ie (.close kForeach))))
            (nodesBlk (q + t.length + (foreachTag x e).src.length + lenBlk b + ifemptyTag.src.length) ie)) .nil)
    | .letv x e => .letValue (q + t.length + 4) x (exprOf (q + t.length + 8 + x.length + e.elem.src.length) e)
    | .letc x b =>
      .letContent (q + t.length + 4) x
        (.list (headPos (itemsSegs (q + t.length + (letcTag x).src.length) (closeBlk b (.close kLet))))
          (nodesBlk (q + t.length + (letcTag x).src.length) b))
    | .switch e cs =>
      .switch (q + t.length + 7) (exprOf (q + t.length + 8 + e.elem.src.length) e)
        (caseNodes (q + t.length + (switchTag e).src.length) cs)
    | .call name ps =>
      .call (q + t.length + 5) (46 :: name) false none (paramNodes (q + t.length + (callTag name).src.length) ps)
    | .callSelf name => .call (q + t.length + 5) (46 :: name) false none .nil
    | .callAll name => .call (q + t.length + 5) (46 :: name) true none .nil
  /-- the nodes of a block that begins at `q` -/
  def nodesBlk (q : Nat) : Blk → NodeList
    | .done t => textNL t (q + t.length)
    | .cons t c r => (textNL t (q + t.length)).append (.cons (nodeCmd q t c) (nodesBlk (q + lenS (segsCmd t c)) r))
  /-- the conditions behind the first one; `pos` = position of the `if` token, `qt` = where the
      first tag of the tail begins -/
  def condsTail (pos qt : Nat) : IfTail → NodeList
    | .fi => .nil
    | .els b =>
      .cons (.ifCond pos none
        (.list (headPos (itemsSegs (qt + elseTag.src.length) (closeBlk b (.close kIf))))
          (nodesBlk (qt + elseTag.src.length) b))) .nil
    | .elif e b r =>
      .cons (.ifCond pos (some (exprOf (qt + 8 + e.elem.src.length) e))
        (.list (headPos (itemsSegs (qt + (elseifTag e).src.length) (closeBlk b r.head)))
          (nodesBlk (qt + (elseifTag e).src.length) b)))
        (condsTail pos (qt + (elseifTag e).src.length + lenBlk b) r)
  /-- the case nodes; `qc` = where the first tag of the cases begins -/
  def caseNodes (qc : Nat) : Cases → NodeList
    | .nil => .nil
    | .case v b r =>
      .cons (.switchCase (qc + 5) [exprOf (qc + 6 + v.elem.src.length) v]
        (.list (headPos (itemsSegs (qc + (caseTag v).src.length) (closeBlk b r.head)))
          (nodesBlk (qc + (caseTag v).src.length) b)))
        (caseNodes (qc + (caseTag v).src.length + lenBlk b) r)
    | .dflt b r =>
      .cons (.switchCase (qc + 8) []
        (.list (headPos (itemsSegs (qc + defaultTag.src.length) (closeBlk b r.head)))
          (nodesBlk (qc + defaultTag.src.length) b)))
        (caseNodes (qc + defaultTag.src.length + lenBlk b) r)
end

/-- the nodes `parse.SoyFile` returns for the template body `b` -/
def nodesOf (b : Blk) : List Node := (nodesBlk 0 b).toList


/-- the end-token sets of the family contain none of the tokens a piece begins with -/
def untlOK (untl : List ItemType) : Prop :=
  untl.contains .tText = false ∧ untl.contains .tLeftDelim = false ∧ untl.contains .tDollarIdent = false ∧
  untl.contains .tIf = false ∧ untl.contains .tForeach = false ∧ untl.contains .tLet = false ∧
  untl.contains .tSwitch = false ∧ untl.contains .tCall = false

instance (untl : List ItemType) : Decidable (untlOK untl) := by unfold untlOK; infer_instance

/-- the tag `g` ends an `itemList(untl…)` -/
def Stops (untl : List ItemType) : Tag → Prop
  | .eof => untl.contains .tEOF = true
  | .close w => untl.contains (closeType w) = true
  | .open es _ =>
    match es with
    | .word wd :: _ => untl.contains (wordType wd) = true
    | _ => False

theorem stops_items {untl : List ItemType} {g : Tag} (h : Stops untl g) (qg : Nat) :
    (g = .eof ∧ untl.contains .tEOF = true) ∨
    (g ≠ .eof ∧ ∃ k more, g.items qg = ⟨.tLeftDelim, qg + 1, [123]⟩ :: k :: more ∧ untl.contains k.typ = true) := by
  cases g with
  | eof => exact Or.inl ⟨rfl, h⟩
  | close w => exact Or.inr ⟨by simp, _, _, rfl, h⟩
  | «open» es sc =>
    cases es with
    | nil => exact h.elim
    | cons e r =>
      cases e with
      | word wd => exact Or.inr ⟨by simp, ⟨wordType wd, qg + 1 + wd.length, wd⟩, _, rfl, h⟩
      | sp => exact h.elim
      | dollar _ => exact h.elim
      | dotIdent _ => exact h.elim
      | colon => exact h.elim
      | int _ => exact h.elim
      | eq => exact h.elim
      | str _ => exact h.elim

theorem stop_iter (ef f : Nat) (untl : List ItemType) (lpos : Option Nat) (nodes : NodeList) (st : FState) (g : Tag)
    (qg : Nat) (rest : List Item) (hst : Stops untl g) (hu : untlOK untl) (hpc : st.p.peekCount ≤ 2)
    (hs : stream st.p = g.items qg ++ rest) :
    ∃ st', itemListLoop pf ef (f + 3) untl lpos nodes st = .ok (.list (lpos.getD (headPos (g.items qg))) nodes, st') ∧
      stream st'.p = (g.items qg).drop 2 ++ rest ∧
      (g ≠ .eof → top st'.p = (g.items qg).getD 1 Item.zero ∧ st'.p.peekCount = 0) ∧ Fr st st' := by
  rcases stops_items hst qg with ⟨rfl, hue⟩ | ⟨hne, k, more, hit, huk⟩
  · obtain ⟨st', hl, hs', _, _, hfr⟩ := halt_round pf (ef := ef) (f := f + 1) (lpos := lpos) (nodes := nodes) (cs := [])
      (fun _ h => absurd h (by simp)) (x := ⟨.tEOF, qg, []⟩) (by simp) hue hpc hs (by simp)
    exact ⟨st', hl, by simpa [Tag.items] using hs', fun h => absurd rfl h, hfr⟩
  · rw [hit] at hs ⊢
    obtain ⟨st', hl, hs', ht', hp', hfr⟩ := close_round pf (ef := ef) (f := f + 1) (lpos := lpos) (nodes := nodes) (cs := [])
      (fun _ h => absurd h (by simp)) (ld := ⟨.tLeftDelim, qg + 1, [123]⟩) (k := k) rfl hu.2.1 huk hpc
      (show stream st.p = [] ++ _ :: k :: (more ++ rest) from hs) (by simp)
    exact ⟨st', hl, by simpa using hs', fun _ => ⟨by simpa using ht', hp'⟩, hfr⟩

theorem text_iter (ef fuel : Nat) (untl : List ItemType) (lpos : Option Nat) (nodes : NodeList) (st : FState) (t : Bytes)
    (e : Nat) (nxt : Item) (s' : List Item) (hpc : st.p.peekCount ≤ 2) (hs : stream st.p = textItem t e ++ nxt :: s')
    (hnt : nxt.typ ≠ .tText) (hnc : nxt.typ ≠ .tComment) (hu : untl.contains .tText = false) (hf : 5 ≤ fuel) :
    ∃ (st' : FState) (fuel' : Nat) (lpos' : Option Nat),
      itemListLoop pf ef fuel untl lpos nodes st = itemListLoop pf ef fuel' untl lpos' (nodes.append (textNL t e)) st' ∧
      stream st'.p = nxt :: s' ∧ st'.p.peekCount ≤ 2 ∧ Fr st st' ∧ fuel ≤ fuel' + 1 ∧
      lpos'.getD nxt.pos = lpos.getD (headPos (textItem t e ++ nxt :: s')) := by
  by_cases hemit : 0 < t.length ∧ dropped t = false
  · have hti : textItem t e = [⟨.tText, e, t⟩] := by simp [textItem, hemit]
    rw [hti] at hs ⊢
    obtain ⟨f, rfl⟩ : ∃ f, fuel = f + 2 := ⟨fuel - 2, by omega⟩
    obtain ⟨st2, hl2, hs2, hp2, hfr2⟩ := text_round pf (ef := ef) (f := f) (untl := untl) (lpos := lpos) (nodes := nodes)
      (cs := []) (fun _ h => absurd h (by simp)) (x := ⟨.tText, e, t⟩) rfl hnt hu hpc
      (show stream st.p = [] ++ _ :: nxt :: s' from hs) (by simp; omega)
    have hcm : (nxt.typ == ItemType.tComment) = false := by simpa using hnc
    refine ⟨st2, f + 1, some (lpos.getD e), ?_, hs2, hp2, hfr2, by omega, by simp [headPos]⟩
    rw [hl2]
    congr 1
    simp only [textNode, List.flatMap_nil, List.append_nil, List.isEmpty_nil, Bool.not_true, hcm, textNL, hemit, true_and]
    by_cases hj : (joinLines t false false).isEmpty = true
    · simp [hj, appendNode, nl_append_nil]
    · simp [hj, appendNode]
  · have hti : textItem t e = [] := by simp only [textItem, hemit, if_false]
    have htl : textNL t e = .nil := by
      unfold textNL
      rw [if_neg (fun h => hemit ⟨h.1, h.2.1⟩)]
    rw [hti] at hs ⊢
    refine ⟨st, fuel, lpos, by rw [htl, nl_append_nil], by simpa using hs, hpc, Fr.refl st, by omega, ?_⟩
    simp [headPos]

/-- the part of `parseIf`'s loop behind the body -/
def ifCont (ef fuel pos : Nat) (isElse : Bool) (conds : NodeList) : FP Node := do
  FileParser.backup
  let t ← FileParser.next
  if t.typ == .tElseif then (if isElse then FileParser.unexpected t else ifLoop pf ef fuel pos isElse conds)
  else if t.typ == .tElse then (if isElse then FileParser.unexpected t else ifLoop pf ef fuel pos true conds)
  else if t.typ == .tIfEnd then do
    let _ ← FileParser.expect .tRightDelim
    pure (.ifc pos conds)
  else ifLoop pf ef fuel pos isElse conds

theorem ifLoop_succ (ef fuel pos : Nat) (isElse : Bool) (conds : NodeList) :
    ifLoop pf ef (fuel + 1) pos isElse conds = (do
      let condExpr ← (if !isElse then do
          let e ← parseExpr0 pf ef
          pure (some e)
        else pure none : FP (Option Expr))
      let _ ← FileParser.expect .tRightDelim
      let body ← itemListLoop pf ef fuel [.tElseif, .tElse, .tIfEnd] none .nil
      ifCont pf ef fuel pos isElse (conds.append (.cons (.ifCond pos condExpr body) .nil))) := by
  rw [ifLoop]
  rfl

/-- the file-level parser state of the family: not inside a `{msg}`, no `{namespace}` seen -/
def Clean (st : FState) : Prop := st.inmsg = false ∧ st.ns = []

theorem Fr.clean {st st' : FState} (h : Fr st st') (hc : Clean st) : Clean st' :=
  ⟨by rw [h.2.2]; exact hc.1, by rw [h.1]; exact hc.2⟩

/-- `itemList(untl…)` on the tokens of the block `b` closed by the tag `g` -/
def BlkSpec (ef : Nat) (b : Blk) : Prop :=
  ∀ (g : Tag) (untl : List ItemType) (q fuel : Nat) (lpos : Option Nat) (nodes : NodeList) (st : FState) (rest : List Item),
    Stops untl g → untlOK untl → Clean st → st.p.peekCount ≤ 2 →
    stream st.p = itemsSegs q (closeBlk b g) ++ rest → 4 * (itemsSegs q (closeBlk b g)).length + 16 ≤ fuel →
    ∃ st', itemListLoop pf (ef + 4) fuel untl lpos nodes st =
        .ok (.list (lpos.getD (headPos (itemsSegs q (closeBlk b g)))) (nodes.append (nodesBlk q b)), st') ∧
      stream st'.p = (g.items (q + lenBlk b)).drop 2 ++ rest ∧
      (g ≠ .eof → top st'.p = (g.items (q + lenBlk b)).getD 1 Item.zero ∧ st'.p.peekCount = 0) ∧ Fr st st'

/-- `beginTag` on the tokens of the command `c` behind its `{` -/
def CmdSpec (ef : Nat) (c : Cmd) : Prop :=
  ∀ (q : Nat) (t : Bytes) (fuel : Nat) (st : FState) (rest : List Item),
    Clean st → st.p.peekCount ≤ 2 →
    stream st.p = (itemsSegs q (segsCmd t c)).drop ((textItem t (q + t.length)).length + 1) ++ rest →
    4 * (itemsSegs q (segsCmd t c)).length + 8 ≤ fuel →
    ∃ st', beginTag pf (ef + 4) fuel st = .ok (some (nodeCmd q t c), st') ∧ stream st'.p = rest ∧
      st'.p.peekCount ≤ 2 ∧ Fr st st'

/-- `parseIf`'s loop behind a body, on the tokens of the if tail `tl` (whose first tag's `{` and
    keyword have been read by `itemList`) -/
def TailSpec (ef : Nat) (tl : IfTail) : Prop :=
  ∀ (qt fuel pos : Nat) (conds : NodeList) (isElse : Bool) (st : FState) (rest : List Item),
    (isElse = false ∨ tl = .fi) → Clean st → st.p.peekCount = 0 →
    top st.p = (tl.head.items qt).getD 1 Item.zero →
    stream st.p = (tl.head.items qt).drop 2 ++ (itemsSegs (qt + tl.head.src.length) (segsTail tl) ++ rest) →
    4 * ((tl.head.items qt).length + (itemsSegs (qt + tl.head.src.length) (segsTail tl)).length) + 16 ≤ fuel →
    ∃ st', ifCont pf (ef + 4) fuel pos isElse conds st = .ok (.ifc pos (conds.append (condsTail pos qt tl)), st') ∧
      stream st'.p = rest ∧ st'.p.peekCount ≤ 2 ∧ Fr st st'

theorem drop_len_succ {α : Type} (a : List α) (x : α) (s : List α) : (a ++ x :: s).drop (a.length + 1) = s := by
  induction a with
  | nil => rfl
  | cons y r ih => simp

theorem tail_fi (ef : Nat) : TailSpec pf ef .fi := by
  intro qt fuel pos conds isElse st rest _ hin hpc htop hs hf
  simp only [IfTail.head, Tag.items, segsTail, itemsSegs, List.nil_append, List.drop, List.getD_cons_succ,
    List.getD_cons_zero, List.cons_append] at htop hs
  refine Does.fin ?_
  unfold ifCont
  refine (backup_does (k := 0) ⟨hs, by omega, by omega, Fr.refl st⟩ (by omega)).bind fun st1 h1 => ?_
  rw [htop] at h1
  refine (next_does h1).bind fun st2 ⟨h2, _⟩ => ?_
  have hct : closeType kIf = .tIfEnd := by decide
  simp only [hct, show (ItemType.tIfEnd == ItemType.tElseif) = false by decide,
    show (ItemType.tIfEnd == ItemType.tElse) = false by decide, beq_self_eq_true, Bool.false_eq_true, if_false, if_true]
  refine (expect_does h2 rfl).bind fun st3 h3 => ?_
  simp only [condsTail, nl_append_nil]
  exact Does.ret h3.up

theorem stops_head {untl : List ItemType} {g : Tag} (h : Stops untl g) (qg : Nat) :
    ∃ nxt s', g.items qg = nxt :: s' ∧ nxt.typ ≠ .tText ∧ nxt.typ ≠ .tComment := by
  rcases stops_items h qg with ⟨rfl, _⟩ | ⟨_, k, more, hit, _⟩
  · exact ⟨_, _, rfl, by simp, by simp⟩
  · exact ⟨_, _, hit, by simp, by simp⟩

theorem blk_done (ef : Nat) (t : Bytes) : BlkSpec pf ef (.done t) := by
  intro g untl q fuel lpos nodes st rest hst hu hin hpc hs hf
  have hcl : itemsSegs q (closeBlk (.done t) g) = textItem t (q + t.length) ++ g.items (q + t.length) := by
    simp [closeBlk, initBlk, Blk.trail, itemsSegs]
  rw [hcl] at hs hf ⊢
  obtain ⟨nxt, s', hg, hnt, hnc⟩ := stops_head hst (q + t.length)
  have hlen : lenBlk (.done t) = t.length := by simp [lenBlk, initBlk, Blk.trail, lenS, srcSegs]
  rw [hlen]
  rw [hg] at hs hf
  obtain ⟨st1, fuel1, lpos1, hit, hs1, hp1, hfr1, hfu1, hlp1⟩ := text_iter pf (ef + 4) fuel untl lpos nodes st t (q + t.length)
    nxt (s' ++ rest) hpc (by simpa using hs) hnt hnc hu.1 (by omega)
  obtain ⟨f, rfl⟩ : ∃ f, fuel1 = f + 3 := ⟨fuel1 - 3, by omega⟩
  obtain ⟨st2, hl2, hs2, ht2, hfr2⟩ := stop_iter pf (ef + 4) f untl lpos1 (nodes.append (textNL t (q + t.length))) st1 g
    (q + t.length) rest hst hu hp1 (by rw [hs1, hg]; simp)
  refine ⟨st2, ?_, hs2, ht2, hfr1.trans hfr2⟩
  rw [hit, hl2]
  have e1 : lpos1.getD (headPos (g.items (q + t.length))) =
      lpos.getD (headPos (textItem t (q + t.length) ++ g.items (q + t.length))) := by
    rw [hg]
    have : headPos (textItem t (q + t.length) ++ nxt :: s') = headPos (textItem t (q + t.length) ++ nxt :: (s' ++ rest)) := by
      cases textItem t (q + t.length) <;> rfl
    rw [this, ← hlp1]; rfl
  rw [e1]
  simp [nodesBlk]

theorem word_head (q : Nat) (t w : Bytes) (es : List Elem) (sc : Bool) (rest : List Seg) :
    ∃ s0, itemsSegs q ((t, Tag.open (.word w :: es) sc) :: rest) = textItem t (q + t.length) ++
      ⟨.tLeftDelim, q + t.length + 1, [123]⟩ :: ⟨wordType w, q + t.length + 1 + w.length, w⟩ :: s0 :=
  ⟨_, by simp only [itemsSegs, Tag.items, itemsEs, Elem.items, List.append_assoc, List.cons_append, List.nil_append]; rfl⟩

/-- the first tokens of a command: `{` and a token that is in no end-token set -/
theorem segsCmd_items (q : Nat) (t : Bytes) (c : Cmd) :
    ∃ k s0, itemsSegs q (segsCmd t c) = textItem t (q + t.length) ++ ⟨.tLeftDelim, q + t.length + 1, [123]⟩ :: k :: s0 ∧
      (k.typ = .tDollarIdent ∨ k.typ = .tIf ∨ k.typ = .tForeach ∨ k.typ = .tLet ∨ k.typ = .tSwitch ∨ k.typ = .tCall) := by
  have hIf : wordType kIf = .tIf := by decide
  have hFor : wordType kForeach = .tForeach := by decide
  have hLet : wordType kLet = .tLet := by decide
  have hSw : wordType kSwitch = .tSwitch := by decide
  have hCall : wordType kCall = .tCall := by decide
  cases c with
  | print id =>
    refine ⟨⟨.tDollarIdent, q + t.length + 1 + 1 + id.length, 36 :: id⟩,
      [⟨.tRightDelim, q + t.length + 1 + (srcEs [Elem.dollar id]).length + 1, [125]⟩], ?_, Or.inl rfl⟩
    simp only [segsCmd, printTag, itemsSegs, Tag.items, itemsEs, Elem.items, List.append_assoc, List.cons_append,
      List.nil_append]
    rfl
  | ifc e b tl =>
    obtain ⟨s0, h⟩ := word_head q t kIf [.sp, e.elem] false (initBlk b ++ [(b.trail, tl.head)] ++ segsTail tl)
    exact ⟨_, s0, by rw [segsCmd]; exact h, Or.inr (Or.inl hIf)⟩
  | foreach x e b =>
    obtain ⟨s0, h⟩ := word_head q t kForeach _ false (initBlk b ++ [(b.trail, .close kForeach)])
    exact ⟨_, s0, by rw [segsCmd]; exact h, Or.inr (Or.inr (Or.inl hFor))⟩
  | foreachE x e b ie =>
    obtain ⟨s0, h⟩ := word_head q t kForeach _ false
      (initBlk b ++ [(b.trail, ifemptyTag)] ++ (initBlk ie ++ [(ie.trail, .close kForeach)]))
    exact ⟨_, s0, by rw [segsCmd]; exact h, Or.inr (Or.inr (Or.inl hFor))⟩
  | letv x e =>
    obtain ⟨s0, h⟩ := word_head q t kLet _ true []
    exact ⟨_, s0, by rw [segsCmd]; exact h, Or.inr (Or.inr (Or.inr (Or.inl hLet)))⟩
  | letc x b =>
    obtain ⟨s0, h⟩ := word_head q t kLet _ false (initBlk b ++ [(b.trail, .close kLet)])
    exact ⟨_, s0, by rw [segsCmd]; exact h, Or.inr (Or.inr (Or.inr (Or.inl hLet)))⟩
  | switch e cs =>
    obtain ⟨s0, h⟩ := word_head q t kSwitch _ false (([], cs.head) :: segsCases cs)
    exact ⟨_, s0, by rw [segsCmd]; exact h, Or.inr (Or.inr (Or.inr (Or.inr (Or.inl hSw))))⟩
  | call name ps =>
    obtain ⟨s0, h⟩ := word_head q t kCall _ false (segsParams ps ++ [([], .close kCall)])
    exact ⟨_, s0, by rw [segsCmd]; exact h, Or.inr (Or.inr (Or.inr (Or.inr (Or.inr hCall))))⟩
  | callSelf name =>
    obtain ⟨s0, h⟩ := word_head q t kCall _ true []
    exact ⟨_, s0, by rw [segsCmd]; exact h, Or.inr (Or.inr (Or.inr (Or.inr (Or.inr hCall))))⟩
  | callAll name =>
    obtain ⟨s0, h⟩ := word_head q t kCall _ true []
    exact ⟨_, s0, by rw [segsCmd]; exact h, Or.inr (Or.inr (Or.inr (Or.inr (Or.inr hCall))))⟩

theorem blk_cons (ef : Nat) (t : Bytes) (c : Cmd) (r : Blk) (hc : CmdSpec pf ef c) (hr : BlkSpec pf ef r) :
    BlkSpec pf ef (.cons t c r) := by
  intro g untl q fuel lpos nodes st rest hst hu hin hpc hs hf
  have hcl : itemsSegs q (closeBlk (.cons t c r) g) =
      itemsSegs q (segsCmd t c) ++ itemsSegs (q + lenS (segsCmd t c)) (closeBlk r g) := by
    simp only [closeBlk, initBlk, Blk.trail, List.append_assoc, itemsSegs_append, lenS]
  obtain ⟨k, s0, hcs, hk⟩ := segsCmd_items q t c
  have hku : untl.contains k.typ = false := by
    rcases hk with h | h | h | h | h | h <;> rw [h]
    · exact hu.2.2.1
    · exact hu.2.2.2.1
    · exact hu.2.2.2.2.1
    · exact hu.2.2.2.2.2.1
    · exact hu.2.2.2.2.2.2.1
    · exact hu.2.2.2.2.2.2.2
  rw [hcl] at hs hf ⊢
  have hlc : (itemsSegs q (segsCmd t c)).length = (textItem t (q + t.length)).length + 2 + s0.length := by
    rw [hcs]; simp; omega
  rw [hcs] at hs
  obtain ⟨st1, fuel1, lpos1, hit, hs1, hp1, hfr1, hfu1, hlp1⟩ := text_iter pf (ef + 4) fuel untl lpos nodes st t (q + t.length)
    ⟨.tLeftDelim, q + t.length + 1, [123]⟩
    (k :: s0 ++ (itemsSegs (q + lenS (segsCmd t c)) (closeBlk r g) ++ rest)) hpc (by simpa using hs) (by simp) (by simp) hu.1
    (by simp only [List.length_append] at hf; omega)
  obtain ⟨f, rfl⟩ : ∃ f, fuel1 = f + 3 := ⟨fuel1 - 3, by simp only [List.length_append] at hf; omega⟩
  obtain ⟨st2, hl2, hs2, hp2, hfr2⟩ := tag_round pf (ef := ef + 4) (f := f + 1) (untl := untl) (lpos := lpos1)
    (nodes := nodes.append (textNL t (q + t.length))) (cs := []) (fun _ h => absurd h (by simp))
    (ld := ⟨.tLeftDelim, q + t.length + 1, [123]⟩) (k := k) rfl hu.2.1 hku (n := nodeCmd q t c)
    (rest' := itemsSegs (q + lenS (segsCmd t c)) (closeBlk r g) ++ rest) hp1
    (show stream st1.p = [] ++ _ :: k :: (s0 ++ (itemsSegs (q + lenS (segsCmd t c)) (closeBlk r g) ++ rest)) by simpa using hs1)
    (by simp)
    (by
      intro st2 hs2 hp2 hfr
      have := hc q t (f + 1) st2 (itemsSegs (q + lenS (segsCmd t c)) (closeBlk r g) ++ rest)
        (Fr.clean (hfr1.trans hfr) hin) (by omega)
        (by rw [hcs, drop_len_succ, hs2]; simp)
        (by simp only [List.length_append] at hf; omega)
      exact this)
  have hl2 : itemListLoop pf (ef + 4) (f + 3) untl lpos1 (nodes.append (textNL t (q + t.length))) st1 =
      itemListLoop pf (ef + 4) (f + 2) untl (some (lpos1.getD (q + t.length + 1)))
        ((nodes.append (textNL t (q + t.length))).append (.cons (nodeCmd q t c) .nil)) st2 := hl2
  obtain ⟨st3, hl3, hs3, ht3, hfr3⟩ := hr g untl (q + lenS (segsCmd t c)) (f + 2)
    (some (lpos1.getD (q + t.length + 1)))
    ((nodes.append (textNL t (q + t.length))).append (.cons (nodeCmd q t c) .nil)) st2 rest hst hu
    (Fr.clean (hfr1.trans hfr2) hin) hp2 hs2 (by simp only [List.length_append] at hf; omega)
  have hlen : lenBlk (.cons t c r) = lenS (segsCmd t c) + lenBlk r := by
    simp [lenBlk, initBlk, Blk.trail, lenS, srcSegs_append]; omega
  refine ⟨st3, ?_, by rw [hlen, ← Nat.add_assoc]; exact hs3, by rw [hlen, ← Nat.add_assoc]; exact ht3,
    (hfr1.trans hfr2).trans hfr3⟩
  rw [hit, hl2, hl3]
  have e1 : lpos1.getD (q + t.length + 1) =
      lpos.getD (headPos (itemsSegs q (segsCmd t c) ++ itemsSegs (q + lenS (segsCmd t c)) (closeBlk r g))) := by
    have := hlp1
    simp only at this
    rw [this, hcs]
    cases textItem t (q + t.length) <;> rfl
  simp only [Option.getD_some, e1, nodesBlk, nl_append_assoc, NodeList.append]


theorem items_sp (q : Nat) : Elem.sp.items q = [] := rfl
theorem items_word (q : Nat) (w : Bytes) : (Elem.word w).items q = [⟨wordType w, q + w.length, w⟩] := rfl
theorem items_dollar (q : Nat) (id : Bytes) : (Elem.dollar id).items q = [⟨.tDollarIdent, q + 1 + id.length, 36 :: id⟩] := rfl
theorem items_colon (q : Nat) : Elem.colon.items q = [⟨.tColon, q + 1, [58]⟩] := rfl
theorem items_dotIdent (q : Nat) (id : Bytes) : (Elem.dotIdent id).items q = [⟨.tDotIdent, q + 1 + id.length, 46 :: id⟩] := rfl
theorem src_dotIdent (id : Bytes) : (Elem.dotIdent id).src = 46 :: id := rfl
theorem items_eq (q : Nat) : Elem.eq.items q = [⟨.tEquals, q + 1, [61]⟩] := rfl
theorem items_str (q : Nat) (b : Bytes) : (Elem.str b).items q = [⟨.tString, q + 2 + b.length, 34 :: (b ++ [34])⟩] := rfl
theorem src_eq : Elem.eq.src = [61] := rfl
theorem src_str (b : Bytes) : (Elem.str b).src = 34 :: (b ++ [34]) := rfl
theorem src_sp : Elem.sp.src = [32] := rfl
theorem src_word (w : Bytes) : (Elem.word w).src = w := rfl
theorem src_dollar (id : Bytes) : (Elem.dollar id).src = 36 :: id := rfl
theorem src_colon : Elem.colon.src = [58] := rfl
theorem len_kIf : kIf.length = 2 := rfl
theorem len_kElseif : kElseif.length = 6 := rfl
theorem len_kElse : kElse.length = 4 := rfl
theorem len_kForeach : kForeach.length = 7 := rfl
theorem len_kIfempty : kIfempty.length = 7 := rfl
theorem len_kLet : kLet.length = 3 := rfl
theorem len_kwIn : kwIn.length = 2 := rfl

/-- unfold the items / the source of a concrete tag -/
macro "tag_unfold" : tactic => `(tactic|
  simp only [Tag.items, itemsEs, items_sp, items_word, items_dollar, items_colon, items_dotIdent, elem_items, srcEs, src_sp,
    src_word, src_dollar, src_colon, src_dotIdent, items_eq, items_str, src_eq, src_str, Tag.src, closeBytes, List.length_cons, List.length_nil, List.length_append, List.cons_append,
    List.nil_append, List.append_nil, Bool.false_eq_true, if_false, if_true, len_kIf, len_kElseif, len_kElse, len_kForeach,
    len_kIfempty, len_kLet, len_kwIn])

/-- two explicit item lists are equal: item by item, the positions by `omega` -/
macro "arith_items" : tactic => `(tactic|
  (simp only [List.cons.injEq, Item.mk.injEq, and_true, true_and]
   repeat' constructor
   all_goals first | omega | decide | (congr 1; omega) | rfl))

theorem printTag_items (id : Bytes) (Q : Nat) :
    (printTag id).items Q = [⟨.tLeftDelim, Q + 1, [123]⟩, ⟨.tDollarIdent, Q + 2 + id.length, 36 :: id⟩,
      ⟨.tRightDelim, Q + 3 + id.length, [125]⟩] := by
  unfold printTag
  tag_unfold
  arith_items

theorem ifTag_items (e : SExp) (Q : Nat) :
    (ifTag e).items Q = [⟨.tLeftDelim, Q + 1, [123]⟩, ⟨.tIf, Q + 3, kIf⟩, exprItem (Q + 4 + e.elem.src.length) e,
      ⟨.tRightDelim, Q + 5 + e.elem.src.length, [125]⟩] := by
  unfold ifTag
  tag_unfold
  arith_items

theorem elseifTag_items (e : SExp) (Q : Nat) :
    (elseifTag e).items Q = [⟨.tLeftDelim, Q + 1, [123]⟩, ⟨.tElseif, Q + 7, kElseif⟩, exprItem (Q + 8 + e.elem.src.length) e,
      ⟨.tRightDelim, Q + 9 + e.elem.src.length, [125]⟩] := by
  unfold elseifTag
  tag_unfold
  arith_items

theorem elseTag_items (Q : Nat) :
    elseTag.items Q = [⟨.tLeftDelim, Q + 1, [123]⟩, ⟨.tElse, Q + 5, kElse⟩, ⟨.tRightDelim, Q + 6, [125]⟩] := by
  unfold elseTag
  tag_unfold
  arith_items

theorem ifemptyTag_items (Q : Nat) :
    ifemptyTag.items Q = [⟨.tLeftDelim, Q + 1, [123]⟩, ⟨.tIfempty, Q + 8, kIfempty⟩, ⟨.tRightDelim, Q + 9, [125]⟩] := by
  unfold ifemptyTag
  tag_unfold
  arith_items

theorem closeIf_items (Q : Nat) :
    (Tag.close kIf).items Q = [⟨.tLeftDelim, Q + 1, [123]⟩, ⟨.tIfEnd, Q + 4, 47 :: kIf⟩, ⟨.tRightDelim, Q + 5, [125]⟩] := by
  tag_unfold
  arith_items

theorem closeForeach_items (Q : Nat) :
    (Tag.close kForeach).items Q = [⟨.tLeftDelim, Q + 1, [123]⟩, ⟨.tForeachEnd, Q + 9, 47 :: kForeach⟩,
      ⟨.tRightDelim, Q + 10, [125]⟩] := by
  tag_unfold
  arith_items

theorem closeLet_items (Q : Nat) :
    (Tag.close kLet).items Q = [⟨.tLeftDelim, Q + 1, [123]⟩, ⟨.tLetEnd, Q + 5, 47 :: kLet⟩, ⟨.tRightDelim, Q + 6, [125]⟩] := by
  tag_unfold
  arith_items

theorem foreachTag_items (x : Bytes) (e : SExp) (Q : Nat) :
    (foreachTag x e).items Q = [⟨.tLeftDelim, Q + 1, [123]⟩, ⟨.tForeach, Q + 8, kForeach⟩,
      ⟨.tDollarIdent, Q + 10 + x.length, 36 :: x⟩, ⟨.tIdent, Q + 13 + x.length, kwIn⟩,
      exprItem (Q + 14 + x.length + e.elem.src.length) e, ⟨.tRightDelim, Q + 15 + x.length + e.elem.src.length, [125]⟩] := by
  unfold foreachTag
  tag_unfold
  arith_items

theorem letvTag_items (x : Bytes) (e : SExp) (Q : Nat) :
    (letvTag x e).items Q = [⟨.tLeftDelim, Q + 1, [123]⟩, ⟨.tLet, Q + 4, kLet⟩,
      ⟨.tDollarIdent, Q + 6 + x.length, 36 :: x⟩, ⟨.tColon, Q + 7 + x.length, [58]⟩,
      exprItem (Q + 8 + x.length + e.elem.src.length) e, ⟨.tRightDelimEnd, Q + 11 + x.length + e.elem.src.length, [47, 125]⟩] := by
  unfold letvTag
  tag_unfold
  arith_items

theorem letcTag_items (x : Bytes) (Q : Nat) :
    (letcTag x).items Q = [⟨.tLeftDelim, Q + 1, [123]⟩, ⟨.tLet, Q + 4, kLet⟩,
      ⟨.tDollarIdent, Q + 6 + x.length, 36 :: x⟩, ⟨.tRightDelim, Q + 7 + x.length, [125]⟩] := by
  unfold letcTag
  tag_unfold
  arith_items

theorem len_kSwitch : kSwitch.length = 6 := rfl
theorem len_kCase : kCase.length = 4 := rfl
theorem len_kDefault : kDefault.length = 7 := rfl

theorem switchTag_items (e : SExp) (Q : Nat) :
    (switchTag e).items Q = [⟨.tLeftDelim, Q + 1, [123]⟩, ⟨.tSwitch, Q + 7, kSwitch⟩, exprItem (Q + 8 + e.elem.src.length) e,
      ⟨.tRightDelim, Q + 9 + e.elem.src.length, [125]⟩] := by
  unfold switchTag
  tag_unfold
  simp only [len_kSwitch]
  arith_items

theorem caseTag_items (e : SExp) (Q : Nat) :
    (caseTag e).items Q = [⟨.tLeftDelim, Q + 1, [123]⟩, ⟨.tCase, Q + 5, kCase⟩, exprItem (Q + 6 + e.elem.src.length) e,
      ⟨.tRightDelim, Q + 7 + e.elem.src.length, [125]⟩] := by
  unfold caseTag
  tag_unfold
  simp only [len_kCase]
  arith_items

theorem defaultTag_items (Q : Nat) :
    defaultTag.items Q = [⟨.tLeftDelim, Q + 1, [123]⟩, ⟨.tDefault, Q + 8, kDefault⟩, ⟨.tRightDelim, Q + 9, [125]⟩] := by
  unfold defaultTag
  tag_unfold
  simp only [len_kDefault]
  arith_items

theorem closeSwitch_items (Q : Nat) :
    (Tag.close kSwitch).items Q = [⟨.tLeftDelim, Q + 1, [123]⟩, ⟨.tSwitchEnd, Q + 8, 47 :: kSwitch⟩, ⟨.tRightDelim, Q + 9, [125]⟩] := by
  tag_unfold
  simp only [len_kSwitch]
  arith_items

theorem len_kCall : kCall.length = 4 := rfl
theorem len_kParam : kParam.length = 5 := rfl

theorem callTag_items (name : Bytes) (Q : Nat) :
    (callTag name).items Q = [⟨.tLeftDelim, Q + 1, [123]⟩, ⟨.tCall, Q + 5, kCall⟩,
      ⟨.tDotIdent, Q + 7 + name.length, 46 :: name⟩, ⟨.tRightDelim, Q + 8 + name.length, [125]⟩] := by
  unfold callTag
  tag_unfold
  simp only [len_kCall]
  arith_items

theorem callSelfTag_items (name : Bytes) (Q : Nat) :
    (callSelfTag name).items Q = [⟨.tLeftDelim, Q + 1, [123]⟩, ⟨.tCall, Q + 5, kCall⟩,
      ⟨.tDotIdent, Q + 7 + name.length, 46 :: name⟩, ⟨.tRightDelimEnd, Q + 10 + name.length, [47, 125]⟩] := by
  unfold callSelfTag
  tag_unfold
  simp only [len_kCall]
  arith_items

theorem len_kData : kData.length = 4 := rfl
theorem len_kAll : kAll.length = 3 := rfl

theorem callAllTag_items (name : Bytes) (Q : Nat) :
    (callAllTag name).items Q = [⟨.tLeftDelim, Q + 1, [123]⟩, ⟨.tCall, Q + 5, kCall⟩,
      ⟨.tDotIdent, Q + 7 + name.length, 46 :: name⟩, ⟨.tIdent, Q + 12 + name.length, kData⟩,
      ⟨.tEquals, Q + 13 + name.length, [61]⟩, ⟨.tString, Q + 18 + name.length, 34 :: (kAll ++ [34])⟩,
      ⟨.tRightDelimEnd, Q + 21 + name.length, [47, 125]⟩] := by
  unfold callAllTag
  tag_unfold
  simp only [len_kCall, len_kData, len_kAll]
  arith_items

theorem paramTag_items (k : Bytes) (e : SExp) (P : Nat) :
    (paramTag k e).items P = [⟨.tLeftDelim, P + 1, [123]⟩, ⟨.tParam, P + 6, kParam⟩, ⟨wordType k, P + 7 + k.length, k⟩,
      ⟨.tColon, P + 8 + k.length, [58]⟩, exprItem (P + 9 + k.length + e.elem.src.length) e,
      ⟨.tRightDelimEnd, P + 12 + k.length + e.elem.src.length, [47, 125]⟩] := by
  unfold paramTag
  tag_unfold
  simp only [len_kParam]
  arith_items

theorem closeCall_items (Q : Nat) :
    (Tag.close kCall).items Q = [⟨.tLeftDelim, Q + 1, [123]⟩, ⟨.tCallEnd, Q + 6, 47 :: kCall⟩, ⟨.tRightDelim, Q + 7, [125]⟩] := by
  tag_unfold
  simp only [len_kCall]
  arith_items

theorem get_run (st : FState) : (get : FP FState) st = .ok (st, st) := rfl

theorem fpure_run {α : Type} (a : α) (st : FState) : (pure a : FP α) st = .ok (a, st) := rfl

theorem tail1_does (c : UInt8) (r : Bytes) (st : FState) : Does (FileParser.tail1 (c :: r)) st r (st = ·) :=
  Does.mk rfl rfl

theorem Tag.items_cons (g : Tag) (Q : Nat) : ∃ x r, g.items Q = x :: r := by
  cases g <;> exact ⟨_, _, rfl⟩

/-- how every command is proved: its segments are its first tag `g` behind the text and the segments `segs'` behind
    that; `itemList` has read the `{` of `g`, so `beginTag` stands in front of the other tokens of `g` -/
theorem CmdSpec.intro {ef : Nat} {c : Cmd} (g : Tag) (segs' : List Seg) (hseg : ∀ t, segsCmd t c = (t, g) :: segs')
    (H : ∀ (q : Nat) (t : Bytes) (fuel : Nat) (st : FState) (rest : List Item), Clean st →
      Strm st 2 ((g.items (q + t.length)).drop 1 ++ (itemsSegs (q + t.length + g.src.length) segs' ++ rest)) st →
      4 * ((g.items (q + t.length)).length + (itemsSegs (q + t.length + g.src.length) segs').length) + 8 ≤ fuel →
      Does (beginTag pf (ef + 4) fuel) st (some (nodeCmd q t c)) (Strm st 2 rest)) : CmdSpec pf ef c := by
  intro q t fuel st rest hin hpc hs hf
  rw [hseg] at hs hf
  obtain ⟨x, r, hg⟩ := g.items_cons (q + t.length)
  simp only [itemsSegs, List.append_assoc, hg, List.cons_append] at hs hf
  rw [drop_len_succ] at hs
  refine (H q t fuel st rest hin ⟨by simpa [hg] using hs, hpc, Nat.le_refl 2, Fr.refl st⟩ ?_).fin
  rw [hg]
  simp only [List.length_append, List.length_cons] at hf ⊢
  omega

theorem cmd_letv (ef : Nat) (x : Bytes) (e : SExp) (he : e.ok) : CmdSpec pf ef (.letv x e) := by
  refine CmdSpec.intro pf (letvTag x e) [] (fun _ => by rw [segsCmd]) fun q t fuel st rest hin hs hf => ?_
  rw [letvTag_items x e (q + t.length)] at hs hf
  simp only [List.drop, List.cons_append, List.nil_append, itemsSegs] at hs hf
  obtain ⟨f, rfl⟩ : ∃ f, fuel = f + 2 := ⟨fuel - 2, by simp only [List.length_cons, List.length_nil] at hf; omega⟩
  show Does (beginTag pf (ef + 4) ((f + 1) + 1)) st _ _
  unfold beginTag
  refine (next_does hs).bind fun st1 ⟨h1, _⟩ => ?_
  simp only
  refine Does.bind (v := nodeCmd q t (.letv x e)) ?_ fun _ h => Does.ret h
  unfold parseLet
  refine (expect_does h1 rfl).bind fun st2 h2 => ?_
  refine (peek_does h2).bind fun st3 h3 => ?_
  simp only [beq_self_eq_true, if_true]
  refine (next_does h3).bind fun st4 ⟨h4, _⟩ => ?_
  refine (tail1_does _ _ _).bind fun _ h => ?_
  subst h
  refine (parseExpr0_does pf ef e h4 he (Or.inr rfl)).bind fun st5 h5 => ?_
  refine (expect_does h5 rfl).bind fun st6 h6 => ?_
  exact Does.ret h6.up


theorem notmsg_does (tok : Item) {st0 st : FState} (hc : Clean st0) (hfr : Fr st0 st) :
    Does ((do let s ← get; if s.inmsg = true then FileParser.unexpected tok else pure ()) : FP Unit) st () (st = ·) := by
  refine Does.mk (st' := st) ?_ rfl
  rw [bind_run, get_run]
  simp only [(Fr.clean hfr hc).1, Bool.false_eq_true, if_false]
  rfl

theorem cmd_print (ef : Nat) (id : Bytes) : CmdSpec pf ef (.print id) := by
  refine CmdSpec.intro pf (printTag id) [] (fun _ => by rw [segsCmd]) fun q t fuel st rest hin hs hf => ?_
  rw [printTag_items id (q + t.length)] at hs hf
  simp only [List.drop, List.cons_append, List.nil_append, itemsSegs] at hs hf
  obtain ⟨f, rfl⟩ : ∃ f, fuel = f + 2 := ⟨fuel - 2, by simp only [List.length_cons, List.length_nil] at hf; omega⟩
  exact beginTag_dollar pf ef f hs rfl rfl rfl

/-- `parseAttrs` before `}` / `/}`: no (more) attributes -/
theorem parseAttrs_term (allowed : List Bytes) (f : Nat) {st0 st : FState} {k : Nat} {rd : Item} {s : List Item}
    (h : Strm st0 k (rd :: s) st) (hrd : isTerm rd.typ) (result : List (Bytes × Bytes) := []) :
    Does (parseAttrs allowed (f + 1) result) st result (Strm st0 (max k 1) (rd :: s)) := by
  unfold parseAttrs
  refine (next_does h).bind fun st1 ⟨h1, ht1⟩ => ?_
  have hc : (rd.typ == ItemType.tIdent) = false ∧ (rd.typ == ItemType.tRightDelim || rd.typ == ItemType.tRightDelimEnd) = true := by
    rcases hrd with e | e <;> rw [e] <;> decide
  simp only [hc.1, hc.2, Bool.false_eq_true, if_false, if_true]
  have hk := h.k2
  refine (backup_does h1 (by omega)).bind fun st2 h2 => ?_
  rw [ht1] at h2
  exact Does.ret (h2.mono (by omega))

/-- a body closed by the tag `g`, in front of more segments: the items of the closed body come first, the others begin
    behind `g` -/
theorem itemsSegs_closeBlk (Q : Nat) (b : Blk) (g : Tag) (more : List Seg) :
    itemsSegs Q (initBlk b ++ [(b.trail, g)] ++ more) =
      itemsSegs Q (closeBlk b g) ++ itemsSegs (Q + lenBlk b + g.src.length) more := by
  simp only [closeBlk, itemsSegs_append, lenBlk, lenS, srcSegs_append, srcSegs, List.length_append, List.append_nil,
    Nat.add_assoc]

theorem closeBlk_len (q : Nat) (b : Blk) (g : Tag) :
    (g.items (q + lenBlk b)).length ≤ (itemsSegs q (closeBlk b g)).length := by
  simp only [closeBlk, itemsSegs_append, itemsSegs, lenBlk, lenS, List.length_append, List.length_nil, Nat.add_assoc]
  omega

/-- `itemList(untl…)` on the tokens of a block closed by the tag `g` (a tag, not the end of the input): the list node
    of the block; the `{` and the command token `k` of `g` are consumed, `k` is the token read last -/
theorem BlkSpec.does {ef : Nat} {b : Blk} (hb : BlkSpec pf ef b) (g : Tag) (untl : List ItemType) (q fuel : Nat)
    (lpos : Option Nat) (nodes : NodeList) {st0 st : FState} {n : Nat} {ld k : Item} {more rest : List Item}
    (hg : g.items (q + lenBlk b) = ld :: k :: more) (hst : Stops untl g) (hu : untlOK untl) (hc : Clean st0)
    (h : Strm st0 n (itemsSegs q (closeBlk b g) ++ rest) st)
    (hf : 4 * (itemsSegs q (closeBlk b g)).length + 16 ≤ fuel) :
    Does (itemListLoop pf (ef + 4) fuel untl lpos nodes) st
      (.list (lpos.getD (headPos (itemsSegs q (closeBlk b g)))) (nodes.append (nodesBlk q b)))
      fun st' => Strm st0 0 (more ++ rest) st' ∧ top st'.p = k := by
  obtain ⟨st', hl, hs, ht, hfr⟩ := hb g untl q fuel lpos nodes st rest hst hu (Fr.clean h.fr hc) (Nat.le_trans h.pc h.k2) h.eq hf
  have hne : g ≠ .eof := by intro e; rw [e] at hg; simp [Tag.items] at hg
  rw [hg] at hs ht
  exact Does.mk hl ⟨⟨hs, by rw [(ht hne).2]; exact Nat.le_refl 0, by omega, h.fr.trans hfr⟩, (ht hne).1⟩

theorem cmd_letc (ef : Nat) (x : Bytes) (b : Blk) (hb : BlkSpec pf ef b) : CmdSpec pf ef (.letc x b) := by
  refine CmdSpec.intro pf (letcTag x) (closeBlk b (.close kLet)) (fun _ => by rw [segsCmd]; rfl)
    fun q t fuel st rest hin hs hf => ?_
  rw [letcTag_items x (q + t.length)] at hs hf
  simp only [List.drop, List.cons_append, List.nil_append, List.length_cons, List.length_nil] at hs hf
  obtain ⟨f, rfl⟩ : ∃ f, fuel = f + 3 := ⟨fuel - 3, by omega⟩
  show Does (beginTag pf (ef + 4) ((f + 2) + 1)) st _ _
  unfold beginTag
  refine (next_does hs).bind fun st1 ⟨h1, _⟩ => ?_
  simp only
  refine Does.bind (v := nodeCmd q t (.letc x b)) ?_ fun _ h => Does.ret h
  show Does (parseLet pf (ef + 4) ((f + 1) + 1) _) st1 _ _
  unfold parseLet
  refine (expect_does h1 rfl).bind fun st2 h2 => ?_
  refine (peek_does h2).bind fun st3 h3 => ?_
  simp only [show (ItemType.tRightDelim == ItemType.tColon) = false by decide, Bool.false_eq_true, if_false]
  refine (parseAttrs_term [kKind] f h3 (Or.inl rfl)).bind fun st4 h4 => ?_
  refine (next_does h4).bind fun st5 ⟨h5, _⟩ => ?_
  simp only [beq_self_eq_true, if_true]
  refine (tail1_does _ _ _).bind fun _ h => ?_
  subst h
  refine (hb.does pf (.close kLet) [.tLetEnd] (q + t.length + (letcTag x).src.length) (f + 1) none .nil (closeLet_items _)
    (by show List.contains _ (closeType kLet) = true; decide) (by decide) hin h5
    (by omega)).bind fun st6 ⟨h6, _⟩ => ?_
  refine (expect_does h6 rfl).bind fun st7 h7 => ?_
  exact Does.ret h7.up


theorem cmd_foreach (ef : Nat) (x : Bytes) (e : SExp) (b : Blk) (he : e.ok) (hb : BlkSpec pf ef b) :
    CmdSpec pf ef (.foreach x e b) := by
  refine CmdSpec.intro pf (foreachTag x e) (closeBlk b (.close kForeach)) (fun _ => by rw [segsCmd]; rfl)
    fun q t fuel st rest hin hs hf => ?_
  rw [foreachTag_items x e (q + t.length)] at hs hf
  simp only [List.drop, List.cons_append, List.nil_append, List.length_cons, List.length_nil] at hs hf
  obtain ⟨f, rfl⟩ : ∃ f, fuel = f + 3 := ⟨fuel - 3, by omega⟩
  show Does (beginTag pf (ef + 4) ((f + 2) + 1)) st _ _
  unfold beginTag
  refine (next_does hs).bind fun st1 ⟨h1, _⟩ => ?_
  simp only
  refine (notmsg_does _ hin h1.fr).bind fun _ h => ?_
  subst h
  refine Does.bind (v := nodeCmd q t (.foreach x e b)) ?_ fun _ h => Does.ret h
  show Does (parseFor pf (ef + 4) ((f + 1) + 1) _) st1 _ _
  unfold parseFor
  refine (expect_does h1 rfl).bind fun st2 h2 => ?_
  refine (expect_does h2 rfl).bind fun st3 h3 => ?_
  simp only [show (kwIn != kIn) = false by decide, Bool.false_eq_true, if_false]
  refine (parseExpr0_does pf ef e h3 he (Or.inl rfl)).bind fun st4 h4 => ?_
  refine (expect_does h4 rfl).bind fun st5 h5 => ?_
  refine (hb.does pf (.close kForeach) [.tIfempty, .tForeachEnd, .tForEnd] (q + t.length + (foreachTag x e).src.length) (f + 1)
    none .nil (closeForeach_items _) (by show List.contains _ (closeType kForeach) = true; decide) (by decide) hin h5
    (by omega)).bind fun st6 ⟨h6, ht6⟩ => ?_
  refine (backup_does h6 (by omega)).bind fun st7 h7 => ?_
  rw [ht6] at h7
  refine (next_does h7).bind fun st8 ⟨h8, _⟩ => ?_
  simp only [show (ItemType.tForeachEnd == ItemType.tIfempty) = false by decide, Bool.false_eq_true, if_false]
  refine Does.ret_bind ((expect_does h8 rfl).bind fun st9 h9 => ?_)
  refine (tail1_does _ _ _).bind fun _ h => ?_
  subst h
  exact Does.ret h9.up

theorem cmd_foreachE (ef : Nat) (x : Bytes) (e : SExp) (b ie : Blk) (he : e.ok) (hb : BlkSpec pf ef b)
    (hie : BlkSpec pf ef ie) : CmdSpec pf ef (.foreachE x e b ie) := by
  refine CmdSpec.intro pf (foreachTag x e) (initBlk b ++ [(b.trail, ifemptyTag)] ++ closeBlk ie (.close kForeach))
    (fun _ => by rw [segsCmd]; rfl) fun q t fuel st rest hin hs hf => ?_
  rw [itemsSegs_closeBlk, foreachTag_items x e (q + t.length)] at hs hf
  simp only [List.drop, List.cons_append, List.nil_append, List.append_assoc, List.length_cons, List.length_nil, List.length_append] at hs hf
  obtain ⟨f, rfl⟩ : ∃ f, fuel = f + 3 := ⟨fuel - 3, by omega⟩
  show Does (beginTag pf (ef + 4) ((f + 2) + 1)) st _ _
  unfold beginTag
  refine (next_does hs).bind fun st1 ⟨h1, _⟩ => ?_
  simp only
  refine (notmsg_does _ hin h1.fr).bind fun _ h => ?_
  subst h
  refine Does.bind (v := nodeCmd q t (.foreachE x e b ie)) ?_ fun _ h => Does.ret h
  show Does (parseFor pf (ef + 4) ((f + 1) + 1) _) st1 _ _
  unfold parseFor
  refine (expect_does h1 rfl).bind fun st2 h2 => ?_
  refine (expect_does h2 rfl).bind fun st3 h3 => ?_
  simp only [show (kwIn != kIn) = false by decide, Bool.false_eq_true, if_false]
  refine (parseExpr0_does pf ef e h3 he (Or.inl rfl)).bind fun st4 h4 => ?_
  refine (expect_does h4 rfl).bind fun st5 h5 => ?_
  refine (hb.does pf ifemptyTag [.tIfempty, .tForeachEnd, .tForEnd] (q + t.length + (foreachTag x e).src.length) (f + 1)
    none .nil (ifemptyTag_items _) (by show List.contains _ (wordType kIfempty) = true; decide) (by decide) hin
    h5 (by omega)).bind fun st6 ⟨h6, ht6⟩ => ?_
  refine (backup_does h6 (by omega)).bind fun st7 h7 => ?_
  rw [ht6] at h7
  refine (next_does h7).bind fun st8 ⟨h8, _⟩ => ?_
  simp only [beq_self_eq_true, if_true]
  refine Does.assoc ((expect_does h8 rfl).bind fun st9 h9 => ?_)
  refine Does.assoc ((hie.does pf (.close kForeach) [.tForeachEnd, .tForEnd]
    (q + t.length + (foreachTag x e).src.length + lenBlk b + ifemptyTag.src.length) (f + 1) none .nil
    (closeForeach_items _) (by show List.contains _ (closeType kForeach) = true; decide) (by decide) hin h9
    (by omega)).bind fun st10 ⟨h10, _⟩ => ?_)
  refine Does.ret_bind ((expect_does h10 rfl).bind fun st11 h11 => ?_)
  refine (tail1_does _ _ _).bind fun _ h => ?_
  subst h
  exact Does.ret h11.up

theorem stops_tail (r : IfTail) : Stops [.tElseif, .tElse, .tIfEnd] r.head := by
  cases r with
  | fi => show List.contains _ (closeType kIf) = true; decide
  | els _ => show List.contains _ (wordType kElse) = true; decide
  | elif _ _ _ => show List.contains _ (wordType kElseif) = true; decide

theorem tail_head_items (r : IfTail) (q : Nat) : ∃ ld k more, r.head.items q = ld :: k :: more := by
  cases r with
  | fi => exact ⟨_, _, _, closeIf_items q⟩
  | els _ => exact ⟨_, _, _, elseTag_items q⟩
  | elif e _ _ => exact ⟨_, _, _, elseifTag_items e q⟩

/-- behind the condition of an `{if}`, `{elseif}` or `{else}` tag (`cond`: its node, none for `{else}`): the `}`, the
    body `b`, which the first tag of the tail `tl` closes, and `parseIf`'s loop on `tl` -/
theorem if_body (ef : Nat) (b : Blk) (tl : IfTail) (hb : BlkSpec pf ef b) (htl : TailSpec pf ef tl) (Q f pos : Nat)
    (conds : NodeList) (isElse : Bool) (cond : Option Expr) {st0 st : FState} {k P : Nat} {rest : List Item}
    (hie : isElse = false ∨ tl = .fi) (hin : Clean st0)
    (hs : Strm st0 k (⟨.tRightDelim, P, [125]⟩ :: (itemsSegs Q (initBlk b ++ [(b.trail, tl.head)] ++ segsTail tl) ++ rest)) st)
    (hf : 4 * (itemsSegs Q (initBlk b ++ [(b.trail, tl.head)] ++ segsTail tl)).length + 16 ≤ f) :
    Does (do
        let _ ← FileParser.expect .tRightDelim
        let body ← itemListLoop pf (ef + 4) f [.tElseif, .tElse, .tIfEnd] none .nil
        ifCont pf (ef + 4) f pos isElse (conds.append (.cons (.ifCond pos cond body) .nil))) st
      (.ifc pos (conds.append (.cons (.ifCond pos cond (.list (headPos (itemsSegs Q (closeBlk b tl.head))) (nodesBlk Q b)))
        (condsTail pos (Q + lenBlk b) tl)))) (Strm st0 2 rest) := by
  rw [itemsSegs_closeBlk] at hs hf
  simp only [List.length_append] at hf
  obtain ⟨ld, k', more, hg⟩ := tail_head_items tl (Q + lenBlk b)
  have hcl := closeBlk_len Q b tl.head
  refine (expect_does hs rfl).bind fun st1 h1 => ?_
  refine (hb.does pf tl.head _ Q f none .nil hg (stops_tail tl) (by decide) hin (h1.cast (List.append_assoc _ _ _))
    (by omega)).bind fun st2 ⟨h2, ht2⟩ => ?_
  obtain ⟨st', hc', hs', hp', hfr'⟩ := htl (Q + lenBlk b) f pos
    (conds.append (.cons (.ifCond pos cond (.list (headPos (itemsSegs Q (closeBlk b tl.head))) (nodesBlk Q b))) .nil))
    isElse st2 rest hie (Fr.clean h2.fr hin) (Nat.le_zero.mp h2.pc) (by rw [hg]; exact ht2) (by rw [hg]; exact h2.eq) (by omega)
  rw [nl_append_assoc] at hc'
  exact Does.mk hc' ⟨hs', hp', Nat.le_refl 2, h2.fr.trans hfr'⟩

theorem tail_els (ef : Nat) (b : Blk) (hb : BlkSpec pf ef b) : TailSpec pf ef (.els b) := by
  intro qt fuel pos conds isElse st rest hie hin hpc htop hs hf
  have hie' : isElse = false := by rcases hie with h | h <;> first | exact h | exact absurd h (by simp)
  subst hie'
  simp only [IfTail.head] at htop hs hf
  rw [elseTag_items qt] at htop hs hf
  simp only [List.drop, List.getD_cons_succ, List.getD_cons_zero, List.cons_append, List.nil_append, segsTail,
    List.length_cons, List.length_nil] at htop hs hf
  obtain ⟨f, rfl⟩ : ∃ f, fuel = f + 1 := ⟨fuel - 1, by omega⟩
  refine Does.fin ?_
  unfold ifCont
  refine (backup_does (k := 0) ⟨hs, by omega, by omega, Fr.refl st⟩ (by omega)).bind fun st1 h1 => ?_
  rw [htop] at h1
  refine (next_does h1).bind fun st2 ⟨h2, _⟩ => ?_
  simp only [show (ItemType.tElse == ItemType.tElseif) = false by decide, beq_self_eq_true, Bool.false_eq_true, if_false,
    if_true]
  rw [ifLoop_succ]
  simp only [Bool.not_true, Bool.false_eq_true, if_false]
  refine Does.ret_bind ((if_body pf ef b .fi hb (tail_fi pf ef) (qt + elseTag.src.length) f pos conds true none
    (P := qt + 6) (Or.inr rfl) hin (h2.cast (by simp only [IfTail.head, segsTail, List.append_nil]))
    (by simp only [IfTail.head, segsTail, List.append_nil]; omega)).val ?_)
  simp only [condsTail, IfTail.head]

theorem tail_elif (ef : Nat) (e : SExp) (b : Blk) (r : IfTail) (he : e.ok) (hb : BlkSpec pf ef b)
    (hrs : TailSpec pf ef r) : TailSpec pf ef (.elif e b r) := by
  intro qt fuel pos conds isElse st rest hie hin hpc htop hs hf
  have hie' : isElse = false := by rcases hie with h | h <;> first | exact h | exact absurd h (by simp)
  subst hie'
  simp only [IfTail.head] at htop hs hf
  rw [elseifTag_items e qt] at htop hs hf
  simp only [List.drop, List.getD_cons_succ, List.getD_cons_zero, List.cons_append, List.nil_append, segsTail,
    List.length_cons, List.length_nil] at htop hs hf
  obtain ⟨f, rfl⟩ : ∃ f, fuel = f + 1 := ⟨fuel - 1, by omega⟩
  refine Does.fin ?_
  unfold ifCont
  refine (backup_does (k := 0) ⟨hs, by omega, by omega, Fr.refl st⟩ (by omega)).bind fun st1 h1 => ?_
  rw [htop] at h1
  refine (next_does h1).bind fun st2 ⟨h2, _⟩ => ?_
  simp only [beq_self_eq_true, if_true, Bool.false_eq_true, if_false]
  rw [ifLoop_succ]
  simp only [Bool.not_false, if_true]
  refine Does.assoc ((parseExpr0_does pf ef e h2 he (Or.inl rfl)).bind fun st3 h3 => ?_)
  refine Does.ret_bind ((if_body pf ef b r hb hrs (qt + (elseifTag e).src.length) f pos conds false _ (Or.inl rfl) hin h3
    (by omega)).val ?_)
  simp only [condsTail]

theorem cmd_if (ef : Nat) (e : SExp) (b : Blk) (tl : IfTail) (he : e.ok) (hb : BlkSpec pf ef b) (htl : TailSpec pf ef tl) :
    CmdSpec pf ef (.ifc e b tl) := by
  refine CmdSpec.intro pf (ifTag e) (initBlk b ++ [(b.trail, tl.head)] ++ segsTail tl) (fun _ => by rw [segsCmd])
    fun q t fuel st rest hin hs hf => ?_
  rw [ifTag_items e (q + t.length)] at hs hf
  simp only [List.drop, List.cons_append, List.nil_append, List.length_cons, List.length_nil] at hs hf
  obtain ⟨f, rfl⟩ : ∃ f, fuel = f + 3 := ⟨fuel - 3, by omega⟩
  show Does (beginTag pf (ef + 4) ((f + 2) + 1)) st _ _
  unfold beginTag
  refine (next_does hs).bind fun st1 ⟨h1, _⟩ => ?_
  simp only
  refine (notmsg_does _ hin h1.fr).bind fun _ h => ?_
  subst h
  refine Does.bind (v := nodeCmd q t (.ifc e b tl)) ?_ fun _ h => Does.ret h
  show Does (ifLoop pf (ef + 4) ((f + 1) + 1) _ false .nil) st1 _ _
  rw [ifLoop_succ]
  simp only [Bool.not_false, if_true]
  refine Does.assoc ((parseExpr0_does pf ef e h1 he (Or.inl rfl)).bind fun st2 h2 => ?_)
  exact Does.ret_bind ((if_body pf ef b tl hb htl (q + t.length + (ifTag e).src.length) (f + 1) (q + t.length + 3) .nil
    false _ (Or.inl rfl) hin h2 (by omega)).val (by simp only [nodeCmd, NodeList.append]))


/-- `parseSwitch`'s loop on the tokens of the cases `cs`, the `{` of their first tag already read -/
def CasesSpec (ef : Nat) (cs : Cases) : Prop :=
  ∀ (qc fuel pos : Nat) (value : Expr) (sd : Bool) (cases : NodeList) (st : FState) (rest : List Item),
    cs.okSaw sd → Clean st → st.p.peekCount ≤ 1 →
    stream st.p = (cs.head.items qc).drop 1 ++ (itemsSegs (qc + cs.head.src.length) (segsCases cs) ++ rest) →
    4 * ((cs.head.items qc).length + (itemsSegs (qc + cs.head.src.length) (segsCases cs)).length) + 16 ≤ fuel →
    ∃ st', switchLoop pf (ef + 4) fuel pos value .tSwitchEnd sd cases st =
        .ok (.switch pos value (cases.append (caseNodes qc cs)), st') ∧
      stream st'.p = rest ∧ st'.p.peekCount ≤ 2 ∧ Fr st st'

theorem switchLoop_succ (ef fuel pos : Nat) (value : Expr) (endT : ItemType) (sd : Bool) (cases : NodeList) :
    switchLoop pf ef (fuel + 1) pos value endT sd cases = (do
      let tok ← FileParser.next
      if tok.typ == .tLeftDelim then switchLoop pf ef fuel pos value endT sd cases
      else if tok.typ == .tText then
        if allSpace tok.val then switchLoop pf ef fuel pos value endT sd cases
        else FileParser.unexpected (atTextStart tok)
      else if tok.typ == .tCase || tok.typ == .tDefault then
        if tok.typ == .tDefault && sd then FileParser.unexpected tok
        else do
          let c ← caseLoop pf ef fuel tok []
          switchLoop pf ef fuel pos value endT (sd || tok.typ == .tDefault) (cases.append (.cons c .nil))
      else if tok.typ == endT then do
        let _ ← FileParser.expect .tRightDelim
        pure (.switch pos value cases)
      else if tok.typ == .tComment then switchLoop pf ef fuel pos value endT sd cases
      else FileParser.unexpected tok) := by
  rw [switchLoop]

theorem cases_nil (ef : Nat) : CasesSpec pf ef .nil := by
  intro qc fuel pos value sd cases st rest _ hin hpc hs hf
  simp only [Cases.head] at hs hf
  rw [closeSwitch_items qc] at hs hf
  simp only [List.drop, List.cons_append, List.nil_append, segsCases, itemsSegs, List.length_cons, List.length_nil] at hs hf
  obtain ⟨f, rfl⟩ : ∃ f, fuel = f + 1 := ⟨fuel - 1, by omega⟩
  refine Does.fin ?_
  rw [switchLoop_succ]
  refine (next_does (k := 1) ⟨hs, hpc, by omega, Fr.refl st⟩).bind fun st1 ⟨h1, _⟩ => ?_
  simp only [show (ItemType.tSwitchEnd == ItemType.tLeftDelim) = false by decide,
    show (ItemType.tSwitchEnd == ItemType.tText) = false by decide,
    show (ItemType.tSwitchEnd == ItemType.tCase || ItemType.tSwitchEnd == ItemType.tDefault) = false by decide,
    beq_self_eq_true, Bool.false_eq_true, if_false, if_true]
  refine (expect_does h1 rfl).bind fun st2 h2 => ?_
  simp only [caseNodes, nl_append_nil]
  exact Does.ret h2.up

theorem stops_cases (r : Cases) : Stops [.tCase, .tDefault, .tSwitchEnd, .tPluralEnd] r.head := by
  cases r with
  | nil => show List.contains _ (closeType kSwitch) = true; decide
  | case _ _ _ => show List.contains _ (wordType kCase) = true; decide
  | dflt _ _ => show List.contains _ (wordType kDefault) = true; decide

theorem head_items_two (r : Cases) (q : Nat) :
    ∃ k more, r.head.items q = ⟨.tLeftDelim, q + 1, [123]⟩ :: k :: more := by
  cases r with
  | nil => exact ⟨_, _, closeSwitch_items q⟩
  | case v _ _ => exact ⟨_, _, caseTag_items v q⟩
  | dflt _ _ => exact ⟨_, _, defaultTag_items q⟩

theorem CasesSpec.does {ef : Nat} {cs : Cases} (h : CasesSpec pf ef cs) (qc fuel pos : Nat) (value : Expr) (sd : Bool)
    (cases : NodeList) {st0 st : FState} {rest : List Item} (hsd : cs.okSaw sd) (hc : Clean st0)
    (hs : Strm st0 1 ((cs.head.items qc).drop 1 ++ (itemsSegs (qc + cs.head.src.length) (segsCases cs) ++ rest)) st)
    (hf : 4 * ((cs.head.items qc).length + (itemsSegs (qc + cs.head.src.length) (segsCases cs)).length) + 16 ≤ fuel) :
    Does (switchLoop pf (ef + 4) fuel pos value .tSwitchEnd sd cases) st
      (.switch pos value (cases.append (caseNodes qc cs))) (Strm st0 2 rest) := by
  obtain ⟨st', hc', hs', hp', hfr'⟩ := h qc fuel pos value sd cases st rest hsd (Fr.clean hs.fr hc) hs.pc hs.eq hf
  exact Does.mk hc' ⟨hs', hp', Nat.le_refl 2, hs.fr.trans hfr'⟩

/-- behind the `}` of a `{case …}` / `{default}` tag: the body (`caseLoop` backs the command token of the next tag up),
    then the other cases -/
theorem after_body (ef : Nat) (b : Blk) (r : Cases) (hb : BlkSpec pf ef b) (hrs : CasesSpec pf ef r) (qb f pos : Nat)
    (value : Expr) (sd' : Bool) (cases' : NodeList) (mk : Node → Node) {st0 st : FState} {k : Nat} {rest : List Item}
    (hin : Clean st0) (hsd' : r.okSaw sd')
    (hs : Strm st0 k (itemsSegs qb (initBlk b ++ [(b.trail, r.head)] ++ segsCases r) ++ rest) st)
    (hf : 4 * (itemsSegs qb (initBlk b ++ [(b.trail, r.head)] ++ segsCases r)).length + 17 ≤ f) :
    Does (do
        let c ← (do
          let body ← itemListLoop pf (ef + 4) f [.tCase, .tDefault, .tSwitchEnd, .tPluralEnd] none .nil
          FileParser.backup
          pure (mk body))
        switchLoop pf (ef + 4) (f + 1) pos value .tSwitchEnd sd' (cases'.append (.cons c .nil))) st
      (.switch pos value (cases'.append (.cons (mk (.list (headPos (itemsSegs qb (closeBlk b r.head))) (nodesBlk qb b)))
        (caseNodes (qb + lenBlk b) r)))) (Strm st0 2 rest) := by
  rw [itemsSegs_closeBlk] at hs hf
  simp only [List.length_append] at hf
  obtain ⟨k', more, hg⟩ := head_items_two r (qb + lenBlk b)
  have hcl := closeBlk_len qb b r.head
  refine Does.assoc ((hb.does pf r.head [.tCase, .tDefault, .tSwitchEnd, .tPluralEnd] qb f none .nil hg (stops_cases r)
    (by decide) hin (hs.cast (List.append_assoc _ _ _)) (by omega)).bind fun st1 ⟨h1, ht1⟩ => ?_)
  refine Does.assoc ((backup_does h1 (by omega)).bind fun st2 h2 => ?_)
  rw [ht1] at h2
  refine Does.ret_bind ?_
  simp only [Option.getD_none, NodeList.append]
  exact (hrs.does pf (qb + lenBlk b) (f + 1) pos value sd' _ hsd' hin (h2.cast (by rw [hg]; rfl)) (by omega)).val
    (by rw [nl_append_assoc]; rfl)

theorem caseLoop_succ (ef fuel : Nat) (token : Item) (values : List Expr) :
    caseLoop pf ef (fuel + 1) token values = (do
      let values ← (if token.typ != .tDefault then do
          let e ← parseExpr0 pf ef
          pure (values ++ [e])
        else pure values : FP (List Expr))
      let tok ← FileParser.next
      if tok.typ == .tComma then caseLoop pf ef fuel token values
      else if tok.typ == .tRightDelim then do
        let body ← itemListLoop pf ef fuel [.tCase, .tDefault, .tSwitchEnd, .tPluralEnd] none .nil
        FileParser.backup
        pure (.switchCase token.pos values body)
      else FileParser.unexpected tok) := by
  rw [caseLoop]

theorem cases_case (ef : Nat) (v : SExp) (b : Blk) (r : Cases) (hv : v.ok) (hb : BlkSpec pf ef b) (hrs : CasesSpec pf ef r) :
    CasesSpec pf ef (.case v b r) := by
  intro qc fuel pos value sd cases st rest hsd hin hpc hs hf
  simp only [Cases.head] at hs hf
  rw [caseTag_items v qc] at hs hf
  simp only [List.drop, List.cons_append, List.nil_append, segsCases, List.length_cons,
    List.length_nil] at hs hf
  obtain ⟨f, rfl⟩ : ∃ f, fuel = f + 2 := ⟨fuel - 2, by omega⟩
  refine Does.fin ?_
  show Does (switchLoop pf (ef + 4) ((f + 1) + 1) pos value .tSwitchEnd sd cases) st _ _
  rw [switchLoop_succ]
  refine (next_does (k := 1) ⟨hs, hpc, by omega, Fr.refl st⟩).bind fun st1 ⟨h1, _⟩ => ?_
  simp only [show (ItemType.tCase == ItemType.tLeftDelim) = false by decide,
    show (ItemType.tCase == ItemType.tText) = false by decide, beq_self_eq_true, Bool.false_eq_true,
    if_false, if_true, show (ItemType.tCase == ItemType.tDefault) = false by decide, Bool.false_and, Bool.or_false]
  rw [caseLoop_succ]
  simp only [show (ItemType.tCase != ItemType.tDefault) = true by decide, if_true]
  refine Does.assoc (Does.assoc ((parseExpr0_does pf ef v h1 hv (Or.inl rfl)).bind fun st2 h2 => ?_))
  refine Does.ret_bind (Does.assoc ((next_does h2).bind fun st3 ⟨h3, _⟩ => ?_))
  simp only [show (ItemType.tRightDelim == ItemType.tComma) = false by decide, beq_self_eq_true, Bool.false_eq_true,
    if_false, if_true]
  refine (after_body pf ef b r hb hrs (qc + (caseTag v).src.length) f pos value sd cases
    (fun body => .switchCase (qc + 5) [exprOf (qc + 6 + v.elem.src.length) v] body) hin hsd
    h3 (by omega)).val ?_
  simp only [caseNodes]

theorem cases_dflt (ef : Nat) (b : Blk) (r : Cases) (hb : BlkSpec pf ef b) (hrs : CasesSpec pf ef r) :
    CasesSpec pf ef (.dflt b r) := by
  intro qc fuel pos value sd cases st rest hsd hin hpc hs hf
  obtain ⟨rfl, hsd'⟩ := hsd
  simp only [Cases.head] at hs hf
  rw [defaultTag_items qc] at hs hf
  simp only [List.drop, List.cons_append, List.nil_append, segsCases, List.length_cons,
    List.length_nil] at hs hf
  obtain ⟨f, rfl⟩ : ∃ f, fuel = f + 2 := ⟨fuel - 2, by omega⟩
  refine Does.fin ?_
  show Does (switchLoop pf (ef + 4) ((f + 1) + 1) pos value .tSwitchEnd false cases) st _ _
  rw [switchLoop_succ]
  refine (next_does (k := 1) ⟨hs, hpc, by omega, Fr.refl st⟩).bind fun st1 ⟨h1, _⟩ => ?_
  simp only [show (ItemType.tDefault == ItemType.tLeftDelim) = false by decide,
    show (ItemType.tDefault == ItemType.tText) = false by decide, beq_self_eq_true, Bool.or_true, Bool.false_eq_true,
    if_false, if_true, Bool.and_false]
  rw [caseLoop_succ]
  simp only [show (ItemType.tDefault != ItemType.tDefault) = false by decide, Bool.false_eq_true, if_false]
  refine Does.assoc (Does.ret_bind (Does.assoc ((next_does h1).bind fun st3 ⟨h3, _⟩ => ?_)))
  simp only [show (ItemType.tRightDelim == ItemType.tComma) = false by decide, beq_self_eq_true, Bool.false_eq_true,
    if_false, if_true]
  refine (after_body pf ef b r hb hrs (qc + defaultTag.src.length) f pos value true cases
    (fun body => .switchCase (qc + 8) [] body) hin hsd' h3 (by omega)).val ?_
  simp only [caseNodes]

theorem cmd_switch (ef : Nat) (e : SExp) (cs : Cases) (he : e.ok) (hok : cs.okSaw false) (hcs : CasesSpec pf ef cs) :
    CmdSpec pf ef (.switch e cs) := by
  refine CmdSpec.intro pf (switchTag e) (([], cs.head) :: segsCases cs) (fun _ => by rw [segsCmd])
    fun q t fuel st rest hin hs hf => ?_
  rw [switchTag_items e (q + t.length)] at hs hf
  simp only [List.drop, List.cons_append, List.nil_append, itemsSegs, textItem, List.length_nil, Nat.lt_irrefl, false_and,
    if_false, Nat.add_zero, List.append_assoc, List.length_append, List.length_cons] at hs hf
  obtain ⟨k, more, hhd⟩ := head_items_two cs (q + t.length + (switchTag e).src.length)
  rw [hhd] at hs
  simp only [List.cons_append] at hs
  obtain ⟨f, rfl⟩ : ∃ f, fuel = f + 4 := ⟨fuel - 4, by omega⟩
  show Does (beginTag pf (ef + 4) ((f + 3) + 1)) st _ _
  unfold beginTag
  refine (next_does hs).bind fun st1 ⟨h1, _⟩ => ?_
  simp only
  refine (notmsg_does _ hin h1.fr).bind fun _ h => ?_
  subst h
  refine Does.bind (v := nodeCmd q t (.switch e cs)) ?_ fun _ h => Does.ret h
  show Does (parseSwitch pf (ef + 4) ((f + 2) + 1) _ _) st1 _ _
  unfold parseSwitch
  refine (parseExpr0_does pf ef e h1 he (Or.inl rfl)).bind fun st2 h2 => ?_
  refine (expect_does h2 rfl).bind fun st3 h3 => ?_
  show Does (switchLoop pf (ef + 4) ((f + 1) + 1) _ _ _ _ _) st3 _ _
  rw [switchLoop_succ]
  refine (next_does h3).bind fun st4 ⟨h4, _⟩ => ?_
  simp only [beq_self_eq_true, if_true]
  refine (hcs.does pf (q + t.length + (switchTag e).src.length) (f + 1) (q + t.length + 7)
    (exprOf (q + t.length + 8 + e.elem.src.length) e) false .nil hok hin
    ((h4.mono (by omega)).cast (by rw [hhd]; rfl)) (by omega)).val ?_
  simp only [nodeCmd, NodeList.append]


/-- `t.backup2(t1)` after two `next`s: both tokens are back on the stream -/
theorem backup2_does {st0 st : FState} {s : List Item} (t1 : Item) (h : Strm st0 0 s st) :
    Does (FileParser.backup2 t1) st () (Strm st0 2 (t1 :: top st.p :: s)) := by
  have hpc : st.p.peekCount = 0 := Nat.le_zero.mp h.pc
  refine Does.mk (st' := { st with p := { st.p with tok1 := t1, peekCount := 2 } }) rfl ⟨?_, Nat.le_refl 2, Nat.le_refl 2, h.fr.trans ⟨rfl, rfl, rfl⟩⟩
  rw [← h.eq]
  simp [stream, pending, top, hpc]

theorem parseCallHead_plain (f : Nat) (name : Bytes) {st0 st : FState} {k pos : Nat} {nxt : Item} {s : List Item}
    (hcl : Clean st0) (h : Strm st0 k (⟨.tDotIdent, pos, 46 :: name⟩ :: nxt :: s) st) (hn : isTerm nxt.typ) :
    Does (parseCallHead pf (f + 1)) st (46 :: name, false, none) (Strm st0 1 (nxt :: s)) := by
  unfold parseCallHead
  refine (next_does h).bind fun st1 ⟨h1, _⟩ => ?_
  simp only [beq_self_eq_true, if_true]
  refine Does.ret_bind ((parseAttrs_term [kName, kData] f h1 hn).bind fun st2 h2 => ?_)
  have hk := h.k2
  refine Does.mk (st' := st2) ?_ (h2.mono (by omega))
  have hne : ((46 :: name : Bytes) == []) = false := by simp
  simp only [hne, Bool.false_eq_true, if_false]
  rw [bind_run, get_run]
  simp only [beq_self_eq_true, if_true]
  rw [bind_run, fpure_run]
  simp only [(Fr.clean h2.fr hcl).2, List.nil_append, lookup, List.find?_nil, Option.map_none]
  rfl

theorem cmd_callSelf (ef : Nat) (name : Bytes) : CmdSpec pf ef (.callSelf name) := by
  refine CmdSpec.intro pf (callSelfTag name) [] (fun _ => by rw [segsCmd]) fun q t fuel st rest hin hs hf => ?_
  rw [callSelfTag_items name (q + t.length)] at hs hf
  simp only [List.drop, List.cons_append, List.nil_append, itemsSegs, List.length_cons, List.length_nil] at hs hf
  obtain ⟨f, rfl⟩ : ∃ f, fuel = f + 3 := ⟨fuel - 3, by omega⟩
  show Does (beginTag pf (ef + 4) ((f + 2) + 1)) st _ _
  unfold beginTag
  refine (next_does hs).bind fun st1 ⟨h1, _⟩ => ?_
  simp only
  refine Does.bind (v := nodeCmd q t (.callSelf name)) ?_ fun _ h => Does.ret h
  show Does (parseCall pf (ef + 4) ((f + 1) + 1) _) st1 _ _
  unfold parseCall
  refine (parseCallHead_plain pf f name hin h1 (Or.inr rfl)).bind fun st2 h2 => ?_
  refine (next_does h2).bind fun st3 ⟨h3, _⟩ => ?_
  simp only [beq_self_eq_true, if_true]
  exact Does.ret h3.up

theorem parseCallHead_all (f : Nat) (name : Bytes) {st0 st : FState} {k p1 p2 p3 p4 : Nat} {nxt : Item} {s : List Item}
    (hcl : Clean st0)
    (h : Strm st0 k (⟨.tDotIdent, p1, 46 :: name⟩ :: ⟨.tIdent, p2, kData⟩ :: ⟨.tEquals, p3, [61]⟩ ::
      ⟨.tString, p4, 34 :: (kAll ++ [34])⟩ :: nxt :: s) st) (hn : isTerm nxt.typ) :
    Does (parseCallHead pf (f + 2)) st (46 :: name, true, none) (Strm st0 1 (nxt :: s)) := by
  unfold parseCallHead
  refine (next_does h).bind fun st1 ⟨h1, _⟩ => ?_
  simp only [beq_self_eq_true, if_true]
  refine Does.ret_bind (Does.bind (v := [(kData, kAll)]) (Q := Strm st0 1 (nxt :: s)) ?_ fun st5 h5 => ?_)
  · show Does (parseAttrs [kName, kData] ((f + 1) + 1) []) st1 _ _
    rw [parseAttrs]
    refine (next_does h1).bind fun st2 ⟨h2, _⟩ => ?_
    simp only [beq_self_eq_true, if_true, show (![kName, kData].contains kData) = false by decide, Bool.false_eq_true,
      if_false]
    refine (expect_does h2 rfl).bind fun st3 h3 => ?_
    refine (expect_does h3 rfl).bind fun st4 h4 => ?_
    have hgu : goUnquote (34 :: (kAll ++ [34])) = some kAll := by decide
    simp only [hgu, List.filter_nil]
    exact (parseAttrs_term [kName, kData] f h4 hn [(kData, kAll)]).imp fun _ h' => h'.mono (by have := h.k2; omega)
  · refine Does.mk (st' := st5) ?_ h5
    have hne : ((46 :: name : Bytes) == []) = false := by simp
    simp only [hne, Bool.false_eq_true, if_false]
    rw [bind_run, get_run]
    simp only [beq_self_eq_true, if_true]
    rw [bind_run, fpure_run]
    have hlk : lookup [(kData, kAll)] kData = some kAll := by decide
    simp only [(Fr.clean h5.fr hcl).2, List.nil_append, hlk, beq_self_eq_true, if_true]
    rfl

theorem cmd_callAll (ef : Nat) (name : Bytes) : CmdSpec pf ef (.callAll name) := by
  refine CmdSpec.intro pf (callAllTag name) [] (fun _ => by rw [segsCmd]) fun q t fuel st rest hin hs hf => ?_
  rw [callAllTag_items name (q + t.length)] at hs hf
  simp only [List.drop, List.cons_append, List.nil_append, itemsSegs, List.length_cons, List.length_nil] at hs hf
  obtain ⟨f, rfl⟩ : ∃ f, fuel = f + 4 := ⟨fuel - 4, by omega⟩
  show Does (beginTag pf (ef + 4) ((f + 3) + 1)) st _ _
  unfold beginTag
  refine (next_does hs).bind fun st1 ⟨h1, _⟩ => ?_
  simp only
  refine Does.bind (v := nodeCmd q t (.callAll name)) ?_ fun _ h => Does.ret h
  show Does (parseCall pf (ef + 4) ((f + 2) + 1) _) st1 _ _
  unfold parseCall
  refine (parseCallHead_all pf f name hin h1 (Or.inr rfl)).bind fun st2 h2 => ?_
  refine (next_does h2).bind fun st3 ⟨h3, _⟩ => ?_
  simp only [beq_self_eq_true, if_true]
  exact Does.ret h3.up

theorem nextNonComment_does (f : Nat) {st0 st : FState} {k : Nat} {x : Item} {s : List Item} (h : Strm st0 k (x :: s) st)
    (hx : x.typ ≠ .tComment) :
    Does (nextNonComment (f + 1)) st x fun st' => Strm st0 (k - 1) s st' ∧ top st'.p = x := by
  unfold nextNonComment
  refine (next_does h).bind fun st1 h1 => ?_
  have : (x.typ != ItemType.tComment) = true := by simpa using hx
  simp only [this, if_true]
  exact Does.ret h1

theorem orphanLoop_does (ef f : Nat) (x : Item) (st : FState) (hx : x.typ ≠ .tText) :
    Does (orphanLoop pf ef (f + 1) x) st x (st = ·) := by
  refine Does.mk (st' := st) ?_ rfl
  unfold orphanLoop
  have : (x.typ == ItemType.tText) = false := by simpa using hx
  simp only [this, Bool.false_eq_true, if_false]
  rfl

theorem lenS_params_cons (p : Bytes × SExp) (r : List (Bytes × SExp)) :
    lenS (segsParams (p :: r)) = (paramTag p.1 p.2).src.length + lenS (segsParams r) := by
  simp [lenS, segsParams, srcSegs]

/-- `parseCallParams` on the tokens of the params and the `{/call}` behind them -/
theorem params_spec (ef : Nat) {st0 : FState} (hin : Clean st0) (rest : List Item) :
    ∀ (ps : List (Bytes × SExp)) (qp fuel : Nat) (params : NodeList) (st : FState) (k : Nat), paramsOK ps →
    Strm st0 k (itemsSegs qp (segsParams ps ++ [([], .close kCall)]) ++ rest) st →
    4 * (itemsSegs qp (segsParams ps ++ [([], .close kCall)])).length + 8 ≤ fuel →
    Does (callParamsLoop pf (ef + 4) fuel params) st (params.append (paramNodes qp ps))
      (Strm st0 2 ((Tag.close kCall).items (qp + lenS (segsParams ps)) ++ rest))
  | [], qp, fuel, params, st, k, _, h, hf => by
    have hk := h.k2
    simp only [segsParams, List.nil_append, itemsSegs, textItem, List.length_nil, Nat.lt_irrefl, false_and, if_false,
      Nat.add_zero, List.append_nil, closeCall_items qp, List.cons_append, List.length_cons] at h hf
    obtain ⟨f, rfl⟩ : ∃ f, fuel = f + 2 := ⟨fuel - 2, by omega⟩
    show Does (callParamsLoop pf (ef + 4) ((f + 1) + 1) params) st _ _
    unfold callParamsLoop
    refine (nextNonComment_does f h (by simp)).bind fun st1 ⟨h1, ht1⟩ => ?_
    refine (orphanLoop_does pf (ef + 4) f _ st1 (by simp)).bind fun _ e => ?_
    subst e
    simp only [show (ItemType.tLeftDelim != ItemType.tLeftDelim) = false by decide, Bool.false_eq_true, if_false]
    refine (next_does h1).bind fun st2 ⟨h2, ht2⟩ => ?_
    simp only [beq_self_eq_true, if_true]
    refine (backup2_does ⟨.tLeftDelim, qp + 1, [123]⟩ (h2.mono (by omega))).bind fun st3 h3 => ?_
    rw [ht2] at h3
    simp only [paramNodes, nl_append_nil]
    exact Does.ret (h3.cast (by simp [lenS, segsParams, srcSegs, closeCall_items qp]))
  | p :: r, qp, fuel, params, st, k, hok, h, hf => by
    have hsplit : itemsSegs qp (segsParams (p :: r) ++ [([], .close kCall)]) =
        (paramTag p.1 p.2).items qp ++ itemsSegs (qp + (paramTag p.1 p.2).src.length) (segsParams r ++ [([], .close kCall)]) := by
      simp only [segsParams, List.cons_append, itemsSegs, textItem, List.length_nil, Nat.lt_irrefl, false_and, if_false,
        Nat.add_zero, List.nil_append]
    rw [hsplit, paramTag_items p.1 p.2 qp] at h hf
    simp only [List.cons_append, List.nil_append, List.length_cons] at h hf
    obtain ⟨f, rfl⟩ : ∃ f, fuel = f + 2 := ⟨fuel - 2, by omega⟩
    show Does (callParamsLoop pf (ef + 4) ((f + 1) + 1) params) st _ _
    unfold callParamsLoop
    refine (nextNonComment_does f h (by simp)).bind fun st1 ⟨h1, _⟩ => ?_
    refine (orphanLoop_does pf (ef + 4) f _ st1 (by simp)).bind fun _ e => ?_
    subst e
    simp only [show (ItemType.tLeftDelim != ItemType.tLeftDelim) = false by decide, Bool.false_eq_true, if_false]
    refine (next_does h1).bind fun st2 ⟨h2, _⟩ => ?_
    simp only [show (ItemType.tParam == ItemType.tCallEnd) = false by decide,
      show (ItemType.tParam != ItemType.tParam) = false by decide, Bool.false_eq_true, if_false]
    refine (expect_does h2 hok.1.2.1).bind fun st3 h3 => ?_
    refine (next_does h3).bind fun st4 ⟨h4, _⟩ => ?_
    simp only [beq_self_eq_true, if_true]
    refine (parseExpr0_does pf ef p.2 h4 hok.1.2.2 (Or.inr rfl)).bind fun st5 h5 => ?_
    refine (expect_does h5 rfl).bind fun st6 h6 => ?_
    have ih := params_spec ef hin rest r (qp + (paramTag p.1 p.2).src.length) (f + 1)
      (params.append (.cons (.paramValue (qp + 1) p.1 (exprOf (qp + 9 + p.1.length + p.2.elem.src.length) p.2)) .nil))
      st6 _ hok.2 h6 (by omega)
    exact (ih.val (by simp only [paramNodes, nl_append_assoc, NodeList.append])).imp fun _ h =>
      h.cast (by rw [lenS_params_cons, Nat.add_assoc])

theorem cmd_call (ef : Nat) (name : Bytes) (ps : List (Bytes × SExp)) (hps : paramsOK ps) : CmdSpec pf ef (.call name ps) := by
  refine CmdSpec.intro pf (callTag name) (segsParams ps ++ [([], .close kCall)]) (fun _ => by rw [segsCmd])
    fun q t fuel st rest hin hs hf => ?_
  rw [callTag_items name (q + t.length)] at hs hf
  simp only [List.drop, List.cons_append, List.nil_append, List.length_cons, List.length_nil] at hs hf
  obtain ⟨f, rfl⟩ : ∃ f, fuel = f + 3 := ⟨fuel - 3, by omega⟩
  show Does (beginTag pf (ef + 4) ((f + 2) + 1)) st _ _
  unfold beginTag
  refine (next_does hs).bind fun st1 ⟨h1, _⟩ => ?_
  simp only
  refine Does.bind (v := nodeCmd q t (.call name ps)) ?_ fun _ h => Does.ret h
  show Does (parseCall pf (ef + 4) ((f + 1) + 1) _) st1 _ _
  unfold parseCall
  refine (parseCallHead_plain pf f name hin h1 (Or.inl rfl)).bind fun st2 h2 => ?_
  refine (next_does h2).bind fun st3 ⟨h3, _⟩ => ?_
  simp only [show (ItemType.tRightDelim == ItemType.tRightDelimEnd) = false by decide, beq_self_eq_true,
    Bool.false_eq_true, if_false, if_true]
  refine (params_spec pf ef hin rest ps (q + t.length + (callTag name).src.length) (f + 1) .nil st3 _ hps h3
    (by omega)).bind fun st4 h4 => ?_
  rw [closeCall_items _] at h4
  refine (expect_does h4 rfl).bind fun st5 h5 => ?_
  refine (expect_does h5 rfl).bind fun st6 h6 => ?_
  refine (expect_does h6 rfl).bind fun st7 h7 => ?_
  exact Does.ret h7.up

mutual
  theorem spec_cmd (ef : Nat) : ∀ (c : Cmd), wfCmd c → CmdSpec pf ef c
    | .print id, _ => cmd_print pf ef id
    | .ifc e b tl, h => cmd_if pf ef e b tl h.1 (spec_blk ef b h.2.1) (spec_tail ef tl h.2.2)
    | .foreach x e b, h => cmd_foreach pf ef x e b h.2.1 (spec_blk ef b h.2.2)
    | .foreachE x e b ie, h => cmd_foreachE pf ef x e b ie h.2.1 (spec_blk ef b h.2.2.1) (spec_blk ef ie h.2.2.2)
    | .letv x e, h => cmd_letv pf ef x e h.2
    | .letc x b, h => cmd_letc pf ef x b (spec_blk ef b h.2)
    | .switch e cs, h => cmd_switch pf ef e cs h.1 h.2.2 (spec_cases ef cs h.2.1)
    | .call name ps, h => cmd_call pf ef name ps h.2
    | .callSelf name, _ => cmd_callSelf pf ef name
    | .callAll name, _ => cmd_callAll pf ef name
  theorem spec_blk (ef : Nat) : ∀ (b : Blk), wfBlk b → BlkSpec pf ef b
    | .done t, _ => blk_done pf ef t
    | .cons t c r, h => blk_cons pf ef t c r (spec_cmd ef c h.2.1) (spec_blk ef r h.2.2)
  theorem spec_tail (ef : Nat) : ∀ (tl : IfTail), wfTail tl → TailSpec pf ef tl
    | .fi, _ => tail_fi pf ef
    | .els b, h => tail_els pf ef b (spec_blk ef b h)
    | .elif e b r, h => tail_elif pf ef e b r h.1 (spec_blk ef b h.2.1) (spec_tail ef r h.2.2)
  theorem spec_cases (ef : Nat) : ∀ (cs : Cases), wfCases cs → CasesSpec pf ef cs
    | .nil, _ => cases_nil pf ef
    | .case v b r, h => cases_case pf ef v b r h.1 (spec_blk ef b h.2.1) (spec_cases ef r h.2.2)
    | .dflt b r, h => cases_dflt pf ef b r (spec_blk ef b h.1) (spec_cases ef r h.2)
end

end parser

/-- Parser completeness at source level for the family `Blk`: text runs, print tags and nested `{if}` / `{elseif}` /
    `{else}`, `{foreach}` / `{ifempty}`, `{let … /}`, `{let}…{/let}`, `{switch}` / `{case}` / `{default}`, `{call}` with
    `{param … /}`, `{call … /}` and `{call … data="all" /}`, with simple expressions.  For every well-formed tree `b`, the source text
    `srcOf b` is ACCEPTED by `parseSource`, the model of `parse.SoyFile` (lexer ∘ file parser), and the result is exactly
    `nodesOf b` — every node with the position the parser assigns; the lexer sends exactly `itemsOf b`. -/
theorem block_source_spec (pf : Bytes → Option UInt64) (b : Blk) (h : wfBlk b) :
    lexAll (srcOf b) false = .items (itemsOf b) ∧ parseSource pf (srcOf b) = .ok (nodesOf b) := by
  obtain ⟨st', hl, _, _, _⟩ := spec_blk pf (8 * (itemsOf b).length + 60) b h .eof [.tEOF] 0
    (8 * (itemsOf b).length + 64) none .nil { p := initState (itemsOf b) } []
    (by show List.contains _ _ = true; decide) (by decide) ⟨rfl, rfl⟩ (by simp [initState])
    (by simp [stream, pending, initState, itemsOf]) (by simp only [itemsOf]; omega)
  refine ⟨lexAll_tree b h, (parseSource_of_loop pf (lexAll_tree b h) hl).trans ?_⟩
  simp only [nodesOf, NodeList.append]

/-- `a{if $x}b{elseif 1}{$y}{else}⏎{/if}{foreach $i in $l}<{$i}>{ifempty}none{/foreach}{let $v: 12 /}{let $w}z{/let}end` -/
def exTree : Blk :=
  .cons [97] (.ifc (.var [120]) (.done [98])
      (.elif (.int [49]) (.cons [] (.print [121]) (.done [])) (.els (.done [10]))))
  (.cons [] (.foreachE [105] (.var [108]) (.cons [60] (.print [105]) (.done [62])) (.done [110, 111, 110, 101]))
  (.cons [] (.letv [118] (.int [49, 50]))
  (.cons [] (.letc [119] (.done [122])) (.done [101, 110, 100]))))

theorem exTree_wf : wfBlk exTree := by
  simp only [exTree, wfBlk, wfCmd, wfTail, SExp.ok]
  decide

theorem exTree_src : srcOf exTree =
    [97, 123, 105, 102, 32, 36, 120, 125, 98, 123, 101, 108, 115, 101, 105, 102, 32, 49, 125, 123, 36, 121, 125,
     123, 101, 108, 115, 101, 125, 10, 123, 47, 105, 102, 125, 123, 102, 111, 114, 101, 97, 99, 104, 32, 36, 105, 32,
     105, 110, 32, 36, 108, 125, 60, 123, 36, 105, 125, 62, 123, 105, 102, 101, 109, 112, 116, 121, 125, 110, 111, 110,
     101, 123, 47, 102, 111, 114, 101, 97, 99, 104, 125, 123, 108, 101, 116, 32, 36, 118, 58, 32, 49, 50, 32, 47, 125,
     123, 108, 101, 116, 32, 36, 119, 125, 122, 123, 47, 108, 101, 116, 125, 101, 110, 100] := by rfl

theorem exTree_dropped : dropped [97] = false ∧ dropped [98] = false ∧ dropped [10] = true ∧ dropped [60] = false ∧
    dropped [62] = false ∧ dropped [110, 111, 110, 101] = false ∧ dropped [122] = false ∧
    dropped [101, 110, 100] = false := by
  refine ⟨?_, ?_, ?_, ?_, ?_, ?_, ?_, ?_⟩ <;>
    simp [dropped, allSpaceWithNewline, allSpaceLoop, Lex.decodeRune, byteAt, Lex.isSpaceEOL, Lex.isSpace, Lex.isEndOfLine]

theorem exTree_nodes : nodesOf exTree =
    [.rawText 1 [97],
     .ifc 4 (.cons (.ifCond 4 (some (.dataRef 7 [120] .nil)) (.list 9 (.cons (.rawText 9 [98]) .nil)))
        (.cons (.ifCond 4 (some (.int 18 1)) (.list 20 (.cons (.print 22 (.dataRef 22 [121] .nil) []) .nil)))
        (.cons (.ifCond 4 none (.list 31 .nil)) .nil))),
     .forc 43 [105] (.dataRef 52 [108] .nil)
       (.list 54 (.cons (.rawText 54 [60]) (.cons (.print 57 (.dataRef 57 [105] .nil) []) (.cons (.rawText 59 [62]) .nil))))
       (.cons (.list 72 (.cons (.rawText 72 [110, 111, 110, 101]) .nil)) .nil),
     .letValue 86 [118] (.int 93 12),
     .letContent 100 [119] (.list 105 (.cons (.rawText 105 [122]) .nil)),
     .rawText 114 [101, 110, 100]] := by
  obtain ⟨d1, d2, d3, d4, d5, d6, d7, d8⟩ := exTree_dropped
  have j1 : joinLines [97] false false = [97] := by rfl
  have j2 : joinLines [98] false false = [98] := by rfl
  have j4 : joinLines [60] false false = [60] := by rfl
  have j5 : joinLines [62] false false = [62] := by rfl
  have j6 : joinLines [110, 111, 110, 101] false false = [110, 111, 110, 101] := by rfl
  have j7 : joinLines [122] false false = [122] := by rfl
  have j8 : joinLines [101, 110, 100] false false = [101, 110, 100] := by rfl
  simp [nodesOf, exTree, nodesBlk, nodeCmd, condsTail, textNL, exprOf, natVal, headPos, itemsSegs, closeBlk, initBlk,
    segsCmd, segsTail, Blk.trail, IfTail.head, textItem, lenS, lenBlk, srcSegs, Tag.src, srcEs, Elem.src, SExp.elem,
    closeBytes, ifTag, elseifTag, elseTag, foreachTag, ifemptyTag, letvTag, letcTag, printTag, Tag.items, itemsEs,
    Elem.items, NodeList.append, NodeList.toList, kIf, kElseif, kElse, kForeach, kIfempty, kLet, kwIn,
    d1, d2, d3, d4, d5, d6, d7, d8, j1, j2, j4, j5, j6, j7, j8]

/-- the theorem applied to that source: accepted, with exactly this tree (the real parser returns the
    same: `build/vh worker`, op `parsesrc`) -/
theorem exTree_spec (pf : Bytes → Option UInt64) :
    parseSource pf
      [97, 123, 105, 102, 32, 36, 120, 125, 98, 123, 101, 108, 115, 101, 105, 102, 32, 49, 125, 123, 36, 121, 125,
       123, 101, 108, 115, 101, 125, 10, 123, 47, 105, 102, 125, 123, 102, 111, 114, 101, 97, 99, 104, 32, 36, 105, 32,
       105, 110, 32, 36, 108, 125, 60, 123, 36, 105, 125, 62, 123, 105, 102, 101, 109, 112, 116, 121, 125, 110, 111, 110,
       101, 123, 47, 102, 111, 114, 101, 97, 99, 104, 125, 123, 108, 101, 116, 32, 36, 118, 58, 32, 49, 50, 32, 47, 125,
       123, 108, 101, 116, 32, 36, 119, 125, 122, 123, 47, 108, 101, 116, 125, 101, 110, 100] =
    .ok [.rawText 1 [97],
     .ifc 4 (.cons (.ifCond 4 (some (.dataRef 7 [120] .nil)) (.list 9 (.cons (.rawText 9 [98]) .nil)))
        (.cons (.ifCond 4 (some (.int 18 1)) (.list 20 (.cons (.print 22 (.dataRef 22 [121] .nil) []) .nil)))
        (.cons (.ifCond 4 none (.list 31 .nil)) .nil))),
     .forc 43 [105] (.dataRef 52 [108] .nil)
       (.list 54 (.cons (.rawText 54 [60]) (.cons (.print 57 (.dataRef 57 [105] .nil) []) (.cons (.rawText 59 [62]) .nil))))
       (.cons (.list 72 (.cons (.rawText 72 [110, 111, 110, 101]) .nil)) .nil),
     .letValue 86 [118] (.int 93 12),
     .letContent 100 [119] (.list 105 (.cons (.rawText 105 [122]) .nil)),
     .rawText 114 [101, 110, 100]] := by
  have := (block_source_spec pf exTree exTree_wf).2
  rw [exTree_src, exTree_nodes] at this
  exact this


/-- `p {switch $a}{case 1}one{$x}{case $b} {default}{if 0}z{/if}⏎{/switch} q` -/
def exSwitch : Blk :=
  .cons [112, 32] (.switch (.var [97])
    (.case (.int [49]) (.cons [111, 110, 101] (.print [120]) (.done []))
    (.case (.var [98]) (.done [32])
    (.dflt (.cons [] (.ifc (.int [48]) (.done [122]) .fi) (.done [10])) .nil))))
  (.done [32, 113])

theorem exSwitch_wf : wfBlk exSwitch := by
  simp only [exSwitch, wfBlk, wfCmd, wfTail, wfCases, Cases.okSaw, SExp.ok]
  decide

theorem exSwitch_src : srcOf exSwitch =
    [112, 32, 123, 115, 119, 105, 116, 99, 104, 32, 36, 97, 125, 123, 99, 97, 115, 101, 32, 49, 125, 111, 110, 101, 123, 36,
     120, 125, 123, 99, 97, 115, 101, 32, 36, 98, 125, 32, 123, 100, 101, 102, 97, 117, 108, 116, 125, 123, 105, 102, 32,
     48, 125, 122, 123, 47, 105, 102, 125, 10, 123, 47, 115, 119, 105, 116, 99, 104, 125, 32, 113] := by rfl

theorem exSwitch_dropped : dropped [112, 32] = false ∧ dropped [111, 110, 101] = false ∧ dropped [32] = false ∧
    dropped [122] = false ∧ dropped [10] = true ∧ dropped [32, 113] = false := by
  refine ⟨?_, ?_, ?_, ?_, ?_, ?_⟩ <;>
    simp [dropped, allSpaceWithNewline, allSpaceLoop, Lex.decodeRune, byteAt, Lex.isSpaceEOL, Lex.isSpace, Lex.isEndOfLine]

/-- accepted, with exactly this tree (as the real parser: `build/vh worker`, op `parsesrc`) -/
theorem exSwitch_spec (pf : Bytes → Option UInt64) :
    parseSource pf
      [112, 32, 123, 115, 119, 105, 116, 99, 104, 32, 36, 97, 125, 123, 99, 97, 115, 101, 32, 49, 125, 111, 110, 101, 123, 36,
       120, 125, 123, 99, 97, 115, 101, 32, 36, 98, 125, 32, 123, 100, 101, 102, 97, 117, 108, 116, 125, 123, 105, 102, 32,
       48, 125, 122, 123, 47, 105, 102, 125, 10, 123, 47, 115, 119, 105, 116, 99, 104, 125, 32, 113] =
    .ok [.rawText 2 [112, 32],
      .switch 9 (.dataRef 12 [97] .nil)
        (.cons (.switchCase 18 [.int 20 1]
          (.list 24 (.cons (.rawText 24 [111, 110, 101]) (.cons (.print 27 (.dataRef 27 [120] .nil) []) .nil))))
        (.cons (.switchCase 33 [.dataRef 36 [98] .nil] (.list 38 (.cons (.rawText 38 [32]) .nil)))
        (.cons (.switchCase 46 []
          (.list 48 (.cons (.ifc 50 (.cons (.ifCond 50 (some (.int 52 0)) (.list 54 (.cons (.rawText 54 [122]) .nil))) .nil)) .nil)))
          .nil))),
      .rawText 71 [32, 113]] := by
  have h := (block_source_spec pf exSwitch exSwitch_wf).2
  rw [exSwitch_src] at h
  rw [h]
  obtain ⟨d1, d2, d3, d4, d5, d6⟩ := exSwitch_dropped
  have j1 : joinLines [112, 32] false false = [112, 32] := by rfl
  have j2 : joinLines [111, 110, 101] false false = [111, 110, 101] := by rfl
  have j3 : joinLines [32] false false = [32] := by rfl
  have j4 : joinLines [122] false false = [122] := by rfl
  have j6 : joinLines [32, 113] false false = [32, 113] := by rfl
  simp [nodesOf, exSwitch, nodesBlk, nodeCmd, condsTail, caseNodes, textNL, exprOf, natVal, headPos, itemsSegs, closeBlk,
    initBlk, segsCmd, segsTail, segsCases, Blk.trail, IfTail.head, Cases.head, textItem, lenS, lenBlk, srcSegs, Tag.src,
    srcEs, Elem.src, SExp.elem, closeBytes, ifTag, switchTag, caseTag, defaultTag, printTag, Tag.items, itemsEs,
    Elem.items, NodeList.append, NodeList.toList, kIf, kSwitch, kCase, kDefault,
    d1, d2, d3, d4, d5, d6, j1, j2, j3, j4, j6]


/-- `{call .t}{param k: $v /}{param n: 3 /}{/call}x{call .u /}` -/
def exCall : Blk :=
  .cons [] (.call [116] [([107], .var [118]), ([110], .int [51])])
  (.cons [120] (.callSelf [117]) (.done []))

theorem exCall_wf : wfBlk exCall := by
  simp only [exCall, wfBlk, wfCmd, paramsOK, SExp.ok]
  decide

theorem exCall_src : srcOf exCall =
    [123, 99, 97, 108, 108, 32, 46, 116, 125, 123, 112, 97, 114, 97, 109, 32, 107, 58, 32, 36, 118, 32, 47, 125, 123, 112,
     97, 114, 97, 109, 32, 110, 58, 32, 51, 32, 47, 125, 123, 47, 99, 97, 108, 108, 125, 120, 123, 99, 97, 108, 108, 32, 46,
     117, 32, 47, 125] := by rfl

/-- accepted, with exactly this tree (as the real parser: `build/vh worker`, op `parsesrc`) -/
theorem exCall_spec (pf : Bytes → Option UInt64) :
    parseSource pf
      [123, 99, 97, 108, 108, 32, 46, 116, 125, 123, 112, 97, 114, 97, 109, 32, 107, 58, 32, 36, 118, 32, 47, 125, 123, 112,
       97, 114, 97, 109, 32, 110, 58, 32, 51, 32, 47, 125, 123, 47, 99, 97, 108, 108, 125, 120, 123, 99, 97, 108, 108, 32, 46,
       117, 32, 47, 125] =
    .ok [.call 5 [46, 116] false none
        (.cons (.paramValue 10 [107] (.dataRef 21 [118] .nil)) (.cons (.paramValue 25 [110] (.int 35 3)) .nil)),
      .rawText 46 [120],
      .call 51 [46, 117] false none .nil] := by
  have h := (block_source_spec pf exCall exCall_wf).2
  rw [exCall_src] at h
  rw [h]
  have d1 : dropped [120] = false := by
    simp [dropped, allSpaceWithNewline, allSpaceLoop, Lex.decodeRune, byteAt, Lex.isSpaceEOL, Lex.isSpace, Lex.isEndOfLine]
  have j1 : joinLines [120] false false = [120] := by rfl
  simp [nodesOf, exCall, nodesBlk, nodeCmd, paramNodes, textNL, exprOf, natVal, lenS, srcSegs, segsCmd, segsParams,
    Tag.src, srcEs, Elem.src, SExp.elem, closeBytes, callTag, paramTag, NodeList.append, NodeList.toList,
    kCall, kParam, d1, j1]


/-- `a {call .tt data="all" /}{if $c}{call .u data="all" /}{/if}` -/
def exCallAll : Blk :=
  .cons [97, 32] (.callAll [116, 116])
  (.cons [] (.ifc (.var [99]) (.cons [] (.callAll [117]) (.done [])) .fi) (.done []))

theorem exCallAll_wf : wfBlk exCallAll := by
  simp only [exCallAll, wfBlk, wfCmd, wfTail, SExp.ok]
  decide

theorem exCallAll_src : srcOf exCallAll =
    [97, 32, 123, 99, 97, 108, 108, 32, 46, 116, 116, 32, 100, 97, 116, 97, 61, 34, 97, 108, 108, 34, 32, 47, 125, 123, 105,
     102, 32, 36, 99, 125, 123, 99, 97, 108, 108, 32, 46, 117, 32, 100, 97, 116, 97, 61, 34, 97, 108, 108, 34, 32, 47, 125,
     123, 47, 105, 102, 125] := by rfl

/-- accepted, with exactly this tree (as the real parser: `build/vh worker`, op `parsesrc`) -/
theorem exCallAll_spec (pf : Bytes → Option UInt64) :
    parseSource pf
      [97, 32, 123, 99, 97, 108, 108, 32, 46, 116, 116, 32, 100, 97, 116, 97, 61, 34, 97, 108, 108, 34, 32, 47, 125, 123, 105,
       102, 32, 36, 99, 125, 123, 99, 97, 108, 108, 32, 46, 117, 32, 100, 97, 116, 97, 61, 34, 97, 108, 108, 34, 32, 47, 125,
       123, 47, 105, 102, 125] =
    .ok [.rawText 2 [97, 32], .call 7 [46, 116, 116] true none .nil,
      .ifc 28 (.cons (.ifCond 28 (some (.dataRef 31 [99] .nil)) (.list 33 (.cons (.call 37 [46, 117] true none .nil) .nil))) .nil)] := by
  have h := (block_source_spec pf exCallAll exCallAll_wf).2
  rw [exCallAll_src] at h
  rw [h]
  have d1 : dropped [97, 32] = false := by
    simp [dropped, allSpaceWithNewline, allSpaceLoop, Lex.decodeRune, byteAt, Lex.isSpaceEOL, Lex.isSpace, Lex.isEndOfLine]
  have j1 : joinLines [97, 32] false false = [97, 32] := by rfl
  simp [nodesOf, exCallAll, nodesBlk, nodeCmd, condsTail, textNL, exprOf, headPos, itemsSegs, closeBlk, initBlk, lenS, 
    srcSegs, segsCmd, Blk.trail, IfTail.head, textItem, Tag.src, srcEs, Elem.src, SExp.elem, closeBytes, callAllTag,
    ifTag, Tag.items, itemsEs, Elem.items, NodeList.append, NodeList.toList, kCall, kIf, kData, kAll, d1, j1]

end SoyVerif.Props.C05c
