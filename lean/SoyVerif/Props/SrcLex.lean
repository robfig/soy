/-
  The lexer on a piece of source text, byte by byte (for the source-level specs Props/C15c, C05c, C17c, C15d, C17d, C17e).

  * `Holds inp q bytes`: the bytes of `inp` at `q`, described up to a point (`InpAt` of Lemmas/LexPrintBase describes
    the input to its end; `Holds.inpAt` / `holds_of_inpAt` join the two);
  * `Runs inp s q s' q' items b` — the form in which every piece of source is stated; `Runs.trans` composes pieces,
    `Runs.lexAll_eq` reads off `lexAll`;
  * text runs, the elements of a tag (`Elem`), tags (`Tag`), segments = a text run and the tag behind it.  What the state
    functions do on a token is not evaluated here: an element is a token of Lemmas/LexPrintTok / Num / Str / Run, the
    braces around it are Lemmas/LexPrintDelim's; the generated tables enter through `Inst.C17b.lexTableOK`.

  The file declares into two namespaces, not into one of its own: the first half (bytes, `Runs`, text runs) into
  `Props.C15c`, the second (elements, tags, segments) into `Props.C05c` — its definitions are named in the statements
  of those two files' theorems, which keep their names.
-/
import SoyVerif.Props.C15b
import SoyVerif.Inst.LexTables
import SoyVerif.Lemmas.LexPrintRun

namespace SoyVerif.Props.C15c
open SoyVerif SoyVerif.Model SoyVerif.Model.Parser SoyVerif.Model.FileParser SoyVerif.Lemmas.ParserSafe
open SoyVerif.Spec SoyVerif.Props.C15b
open Lex

theorem next_mk (inp : Array UInt8) (q : Nat) (s w : Int) (dd : Bool) (ts : Int) (le : Item) (its : Array Item)
    (c : Nat) (hq : q < inp.size) (hb : byteAt inp q = c) (hc : c < 128) :
    (Lexer.mk inp q s w dd ts le its).next = some ((c : Int), Lexer.mk inp ((q + 1 : Nat) : Int) s 1 dd ts le its) := by
  have h := next_ascii (l := Lexer.mk inp q s w dd ts le its) (by show (0 : Int) ≤ q; omega)
    (by show (q : Int) < (inp.size : Int); omega) (by show byteAt inp (q : Int).toNat < 128; simp; omega)
  rw [h]
  simp only [Int.toNat_natCast, hb, Int.natCast_add, Int.cast_ofNat_Int]

theorem next_mk_eof (inp : Array UInt8) (q : Nat) (s w : Int) (dd : Bool) (ts : Int) (le : Item) (its : Array Item)
    (hq : inp.size ≤ q) :
    (Lexer.mk inp q s w dd ts le its).next = some (eof, Lexer.mk inp q s 0 dd ts le its) := by
  rw [next_eof (by show (inp.size : Int) ≤ (q : Int); omega)]

theorem backup_mk (inp : Array UInt8) (q : Nat) (s : Int) (dd : Bool) (ts : Int) (le : Item) (its : Array Item) :
    (Lexer.mk inp ((q + 1 : Nat) : Int) s 1 dd ts le its).backup = Lexer.mk inp q s 1 dd ts le its := by
  simp only [Lexer.backup, Int.natCast_add, Int.cast_ofNat_Int, Int.add_sub_cancel]

theorem emit_mk (inp : Array UInt8) (a q : Nat) (w : Int) (dd : Bool) (ts : Int) (le : Item) (its : Array Item)
    (t : ItemType) (h1 : a ≤ q) (h2 : q ≤ inp.size) :
    (Lexer.mk inp q a w dd ts le its).emit t =
      some (Lexer.mk inp q q w dd ts ⟨t, q, (inp.extract a q).toList⟩ (its.push ⟨t, q, (inp.extract a q).toList⟩)) := by
  rw [Lemmas.LexPrint.emit_eq _ t _ (by show (0 : Int) ≤ a; omega) (by show (a : Int) ≤ q; omega)
    (by show (q : Int) ≤ (inp.size : Int); omega) rfl]
  simp only [Int.toNat_natCast]


/-- first byte of an identifier: `[A-Za-z_]` -/
def idStart (c : Nat) : Prop := c = 95 ∨ (65 ≤ c ∧ c ≤ 90) ∨ (97 ≤ c ∧ c ≤ 122)
/-- byte of an identifier: `[A-Za-z0-9_]` -/
def idByte (c : Nat) : Prop := c = 95 ∨ (65 ≤ c ∧ c ≤ 90) ∨ (97 ≤ c ∧ c ≤ 122) ∨ (48 ≤ c ∧ c ≤ 57)

instance (c : Nat) : Decidable (idStart c) := by unfold idStart; infer_instance
instance (c : Nat) : Decidable (idByte c) := by unfold idByte; infer_instance

theorem idStart_idByte {c : Nat} (h : idStart c) : idByte c := by
  unfold idStart at h; unfold idByte; omega

/-- where the machine goes on: in a state, or not at all (`none`: it has returned `nil`, the items are the result) -/
def runTo (f : Nat) : Option St → Lexer → LexResult
  | none, l => .items l.items.toList
  | some s, l => run f s l

/-- started in state `s` at offset `q` of `inp` with no pending token — whatever the other fields of the lexer record
    and the budget, if it is at least `b` — the machine gets to state `s'` at offset `q'`, again with no pending token
    (`s' = none`: it stops), has used at most `b` state functions and has sent exactly `items`.  At a stop only the
    items are read off (`runTo`), so `q'` is bound by nothing then; the lemmas that state a stop put the offset where
    the scan ended. -/
def Runs (inp : Array UInt8) (s : St) (q : Nat) (s' : Option St) (q' : Nat) (items : List Item) (b : Nat) : Prop :=
  ∀ (w : Int) (dd : Bool) (ts : Int) (le : Item) (its : Array Item) (fuel : Nat), b ≤ fuel →
    ∃ (fuel' : Nat) (w' : Int) (dd' : Bool) (ts' : Int) (le' : Item) (its' : Array Item), fuel ≤ fuel' + b ∧
      its'.toList = its.toList ++ items ∧
      run fuel s (Lexer.mk inp q q w dd ts le its) = runTo fuel' s' (Lexer.mk inp q' q' w' dd' ts' le' its')

theorem Runs.trans {inp : Array UInt8} {s s1 : St} {s2 : Option St} {q q1 q2 b1 b2 : Nat} {i1 i2 : List Item}
    (h1 : Runs inp s q (some s1) q1 i1 b1) (h2 : Runs inp s1 q1 s2 q2 i2 b2) : Runs inp s q s2 q2 (i1 ++ i2) (b1 + b2) := by
  intro w dd ts le its fuel hf
  obtain ⟨f1, w1, dd1, ts1, le1, its1, hf1, hi1, hr1⟩ := h1 w dd ts le its fuel (by omega)
  obtain ⟨f2, w2, dd2, ts2, le2, its2, hf2, hi2, hr2⟩ := h2 w1 dd1 ts1 le1 its1 f1 (by omega)
  exact ⟨f2, w2, dd2, ts2, le2, its2, by omega, by rw [hi2, hi1, List.append_assoc], hr1.trans hr2⟩

theorem Runs.mono {inp : Array UInt8} {s : St} {s' : Option St} {q q1 q2 b1 b2 : Nat} {i1 i2 : List Item}
    (h : Runs inp s q s' q1 i1 b1) (hq : q1 = q2) (hi : i1 = i2) (hb : b1 ≤ b2) : Runs inp s q s' q2 i2 b2 := by
  subst hq hi
  intro w dd ts le its fuel hf
  obtain ⟨f1, w1, dd1, ts1, le1, its1, hf1, hi1, hr1⟩ := h w dd ts le its fuel (by omega)
  exact ⟨f1, w1, dd1, ts1, le1, its1, by omega, hi1, hr1⟩

theorem Runs.of_steps {inp : Array UInt8} {s s' : St} {q q' k : Nat} {items : List Item}
    (h : ∀ (w : Int) (dd : Bool) (ts : Int) (le : Item) (its : Array Item) (f : Nat),
      ∃ (w' : Int) (dd' : Bool) (ts' : Int) (le' : Item) (its' : Array Item), its'.toList = its.toList ++ items ∧
        run (f + k) s (Lexer.mk inp q q w dd ts le its) = run f s' (Lexer.mk inp q' q' w' dd' ts' le' its')) :
    Runs inp s q (some s') q' items k := by
  intro w dd ts le its fuel hf
  obtain ⟨w', dd', ts', le', its', hi, hr⟩ := h w dd ts le its (fuel - k)
  rw [show fuel - k + k = fuel by omega] at hr
  exact ⟨fuel - k, w', dd', ts', le', its', by omega, hi, hr⟩

theorem Runs.lexAll_eq {src : Bytes} {q' b : Nat} {items : List Item} (h : Runs src.toArray .text 0 none q' items b)
    (hb : b ≤ 7 * src.length + 8) : lexAll src false = .items items := by
  obtain ⟨f', w', dd', ts', le', its', _, hi, hr⟩ := h 0 false 0 Item.zero #[] (7 * src.length + 8) hb
  unfold lexAll Lex.fuelFor
  simp only [Bool.false_eq_true, if_false]
  show run _ .text (Lexer.mk src.toArray ((0 : Nat) : Int) ((0 : Nat) : Int) 0 false 0 Item.zero #[]) = _
  rw [hr, runTo, hi]
  rfl

/-- `c` may stand in a text piece when the byte after it is `nxt` -/
def TextByte (c nxt : Nat) : Prop := c < 128 ∧ c ≠ 123 ∧ c ≠ 125 ∧ (c = 47 → nxt ≠ 47 ∧ nxt ≠ 42)

instance (c nxt : Nat) : Decidable (TextByte c nxt) := by unfold TextByte; infer_instance

/-- the last hypothesis: the byte behind the run, if there is one, is ASCII — the loop looks one byte ahead at a `/` -/
theorem plainRun_text : ∀ (k : Nat) (l : Lexer) (lc : Int), 0 ≤ l.pos → l.pos + k ≤ l.len →
    (∀ i, i < k → TextByte (byteAt l.input (l.pos.toNat + i)) (byteAt l.input (l.pos.toNat + i + 1))) →
    (l.pos + k < l.len → byteAt l.input (l.pos.toNat + k) < 128) →
    ∃ l' lc', PlainRun l lc l' lc' ∧ l'.pos = l.pos + k := by
  intro k
  induction k with
  | zero => intro l lc _ _ _ _; exact ⟨l, lc, PlainRun.refl l lc, by simp⟩
  | succ k ih =>
    intro l lc h0 h1 hb hnx
    have hb0 := hb 0 (by omega)
    simp only [Nat.add_zero] at hb0
    obtain ⟨hc, h123, h125, h47⟩ := hb0
    have hn := next_ascii (l := l) h0 (by omega) hc
    simp only [Lexer.len] at h1
    obtain ⟨l', lc', hr, hp⟩ := ih { l with width := 1, pos := l.pos + 1 } (byteAt l.input l.pos.toNat : Int)
      (by show 0 ≤ l.pos + 1; omega) (by show l.pos + 1 + (k : Int) ≤ (l.input.size : Int); omega)
      (by
        intro i hi
        have := hb (i + 1) (by omega)
        have e : (l.pos + 1).toNat + i = l.pos.toNat + (i + 1) := by omega
        show TextByte (byteAt l.input ((l.pos + 1).toNat + i)) (byteAt l.input ((l.pos + 1).toNat + i + 1))
        rw [e]; exact this)
      (by
        intro hlt
        have e : (l.pos + 1).toNat + k = l.pos.toNat + (k + 1) := by omega
        show byteAt l.input ((l.pos + 1).toNat + k) < 128
        rw [e]
        exact hnx (by simp only [Lexer.len]; have : (l.pos + 1 + (k : Int) < (l.input.size : Int)) := hlt; omega))
    have hp' : l'.pos = l.pos + ((k + 1 : Nat) : Int) := by
      rw [hp]; show l.pos + 1 + (k : Int) = l.pos + ((k + 1 : Nat) : Int); omega
    by_cases hs : byteAt l.input l.pos.toNat = 47
    · rw [hs] at hn hr
      have h47' := h47 hs
      by_cases hend : l.pos + 1 < l.len
      · have hc1 : byteAt l.input (l.pos.toNat + 1) < 128 := by
          by_cases hk : 0 < k
          · exact (hb 1 (by omega)).1
          · have hk0 : k = 0 := by omega
            subst hk0
            exact hnx (by simpa using hend)
        have hn2 := next_ascii (l := { l with width := 1, pos := l.pos + 1 }) (by show 0 ≤ l.pos + 1; omega)
          (by show l.pos + 1 < (l.input.size : Int); simp only [Lexer.len] at hend; omega)
          (by show byteAt l.input (l.pos + 1).toNat < 128; rw [show (l.pos + 1).toNat = l.pos.toNat + 1 by omega]; exact hc1)
        have e : ({ l with width := 1, pos := l.pos + 1 } : Lexer).pos.toNat = l.pos.toNat + 1 := by
          show (l.pos + 1).toNat = _; omega
        rw [e] at hn2
        exact ⟨l', lc', PlainRun.slash hn hn2 (by show (byteAt l.input (l.pos.toNat + 1) : Int) ≠ 42; omega)
          (fun h => absurd h (by show ¬ (byteAt l.input (l.pos.toNat + 1) : Int) = 47; omega)) hr, hp'⟩
      · have hn2 := next_eof (l := { l with width := 1, pos := l.pos + 1 }) (by
          show (l.input.size : Int) ≤ l.pos + 1; simp only [Lexer.len] at hend; omega)
        exact ⟨l', lc', PlainRun.slash hn hn2 (by decide) (fun h => absurd h (by decide)) hr, hp'⟩
    · exact ⟨l', lc', PlainRun.plain hn (by omega) (by omega) (by omega) (by simp only [eof]; omega) hr, hp'⟩

theorem textItems_nat (inp : Array UInt8) (q n : Nat) :
    textItems inp (q : Int) ((q + n : Nat) : Int) =
      if 0 < n ∧ allSpaceWithNewline (inp.extract q (q + n)).toList = false then
        [⟨.tText, q + n, (inp.extract q (q + n)).toList⟩] else [] := by
  unfold textItems
  simp only [Int.toNat_natCast]
  by_cases hn : 0 < n
  · simp only [hn, true_and, show ((q + n : Nat) : Int) > (q : Int) by omega]
  · simp only [hn, false_and, if_false, show ¬ ((q + n : Nat) : Int) > (q : Int) by omega]

theorem lexText_text_open (inp : Array UInt8) (q n : Nat) (w : Int) (dd : Bool) (ts : Int) (le : Item) (its : Array Item)
    (hsz : q + n < inp.size)
    (htxt : ∀ i, i < n → TextByte (byteAt inp (q + i)) (byteAt inp (q + i + 1))) (hopen : byteAt inp (q + n) = 123) :
    ∃ (w' : Int) (dd' : Bool) (ts' : Int) (le' : Item) (its' : Array Item),
      lexText (Lexer.mk inp q q w dd ts le its) =
        some (some .leftDelim, Lexer.mk inp ((q + n : Nat) : Int) ((q + n : Nat) : Int) w' dd' ts' le' its') ∧
      its'.toList = its.toList ++ textItems inp (q : Int) ((q + n : Nat) : Int) := by
  obtain ⟨l', lc', hr, hp⟩ := plainRun_text n (Lexer.mk inp q q w dd ts le its) noChar (by show (0 : Int) ≤ q; omega)
    (by show (q : Int) + n ≤ (inp.size : Int); omega)
    (by intro i hi; show TextByte (byteAt inp ((q : Int).toNat + i)) (byteAt inp ((q : Int).toNat + i + 1))
        simp only [Int.toNat_natCast]; exact htxt i hi)
    (by intro _; show byteAt inp ((q : Int).toNat + n) < 128; simp only [Int.toNat_natCast]; omega)
  have hp' : l'.pos = ((q + n : Nat) : Int) := by rw [hp]; show (q : Int) + n = _; omega
  obtain ⟨_, _, _, hin, _⟩ := lexTextLoop_run hr
  have hin' : l'.input = inp := hin
  have hn := next_ascii (l := l') (by omega) (by simp only [Lexer.len, hin', hp']; omega)
    (by rw [hin', hp']; simp only [Int.toNat_natCast]; omega)
  rw [hin', hp'] at hn
  simp only [Int.toNat_natCast, hopen] at hn
  obtain ⟨lf, h1, h2, h3, h4, h5⟩ := lexText_cut_open hr hn (by show (0 : Int) ≤ q; omega)
    (by show (q : Int) ≤ q; omega)
  obtain ⟨inp', p', s', w', dd', ts', le', its'⟩ := lf
  simp only at h2 h3 h4 h5
  subst h5
  rw [hp'] at h3 h4 h2
  subst h3 h4
  exact ⟨w', dd', ts', le', its', h1, h2⟩

theorem lexText_text_eof (inp : Array UInt8) (q n : Nat) (w : Int) (dd : Bool) (ts : Int) (le : Item) (its : Array Item)
    (hsz : q + n = inp.size)
    (htxt : ∀ i, i < n → TextByte (byteAt inp (q + i)) (byteAt inp (q + i + 1))) :
    ∃ lf, lexText (Lexer.mk inp q q w dd ts le its) = some (none, lf) ∧
      lf.items.toList = its.toList ++ textItems inp (q : Int) ((q + n : Nat) : Int) ++ [⟨.tEOF, q + n, []⟩] := by
  obtain ⟨l', lc', hr, hp⟩ := plainRun_text n (Lexer.mk inp q q w dd ts le its) noChar (by show (0 : Int) ≤ q; omega)
    (by show (q : Int) + n ≤ (inp.size : Int); omega)
    (by intro i hi; show TextByte (byteAt inp ((q : Int).toNat + i)) (byteAt inp ((q : Int).toNat + i + 1))
        simp only [Int.toNat_natCast]; exact htxt i hi)
    (by intro h; exfalso; have : (q : Int) + n < (inp.size : Int) := h; omega)
  have hp' : l'.pos = ((q + n : Nat) : Int) := by rw [hp]; show (q : Int) + n = _; omega
  obtain ⟨_, _, _, hin, _⟩ := lexTextLoop_run hr
  have hin' : l'.input = inp := hin
  have hn := next_eof (l := l') (by simp only [Lexer.len, hin', hp']; omega)
  obtain ⟨lf, h1, h2⟩ := lexText_cut_eof hr hn (by show (0 : Int) ≤ q; omega) (by show (q : Int) ≤ q; omega)
    (by show (q : Int) ≤ (inp.size : Int); omega)
  refine ⟨lf, h1, ?_⟩
  rw [h2, hp']
  simp only [Int.toNat_natCast]


/-- the bytes of `inp` at `q` are `x` -/
def Holds (inp : Array UInt8) (q : Nat) (x : Bytes) : Prop :=
  ∀ i, i < x.length → q + i < inp.size ∧ byteAt inp (q + i) = (x.getD i 0).toNat

theorem Holds.append {inp : Array UInt8} {q : Nat} {x y : Bytes} (h : Holds inp q (x ++ y)) :
    Holds inp q x ∧ Holds inp (q + x.length) y := by
  constructor
  · intro i hi
    have := h i (by simp; omega)
    rw [List.getD_eq_getElem?_getD, List.getElem?_append_left hi, ← List.getD_eq_getElem?_getD] at this
    exact this
  · intro i hi
    have := h (x.length + i) (by simp; omega)
    rw [List.getD_eq_getElem?_getD, List.getElem?_append_right (by omega), Nat.add_sub_cancel_left,
      ← List.getD_eq_getElem?_getD, ← Nat.add_assoc] at this
    exact this

theorem Holds.cons {inp : Array UInt8} {q : Nat} {c : UInt8} {y : Bytes} (h : Holds inp q (c :: y)) :
    q < inp.size ∧ byteAt inp q = c.toNat ∧ Holds inp (q + 1) y := by
  have h0 := h 0 (by simp)
  refine ⟨h0.1, h0.2, ?_⟩
  intro i hi
  have := h (i + 1) (by simp; omega)
  rw [show q + 1 + i = q + (i + 1) by omega]
  simpa using this

theorem Holds.size {inp : Array UInt8} {q : Nat} {x : Bytes} (h : Holds inp q x) : q + x.length ≤ inp.size ∨ x = [] := by
  cases x with
  | nil => exact Or.inr rfl
  | cons c y =>
    have := h y.length (by simp)
    left; simp; omega

theorem Holds.extract {inp : Array UInt8} {q : Nat} {x : Bytes} (h : Holds inp q x) :
    (inp.extract q (q + x.length)).toList = x := by
  have hs := h.size
  apply List.ext_getElem
  · simp only [Array.length_toList, Array.size_extract]
    rcases hs with hs | hs
    · omega
    · subst hs; simp; omega
  · intro i h1 h2
    have := (h i h2).2
    simp only [Array.getElem_toList, Array.getElem_extract]
    unfold byteAt at this
    have hlt : q + i < inp.size := (h i h2).1
    rw [Array.getD_eq_getD_getElem?, Array.getElem?_eq_getElem hlt, List.getD_eq_getElem?_getD, List.getElem?_eq_getElem h2] at this
    simp only [Option.getD_some] at this
    exact UInt8.toNat_inj.mp this

theorem byteAt_beyond {inp : Array UInt8} {i : Nat} (h : inp.size ≤ i) : byteAt inp i = 0 := by
  unfold byteAt
  rw [Array.getD_eq_getD_getElem?, Array.getElem?_eq_none h]
  rfl

theorem holds_self (src : Bytes) : Holds src.toArray 0 src := by
  intro i hi
  refine ⟨by simpa using hi, ?_⟩
  unfold byteAt
  simp [Array.getD_eq_getD_getElem?, List.getD_eq_getElem?_getD]

/-- a text piece: non-empty; ASCII bytes other than `{` and `}`; a `/` is followed neither by `/`
    nor by `*` (so no comment begins in it) -/
def textOK (t : Bytes) : Prop :=
  0 < t.length ∧ ∀ i, i < t.length → TextByte (t.getD i 0).toNat (t.getD (i + 1) 0).toNat


/-- an identifier as `lexIdent` reads it, ASCII: `[A-Za-z_][A-Za-z0-9_]*` -/
def idOK (id : Bytes) : Prop :=
  0 < id.length ∧ idStart (id.getD 0 0).toNat ∧ ∀ i, i < id.length → idByte (id.getD i 0).toNat

instance (t : Bytes) : Decidable (textOK t) := by unfold textOK; infer_instance
instance (t : Bytes) : Decidable (idOK t) := by unfold idOK; infer_instance

/-- the lexer drops a text run that is all whitespace with a line break -/
def dropped (t : Bytes) : Bool := allSpaceWithNewline t

/-- `hnx`: the byte behind the run does not make its last byte the `/` of a comment opener -/
theorem text_bytes {inp : Array UInt8} {q : Nat} {t : Bytes} (h : Holds inp q t) (ht : t = [] ∨ textOK t)
    (hnx : (t.getD (t.length - 1) 0).toNat ≠ 47 ∨ (byteAt inp (q + t.length) ≠ 47 ∧ byteAt inp (q + t.length) ≠ 42)) :
    ∀ i, i < t.length → TextByte (byteAt inp (q + i)) (byteAt inp (q + i + 1)) := by
  intro i hi
  rcases ht with ht | ht
  · subst ht; simp at hi
  obtain ⟨c1, c2, c3, c4⟩ := ht.2 i hi
  rw [(h i hi).2]
  refine ⟨c1, c2, c3, fun e => ?_⟩
  by_cases hl : i + 1 < t.length
  · rw [show q + i + 1 = q + (i + 1) by omega, (h (i + 1) hl).2]; exact c4 e
  · rw [show q + i + 1 = q + t.length by omega]
    rcases hnx with hnx | hnx
    · rw [show t.length - 1 = i by omega] at hnx; exact absurd e hnx
    · exact hnx

/-- the Text item of a text piece that ends at `e` (none for the empty and the dropped ones) -/
def textItem (t : Bytes) (e : Nat) : List Item :=
  if 0 < t.length ∧ dropped t = false then [⟨.tText, e, t⟩] else []

theorem textItems_holds {inp : Array UInt8} {q : Nat} {t : Bytes} (h : Holds inp q t) :
    textItems inp (q : Int) ((q + t.length : Nat) : Int) = textItem t (q + t.length) := by
  rw [textItems_nat, h.extract]
  rfl

theorem text_open_runs {inp : Array UInt8} {q : Nat} {t post : Bytes} (ht : t = [] ∨ textOK t)
    (h : Holds inp q (t ++ 123 :: post)) :
    Runs inp .text q (some .leftDelim) (q + t.length) (textItem t (q + t.length)) 1 := by
  obtain ⟨ht', hb⟩ := h.append
  obtain ⟨hq, hb0, _⟩ := hb.cons
  refine Runs.of_steps fun w dd ts le its f => ?_
  obtain ⟨w1, dd1, ts1, le1, its1, hlx, hits1⟩ := lexText_text_open inp q t.length w dd ts le its hq
    (text_bytes ht' ht (Or.inr (by rw [hb0]; decide))) hb0
  exact ⟨w1, dd1, ts1, le1, its1, by rw [hits1, textItems_holds ht'], Lemmas.LexPrint.run_step (show step .text _ = _ from hlx)⟩

theorem text_eof_runs {inp : Array UInt8} {q : Nat} {t : Bytes} (ht : t = [] ∨ textOK t) (h : Holds inp q t)
    (hsz : q + t.length = inp.size) :
    Runs inp .text q none (q + t.length) (textItem t (q + t.length) ++ [⟨.tEOF, q + t.length, []⟩]) 1 := by
  intro w dd ts le its fuel hf
  obtain ⟨f, rfl⟩ : ∃ f, fuel = f + 1 := ⟨fuel - 1, by omega⟩
  have hb0 := byteAt_beyond (inp := inp) (i := q + t.length) (by omega)
  obtain ⟨lf, h1, h2⟩ := lexText_text_eof inp q t.length w dd ts le its hsz (text_bytes h ht (Or.inr (by omega)))
  refine ⟨f, 0, false, 0, Item.zero, lf.items, by omega, by rw [h2, textItems_holds h, List.append_assoc], ?_⟩
  rw [Lemmas.LexPrint.run_stop (show step .text _ = _ from h1)]
  rfl

/-! ## `Holds` and `InpAt` (Lemmas/LexPrintBase): the same input, described up to a point / to its end -/

theorem holds_of_inpAt {inp : Array UInt8} {q : Nat} {s post : Bytes} (h : Lemmas.LexPrint.InpAt inp q (s ++ post)) :
    Holds inp q s := by
  obtain ⟨pre, rfl, rfl⟩ := h
  intro i hi
  refine ⟨by simp; omega, ?_⟩
  unfold byteAt
  simp [Array.getD_eq_getD_getElem?, List.getD_eq_getElem?_getD, List.getElem?_append_right, List.getElem?_append_left, hi]

theorem Holds.inpAt {inp : Array UInt8} {q : Nat} {x : Bytes} (h : Holds inp q x) (hne : x ≠ []) :
    ∃ post, Lemmas.LexPrint.InpAt inp q (x ++ post) := by
  have hs : q + x.length ≤ inp.size := h.size.resolve_right hne
  refine ⟨inp.toList.drop (q + x.length), inp.toList.take q, ?_, by simp; omega⟩
  apply Array.ext'
  have hx := h.extract
  rw [Array.toList_extract] at hx
  simp only [List.extract, Nat.add_sub_cancel_left] at hx
  show inp.toList = inp.toList.take q ++ (x ++ inp.toList.drop (q + x.length))
  conv => lhs; rw [← List.take_append_drop q inp.toList, ← List.take_append_drop x.length (List.drop q inp.toList), hx,
    List.drop_drop]

end SoyVerif.Props.C15c

namespace SoyVerif.Props.C05c
open SoyVerif SoyVerif.Model SoyVerif.Model.Parser SoyVerif.Model.FileParser SoyVerif.Lemmas.ParserSafe
open SoyVerif.Spec SoyVerif.Props.C15b SoyVerif.Props.C15c
open Lex SoyVerif.Model.PrintTokens SoyVerif.Lemmas.LexPrint

/-- a byte that ends an identifier / number inside a tag: space, `}`, `:`, `=` -/
def delimByte (d : Nat) : Prop := d = 32 ∨ d = 125 ∨ d = 58 ∨ d = 61

instance (d : Nat) : Decidable (delimByte d) := by unfold delimByte; infer_instance

theorem letter_facts {c : Nat} (h : idStart c) : isLetterOrUnderscore (c : Int) = true := by
  unfold idStart at h
  simp only [isLetterOrUnderscore, Bool.or_eq_true, Bool.and_eq_true, decide_eq_true_eq, beq_iff_eq]
  omega

def wordType (w : Bytes) : ItemType := (Gen.builtinIdents.lookup w).getD .tIdent

/-- a keyword or plain identifier, not `literal` / `css` (whose tags are lexed differently) -/
def wordOK (w : Bytes) : Prop := idOK w ∧ wordType w ≠ .tLiteral ∧ wordType w ≠ .tCss

instance (w : Bytes) : Decidable (wordOK w) := by unfold wordOK; infer_instance

def digitByte (c : Nat) : Prop := 48 ≤ c ∧ c ≤ 57

instance (c : Nat) : Decidable (digitByte c) := by unfold digitByte; infer_instance

/-- a decimal integer literal: digits, no leading zero (what the lexer asks), at most 18 of them (so that the value fits
    `int64`: what the parser's `ParseInt` asks, Props/C05c) -/
def intOK (ds : Bytes) : Prop :=
  0 < ds.length ∧ ds.length ≤ 18 ∧ (∀ i, i < ds.length → digitByte (ds.getD i 0).toNat) ∧
    (1 < ds.length → (ds.getD 0 0).toNat ≠ 48)

instance (ds : Bytes) : Decidable (intOK ds) := by unfold intOK; infer_instance


/-! ### from the byte-wise description of a token to the hypotheses of the per-token lemmas (Lemmas/LexPrint*)

  The state functions read an element of a tag as those lemmas say of a printed token; left to show: an ASCII identifier,
  a decimal integer, a string without escapes and a delimiter byte are such tokens and followers. -/

theorem idStart_is {c : UInt8} (h : idStart c.toNat) : isIdStart c = true := by
  unfold idStart at h
  simp only [isIdStart, Bool.or_eq_true, Bool.and_eq_true, decide_eq_true_eq, beq_iff_eq, UInt8.le_iff_toNat_le]
  rcases h with h | h | h
  · exact Or.inr (UInt8.toNat_inj.mp h)
  · exact Or.inl (Or.inr h)
  · exact Or.inl (Or.inl h)

theorem idByte_is {c : UInt8} (h : idByte c.toNat) : isIdChar c = true := by
  unfold idByte at h
  simp only [isIdChar, isIdStart, isDig, Bool.or_eq_true, Bool.and_eq_true, decide_eq_true_eq, beq_iff_eq, UInt8.le_iff_toNat_le]
  rcases h with h | h | h | h
  · exact Or.inl (Or.inr (UInt8.toNat_inj.mp h))
  · exact Or.inl (Or.inl (Or.inr h))
  · exact Or.inl (Or.inl (Or.inl h))
  · exact Or.inr h

theorem mem_getD {k : Bytes} {P : UInt8 → Prop} (h : ∀ i, i < k.length → P (k.getD i 0)) : ∀ b ∈ k, P b := fun b hb => by
  obtain ⟨i, hi, rfl⟩ := List.getElem_of_mem hb
  have := h i hi
  rwa [List.getD_eq_getElem?_getD, List.getElem?_eq_getElem hi] at this

theorem idBytes_alnum {k : Bytes} (h : ∀ i, i < k.length → idByte (k.getD i 0).toNat) : alnumBytes k = true :=
  alnumRunes_ascii k.length k (Nat.le_refl _) fun b hb => idByte_is (mem_getD (P := fun b => idByte b.toNat) h b hb)

theorem letter_of_idStart {c : UInt8} {k : Bytes} (h : idStart c.toNat) :
    ∀ r w, runeAt (c :: k) = some (r, w) → letterR r = true := by
  intro r w hr
  unfold idStart at h
  rw [runeAt_ascii k (by omega)] at hr
  simp only [Option.some.injEq, Prod.mk.injEq] at hr
  rw [← hr.1]
  unfold letterR
  rw [if_pos (by omega)]
  simp only [Bool.or_eq_true, Bool.and_eq_true, decide_eq_true_eq, beq_iff_eq]
  omega

theorem idOK_parts {id : Bytes} (h : idOK id) :
    ∃ c k, id = c :: k ∧ idStart c.toNat ∧ alnumBytes k = true ∧ alnumBytes (c :: k) = true := by
  obtain ⟨hlen, hstart, hbytes⟩ := h
  cases id with
  | nil => simp at hlen
  | cons c k =>
    exact ⟨c, k, rfl, by simpa using hstart, idBytes_alnum fun i hi => by simpa using hbytes (i + 1) (by simpa using hi),
      idBytes_alnum hbytes⟩

theorem delim_wordEnd {d : UInt8} (h : delimByte d.toNat) (post : Bytes) : WordEnd (d :: post) := by
  unfold delimByte at h
  refine ⟨by show d.toNat < 128; omega, ?_⟩
  cases hc : isIdChar d with
  | false => rfl
  | true => have := isIdChar_nat hc; omega

theorem delim_numEnd {d : UInt8} (h : delimByte d.toNat) (post : Bytes) : NumEnd (d :: post) :=
  ⟨delim_wordEnd h post, by
    unfold delimByte at h
    simp only [List.head?_cons, ne_eq, Option.some.injEq]
    intro e; rw [e] at h; revert h; decide⟩

theorem intOK_shape {ds : Bytes} (h : intOK ds) : NumShape ds .tInteger ∧ ds.head? ≠ some 45 := by
  obtain ⟨hlen, _, hdig, hlz⟩ := h
  have hall : AllDig ds := mem_getD (P := fun b => isDig b = true) fun i hi => by
    have := hdig i hi
    unfold digitByte at this
    simp only [isDig, Bool.and_eq_true, decide_eq_true_eq, UInt8.le_iff_toNat_le]
    exact this
  cases ds with
  | nil => simp at hlen
  | cons a r =>
    refine ⟨⟨[], a :: r, [], [], by simp, Or.inl rfl, by simp, hall, Or.inl rfl, Or.inl rfl, fun _ => ?_, rfl⟩, ?_⟩
    · cases r with
      | nil =>
        by_cases ha : a = 48
        · exact Or.inl (by rw [ha])
        · exact Or.inr (by simpa using ha)
      | cons b r' =>
        have := hlz (by simp)
        exact Or.inr (by simp only [List.head?_cons, ne_eq, Option.some.injEq]; intro e; apply this; rw [e]; rfl)
    · have := isDig_nat (hall a (by simp))
      simp only [List.head?_cons, ne_eq, Option.some.injEq]
      intro e; rw [e] at this; revert this; decide

theorem bodyOk_plain_all : ∀ (body : Bytes), (∀ b ∈ body, b ≠ 34 ∧ b ≠ 92) → bodyOk 34 body = true
  | [], _ => rfl
  | b :: s, h => by
    rw [bodyOk_plain s (h b (by simp)).2, bodyOk_plain_all s fun x hx => h x (by simp [hx])]
    simp [(h b (by simp)).1]

/-- what stands between `{` and the closing `}` / `/}` of a tag -/
inductive Elem where
  | sp
  /-- a keyword or a plain identifier (`if`, `foreach`, `in`, …) -/
  | word (w : Bytes)
  | dollar (id : Bytes)
  | dotIdent (id : Bytes)
  | colon
  | int (ds : Bytes)
  /-- `=` (between an attribute name and its value) -/
  | eq
  /-- a double-quoted string without escapes: `"body"` -/
  | str (body : Bytes)
  deriving Repr, DecidableEq

def Elem.src : Elem → Bytes
  | .sp => [32]
  | .word w => w
  | .dollar id => 36 :: id
  | .dotIdent id => 46 :: id
  | .colon => [58]
  | .int ds => ds
  | .eq => [61]
  | .str body => 34 :: (body ++ [34])

/-- the item an element that begins at `q` yields (none for a space) -/
def Elem.items (q : Nat) : Elem → List Item
  | .sp => []
  | .word w => [⟨wordType w, q + w.length, w⟩]
  | .dollar id => [⟨.tDollarIdent, q + 1 + id.length, 36 :: id⟩]
  | .dotIdent id => [⟨.tDotIdent, q + 1 + id.length, 46 :: id⟩]
  | .colon => [⟨.tColon, q + 1, [58]⟩]
  | .int ds => [⟨.tInteger, q + ds.length, ds⟩]
  | .eq => [⟨.tEquals, q + 1, [61]⟩]
  | .str body => [⟨.tString, q + 2 + body.length, 34 :: (body ++ [34])⟩]

/-- state functions the lexer runs for the element -/
def Elem.steps : Elem → Nat
  | .sp => 1
  | .colon => 1
  | .eq => 1
  | _ => 2

def Elem.ok : Elem → Prop
  | .sp => True
  | .word w => wordOK w
  | .dollar id => idOK id
  | .dotIdent id => idOK id
  | .colon => True
  | .int ds => intOK ds
  | .eq => True
  | .str body => ∀ i, i < body.length → (body.getD i 0).toNat < 128 ∧ (body.getD i 0).toNat ≠ 34 ∧ (body.getD i 0).toNat ≠ 92

instance (e : Elem) : Decidable e.ok := by cases e <;> (unfold Elem.ok; infer_instance)

/-- what must follow: identifiers and numbers end at a delimiter; `=` is not followed by `=` -/
def Elem.nextOK (e : Elem) (d : UInt8) : Prop :=
  match e with
  | .sp => True
  | .colon => True
  | .str _ => True
  | .eq => d.toNat < 128 ∧ d.toNat ≠ 61
  | _ => delimByte d.toNat

instance (e : Elem) (d : UInt8) : Decidable (e.nextOK d) := by cases e <;> (unfold Elem.nextOK; infer_instance)

def Elem.head : Elem → UInt8
  | .sp => 32
  | .word w => w.getD 0 0
  | .dollar _ => 36
  | .dotIdent _ => 46
  | .colon => 58
  | .int ds => ds.getD 0 0
  | .eq => 61
  | .str _ => 34

theorem Elem.src_head (e : Elem) (h : e.ok) : ∃ tl, e.src = e.head :: tl := by
  cases e with
  | sp => exact ⟨[], rfl⟩
  | word w =>
    cases w with
    | nil => exact absurd h.1.1 (by simp)
    | cons c r => exact ⟨r, rfl⟩
  | dollar id => exact ⟨id, rfl⟩
  | dotIdent id => exact ⟨id, rfl⟩
  | colon => exact ⟨[], rfl⟩
  | int ds =>
    cases ds with
    | nil => exact absurd h.1 (by simp)
    | cons c r => exact ⟨r, rfl⟩
  | eq => exact ⟨[], rfl⟩
  | str body => exact ⟨body ++ [34], rfl⟩

/-- a `Step1` / `Step2` of Lemmas/LexPrintTok, from an explicit lexer record.  Inside a tag the pieces (`tok_run`,
    `elem_run`, `es_run`, and `tag_run` around them) are equations between two `run`s and not `Runs`: `lexInsideTag` reads
    `doubleDelim` (`false` here) and `tagStart` (`ts`) and leaves them as they are, and a `Runs` says nothing about these
    two fields, before or after.  `tag_runs` is the whole tag as a `Runs`. -/
theorem tok_run {inp : Array UInt8} {q k : Nat} {ts : Int} {le : Item} {its : Array Item} {t : Tk}
    (h : ∀ w n, ∃ w', run (n + k) .insideTag (L ts inp q q w le its) = run n .insideTag (After ts inp q w' its t))
    (f : Nat) (w : Int) :
    ∃ (w' : Int) (le' : Item) (its' : Array Item),
      run (f + k) .insideTag (Lexer.mk inp q q w false ts le its) =
        run f .insideTag (Lexer.mk inp ((q + t.val.length : Nat) : Int) ((q + t.val.length : Nat) : Int) w' false ts le' its') ∧
      its'.toList = its.toList ++ [⟨t.typ, q + t.val.length, t.val⟩] := by
  obtain ⟨w', hw⟩ := h w f
  exact ⟨w', _, _, hw, by simp [itemOf]⟩

theorem elem_run (e : Elem) {inp : Array UInt8} {q : Nat} {d : UInt8} (hok : e.ok)
    (hd : e.nextOK d) (h : Holds inp q (e.src ++ [d])) (f : Nat) (w : Int) (ts : Int)
    (le : Item) (its : Array Item) :
    ∃ (w' : Int) (le' : Item) (its' : Array Item),
      run (f + e.steps) .insideTag (Lexer.mk inp q q w false ts le its) =
        run f .insideTag (Lexer.mk inp ((q + e.src.length : Nat) : Int) ((q + e.src.length : Nat) : Int) w' false ts le' its') ∧
      its'.toList = its.toList ++ e.items q := by
  obtain ⟨post, hin⟩ := h.inpAt (by simp)
  have hin : InpAt inp q (e.src ++ d :: post) := by simpa using hin
  cases e with
  | sp => exact ⟨1, le, its, run_step (step_space (tg := ts) hin w le its), by simp [Elem.items]⟩
  | colon =>
    exact tok_run (t := ⟨.tColon, [58]⟩) (run_of_step1 (step_single (tg := ts) hin .tColon (by simp) Inst.C17b.lexTableOK.sym1.2.2.2.2.2.1
      le its)) f w
  | eq =>
    have hd' : d.toNat < 128 ∧ d.toNat ≠ 61 := hd
    have hin : InpAt inp q (61 :: d :: post) := hin
    exact tok_run (t := ⟨.tEquals, [61]⟩) (run_of_step1 (step_equals (tg := ts) hin hd'.1
      (by simp only [hdRune]; intro e; exact hd'.2 (by omega)) le its)) f w
  | word wd =>
    obtain ⟨c, k, rfl, hc, hk, _⟩ := idOK_parts hok.1
    refine tok_run (t := ⟨wordType (c :: k), c :: k⟩) (run_of_step2 (step_word (tg := ts) Inst.C17b.lexTableOK hin (idStart_is hc) hk
      (delim_wordEnd hd post) _ ?_ le its)) f w
    have hnl := hok.2.1
    have hnc := hok.2.2
    unfold wordType at hnl hnc ⊢
    cases hl : Gen.builtinIdents.lookup (c :: k) with
    | none => exact Or.inr ⟨rfl, rfl⟩
    | some t => rw [hl] at hnl hnc; exact Or.inl ⟨rfl, hnl, hnc⟩
  | dollar id =>
    obtain ⟨c, k, rfl, hc, _, hk⟩ := idOK_parts hok
    obtain ⟨w', le', its', hr, hi⟩ := tok_run (run_of_step2 (step_dollar (tg := ts) Inst.C17b.lexTableOK hin hk (letter_of_idStart hc)
      (delim_wordEnd hd post) le its)) f w
    exact ⟨w', le', its', hr, by rw [hi]; simp [Elem.items]; omega⟩
  | dotIdent id =>
    obtain ⟨c, k, rfl, hc, _, hk⟩ := idOK_parts hok
    have hnd : isDig c = false := by
      cases hdg : isDig c with
      | false => rfl
      | true => have := isDig_nat hdg; unfold idStart at hc; omega
    have hs := step_dot (tg := ts) Inst.C17b.lexTableOK hin hk (fun _ => letter_of_idStart hc) (delim_wordEnd hd post) le its
    rw [hnd] at hs
    obtain ⟨w', le', its', hr, hi⟩ := tok_run (run_of_step2 hs) f w
    exact ⟨w', le', its', hr, by rw [hi]; simp [Elem.items]; omega⟩
  | int ds =>
    obtain ⟨hshape, h45⟩ := intOK_shape hok
    exact tok_run (t := ⟨.tInteger, ds⟩) (run_of_step2 (step_number (tg := ts) Inst.C17b.lexTableOK hin hshape (delim_numEnd hd post)
      le its fun e => absurd e h45)) f w
  | str body =>
    have hs : strOk (34 :: (body ++ [34])) = true := by
      simp only [strOk, beq_self_eq_true, Bool.or_true, Bool.true_and, List.getLast?_append, List.getLast?_singleton,
        Option.some_or, List.dropLast_concat]
      exact bodyOk_plain_all body (mem_getD (P := fun b => b ≠ 34 ∧ b ≠ 92) fun i hi =>
        ⟨fun e => (hok i hi).2.1 (by rw [e]; rfl), fun e => (hok i hi).2.2 (by rw [e]; rfl)⟩)
    have hin : InpAt inp q ((34 :: (body ++ [34])) ++ d :: post) := hin
    obtain ⟨w', le', its', hr, hi⟩ := tok_run (run_of_step2 (step_string (tg := ts) hin hs le its)) f w
    exact ⟨w', le', its', hr, by rw [hi]; simp [Elem.items, Nat.add_comm, Nat.add_left_comm]⟩


def srcEs : List Elem → Bytes
  | [] => []
  | e :: r => e.src ++ srcEs r

def itemsEs : Nat → List Elem → List Item
  | _, [] => []
  | q, e :: r => e.items q ++ itemsEs (q + e.src.length) r

def stepsEs : List Elem → Nat
  | [] => 0
  | e :: r => e.steps + stepsEs r

/-- the byte that follows: the first byte of the next element, or `nb` behind the last one -/
def headEs : List Elem → UInt8 → UInt8
  | [], nb => nb
  | e :: _, _ => e.head

/-- every element is well-formed and those that need it are followed by a delimiter -/
def EsOK : List Elem → UInt8 → Prop
  | [], _ => True
  | e :: r, nb => e.ok ∧ e.nextOK (headEs r nb) ∧ EsOK r nb

instance : (es : List Elem) → (nb : UInt8) → Decidable (EsOK es nb)
  | [], _ => isTrue trivial
  | e :: r, nb => by
    unfold EsOK
    have := instDecidableEsOK r nb
    infer_instance

theorem srcEs_head (es : List Elem) (nb : UInt8) (h : EsOK es nb) : ∃ tl, srcEs es ++ [nb] = headEs es nb :: tl := by
  cases es with
  | nil => exact ⟨[], rfl⟩
  | cons e r =>
    obtain ⟨tl, htl⟩ := e.src_head h.1
    exact ⟨tl ++ (srcEs r ++ [nb]), by simp [srcEs, headEs, htl]⟩

theorem es_run {inp : Array UInt8} (nb : UInt8) (ts : Int) : ∀ (es : List Elem) (q : Nat) (f : Nat) (w : Int) (le : Item)
    (its : Array Item), EsOK es nb → Holds inp q (srcEs es ++ [nb]) →
    ∃ (w' : Int) (le' : Item) (its' : Array Item),
      run (f + stepsEs es) .insideTag (Lexer.mk inp q q w false ts le its) =
        run f .insideTag (Lexer.mk inp ((q + (srcEs es).length : Nat) : Int) ((q + (srcEs es).length : Nat) : Int)
          w' false ts le' its') ∧
      its'.toList = its.toList ++ itemsEs q es := by
  intro es
  induction es with
  | nil =>
    intro q f w le its _ _
    exact ⟨w, le, its, by simp [stepsEs, srcEs], by simp [itemsEs]⟩
  | cons e r ih =>
    intro q f w le its hok h
    obtain ⟨tl, htl⟩ := srcEs_head r nb hok.2.2
    have h1 : Holds inp q (e.src ++ [headEs r nb]) := by
      have : Holds inp q ((e.src ++ [headEs r nb]) ++ tl) := by
        simp only [srcEs, List.append_assoc] at h
        rw [htl] at h
        simpa using h
      exact this.append.1
    obtain ⟨w1, le1, its1, hr1, hi1⟩ := elem_run e hok.1 hok.2.1 h1 (f + stepsEs r) w ts le its
    have h2 : Holds inp (q + e.src.length) (srcEs r ++ [nb]) := by
      simp only [srcEs, List.append_assoc] at h
      exact h.append.2
    obtain ⟨w2, le2, its2, hr2, hi2⟩ := ih (q + e.src.length) f w1 le1 its1 hok.2.2 h2
    refine ⟨w2, le2, its2, ?_, ?_⟩
    · rw [show f + stepsEs (e :: r) = f + stepsEs r + e.steps by simp [stepsEs]; omega, hr1, hr2]
      simp only [srcEs, List.length_append, Nat.add_assoc]
    · rw [hi2, hi1]; simp [itemsEs]

/-- what stands behind a text run: a command tag, a closing tag, or the end of the input — which sends an item as a tag
    does, but is reached by `lexText` itself (`text_eof_runs`) and is no tag for `tag_run` (`Tag.ok` is `False` of it) -/
inductive Tag where
  /-- `{` elements `}` or `{` elements `/}` -/
  | open (es : List Elem) (selfClose : Bool)
  /-- `{/w}` -/
  | close (w : Bytes)
  | eof
  deriving Repr, DecidableEq

def closeBytes (sc : Bool) : Bytes := if sc then [47, 125] else [125]

def Tag.src : Tag → Bytes
  | .open es sc => 123 :: (srcEs es ++ closeBytes sc)
  | .close w => 123 :: 47 :: (w ++ [125])
  | .eof => []

/-- the item type of `/w` -/
def closeType (w : Bytes) : ItemType := (Gen.builtinIdents.lookup (47 :: w)).getD .tInvalid

/-- the items of a tag whose `{` is at `q` -/
def Tag.items (q : Nat) : Tag → List Item
  | .open es sc =>
    ⟨.tLeftDelim, q + 1, [123]⟩ :: (itemsEs (q + 1) es ++
      [if sc then ⟨.tRightDelimEnd, q + 1 + (srcEs es).length + 2, [47, 125]⟩
       else ⟨.tRightDelim, q + 1 + (srcEs es).length + 1, [125]⟩])
  | .close w =>
    [⟨.tLeftDelim, q + 1, [123]⟩, ⟨closeType w, q + 2 + w.length, 47 :: w⟩, ⟨.tRightDelim, q + 3 + w.length, [125]⟩]
  | .eof => [⟨.tEOF, q, []⟩]

def Tag.steps : Tag → Nat
  | .open es _ => stepsEs es + 4
  | .close _ => 5
  | .eof => 0

/-- `/w` is a closing command of `builtinIdents`, other than `/literal` and `/css` (whose tags are lexed differently) -/
def closeOK (w : Bytes) : Prop :=
  (∀ i, i < w.length → idByte (w.getD i 0).toNat) ∧ (Gen.builtinIdents.lookup (47 :: w)).isSome = true ∧
    closeType w ≠ .tLiteral ∧ closeType w ≠ .tCss

instance (w : Bytes) : Decidable (closeOK w) := by unfold closeOK; infer_instance

/-- an opening tag has at least one element, each as the lexer reads it and followed by what ends it (`EsOK`; the last
    by `/` or `}`); a closing tag names a closing command -/
def Tag.ok : Tag → Prop
  | .open es sc => es ≠ [] ∧ EsOK es (if sc then 47 else 125)
  | .close w => closeOK w
  | .eof => False

instance (g : Tag) : Decidable g.ok := by cases g <;> (unfold Tag.ok; infer_instance)

/-- from `lexLeftDelim` at the `{` back to `lexText` behind the tag; `tagStart` is then the offset of the `{` -/
theorem tag_run (g : Tag) {inp : Array UInt8} {q : Nat} (hok : g.ok) (h : Holds inp q g.src) (f : Nat) (w : Int) (dd : Bool)
    (ts : Int) (le : Item) (its : Array Item) :
    ∃ (w' : Int) (le' : Item) (its' : Array Item),
      run (f + g.steps) .leftDelim (Lexer.mk inp q q w dd ts le its) =
        run f .text (Lexer.mk inp ((q + g.src.length : Nat) : Int) ((q + g.src.length : Nat) : Int) w' false (q : Int) le' its') ∧
      its'.toList = its.toList ++ g.items q := by
  obtain ⟨post, hin⟩ := h.inpAt (by cases g <;> first | exact hok.elim | simp [Tag.src])
  cases g with
  | eof => exact hok.elim
  | close wd =>
    obtain ⟨hbytes, hsome, hnl, hnc⟩ := hok
    have h0 : InpAt inp q (123 :: 47 :: (wd ++ 125 :: post)) := by simpa [Tag.src] using hin
    have h1 : InpAt inp (q + 1) ((47 :: wd) ++ 125 :: post) := inpAt_tail h0
    have h4 : InpAt inp (q + 1 + (47 :: wd).length) (125 :: post) := inpAt_append h1
    have hlk : Gen.builtinIdents.lookup (47 :: wd) = some (closeType wd) := by
      unfold closeType
      cases hl : Gen.builtinIdents.lookup (47 :: wd) with
      | none => rw [hl] at hsome; exact absurd hsome (by simp)
      | some t => rfl
    rw [show q + (Tag.close wd).src.length = q + 1 + (47 :: wd).length + 1 by simp [Tag.src]; omega]
    refine ⟨1, ⟨.tRightDelim, q + 1 + (47 :: wd).length + 1, [125]⟩,
      ((its.push ⟨.tLeftDelim, q + 1, [123]⟩).push ⟨closeType wd, q + 1 + (47 :: wd).length, 47 :: wd⟩).push
        ⟨.tRightDelim, q + 1 + (47 :: wd).length + 1, [125]⟩, ?h1, ?h2⟩
    case h1 =>
      exact (run_step (n := f + 4) (step_leftDelim h0 (by decide) (by decide) w dd ts le its)).trans
        ((run_step (n := f + 3) (step_beginTag_close h1 1 _ _)).trans
        ((run_step (n := f + 2) (step_cmdEnd Inst.C17b.lexTableOK h1 (idBytes_alnum hbytes) ⟨by decide, by decide⟩
          (closeType wd) ⟨hlk, hnl, hnc⟩ 1 _ _)).trans
        ((run_step (n := f + 1) (step_rbrace h4 _ _ _)).trans (run_step (n := f) (step_rightDelim h4 _ _)))))
    case h2 => simp [Tag.items, Nat.add_comm, Nat.add_left_comm]
  | «open» es sc =>
    obtain ⟨hne, hes⟩ := hok
    obtain ⟨e0, r0, rfl⟩ : ∃ e0 r0, es = e0 :: r0 := by
      cases es with
      | nil => exact absurd rfl hne
      | cons a b => exact ⟨a, b, rfl⟩
    -- the first byte behind `{` is the head of the first element: ASCII, none of `{` `/` `\`
    obtain ⟨tl0, htl0⟩ := e0.src_head hes.1
    have hhead : e0.head.toNat < 128 ∧ e0.head ≠ 123 ∧ e0.head ≠ 47 ∧ e0.head ≠ 92 := by
      have hk := hes.1
      cases e0 with
      | sp => decide
      | colon => decide
      | dollar _ => simp only [Elem.head]; decide
      | dotIdent _ => simp only [Elem.head]; decide
      | word wd =>
        have := hk.1.2.1
        unfold idStart at this
        simp only [Elem.head]
        refine ⟨by omega, ?_, ?_, ?_⟩ <;> (intro e; rw [e] at this; revert this; decide)
      | int ds =>
        have := hk.2.2.1 0 hk.1
        unfold digitByte at this
        simp only [Elem.head]
        refine ⟨by omega, ?_, ?_, ?_⟩ <;> (intro e; rw [e] at this; revert this; decide)
      | eq => decide
      | str _ => simp only [Elem.head]; decide
    have h0 : InpAt inp q (123 :: e0.head :: (tl0 ++ (srcEs r0 ++ (closeBytes sc ++ post)))) := by
      simpa [Tag.src, srcEs, htl0] using hin
    have h1 : InpAt inp (q + 1) (srcEs (e0 :: r0) ++ (closeBytes sc ++ post)) := by
      have := inpAt_tail h0; simpa [srcEs, htl0] using this
    have h4 : InpAt inp (q + 1 + (srcEs (e0 :: r0)).length) (closeBytes sc ++ post) := inpAt_append h1
    cases sc with
    | false =>
      have h4' : InpAt inp (q + 1 + (srcEs (e0 :: r0)).length) (125 :: post) := h4
      -- `tagStart` is `q`, where `lexLeftDelim` found the `{`
      obtain ⟨w1, le1, its1, hr1, hi1⟩ := es_run (inp := inp) 125 (ts := q) (e0 :: r0) (q + 1) (f + 2) 1
        ⟨.tLeftDelim, q + 1, [123]⟩ (its.push ⟨.tLeftDelim, q + 1, [123]⟩) hes
        (holds_of_inpAt (post := post) (by simpa [closeBytes] using h1))
      rw [show q + (Tag.open (e0 :: r0) false).src.length = q + 1 + (srcEs (e0 :: r0)).length + 1 by
            simp [Tag.src, closeBytes]; omega,
        show f + (Tag.open (e0 :: r0) false).steps = (f + 2 + stepsEs (e0 :: r0) + 1) + 1 by simp [Tag.steps]; omega]
      refine ⟨1, ⟨.tRightDelim, q + 1 + (srcEs (e0 :: r0)).length + 1, [125]⟩,
        its1.push ⟨.tRightDelim, q + 1 + (srcEs (e0 :: r0)).length + 1, [125]⟩, ?h1, ?h2⟩
      case h1 =>
        exact (run_step (step_leftDelim h0 hhead.1 hhead.2.1 w dd ts le its)).trans
          ((run_step (step_beginTag (inpAt_tail h0) hhead.1 hhead.2.2.1 hhead.2.2.2 1 _ _)).trans
          (hr1.trans ((run_step (n := f + 1) (step_rbrace h4' _ _ _)).trans (run_step (n := f) (step_rightDelim h4' _ _)))))
      case h2 => simp [Tag.items, hi1]
    | true =>
      have h4' : InpAt inp (q + 1 + (srcEs (e0 :: r0)).length) (47 :: 125 :: post) := h4
      obtain ⟨w1, le1, its1, hr1, hi1⟩ := es_run (inp := inp) 47 (ts := q) (e0 :: r0) (q + 1) (f + 2) 1
        ⟨.tLeftDelim, q + 1, [123]⟩ (its.push ⟨.tLeftDelim, q + 1, [123]⟩) hes
        (holds_of_inpAt (post := 125 :: post) (by simpa [closeBytes] using h1))
      rw [show q + (Tag.open (e0 :: r0) true).src.length = q + 1 + (srcEs (e0 :: r0)).length + 2 by
            simp [Tag.src, closeBytes]; omega,
        show f + (Tag.open (e0 :: r0) true).steps = (f + 2 + stepsEs (e0 :: r0) + 1) + 1 by simp [Tag.steps]; omega]
      refine ⟨1, ⟨.tRightDelimEnd, q + 1 + (srcEs (e0 :: r0)).length + 2, [47, 125]⟩,
        its1.push ⟨.tRightDelimEnd, q + 1 + (srcEs (e0 :: r0)).length + 2, [47, 125]⟩, ?h1, ?h2⟩
      case h1 =>
        exact (run_step (step_leftDelim h0 hhead.1 hhead.2.1 w dd ts le its)).trans
          ((run_step (step_beginTag (inpAt_tail h0) hhead.1 hhead.2.2.1 hhead.2.2.2 1 _ _)).trans
          (hr1.trans ((run_step (n := f + 1) (step_slashClose h4' _ _ _)).trans
            (run_step (n := f) (step_rightDelimEnd h4' _ _)))))
      case h2 => simp [Tag.items, hi1]


/-- a segment: a text run (possibly empty) and the tag behind it -/
abbrev Seg := Bytes × Tag

def srcSegs : List Seg → Bytes
  | [] => []
  | s :: r => s.1 ++ s.2.src ++ srcSegs r

def itemsSegs : Nat → List Seg → List Item
  | _, [] => []
  | q, s :: r =>
    textItem s.1 (q + s.1.length) ++ s.2.items (q + s.1.length) ++ itemsSegs (q + s.1.length + s.2.src.length) r

def stepsSegs : List Seg → Nat
  | [] => 0
  | s :: r => 1 + s.2.steps + stepsSegs r

def txtOK (t : Bytes) : Prop := t = [] ∨ textOK t

instance (t : Bytes) : Decidable (txtOK t) := by unfold txtOK; infer_instance

def SegOK (s : Seg) : Prop := txtOK s.1 ∧ s.2.ok

theorem Tag.src_head (g : Tag) (h : g.ok) : ∃ tl, g.src = 123 :: tl := by
  cases g with
  | «open» es sc => exact ⟨_, rfl⟩
  | close w => exact ⟨_, rfl⟩
  | eof => exact h.elim

theorem tag_runs (g : Tag) {inp : Array UInt8} {q : Nat} (hok : g.ok) (h : Holds inp q g.src) :
    Runs inp .leftDelim q (some .text) (q + g.src.length) (g.items q) g.steps :=
  Runs.of_steps fun w dd ts le its f => by
    obtain ⟨w', le', its', hr, hi⟩ := tag_run g hok h f w dd ts le its
    exact ⟨w', false, q, le', its', hi, hr⟩

theorem seg_runs {inp : Array UInt8} {q : Nat} (s : Seg) {post : Bytes} (hok : SegOK s)
    (h : Holds inp q (s.1 ++ (s.2.src ++ post))) :
    Runs inp .text q (some .text) (q + s.1.length + s.2.src.length)
      (textItem s.1 (q + s.1.length) ++ s.2.items (q + s.1.length)) (1 + s.2.steps) := by
  obtain ⟨tl, htl⟩ := s.2.src_head hok.2
  have h' : Holds inp q (s.1 ++ 123 :: (tl ++ post)) := by rw [htl] at h; simpa using h
  exact (text_open_runs hok.1 h').trans (tag_runs s.2 hok.2 h.append.2.append.1)

theorem lex_segs {inp : Array UInt8} : ∀ (segs : List Seg) (tr : Bytes) (q : Nat), (∀ s ∈ segs, SegOK s) → txtOK tr →
    Holds inp q (srcSegs segs ++ tr) → q + (srcSegs segs ++ tr).length = inp.size →
    Runs inp .text q none (q + (srcSegs segs).length + tr.length)
      (itemsSegs q segs ++ (textItem tr (q + (srcSegs segs).length + tr.length) ++
        [⟨.tEOF, q + (srcSegs segs).length + tr.length, []⟩])) (stepsSegs segs + 1)
  | [], tr, q, _, htr, hh, hsz => by
    simp only [srcSegs, List.nil_append, List.length_nil, Nat.add_zero, itemsSegs, stepsSegs, Nat.zero_add] at hh hsz ⊢
    exact text_eof_runs htr hh hsz
  | s :: r, tr, q, hok, htr, hh, hsz => by
    have hh' : Holds inp q (s.1 ++ (s.2.src ++ (srcSegs r ++ tr))) := by
      simpa [srcSegs, List.append_assoc] using hh
    have h2 := lex_segs r tr (q + s.1.length + s.2.src.length) (fun x hx => hok x (by simp [hx])) htr hh'.append.2.append.2
      (by rw [← hsz]; simp [srcSegs]; omega)
    refine ((seg_runs s (hok s (by simp)) hh').trans h2).mono (by simp [srcSegs]; omega) ?_ (by simp [stepsSegs]; omega)
    simp only [itemsSegs, srcSegs, List.length_append, List.append_assoc]
    rw [show q + s.1.length + s.2.src.length + (srcSegs r).length + tr.length =
      q + (s.1.length + (s.2.src.length + (srcSegs r).length)) + tr.length by omega]

theorem stepsEs_le : ∀ (es : List Elem) (nb : UInt8), EsOK es nb → stepsEs es ≤ 2 * (srcEs es).length
  | [], _, _ => by simp [stepsEs]
  | e :: r, nb, h => by
    have := stepsEs_le r nb h.2.2
    obtain ⟨tl, htl⟩ := e.src_head h.1
    have h2 : e.steps ≤ 2 := by cases e <;> simp [Elem.steps]
    simp only [stepsEs, srcEs, List.length_append, htl, List.length_cons]
    omega

theorem Tag.steps_le (g : Tag) (h : g.ok) : 1 + g.steps ≤ 7 * g.src.length := by
  cases g with
  | eof => exact h.elim
  | close w => simp [Tag.steps, Tag.src]; omega
  | «open» es sc =>
    have := stepsEs_le es _ h.2
    cases sc <;> (simp [Tag.steps, Tag.src, closeBytes]; omega)

theorem stepsSegs_le : ∀ (segs : List Seg), (∀ s ∈ segs, SegOK s) → stepsSegs segs ≤ 7 * (srcSegs segs).length
  | [], _ => by simp [stepsSegs]
  | s :: r, h => by
    have := stepsSegs_le r (fun x hx => h x (by simp [hx]))
    have := s.2.steps_le (h s (by simp)).2
    simp only [stepsSegs, srcSegs, List.length_append]
    omega

theorem lexAll_segs (segs : List Seg) (tr : Bytes) (hok : ∀ s ∈ segs, SegOK s) (htr : txtOK tr) :
    lexAll (srcSegs segs ++ tr) false =
      .items (itemsSegs 0 segs ++ (textItem tr ((srcSegs segs).length + tr.length) ++
        [⟨.tEOF, (srcSegs segs).length + tr.length, []⟩])) := by
  have := lex_segs (inp := (srcSegs segs ++ tr).toArray) segs tr 0 hok htr (holds_self _) (by simp)
  exact (this.mono rfl (by simp) (Nat.le_refl _)).lexAll_eq
    (by have := stepsSegs_le segs hok; simp only [List.length_append]; omega)


end SoyVerif.Props.C05c
