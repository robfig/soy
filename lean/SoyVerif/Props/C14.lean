/-
  C14 — Generated JavaScript is well-formed and preserves every literal.

  Theorems about `Model/JsGen.lean` (the model of soyjs.Write, tied to the code by the
  correspondence sub-check C14gen: token-stream equality on generated bundles; the independent
  oracle C14lit parses every emitted file in otto and reads every literal back).

  The model writes PIECES (Model/JsGen.Piece): text of the generator itself, `escaped` payloads
  (everything that originates in the template as a string: raw text, string literals, map keys,
  css names, message text, global values — printed through the escaper `jsEscapeFixed`),
  identifier and dotted-name splices, numbers, one header per template, the file name in the
  first comment.  The theorems say what each splice can contain, for EVERY file whose names have
  the shapes the lexer guarantees (`WellNamed` below), every formatter, message
  bundle, globals and iteration order.
-/
import SoyVerif.Lemmas.JsGenTop
import SoyVerif.Props.C16

namespace SoyVerif.Props.C14
open SoyVerif SoyVerif.Model SoyVerif.Model.JsGen SoyVerif.Spec
open SoyVerif.Lemmas.JsGenSpec SoyVerif.Lemmas.JsGenSafe SoyVerif.Lemmas.JsGenTop

/-- The hypothesis of the theorems, `Lemmas.JsGenTop.FileWN`: the shapes lexer and parser deliver for the names in a file
    (assumed here, not derived): file-level nodes at file level only (there `TopWN`, inside bodies `JsGenSafe.CmdWN` /
    `ExprWN`); variable, let, loop and param names and keys after `.` are `IsIdent` (lexIdent / lexInsideTag); namespace,
    template and callee names are `QChars`.  Nothing is asked of the file name: visitSoyFile replaces its line
    terminators, see `commentName_safe`. -/
abbrev WellNamed (f : SoyFile) : Prop := FileWN f

/-- what each kind of splice may contain: `JsGenTop.POkTop`, with the escaper's guarantee at `.escaped` -/
def SpliceSafe : Piece → Prop
  | .fixed _ => True
  | .int _ => True
  | .float _ => True
  | .escaped s =>
      (∀ b ∈ jsEscapeFixed s, jsByteSafe b = true) ∧ jsQuotesEscaped (jsEscapeFixed s) = true ∧
        noLineSep (jsEscapeFixed s) = true
  | .ident b => IsIdent b
  | .qname b => QChars b
  | .es6name b => QChars b
  | .header _ n => QChars n
  | .comment b => CommentSafe b

/-- the safety half of the escaper, for EVERY payload, valid UTF-8 or not (Props/C16.jsEscapeFixed_roundtrip_safe) -/
theorem escaped_payload_safe (s : Bytes) :
    (∀ b ∈ jsEscapeFixed s, jsByteSafe b = true) ∧ jsQuotesEscaped (jsEscapeFixed s) = true ∧
      noLineSep (jsEscapeFixed s) = true := by
  have h := SoyVerif.Props.C16.jsEscapeFixed_roundtrip_safe Model.isPrint s
  exact ⟨h.1, h.2.1, h.2.2.1⟩

/-- … and the value half: a well-formed UTF-8 payload denotes exactly itself in JavaScript -/
theorem escaped_payload_roundtrip (s : Bytes) (h : ValidUtf8 s) : jsUnescape (Piece.escaped s).print = some s :=
  SoyVerif.Props.C16.jsEscapeFixed_roundtrip s h

theorem assocGet_called {fc : List (Bytes × List Piece)} (h : CalledOk fc) (k : Bytes) :
    AllP POk (match assocGet? fc k with | some v => v | none => []) := by
  cases hg : assocGet? fc k with
  | none => exact AllP.nil POk
  | some v =>
    obtain ⟨k', hk'⟩ := assocGet_mem fc k v hg
    exact h (k', v) hk'

theorem importPieces_ok (ord : List Bytes → List Bytes) (s : St) (h : CalledOk s.funcsCalled) :
    AllP POk (importPieces ord s) := by
  unfold importPieces
  split
  · exact AllP.nil POk
  · refine AllP.append POk ?_ (AllP.single POk trivial)
    intro p hp
    obtain ⟨k, _, hk⟩ := List.mem_flatMap.mp hp
    rcases List.mem_append.mp hk with hk | hk
    · exact assocGet_called h k p hk
    · simp only [List.mem_singleton] at hk
      subst hk
      trivial

theorem genPieces_top (ord : List Bytes → List Bytes) (f : SoyFile) (o : Options) (hf : WellNamed f)
    (ps : List Piece) (h : genPieces ord f o = .ok ps) :
    AllP POkTop ps ∧ hdrs ps = expectedHdrs o f.body := by
  unfold genPieces at h
  cases hv : visitSoyFile (fun l => Value.sortStrings (ord l)) o f initState with
  | error e => simp [hv] at h
  | ok r =>
    obtain ⟨u, body, s⟩ := r
    simp only [hv, Except.ok.injEq] at h
    subst h
    have ⟨hb, hh, hi, _⟩ := top_visitSoyFile _ o f hf _ _ _ _ initState_inv hv
    have himp := importPieces_ok ord s hi.2
    constructor
    · exact AllP.append POkTop (fun p hp => pok_top (himp p hp)) hb
    · rw [hdrs_append, hdrs_of_pok _ himp, hh]
      rfl

/-- In the output of the generator for a well-named file, every identifier splice is an
    identifier (non-empty, identifier bytes, no leading ASCII digit), every dotted-name splice
    consists of identifier bytes and dots, the file name stays inside its comment, and the printed form of every
    `escaped` payload contains no control byte, no `< > & =`, no unescaped quote, no dangling backslash and no raw
    U+2028/9 (this last part holds of any payload).  That every string originating in the template IS written as an
    `escaped` payload is how Model/JsGen is built, not a statement here. -/
theorem splices_safe (ord : List Bytes → List Bytes) (f : SoyFile) (o : Options) (hf : WellNamed f)
    (ps : List Piece) (h : genPieces ord f o = .ok ps) : ∀ p ∈ ps, SpliceSafe p := by
  intro p hp
  have hp' := (genPieces_top ord f o hf ps h).1 p hp
  cases p with
  | escaped s => exact escaped_payload_safe s
  | fixed _ => trivial
  | int _ => trivial
  | float _ => trivial
  | ident b => exact hp'
  | qname b => exact hp'
  | es6name b => exact hp'
  | header e n => exact hp'
  | comment b => exact hp'

theorem gen_eq_print (ord : List Bytes → List Bytes) (f : SoyFile) (o : Options) (out : Bytes)
    (h : gen ord f o = .ok out) : ∃ ps, genPieces ord f o = .ok ps ∧ out = printPieces ps := by
  unfold gen at h
  cases hp : genPieces ord f o with
  | error e => simp [hp, Except.map] at h
  | ok ps =>
    simp only [hp, Except.map, Except.ok.injEq] at h
    exact ⟨ps, rfl, h.symm⟩

/-- The function headers in the output are, in order, exactly the template nodes
    of the file — one header per template, under its qualified name, in the formatter's form;
    nothing else in the output is a header. -/
theorem one_function_per_template (ord : List Bytes → List Bytes) (f : SoyFile) (o : Options) (hf : WellNamed f)
    (ps : List Piece) (h : genPieces ord f o = .ok ps) :
    hdrs ps = (templateNames f.body).map fun n => (isEs6 o, n) :=
  (genPieces_top ord f o hf ps h).2

theorem header_line_es5 (n : Bytes) :
    (Piece.header false n).print = n ++ b!" = function(opt_data, opt_sb, opt_ijData) {" := by
  simp [Piece.print, sigTail]

theorem mem_hdrs : ∀ (ps : List Piece) (e : Bool) (n : Bytes), (e, n) ∈ hdrs ps → Piece.header e n ∈ ps
  | [], _, _, h => by cases h
  | p :: r, e, n, h => by
    cases p with
    | header e' n' =>
      simp only [hdrs, List.mem_cons, Prod.mk.injEq] at h
      rcases h with ⟨rfl, rfl⟩ | h
      · simp
      · exact List.mem_cons_of_mem _ (mem_hdrs r e n h)
    | _ => exact List.mem_cons_of_mem _ (mem_hdrs r e n (by simpa [hdrs] using h))

theorem print_infix : ∀ (ps : List Piece) (p : Piece), p ∈ ps → p.print <:+: printPieces ps
  | [], _, h => by cases h
  | q :: r, p, h => by
    unfold printPieces
    simp only [List.map_cons, List.flatten_cons]
    rcases List.mem_cons.mp h with rfl | h
    · exact ⟨[], (r.map Piece.print).flatten, by simp⟩
    · obtain ⟨a, b, hab⟩ := print_infix r p h
      refine ⟨q.print ++ a, b, ?_⟩
      unfold printPieces at hab
      rw [← hab]
      simp

/-- (ES5) The generated text contains as an infix, for every template node of the file, the definition line
    `<qualified name> = function(opt_data, opt_sb, opt_ijData) {`. -/
theorem definition_lines_present (ord : List Bytes → List Bytes) (f : SoyFile) (o : Options) (hf : WellNamed f)
    (h5 : o.formatter = .es5) (out : Bytes) (h : gen ord f o = .ok out) :
    ∀ n ∈ templateNames f.body, (n ++ b!" = function(opt_data, opt_sb, opt_ijData) {") <:+: out := by
  obtain ⟨ps, hps, rfl⟩ := gen_eq_print ord f o out h
  intro n hn
  have hh := one_function_per_template ord f o hf ps hps
  have he : isEs6 o = false := by simp [isEs6, h5]
  have hm : (false, n) ∈ hdrs ps := by
    rw [hh, he]
    exact List.mem_map.mpr ⟨n, hn, rfl⟩
  rw [← header_line_es5]
  exact print_infix ps _ (mem_hdrs ps false n hm)

/-- `{namespace a.b}{template .t}hi{$x}{/template}` as the parser delivers it -/
def sampleFile : SoyFile :=
  { name := b!"f.soy", text := [],
    body := [.namespace 0 b!"a.b" .unspecified,
             .template 15 b!"a.b.t" (.mk 15 (.cons (.rawText 28 b!"hi") (.cons (.print 30 (.dataRef 31 b!"x" .nil) []) .nil)))
               .unspecified false] }

theorem sample_wellNamed : WellNamed sampleFile := by
  intro c hc
  simp only [sampleFile, List.mem_cons, List.mem_nil_iff, or_false] at hc
  rcases hc with rfl | rfl
  · show QChars b!"a.b"
    unfold QChars
    decide
  · refine ⟨by show QChars b!"a.b.t"; unfold QChars; decide, ?_⟩
    show CmdsWN _
    refine ⟨trivial, ⟨⟨⟨120, [], rfl, by decide, by decide⟩, trivial⟩, ?_⟩, trivial⟩
    intro d hd
    cases hd

example : templateNames sampleFile.body = [b!"a.b.t"] := rfl

/-- the generator succeeds on the sample (kernel evaluation of the model) … -/
example : ∃ ps, genPieces id sampleFile {} = .ok ps := ⟨_, rfl⟩

/-- … so the theorems speak about something: its pieces contain exactly the one header, -/
example : ∀ ps, genPieces id sampleFile {} = .ok ps → hdrs ps = [(false, b!"a.b.t")] :=
  fun ps h => one_function_per_template id sampleFile {} sample_wellNamed ps h

/-- … and its text the definition line of `a.b.t`. -/
example : ∀ out, gen id sampleFile {} = .ok out →
    (b!"a.b.t" ++ b!" = function(opt_data, opt_sb, opt_ijData) {") <:+: out :=
  fun out h => definition_lines_present id sampleFile {} sample_wellNamed rfl out h b!"a.b.t" (by decide)

/-- a key that begins with an ASCII digit (which lexInsideTag rejects) is no identifier: such a
    file is outside the hypothesis -/
example : ¬ IsIdent b!"1z" := by
  rintro ⟨c, r, h, hs, _⟩
  simp only [List.cons.injEq] at h
  obtain ⟨rfl, _⟩ := h
  revert hs
  decide

/-- a payload with `<`, `/`, a quote and U+2028 is not printed as it stands (it contains `<`, which no printed
    payload does) -/
example : (Piece.escaped [60, 47, 39, 226, 128, 168]).print ≠ [60, 47, 39, 226, 128, 168] := by
  intro h
  have := (escaped_payload_safe [60, 47, 39, 226, 128, 168]).1
  rw [show jsEscapeFixed [60, 47, 39, 226, 128, 168] = (Piece.escaped [60, 47, 39, 226, 128, 168]).print from rfl, h] at this
  exact absurd (this 60 (by simp)) (by decide)

end SoyVerif.Props.C14
