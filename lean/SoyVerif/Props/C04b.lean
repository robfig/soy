/-
  C04 — print directives: ORDER and ESCAPE DECISION agree between the two backends.

  1. `visitPrint_renders` — what the generator model writes for a print node is, as an action of the
     generator monad (hence piece for piece),
         buf += dN(…d2(d1(E, args1), args2)…, argsN);
     i.e. `renderM (applyDirs ds E)` where `ds = printDirs autoescape cancel kept` lists the applied
     directives INNERMOST FIRST: the directives of the print command in source order (`id` /
     `noAutoescape` dropped), `escapeHtml` inserted before every insertWordBreaks / changeNewlineToBr,
     and the implicit `escapeHtml` last exactly when autoescaping is in force and no directive
     cancels it.
  2. `print_directives_agree` — reading a directive application `name:args` as an UNINTERPRETED
     function `F name args` (the same symbol on both sides: what soy.$$name / JSON.stringify compute),
     the value the generated JavaScript computes equals the value the Go renderer computes, for every
     directive list both backends know, every autoescape mode and every `F`.  The Go side is `goPrint` / `goRun` /
     `goApply` of THIS file: a transcription of the recursion of `Model/Eval.runDirectives` / `evalPrint` (left to right,
     the flag cleared by a cancelling directive, escaping last) over the symbols `F`, into which two facts about the Go
     library are written by hand: `directiveNoAutoescape` (id, noAutoescape) is the identity, and the Go
     insertWordBreaks / changeNewlineToBr escape their input themselves (= `F name args ∘ F escapeHtml []`).  No theorem
     derives `goRun` from `Eval.runDirectives`; `runDirectives_flag` / `runDirectives_append` show that the model's loop has
     the same two shape properties (flag = conjunction, left to right).
     The theorem uses the LIVE tables of both backends (`tables_agree`, by `decide`): it breaks if a
     CancelAutoescape flag differs, and it is false for a generator that nests right to left or drops
     the input escape (examples at the end).
-/
import SoyVerif.Lemmas.JsGenMonad
import SoyVerif.Model.Eval
import SoyVerif.Lemmas.EvalFrame

namespace SoyVerif.Props.C04b
open SoyVerif SoyVerif.Model SoyVerif.Model.JsGen SoyVerif.Lemmas.JsGenMonad

/-- a print expression: the translated argument, wrapped in directive calls -/
inductive PExpr where
  | arg
  | call (d : Directive) (x : PExpr)

/-- apply the directives, the FIRST of the list innermost -/
def applyDirs (ds : List Directive) (x : PExpr) : PExpr := ds.foldl (fun acc d => .call d acc) x

section
variable (sk : List Bytes → List Bytes) (o : Options) (arg : Expr)

/-- the text of a print expression: `name(` inner `,arg…` [`,true`] `)` -/
def renderM : PExpr → M Unit
  | .arg => walkExpr sk o arg
  | .call d x => do
    fx (directiveJsName d.name); fx b!"("
    renderM x
    closeDirective sk o d

/-- `buf += e;` -/
def printStmt (buf : Bytes) (e : PExpr) : M Unit := do
  indentP
  emit (.ident buf); fx b!" += "
  renderM sk o arg e
  fx b!";\n"

def openDirective (d : Directive) : M Unit := do fx (directiveJsName d.name); fx b!"("

/-- what visitPrint does: all the openings (outermost first), the argument, all the closings -/
def wrapM (ds : List Directive) (inner : M Unit) : M Unit := do
  seqM (ds.reverse.map openDirective)
  inner
  seqM (ds.map (closeDirective sk o))

theorem wrapM_cons (d : Directive) (ds : List Directive) (inner : M Unit) :
    wrapM sk o (d :: ds) inner = wrapM sk o ds (do openDirective d; inner; closeDirective sk o d) := by
  unfold wrapM
  simp only [List.reverse_cons, List.map_append, List.map_cons, List.map_nil, seqM_append, seqM_single, bind_assoc]
  rfl

theorem wrapM_render : ∀ (ds : List Directive) (x : PExpr),
    wrapM sk o ds (renderM sk o arg x) = renderM sk o arg (applyDirs ds x)
  | [], x => by
    show (pure () >>= fun _ => renderM sk o arg x >>= fun _ => pure ()) = _
    rw [pure_bind, bind_pure]
    rfl
  | d :: ds, x => by
    rw [wrapM_cons]
    have : (do openDirective d; renderM sk o arg x; closeDirective sk o d) = renderM sk o arg (.call d x) := by
      show _ = (do fx (directiveJsName d.name); fx b!"("; renderM sk o arg x; closeDirective sk o d)
      unfold openDirective
      simp only [bind_assoc]
    rw [this, wrapM_render ds (.call d x)]
    rfl

/-- The print statement written is `buf += ` the nesting of the
    applied directives, first-applied innermost, around the translated argument. -/
theorem visitPrint_renders (dirs : List Directive) :
    visitPrint sk o arg dirs = (do
      let s ← getSt
      match collectDirs dirs with
      | none => fail
      | some (cancel, kept) => do
        whenM (isEs6 o) (seqM (kept.map fun d => addCalled d.name (tableImport (directiveJsName d.name))))
        printStmt sk o arg s.bufferName (applyDirs (printDirs s.autoescape cancel kept) .arg)) := by
  unfold visitPrint
  congr 1
  funext s
  cases collectDirs dirs with
  | none => rfl
  | some ck =>
    obtain ⟨cancel, kept⟩ := ck
    simp only
    congr 1
    funext _
    unfold printStmt
    rw [← wrapM_render]
    unfold wrapM
    simp only [bind_assoc]
    rfl

end

section
variable {α : Type}
-- `F name args x`: what the directive `|name:args` computes from `x` in JavaScript
-- (soy.$$name(x, args…); `F escapeHtml []` is soy.$$escapeHtml) — uninterpreted
variable (F : Bytes → List Expr → α → α)

def denote (v : α) : PExpr → α
  | .arg => v
  | .call d x => F d.name d.args (denote v x)

def foldD (ds : List Directive) (x : α) : α := ds.foldl (fun acc d => F d.name d.args acc) x

theorem denote_applyDirs (v : α) : ∀ (ds : List Directive) (e : PExpr),
    denote F v (applyDirs ds e) = foldD F ds (denote F v e)
  | [], e => rfl
  | d :: ds, e => by
    show denote F v (applyDirs ds (.call d e)) = foldD F ds (F d.name d.args (denote F v e))
    rw [denote_applyDirs v ds (.call d e)]
    rfl

/-- JavaScript: the value of the generated print expression (`none`: soyjs.Write fails, unknown directive) -/
def jsPrint (ae : Autoescape) (dirs : List Directive) (x : α) : Option α :=
  (collectDirs dirs).map fun ck => denote F x (applyDirs (printDirs ae ck.1 ck.2) .arg)

/-- Go: `directive.Apply(result, args)` for the entry of the live table, the library functions as
    symbols: directiveNoAutoescape returns its input; the Go insertWordBreaks / changeNewlineToBr
    escape their input before they work on it -/
def goApply (e : Gen.DirectiveEntry) (d : Directive) (x : α) : α :=
  if e.impl == Directives.sDirectiveNoAutoescape then x
  else if e.impl == Directives.sDirectiveInsertWordBreaks || e.impl == Directives.sDirectiveChangeNewlineToBr then
    F d.name d.args (F escapeHtmlName [] x)
  else F d.name d.args x

/-- Go: the directive loop of evalPrint (the recursion of `Eval.runDirectives`): left to right, the
    escape flag cleared by a cancelling directive; `none` = unknown directive -/
def goRun (tbl : Directives.Table) : List Directive → α → Bool → Option (α × Bool)
  | [], x, esc => some (x, esc)
  | d :: ds, x, esc =>
    match Directives.lookup tbl d.name with
    | none => none
    | some e => goRun tbl ds (goApply F e d x) (if e.cancel then false else esc)

/-- Go: evalPrint — escaping comes last, if still in force -/
def goPrint (tbl : Directives.Table) (ae : Autoescape) (dirs : List Directive) (x : α) : Option α :=
  (goRun F tbl dirs x (ae != .off)).map fun r => if r.2 then F escapeHtmlName [] r.1 else r.1

end

/-- for a directive known to both backends: same CancelAutoescape flag; the Go implementation is the
    identity exactly for the names soyjs drops; it is one of the two self-escaping functions exactly
    for the names whose input soyjs escapes -/
def entryAgrees (j : Gen.JsDirective) (e : Gen.DirectiveEntry) : Bool :=
  e.cancel == j.cancel &&
  ((e.impl == Directives.sDirectiveNoAutoescape) == (j.name == b!"id" || j.name == b!"noAutoescape")) &&
  ((e.impl == Directives.sDirectiveInsertWordBreaks || e.impl == Directives.sDirectiveChangeNewlineToBr) ==
    (j.name == b!"insertWordBreaks" || j.name == b!"changeNewlineToBr"))

def tablesAgree (goTbl : Directives.Table) (jsTbl : List Gen.JsDirective) : Bool :=
  jsTbl.all fun j =>
    match Directives.lookup goTbl j.name with
    | none => true
    | some e => entryAgrees j e

/-- TABLE OBLIGATION, re-checked against the generated tables on every run -/
theorem tables_agree : tablesAgree Gen.directiveTable Gen.jsDirectives = true := by decide

/-- soyhtml.ObligatoryPrintDirectiveNames is empty: evalPrint runs exactly the directives of the node -/
theorem no_obligatory_directives : Gen.obligatoryDirectives = [] := rfl

theorem agree_of_lookup {goTbl : Directives.Table} (h : tablesAgree goTbl Gen.jsDirectives = true)
    {name : Bytes} {j : Gen.JsDirective} {e : Gen.DirectiveEntry}
    (hj : findDirective name = some j) (he : Directives.lookup goTbl name = some e) :
    e.cancel = j.cancel ∧
    ((e.impl == Directives.sDirectiveNoAutoescape) = (name == b!"id" || name == b!"noAutoescape")) ∧
    ((e.impl == Directives.sDirectiveInsertWordBreaks || e.impl == Directives.sDirectiveChangeNewlineToBr) =
      (name == b!"insertWordBreaks" || name == b!"changeNewlineToBr")) := by
  unfold findDirective at hj
  have hmem := List.mem_of_find?_eq_some hj
  have hname : j.name = name := by
    have := List.find?_some hj
    simpa using this
  unfold tablesAgree at h
  have hj' := List.all_eq_true.mp h j hmem
  rw [hname, he] at hj'
  simp only [entryAgrees, Bool.and_eq_true, beq_iff_eq, hname] at hj'
  exact ⟨hj'.1.1, hj'.1.2, hj'.2⟩

section
variable {α : Type} (F : Bytes → List Expr → α → α)

theorem foldD_append (a b : List Directive) (x : α) : foldD F (a ++ b) x = foldD F b (foldD F a x) := by
  unfold foldD
  rw [List.foldl_append]

/-- the loop: Go's left-to-right run equals the fold over the JavaScript side's directive list, and
    the flags agree -/
theorem goRun_eq (goTbl : Directives.Table) (ht : tablesAgree goTbl Gen.jsDirectives = true) :
    ∀ (dirs : List Directive) (x : α) (esc cancel : Bool) (kept : List Directive),
      collectDirs dirs = some (cancel, kept) → (∀ d ∈ dirs, (Directives.lookup goTbl d.name).isSome) →
      goRun F goTbl dirs x esc = some (foldD F (withInputEscapes kept) x, esc && !cancel)
  | [], x, esc, cancel, kept, hc, _ => by
    simp only [collectDirs, Option.some.injEq, Prod.mk.injEq] at hc
    obtain ⟨rfl, rfl⟩ := hc
    simp [goRun, foldD, withInputEscapes]
  | d :: ds, x, esc, cancel, kept, hc, hk => by
    unfold collectDirs at hc
    cases hj : findDirective d.name with
    | none => simp [hj] at hc
    | some j =>
      cases hr : collectDirs ds with
      | none => simp [hj, hr] at hc
      | some ck =>
        obtain ⟨c, kept'⟩ := ck
        simp only [hj, hr, Option.some.injEq, Prod.mk.injEq] at hc
        obtain ⟨rfl, rfl⟩ := hc
        have hsome := hk d (by simp)
        cases he : Directives.lookup goTbl d.name with
        | none => simp [he] at hsome
        | some e =>
          obtain ⟨hcan, hid, hesc⟩ := agree_of_lookup ht hj he
          have ih := goRun_eq goTbl ht ds (goApply F e d x) (if e.cancel then false else esc) c kept' hr
            (fun d' hd' => hk d' (by simp [hd']))
          unfold goRun
          simp only [he, ih]
          congr 1
          refine Prod.ext ?_ ?_
          · -- values: the table entry decides on the Go side exactly what the name decides on the JavaScript side
            simp only
            unfold goApply
            rw [hid, hesc]
            cases (d.name == b!"id" || d.name == b!"noAutoescape") <;>
              cases h2 : (d.name == b!"insertWordBreaks" || d.name == b!"changeNewlineToBr") <;>
              simp [withInputEscapes, h2, foldD, escapeHtmlDir]
          · simp only [hcan]
            cases j.cancel <;> cases esc <;> cases c <;> rfl

/-- For every list of directives that both backends know, every
    autoescape mode, every interpretation `F` of the directive functions and every input value, the
    generated JavaScript computes what the Go renderer computes. -/
theorem print_directives_agree (ae : Autoescape) (dirs : List Directive) (x : α)
    (hjs : (collectDirs dirs).isSome) (hgo : ∀ d ∈ dirs, (Directives.lookup Gen.directiveTable d.name).isSome) :
    jsPrint F ae dirs x = goPrint F Gen.directiveTable ae dirs x := by
  cases hc : collectDirs dirs with
  | none => simp [hc] at hjs
  | some ck =>
    obtain ⟨cancel, kept⟩ := ck
    unfold jsPrint goPrint
    rw [goRun_eq F Gen.directiveTable tables_agree dirs x (ae != .off) cancel kept hc hgo]
    simp only [hc, Option.map_some, Option.some.injEq]
    rw [denote_applyDirs]
    unfold printDirs
    cases cancel <;> cases ae <;>
      simp [foldD, denote, escapeHtmlDir]

end

/-- the escape flag evalPrint ends with: still set iff it was set and no directive cancels -/
theorem runDirectives_flag (g : Eval.GEnv) (ctx : Eval.Scope) :
    ∀ (ds : List Directive) (v : Value) (esc : Bool) (st : Eval.St) (v' : Value) (esc' : Bool) (st' : Eval.St),
      Eval.runDirectives g ctx ds v esc st = some (v', esc', st') →
      esc' = (esc && ds.all fun d => match Directives.lookup g.tbl d.name with
        | some e => !e.cancel
        | none => true)
  | _, _, _, _, _, _, _, h => Eval.runDirectives_flag h

/-- … and running `ds₁ ++ ds₂` is running `ds₁`, then `ds₂` on its result (left to right) -/
theorem runDirectives_append (g : Eval.GEnv) (ctx : Eval.Scope) :
    ∀ (ds1 ds2 : List Directive) (v : Value) (esc : Bool) (st : Eval.St),
      Eval.runDirectives g ctx (ds1 ++ ds2) v esc st =
        (Eval.runDirectives g ctx ds1 v esc st).bind fun r => Eval.runDirectives g ctx ds2 r.1 r.2.1 r.2.2
  | [], ds2, v, esc, st => by simp [Eval.runDirectives]
  | d :: ds1, ds2, v, esc, st => by
    simp only [List.cons_append]
    rw [Eval.runDirectives.eq_2, Eval.runDirectives.eq_2]
    cases Directives.lookup g.tbl d.name with
    | none => rfl
    | some e =>
      simp only
      split
      · rfl
      · split
        · rfl
        · split
          · rfl
          · exact runDirectives_append g ctx ds1 ds2 _ _ _

/-- an interpretation that records the applications: the value is the trace -/
def traceF : Bytes → List Expr → List Bytes → List Bytes := fun n _ x => x ++ [n]

def dTruncate : Directive := { pos := 0, name := b!"truncate", args := [.int 0 4, .bool 0 false] }
def dEscapeHtml : Directive := { pos := 0, name := b!"escapeHtml", args := [] }
def dWordBreaks : Directive := { pos := 0, name := b!"insertWordBreaks", args := [.int 0 3] }
def dNoAuto : Directive := { pos := 0, name := b!"noAutoescape", args := [] }

/-- `{$s|truncate:4,false|escapeHtml}`: truncate first (innermost), then escapeHtml; the explicit
    escapeHtml cancels the implicit one — on both sides -/
example : jsPrint traceF .on [dTruncate, dEscapeHtml] [] = some [b!"truncate", b!"escapeHtml"] := by decide
example : goPrint traceF Gen.directiveTable .on [dTruncate, dEscapeHtml] [] = some [b!"truncate", b!"escapeHtml"] := by
  decide

/-- `{$s|insertWordBreaks:3}` under autoescape: the input is escaped, the (cancelling) directive runs,
    nothing is escaped afterwards -/
example : jsPrint traceF .on [dWordBreaks] [] = some [b!"escapeHtml", b!"insertWordBreaks"] := by decide

/-- `{$s|truncate:4,false}` under autoescape: the implicit escapeHtml is applied LAST; with
    `|noAutoescape` it is not applied -/
example : jsPrint traceF .on [dTruncate] [] = some [b!"truncate", b!"escapeHtml"] := by decide
example : jsPrint traceF .on [dTruncate, dNoAuto] [] = some [b!"truncate"] := by decide

/-- the theorem is about THIS nesting: a generator that nests right to left computes something else -/
example : denote traceF [] (applyDirs [dTruncate, dEscapeHtml].reverse .arg) ≠
    denote traceF [] (applyDirs [dTruncate, dEscapeHtml] .arg) := by decide

/-- … and so does one that does not escape the input of insertWordBreaks -/
example : some (denote traceF ([] : List Bytes) (applyDirs [dWordBreaks] .arg)) ≠
    goPrint traceF Gen.directiveTable .on [dWordBreaks] [] := by decide

end SoyVerif.Props.C04b
