/-
  C13 / C07 — the ERROR that compilation reports is as stable as the accept/reject decision.

  `Model/CheckErr.lean` models `CheckDataRefs` and `Registry.Add` WITH their errors (the template being
  checked, the kind of the error, the payload the message prints — every name list in the order the Go
  code builds it); the correspondence op `checkerr` (C07) ties it to the real message texts.

  * `checkE_ok_iff`, `addAllE_eq`, `compileE_ok_iff`: the error-reporting walks accept exactly when the
    Boolean / Option models do — so `check_iff_valid` (C07) and the permutation theorems (C13b) transfer;
  * `checkE_first`: the error reported is that of the FIRST template, in registry order, whose own check
    fails, with that template's name; `checkOneE_sig_ext` (Lemmas/CheckErrExt.lean): it is a function of that
    template, and of the registry only through the parameter lists found under the callee NAMES (`SigEq`);
  * `checkE_perm_single`, `compileE_perm_single`: if exactly one template of the registry fails, every
    permutation of the registry / of the files reports the SAME `CheckErr` (strengthening
    `C13b.compile_single_failure_perm` from "fails at the same template" to "fails with the same error").
-/
import SoyVerif.Lemmas.CheckErrSim
import SoyVerif.Lemmas.CheckErrExt
import SoyVerif.Props.C13b


namespace SoyVerif.Props.C13c
open SoyVerif SoyVerif.Model SoyVerif.Model.Check SoyVerif.Model.CheckErr SoyVerif.Model.Registry
open SoyVerif.Lemmas.CheckErrSim SoyVerif.Props.C13b

/-- forget which error of a bare `Except` (`CheckErrSim.toC` does it under the state) -/
def eo {ε α : Type} : Except ε α → Option α
  | .ok r => some r
  | .error _ => none

theorem eo_ite2 {ε α : Type} (c1 c2 : Bool) (e1 e2 : ε) (x : Except ε α) (y : Option α) (h : eo x = y) :
    eo (if c1 = true then .error e1 else if c2 = true then .error e2 else x) =
      (if c1 = true then none else if c2 = true then none else y) := by
  cases c1 <;> cases c2 <;> simp [h] <;> rfl

theorem findNamespaceE_eq : ∀ cmds : List Cmd, eo (findNamespaceE cmds) = findNamespace cmds
  | [] => rfl
  | c :: rest => by
    cases c <;> simp only [findNamespaceE, findNamespace, eo]
    case soyDoc => exact findNamespaceE_eq rest

theorem addTemplatesE_eq (fn text ns : Bytes) (ae : Autoescape) : ∀ (cmds : List Cmd) (prev : Option Cmd) (reg : Reg),
    eo (addTemplatesE fn text ns ae cmds prev reg) = addTemplates fn text ns ae cmds prev reg
  | [], _, _ => rfl
  | c :: rest, prev, reg => by
    cases c <;> simp only [addTemplatesE, addTemplates] <;>
      first | exact addTemplatesE_eq fn text ns ae rest _ _ | rfl | skip
    case template pos name b ae' k =>
      cases b with
      | mk bpos cmds => exact eo_ite2 _ _ _ _ _ _ (addTemplatesE_eq fn text ns ae rest _ _)

theorem addE_eq (reg : Reg) (f : SoyFile) : eo (addE reg f) = add reg f := by
  unfold addE add
  have h := findNamespaceE_eq f.body
  cases hn : findNamespaceE f.body with
  | error e => rw [hn] at h; simp only [eo] at h; rw [← h]; rfl
  | ok r =>
    rw [hn] at h; simp only [eo] at h; rw [← h]
    obtain ⟨n, a⟩ := r
    exact addTemplatesE_eq _ _ _ _ _ _ _

theorem addAllE_eq : ∀ (fs : List SoyFile) (reg : Reg), eo (addAllE reg fs) = addAll reg fs
  | [], _ => rfl
  | f :: fs, reg => by
    unfold addAllE addAll
    have h := addE_eq reg f
    cases ha : addE reg f with
    | error e => rw [ha] at h; simp only [eo] at h; rw [← h]; rfl
    | ok r => rw [ha] at h; simp only [eo] at h; rw [← h]; exact addAllE_eq fs r

/-- the error of a template's own check (meaningful when it fails) -/
def errOf (reg : List Template) (t : Template) : ErrKind :=
  match checkOneE reg t with
  | .error k => k
  | .ok _ => default

theorem checkLoop_first (reg : List Template) : ∀ ts : List Template,
    checkLoop reg ts = match ts.find? (fun t => !checkOne reg t) with
      | none => .ok ()
      | some t => .error ⟨t.name, errOf reg t⟩
  | [] => rfl
  | t :: r => by
    have h1 := checkOneE_ok_iff reg t
    unfold checkLoop
    cases hc : checkOneE reg t with
    | error k =>
      have : checkOne reg t = false := by
        cases h : checkOne reg t with
        | false => rfl
        | true => rw [h1.2 h] at hc; cases hc
      simp [this, errOf, hc]
    | ok u =>
      have : checkOne reg t = true := h1.1 (by rw [hc])
      simp only [List.find?_cons, this, Bool.not_true]
      exact checkLoop_first reg r

/-- `CheckDataRefs` reports the error of the first template, in registry order, whose own check
    fails, under that template's name -/
theorem checkE_first (reg : List Template) :
    checkE reg = match firstFailing reg with
      | none => .ok ()
      | some t => .error ⟨t.name, errOf reg t⟩ :=
  checkLoop_first reg reg

/-- `CheckDataRefs` with errors accepts exactly the registries `check` accepts -/
theorem checkE_ok_iff (reg : List Template) : checkE reg = .ok () ↔ check reg = true := by
  rw [checkE_first, check, firstFailing]
  cases h : reg.find? (fun t => !checkOne reg t) with
  | none => simpa using List.find?_eq_none.mp h
  | some t =>
    have ht : checkOne reg t = false := by simpa using List.find?_some h
    simp only [reduceCtorEq, false_iff, List.all_eq_true]
    exact fun hall => absurd (hall t (List.mem_of_find?_eq_some h)) (by simp [ht])

theorem compileE_ok_iff (fs : List SoyFile) : compileE fs = .ok () ↔ compileOk fs = true := by
  unfold compileE compileOk
  have h := addAllE_eq fs []
  cases ha : addAllE [] fs with
  | error e => rw [ha] at h; simp only [eo] at h; rw [← h]; simp
  | ok reg =>
    rw [ha] at h; simp only [eo] at h; rw [← h]
    simp only
    have := checkE_ok_iff (toCheck reg)
    cases hc : checkE (toCheck reg) with
    | error e => rw [hc] at this; simp at this ⊢; exact this
    | ok u => rw [hc] at this; simpa using this.1 rfl

/-- registries that answer every lookup by name alike give every template's own check (`checkOneE`) the same
    result: it depends on the trees only -/
theorem checkE_ext {reg reg' : List Template} (h : LookupEq reg reg') (t : Template) :
    checkOneE reg t = checkOneE reg' t :=
  checkOneE_sig_ext h.sigEq t

theorem errOf_ext {reg reg' : List Template} (h : LookupEq reg reg') (t : Template) : errOf reg t = errOf reg' t := by
  unfold errOf; rw [checkE_ext h t]

/-- with distinct template names, if exactly one template of the registry fails its check, every
    permutation of the registry reports the same error — the same template name, kind and payload -/
theorem checkE_perm_single {reg reg' : List Template} (hp : reg.Perm reg') (nd : (reg.map (·.name)).Nodup)
    (t : Template) (h1 : failing reg = [t]) :
    checkE reg = .error ⟨t.name, errOf reg t⟩ ∧ checkE reg' = checkE reg := by
  obtain ⟨hf', hf⟩ := single_failure_perm hp nd t h1
  rw [checkE_first reg, checkE_first reg', hf, hf']
  simp only [true_and]
  rw [errOf_ext (lookupEq_of_perm hp nd) t]

/-- … and for a bundle: the files in any other order are accepted by `Registry.Add` alike, and if exactly one
    template fails `CheckDataRefs`, compilation reports the same error -/
theorem compileE_perm_single {fs fs' : List SoyFile} (hp : fs.Perm fs') (reg : Reg)
    (h1 : addAllE [] fs = .ok reg) (t : Template) (hone : failing (toCheck reg) = [t]) :
    compileE fs = .error (.check ⟨t.name, errOf (toCheck reg) t⟩) ∧ compileE fs' = compileE fs := by
  have e1 : addAll [] fs = some reg := by rw [← addAllE_eq, h1]; rfl
  obtain ⟨hsome, hreg⟩ := addAll_perm hp
  have hs' : (addAll [] fs').isSome = true := by rw [← hsome, e1]; rfl
  obtain ⟨reg', e2⟩ := Option.isSome_iff_exists.mp hs'
  have h2 : addAllE [] fs' = .ok reg' := by
    have := addAllE_eq fs' []
    rw [e2] at this
    cases ha : addAllE [] fs' with
    | error e => rw [ha] at this; cases this
    | ok r => rw [ha] at this; simp only [eo, Option.some.injEq] at this; rw [this]
  obtain ⟨hperm, hnd⟩ := hreg reg reg' e1 e2
  obtain ⟨hc, hc'⟩ := checkE_perm_single (reg := toCheck reg) (reg' := toCheck reg')
    (by unfold toCheck; exact hperm.map _) (by rw [toCheck_names]; exact hnd) t hone
  unfold compileE
  rw [h1, h2]
  simp only [hc', hc, true_and]

/-- `{$z}` in template nc.v: the error is "data ref "z" not found. params: [], let variables: []" under the
    template's name — in every order of the three files -/
example : compileE [fileA, fileB, fileBad] = .error (.check ⟨[110, 99, 46, 118], .dataRefNotFound [122] [] []⟩) ∧
    compileE [fileBad, fileB, fileA] = .error (.check ⟨[110, 99, 46, 118], .dataRefNotFound [122] [] []⟩) ∧
    compileE [fileB, fileBad, fileA] = .error (.check ⟨[110, 99, 46, 118], .dataRefNotFound [122] [] []⟩) := by decide
example : compileE [fileA, fileB] = .ok () ∧ compileE [fileB, fileB] = .error (.reg (.duplicate [110, 98, 46, 117])) ∧
    compileE [fileA] = .error (.check ⟨[110, 97, 46, 116], .callNotFound [110, 98, 46, 117]⟩) := by decide

/-- two independent errors (an unknown callee in na.t, an undeclared variable in nc.v): which one is reported
    depends on the order of the files — the only thing the property lets vary -/
example : compileE [fileA, fileBad] = .error (.check ⟨[110, 97, 46, 116], .callNotFound [110, 98, 46, 117]⟩) ∧
    compileE [fileBad, fileA] = .error (.check ⟨[110, 99, 46, 118], .dataRefNotFound [122] [] []⟩) := by decide

/-- params `a b c` of which only `b` is referred to: the unused names come in declaration order -/
def tUnused : Template :=
  { name := [116], params := [⟨[97], false⟩, ⟨[98], false⟩, ⟨[99], true⟩],
    body := .mk 0 (.cons (.print 0 (.dataRef 0 [98] .nil) []) .nil) }
example : checkE [tUnused] = .error ⟨[116], .unusedParams [[97], [99]]⟩ := by decide
/-- `{let $p}{let $q}{let $r}{$q}`: the unused lets `p`, `r`, in declaration order -/
def tLets : Template :=
  { name := [116], params := [],
    body := .mk 0 (.cons (.letValue 0 [112] (.int 0 1)) (.cons (.letValue 0 [113] (.int 0 2)) (.cons (.letValue 0 [114] (.int 0 3))
      (.cons (.print 0 (.dataRef 0 [113] .nil) []) .nil)))) }
example : checkE [tLets] = .error ⟨[116], .unusedLets [[112], [114]]⟩ := by decide

/-- `{isFirst($a)}` with `a` a param: "…: the argument of isFirst must be the variable of an enclosing foreach or
    for loop"; in the body of `{foreach $a in $a}` the same print is accepted -/
def tLoopFn (inLoop : Bool) : Template :=
  let p : Cmd := .print 0 (.func 0 [105, 115, 70, 105, 114, 115, 116] (.cons (.dataRef 0 [97] .nil) .nil)) []
  { name := [116], params := [⟨[97], false⟩],
    body := .mk 0 (.cons (if inLoop then .forc 0 [97] (.dataRef 0 [97] .nil) (.mk 0 (.cons p .nil)) none else p) .nil) }
example : checkE [tLoopFn false] = .error ⟨[116], .loopFuncArg [105, 115, 70, 105, 114, 115, 116]⟩ ∧
    checkE [tLoopFn true] = .ok () := by decide

/-- `{$z}` written after the template of a file (never checked, never rendered): `Registry.Add` answers
    "command outside of a template: {$z}" (/repo b05b95a); raw text and doc comments there are fine -/
def fileOutside (c : Cmd) : SoyFile :=
  { name := [100], text := [], body := [.namespace 0 [110, 100] .unspecified,
      .template 0 [110, 100, 46, 119] (.mk 0 (.cons (.rawText 0 [120]) .nil)) .unspecified false, c] }
example : compileE [fileB, fileOutside (.print 0 (.dataRef 0 [122] .nil) [])] = .error (.reg .commandOutside) ∧
    compileE [fileOutside (.letValue 0 [105, 106] (.int 0 1)), fileB] = .error (.reg .commandOutside) ∧
    compileE [fileB, fileOutside (.rawText 0 [10])] = .ok () ∧
    compileE [fileB, fileOutside (.soyDoc 0 [])] = .ok () := by decide

/-- the theorem applied: the registry of `[fileA, fileB, fileBad]` has exactly one failing template -/
example : compileE [fileB, fileA, fileBad] = compileE [fileA, fileB, fileBad] := by
  have hp : [fileA, fileB, fileBad].Perm [fileB, fileA, fileBad] := List.Perm.swap _ _ _
  obtain ⟨reg, hreg⟩ : ∃ reg, addAllE [] [fileA, fileB, fileBad] = .ok reg := ⟨_, rfl⟩
  exact (compileE_perm_single hp reg hreg ((toCheck reg).getD 2 default) (by
    have : reg = _ := (Except.ok.inj (hreg.symm.trans rfl))
    subst this; rfl)).2

end SoyVerif.Props.C13c
