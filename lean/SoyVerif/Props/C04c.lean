/-
  C04 — expression stage with VARIABLES, DATA REFERENCES and the pure built-ins (partial).

  `gen_correct_refs_partial` widens `Props/C04.gen_correct_expr_partial`: expressions may contain
    * variables: a name bound in the generator's scope (let / loop variables, under the `makevar`
      renaming) or a template parameter (`opt_data.x`),
    * accesses `.k`, `[n]` (n ≥ 0) and a null-safe LAST access `?.k` / `?[n]`,
    * `$ij` references (`opt_ijData…`: the third parameter of the function; `IjRel`: it holds the JSON image of the
      injected data; a function called WITHOUT injected data is outside the subset, `unspec`),
    * compile-time GLOBALS with a scalar value (null / bool / int / string): the table `Globals.tbl` (see `Globals`);
      `GlobRel`: the Soy environment's globals hold the same values,
    * `isNonnull`, `length`, `min`, `max`, and `floor` / `ceiling` / `round` (one argument),
    * `index($v)` / `isFirst($v)` / `isLast($v)` on a loop variable of the scope (`LoopRel`: the JavaScript counters of
      the loop's frame hold the iteration the Soy environment is in),
  under an ENVIRONMENT RELATION `EnvRel ent sc env jenv` between the Soy environment, the generator's
  scope and the JavaScript variables: every visible Soy variable `k` is held, as its JSON image,
  by the JavaScript local `sc.lookup k` if the scope binds `k`, by `opt_data.k` otherwise.

  The values are those of Spec/JsSemRef: null / undefined / booleans / exact integers / strings and
  lists and maps of them (no floats).  See the end of the file for what is left open.

  How it is proved.  `TrExpr sc e j` lists the forms of expression the translation `toAst` accepts (`toAst_tr`), `TrAcc`
  those of the accesses of a reference (`accAst_tr`), `TrLoop` those of the loop functions (`loopAst_tr`); the
  theorems are recursions on their derivations.  `TrExpr.sim` is the one induction about values: `SimE` relates the value
  of the emitted expression to the specification's (a value is the JSON image of the specification's; a thrown
  TypeError means the specification has no value; `unspec` says nothing), `SimE.bind` carries it through an operand, and
  each operator contributes one fact on corresponding values (`binop_sim`, `apply1_sim`, `step_sim` …).
  `gen_correct_refs_partial` reads it at a value, Props/C04e `expr_no_throw` at an error.  (Props/C04 is the closed
  instance, through the embedding of Spec/JsSem.)
-/
import SoyVerif.Spec.JsSemRef
import SoyVerif.Spec.Eval
import SoyVerif.Model.JsGen
import SoyVerif.Props.C04Ops
import SoyVerif.Lemmas.JsGenTop
import SoyVerif.Lemmas.OutMeets

namespace SoyVerif.Props.C04c
open SoyVerif SoyVerif.Model SoyVerif.Model.JsGen SoyVerif.Spec.JsSemRef
open SoyVerif.Spec.JsSem (JsOp exact)
open SoyVerif.Props.C04 (opOf opSym)
open SoyVerif.Lemmas.JsGenSpec (ScopeShape ScopeOk scopeOk_shape)

/-- the compile-time GLOBALS: the map `parsepasses.SetGlobals` substitutes into the global nodes of the tree before
    generation.  The generator model looks a global up in `Options.globals` when it meets the node (the substitution
    fused into the walk); the translation does the same in this table — an instance parameter of the whole development
    (`GlobalsAre o`: it is the table of the generator's options). -/
class Globals where
  tbl : List (Bytes × Value)

set_option linter.unusedSectionVars false

variable [Globals]

/-- a scalar global as the literal the generator writes for it (`walkValue`) -/
def globalAst : Value → Option JsExpr
  | .null => some .null
  | .bool b => some (.bool b)
  | .int i => some (.num i.toInt)
  | .str s => some (.str s)
  | _ => none

/-- … and as the value Spec/Eval holds for it -/
def globalVal : Value → Spec.Eval.Val
  | .null => .null
  | .bool b => .bool b
  | .int i => .int i.toInt
  | .str s => .str s
  | _ => .undefined

class GlobalsAre (o : Options) : Prop where
  eq : o.globals = Globals.tbl

def sIsNonnull : Bytes := b!"isNonnull"
def sLength : Bytes := b!"length"
def sFloor : Bytes := b!"floor"
def sCeiling : Bytes := b!"ceiling"
def sRound : Bytes := b!"round"
def sMin : Bytes := b!"min"
def sMax : Bytes := b!"max"
def sIj : Bytes := b!"ij"

def fn1Of (name : Bytes) : Option Fn1 :=
  if name == sIsNonnull then some .nonNull
  else if name == sLength then some .length
  else if name == sFloor then some .floor
  else if name == sCeiling then some .ceil
  else if name == sRound then some .round
  else none

def fn2Of (name : Bytes) : Option Fn2 :=
  if name == sMin then some .min
  else if name == sMax then some .max
  else none

/-- the accesses of a data reference on the text `x` accumulated so far: plain accesses, and a
    null-safe access in LAST position (what follows a null-safe hit is open in the specification) -/
def accAst : AccessList → JsExpr → Option JsExpr
  | .nil, x => some x
  | .cons (.key _ ns k) rest, x =>
    if k.isEmpty then none
    else if ns then (match rest with
      | .nil => some (.guard x (.member x k))
      | _ => none)
    else accAst rest (.member x k)
  | .cons (.index _ ns i) rest, x =>
    if i < 0 then none
    else if ns then (match rest with
      | .nil => some (.guard x (.index x i))
      | _ => none)
    else accAst rest (.index x i)
  | .cons (.expr _ _ _) _, _ => none

def sIndex : Bytes := b!"index"
def sIsFirst : Bytes := b!"isFirst"
def sIsLast : Bytes := b!"isLast"

def isLoopName (name : Bytes) : Bool := name == sIndex || name == sIsFirst || name == sIsLast

/-- the last-iteration test of the loop whose frame is `f` (a range loop has a step) -/
def lastAst (f : Frame) (v : Bytes) : Option JsExpr :=
  match frameGet? f (Scope.kStep ++ v) with
  | some step =>
    (match frameGet? f (Scope.kVar ++ v), frameGet? f (Scope.kLimit ++ v) with
      | some lv, some lim => some (.loopLastRange lv step lim)
      | _, _ => none)
  | none =>
    (match frameGet? f (Scope.kIndex ++ v), frameGet? f (Scope.kLimit ++ v) with
      | some idx, some lim => some (.loopLastEach idx lim)
      | _, _ => none)

/-- index($v) / isFirst($v) / isLast($v) on a loop variable of the scope -/
def loopAst (sc : Scope) (name : Bytes) : ExprList → Option JsExpr
  | .cons (.dataRef _ key .nil) .nil =>
    if name == sIndex then (sc.loopindex key).map .local
    else if name == sIsFirst then (sc.loopindex key).map .loopFirst
    else (Scope.loopFrame sc.stack key).bind fun f => lastAst f key
  | _ => none

/-- the translation, in the generator scope `sc` -/
def toAst (sc : Scope) : Expr → Option JsExpr
  | .null _ => some .null
  | .bool _ b => some (.bool b)
  | .int _ v => some (.num v)
  | .str _ _ v => some (.str v)
  | .neg _ a => (toAst sc a).map .neg
  | .not _ a => (toAst sc a).map .not
  | .bin op _ a b =>
    match op with
    | .elvis => match toAst sc a, toAst sc b with
      | some ja, some jb => some (.nonNullElse ja ja jb)
      | _, _ => none
    | op => match opOf op, toAst sc a, toAst sc b with
      | some jo, some ja, some jb => some (.bin jo ja jb)
      | _, _, _ => none
  | .tern _ c a b => match toAst sc c, toAst sc a, toAst sc b with
    | some jc, some ja, some jb => some (.cond jc ja jb)
    | _, _, _ => none
  | .global _ name =>
    match assocGet? Globals.tbl name with
    | some v => globalAst v
    | none => none
  | .dataRef _ key acc =>
    if key == sIj then
      -- `$ij…`: the third parameter of the function
      (accAst acc .ijData).map fun j => if anyNullSafe acc then .paren j else j
    else if key == sIj || key.contains 36 then none          -- a Soy name has no "$"
    else
      let base : JsExpr := match sc.lookup key with
        | some g => .local g
        | none => .optData key
      (accAst acc base).map fun j => if anyNullSafe acc then .paren j else j
  | .func _ name args =>
    if isLoopName name then loopAst sc name args
    else match args with
    | .cons a .nil => match fn1Of name, toAst sc a with
      | some f, some ja => some (.call1 f ja)
      | _, _ => none
    | .cons a (.cons b .nil) => match fn2Of name, toAst sc a, toAst sc b with
      | some f, some ja, some jb => some (.call2 f ja jb)
      | _, _, _ => none
    | _ => none
  | _ => none

/-- the text of a `JsExpr`, in the generator's pieces -/
def render : JsExpr → List Piece
  | .null => [.fixed b!"null"]
  | .bool b => [.fixed (if b then b!"true" else b!"false")]
  | .num i => [.int i]
  | .str s => [.fixed b!"'", .escaped s, .fixed b!"'"]
  | .neg a => [.fixed b!"(- "] ++ render a ++ [.fixed b!")"]
  | .not a => [.fixed b!"!("] ++ render a ++ [.fixed b!")"]
  | .bin op a b => [.fixed b!"(("] ++ render a ++ [.fixed b!") ", .fixed (opSym op), .fixed b!" ("] ++ render b ++ [.fixed b!"))"]
  | .cond c a b => [.fixed b!"(("] ++ render c ++ [.fixed b!") ?"] ++ render a ++ [.fixed b!":"] ++ render b ++ [.fixed b!")"]
  | .nonNullElse a a' b =>
    [.fixed b!"(("] ++ render a ++ [.fixed b!") != null ? "] ++ render a' ++ [.fixed b!" : "] ++ render b ++ [.fixed b!")"]
  | .local g => [.ident g]
  | .optData k => [.fixed b!"opt_data.", .ident k]
  | .ijData => [.fixed b!"opt_ijData"]
  | .member x k => render x ++ [.fixed b!".", .ident k]
  | .index x i => render x ++ [.fixed b!"[", .int i, .fixed b!"]"]
  | .guard g r => [.fixed b!"("] ++ render g ++ [.fixed b!" == null) ? null : "] ++ render r
  | .paren x => [.fixed b!"("] ++ render x ++ [.fixed b!")"]
  | .call1 .floor a => [.fixed b!"Math.floor("] ++ render a ++ [.fixed b!")"]
  | .call1 .ceil a => [.fixed b!"Math.ceil("] ++ render a ++ [.fixed b!")"]
  | .call1 .round a => [.fixed b!"Math.round("] ++ render a ++ [.fixed b!")"]
  | .call1 .length a => [.fixed b!"("] ++ render a ++ [.fixed b!").length"]
  | .call1 .nonNull a => [.fixed b!"("] ++ render a ++ [.fixed b!" != null)"]
  | .call2 .min a b => [.fixed b!"Math.min("] ++ render a ++ [.fixed b!","] ++ render b ++ [.fixed b!")"]
  | .call2 .max a b => [.fixed b!"Math.max("] ++ render a ++ [.fixed b!","] ++ render b ++ [.fixed b!")"]
  | .loopFirst idx => [.fixed b!"(", .ident idx, .fixed b!" == 0)"]
  | .loopLastEach idx lim => [.fixed b!"(", .ident idx, .fixed b!" == ", .ident lim, .fixed b!" - 1)"]
  | .loopLastRange v step lim => [.fixed b!"(", .ident v, .fixed b!" + ", .ident step, .fixed b!" >= ", .ident lim, .fixed b!")"]

/-- one plain access `a` on the text `x` gives `y`: `x.k` (`k` not empty) or `x[i]` (`i ≥ 0`); `ns`: written null-safe -/
inductive AccStep : Bool → Access → JsExpr → JsExpr → Prop
  | key (p : Nat) (ns : Bool) {k : Bytes} (hk : k.isEmpty = false) (x : JsExpr) : AccStep ns (.key p ns k) x (.member x k)
  | index (p : Nat) (ns : Bool) {i : Int} (hi : ¬ i < 0) (x : JsExpr) : AccStep ns (.index p ns i) x (.index x i)

/-- `TrAcc acc x j`: the accesses `acc` on the text `x` are translated to `j` — plain accesses, then possibly one
    null-safe access in last position -/
inductive TrAcc : AccessList → JsExpr → JsExpr → Prop
  | nil (x : JsExpr) : TrAcc .nil x x
  | plain {a : Access} {rest : AccessList} {x y j : JsExpr} : AccStep false a x y → TrAcc rest y j → TrAcc (.cons a rest) x j
  | guard {a : Access} {x y : JsExpr} : AccStep true a x y → TrAcc (.cons a .nil) x (.guard x y)

/-- `accAst` succeeds only along these rules -/
theorem accAst_tr : ∀ (acc : AccessList) (x j : JsExpr), accAst acc x = some j → TrAcc acc x j
  | .nil, x, j, h => by cases h; exact .nil x
  | .cons (.expr _ _ _) _, _, _, h => by simp [accAst] at h
  | .cons (.key p ns k) rest, x, j, h => by
    unfold accAst at h
    split at h
    · cases h
    · rename_i hk
      have hk : k.isEmpty = false := by simpa using hk
      cases ns
      · exact .plain (.key p false hk x) (accAst_tr rest _ j (by simpa using h))
      · cases rest with
        | nil => cases h; exact .guard (.key p true hk x)
        | cons _ _ => simp at h
  | .cons (.index p ns i) rest, x, j, h => by
    unfold accAst at h
    split at h
    · cases h
    · rename_i hi
      cases ns
      · exact .plain (.index p false hi x) (accAst_tr rest _ j (by simpa using h))
      · cases rest with
        | nil => cases h; exact .guard (.index p true hi x)
        | cons _ _ => simp at h

/-- `TrLoop sc name args j`: `index($v)` / `isFirst($v)` / `isLast($v)` on a loop variable of the scope, one rule per form
    of text (the last-iteration test of a foreach compares index and limit, that of a range loop has the step) -/
inductive TrLoop (sc : Scope) : Bytes → ExprList → JsExpr → Prop
  | index (dp : Nat) {key idx : Bytes} : sc.loopindex key = some idx →
      TrLoop sc sIndex (.cons (.dataRef dp key .nil) .nil) (.local idx)
  | isFirst (dp : Nat) {key idx : Bytes} : sc.loopindex key = some idx →
      TrLoop sc sIsFirst (.cons (.dataRef dp key .nil) .nil) (.loopFirst idx)
  | lastEach (dp : Nat) {key idx lim : Bytes} {f : Frame} : Scope.loopFrame sc.stack key = some f →
      frameGet? f (Scope.kStep ++ key) = none → frameGet? f (Scope.kIndex ++ key) = some idx →
      frameGet? f (Scope.kLimit ++ key) = some lim → TrLoop sc sIsLast (.cons (.dataRef dp key .nil) .nil) (.loopLastEach idx lim)
  | lastRange (dp : Nat) {key lv step lim : Bytes} {f : Frame} : Scope.loopFrame sc.stack key = some f →
      frameGet? f (Scope.kStep ++ key) = some step → frameGet? f (Scope.kVar ++ key) = some lv →
      frameGet? f (Scope.kLimit ++ key) = some lim → TrLoop sc sIsLast (.cons (.dataRef dp key .nil) .nil) (.loopLastRange lv step lim)

theorem beq_true_eq {a b : Bytes} (h : (a == b) = true) : a = b := by simpa using h

theorem loopAst_tr {sc : Scope} {name : Bytes} {args : ExprList} {j : JsExpr} (hn : isLoopName name = true)
    (h : loopAst sc name args = some j) : TrLoop sc name args j := by
  unfold loopAst at h
  split at h
  · rename_i dp key
    simp only [isLoopName, Bool.or_eq_true] at hn
    by_cases h1 : (name == sIndex) = true
    · rw [if_pos h1, Option.map_eq_some_iff] at h
      obtain ⟨idx, hi, rfl⟩ := h
      exact beq_true_eq h1 ▸ .index dp hi
    rw [if_neg h1] at h
    by_cases h2 : (name == sIsFirst) = true
    · rw [if_pos h2, Option.map_eq_some_iff] at h
      obtain ⟨idx, hi, rfl⟩ := h
      exact beq_true_eq h2 ▸ .isFirst dp hi
    rw [if_neg h2, Option.bind_eq_some_iff] at h
    obtain ⟨f, hf, h⟩ := h
    obtain rfl := beq_true_eq (hn.resolve_left fun hh => hh.elim h1 h2)
    unfold lastAst at h
    split at h <;> split at h <;> cases h
    · exact .lastRange dp hf ‹_› ‹_› ‹_›
    · exact .lastEach dp hf ‹_› ‹_› ‹_›
  · cases h

/-- `TrExpr sc e j`: `e` is an expression of the fragment and `j` its translation in the generator scope `sc`;
    one rule per form of expression the translation `toAst` accepts -/
inductive TrExpr (sc : Scope) : Expr → JsExpr → Prop
  | null (p : Nat) : TrExpr sc (.null p) .null
  | bool (p : Nat) (b : Bool) : TrExpr sc (.bool p b) (.bool b)
  | int (p : Nat) (v : Int) : TrExpr sc (.int p v) (.num v)
  | str (p : Nat) (q v : Bytes) : TrExpr sc (.str p q v) (.str v)
  | neg (p : Nat) {a : Expr} {ja : JsExpr} : TrExpr sc a ja → TrExpr sc (.neg p a) (.neg ja)
  | not (p : Nat) {a : Expr} {ja : JsExpr} : TrExpr sc a ja → TrExpr sc (.not p a) (.not ja)
  | elvis (p : Nat) {a b : Expr} {ja jb : JsExpr} : TrExpr sc a ja → TrExpr sc b jb →
      TrExpr sc (.bin .elvis p a b) (.nonNullElse ja ja jb)
  | bin (p : Nat) {op : BinOp} {jo : JsOp} {a b : Expr} {ja jb : JsExpr} : opOf op = some jo → TrExpr sc a ja → TrExpr sc b jb →
      TrExpr sc (.bin op p a b) (.bin jo ja jb)
  | tern (p : Nat) {c a b : Expr} {jc ja jb : JsExpr} : TrExpr sc c jc → TrExpr sc a ja → TrExpr sc b jb →
      TrExpr sc (.tern p c a b) (.cond jc ja jb)
  | global (p : Nat) {name : Bytes} {v : Value} {j : JsExpr} : assocGet? Globals.tbl name = some v → globalAst v = some j →
      TrExpr sc (.global p name) j
  | ij (p : Nat) {acc : AccessList} {j0 : JsExpr} : TrAcc acc .ijData j0 →
      TrExpr sc (.dataRef p sIj acc) (if anyNullSafe acc then .paren j0 else j0)
  /-- a variable: the local the scope binds it to, else the template parameter -/
  | ref (p : Nat) {key : Bytes} {acc : AccessList} {j0 : JsExpr} : key ≠ sIj → key.contains 36 = false →
      TrAcc acc (match sc.lookup key with | some g => .local g | none => .optData key) j0 →
      TrExpr sc (.dataRef p key acc) (if anyNullSafe acc then .paren j0 else j0)
  | loop (p : Nat) {name : Bytes} {args : ExprList} {j : JsExpr} : TrLoop sc name args j → TrExpr sc (.func p name args) j
  | fn1 (p : Nat) {name : Bytes} {f : Fn1} {a : Expr} {ja : JsExpr} : fn1Of name = some f → TrExpr sc a ja →
      TrExpr sc (.func p name (.cons a .nil)) (.call1 f ja)
  | fn2 (p : Nat) {name : Bytes} {f : Fn2} {a b : Expr} {ja jb : JsExpr} : fn2Of name = some f → TrExpr sc a ja → TrExpr sc b jb →
      TrExpr sc (.func p name (.cons a (.cons b .nil))) (.call2 f ja jb)

/-- the translation succeeds only along these rules: the inversion of `toAst` that the theorems of this file go through -/
theorem toAst_tr (sc : Scope) : ∀ (e : Expr) (j : JsExpr), toAst sc e = some j → TrExpr sc e j
  | .null p, j, h => by cases h; exact .null p
  | .bool p b, j, h => by cases h; exact .bool p b
  | .int p v, j, h => by cases h; exact .int p v
  | .str p q v, j, h => by cases h; exact .str p q v
  | .neg p a, j, h => by
    simp only [toAst, Option.map_eq_some_iff] at h
    obtain ⟨ja, ha, rfl⟩ := h
    exact .neg p (toAst_tr sc a ja ha)
  | .not p a, j, h => by
    simp only [toAst, Option.map_eq_some_iff] at h
    obtain ⟨ja, ha, rfl⟩ := h
    exact .not p (toAst_tr sc a ja ha)
  | .bin op p a b, j, h => by
    unfold toAst at h
    split at h
    · split at h
      · rename_i ja jb hja hjb
        cases h
        exact .elvis p (toAst_tr sc a ja hja) (toAst_tr sc b jb hjb)
      · cases h
    · split at h
      · rename_i jo ja jb hop hja hjb
        cases h
        exact .bin p hop (toAst_tr sc a ja hja) (toAst_tr sc b jb hjb)
      · cases h
  | .tern p c a b, j, h => by
    unfold toAst at h
    split at h
    · rename_i jc ja jb hjc hja hjb
      cases h
      exact .tern p (toAst_tr sc c jc hjc) (toAst_tr sc a ja hja) (toAst_tr sc b jb hjb)
    · cases h
  | .global p name, j, h => by
    unfold toAst at h
    cases hg : assocGet? Globals.tbl name with
    | none => simp [hg] at h
    | some v => simp only [hg] at h; exact .global p hg h
  | .dataRef p key acc, j, h => by
    unfold toAst at h
    split at h
    · rename_i hk
      obtain rfl : key = sIj := by simpa using hk
      simp only [Option.map_eq_some_iff] at h
      obtain ⟨j0, hacc, rfl⟩ := h
      exact .ij p (accAst_tr _ _ _ hacc)
    split at h
    · cases h
    · rename_i hij
      simp only [Option.map_eq_some_iff] at h
      obtain ⟨j0, hacc, rfl⟩ := h
      simp only [Bool.or_eq_true, not_or, Bool.not_eq_true] at hij
      exact .ref p (by simpa using hij.1) hij.2 (accAst_tr _ _ _ hacc)
  | .func p name (.cons a .nil), j, h => by
    unfold toAst at h
    split at h
    · exact .loop p (loopAst_tr ‹_› h)
    dsimp only at h
    split at h
    · rename_i f ja hf hja
      cases h
      exact .fn1 p hf (toAst_tr sc a ja hja)
    · cases h
  | .func p name (.cons a (.cons b .nil)), j, h => by
    unfold toAst at h
    split at h
    · exact .loop p (loopAst_tr ‹_› h)
    dsimp only at h
    split at h
    · rename_i f ja jb hf hja hjb
      cases h
      exact .fn2 p hf (toAst_tr sc a ja hja) (toAst_tr sc b jb hjb)
    · cases h
  | .func p name .nil, j, h => by
    unfold toAst at h
    split at h
    · exact .loop p (loopAst_tr ‹_› h)
    · cases h
  | .func p name (.cons _ (.cons _ (.cons _ _))), j, h => by
    unfold toAst at h
    split at h
    · exact .loop p (loopAst_tr ‹_› h)
    · cases h
  | .float _ _, j, h => by simp [toAst] at h
  | .list _ _, j, h => by simp [toAst] at h
  | .map _ _, j, h => by simp [toAst] at h

/-- the fields the walk of an expression leaves alone (it moves `node` / `lastNode` and records the
    functions called, nothing else) -/
def Same (s s' : St) : Prop :=
  s'.indent = s.indent ∧ s'.ns = s.ns ∧ s'.bufferName = s.bufferName ∧ s'.autoescape = s.autoescape ∧
  s'.funcsInFile = s.funcsInFile

theorem Same.refl (s : St) : Same s s := ⟨rfl, rfl, rfl, rfl, rfl⟩
theorem Same.trans {a b c : St} (h1 : Same a b) (h2 : Same b c) : Same a c :=
  ⟨h2.1.trans h1.1, h2.2.1.trans h1.2.1, h2.2.2.1.trans h1.2.2.1, h2.2.2.2.1.trans h1.2.2.2.1, h2.2.2.2.2.trans h1.2.2.2.2⟩

/-- from every state with scope `sc`, `m` succeeds, writes exactly `ps` and leaves the scope (and what `Same` lists:
    indentation, namespace, buffer name, autoescape mode, the functions of the file) alone -/
def RunsSc (sc : Scope) (m : M Unit) (ps : List Piece) : Prop :=
  ∀ s, s.scope = sc → ∃ s', m s = .ok ((), ps, s') ∧ s'.scope = sc ∧ Same s s'

theorem RunsSc.seq {sc : Scope} {m k : M Unit} {ps qs : List Piece} (hm : RunsSc sc m ps) (hk : RunsSc sc k qs) :
    RunsSc sc (m >>= fun _ => k) (ps ++ qs) := by
  intro s hs
  obtain ⟨s1, h1, hs1, e1⟩ := hm s hs
  obtain ⟨s2, h2, hs2, e2⟩ := hk s1 hs1
  exact ⟨s2, by simp [Bind.bind, M.bind, h1, h2], hs2, e1.trans e2⟩

theorem RunsSc.fx {sc : Scope} (t : Bytes) : RunsSc sc (fx t) [.fixed t] := fun s hs => ⟨s, rfl, hs, Same.refl s⟩
theorem RunsSc.emit {sc : Scope} (p : Piece) : RunsSc sc (emit p) [p] := fun s hs => ⟨s, rfl, hs, Same.refl s⟩
theorem RunsSc.emits {sc : Scope} (ps : List Piece) : RunsSc sc (emits ps) ps := fun s hs => ⟨s, rfl, hs, Same.refl s⟩
theorem RunsSc.atOther {sc : Scope} : RunsSc sc atOther [] := fun _ hs => ⟨_, rfl, hs, rfl, rfl, rfl, rfl, rfl⟩
theorem RunsSc.pure {sc : Scope} : RunsSc sc (pure ()) [] := fun s hs => ⟨s, rfl, hs, Same.refl s⟩
theorem RunsSc.cast {sc : Scope} {m : M Unit} {ps qs : List Piece} (h : RunsSc sc m ps) (e : ps = qs) : RunsSc sc m qs := e ▸ h

theorem RunsSc.whenAddCalled {sc : Scope} (c : Bool) (k : Bytes) (v : List Piece) : RunsSc sc (whenM c (addCalled k v)) [] := by
  intro s hs
  cases c
  · exact ⟨s, rfl, hs, Same.refl s⟩
  · exact ⟨_, rfl, hs, rfl, rfl, rfl, rfl, rfl⟩

theorem RunsSc.whenFx {sc : Scope} (c : Bool) (t : Bytes) : RunsSc sc (whenM c (JsGen.fx t)) (if c then [.fixed t] else []) := by
  intro s hs
  cases c
  · exact ⟨s, rfl, hs, Same.refl s⟩
  · exact ⟨s, rfl, hs, Same.refl s⟩

theorem RunsSc.bindScope {sc : Scope} {k : Scope → M Unit} {ps : List Piece} (h : RunsSc sc (k sc) ps) :
    RunsSc sc (getScope >>= k) ps := by
  intro s hs
  obtain ⟨s', h', hs', e'⟩ := h s hs
  refine ⟨s', ?_, hs', e'⟩
  simp only [Bind.bind, M.bind, getScope, hs, h', List.nil_append]

section
-- `sk`: the order in which the generator walks the keys of a map literal (Model/JsGen: Go's range over the map, then
-- `sort.Strings`); the fragment has no map literal, so nothing here depends on it
variable (sk : List Bytes → List Bytes) (o : Options) [GlobalsAre o]

theorem visitAccess_cons {ns : Bool} {a : Access} {x y : JsExpr} (hy : AccStep ns a x y) (rest : AccessList) :
    visitAccess sk o (.cons a rest) (render x) =
      (do whenM ns (do fx b!"("; emits (render x); fx b!" == null) ? null : ")
          visitAccess sk o rest (render y)) := by
  cases hy <;> (rw [visitAccess]; rfl)

theorem visitAccess_renders (sc : Scope) : ∀ {acc : AccessList} {x j : JsExpr}, TrAcc acc x j →
    RunsSc sc (visitAccess sk o acc (render x)) (render j)
  | _, _, _, .nil x => by
    unfold visitAccess
    exact RunsSc.emits _
  | _, _, _, .plain hy hr => by
    rw [visitAccess_cons sk o hy]
    exact (RunsSc.seq RunsSc.pure (visitAccess_renders sc hr)).cast (by simp)
  | _, _, _, .guard (x := x) (y := y) hy => by
    rw [visitAccess_cons sk o hy]
    have h1 : RunsSc sc (whenM true (do fx b!"("; emits (render x); fx b!" == null) ? null : ")) _ :=
      RunsSc.seq (RunsSc.fx _) (RunsSc.seq (RunsSc.emits _) (RunsSc.fx _))
    have h2 : RunsSc sc (visitAccess sk o .nil (render y)) (render y) := by
      unfold visitAccess; exact RunsSc.emits _
    exact (RunsSc.seq h1 h2).cast (by simp [render])

/-! ### the live function table says what we read (TABLE OBLIGATIONS, by evaluation) -/

def partsOf (name : Bytes) (arity : Nat) : Option (List Gen.JsFnPart) :=
  (findFunc name).bind fun f => (f.emit[arity]?).join

theorem func_runs (sc : Scope) (p : Nat) (name : Bytes) (args : ExprList) (parts : List Gen.JsFnPart) (ps : List Piece)
    (ht : partsOf name args.length = some parts)
    (hp : RunsSc sc (applyParts (argWalkers sk o args) parts) ps) :
    RunsSc sc (walkExpr sk o (.func p name args)) ps := by
  unfold partsOf at ht
  unfold walkExpr
  cases hf : findFunc name with
  | none => simp [hf] at ht
  | some f =>
    simp only [hf, Option.bind_some] at ht
    have he : applyFn (argWalkers sk o args) f.emit[args.length]? = applyParts (argWalkers sk o args) parts := by
      cases h1 : f.emit[args.length]? with
      | none => simp [h1] at ht
      | some x =>
        cases x with
        | none => simp [h1] at ht
        | some pp =>
          simp only [h1, Option.join, Option.bind_some, id, Option.some.injEq] at ht
          subst ht
          rfl
    simp only
    rw [he]
    exact (RunsSc.seq RunsSc.atOther (RunsSc.seq hp (RunsSc.whenAddCalled _ _ _))).cast (by simp)

theorem orFail_some (w : M Unit) : orFail (some w) = w := rfl

theorem parts1_runs (sc : Scope) (a : Expr) (pa : List Piece) (ha : RunsSc sc (walkExpr sk o a) pa) (pre post : Bytes) :
    RunsSc sc (applyParts (argWalkers sk o (.cons a .nil)) [.text pre, .arg 0, .text post]) ([.fixed pre] ++ pa ++ [.fixed post]) := by
  unfold argWalkers argWalkers
  simp only [applyParts, List.getElem?_cons_zero, orFail_some]
  exact (RunsSc.seq (RunsSc.fx _) (RunsSc.seq ha (RunsSc.seq (RunsSc.fx _) RunsSc.pure))).cast (by simp)

theorem parts1post_runs (sc : Scope) (a : Expr) (pa : List Piece) (ha : RunsSc sc (walkExpr sk o a) pa) (post : Bytes) :
    RunsSc sc (applyParts (argWalkers sk o (.cons a .nil)) [.arg 0, .text post]) (pa ++ [.fixed post]) := by
  unfold argWalkers argWalkers
  simp only [applyParts, List.getElem?_cons_zero, orFail_some]
  exact (RunsSc.seq ha (RunsSc.seq (RunsSc.fx _) RunsSc.pure)).cast (by simp)

theorem parts2_runs (sc : Scope) (a b : Expr) (pa pb : List Piece) (ha : RunsSc sc (walkExpr sk o a) pa)
    (hb : RunsSc sc (walkExpr sk o b) pb) (pre mid post : Bytes) :
    RunsSc sc (applyParts (argWalkers sk o (.cons a (.cons b .nil))) [.text pre, .arg 0, .text mid, .arg 1, .text post])
      ([.fixed pre] ++ pa ++ [.fixed mid] ++ pb ++ [.fixed post]) := by
  unfold argWalkers argWalkers argWalkers
  simp only [applyParts, List.getElem?_cons_zero, List.getElem?_cons_succ, orFail_some]
  exact (RunsSc.seq (RunsSc.fx _) (RunsSc.seq ha (RunsSc.seq (RunsSc.fx _) (RunsSc.seq hb (RunsSc.seq (RunsSc.fx _) RunsSc.pure))))).cast
    (by simp)

theorem fn1Of_some {name : Bytes} {f : Fn1} (h : fn1Of name = some f) :
    (name = sIsNonnull ∧ f = .nonNull) ∨ (name = sLength ∧ f = .length) ∨ (name = sFloor ∧ f = .floor) ∨
      (name = sCeiling ∧ f = .ceil) ∨ (name = sRound ∧ f = .round) := by
  simp only [fn1Of] at h
  split at h
  · exact .inl ⟨beq_true_eq ‹_›, (Option.some.inj h).symm⟩
  split at h
  · exact .inr (.inl ⟨beq_true_eq ‹_›, (Option.some.inj h).symm⟩)
  split at h
  · exact .inr (.inr (.inl ⟨beq_true_eq ‹_›, (Option.some.inj h).symm⟩))
  split at h
  · exact .inr (.inr (.inr (.inl ⟨beq_true_eq ‹_›, (Option.some.inj h).symm⟩)))
  split at h
  · exact .inr (.inr (.inr (.inr ⟨beq_true_eq ‹_›, (Option.some.inj h).symm⟩)))
  · cases h

theorem fn2Of_some {name : Bytes} {f : Fn2} (h : fn2Of name = some f) :
    (name = sMin ∧ f = .min) ∨ (name = sMax ∧ f = .max) := by
  simp only [fn2Of] at h
  split at h
  · exact .inl ⟨beq_true_eq ‹_›, (Option.some.inj h).symm⟩
  split at h
  · exact .inr ⟨beq_true_eq ‹_›, (Option.some.inj h).symm⟩
  · cases h

theorem fn1_parts {name : Bytes} {f : Fn1} (h : fn1Of name = some f) :
    ∃ pre post, partsOf name 1 = some [.text pre, .arg 0, .text post] ∧
      ∀ ja, render (.call1 f ja) = [.fixed pre] ++ render ja ++ [.fixed post] := by
  rcases fn1Of_some h with ⟨rfl, rfl⟩ | ⟨rfl, rfl⟩ | ⟨rfl, rfl⟩ | ⟨rfl, rfl⟩ | ⟨rfl, rfl⟩ <;> exact ⟨_, _, rfl, fun _ => rfl⟩

theorem fn2_parts {name : Bytes} {f : Fn2} (h : fn2Of name = some f) :
    ∃ pre mid post, partsOf name 2 = some [.text pre, .arg 0, .text mid, .arg 1, .text post] ∧
      ∀ ja jb, render (.call2 f ja jb) = [.fixed pre] ++ render ja ++ [.fixed mid] ++ render jb ++ [.fixed post] := by
  rcases fn2Of_some h with ⟨rfl, rfl⟩ | ⟨rfl, rfl⟩ <;> exact ⟨_, _, _, rfl, fun _ _ => rfl⟩

theorem tbl_index : findFunc sIndex = none := rfl
theorem tbl_isFirst : findFunc sIsFirst = none := rfl
theorem tbl_isLast : findFunc sIsLast = none := rfl

theorem loop_runs (sc : Scope) (p : Nat) : ∀ {name : Bytes} {args : ExprList} {j : JsExpr}, TrLoop sc name args j →
    RunsSc sc (walkExpr sk o (.func p name args)) (render j)
  | _, _, _, .index dp (key := key) (idx := idx) hidx => by
    unfold walkExpr
    simp only [tbl_index]
    refine (RunsSc.seq RunsSc.atOther ?_).cast (List.nil_append _)
    have : Scope.loopindex sc (loopVarOf (.cons (.dataRef dp key .nil) .nil)) = some idx := hidx
    simp only [show (sIndex == b!"isFirst") = false from rfl, show (sIndex == b!"isLast") = false from rfl,
      show (sIndex == b!"index") = true from rfl, Bool.false_eq_true, if_false, if_true]
    refine RunsSc.bindScope ?_
    rw [this]
    exact (RunsSc.emit _).cast (by simp [identOrEmpty, render])
  | _, _, _, .isFirst dp (key := key) (idx := idx) hidx => by
    unfold walkExpr
    simp only [tbl_isFirst]
    refine (RunsSc.seq RunsSc.atOther ?_).cast (List.nil_append _)
    have : Scope.loopindex sc (loopVarOf (.cons (.dataRef dp key .nil) .nil)) = some idx := hidx
    simp only [show (sIsFirst == b!"isFirst") = true from rfl, if_true]
    refine RunsSc.bindScope ?_
    rw [this]
    exact (RunsSc.seq (RunsSc.fx _) (RunsSc.seq (RunsSc.emit _) (RunsSc.fx _))).cast (by simp [identOrEmpty, render])
  | _, _, _, .lastEach dp (key := key) hf hs hv hl | _, _, _, .lastRange dp (key := key) hf hs hv hl => by
    unfold walkExpr
    simp only [tbl_isLast]
    refine (RunsSc.seq RunsSc.atOther ?_).cast (List.nil_append _)
    simp only [show (sIsLast == b!"isFirst") = false from rfl, show (sIsLast == b!"isLast") = true from rfl,
      Bool.false_eq_true, if_false, if_true]
    refine RunsSc.bindScope ((RunsSc.emits _).cast ?_)
    show looplast sc key = _
    simp [looplast, hf, hs, hv, hl, identOrEmpty, render]

/-- the parentheses visitDataRef puts around a reference with a null-safe access -/
theorem RunsSc.parenIf {sc : Scope} (c : Bool) {m : M Unit} {j : JsExpr} (h : RunsSc sc m (render j)) :
    RunsSc sc (do whenM c (JsGen.fx b!"("); m; whenM c (JsGen.fx b!")")) (render (if c then .paren j else j)) := by
  refine (RunsSc.seq (RunsSc.whenFx c b!"(") (RunsSc.seq h (RunsSc.whenFx c b!")"))).cast ?_
  cases c <;> simp [render]

theorem TrExpr.renders (sc : Scope) : ∀ {e : Expr} {j : JsExpr}, TrExpr sc e j → RunsSc sc (walkExpr sk o e) (render j)
  | _, _, .null _ | _, _, .bool _ _ => by
    unfold walkExpr
    exact (RunsSc.seq RunsSc.atOther (RunsSc.fx _)).cast (by simp [render])
  | _, _, .int _ _ => by
    unfold walkExpr
    exact (RunsSc.seq RunsSc.atOther (RunsSc.emit _)).cast (by simp [render])
  | _, _, .str _ _ _ => by
    unfold walkExpr
    exact (RunsSc.seq RunsSc.atOther (RunsSc.seq (RunsSc.fx _) (RunsSc.seq (RunsSc.emit _) (RunsSc.fx _)))).cast (by simp [render])
  | _, _, .neg _ ha | _, _, .not _ ha => by
    unfold walkExpr
    exact (RunsSc.seq RunsSc.atOther (RunsSc.seq (RunsSc.fx _) (RunsSc.seq ha.renders (RunsSc.fx _)))).cast (by simp [render])
  | _, _, .elvis _ ha hb => by
    unfold walkExpr
    exact (RunsSc.seq RunsSc.atOther (RunsSc.seq (RunsSc.fx _) (RunsSc.seq ha.renders (RunsSc.seq (RunsSc.fx _) (RunsSc.seq ha.renders
      (RunsSc.seq (RunsSc.fx _) (RunsSc.seq hb.renders (RunsSc.fx _)))))))).cast (by simp [render])
  | _, _, .bin _ hop ha hb => by
    rw [SoyVerif.Props.C04.walkExpr_bin sk o hop]
    exact (RunsSc.seq RunsSc.atOther (RunsSc.seq (RunsSc.fx _) (RunsSc.seq ha.renders (RunsSc.seq (RunsSc.fx _)
      (RunsSc.seq (RunsSc.fx _) (RunsSc.seq (RunsSc.fx _) (RunsSc.seq hb.renders (RunsSc.fx _)))))))).cast (by simp [render])
  | _, _, .tern _ hc ha hb => by
    unfold walkExpr
    exact (RunsSc.seq RunsSc.atOther (RunsSc.seq (RunsSc.fx _) (RunsSc.seq hc.renders (RunsSc.seq (RunsSc.fx _)
      (RunsSc.seq ha.renders (RunsSc.seq (RunsSc.fx _) (RunsSc.seq hb.renders (RunsSc.fx _)))))))).cast (by simp [render])
  | _, _, .global _ (v := v) hg hj => by
    unfold walkExpr
    rw [GlobalsAre.eq (o := o), hg]
    cases v <;> simp only [globalAst, Option.some.injEq, reduceCtorEq] at hj <;> subst hj <;> unfold walkValue
    · exact (RunsSc.seq RunsSc.atOther (RunsSc.fx _)).cast (by simp [render])
    · exact (RunsSc.seq RunsSc.atOther (RunsSc.fx _)).cast (by simp [render])
    · exact (RunsSc.seq RunsSc.atOther (RunsSc.emit _)).cast (by simp [render])
    · exact (RunsSc.seq RunsSc.atOther (RunsSc.seq (RunsSc.fx _) (RunsSc.seq (RunsSc.emit _) (RunsSc.fx _)))).cast (by simp [render])
  | _, _, .ij _ hacc => by
    unfold walkExpr
    refine (RunsSc.seq RunsSc.atOther (RunsSc.bindScope ?_)).cast (List.nil_append _)
    simp only [show (sIj == b!"ij") = true from rfl, if_true]
    exact RunsSc.parenIf _ (visitAccess_renders sk o sc hacc)
  | _, _, .ref _ (key := key) hk _ hacc => by
    unfold walkExpr
    refine (RunsSc.seq RunsSc.atOther (RunsSc.bindScope ?_)).cast (List.nil_append _)
    have hkey : (key == b!"ij") = false := by simpa [sIj] using hk
    simp only [hkey, Bool.false_eq_true, if_false]
    cases hl : sc.lookup key with
    | none =>
      simp only [hl] at hacc ⊢
      exact RunsSc.parenIf _ (visitAccess_renders sk o sc hacc)
    | some g =>
      simp only [hl] at hacc ⊢
      exact RunsSc.parenIf _ (visitAccess_renders sk o sc hacc)
  | _, _, .loop p h => loop_runs sk o sc p h
  | _, _, .fn1 p (a := a) (ja := ja) hf ha => by
    obtain ⟨pre, post, ht, hr⟩ := fn1_parts hf
    exact func_runs sk o sc p _ _ _ _ ht ((parts1_runs sk o sc a _ ha.renders pre post).cast (hr ja).symm)
  | _, _, .fn2 p (a := a) (b := b) (ja := ja) (jb := jb) hf ha hb => by
    obtain ⟨pre, mid, post, ht, hr⟩ := fn2_parts hf
    exact func_runs sk o sc p _ _ _ _ ht ((parts2_runs sk o sc a b _ _ ha.renders hb.renders pre mid post).cast (hr ja jb).symm)

/-- In every state whose scope is `sc` the generator
    writes exactly the text of the translation, and leaves the scope as it is -/
theorem walkExpr_renders (sc : Scope) :
    ∀ (e : Expr) (j : JsExpr), toAst sc e = some j → RunsSc sc (walkExpr sk o e) (render j) :=
  fun e j h => (toAst_tr sc e j h).renders sk o sc

end

open SoyVerif.Spec.Eval (Val Out)

mutual
  /-- the JSON image of a Soy value (no floats; integers a double holds exactly) -/
  def toJsV : Val → Option JVal
    | .undefined => some .undefined
    | .null => some .null
    | .bool b => some (.bool b)
    | .int i => if exact i then some (.num i) else none
    | .float _ => none
    | .str s => some (.str s)
    | .list xs => (toJsList xs).map .arr
    | .map kvs => (toJsKvs kvs).map .obj
  def toJsList : List Val → Option (List JVal)
    | [] => some []
    | x :: r => match toJsV x, toJsList r with
      | some a, some b => some (a :: b)
      | _, _ => none
  def toJsKvs : List (Bytes × Val) → Option (List (Bytes × JVal))
    | [] => some []
    | (k, v) :: r => match toJsV v, toJsKvs r with
      | some a, some b => some ((k, a) :: b)
      | _, _ => none
end

theorem toJsList_cons {x : Val} {r : List Val} {js : List JVal} (h : toJsList (x :: r) = some js) :
    ∃ a b, toJsV x = some a ∧ toJsList r = some b ∧ js = a :: b := by
  unfold toJsList at h
  split at h
  · cases h
    exact ⟨_, _, ‹_›, ‹_›, rfl⟩
  · cases h

theorem toJsKvs_cons {k : Bytes} {v : Val} {r : List (Bytes × Val)} {jk : List (Bytes × JVal)}
    (h : toJsKvs ((k, v) :: r) = some jk) : ∃ a b, toJsV v = some a ∧ toJsKvs r = some b ∧ jk = (k, a) :: b := by
  unfold toJsKvs at h
  split at h
  · cases h
    exact ⟨_, _, ‹_›, ‹_›, rfl⟩
  · cases h

theorem toJsKvs_find : ∀ (kvs : List (Bytes × Val)) (jk : List (Bytes × JVal)) (k : Bytes), toJsKvs kvs = some jk →
    toJsV ((Spec.Eval.find kvs k).getD .undefined) = some (prop jk k)
  | [], jk, k, h => by
    cases h
    rfl
  | (k', v) :: r, jk, k, h => by
    obtain ⟨a, b, hv, hr, rfl⟩ := toJsKvs_cons h
    unfold Spec.Eval.find prop
    by_cases hk : (k' == k) = true
    · simp [hk, hv]
    · simp only [hk, Bool.false_eq_true, if_false]
      exact toJsKvs_find r b k hr

theorem toJsList_length : ∀ (xs : List Val) (js : List JVal), toJsList xs = some js → js.length = xs.length
  | [], js, h => by
    cases h
    rfl
  | x :: r, js, h => by
    obtain ⟨a, b, _, hr, rfl⟩ := toJsList_cons h
    simp [toJsList_length r b hr]

theorem toJsList_getD : ∀ (xs : List Val) (js : List JVal) (n : Nat), toJsList xs = some js →
    toJsV (xs.getD n .undefined) = some (js.getD n .undefined)
  | [], js, n, h => by
    cases h
    simp [toJsV]
  | x :: r, js, n, h => by
    obtain ⟨a, b, hv, hr, rfl⟩ := toJsList_cons h
    cases n with
    | zero => simpa using hv
    | succ m => simpa using toJsList_getD r b m hr

theorem toJsV_inv {v : Val} {jv : JVal} (h : toJsV v = some jv) :
    match jv with
    | .undefined => v = .undefined
    | .null => v = .null
    | .bool b => v = .bool b
    | .num i => v = .int i ∧ exact i = true
    | .str s => v = .str s
    | .arr js => ∃ xs, v = .list xs ∧ toJsList xs = some js
    | .obj jk => ∃ kvs, v = .map kvs ∧ toJsKvs kvs = some jk := by
  cases v with
  | int i =>
    unfold toJsV at h
    split at h
    · cases h
      exact ⟨rfl, ‹_›⟩
    · cases h
  | float f => cases h
  | list xs =>
    unfold toJsV at h
    cases hl : toJsList xs with
    | none => rw [hl] at h; cases h
    | some js => rw [hl] at h; cases h; exact ⟨xs, rfl, hl⟩
  | map kvs =>
    unfold toJsV at h
    cases hl : toJsKvs kvs with
    | none => rw [hl] at h; cases h
    | some jk => rw [hl] at h; cases h; exact ⟨kvs, rfl, hl⟩
  | _ => cases h; rfl

theorem toJsV_num {v : Val} {i : Int} (h : toJsV v = some (.num i)) : v = .int i ∧ exact i = true := toJsV_inv h
theorem toJsV_bool {v : Val} {b : Bool} (h : toJsV v = some (.bool b)) : v = .bool b := toJsV_inv h
theorem toJsV_str {v : Val} {s : Bytes} (h : toJsV v = some (.str s)) : v = .str s := toJsV_inv h
theorem toJsV_null {v : Val} (h : toJsV v = some .null) : v = .null := toJsV_inv h
theorem toJsV_undefined {v : Val} (h : toJsV v = some .undefined) : v = .undefined := toJsV_inv h
theorem toJsV_arr {v : Val} {js : List JVal} (h : toJsV v = some (.arr js)) : ∃ xs, v = .list xs ∧ toJsList xs = some js :=
  toJsV_inv h
theorem toJsV_obj {v : Val} {jk : List (Bytes × JVal)} (h : toJsV v = some (.obj jk)) :
    ∃ kvs, v = .map kvs ∧ toJsKvs kvs = some jk :=
  toJsV_inv h

/-- the environment relation: every visible Soy variable is held, as its JSON image, by the
    JavaScript local the generator's scope assigns to it, or by `opt_data.k` if the scope does not
    bind it (a template parameter, or nothing at all: `undefined` on both sides) -/
def VarRel (sc : Scope) (env : Spec.Eval.Env) (jenv : JEnv) : Prop :=
  ∀ k : Bytes, k ≠ sIj → k.contains 36 = false →
    match sc.lookup k with
    | some g => ∃ kv, jenv.locals.find? (·.1 == g) = some kv ∧ toJsV (env.lookup k) = some kv.2
    | none => toJsV (env.lookup k) = some (prop jenv.optData k)

/-- the iteration state of a loop (iteration number `i`, last iteration `last`), as the JavaScript locals named in
    the loop's frame hold it: the index local is `i`; a foreach's limit local is the length `last + 1`; a range
    loop's test `v + step >= limit` holds exactly in the last iteration -/
def FrameRel (f : Frame) (v : Bytes) (i last : Nat) (jenv : JEnv) : Prop :=
  exact (i : Int) = true ∧
  (∀ idx, frameGet? f (Scope.kIndex ++ v) = some idx → localNum jenv idx = some (i : Int)) ∧
  (match frameGet? f (Scope.kStep ++ v) with
    | none => ∀ lim, frameGet? f (Scope.kLimit ++ v) = some lim → localNum jenv lim = some ((last : Int) + 1)
    | some step => ∀ lv lim, frameGet? f (Scope.kVar ++ v) = some lv → frameGet? f (Scope.kLimit ++ v) = some lim →
        ∃ a s l, localNum jenv lv = some a ∧ localNum jenv step = some s ∧ localNum jenv lim = some l ∧
          decide (l ≤ a + s) = (i == last))

/-- every loop whose frame is open in the generator scope is a loop the Soy environment is in, in the same
    iteration -/
def LoopRel (sc : Scope) (env : Spec.Eval.Env) (jenv : JEnv) : Prop :=
  ∀ v f, Scope.loopFrame sc.stack v = some f →
    ∃ i last, Spec.Eval.findLoop env.loops v = some (i, last) ∧ FrameRel f v i last jenv

/-- `opt_ijData` is the JSON image of the injected data (`undefined` when there is none) -/
def IjRel (ij : Option Spec.Eval.Binds) (jij : Option (List (Bytes × JVal))) : Prop :=
  match ij with
  | some kvs => ∃ jk, toJsKvs kvs = some jk ∧ jij = some jk
  | none => jij = none

/-- the globals of the Soy environment are the scalar globals of the table -/
def GlobRel (gs : Spec.Eval.Binds) : Prop :=
  ∀ name v j, assocGet? Globals.tbl name = some v → globalAst v = some j → Spec.Eval.find gs name = some (globalVal v)

/-- everything the two sides share: the variables (`VarRel`), the loops (`LoopRel`), `opt_data` as the JSON image of
    the template's data `ent`, the injected data (`IjRel`) and the globals (`GlobRel`) -/
def EnvRel (ent : Spec.Eval.Binds) (sc : Scope) (env : Spec.Eval.Env) (jenv : JEnv) : Prop :=
  VarRel sc env jenv ∧ LoopRel sc env jenv ∧ toJsKvs ent = some jenv.optData ∧ IjRel env.ij jenv.ijData ∧ GlobRel env.globals

section
variable {ent : Spec.Eval.Binds} {sc : Scope} {env : Spec.Eval.Env} {jenv : JEnv}

theorem EnvRel.vars (h : EnvRel ent sc env jenv) : VarRel sc env jenv := h.1
theorem EnvRel.loops (h : EnvRel ent sc env jenv) : LoopRel sc env jenv := h.2.1
theorem EnvRel.data (h : EnvRel ent sc env jenv) : toJsKvs ent = some jenv.optData := h.2.2.1
theorem EnvRel.ij (h : EnvRel ent sc env jenv) : IjRel env.ij jenv.ijData := h.2.2.2.1
theorem EnvRel.globals (h : EnvRel ent sc env jenv) : GlobRel env.globals := h.2.2.2.2

end

theorem localNum_of_find {jenv : JEnv} {x : Bytes} {n : Int} (h : jenv.locals.find? (·.1 == x) = some (x, .num n)) :
    localNum jenv x = some n := by simp [localNum, h]

theorem find_of_localNum {jenv : JEnv} {x : Bytes} {n : Int} (h : localNum jenv x = some n) :
    ∃ kv, jenv.locals.find? (·.1 == x) = some kv ∧ kv.2 = .num n := by
  unfold localNum at h
  split at h
  · rename_i k i hf
    simp only [Option.some.injEq] at h
    subst h
    exact ⟨_, hf, rfl⟩
  · cases h

theorem loopindex_frame : ∀ (st : List Frame) (v idx : Bytes), Scope.lookupIn st (Scope.kIndex ++ v) = some idx →
    ∃ f, Scope.loopFrame st v = some f ∧ frameGet? f (Scope.kIndex ++ v) = some idx
  | [], _, _, h => by simp [Scope.lookupIn] at h
  | f :: r, v, idx, h => by
    unfold Scope.lookupIn at h
    unfold Scope.loopFrame
    cases hg : frameGet? f (Scope.kIndex ++ v) with
    | some g =>
      simp only [hg, Option.some.injEq] at h
      subst h
      exact ⟨f, rfl, hg⟩
    | none =>
      simp only [hg] at h
      exact loopindex_frame r v idx h

theorem truthy_toBoolean : ∀ (v : Val) (jv : JVal), toJsV v = some jv → Spec.Eval.truthy v = toBoolean jv := by
  intro v jv h
  have hi := toJsV_inv h
  cases jv <;> simp only at hi
  case num => rw [hi.1]; rfl
  case arr | obj => obtain ⟨xs, rfl, _⟩ := hi; rfl
  all_goals (rw [hi]; rfl)

theorem intRes_of_exact {i : Int} (h : exact i = true) : Spec.Eval.intRes i = .val (.int i) := by
  simp [Spec.Eval.intRes, SoyVerif.Props.C04.exact_inI64 h]

theorem toJsV_int {i : Int} (h : exact i = true) : toJsV (.int i) = some (.num i) := by simp [toJsV, h]

theorem showVal_toStr : ∀ (v : Val) (jv : JVal) (s : Bytes), toJsV v = some jv → toStr? jv = some s →
    Spec.Eval.showVal v = .val s := by
  intro v jv s h hs
  have hi := toJsV_inv h
  cases jv <;> simp only at hi <;> simp only [toStr?, Option.some.injEq, reduceCtorEq] at hs <;> subst hs
  case num => rw [hi.1]; simp [Spec.Eval.showVal]
  all_goals (rw [hi]; simp [Spec.Eval.showVal, Spec.Eval.sNull, Spec.Eval.sTrue, Spec.Eval.sFalse])

theorem isStr_iff {v : Val} {jv : JVal} (h : toJsV v = some jv) : Spec.Eval.isStr v = isStr jv := by
  have hi := toJsV_inv h
  cases jv <;> simp only at hi
  case num => rw [hi.1]; rfl
  case arr | obj => obtain ⟨xs, rfl, _⟩ := hi; rfl
  all_goals (rw [hi]; rfl)

theorem toStr_defined {jv : JVal} {s : Bytes} (h : toStr? jv = some s) : jv ≠ .undefined := by
  intro e; subst e; simp [toStr?] at h

variable {E : Prop}

/-- the value of an emitted expression against the specification's: a value is the JSON image of the specification's value;
    a thrown TypeError — claimed under `E` — means the specification has no value; outside the common subset nothing is said -/
inductive SimE (E : Prop) (so : Out Val) : JOut → Prop
  | val {jv : JVal} (v : Val) (hv : so = .val v) (hj : toJsV v = some jv) : SimE E so (.val jv)
  | error (h : E → ∀ v, so ≠ .val v) : SimE E so .error
  | unspec : SimE E so .unspec

theorem out_bind_not_val {α β : Type} {o : Out α} {f : α → Out β} (h : ∀ a, o ≠ .val a) : ∀ b, o.bind f ≠ .val b := by
  intro b hb
  cases o with
  | val a => exact h a rfl
  | error => cases hb
  | unspec => cases hb

theorem SimE.bind {so : Out Val} {jo : JOut} {f : Val → Out Val} {g : JVal → JOut} (h1 : SimE E so jo)
    (h2 : ∀ v jv, so = .val v → jo = .val jv → toJsV v = some jv → SimE E (f v) (g jv)) : SimE E (so.bind f) (jo.bind g) := by
  cases h1 with
  | val v hv hj => subst hv; exact h2 v _ rfl rfl hj
  | error h => exact .error fun hE => out_bind_not_val (h hE)
  | unspec => exact .unspec

theorem numRes_sim (i : Int) : SimE E (Spec.Eval.intRes i) (numRes i) := by
  unfold numRes
  split
  · rename_i he
    exact .val (.int i) (intRes_of_exact he) (toJsV_int he)
  · exact .unspec

/-- the strict binary operators on corresponding values: JavaScript has a value only on operands of the common subset, and
    then the specification's; on other operands the semantics is silent; it never throws -/
theorem binop_sim (op : BinOp) (jo : JsOp) (hop : opOf op = some jo) (hand : jo ≠ .and) (hor : jo ≠ .or)
    (v1 v2 : Val) (a b : JVal) (h1 : toJsV v1 = some a) (h2 : toJsV v2 = some b) :
    SimE E (Spec.Eval.binop op v1 v2) (binop jo a b) := by
  have num : ∀ (x y : Int), a = .num x → b = .num y →
      v1 = .int x ∧ v2 = .int y ∧ Spec.Eval.small x = true ∧ Spec.Eval.small y = true := by
    intro x y ha hb
    subst ha; subst hb
    exact ⟨(toJsV_num h1).1, (toJsV_num h2).1, (toJsV_num h1).2, (toJsV_num h2).2⟩
  cases op <;> simp [opOf] at hop <;> subst hop
  case mul | sub =>
    cases a <;> cases b <;> first | exact .unspec | skip
    rename_i x y
    obtain ⟨rfl, rfl, _, _⟩ := num x y rfl rfl
    first | exact numRes_sim (x * y) | exact numRes_sim (x - y)
  case mod =>
    cases a <;> cases b <;> first | exact .unspec | skip
    rename_i x y
    obtain ⟨rfl, rfl, _, _⟩ := num x y rfl rfl
    by_cases hy : (y == 0) = true
    · simp only [binop, hy, if_true]; exact .unspec
    · simp only [binop, Spec.Eval.binop, hy, Bool.false_eq_true, if_false]
      exact numRes_sim (Int.tmod x y)
  case add =>
    by_cases hn : ∃ x y, a = .num x ∧ b = .num y
    · obtain ⟨x, y, rfl, rfl⟩ := hn
      obtain ⟨rfl, rfl, _, _⟩ := num x y rfl rfl
      exact numRes_sim (x + y)
    · have hb' : binop .add a b = (if isStr a || isStr b then
          match toStr? a, toStr? b with
          | some s1, some s2 => .val (.str (s1 ++ s2))
          | _, _ => .unspec
        else .unspec) := by
        cases a <;> cases b <;> first | rfl | (exfalso; exact hn ⟨_, _, rfl, rfl⟩)
      rw [hb']
      split
      · rename_i hs
        cases ha : toStr? a with
        | none => exact .unspec
        | some s1 =>
          cases hbs : toStr? b with
          | none => exact .unspec
          | some s2 =>
            have hs' : (Spec.Eval.isStr v1 || Spec.Eval.isStr v2) = true := by
              rw [isStr_iff h1, isStr_iff h2]; exact hs
            have hv1 := showVal_toStr v1 a s1 h1 ha
            have hv2 := showVal_toStr v2 b s2 h2 hbs
            have hu1 : v1 ≠ .undefined := by
              intro e; subst e; simp [toJsV] at h1; subst h1; simp [toStr?] at ha
            have hu2 : v2 ≠ .undefined := by
              intro e; subst e; simp [toJsV] at h2; subst h2; simp [toStr?] at hbs
            refine .val (.str (s1 ++ s2)) ?_ (by simp [toJsV])
            -- one of the operands is a string: the other one ranges over the eight kinds of value
            rcases Bool.or_eq_true _ _ ▸ hs' with hstr | hstr
            · cases v1 <;> simp [Spec.Eval.isStr] at hstr
              cases v2 <;> first
                | exact absurd rfl hu2
                | simp only [Spec.Eval.binop, Spec.Eval.isStr, Bool.true_or, if_true, hv1, hv2, Spec.Eval.Out.bind]
            · cases v2 <;> simp [Spec.Eval.isStr] at hstr
              cases v1 <;> first
                | exact absurd rfl hu1
                | simp only [Spec.Eval.binop, Spec.Eval.isStr, Bool.or_true, if_true, hv1, hv2, Spec.Eval.Out.bind]
      · exact .unspec
  case eq | ne =>
    cases a <;> cases b <;> first | exact .unspec | skip
    · have := toJsV_null h1; have := toJsV_null h2; subst_vars
      exact .val (.bool _) (by simp [Spec.Eval.binop, Spec.Eval.equalsV, Spec.Eval.Out.bind]) rfl
    · have := toJsV_bool h1; have := toJsV_bool h2; subst_vars
      exact .val (.bool _) (by simp [Spec.Eval.binop, Spec.Eval.equalsV, Spec.Eval.Out.bind]) rfl
    · have := (toJsV_num h1).1; have := (toJsV_num h2).1; subst_vars
      exact .val (.bool _) (by simp [Spec.Eval.binop, Spec.Eval.equalsV, Spec.Eval.Out.bind]) rfl
    · have := toJsV_str h1; have := toJsV_str h2; subst_vars
      exact .val (.bool _) (by simp [Spec.Eval.binop, Spec.Eval.equalsV, Spec.Eval.Out.bind]) rfl
  case gt | ge | lt | le =>
    cases a <;> cases b <;> first | exact .unspec | skip
    rename_i x y
    obtain ⟨rfl, rfl, hx, hy⟩ := num x y rfl rfl
    exact .val (.bool _) (by simp [Spec.Eval.binop, Spec.Eval.compareV, hx, hy]) rfl
  case or => exact absurd rfl hor
  case and => exact absurd rfl hand

/-- the value of one plain access on an evaluated base -/
def stepVal : Access → JVal → JOut
  | .key _ _ k, v => getMember v k
  | .index _ _ i, v => getIndex v i
  | .expr _ _ _, _ => .unspec

/-- … and its key in the specification -/
def keyOf : Access → Spec.Eval.Key
  | .key _ _ k => .str k
  | .index _ _ i => .int i
  | .expr _ _ _ => .undef

theorem eval_accStep (jenv : JEnv) {ns : Bool} {a : Access} {x y : JsExpr} (hy : AccStep ns a x y) :
    eval jenv y = (eval jenv x).bind (stepVal a) := by
  cases hy <;> rfl

/-- the specification's result of one plain access that is not null-safe (it does not look at its position) -/
def stepOut (a : Access) (base : Val) : Out Val :=
  match Spec.Eval.access base false (keyOf a) false with
  | .next v => .val v
  | .stop o => o

theorem evalAcc_plain (env : Spec.Eval.Env) {a : Access} {x y : JsExpr} (hy : AccStep false a x y) (rest : AccessList)
    (base : Val) : Spec.Eval.evalAcc env (.cons a rest) base = (stepOut a base).bind (Spec.Eval.evalAcc env rest) := by
  cases hy <;> cases base <;> cases rest <;> rfl

theorem evalAcc_guard (env : Spec.Eval.Env) {a : Access} {x y : JsExpr} (hy : AccStep true a x y) (base : Val) :
    ((base = .undefined ∨ base = .null) → Spec.Eval.evalAcc env (.cons a .nil) base = .val .null) ∧
    (¬ (base = .undefined ∨ base = .null) → Spec.Eval.evalAcc env (.cons a .nil) base = stepOut a base) := by
  cases hy <;> cases base <;> refine ⟨fun h => ?_, fun h => ?_⟩ <;> first | rfl | simp at h

theorem getD_ge {α : Type} (l : List α) (n : Nat) (d : α) (h : l.length ≤ n) : l.getD n d = d := by
  simp [List.getD, List.getElem?_eq_none h]

theorem nth_corr (xs : List Val) (js : List JVal) (i : Int) (h : toJsList xs = some js) (hi : ¬ i < 0) :
    toJsV (Spec.Eval.nth xs i) = some (js.getD i.toNat .undefined) := by
  unfold Spec.Eval.nth
  have hl := toJsList_length xs js h
  by_cases hr : 0 ≤ i ∧ i < (xs.length : Int)
  · simp only [if_pos hr]
    exact toJsList_getD xs js i.toNat h
  · simp only [if_neg hr]
    have : js.length ≤ i.toNat := by omega
    rw [getD_ge js _ _ this]
    rfl

theorem nullish_iff {v : Val} {jv : JVal} (h : toJsV v = some jv) :
    isNullish jv = true ↔ (v = .undefined ∨ v = .null) := by
  constructor
  · intro hn
    cases jv <;> simp [isNullish] at hn
    · exact Or.inl (toJsV_undefined h)
    · exact Or.inr (toJsV_null h)
  · rintro (rfl | rfl) <;> (simp [toJsV] at h; subst h; rfl)

/-- one plain access on corresponding values: a property of `undefined` / `null` throws, and the specification has no value;
    JavaScript has a value only on an object (`.k`) or an array (`[i]`), and then the specification's -/
theorem step_sim {ns : Bool} {a : Access} {x y : JsExpr} (hy : AccStep ns a x y) {base : Val} {jx : JVal}
    (hb : toJsV base = some jx) : SimE E (stepOut a base) (stepVal a jx) := by
  have hi := toJsV_inv hb
  cases hy with
  | key p _ hk =>
    cases jx <;> simp only at hi <;> first | exact .unspec | skip
    · subst hi; exact .error fun _ _ h => nomatch h
    · subst hi; exact .error fun _ _ h => nomatch h
    · obtain ⟨kvs, rfl, hkvs⟩ := hi
      exact .val _ rfl (toJsKvs_find kvs _ _ hkvs)
  | index p _ hi' =>
    cases jx <;> simp only at hi <;> first | exact .unspec | skip
    · subst hi; exact .error fun _ _ h => nomatch h
    · subst hi; exact .error fun _ _ h => nomatch h
    · obtain ⟨xs, rfl, hxs⟩ := hi
      simp only [stepVal, getIndex, hi', if_false]
      exact .val _ rfl (nth_corr xs _ _ hxs hi')

/-- the accesses of a reference on corresponding bases (a base without value leaves the chain without value: `SimE.bind`) -/
theorem accAst_sim (env : Spec.Eval.Env) (jenv : JEnv) : ∀ {acc : AccessList} {x j : JsExpr} {so : Out Val},
    TrAcc acc x j → SimE E so (eval jenv x) → SimE E (so.bind (Spec.Eval.evalAcc env acc)) (eval jenv j)
  | _, _, _, so, .nil _, h => by
    have : so.bind (Spec.Eval.evalAcc env .nil) = so := by cases so <;> rfl
    rw [this]
    exact h
  | _, _, _, so, .plain (a := a) (rest := rest) hy hr, h => by
    have : so.bind (Spec.Eval.evalAcc env (.cons a rest)) = (so.bind (stepOut a)).bind (Spec.Eval.evalAcc env rest) := by
      cases so <;> first | rfl | exact evalAcc_plain env hy rest _
    rw [this]
    refine accAst_sim env jenv hr ?_
    rw [eval_accStep jenv hy]
    exact h.bind fun _ _ _ _ hb => step_sim hy hb
  | _, _, _, so, .guard (a := a) hy, h => by
    unfold eval
    refine h.bind fun base jx _ hjo hb => ?_
    rw [eval_accStep jenv hy, hjo]
    by_cases hn : isNullish jx = true
    · -- a null-safe hit in last position: null
      rw [(evalAcc_guard env hy base).1 ((nullish_iff hb).mp hn)]
      simp only [hn, if_true]
      exact .val .null rfl rfl
    · rw [(evalAcc_guard env hy base).2 fun hh => hn ((nullish_iff hb).mpr hh)]
      simp only [hn, Bool.false_eq_true, if_false]
      exact step_sim hy hb

theorem roundHalfAway_one (i : Int) : Spec.Eval.roundHalfAway i 1 = i := by
  unfold Spec.Eval.roundHalfAway
  have hq : (2 * i.natAbs + 1) / (2 * 1) = i.natAbs := by omega
  simp only [hq]
  split <;> omega

theorem roundSpec_int {i : Int} (h : exact i = true) : Spec.Eval.roundSpec (.int i) 0 = .val (.int i) := by
  simp [Spec.Eval.roundSpec, roundHalfAway_one, intRes_of_exact h]

theorem applyFn_isNonnull (args : List Val) : Spec.Eval.applyFn sIsNonnull args =
    (match args with
     | [.null] => .val (.bool false)
     | [.undefined] => .val (.bool false)
     | [_] => .val (.bool true)
     | _ => .error) := rfl
theorem applyFn_length (args : List Val) : Spec.Eval.applyFn sLength args =
    (match args with
     | [.list xs] => Spec.Eval.intRes xs.length
     | _ => .error) := rfl
theorem applyFn_floor (args : List Val) : Spec.Eval.applyFn sFloor args =
    (match args with
     | [x] => Spec.Eval.floorSpec false x
     | _ => .error) := rfl
theorem applyFn_ceiling (args : List Val) : Spec.Eval.applyFn sCeiling args =
    (match args with
     | [x] => Spec.Eval.floorSpec true x
     | _ => .error) := rfl
theorem applyFn_round1 (x : Val) : Spec.Eval.applyFn sRound [x] = Spec.Eval.roundSpec x 0 := rfl
theorem applyFn_min (a b : Int) : Spec.Eval.applyFn sMin [.int a, .int b] = .val (.int (if a < b then a else b)) := rfl
theorem applyFn_max (a b : Int) : Spec.Eval.applyFn sMax [.int a, .int b] = .val (.int (if a > b then a else b)) := rfl

/-- one-argument built-ins on corresponding values: `.length` of `undefined` / `null` throws, and the specification has no value -/
theorem apply1_sim (name : Bytes) (f : Fn1) (hf : fn1Of name = some f) (v : Val) (ja : JVal) (hv : toJsV v = some ja) :
    SimE E (Spec.Eval.applyFn name [v]) (apply1 f ja) := by
  have hi := toJsV_inv hv
  rcases fn1Of_some hf with ⟨rfl, rfl⟩ | ⟨rfl, rfl⟩ | ⟨rfl, rfl⟩ | ⟨rfl, rfl⟩ | ⟨rfl, rfl⟩
  · refine .val (.bool (!isNullish ja)) ?_ rfl
    rw [applyFn_isNonnull]
    cases ja <;> simp only at hi
    case num => rw [hi.1]; rfl
    case arr | obj => obtain ⟨_, rfl, _⟩ := hi; rfl
    all_goals (rw [hi]; rfl)
  · rw [applyFn_length]
    cases ja <;> simp only at hi <;> first | exact .unspec | skip
    · subst hi; exact .error fun _ w h => nomatch h
    · subst hi; exact .error fun _ w h => nomatch h
    · rename_i js
      obtain ⟨xs, rfl, hxs⟩ := hi
      show SimE E (Spec.Eval.intRes (xs.length : Int)) (numRes (js.length : Int))
      rw [toJsList_length xs js hxs]
      exact numRes_sim _
  all_goals
    cases ja <;> simp only at hi <;> first | exact .unspec | skip
    obtain ⟨rfl, he⟩ := hi
    first
      | exact .val (.int _) (by rw [applyFn_floor]; rfl) (toJsV_int he)
      | exact .val (.int _) (by rw [applyFn_ceiling]; rfl) (toJsV_int he)
      | exact .val (.int _) (by rw [applyFn_round1, roundSpec_int he]) (toJsV_int he)

theorem apply2_sim (name : Bytes) (f : Fn2) (hf : fn2Of name = some f) (v1 v2 : Val) (ja jb : JVal)
    (h1 : toJsV v1 = some ja) (h2 : toJsV v2 = some jb) : SimE E (Spec.Eval.applyFn name [v1, v2]) (apply2 f ja jb) := by
  cases ja <;> cases jb <;> first | exact .unspec | skip
  rename_i x y
  obtain ⟨rfl, hx⟩ := toJsV_num h1
  obtain ⟨rfl, hy⟩ := toJsV_num h2
  rcases fn2Of_some hf with ⟨rfl, rfl⟩ | ⟨rfl, rfl⟩
  · exact .val _ (applyFn_min x y) (by split <;> simp [toJsV, hx, hy])
  · exact .val _ (applyFn_max x y) (by split <;> simp [toJsV, hx, hy])

theorem isLoopFn_fn1 {name : Bytes} {f : Fn1} (h : fn1Of name = some f) : Spec.Eval.isLoopFn name = false := by
  rcases fn1Of_some h with ⟨rfl, _⟩ | ⟨rfl, _⟩ | ⟨rfl, _⟩ | ⟨rfl, _⟩ | ⟨rfl, _⟩ <;> rfl
theorem isLoopFn_fn2 {name : Bytes} {f : Fn2} (h : fn2Of name = some f) : Spec.Eval.isLoopFn name = false := by
  rcases fn2Of_some h with ⟨rfl, _⟩ | ⟨rfl, _⟩ <;> rfl

/-- index / isFirst / isLast: the iteration counters of the two sides are the same notion; the tests compare numeric
    variables and do not throw -/
theorem loop_sim (sc : Scope) (env : Spec.Eval.Env) (jenv : JEnv) (hloop : LoopRel sc env jenv) (p : Nat) {name : Bytes}
    {args : ExprList} {j : JsExpr} (h : TrLoop sc name args j) :
    SimE E (Spec.Eval.eval env (.func p name args)) (eval jenv j) := by
  have hspec : ∀ {dp key} (i l : Nat), Spec.Eval.isLoopFn name = true → Spec.Eval.findLoop env.loops key = some (i, l) →
      Spec.Eval.eval env (.func p name (.cons (.dataRef dp key .nil) .nil)) =
        (if name == Spec.Eval.nIndex then .val (.int i)
         else if name == Spec.Eval.nIsFirst then .val (.bool (i == 0)) else .val (.bool (i == l))) := by
    intro dp key i l hlf hfl
    simp [Spec.Eval.eval, hlf, hfl]
  cases h with
  | index dp hidx =>
    obtain ⟨f, hf, hget⟩ := loopindex_frame sc.stack _ _ hidx
    obtain ⟨i, last, hfl, hex, hix, _⟩ := hloop _ f hf
    obtain ⟨kv, hfind, hkv⟩ := find_of_localNum (hix _ hget)
    rw [hspec i last rfl hfl]
    simp only [eval, hfind, hkv]
    exact .val (.int i) rfl (by simp [toJsV, hex])
  | isFirst dp hidx =>
    obtain ⟨f, hf, hget⟩ := loopindex_frame sc.stack _ _ hidx
    obtain ⟨i, last, hfl, hex, hix, _⟩ := hloop _ f hf
    rw [hspec i last rfl hfl]
    simp only [eval, hix _ hget]
    refine .val (.bool (i == 0)) rfl ?_
    have : ((i : Int) == 0) = (i == 0) := by
      cases h0 : (i == 0) <;> simp at h0 ⊢ <;> omega
    simp [toJsV, this]
  | lastEach dp hf hs hv hl =>
    obtain ⟨i, last, hfl, hex, hix, hlast⟩ := hloop _ _ hf
    rw [hspec i last rfl hfl]
    show SimE E (.val (.bool (i == last))) _
    simp only [hs] at hlast
    simp only [eval, hix _ hv, hlast _ hl]
    unfold numRes
    split
    · refine .val (.bool (i == last)) rfl ?_
      have : ((last : Int) + 1 - 1) = (last : Int) := by omega
      have h2 : ((i : Int) == (last : Int)) = (i == last) := by
        cases hil : (i == last) <;> simp at hil ⊢ <;> omega
      simp [toJsV, this, h2]
    · exact .unspec
  | lastRange dp hf hs hv hl =>
    obtain ⟨i, last, hfl, hex, hix, hlast⟩ := hloop _ _ hf
    rw [hspec i last rfl hfl]
    show SimE E (.val (.bool (i == last))) _
    simp only [hs] at hlast
    obtain ⟨a, st, l, ha, hst, hl', hdec⟩ := hlast _ _ hv hl
    simp only [eval, ha, hst, hl']
    unfold numRes
    split
    · exact .val (.bool (i == last)) rfl (by simp [toJsV, hdec])
    · exact .unspec

theorem eval_strict (jenv : JEnv) {jo : JsOp} (hand : jo ≠ .and) (hor : jo ≠ .or) (ja jb : JsExpr) :
    eval jenv (.bin jo ja jb) = (eval jenv ja).bind fun va => (eval jenv jb).bind fun vb => binop jo va vb := by
  cases jo <;> first | rfl | exact absurd rfl hand | exact absurd rfl hor

theorem eval_logic (jenv : JEnv) {jo : JsOp} (hl : jo = .and ∨ jo = .or) (ja jb : JsExpr) :
    eval jenv (.bin jo ja jb) = (eval jenv ja).bind fun va =>
      match va with
      | .bool x =>
        if x = (jo == .or) then .val (.bool x)
        else (eval jenv jb).bind fun vb =>
          match vb with
          | .bool y => .val (.bool y)
          | _ => .unspec
      | _ => .unspec := by
  rcases hl with rfl | rfl <;>
  · conv => lhs; unfold eval
    congr 1
    funext va
    cases va <;> try rfl
    rename_i x
    cases x <;> rfl

theorem eval_parenIf (jenv : JEnv) (c : Bool) (j : JsExpr) : eval jenv (if c then .paren j else j) = eval jenv j := by
  cases c <;> rfl

theorem specEval_func (env : Spec.Eval.Env) {name : Bytes} (hl : Spec.Eval.isLoopFn name = false) (p : Nat) (args : ExprList) :
    Spec.Eval.eval env (.func p name args) = (Spec.Eval.evalList env args).bind (Spec.Eval.applyFn name) := by
  simp only [Spec.Eval.eval, hl, Bool.false_eq_true, if_false]

/-- THE SIMULATION of the expression stage, by recursion on the derivation: the value of the emitted expression against the
    specification's.  `gen_correct_refs_partial` is its reading at a value, Props/C04e `expr_no_throw` at a thrown error. -/
theorem TrExpr.sim {ent : Spec.Eval.Binds} {sc : Scope} (env : Spec.Eval.Env) (jenv : JEnv) (hrel : EnvRel ent sc env jenv) :
    ∀ {e : Expr} {j : JsExpr}, TrExpr sc e j → SimE E (Spec.Eval.eval env e) (eval jenv j)
  | _, _, .null _ => .val .null (by simp [Spec.Eval.eval]) rfl
  | _, _, .bool _ b => .val (.bool b) (by simp [Spec.Eval.eval]) rfl
  | _, _, .str _ _ v => .val (.str v) (by simp [Spec.Eval.eval]) rfl
  | _, _, .int _ v => by
    simp only [eval]
    split
    · exact .val (.int v) (by simp [Spec.Eval.eval]) (toJsV_int ‹_›)
    · exact .unspec
  | _, _, .neg _ ha => by
    simp only [Spec.Eval.eval, eval]
    refine (ha.sim env jenv hrel).bind fun v jv _ _ hvj => ?_
    cases jv <;> first | exact .unspec | skip
    obtain ⟨rfl, _⟩ := toJsV_num hvj
    exact numRes_sim _
  | _, _, .not _ ha => by
    simp only [Spec.Eval.eval, eval]
    exact (ha.sim env jenv hrel).bind fun v jv _ _ hvj => .val _ rfl (by simp [toJsV, truthy_toBoolean v jv hvj])
  | _, _, .tern _ hc ha hb => by
    simp only [Spec.Eval.eval, eval]
    refine (hc.sim env jenv hrel).bind fun v jv _ _ hvj => ?_
    rw [truthy_toBoolean v jv hvj]
    split
    · exact ha.sim env jenv hrel
    · exact hb.sim env jenv hrel
  | _, _, .elvis _ ha hb => by
    simp only [Spec.Eval.eval, eval]
    refine (ha.sim env jenv hrel).bind fun v jv _ hjo hvj => ?_
    by_cases hn : isNullish jv = true
    · simp only [hn, if_true]
      rcases (nullish_iff hvj).mp hn with rfl | rfl <;> exact hb.sim env jenv hrel
    · simp only [hn, Bool.false_eq_true, if_false]
      rw [hjo]
      refine .val v ?_ hvj
      have hnn : ¬ (v = .undefined ∨ v = .null) := fun hh => hn ((nullish_iff hvj).mpr hh)
      cases v <;> first | (exfalso; exact hnn (Or.inl rfl)) | (exfalso; exact hnn (Or.inr rfl)) | rfl
  | _, _, .bin _ (op := op) (jo := jo) hop ha hb => by
    by_cases hl : jo = .and ∨ jo = .or
    · rw [eval_logic jenv hl, SoyVerif.Props.C04.specEval_logic env hop hl]
      refine (ha.sim env jenv hrel).bind fun v jv _ _ hvj => ?_
      cases jv with
      | bool x =>
        obtain rfl := toJsV_bool hvj
        have ht : Spec.Eval.truthy (.bool x) = x := rfl
        simp only [ht]
        by_cases hx : x = (jo == .or)
        · rw [if_pos hx, if_pos hx]
          exact .val _ rfl rfl
        · rw [if_neg hx, if_neg hx]
          refine (hb.sim env jenv hrel).bind fun w jw _ _ hwj => ?_
          cases jw with
          | bool y =>
            obtain rfl := toJsV_bool hwj
            exact .val _ rfl rfl
          | _ => exact .unspec
      | _ => exact .unspec
    · have hand : jo ≠ .and := fun e => hl (Or.inl e)
      have hor : jo ≠ .or := fun e => hl (Or.inr e)
      rw [eval_strict jenv hand hor, SoyVerif.Props.C04.specEval_strict env hop hand hor]
      exact (ha.sim env jenv hrel).bind fun v1 a _ _ h1 => (hb.sim env jenv hrel).bind fun v2 b _ _ h2 =>
        binop_sim op jo hop hand hor v1 v2 a b h1 h2
  | _, _, .global p (name := name) (v := v) hg h => by
    have hf := hrel.globals name v _ hg h
    have hs : Spec.Eval.eval env (.global p name) = .val (globalVal v) := by simp [Spec.Eval.eval, hf]
    rw [hs]
    cases v <;> simp only [globalAst, Option.some.injEq, reduceCtorEq] at h <;> subst h
    · exact .val _ rfl rfl
    · exact .val _ rfl rfl
    · simp only [eval]
      split
      · exact .val _ rfl (by simp [globalVal, toJsV, *])
      · exact .unspec
    · exact .val _ rfl rfl
  | _, _, .ij dpos (acc := acc) hacc => by
    rw [eval_parenIf]
    have hspec : Spec.Eval.eval env (.dataRef dpos sIj acc) =
        (match env.ij with | none => Out.error | some kvs => Out.val (Val.map kvs)).bind (Spec.Eval.evalAcc env acc) := by
      simp only [Spec.Eval.eval, show (sIj == Spec.Eval.sIj) = true from rfl, if_true]
      cases env.ij <;> rfl
    rw [hspec]
    refine accAst_sim env jenv hacc ?_
    have hir := hrel.ij
    unfold IjRel at hir
    cases hij : env.ij with
    | none =>
      simp only [hij] at hir
      simp only [eval, hir]
      exact .unspec
    | some kvs =>
      simp only [hij] at hir
      obtain ⟨jk, hjk, hje⟩ := hir
      simp only [eval, hje]
      exact .val _ rfl (by simp [toJsV, hjk])
  | _, _, .ref dpos (key := key) (acc := acc) hkey hdollar hacc => by
    rw [eval_parenIf]
    have hspec : Spec.Eval.eval env (.dataRef dpos key acc) = (Out.val (env.lookup key)).bind (Spec.Eval.evalAcc env acc) := by
      have : (key == Spec.Eval.sIj) = false := by simpa [sIj, Spec.Eval.sIj] using hkey
      simp [Spec.Eval.eval, this, Spec.Eval.Out.bind]
    rw [hspec]
    refine accAst_sim env jenv hacc ?_
    have hr := hrel.vars key hkey hdollar
    cases hl : sc.lookup key with
    | none =>
      simp only [hl] at hr ⊢
      exact .val _ rfl hr
    | some g =>
      simp only [hl] at hr ⊢
      obtain ⟨kv, hfind, hkv⟩ := hr
      simp only [eval, hfind]
      exact .val _ rfl hkv
  | _, _, .loop p h => loop_sim sc env jenv hrel.loops p h
  | _, _, .fn1 _ (name := name) hf ha => by
    rw [specEval_func env (isLoopFn_fn1 hf)]
    simp only [Spec.Eval.evalList, Out.bind_assoc, Out.val_bind, eval]
    exact (ha.sim env jenv hrel).bind fun v jv _ _ hvj => apply1_sim name _ hf v jv hvj
  | _, _, .fn2 _ (name := name) hf ha hb => by
    rw [specEval_func env (isLoopFn_fn2 hf)]
    simp only [Spec.Eval.evalList, Out.bind_assoc, Out.val_bind, eval]
    exact (ha.sim env jenv hrel).bind fun v1 a _ _ h1 => (hb.sim env jenv hrel).bind fun v2 b _ _ h2 =>
      apply2_sim name _ hf v1 v2 a b h1 h2

/-- Under the environment relation, whenever the
    JavaScript text the generator writes for an expression of the fragment (`walkExpr_renders`) has
    the value `jv` (semantics of the common subset, Spec/JsSemRef), the Soy specification evaluates
    the expression to a value whose JSON image is `jv`. -/
theorem gen_correct_refs_partial {ent : Spec.Eval.Binds} (sc : Scope) (env : Spec.Eval.Env) (jenv : JEnv)
    (hrel : EnvRel ent sc env jenv) :
    ∀ (e : Expr) (j : JsExpr) (jv : JVal), toAst sc e = some j → eval jenv j = .val jv →
      ∃ v, Spec.Eval.eval env e = .val v ∧ toJsV v = some jv := by
  intro e j jv h hj
  have hs := (toAst_tr sc e j h).sim (E := True) env jenv hrel
  rw [hj] at hs
  cases hs with
  | val v hv hvj => exact ⟨v, hv, hvj⟩

/-- template parameters: before any `let` / loop, with `opt_data` the JSON image of the data the
    template was entered with -/
theorem envRel_params (sc : Scope) (env : Spec.Eval.Env) (jenv : JEnv)
    (hsc : ∀ k, sc.lookup k = none) (hdata : toJsKvs env.vars = some jenv.optData) (hij : IjRel env.ij jenv.ijData)
    (hgl : GlobRel env.globals) : EnvRel env.vars sc env jenv := by
  refine ⟨?_, ?_, hdata, hij, hgl⟩
  · intro k _ _
    rw [hsc k]
    exact toJsKvs_find env.vars jenv.optData k hdata
  · intro v f hf
    exfalso
    have hnone : ∀ (st : List Frame), Scope.lookupIn st (Scope.kIndex ++ v) = none → Scope.loopFrame st v = none := by
      intro st
      induction st with
      | nil => intro _; rfl
      | cons g r ih =>
        intro h
        unfold Scope.lookupIn at h
        unfold Scope.loopFrame
        cases hg : frameGet? g (Scope.kIndex ++ v) with
        | some x => simp [hg] at h
        | none => simp only [hg] at h ⊢; exact ih h
    rw [hnone sc.stack (hsc _)] at hf
    cases hf

theorem lookup_bind (env : Spec.Eval.Env) (x : Bytes) (v : Val) (k : Bytes) :
    (env.bind x v).lookup k = if x == k then v else env.lookup k := by
  by_cases h : (x == k) = true <;> simp [Spec.Eval.Env.bind, Spec.Eval.Env.lookup, Spec.Eval.find, h]

/-- binding the Soy name `x` to a JavaScript local `g` that holds the image of its value `v` (what `{let}`, `{foreach}`, `{for}`
    and a content block do): `VarRel` is kept, provided the other variables find what they found (`hopt`, `hkeep`) -/
theorem VarRel.bind {sc sc' : Scope} {env env' : Spec.Eval.Env} {jenv jenv' : JEnv} {x g : Bytes} {v : Val}
    (hrel : VarRel sc env jenv)
    (hlook : ∀ k, k.contains 36 = false → sc'.lookup k = if x == k then some g else sc.lookup k)
    (henv : ∀ k, env'.lookup k = if x == k then v else env.lookup k)
    (hg : ∃ kv, jenv'.locals.find? (·.1 == g) = some kv ∧ toJsV v = some kv.2)
    (hopt : jenv'.optData = jenv.optData)
    (hkeep : ∀ k g', (x == k) = false → k.contains 36 = false → sc.lookup k = some g' →
      jenv'.locals.find? (·.1 == g') = jenv.locals.find? (·.1 == g')) :
    VarRel sc' env' jenv' := by
  intro k hk hd
  rw [hlook k hd, henv k]
  by_cases hxk : (x == k) = true
  · simp only [hxk, if_true]
    exact hg
  · have hxk' : (x == k) = false := by simpa using hxk
    simp only [hxk', Bool.false_eq_true, if_false]
    have hr := hrel k hk hd
    cases hl : sc.lookup k with
    | none => simp only [hl] at hr ⊢; rw [hopt]; exact hr
    | some g' =>
      simp only [hl] at hr ⊢
      obtain ⟨kv, hfind, hkv⟩ := hr
      exact ⟨kv, by rw [hkeep k g' hxk' hd hl]; exact hfind, hkv⟩

/-! ### freshness from the shape of generated names (scope.go `jsname`) -/

/-- everything before the first "$" -/
def beforeDollar : Bytes → Bytes
  | [] => []
  | c :: r => if c == 36 then [] else c :: beforeDollar r

theorem beforeDollar_append (k rest : Bytes) (h : k.contains 36 = false) : beforeDollar (k ++ 36 :: rest) = k := by
  induction k with
  | nil => simp [beforeDollar]
  | cons c r ih =>
    simp only [List.contains_cons, Bool.or_eq_false_iff, beq_eq_false_iff_ne] at h
    have hc : (c == 36) = false := beq_eq_false_iff_ne.2 fun e => h.1 e.symm
    simp [beforeDollar, hc, ih h.2]

/-- a generated name determines the Soy name it was generated for -/
theorem jsname_inj {k k' use use' : Bytes} {m m' : Nat} (hk : k.contains 36 = false) (hk' : k'.contains 36 = false)
    (h : Scope.jsname k use m = Scope.jsname k' use' m') : k = k' := by
  have h1 := beforeDollar_append k (use ++ F64.natDigits m) hk
  have h2 := beforeDollar_append k' (use' ++ F64.natDigits m') hk'
  have h' : k ++ 36 :: (use ++ F64.natDigits m) = k' ++ 36 :: (use' ++ F64.natDigits m') := by
    simpa [Scope.jsname, List.append_assoc] using h
  rw [← h1, ← h2, h']

/-- FRESHNESS: under `ScopeShape`, the local generated for `x` is not the local of another variable -/
theorem fresh_of_shape (sc : Scope) (hs : ScopeShape sc) (x use : Bytes) (n : Nat) (hx : x.contains 36 = false) :
    ∀ k g', k ≠ x → k.contains 36 = false → sc.lookup k = some g' → g' ≠ Scope.jsname x use n := by
  intro k g' hkx hk hl e
  obtain ⟨u, m, rfl⟩ := hs k g' hk hl
  exact hkx (jsname_inj hk hx e)

/-- `VarRel.bind` with the local newly declared under a generated name: under `ScopeShape` that name is fresh, so the
    other variables keep their locals (`sc'`: the scope after `makevar` / `pushForEach`, through its `lookup`) -/
theorem VarRel.declare {sc sc' : Scope} {env : Spec.Eval.Env} {jenv : JEnv} {x use : Bytes} {n : Nat} {v : Val} {jv : JVal}
    (hrel : VarRel sc env jenv) (hs : ScopeShape sc) (hx : x.contains 36 = false)
    (hlook : ∀ k, k.contains 36 = false → sc'.lookup k = if x == k then some (Scope.jsname x use n) else sc.lookup k)
    (hv : toJsV v = some jv) :
    VarRel sc' (env.bind x v) { jenv with locals := (Scope.jsname x use n, jv) :: jenv.locals } := by
  refine hrel.bind hlook (lookup_bind env x v) ⟨(Scope.jsname x use n, jv), by simp, hv⟩ rfl fun k g' hxk hd hl => ?_
  have hne : g' ≠ Scope.jsname x use n := fresh_of_shape sc hs x use n hx k g' (fun e => by simp [e] at hxk) hd hl
  have : (Scope.jsname x use n == g') = false := by simpa using fun e => hne e.symm
  simp only [List.find?_cons, this]

theorem frameGet_frameSet : ∀ (f : Frame) (k v k' : Bytes),
    frameGet? (frameSet f k v) k' = if k == k' then some v else frameGet? f k'
  | [], k, v, k' => by simp [frameSet, frameGet?]
  | (a, b) :: r, k, v, k' => by
    unfold frameSet
    by_cases hak : (a == k) = true
    · have : a = k := by simpa using hak
      subst this
      simp only [hak, if_true, frameGet?]
      by_cases hk' : (a == k') = true <;> simp [hk']
    · simp only [hak, Bool.false_eq_true, if_false, frameGet?, frameGet_frameSet r k v k']
      by_cases hkk : (k == k') = true
      · have : k = k' := by simpa using hkk
        subst this
        have : (a == k) = false := by simpa using hak
        simp [this]
      · simp [hkk]

/-- `{let $x: …}`: what `makevar` does to the scope (the Write loop always has a frame open) -/
theorem makevar_lookup (sc : Scope) (f : Frame) (st : List Frame) (hst : sc.stack = f :: st) (x k : Bytes) :
    (sc.makevar x).2.lookup k = if x == k then some (sc.makevar x).1 else sc.lookup k := by
  simp only [Scope.makevar, Scope.lookup, hst, Scope.setTop, Scope.lookupIn, frameGet_frameSet]
  by_cases h : (x == k) = true
  · simp [h]
  · simp [h]

/-- `VarRel` is kept by `{let $x: e /}` (value `v`, its image assigned to the generated local); `LoopRel` is the business
    of the command level (Props/C04dInv `envRel_keep`, `loopRel_setTop`) -/
theorem envRel_let (sc : Scope) (env : Spec.Eval.Env) (jenv : JEnv) (f : Frame) (st : List Frame)
    (hst : sc.stack = f :: st) (hs : ScopeShape sc) (x : Bytes) (hx : x.contains 36 = false)
    (v : Val) (jv : JVal) (hrel : VarRel sc env jenv) (hv : toJsV v = some jv) :
    VarRel (sc.makevar x).2 (env.bind x v) { jenv with locals := ((sc.makevar x).1, jv) :: jenv.locals } :=
  hrel.declare hs hx (fun k _ => makevar_lookup sc f st hst x k) hv

theorem makevar_shape (sc : Scope) (f : Frame) (st : List Frame) (hst : sc.stack = f :: st) (hs : ScopeShape sc)
    (x : Bytes) : ScopeShape (sc.makevar x).2 := by
  intro k g hk hl
  rw [makevar_lookup sc f st hst] at hl
  by_cases h : (x == k) = true
  · have : x = k := by simpa using h
    subst this
    simp only [h, if_true, Option.some.injEq] at hl
    exact ⟨[], sc.n + 1, hl.symm⟩
  · simp only [h, Bool.false_eq_true, if_false] at hl
    exact hs k g hk hl

theorem dollar_beq {a b : Bytes} (ha : a.contains 36 = true) (hb : b.contains 36 = false) : (a == b) = false := by
  cases h : (a == b) with
  | false => rfl
  | true => rw [beq_true_eq h, hb] at ha; cases ha

theorem pushForEach_lookup (sc : Scope) (x k : Bytes) (hk : k.contains 36 = false) :
    (sc.pushForEach x).2.lookup k = if x == k then some (sc.pushForEach x).1.1 else sc.lookup k := by
  have hlim := dollar_beq (show (Scope.kLimit ++ x).contains 36 = true by simp [Scope.kLimit]) hk
  have hidx := dollar_beq (show (Scope.kIndex ++ x).contains 36 = true by simp [Scope.kIndex]) hk
  simp only [Scope.pushForEach, Scope.lookup, Scope.lookupIn, frameGet_frameSet, hlim, hidx, Bool.false_eq_true, if_false]
  by_cases h : (x == k) = true
  · simp [h]
  · simp [h, frameGet?]

theorem envRel_foreach (sc : Scope) (env : Spec.Eval.Env) (jenv : JEnv) (hs : ScopeShape sc) (x : Bytes)
    (hx : x.contains 36 = false) (v : Val) (jv : JVal) (hrel : VarRel sc env jenv) (hv : toJsV v = some jv) :
    VarRel (sc.pushForEach x).2 (env.bind x v) { jenv with locals := ((sc.pushForEach x).1.1, jv) :: jenv.locals } :=
  hrel.declare hs hx (pushForEach_lookup sc x) hv

/-- `$x.a + length($l)` with `x` a let variable (local `x$1`) and `l` a parameter -/
def sampleScope : Scope := (Scope.makevar ⟨[[]], 0⟩ b!"x").2
def sampleExpr : Expr :=
  .bin .add 0 (.dataRef 0 b!"x" (.cons (.key 0 false b!"a") .nil)) (.func 0 b!"length" (.cons (.dataRef 0 b!"l" .nil) .nil))
def sampleJEnv : JEnv :=
  { optData := [(b!"l", .arr [.num 1, .num 2])], ijData := none, locals := [(b!"x$1", .obj [(b!"a", .num 40)])] }

example : (toAst sampleScope sampleExpr).map render =
    some (render (.bin .add (.member (.local b!"x$1") b!"a") (.call1 .length (.optData b!"l")))) := rfl

example : (toAst sampleScope sampleExpr).map (eval sampleJEnv) = some (.val (.num 42)) := rfl

/-- the null-safe form and its value on a null base -/
example : (toAst ⟨[[]], 0⟩ (.dataRef 0 b!"p" (.cons (.key 0 true b!"a") .nil))).map
    (eval { optData := [(b!"p", .null)], ijData := none, locals := [] }) = some (.val .null) := rfl

/-! ## `ScopeShape` along a whole walk

  The invariant `J b` of the safety induction (Lemmas/JsGenSafe) contains `ScopeOk`, hence `ScopeShape` (`scopeOk_shape`).
  `Spec P (J b) (J b') m Q` threads it through every `>>=`, so EVERY state in which a sub-walk of the generator starts or
  ends satisfies it; the theorems below read that off. -/

open SoyVerif.Lemmas.JsGenSafe (J CmdWN BlockWN ExprWN s_walkCmd s_walkBlock s_walkExpr s_getScope POk)
open SoyVerif.Lemmas.JsGenSpec (IsIdent Spec)
open SoyVerif.Lemmas.JsGenTop (FileWN top_visitSoyFile)

/-- walking any well-named command from a state that satisfies the invariant ends in a state whose scope satisfies
    `ScopeShape` (`walkBlock_scopeShape`: a block) -/
theorem walk_scopeShape (sk : List Bytes → List Bytes) (o : Options) (c : Cmd) (hc : CmdWN c) (b : Bytes) (hb : IsIdent b)
    (s s' : St) (ps : List Piece) (hs : J b s) (h : walkCmd sk o c s = .ok ((), ps, s')) : ScopeShape s'.scope :=
  scopeOk_shape ((s_walkCmd sk o c hc b hb).state hs h).scopeOk

theorem walkBlock_scopeShape (sk : List Bytes → List Bytes) (o : Options) (blk : Block) (hc : BlockWN blk) (b : Bytes)
    (hb : IsIdent b) (s s' : St) (ps : List Piece) (hs : J b s) (h : walkBlock sk o blk s = .ok ((), ps, s')) :
    ScopeShape s'.scope :=
  scopeOk_shape ((s_walkBlock sk o blk hc b hb).state hs h).scopeOk

/-- … the scope an expression translation READS (every `getScope` of the generator) satisfies it -/
theorem getScope_shape (b : Bytes) : Spec POk (J b) (J b) getScope ScopeShape :=
  (s_getScope (b := b)).post (fun _ h => scopeOk_shape h)

/-- … and so does the scope after a whole well-named file, from the initial state of `Write` -/
theorem file_scopeShape (sk : List Bytes → List Bytes) (o : Options) (f : SoyFile) (hf : FileWN f)
    (s' : St) (ps : List Piece) (h : visitSoyFile sk o f initState = .ok ((), ps, s')) : ScopeShape s'.scope :=
  scopeOk_shape ((top_visitSoyFile sk o f hf).inv SoyVerif.Lemmas.JsGenSafe.initState_inv h).1

/-- FRESHNESS at every point of generation: in any state satisfying the invariant, the local
    generated for a Soy name `x` differs from the local of every other visible Soy variable -/
theorem fresh_at (b : Bytes) (s : St) (hs : J b s) (x use : Bytes) (n : Nat) (hx : x.contains 36 = false) :
    ∀ k g', k ≠ x → k.contains 36 = false → s.scope.lookup k = some g' → g' ≠ Scope.jsname x use n :=
  fresh_of_shape s.scope (scopeOk_shape hs.scopeOk) x use n hx

/-! ## what is left open at the expression level

  * accesses by a computed key `$x[$e]`, a null-safe access that is not the last
    one (`$x?.a.b`: the specification leaves what follows a null-safe hit open), negative indices;
  * floats (the JavaScript value universe here has exact integers only): `round(x, n)`, `floor` /
    `ceiling` / `round` / `min` / `max` of floats, float arithmetic and printing;
  * the other functions (`keys`, `augmentMap`, `strContains`, `range`, `randomInt`, the bidi
    functions), list and map literals, globals whose value is a float, a list or a map. -/

end SoyVerif.Props.C04c
