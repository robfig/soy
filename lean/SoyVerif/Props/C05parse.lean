/-
  C05 (parser part): parsing any token list terminates; C19 (parser part): every error the
  parser reports is positioned at one of the tokens it was given.

  `parseFile pf (exprFuel items) items` is the model of `parse.SoyFile` on the items of the
  lexer (Model/FileParser.lean; tied to /repo/parse/parse.go by the C05parse correspondence:
  on the real lexer's tokens and composed with the lexer model).

  * `parse_total` — for EVERY token list (not only lexer output) the file parser never
    returns `fuelOut` with the fuel `fuelFor |items| = 8·|items| + 64` (and `exprFuel` for the
    embedded expression parser): every loop of parse.go consumes a real token per iteration
    or stops — including on the zero items of the closed channel.  Measure: `mu`, the number
    of tokens ahead (backed-up ones included) whose type is not `tInvalid`, `tEOF` or `tError`;
    each function needs at most `8·mu + 20` fuel (Lemmas/ParserExprSafe, FileParserLoops,
    FileParserBlocks).
  * `parse_err_at_token` — on ANY token list an error `err pos` is positioned at a token of the
    list or at the zero item (position 0): `t.errorf` only ever reads `t.token[0]`/`t.token[1]`.
  * `parse_err_at_lexed_token`, `lex_shape`, `parse_source_err_at_token` — on a token list of
    the lexer's shape (ends with its only EOF / Error item, no invalid item) the position is
    that of a token of the list, never 0:0 of the zero item; the lexer's lists have that shape.
  * `parse_no_panic_of_wf`, `lex_wf`, `parse_source_no_panic` — no Go runtime panic: the parser
    does not panic on tokens whose values are long enough for its slices, the lexer only sends
    such tokens, hence lexer ∘ parser never panics, on any input.
  * `parse_source_total` — the composition with the lexer model terminates for every input.
-/
import SoyVerif.Lemmas.FileParserBlocks

namespace SoyVerif.Props.C05
open SoyVerif SoyVerif.Model SoyVerif.Model.Parser SoyVerif.Model.FileParser SoyVerif.Lemmas.ParserSafe

/-- the nested lexer of parseQuotedExpr delivers tokens the parser can slice -/
def LexWF : Prop :=
  ∀ (str : Bytes) (is : List Item), Lex.lexAll str true = .items is → ∀ it ∈ is, WFItem it

/-- the shape the lexer gives a token stream (`lex_shape`): not empty, ends with an EOF or
    Error item, and no EOF, Error or invalid item before that -/
def LexShape (items : List Item) : Prop :=
  items ≠ [] ∧ (∀ x ∈ items.dropLast, real x = 1) ∧ (∀ x, items.getLast? = some x → valid x ∧ real x = 0)

/-- `parseFile` with the budget of the file parser made a parameter -/
def parseFileFuel (pf : Bytes → Option UInt64) (ef fuel : Nat) (items : List Item) : Except FErr (List Node) :=
  let init : FState := { p := Parser.initState items }
  match (itemListLoop pf ef fuel [.tEOF] none .nil).run init with
  | .ok (.list _ nodes, _) => .ok nodes.toList
  | .ok (_, _) => .error .panic
  | .error e => .error e

theorem parseFile_eq (pf : Bytes → Option UInt64) (ef : Nat) (items : List Item) :
    parseFile pf ef items = parseFileFuel pf ef (FileParser.fuelFor items.length) items := rfl

/-- the run of the file parser's top loop satisfies the program logic's judgement, on any budgets of at least
    `8·|items| + 10` (expressions) and `8·|items| + 21` (file); under `EL.eof` ("the EOF item is only ever the last
    item") a successful run has received every item; under `EL.lex` (`LexShape`) no error is positioned at the zero
    item of the closed channel -/
theorem top_safe_fuel (pf : Bytes → Option UInt64) (AP : Prop) (EL : Lvl) (S : Item → Prop) (hz : S Item.zero) (items : List Item)
    (hs : ∀ x ∈ items, S x) (hwf : ∀ it, S it → AP ∨ WFItem it)
    (hel : EL.eof → ∀ x ∈ items.dropLast, x.typ ≠ .tEOF) (hlx : EL.lex → LexShape items)
    (ef fuel : Nat) (hef : 8 * items.length + 10 ≤ ef) (hfuel : 8 * items.length + 21 ≤ fuel) :
    FSafe AP EL S (itemListLoop pf ef fuel [.tEOF] none .nil)
      { p := Parser.initState items } (fun r st' => listOK r ∧ (EL.eof → st'.p.rest = []) ∧ NP S r) := by
  obtain ⟨f, rfl⟩ : ∃ f, fuel = f + 1 := ⟨fuel - 1, by omega⟩
  have hmu := mu_init items
  have ih := fileSpecs_all AP EL S pf ef items.length hz hef hwf f
  have h := itemListLoop_ok0 AP EL S pf ef items.length hz ih
      [.tEOF] none .nil { p := Parser.initState items } ⟨childrenOK_nil, NPL_nil, fun p h => by cases h⟩ (inv_init S items hz hs hel hlx) hmu
      (by show 8 * mu (Parser.initState items) + 20 ≤ _; omega)
  apply h.mono
  intro r st' ⟨⟨hl, hnp⟩, hi, hpc, _, hu⟩
  refine ⟨hl, fun hEL => ?_, hnp⟩
  have hj := hi.2.1 hEL
  have ht : (top st'.p).typ = .tEOF := by simpa using hu
  unfold top at ht
  split at ht
  · exact hj.2.1 ht
  · exact hj.2.2 ht

/-- … on the budgets `parseFile` hands out -/
theorem top_safe (pf : Bytes → Option UInt64) (AP : Prop) (EL : Lvl) (S : Item → Prop) (hz : S Item.zero) (items : List Item)
    (hs : ∀ x ∈ items, S x) (hwf : ∀ it, S it → AP ∨ WFItem it)
    (hel : EL.eof → ∀ x ∈ items.dropLast, x.typ ≠ .tEOF) (hlx : EL.lex → LexShape items) :
    FSafe AP EL S (itemListLoop pf (exprFuel items) (FileParser.fuelFor items.length) [.tEOF] none .nil)
      { p := Parser.initState items } (fun r st' => listOK r ∧ (EL.eof → st'.p.rest = []) ∧ NP S r) :=
  top_safe_fuel pf AP EL S hz items hs hwf hel hlx _ _ (by unfold exprFuel Parser.fuelFor; omega)
    (by unfold FileParser.fuelFor; omega)

/-- what `parseFileFuel` answers, read off the judgement about the top loop: an error is positioned at a token,
    a panic needs `AP`, the budget suffices — and a tree that is not a list (a panic of `parseFile`) does not occur -/
theorem parseFileFuel_of_safe {pf : Bytes → Option UInt64} {AP : Prop} {EL : Lvl} {S : Item → Prop} {ef fuel : Nat}
    {items : List Item} {Q : Node → FState → Prop} (hq : ∀ r st', Q r st' → listOK r)
    (h : FSafe AP EL S (itemListLoop pf ef fuel [.tEOF] none .nil) { p := Parser.initState items } Q) :
    match parseFileFuel pf ef fuel items with
    | .ok _ => True
    | .error (.err p) => ErrOK EL S p
    | .error .panic => AP
    | .error .fuelOut => False := by
  unfold FSafe at h
  unfold parseFileFuel
  simp only [StateT.run]
  split at h
  · rename_i r st' he
    rw [he]
    have hl := hq _ _ h
    cases r <;> simp only [listOK] at hl
    trivial
  all_goals (rename_i he; rw [he]; exact h)

/-- the file parser terminates on every token list -/
theorem parse_total (pf : Bytes → Option UInt64) (items : List Item) :
    parseFile pf (exprFuel items) items ≠ .error .fuelOut := by
  have h := parseFileFuel_of_safe (fun _ _ h => h.1) (top_safe pf True ⟨False, False⟩ (fun _ => True) trivial items
    (fun _ _ => trivial) (fun _ _ => Or.inl trivial) (fun h => absurd h id) (fun h => absurd h id))
  intro hc
  rw [← parseFile_eq, hc] at h
  exact h

/-- every parse error is positioned at a token of the list (or at the zero item).  `ErrAt it pos`: at
    the token's position — or, for stray text between the params of a {call} / the cases of a {switch}
    (which soy reports through `atTextStart`), at the first non-blank character of that Text token -/
theorem parse_err_at_token (pf : Bytes → Option UInt64) (items : List Item) (pos : Nat)
    (h : parseFile pf (exprFuel items) items = .error (.err pos)) :
    pos = 0 ∨ ∃ it ∈ items, ErrAt it pos := by
  have hsafe := parseFileFuel_of_safe (fun _ _ h => h.1) (top_safe pf True ⟨False, False⟩ (fun it => it ∈ items ∨ it = Item.zero)
    (Or.inr rfl) items (fun x hx => Or.inl hx) (fun _ _ => Or.inl trivial)
    (fun h => absurd h id) (fun h => absurd h id))
  rw [← parseFile_eq, h] at hsafe
  obtain ⟨it, hit, hp⟩ := hsafe.1
  rcases hit with hm | hz
  · exact Or.inr ⟨it, hm, hp⟩
  · subst hz; exact Or.inl hp.zero

/-- on a token stream of the lexer's shape every parse error is positioned at one of ITS
    tokens — never at the zero item (position 0) that the closed channel yields: the parser
    stops at the EOF / Error item that ends the stream, and `unexpected` reports the position
    of the token it was given, not that of a look-ahead read after it -/
theorem parse_err_at_lexed_token (pf : Bytes → Option UInt64) (items : List Item) (pos : Nat)
    (hshape : LexShape items)
    (h : parseFile pf (exprFuel items) items = .error (.err pos)) :
    ∃ it ∈ items, ErrAt it pos := by
  have hsafe := parseFileFuel_of_safe (fun _ _ h => h.1) (top_safe pf True ⟨False, True⟩ (fun it => it ∈ items ∨ it = Item.zero)
    (Or.inr rfl) items (fun x hx => Or.inl hx) (fun _ _ => Or.inl trivial)
    (fun h => absurd h id) (fun _ => hshape))
  rw [← parseFile_eq, h] at hsafe
  obtain ⟨it, hit, hv, hp⟩ := hsafe.2 trivial
  rcases hit with hm | hz
  · exact ⟨it, hm, hp⟩
  · subst hz; exact absurd rfl hv

/-- no Go runtime panic in the file parser on well-formed tokens: the two-token array is never
    indexed out of range, no `tok.val[1:]` / `tok.val[2:]` slices an empty value, `rawtext`
    stays in bounds, and no type assertion of parsePlural / placeholderize fails.  (`hlex` holds outright: `lexWF`.) -/
theorem parse_no_panic_of_wf (pf : Bytes → Option UInt64) (items : List Item)
    (hwf : ∀ it ∈ items, WFItem it) (hlex : LexWF) :
    parseFile pf (exprFuel items) items ≠ .error .panic := by
  have h := parseFileFuel_of_safe (fun _ _ h => h.1) (top_safe pf False ⟨False, False⟩ (fun it => it ∈ items ∨ it = Item.zero)
    (Or.inr rfl) items (fun x hx => Or.inl hx)
    (fun it hit => hit.elim (fun h => Or.inr (hwf it h)) (fun h => h ▸ Or.inr wf_zero))
    (fun h => absurd h id) (fun h => absurd h id))
  intro hc
  rw [← parseFile_eq, hc] at h
  exact h

/-- the EOF item is only ever the last item of the lexer -/
theorem lex_eof_last (input : Bytes) (exprMode : Bool) (is : List Item)
    (h : Lex.lexAll input exprMode = .items is) : ∀ it ∈ is.dropLast, it.typ ≠ .tEOF := by
  obtain ⟨_, _, hok, _⟩ := lexAll_items h
  intro it hit
  have := (hok it hit).1
  simp only [Lex.itemOK, Lex.notEnd, Bool.and_eq_true, bne_iff_ne, ne_eq] at this
  exact this.2.1.1

/-- the token stream of the lexer has the shape `LexShape` -/
theorem lex_shape (input : Bytes) (exprMode : Bool) (is : List Item)
    (h : Lex.lexAll input exprMode = .items is) : LexShape is := by
  obtain ⟨⟨last, hlast, hty⟩, _, hok, _⟩ := lexAll_items h
  refine ⟨?_, ?_, ?_⟩
  · intro he; rw [he] at hlast; simp at hlast
  · intro it hit
    have := (hok it hit).1
    simp only [Lex.itemOK, Lex.notEnd, Bool.and_eq_true, bne_iff_ne, ne_eq] at this
    unfold real midT
    simp [this.2.1.1, this.2.1.2, this.2.2]
  · intro x hx
    rw [hlast] at hx
    simp only [Option.some.injEq] at hx
    subst hx
    unfold valid real midT
    rcases hty with h | h <;> simp [h]

theorem lexWF : LexWF := fun str is h => lex_wf str true is h

/-- lexer model ∘ parser model: no Go runtime panic on any input -/
theorem parse_source_no_panic (pf : Bytes → Option UInt64) (input : Bytes) :
    parseSource pf input ≠ .error .panic := by
  unfold parseSource
  obtain ⟨is, hl, _⟩ := lex_items input false
  rw [hl]
  exact parse_no_panic_of_wf pf is (lex_wf input false is hl) lexWF

/-- lexer model ∘ parser model terminates on every input -/
theorem parse_source_total (pf : Bytes → Option UInt64) (input : Bytes) :
    parseSource pf input ≠ .error .fuelOut := by
  unfold parseSource
  obtain ⟨is, hl, _⟩ := lex_items input false
  rw [hl]
  exact parse_total pf is

/-- lexer model ∘ parser model: every error is positioned at a token of the lexer — a parser
    error at the token `unexpected` was given or at the parser's current token, a lexical
    error at the Error item; never at the zero item that the closed channel yields.  (`ErrAt`: at the
    token's position, or at the first non-blank character of a stray Text token.) -/
theorem parse_source_err_at_token (pf : Bytes → Option UInt64) (input : Bytes) (pos : Nat)
    (h : parseSource pf input = .error (.err pos)) :
    ∃ is, Lex.lexAll input false = .items is ∧ ∃ it ∈ is, ErrAt it pos := by
  unfold parseSource at h
  obtain ⟨is, hl, _⟩ := lex_items input false
  rw [hl] at h
  exact ⟨is, hl, parse_err_at_lexed_token pf is pos (lex_shape input false is hl) h⟩

end SoyVerif.Props.C05
