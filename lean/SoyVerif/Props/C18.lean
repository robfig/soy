/-
  C18 — No parse leaves a goroutine behind.

  Part 1 (this file, abstract): for the lexer goroutine / unbuffered channel transition
  system of Model/Conc.lean, under EVERY interleaving, when nothing more can happen the
  consumer has returned, and the producer goroutine has exited if and only if the
  consumer received at least as many items as the producer had, or drained the channel.
  Part 2: every return path of the parser entry points either consumed all items or
  drains (`exprEntry_drains`, below, for `parse.Expr`; Props/C18file.lean for `parse.SoyFile`
  and the nested lexers of quoted attribute expressions).
-/
import SoyVerif.Model.Conc
import SoyVerif.Model.Parser

namespace SoyVerif.Props.C18
open SoyVerif.Model.Conc

/-- the producer will eventually have exited -/
def willClose (s : St) : Prop := s.closed = true ∨ s.toSend ≤ recvs s.prog ∨ drains s.prog = true

/-- well-formed states: a producer that has closed has nothing left to send -/
def WF (s : St) : Prop := s.closed = true → s.toSend = 0

theorem drains_cons_recv (p : List Act) : drains (.recv :: p) = drains p := by
  simp [drains]

theorem drains_cons_drain (p : List Act) : drains (.drain :: p) = true := by
  simp [drains]

theorem step_preserves {a b : St} (h : Step a b) : (WF a → WF b) ∧ (willClose a ↔ willClose b) := by
  cases h <;>
    exact ⟨fun _ => by simp [WF], by simp [willClose, recvs, drains_cons_recv, drains_cons_drain]⟩

theorem reach_preserves {a b : St} (h : Reach a b) : WF a → (WF b ∧ (willClose a ↔ willClose b)) := by
  induction h with
  | refl s => intro hw; exact ⟨hw, Iff.rfl⟩
  | step hs _ ih =>
    intro hw
    have ⟨h1, h2⟩ := step_preserves hs
    have ⟨h3, h4⟩ := ih (h1 hw)
    exact ⟨h3, h2.trans h4⟩

theorem stuck_prog_nil (t : St) (hw : WF t) (hs : Stuck t) : t.prog = [] := by
  obtain ⟨n, c, p⟩ := t
  cases p with
  | nil => rfl
  | cons a p =>
    exfalso
    cases c with
    | true =>
      have hn : n = 0 := hw rfl
      subst hn
      cases a with
      | recv => exact hs _ (Step.recvClosed p)
      | drain => exact hs _ (Step.drainClosed p)
    | false =>
      cases n with
      | zero => exact hs _ (Step.close (a :: p))
      | succ n =>
        cases a with
        | recv => exact hs _ (Step.sendRecv n p)
        | drain => exact hs _ (Step.sendDrain n p)

theorem stuck_closed_iff (t : St) (hw : WF t) (hs : Stuck t) : willClose t ↔ t.closed = true := by
  have hp := stuck_prog_nil t hw hs
  obtain ⟨n, c, p⟩ := t
  simp only at hp
  subst hp
  constructor
  · intro h
    rcases h with h | h | h
    · exact h
    · simp [recvs] at h
      subst h
      cases c with
      | true => rfl
      | false => exact absurd (Step.close []) (hs _)
    · simp [drains] at h
  · intro h; exact Or.inl h

theorem recvs_program (k : Nat) (d : Bool) : recvs (program k d) = k := by
  induction k with
  | zero => cases d <;> simp [program, recvs]
  | succ k ih => simpa [program, List.replicate_succ, recvs] using ih

theorem drains_program (k : Nat) (d : Bool) : drains (program k d) = d := by
  unfold program drains
  cases d <;> simp [List.mem_replicate]

theorem stuck_nil_closed : Stuck ⟨0, true, []⟩ := by intro t h; cases h
theorem stuck_nil_open (n : Nat) : Stuck ⟨n + 1, false, []⟩ := by intro t h; cases h

/-- under every interleaving, once nothing more can happen, the parser has
    returned, and the lexer goroutine has exited iff the parser received at least as
    many items as the lexer produced or drained the channel. -/
theorem producer_exits_iff (n k : Nat) (d : Bool) (t : St)
    (hr : Reach ⟨n, false, program k d⟩ t) (hs : Stuck t) :
    consumerDone t = true ∧ (producerDone t = true ↔ (n ≤ k ∨ d = true)) := by
  have hw0 : WF ⟨n, false, program k d⟩ := by simp [WF]
  have ⟨hw, hiff⟩ := reach_preserves hr hw0
  have hp := stuck_prog_nil t hw hs
  refine ⟨by simp [consumerDone, hp], ?_⟩
  have h1 := stuck_closed_iff t hw hs
  have hrec := recvs_program k d
  have hdr := drains_program k d
  unfold producerDone
  rw [← h1, ← hiff]
  simp [willClose, hrec, hdr]

theorem run_closed : ∀ q : List Act, ∃ t, Reach ⟨0, true, q⟩ t ∧ Stuck t ∧ t.prog = []
  | [] => ⟨_, Reach.refl _, stuck_nil_closed, rfl⟩
  | .recv :: q =>
    let ⟨t, hr, hs, hp⟩ := run_closed q
    ⟨t, Reach.step (Step.recvClosed q) hr, hs, hp⟩
  | .drain :: q =>
    let ⟨t, hr, hs, hp⟩ := run_closed q
    ⟨t, Reach.step (Step.drainClosed q) hr, hs, hp⟩

/-- a maximal execution exists from every state (so the theorem above is not vacuous):
    the consumer's program always runs to completion -/
theorem run_exists : ∀ (p : List Act) (n : Nat), ∃ t, Reach ⟨n, false, p⟩ t ∧ Stuck t ∧ t.prog = []
  | [], 0 => ⟨⟨0, true, []⟩, Reach.step (Step.close []) (Reach.refl _), stuck_nil_closed, rfl⟩
  | [], n + 1 => ⟨⟨n + 1, false, []⟩, Reach.refl _, stuck_nil_open n, rfl⟩
  | a :: p, 0 =>
    let ⟨t, hr, hs, hp⟩ := run_closed (a :: p)
    ⟨t, Reach.step (Step.close _) hr, hs, hp⟩
  | .recv :: p, n + 1 =>
    let ⟨t, hr, hs, hp⟩ := run_exists p n
    ⟨t, Reach.step (Step.sendRecv n p) hr, hs, hp⟩
  | .drain :: p, n + 1 =>
    let ⟨t, hr, hs, hp⟩ := run_exists (.drain :: p) n
    ⟨t, Reach.step (Step.sendDrain n p) hr, hs, hp⟩
termination_by p n => (p.length, n)

/- Non-vacuity: a consumer that stops early and does not drain — 4 items (1, 2, 3, EOF), one received plus one
   look-ahead, as an entry point without the deferred drain would leave `parse.Expr("1 2 3")`: the lexer goroutine
   never exits. -/
example : ∃ t, Reach ⟨4, false, program 2 false⟩ t ∧ Stuck t ∧ producerDone t = false :=
  ⟨⟨2, false, []⟩, Reach.step (Step.sendRecv 3 _) (Reach.step (Step.sendRecv 2 _) (Reach.refl _)),
   stuck_nil_open 1, rfl⟩

open SoyVerif.Model SoyVerif.Model.Parser in
/-- Every normal return of `parse.Expr` (a tree or an error value) has drained the channel,
    whatever the input and however much of it was left unread. -/
theorem exprEntry_drains (pf : Bytes → Option UInt64) (items : List Item) :
    (∃ e, (exprEntry pf items).result = Except.ok e) ∨ (∃ p, (exprEntry pf items).result = Except.error (PErr.err p)) →
    (exprEntry pf items).drained = true := by
  unfold exprEntry
  split <;> simp

open SoyVerif.Model SoyVerif.Model.Parser in
/-- … hence, by `producer_exits_iff`, the lexer goroutine of that call has exited in every
    interleaving: a consumer program that ends in `drain` lets the producer finish. -/
theorem exprEntry_no_leak (pf : Bytes → Option UInt64) (items : List Item) (k : Nat) (t : St)
    (hres : (∃ e, (exprEntry pf items).result = Except.ok e) ∨ (∃ p, (exprEntry pf items).result = Except.error (PErr.err p)))
    (hr : Reach ⟨items.length, false, program k (exprEntry pf items).drained⟩ t) (hs : Stuck t) :
    producerDone t = true := by
  have hd := exprEntry_drains pf items hres
  rw [hd] at hr
  exact ((producer_exits_iff items.length k true t hr hs).2).2 (Or.inr rfl)

end SoyVerif.Props.C18
