/-
  C14c — the text the JavaScript generator writes PARSES, by the ECMA-262 reading of Spec/JsParse, to exactly the AST
  whose semantics Props/C04c–f are about (ES5 formatter).

  Props/C04c–f prove that the generator model writes `render j` / `renderStmts ss` / `renderFunc f` of an AST and reason
  about the semantics of that AST; that a JavaScript engine READS the text as that AST is proved here, for the ASTs of
  the explicit image `Img` / `ImgS` / `ImgF`: those on which the concrete syntax written next to the constructors of
  Spec/JsSemRef / Spec/JsStmt is unambiguous (each exclusion is listed at `Img` with what JavaScript reads instead).
  Outside the image Spec/JsSemRef still gives some ASTs a value that is not the meaning of their text (`str` of bytes
  that are no UTF-8, `paren` of a negative number, `neg` of a bare conditional, `member (paren x) "length"`); Props/C14d:
  the translation of a file with well-formed names makes none of them.  `canonS`: two statements share their text with
  a special form (`buf += 't';`, `var x = '';`) and are read as that form; the literal arguments of a directive are read
  back at source position 0.

  Each level (expression, statement, function / file) has three independent parts: the tokens of the text are the
  tokens of the syntax tree `plain…`; the parser reads the tokens of a well-formed tree as that tree (Lemmas/JsParseExpr,
  Lemmas/JsParseStmt: properties of the grammar alone) and `plain…` is well-formed; the reading of `plain…` is the AST.
  At the top level the statement is `jsparse_program` (declarations of namespaces, then functions); the theorems about one
  function, a list of functions and a whole generated file are its instances.
  Tie: driver op `jsparse` (Ops/JsParse) on REAL soyjs.Write output against otto's parser and the model's translation
  (harness/c14parse.go, sub-check C14parse).

  `headerPieces`, `nsNext`, `nsLine`, `nsPieces`, `nsLoop_pieces` and `file_renders` (what `visitSoyFile` writes in front
  of the functions, piece by piece) are declared in Props/C04f.lean, in this namespace.
-/
import SoyVerif.Lemmas.JsParseExpr
import SoyVerif.Lemmas.JsParseLex
import SoyVerif.Lemmas.JsParseStmt
import SoyVerif.Props.C04fFile

namespace SoyVerif.Props.C14c
open SoyVerif SoyVerif.Spec SoyVerif.Spec.JsParse
open SoyVerif.Spec.JsSemRef (JsExpr Fn1 Fn2)
open SoyVerif.Spec.JsSem (JsOp)
open SoyVerif.Model.JsGen (Piece printPieces)
open SoyVerif.Props.C04c (render)
open SoyVerif.Lemmas.JsParseExpr SoyVerif.Lemmas.JsParseLex

/-- the operator of the grammar a `JsOp` is written with -/
def binOf : JsOp → BinOp
  | .mul => .mul | .mod => .mod | .add => .add | .sub => .sub
  | .eq => .eq | .ne => .ne | .lt => .lt | .le => .le | .gt => .gt | .ge => .ge
  | .and => .and | .or => .or

/-- an integer literal: `-5` is the unary minus of `5` -/
def pnum (i : Int) : PE := if i < 0 then .unary .neg (.num i.natAbs) else .num i.natAbs

/-- the syntax tree the text `render e` is meant as: the concrete syntax next to the constructors of Spec/JsSemRef,
    with exactly the parentheses the text has -/
def plain : JsExpr → PE
  | .null => .null
  | .bool b => .bool b
  | .num i => pnum i
  | .str s => .str s
  | .neg a => .paren (.unary .neg (plain a))
  | .not a => .unary .not (.paren (plain a))
  | .bin op a b => .paren (.bin (binOf op) (.paren (plain a)) (.paren (plain b)))
  | .cond c a b => .paren (.cond (.paren (plain c)) (plain a) (plain b))
  | .nonNullElse a a' b => .paren (.cond (.bin .ne (.paren (plain a)) .null) (plain a') (plain b))
  | .local g => .ident g
  | .optData k => .member (.ident sOptData) k
  | .ijData => .ident sOptIj
  | .member x k => .member (plain x) k
  | .index x i => .index (plain x) (.num i.natAbs)
  | .guard g r => .cond (.paren (.bin .eq (plain g) .null)) .null (plain r)
  | .paren x => .paren (plain x)
  | .call1 .floor a => .call (.member (.ident sMath) b!"floor") (.cons (plain a) .nil)
  | .call1 .ceil a => .call (.member (.ident sMath) b!"ceil") (.cons (plain a) .nil)
  | .call1 .round a => .call (.member (.ident sMath) b!"round") (.cons (plain a) .nil)
  | .call1 .length a => .member (.paren (plain a)) sLength
  | .call1 .nonNull a => .paren (.bin .ne (plain a) .null)
  | .call2 .min a b => .call (.member (.ident sMath) b!"min") (.cons (plain a) (.cons (plain b) .nil))
  | .call2 .max a b => .call (.member (.ident sMath) b!"max") (.cons (plain a) (.cons (plain b) .nil))
  | .loopFirst idx => .paren (.bin .eq (.ident idx) (.num 0))
  | .loopLastEach idx lim => .paren (.bin .eq (.ident idx) (.bin .sub (.ident lim) (.num 1)))
  | .loopLastRange v step lim => .paren (.bin .ge (.bin .add (.ident v) (.ident step)) (.ident lim))

def isParenPE : PE → Bool
  | .paren _ => true
  | _ => false

/-- a name of a JavaScript variable: an ASCII IdentifierName, no reserved word, not a parameter `opt_data` / `opt_ijData` -/
def JsName (g : Bytes) : Prop := JsIdent g ∧ isReserved g = false ∧ g ≠ sOptData ∧ g ≠ sOptIj

/-- the level of the grammar the text of an expression stands at: 0 a MemberExpression / CallExpression that may be
    followed by `.name`; 1 a UnaryExpression (a number — `5.length` is no JavaScript —, `-5`, `!(a)`); 3 a
    ConditionalExpression (`(g == null) ? null : r`).  (isNonnull is a primary, level 0: soyjs writes `(a != null)`.)
    A scale of its own; `lvl_plain0` / `lvl_plain1` relate it to `PE.lvl` of the tree. -/
def lv : JsExpr → Nat
  | .num _ => 1
  | .not _ => 1
  | .guard _ _ => 3
  | _ => 0

def isNegNum : JsExpr → Bool
  | .num i => decide (i < 0)
  | _ => false

/-- the `JsExpr` whose text (the concrete syntax of Spec/JsSemRef) the grammar reads as that `JsExpr`.  What is
    excluded, and what JavaScript reads instead:
    * `neg a` with `a` a bare `(g == null) ? null : r`  (`toAst` wraps every null-safe reference in parentheses)
    * `member x k`, `index x i` with `x` a number, `!(a)` or a bare conditional:
      `5.k` is a lexical error, `!(a).k` is `!((a).k)`  (`call1 .length x` is written `(x).length` and has no such
      restriction)
    * `call1 .nonNull a` and the `g` of `guard g r` with `a`, `g` a bare conditional
    * `member x "length"` with `x` written in parentheses (a `neg`, a binary operation, `paren`, …): its text
      `(…).length` is that of `call1 .length`, the length FUNCTION, whose argument soyjs always parenthesises;
      `x.length` with `x` a reference chain — the data KEY `length` — is in the image and is read as `member`
      (`toAst` makes no other: the accesses of a reference follow a variable, `opt_data.k`, `opt_ijData` or an access)
    * `index x i` with `i < 0` (`toAst` never makes one), `paren` of a negative number (the text of `neg`)
    * identifiers outside ASCII, reserved words as variable names, the variable names `opt_data` and `opt_ijData`,
      strings that are
      not well-formed UTF-8 (the escaper writes U+FFFD for the bad bytes) -/
def Img : JsExpr → Prop
  | .null => True
  | .bool _ => True
  | .num _ => True
  | .str s => ValidUtf8 s
  | .neg a => Img a ∧ lv a ≤ 1
  | .not a => Img a
  | .bin _ a b => Img a ∧ Img b
  | .cond c a b => Img c ∧ Img a ∧ Img b
  | .nonNullElse a a' b => Img a ∧ Img a' ∧ Img b
  | .local g => JsName g
  | .optData k => JsIdent k
  | .ijData => True
  | .member x k => Img x ∧ lv x = 0 ∧ JsIdent k ∧ (k = sLength → isParenPE (plain x) = false)
  | .index x i => Img x ∧ lv x = 0 ∧ 0 ≤ i
  | .guard g r => Img g ∧ lv g ≤ 1 ∧ Img r
  | .paren x => Img x ∧ isNegNum x = false
  | .call1 .length a => Img a
  | .call1 .nonNull a => Img a ∧ lv a ≤ 1
  | .call1 _ a => Img a
  | .call2 _ a b => Img a ∧ Img b
  | .loopFirst idx => JsName idx
  | .loopLastEach idx lim => JsName idx ∧ JsName lim
  | .loopLastRange v step lim => JsName v ∧ JsName step ∧ JsName lim

theorem Img.neg {a : JsExpr} (ha : Img a) (hl : lv a ≤ 1) : Img (.neg a) := by simp only [Img]; exact ⟨ha, hl⟩
theorem Img.not {a : JsExpr} (ha : Img a) : Img (.not a) := by simp only [Img]; exact ha
theorem Img.bin (op : JsOp) {a b : JsExpr} (ha : Img a) (hb : Img b) : Img (.bin op a b) := by simp only [Img]; exact ⟨ha, hb⟩
theorem Img.cond {c a b : JsExpr} (hc : Img c) (ha : Img a) (hb : Img b) : Img (.cond c a b) := by
  simp only [Img]; exact ⟨hc, ha, hb⟩
theorem Img.nonNullElse {a a' b : JsExpr} (ha : Img a) (ha' : Img a') (hb : Img b) : Img (.nonNullElse a a' b) := by
  simp only [Img]; exact ⟨ha, ha', hb⟩
theorem Img.localVar {g : Bytes} (hg : JsName g) : Img (.local g) := by simp only [Img]; exact hg
theorem Img.optData {k : Bytes} (hk : JsIdent k) : Img (.optData k) := by simp only [Img]; exact hk
theorem Img.member {x : JsExpr} {k : Bytes} (hx : Img x) (hl : lv x = 0) (hk : JsIdent k)
    (hp : k = sLength → isParenPE (plain x) = false) : Img (.member x k) := by
  simp only [Img]; exact ⟨hx, hl, hk, hp⟩
theorem Img.index {x : JsExpr} {i : Int} (hx : Img x) (hl : lv x = 0) (hi : 0 ≤ i) : Img (.index x i) := by
  simp only [Img]; exact ⟨hx, hl, hi⟩
theorem Img.guard {g r : JsExpr} (hg : Img g) (hl : lv g ≤ 1) (hr : Img r) : Img (.guard g r) := by
  simp only [Img]; exact ⟨hg, hl, hr⟩
theorem Img.paren {x : JsExpr} (hx : Img x) (hn : isNegNum x = false) : Img (.paren x) := by simp only [Img]; exact ⟨hx, hn⟩
theorem Img.call1 (f : Fn1) {a : JsExpr} (ha : Img a) (hl : f = .nonNull → lv a ≤ 1) : Img (.call1 f a) := by
  cases f <;> simp only [Img] <;> first | exact ha | exact ⟨ha, hl rfl⟩
theorem Img.call2 (f : Fn2) {a b : JsExpr} (ha : Img a) (hb : Img b) : Img (.call2 f a b) := by
  cases f <;> simp only [Img] <;> exact ⟨ha, hb⟩
theorem Img.loopFirst {idx : Bytes} (h : JsName idx) : Img (.loopFirst idx) := by simp only [Img]; exact h
theorem Img.loopLastEach {idx lim : Bytes} (hi : JsName idx) (hl : JsName lim) : Img (.loopLastEach idx lim) := by
  simp only [Img]; exact ⟨hi, hl⟩
theorem Img.loopLastRange {v step lim : Bytes} (hv : JsName v) (hs : JsName step) (hl : JsName lim) :
    Img (.loopLastRange v step lim) := by
  simp only [Img]; exact ⟨hv, hs, hl⟩

theorem lvl_pnum (i : Int) : PE.lvl (pnum i) ≤ 1 := by
  unfold pnum; split <;> simp [PE.lvl]

theorem wf_pnum (i : Int) : Wf (pnum i) := by
  unfold pnum; split <;> simp [Wf, PE.lvl]

theorem lvl_plain0 (e : JsExpr) (h : lv e = 0) : PE.lvl (plain e) = 0 := by
  cases e with
  | num _ => simp [lv] at h
  | not _ => simp [lv] at h
  | guard _ _ => simp [lv] at h
  | call1 f _ => cases f <;> rfl
  | call2 f _ _ => cases f <;> rfl
  | _ => rfl

theorem lvl_plain1 (e : JsExpr) (h : lv e ≤ 1) : PE.lvl (plain e) ≤ 1 := by
  by_cases h0 : lv e = 0
  · rw [lvl_plain0 e h0]; omega
  · cases e with
    | num i => exact lvl_pnum i
    | not a => simp [plain, PE.lvl]
    | guard _ _ => simp [lv] at h
    | call1 f a => cases f <;> simp [lv] at h h0
    | _ => simp [lv] at h0

theorem plain_wf : ∀ e : JsExpr, Img e → Wf (plain e)
  | .null, _ | .bool _, _ | .str _, _ => trivial
  | .num i, _ => wf_pnum i
  | .neg a, h => by
    simp only [Img] at h
    simp only [plain, Wf]
    exact ⟨plain_wf a h.1, lvl_plain1 a h.2⟩
  | .not a, h => by
    simp only [Img] at h
    simp only [plain, Wf, PE.lvl]
    exact ⟨plain_wf a h, by omega⟩
  | .bin op a b, h => by
    simp only [Img] at h
    simp only [plain, Wf, PE.lvl]
    exact ⟨plain_wf a h.1, plain_wf b h.2, by cases op <;> simp [binOf, BinOp.lvl], by cases op <;> simp [binOf, BinOp.lvl]⟩
  | .cond c a b, h => by
    simp only [Img] at h
    simp only [plain, Wf, PE.lvl]
    exact ⟨plain_wf c h.1, by omega, plain_wf a h.2.1, plain_wf b h.2.2⟩
  | .nonNullElse a a' b, h => by
    simp only [Img] at h
    simp only [plain, Wf, PE.lvl, BinOp.lvl]
    exact ⟨⟨plain_wf a h.1, trivial, by omega, by omega⟩, by omega, plain_wf a' h.2.1, plain_wf b h.2.2⟩
  | .local g, h => by simp only [Img] at h; exact h.2.1
  | .optData k, _ => by simp only [plain, Wf, PE.lvl]; exact ⟨by decide, trivial⟩
  | .ijData, _ => by simp only [plain, Wf]; decide
  | .member x k, h => by
    simp only [Img] at h
    simp only [plain, Wf]
    exact ⟨plain_wf x h.1, lvl_plain0 x h.2.1⟩
  | .index x i, h => by
    simp only [Img] at h
    simp only [plain, Wf]
    exact ⟨plain_wf x h.1, lvl_plain0 x h.2.1, trivial⟩
  | .guard g r, h => by
    simp only [Img] at h
    simp only [plain, Wf, BinOp.lvl]
    have := lvl_plain1 g h.2.1
    exact ⟨⟨plain_wf g h.1, trivial, by omega, by simp [PE.lvl]⟩, by simp [PE.lvl], trivial, plain_wf r h.2.2⟩
  | .paren x, h => by simp only [Img] at h; exact plain_wf x h.1
  | .call1 .floor a, h | .call1 .ceil a, h | .call1 .round a, h => by
    simp only [Img] at h
    simp only [plain, Wf, WfArgs, PE.lvl]
    exact ⟨⟨by decide, trivial⟩, trivial, plain_wf a h, trivial⟩
  | .call1 .length a, h => by
    simp only [Img] at h
    simp only [plain, Wf]
    exact ⟨plain_wf a h, rfl⟩
  | .call1 .nonNull a, h => by
    simp only [Img] at h
    simp only [plain, Wf, BinOp.lvl]
    have := lvl_plain1 a h.2
    exact ⟨plain_wf a h.1, trivial, by omega, by simp [PE.lvl]⟩
  | .call2 .min a b, h | .call2 .max a b, h => by
    simp only [Img] at h
    simp only [plain, Wf, WfArgs, PE.lvl]
    exact ⟨⟨by decide, trivial⟩, trivial, plain_wf a h.1, plain_wf b h.2, trivial⟩
  | .loopFirst idx, h => by
    simp only [Img] at h
    simp only [plain, Wf, PE.lvl, BinOp.lvl]
    exact ⟨h.2.1, trivial, by omega, by omega⟩
  | .loopLastEach idx lim, h => by
    simp only [Img] at h
    simp only [plain, Wf, PE.lvl, BinOp.lvl]
    exact ⟨h.1.2.1, ⟨h.2.2.1, trivial, by omega, by omega⟩, by omega, by omega⟩
  | .loopLastRange v step lim, h => by
    simp only [Img] at h
    simp only [plain, Wf, PE.lvl, BinOp.lvl]
    exact ⟨⟨h.1.2.1, h.2.1.2.1, by omega, by omega⟩, h.2.2.2.1, by omega, by omega⟩

/-- unfold `readE` at a constructor; the side conditions of the overlapping patterns are constructor clashes -/
macro "rd" : tactic => `(tactic| (rw [readE] <;> first | (intros; rename_i e; cases e; done) | skip))

theorem readE_member_of {x : PE} {jx : JsExpr} (k : Bytes) (h : readE x = some jx) (hk : k = sLength → isParenPE x = false) :
    readE (.member x k) = some (.member jx k) := by
  have hx : isOptData x = false := by
    cases x with
    | ident g =>
      simp only [isOptData]
      cases hg : (g == sOptData) with
      | false => rfl
      | true => simp [readE, hg] at h
    | _ => rfl
  cases x with
  | paren y =>
    have hne : (k == sLength) = false := by
      cases hkk : (k == sLength) with
      | false => rfl
      | true =>
        have := hk (by simpa using hkk)
        simp [isParenPE] at this
    rw [readE]
    simp [isOptData, hne, h]
  | _ => rw [readE] <;> simp_all

theorem readE_paren_length {x : PE} {jx : JsExpr} (h : readE x = some jx) :
    readE (.member (.paren x) sLength) = some (.call1 .length jx) := by
  rw [readE]
  simp [isOptData, h]

theorem readE_paren_fall {x : PE} {jx : JsExpr} (h : readE x = some jx) (h1 : ∀ y, x ≠ .unary .neg y)
    (h2 : ∀ op a b, x ≠ .bin op a b) (h3 : ∀ c a b, x ≠ .cond c a b) : readE (.paren x) = some (.paren jx) := by
  cases x with
  | unary op y =>
    cases op with
    | neg => exact absurd rfl (h1 y)
    | _ => clear h1 h2 h3; rd; all_goals (try simp [h])
  | bin op a b => exact absurd rfl (h2 op a b)
  | cond c a b => exact absurd rfl (h3 c a b)
  | _ => clear h1 h2 h3; rd; all_goals (try simp [h])

theorem readE_paren_cond {C A B : PE} (hC : ∀ g, C ≠ .bin .eq g .null) :
    readE (.paren (.cond (.paren C) A B)) =
      (match readE C, readE A, readE B with
        | some jc, some ja, some jb => some (.cond jc ja jb)
        | _, _, _ => none) := by
  rw [readE] <;> first | rfl | (intro g r e; cases e; exact absurd rfl (hC g))

theorem pnum_shape (i : Int) : (∀ c a b, pnum i ≠ .cond c a b) ∧ (∀ op a b, pnum i ≠ .bin op a b) := by
  unfold pnum; split <;> exact ⟨fun _ _ _ e => (by cases e), fun _ _ _ e => (by cases e)⟩

/-- no text has a bare binary operator at the top of its tree (isNonnull is written `(a != null)`) -/
theorem plain_not_bin (e : JsExpr) (op : BinOp) (a b : PE) (h : plain e = .bin op a b) : False := by
  cases e with
  | num i => exact (pnum_shape i).2 op a b h
  | call1 f _ => cases f <;> cases h
  | call2 f _ _ => cases f <;> cases h
  | _ => cases h

theorem plain_not_eq (e : JsExpr) (g : PE) : plain e ≠ .bin .eq g .null :=
  plain_not_bin e _ _ _

theorem read_pnum (i : Int) : readE (pnum i) = some (.num i) := by
  unfold pnum
  split
  · rename_i h
    rd
    have : i.natAbs ≠ 0 := by omega
    simp only [beq_iff_eq, this, if_false]
    congr 2
    omega
  · rename_i h
    rd
    congr 2
    omega

theorem jsOpOf_binOf (op : JsOp) : jsOpOf (binOf op) = some op := by cases op <;> rfl

theorem plain_not_neg (e : JsExpr) (hn : isNegNum e = false) (y : PE) : plain e ≠ .unary .neg y := by
  intro h
  cases e with
  | num i =>
    simp only [isNegNum, decide_eq_false_iff_not] at hn
    simp only [plain, pnum, hn, if_false] at h
    cases h
  | call1 f _ => cases f <;> cases h
  | call2 f _ _ => cases f <;> cases h
  | _ => cases h

/-- only the bare conditional `(g == null) ? null : r` (`lv e = 3`) has a `?:` at the top of its tree -/
theorem plain_not_cond (e : JsExpr) (hg : lv e ≠ 3) (c a b : PE) : plain e ≠ .cond c a b := by
  intro h
  cases e with
  | num i => exact (pnum_shape i).1 c a b h
  | guard _ _ => exact hg rfl
  | call1 f _ => cases f <;> cases h
  | call2 f _ _ => cases f <;> cases h
  | _ => cases h

theorem read_plain : ∀ e : JsExpr, Img e → readE (plain e) = some e
  | .null, _ | .bool _, _ | .str _, _ => by simp [plain, readE]
  | .num i, _ => read_pnum i
  | .neg a, h => by
    simp only [Img] at h
    simp only [plain]; rd
    simp [read_plain a h.1]
  | .not a, h => by
    simp only [Img] at h
    simp only [plain]; rd
    simp [read_plain a h]
  | .bin op a b, h => by
    simp only [Img] at h
    simp only [plain]; rd
    simp [read_plain a h.1, read_plain b h.2, jsOpOf_binOf]
  | .cond c a b, h => by
    simp only [Img] at h
    simp only [plain]
    rw [readE_paren_cond (plain_not_eq c)]
    simp [read_plain c h.1, read_plain a h.2.1, read_plain b h.2.2]
  | .nonNullElse a a' b, h => by
    simp only [Img] at h
    simp only [plain]; rd
    simp [read_plain a h.1, read_plain a' h.2.1, read_plain b h.2.2]
  | .local g, h => by
    simp only [Img] at h
    simp [plain, readE, h.2.2.1, h.2.2.2]
  | .optData k, _ => by simp only [plain]; rd; simp [isOptData]
  | .ijData, _ => by simp [plain, readE, sOptIj, sOptData]
  | .member x k, h => by
    simp only [Img] at h
    simp only [plain]
    exact readE_member_of k (read_plain x h.1) h.2.2.2
  | .index x i, h => by
    simp only [Img] at h
    simp only [plain]; rd
    simp only [read_plain x h.1]
    congr 2
    omega
  | .guard g r, h => by
    simp only [Img] at h
    simp only [plain]; rd
    simp [read_plain g h.1, read_plain r h.2.2]
  | .paren x, h => by
    simp only [Img] at h
    by_cases hg : lv x = 3
    · cases x with
      | guard g r =>
        have hx := h.1
        simp only [Img] at hx
        simp only [plain]; rd
        simp [read_plain g hx.1, read_plain r hx.2.2]
      | _ => simp [lv] at hg
    · simp only [plain]
      exact readE_paren_fall (read_plain x h.1) (plain_not_neg x h.2)
        (fun op a b e => plain_not_bin x op a b e) (plain_not_cond x hg)
  | .call1 .floor a, h | .call1 .ceil a, h | .call1 .round a, h => by
    simp only [Img] at h
    simp only [plain]; rd
    simp [read_plain a h, mathFn1]
  | .call1 .length a, h => by
    simp only [Img] at h
    simp only [plain]
    exact readE_paren_length (read_plain a h)
  | .call1 .nonNull a, h => by
    simp only [Img] at h
    simp only [plain]; rd
    simp [read_plain a h.1]
  | .call2 .min a b, h | .call2 .max a b, h => by
    simp only [Img] at h
    simp only [plain]; rd
    simp [read_plain a h.1, read_plain b h.2, mathFn2]
  | .loopFirst idx, _ => by simp only [plain]; rd; simp
  | .loopLastEach idx lim, _ => by simp only [plain]; rd; simp
  | .loopLastRange v step lim, _ => by simp only [plain]; rd

theorem read_of_plain {e : JsExpr} (he : Img e) {p : PE} (h : plain e = p) : readE p = some e := h ▸ read_plain e he

theorem printPieces_nil : printPieces [] = [] := rfl
theorem printPieces_cons (p : Piece) (ps : List Piece) : printPieces (p :: ps) = p.print ++ printPieces ps := by
  simp [printPieces]
theorem printPieces_append (a b : List Piece) : printPieces (a ++ b) = printPieces a ++ printPieces b := by
  simp [printPieces]

theorem lex_int (i : Int) {rest : Bytes} (hs : SepN rest) :
    jsLex (F64.intDigits i ++ rest) = pre (tk (pnum i)) (jsLex rest) := by
  unfold F64.intDigits pnum
  split
  · obtain ⟨hne, hall, _, _⟩ := SoyVerif.Lemmas.NatDigits.natDigits_shape i.natAbs
    have hl := lex_nat i.natAbs hs
    cases hd : F64.natDigits i.natAbs with
    | nil => exact absurd hd hne
    | cons d r =>
      rw [hd] at hl hall
      rw [List.cons_append, List.cons_append, lex_minus_digit (hall d (List.mem_cons_self ..)), ← List.cons_append, hl, pre_pre]
      rfl
  · exact lex_nat i.natAbs hs

theorem lex_opSym (op : JsOp) (r : Bytes) :
    jsLex (SoyVerif.Props.C04.opSym op ++ 32 :: r) = pre [.p (binOf op).sym] (jsLex r) := by
  cases op <;> exact lex_p_sp rfl

theorem lex_num0 {c : UInt8} (hc : isIdPart c = false) (hd : c ≠ 46) (rest : Bytes) :
    jsLex (48 :: c :: rest) = pre [.num 0] (jsLex (c :: rest)) :=
  lex_nat 0 (sepN_cons hc hd rest)

theorem lex_num1 {c : UInt8} (hc : isIdPart c = false) (hd : c ≠ 46) (rest : Bytes) :
    jsLex (49 :: c :: rest) = pre [.num 1] (jsLex (c :: rest)) :=
  lex_nat 1 (sepN_cons hc hd rest)

/-- Unfolds the text of an expression into bytes.  Every case of `lex_render` is then one `simp +decide` that walks the
    bytes: a fixed byte or word of the generator by the `@[simp]` lemmas of Lemmas/JsParseLex, a name or number of the
    tree by `lex_ident` / `lex_int` / the induction hypothesis, whose condition on what follows (`Sep1` / `SepN`) is
    decided on the next fixed byte — which byte separates each token is the whole idea of a case. -/
macro "lexs" : tactic => `(tactic| simp only [render, printPieces_append, printPieces_cons, printPieces_nil, Piece.print,
  List.append_assoc, List.cons_append, List.nil_append, List.append_nil])

/-- `rest` must not go on with an identifier character (`Sep1`), nor with a `.` (`SepN`) — unless the text is a
    MemberExpression / CallExpression (`lv e = 0`): that does not end in the digits of a number, and `.k` may follow -/
theorem lex_render : ∀ (e : JsExpr), Img e → ∀ (rest : Bytes), Sep1 rest → (lv e ≠ 0 → SepN rest) →
    jsLex (printPieces (render e) ++ rest) = pre (tk (plain e)) (jsLex rest)
  | .null, _, rest, hs, _ => by
    lexs
    exact lex_ident (g := b!"null") ⟨_, _, rfl, rfl, by decide⟩ hs
  | .bool b, _, rest, hs, _ => by
    lexs
    cases b
    · exact lex_ident (g := b!"false") ⟨_, _, rfl, rfl, by decide⟩ hs
    · exact lex_ident (g := b!"true") ⟨_, _, rfl, rfl, by decide⟩ hs
  | .num i, _, rest, _, hn => by
    lexs
    exact lex_int i (hn (by simp [lv]))
  | .str s, h, rest, _, _ => by
    simp only [Img] at h
    lexs
    exact lex_str h rest
  | .neg a, h, rest, _, _ => by
    simp only [Img] at h
    lexs
    simp +decide [lex_render a h.1, tk, plain, UnOp.tok]
  | .bin op a b, h, rest, _, _ => by
    simp only [Img] at h
    lexs
    simp +decide [lex_render a h.1, lex_render b h.2, lex_opSym, tk, plain]
  | .not a, h, rest, _, _ => by
    simp only [Img] at h
    lexs
    simp +decide [lex_render a h, tk, plain, UnOp.tok]
  | .cond c a b, h, rest, _, _ => by
    simp only [Img] at h
    lexs
    simp +decide [lex_render c h.1, lex_render a h.2.1, lex_render b h.2.2, tk, plain]
  | .nonNullElse a a' b, h, rest, _, _ => by
    simp only [Img] at h
    lexs
    simp +decide [lex_render a h.1, lex_render a' h.2.1, lex_render b h.2.2, lex_id_cons, tk, plain, BinOp.sym]
  | .local g, h, rest, hs, _ => by
    simp only [Img] at h
    lexs
    exact lex_ident h.1 hs
  | .optData k, h, rest, hs, _ => by
    simp only [Img] at h
    lexs
    simp +decide [lex_id_cons, lex_dot_ident h hs, tk, plain, sOptData]
  | .ijData, _, rest, hs, _ => by
    lexs
    exact lex_ident (g := sOptIj) ⟨_, _, rfl, rfl, by decide⟩ hs
  | .member x k, h, rest, hs, _ => by
    simp only [Img] at h
    lexs
    simp +decide [lex_render x h.1, h.2.1, lex_dot_ident h.2.2.1 hs, tk, plain]
  | .index x i, h, rest, _, _ => by
    simp only [Img] at h
    have : ¬ i < 0 := by omega
    lexs
    simp +decide [lex_render x h.1, lex_int i, tk, plain, pnum, this]
  | .guard g r, h, rest, hs, hn => by
    simp only [Img] at h
    lexs
    simp +decide [lex_render g h.1, lex_id_cons, lex_render r h.2.2 _ hs (fun _ => hn (by simp [lv])), tk, plain, BinOp.sym]
  | .paren x, h, rest, _, _ => by
    simp only [Img] at h
    lexs
    simp +decide [lex_render x h.1, tk, plain]
  | .call1 .floor a, h, rest, _, _ | .call1 .ceil a, h, rest, _, _ | .call1 .round a, h, rest, _, _ => by
    simp only [Img] at h
    lexs
    simp +decide [lex_id_cons, lex_dot, lex_render a h, tk, plain, tkArgs, tkArgsTail, sMath]
  | .call1 .length a, h, rest, hs, _ => by
    simp only [Img] at h
    have hl := lex_dot_ident (k := sLength) ⟨_, _, rfl, rfl, by decide⟩ hs
    simp only [sLength, List.cons_append, List.nil_append] at hl
    lexs
    simp +decide [lex_render a h, hl, tk, plain, sLength]
  | .call1 .nonNull a, h, rest, hs, _ => by
    simp only [Img] at h
    lexs
    simp +decide [lex_render a h.1, lex_id_cons, tk, plain, BinOp.sym]
  | .call2 .min a b, h, rest, _, _ | .call2 .max a b, h, rest, _, _ => by
    simp only [Img] at h
    lexs
    simp +decide [lex_id_cons, lex_dot, lex_render a h.1, lex_render b h.2, tk, plain, tkArgs, tkArgsTail, sMath]
  | .loopFirst idx, h, rest, _, _ => by
    simp only [Img] at h
    lexs
    simp +decide [lex_ident h.1, lex_num0, tk, plain, BinOp.sym]
  | .loopLastEach idx lim, h, rest, _, _ => by
    simp only [Img] at h
    lexs
    simp +decide [lex_ident h.1.1, lex_ident h.2.1, lex_num1, tk, plain, BinOp.sym]
  | .loopLastRange v step lim, h, rest, _, _ => by
    simp only [Img] at h
    lexs
    simp +decide [lex_ident h.1.1, lex_ident h.2.1.1, lex_ident h.2.2.1, tk, plain, BinOp.sym]

/-- the text of an expression of the image, read by the grammar, is that expression -/
theorem jsparse_render_expr (e : JsExpr) (h : Img e) : jsParseExpr (printPieces (render e)) = some e :=
  (jsParseExpr_of_lex (lex_whole (lex_render e h [] Sep1.nil (fun _ => SepN.nil))) (plain_wf e h)).trans (read_plain e h)

open SoyVerif.Model (Directive Expr)
open SoyVerif.Model.JsGen (directiveJsName spaces)
open SoyVerif.Spec.JsStmt (JsStmt JsStmts JsConds JsCases JsPlural DataBase JsFunc)
open SoyVerif.Props.C04d (litAst renderStmt renderStmts renderConds renderCases renderPlural openPieces closePieces argPieces
  basePieces kvPieces dataPieces)
open SoyVerif.Lemmas.JsParseStmt

/-- the pieces of a dotted name (never the empty list — `qSplit_ne` —: the arm `[] => [[c]]` is not reached) -/
def qSplit : Bytes → List Bytes
  | [] => [[]]
  | c :: r =>
    if c == 46 then [] :: qSplit r
    else match qSplit r with
      | s :: ss => (c :: s) :: ss
      | [] => [[c]]

/-- `a.b.c` as a chain of `.name` (the arm `[]` is not reached: `qSplit_ne`) -/
def plainQ (q : Bytes) : PE :=
  match qSplit q with
  | g :: segs => segs.foldl PE.member (.ident g)
  | [] => .ident []

def plainArgs : List PE → PArgs
  | [] => .nil
  | a :: r => .cons a (plainArgs r)

def sTruncate : Bytes := b!"truncate"

/-- the literal arguments the generator writes behind the value: those of the source, and `true` for a `|truncate:n` -/
def dirArgs (d : Directive) : List PE :=
  (d.args.filterMap litAst).map plain ++ (if d.name == sTruncate && d.args.length == 1 then [.bool true] else [])

/-- `dN(…d1(e, a…)…, a…)` -/
def plainPrint (e : PE) (ds : List Directive) : PE :=
  ds.foldl (fun acc d => .call (plainQ (directiveJsName d.name)) (.cons acc (plainArgs (dirArgs d)))) e

def plainBase : DataBase → PE
  | .empty => .obj .nil
  | .all => .ident sOptData
  | .expr e => plain e

def plainProps : List (Bytes × JsExpr) → PProps
  | [] => .nil
  | (k, v) :: r => .cons k (plain v) (plainProps r)

def plainData (base : DataBase) (params : List (Bytes × JsExpr)) : PE :=
  match params with
  | [] => plainBase base
  | ps => .call (plainQ sAugment) (.cons (plainBase base) (.cons (.obj (plainProps ps)) .nil))

def PStmts.snoc : PStmts → PS → PStmts
  | .nil, s => .cons s .nil
  | .cons a r, s => .cons a (PStmts.snoc r s)

/-- `case l1: case l2: … body` -/
def plainLabels : List PE → PStmts → PClauses → PClauses
  | [], _, rest => rest
  | [l], body, rest => .case l body rest
  | l :: ls, body, rest => .case l .nil (plainLabels ls body rest)

mutual
  def plainS : JsStmt → PS
    | .appendLit b t => .expr (.assign .add (.ident b) (.str t))
    | .append b e ds => .expr (.assign .add (.ident b) (plainPrint (plain e) ds))
    | .var x e => .var [(x, plain e)]
    | .varEmpty x => .var [(x, .str [])]
    | .ifs conds => plainConds conds
    | .varLength x l => .var [(x, .member (.ident l) sLength)]
    | .varIndex x l i => .var [(x, .index (.ident l) (.ident i))]
    | .forUp i lim body =>
      .forVar [(i, .num 0)] (.bin .lt (.ident i) (.ident lim)) [.postInc (.ident i)] (.block (plainSs body))
    | .ifPos lim body els => .ifElse (.bin .gt (.ident lim) (.num 0)) (.block (plainSs body)) (.block (plainSs els))
    | .forStep i lim step idx init body =>
      .forVar [(i, plain init), (idx, .num 0)] (.bin .lt (.ident i) (.ident lim))
        [.assign .add (.ident i) (.ident step), .postInc (.ident idx)] (.block (plainSs body))
    | .switchS e cases => .switchS (plain e) (plainCases cases)
    | .call b callee base params =>
      .expr (.assign .add (.ident b) (.call (plainQ callee)
        (.cons (plainData base params) (.cons (.ident b!"opt_sb") (.cons (.ident b!"opt_ijData") .nil)))))
    | .ifZero idx body => .ifS (.bin .eq (.ident idx) (.num 0)) (.block (plainSs body))
    | .pluralS e cases dflt => .switchS (plain e) (plainPlural cases (plainSs dflt))
    | .appendCss b e => .expr (.assign .add (.ident b) (.bin .add (plain e) (.str b!"-")))
    | .debuggerS => .dbg
  def plainSs : JsStmts → PStmts
    | .nil => .nil
    | .cons s r => .cons (plainS s) (plainSs r)
  /-- `if (c) {…} else if (c) {…} … else {…}` -/
  def plainConds : JsConds → PS
    | .nil => .block .nil
    | .els body => .block (plainSs body)
    | .cons c body rest =>
      match rest with
      | .nil => .ifS (plain c) (.block (plainSs body))
      | .els e => .ifElse (plain c) (.block (plainSs body)) (.block (plainSs e))
      | .cons c' body' rest' => .ifElse (plain c) (.block (plainSs body)) (plainConds (.cons c' body' rest'))
  def plainCases : JsCases → PClauses
    | .nil => .nil
    | .dflt body => .dflt (PStmts.snoc (plainSs body) .brk) .nil
    | .cons labels body rest => plainLabels (labels.map plain) (PStmts.snoc (plainSs body) .brk) (plainCases rest)
  /-- `case n: … break;` …, then `default: …` -/
  def plainPlural : JsPlural → PStmts → PClauses
    | .nil, d => .dflt d .nil
    | .cons v body rest, d => .case (pnum v) (PStmts.snoc (plainSs body) .brk) (plainPlural rest d)
end

/-- a dotted name `a.b.c` of ASCII IdentifierNames, the first no reserved word -/
def QName (q : Bytes) : Prop :=
  ∃ g segs, qSplit q = g :: segs ∧ JsIdent g ∧ isReserved g = false ∧ ∀ s ∈ segs, JsIdent s

/-- a directive the generator has a JavaScript function for; its literal arguments are in the image -/
def DirOk (d : Directive) : Prop :=
  (∃ jd ∈ Gen.jsDirectives, jd.name = d.name ∧ jd.jsName ≠ []) ∧ ∀ a ∈ d.args, ∀ j, litAst a = some j → Img j

def ImgBase : DataBase → Prop
  | .empty => True
  | .all => True
  | .expr e => Img e

def ImgParams : List (Bytes × JsExpr) → Prop
  | [] => True
  | (k, v) :: r => JsIdent k ∧ Img v ∧ ImgParams r

def ImgList : List JsExpr → Prop
  | [] => True
  | e :: r => Img e ∧ ImgList r

mutual
  /-- the statements whose text (the concrete syntax of Spec/JsStmt) the grammar reads back: names are JavaScript
      variable names, expressions are in `Img`, literal text is well-formed UTF-8, the library calls around a printed
      value are directives the generator knows, the value of a `var` is not `l.length` on a local (the text of
      `varLength`), the value in front of the hyphen of a `{css}` stands at most at the level of a UnaryExpression, an
      `if` chain has a first condition, a `case` clause has a label -/
  def ImgS : JsStmt → Prop
    | .appendLit b t => JsName b ∧ ValidUtf8 t
    | .append b e ds => JsName b ∧ Img e ∧ ∀ d ∈ ds, DirOk d
    | .var x e => JsName x ∧ Img e ∧ ∀ l, e ≠ .member (.local l) sLength
    | .varEmpty x => JsName x
    | .ifs conds => (match conds with | .cons _ _ _ => True | _ => False) ∧ ImgConds conds
    | .varLength x l => JsName x ∧ JsName l
    | .varIndex x l i => JsName x ∧ JsName l ∧ JsName i
    | .forUp i lim body => JsName i ∧ JsName lim ∧ ImgSs body
    | .ifPos lim body els => JsName lim ∧ ImgSs body ∧ ImgSs els
    | .forStep i lim step idx init body => JsName i ∧ JsName lim ∧ JsName step ∧ JsName idx ∧ Img init ∧ ImgSs body
    | .switchS e cases => Img e ∧ ImgCases cases
    | .call b callee base params => JsName b ∧ QName callee ∧ ImgBase base ∧ ImgParams params
    | .ifZero idx body => JsName idx ∧ ImgSs body
    | .pluralS e cases dflt => Img e ∧ ImgPlural cases ∧ ImgSs dflt
    | .appendCss b e => JsName b ∧ Img e ∧ lv e ≤ 1
    | .debuggerS => True
  def ImgSs : JsStmts → Prop
    | .nil => True
    | .cons s r => ImgS s ∧ ImgSs r
  def ImgConds : JsConds → Prop
    | .nil => True
    | .els body => ImgSs body
    | .cons c body rest => Img c ∧ ImgSs body ∧ ImgConds rest
  def ImgCases : JsCases → Prop
    | .nil => True
    | .dflt body => ImgSs body
    | .cons labels body rest => labels ≠ [] ∧ ImgList labels ∧ ImgSs body ∧ ImgCases rest
  def ImgPlural : JsPlural → Prop
    | .nil => True
    | .cons _ body rest => ImgSs body ∧ ImgPlural rest
end

theorem ImgSs.cons {s : JsStmt} {r : JsStmts} (hs : ImgS s) (hr : ImgSs r) : ImgSs (.cons s r) := by
  simp only [ImgSs]; exact ⟨hs, hr⟩

theorem ImgS.appendLit {b t : Bytes} (hb : JsName b) (ht : ValidUtf8 t) : ImgS (.appendLit b t) := by
  simp only [ImgS]; exact ⟨hb, ht⟩

theorem ImgS.append {b : Bytes} {e : JsExpr} {ds : List Directive} (hb : JsName b) (he : Img e) (hd : ∀ d ∈ ds, DirOk d) :
    ImgS (.append b e ds) := by
  simp only [ImgS]; exact ⟨hb, he, hd⟩

theorem ImgS.var {x : Bytes} {e : JsExpr} (hx : JsName x) (he : Img e) (hne : ∀ l, e ≠ .member (.local l) sLength) :
    ImgS (.var x e) := by
  simp only [ImgS]; exact ⟨hx, he, hne⟩

theorem ImgS.varEmpty {x : Bytes} (hx : JsName x) : ImgS (.varEmpty x) := by
  simp only [ImgS]; exact hx

theorem ImgS.ifs {c : JsExpr} {body : JsStmts} {rest : JsConds} (h : ImgConds (.cons c body rest)) :
    ImgS (.ifs (.cons c body rest)) := by
  simp only [ImgS]; exact ⟨trivial, h⟩

theorem ImgS.varLength {x l : Bytes} (hx : JsName x) (hl : JsName l) : ImgS (.varLength x l) := by
  simp only [ImgS]; exact ⟨hx, hl⟩

theorem ImgS.varIndex {x l i : Bytes} (hx : JsName x) (hl : JsName l) (hi : JsName i) : ImgS (.varIndex x l i) := by
  simp only [ImgS]; exact ⟨hx, hl, hi⟩

theorem ImgS.forUp {i lim : Bytes} {body : JsStmts} (hi : JsName i) (hlim : JsName lim) (hbody : ImgSs body) :
    ImgS (.forUp i lim body) := by
  simp only [ImgS]; exact ⟨hi, hlim, hbody⟩

theorem ImgS.ifPos {lim : Bytes} {body els : JsStmts} (hlim : JsName lim) (hbody : ImgSs body) (hels : ImgSs els) :
    ImgS (.ifPos lim body els) := by
  simp only [ImgS]; exact ⟨hlim, hbody, hels⟩

theorem ImgS.forStep {i lim step idx : Bytes} {init : JsExpr} {body : JsStmts} (hi : JsName i) (hlim : JsName lim)
    (hstep : JsName step) (hidx : JsName idx) (hinit : Img init) (hbody : ImgSs body) :
    ImgS (.forStep i lim step idx init body) := by
  simp only [ImgS]; exact ⟨hi, hlim, hstep, hidx, hinit, hbody⟩

theorem ImgS.switchS {e : JsExpr} {cases : JsCases} (he : Img e) (hc : ImgCases cases) : ImgS (.switchS e cases) := by
  simp only [ImgS]; exact ⟨he, hc⟩

theorem ImgS.call {b callee : Bytes} {base : DataBase} {params : List (Bytes × JsExpr)} (hb : JsName b) (hq : QName callee)
    (hbase : ImgBase base) (hp : ImgParams params) : ImgS (.call b callee base params) := by
  simp only [ImgS]; exact ⟨hb, hq, hbase, hp⟩

theorem ImgS.ifZero {idx : Bytes} {body : JsStmts} (hidx : JsName idx) (hbody : ImgSs body) : ImgS (.ifZero idx body) := by
  simp only [ImgS]; exact ⟨hidx, hbody⟩

theorem ImgS.pluralS {e : JsExpr} {cases : JsPlural} {dflt : JsStmts} (he : Img e) (hc : ImgPlural cases) (hd : ImgSs dflt) :
    ImgS (.pluralS e cases dflt) := by
  simp only [ImgS]; exact ⟨he, hc, hd⟩

theorem ImgS.appendCss {b : Bytes} {e : JsExpr} (hb : JsName b) (he : Img e) (hl : lv e ≤ 1) : ImgS (.appendCss b e) := by
  simp only [ImgS]; exact ⟨hb, he, hl⟩

theorem ImgConds.els {body : JsStmts} (hb : ImgSs body) : ImgConds (.els body) := by
  simp only [ImgConds]; exact hb

theorem ImgConds.cons {c : JsExpr} {body : JsStmts} {rest : JsConds} (hc : Img c) (hb : ImgSs body) (hr : ImgConds rest) :
    ImgConds (.cons c body rest) := by
  simp only [ImgConds]; exact ⟨hc, hb, hr⟩

theorem ImgCases.dflt {body : JsStmts} (hb : ImgSs body) : ImgCases (.dflt body) := by
  simp only [ImgCases]; exact hb

theorem ImgCases.cons {labels : List JsExpr} {body : JsStmts} {rest : JsCases} (hne : labels ≠ []) (hl : ImgList labels)
    (hb : ImgSs body) (hr : ImgCases rest) : ImgCases (.cons labels body rest) := by
  simp only [ImgCases]; exact ⟨hne, hl, hb, hr⟩

theorem ImgPlural.cons {v : Int} {body : JsStmts} {rest : JsPlural} (hb : ImgSs body) (hr : ImgPlural rest) :
    ImgPlural (.cons v body rest) := by
  simp only [ImgPlural]; exact ⟨hb, hr⟩

theorem ImgParams.cons {k : Bytes} {v : JsExpr} {r : List (Bytes × JsExpr)} (hk : JsIdent k) (hv : Img v) (hr : ImgParams r) :
    ImgParams ((k, v) :: r) := by
  simp only [ImgParams]; exact ⟨hk, hv, hr⟩

theorem ImgList.cons {e : JsExpr} {r : List JsExpr} (he : Img e) (hr : ImgList r) : ImgList (e :: r) := by
  simp only [ImgList]; exact ⟨he, hr⟩

theorem ascii_valid : ∀ (s : Bytes), (∀ b ∈ s, b < 128) → ValidUtf8 s
  | [], _ => ValidUtf8.nil
  | b :: r, h => by
    have hb : b < 128 := h b (by simp)
    have hw : wellFormedSeq [b] = true := by
      simp only [wellFormedSeq, decide_eq_true_eq]
      have h1 : b.toNat < 128 := by simpa [UInt8.lt_iff_toNat_lt] using hb
      rw [UInt8.le_iff_toNat_le]
      have : (0x7F : UInt8).toNat = 127 := rfl
      omega
    exact ValidUtf8.seq [b] r hw (ascii_valid r (fun x hx => h x (by simp [hx])))

@[simp] theorem lex_spaces : ∀ (n : Nat) (r : Bytes), jsLex (spaces n ++ r) = jsLex r
  | 0, r => rfl
  | n + 1, r => by simp only [spaces, List.cons_append, lex_sp]; exact lex_spaces n r

/-- followed by anything that does not go on with an identifier character or a `.`, the text has the tokens -/
def LxN (bs : Bytes) (ts : List Tok) : Prop := ∀ rest, SepN rest → jsLex (bs ++ rest) = pre ts (jsLex rest)

theorem LxN.cons {bs : Bytes} {ts : List Tok} (h : LxN bs ts) {c : UInt8} (hc : isIdPart c = false) (hd : c ≠ 46) (r : Bytes) :
    jsLex (bs ++ c :: r) = pre ts (jsLex (c :: r)) :=
  h _ (sepN_cons hc hd r)

theorem LxN.render {e : JsExpr} (h : Img e) : LxN (printPieces (render e)) (tk (plain e)) :=
  fun rest hs => lex_render e h rest hs.sep1 (fun _ => hs)

theorem qSplit_ne : ∀ q : Bytes, ∃ g segs, qSplit q = g :: segs
  | [] => ⟨_, _, rfl⟩
  | c :: r => by
    obtain ⟨g, segs, e⟩ := qSplit_ne r
    simp only [qSplit, e]
    split <;> exact ⟨_, _, rfl⟩

theorem qSplit_join : ∀ (q g : Bytes) (segs : List Bytes), qSplit q = g :: segs → q = g ++ segs.flatMap (46 :: ·)
  | [], g, segs, h => by simp only [qSplit, List.cons.injEq] at h; obtain ⟨rfl, rfl⟩ := h; rfl
  | c :: r, g, segs, h => by
    obtain ⟨g', segs', e⟩ := qSplit_ne r
    have ih := qSplit_join r g' segs' e
    simp only [qSplit, e] at h
    split at h
    · rename_i hc
      simp only [beq_iff_eq] at hc
      simp only [List.cons.injEq] at h
      obtain ⟨rfl, rfl⟩ := h
      rw [ih, hc]
      simp
    · simp only [List.cons.injEq] at h
      obtain ⟨rfl, rfl⟩ := h
      rw [ih]
      simp

theorem tk_foldl_member : ∀ (segs : List Bytes) (acc : PE),
    tk (segs.foldl PE.member acc) = tk acc ++ segs.flatMap (fun s => [.p b!".", .id s])
  | [], acc => by simp
  | s :: r, acc => by simp [tk_foldl_member r, tk]

theorem lex_segs : ∀ (segs : List Bytes) (rest : Bytes), (∀ s ∈ segs, JsIdent s) → Sep1 rest →
    jsLex (segs.flatMap (46 :: ·) ++ rest) = pre (segs.flatMap (fun s => [.p b!".", .id s])) (jsLex rest)
  | [], rest, _, _ => by simp
  | s :: r, rest, hs, hr => by
    have ih := lex_segs r rest (fun x hx => hs x (List.mem_cons_of_mem _ hx)) hr
    have hsep : Sep1 (r.flatMap (46 :: ·) ++ rest) := by
      cases r with
      | nil => simpa using hr
      | cons s' r' => exact sep1_cons rfl _
    simp only [List.flatMap_cons, List.cons_append, List.append_assoc]
    rw [lex_dot_ident (hs s (List.mem_cons_self ..)) hsep, ih, pre_pre]
    simp

theorem lex_qname {q : Bytes} (hq : QName q) {c : UInt8} (hc : isIdPart c = false) (r : Bytes) :
    jsLex (q ++ c :: r) = pre (tk (plainQ q)) (jsLex (c :: r)) := by
  have hr := sep1_cons hc r
  generalize c :: r = rest at hr ⊢
  obtain ⟨g, segs, e, hg, _, hs⟩ := hq
  have hj := qSplit_join q g segs e
  have hsep : Sep1 (segs.flatMap (46 :: ·) ++ rest) := by
    cases segs with
    | nil => simpa using hr
    | cons s' r' => exact sep1_cons rfl _
  unfold plainQ
  rw [e]
  simp only [tk_foldl_member, tk]
  conv => lhs; rw [hj]
  rw [List.append_assoc, lex_ident hg hsep, lex_segs segs rest hs hr, pre_pre]

theorem printPieces_flatMap {α : Type} (f : α → List Piece) : ∀ l : List α,
    printPieces (l.flatMap f) = l.flatMap (fun x => printPieces (f x))
  | [] => rfl
  | x :: r => by simp [printPieces_append, printPieces_flatMap f r]

/-- `JsIdent` as a Boolean, for `decide` on concrete names -/
def identB (g : Bytes) : Bool :=
  match g with
  | [] => false
  | c :: r => isIdStart c && r.all isIdPart

theorem identB_ok {g : Bytes} (h : identB g = true) : JsIdent g := by
  cases g with
  | nil => simp [identB] at h
  | cons c r =>
    simp only [identB, Bool.and_eq_true, List.all_eq_true] at h
    exact ⟨c, r, rfl, h.1, h.2⟩

/-- `QName` as a Boolean, for `decide` on concrete names -/
def qOkB (q : Bytes) : Bool :=
  match qSplit q with
  | g :: segs => identB g && !isReserved g && segs.all identB
  | [] => false

theorem qOkB_ok {q : Bytes} (h : qOkB q = true) : QName q := by
  unfold qOkB at h
  split at h
  · rename_i g segs e
    simp only [Bool.and_eq_true, Bool.not_eq_true', List.all_eq_true] at h
    exact ⟨g, segs, e, identB_ok h.1.1, h.1.2, fun s hs => identB_ok (h.2 s hs)⟩
  · cases h

/-- the table of the directives: the JavaScript name is a dotted name, and names the directive -/
theorem dir_table : ∀ jd ∈ Gen.jsDirectives, jd.jsName ≠ [] →
    directiveJsName jd.name = jd.jsName ∧ qOkB jd.jsName = true ∧ dirOfJs jd.jsName = some jd.name := by
  decide

theorem dirOk_js {d : Directive} (h : DirOk d) :
    QName (directiveJsName d.name) ∧ dirOfJs (directiveJsName d.name) = some d.name := by
  obtain ⟨⟨jd, hjd, hn, hne⟩, _⟩ := h
  obtain ⟨h1, h2, h3⟩ := dir_table jd hjd hne
  rw [← hn, h1]
  exact ⟨qOkB_ok h2, h3⟩

theorem tkArgsTail_plainArgs : ∀ xs : List PE,
    tkArgsTail (plainArgs xs) = xs.flatMap (fun x => Tok.p b!"," :: tk x) ++ [.p b!")"]
  | [] => rfl
  | x :: r => by simp [plainArgs, tkArgsTail, tkArgsTail_plainArgs r]

theorem sepN_args : ∀ (args : List Expr) (tail : Bytes), SepN tail → SepN (printPieces (args.flatMap argPieces) ++ tail)
  | [], tail, ht => by simpa [printPieces_nil] using ht
  | a :: r, tail, ht => by
    simp only [List.flatMap_cons, printPieces_append, List.append_assoc]
    cases hl : litAst a with
    | none => simp only [argPieces, hl, printPieces_nil, List.nil_append]; exact sepN_args r tail ht
    | some j => simp +decide [argPieces, hl, printPieces_cons, Piece.print]

/-- `,a,b` -/
theorem lex_argPieces : ∀ (args : List Expr), (∀ a ∈ args, ∀ j, litAst a = some j → Img j) → ∀ (rest : Bytes), SepN rest →
    jsLex (printPieces (args.flatMap argPieces) ++ rest) =
      pre (((args.filterMap litAst).map plain).flatMap (fun x => Tok.p b!"," :: tk x)) (jsLex rest)
  | [], _, rest, _ => by simp [printPieces_nil]
  | a :: r, h, rest, hr => by
    have ih := lex_argPieces r (fun x hx => h x (List.mem_cons_of_mem _ hx)) rest hr
    simp only [List.flatMap_cons, printPieces_append, List.append_assoc, List.filterMap_cons]
    cases hl : litAst a with
    | none => simp only [argPieces, hl, printPieces_nil, List.nil_append]; exact ih
    | some j =>
      -- the next piece starts with `,`, or the rest follows
      simp [argPieces, hl, printPieces_cons, Piece.print,
        LxN.render (h a (List.mem_cons_self ..) j hl) _ (sepN_args r rest hr), ih]

theorem print_open (d : Directive) : printPieces (openPieces d) = directiveJsName d.name ++ [40] := by
  simp [openPieces, printPieces_cons, printPieces_nil, Piece.print]

/-- `,a,b)` -/
theorem lex_close (d : Directive) (h : DirOk d) (rest : Bytes) :
    jsLex (printPieces (closePieces d) ++ rest) = pre (tkArgsTail (plainArgs (dirArgs d))) (jsLex rest) := by
  unfold closePieces dirArgs
  simp only [printPieces_append, List.append_assoc, tkArgsTail_plainArgs, List.flatMap_append]
  by_cases ht : (d.name == b!"truncate" && d.args.length == 1) = true
  · have ht' : (d.name == sTruncate && d.args.length == 1) = true := ht
    simp +decide [ht, ht', printPieces_cons, printPieces_nil, Piece.print, lex_argPieces d.args h.2, lex_id_cons, tk]
  · have ht' : ¬ (d.name == sTruncate && d.args.length == 1) = true := ht
    simp +decide [ht, ht', printPieces_cons, printPieces_nil, Piece.print, lex_argPieces d.args h.2]

theorem close_sepN (d : Directive) (rest : Bytes) : SepN (printPieces (closePieces d) ++ rest) := by
  unfold closePieces
  simp only [printPieces_append, List.append_assoc]
  apply sepN_args
  split <;> simp +decide [printPieces_cons, printPieces_nil, Piece.print]

/-- `dN(…d1(inner, a…)…, a…)` -/
theorem lex_nest : ∀ (ds : List Directive) (inner : Bytes) (P : PE), (∀ d ∈ ds, DirOk d) → LxN inner (tk P) →
    LxN (printPieces (ds.reverse.flatMap openPieces) ++ (inner ++ printPieces (ds.flatMap closePieces))) (tk (plainPrint P ds))
  | [], inner, P, _, hi => by
    intro rest hr
    simpa [printPieces_nil, plainPrint] using hi rest hr
  | d :: ds, inner, P, hd, hi => by
    have hd0 := hd d (List.mem_cons_self ..)
    have step : LxN (printPieces (openPieces d) ++ (inner ++ printPieces (closePieces d)))
        (tk (.call (plainQ (directiveJsName d.name)) (.cons P (plainArgs (dirArgs d))))) := by
      intro rest hr
      simp +decide [print_open, lex_qname (dirOk_js hd0).1, hi _ (close_sepN d rest), lex_close d hd0, tk, tkArgs]
    have ih := lex_nest ds _ _ (fun x hx => hd x (List.mem_cons_of_mem _ hx)) step
    intro rest hr
    have := ih rest hr
    simp only [List.reverse_cons, List.flatMap_append, List.flatMap_cons, List.flatMap_nil, List.append_nil,
      printPieces_append, List.append_assoc] at this ⊢
    simpa [plainPrint] using this

theorem lex_base (b : DataBase) (h : ImgBase b) : LxN (printPieces (basePieces b)) (tk (plainBase b)) := by
  intro rest hr
  cases b with
  | empty => simp [basePieces, printPieces_cons, printPieces_nil, Piece.print, plainBase, tk, tkProps]
  | all =>
    simp only [basePieces, printPieces_cons, printPieces_nil, Piece.print, List.append_nil]
    exact lex_ident (g := sOptData) ⟨_, _, rfl, rfl, by decide⟩ hr.sep1
  | expr e => exact LxN.render h rest hr

theorem kv_sepN : ∀ (ps : List (Bytes × JsExpr)) (rest : Bytes), SepN (printPieces (kvPieces ps false) ++ 125 :: rest)
  | [], rest => by simp +decide [kvPieces, printPieces_nil]
  | (k, v) :: r, rest => by simp +decide [kvPieces, printPieces_append, printPieces_cons, Piece.print]

/-- `k: v, k: v}` -/
theorem lex_kv : ∀ (ps : List (Bytes × JsExpr)) (first : Bool) (rest : Bytes), ImgParams ps →
    jsLex (printPieces (kvPieces ps first) ++ 125 :: rest) =
      pre (if first then tkProps (plainProps ps) else tkPropsTail (plainProps ps)) (jsLex rest)
  | [], first, rest, _ => by
    simp only [kvPieces, printPieces_nil, List.nil_append, lex_rbrace]
    cases first <;> rfl
  | (k, v) :: r, first, rest, h => by
    simp only [ImgParams] at h
    cases first <;>
      simp +decide [kvPieces, printPieces_append, printPieces_cons, Piece.print, lex_ident h.1,
        LxN.render h.2.1 _ (kv_sepN r rest), lex_kv r false rest h.2.2, plainProps, tkProps, tkPropsTail]

theorem qname_augment : QName sAugment := qOkB_ok (by decide)

theorem lex_data (b : DataBase) (ps : List (Bytes × JsExpr)) (hb : ImgBase b) (hp : ImgParams ps) :
    LxN (printPieces (dataPieces b ps)) (tk (plainData b ps)) := by
  cases ps with
  | nil => exact lex_base b hb
  | cons p r =>
    intro rest _
    have hq := lex_qname qname_augment (c := 40) rfl
    simp only [sAugment, List.cons_append, List.nil_append] at hq
    simp +decide [dataPieces, plainData, printPieces_append, printPieces_cons, printPieces_nil, Piece.print, hq,
      (lex_base b hb).cons, lex_kv (p :: r) true _ hp, tk, tkArgs, tkArgsTail, sAugment]

@[simp] theorem lex_emptyStr (rest : Bytes) : jsLex (39 :: 39 :: rest) = pre [.str []] (jsLex rest) := by
  have := lex_str (s := []) ValidUtf8.nil rest
  exact this

theorem tkSs_snoc : ∀ (ss : PStmts) (s : PS), tkSs (PStmts.snoc ss s) = tkSs ss ++ tkS s
  | .nil, s => by simp [PStmts.snoc, tkSs]
  | .cons a r, s => by simp [PStmts.snoc, tkSs, tkSs_snoc r s]

theorem tkCs_plainLabels : ∀ (ls : List PE) (body : PStmts) (rest : PClauses), ls ≠ [] →
    tkCs (plainLabels ls body rest) = ls.flatMap (fun l => Tok.id b!"case" :: (tk l ++ [.p b!":"])) ++ (tkSs body ++ tkCs rest)
  | [], _, _, h => absurd rfl h
  | [l], body, rest, _ => by simp [plainLabels, tkCs]
  | l :: l' :: ls, body, rest, _ => by
    have := tkCs_plainLabels (l' :: ls) body rest (by simp)
    simp only [plainLabels, tkCs, this, tkSs]
    simp

theorem lex_labels (f : JsExpr → List Piece) (ind : Nat)
    (hf : ∀ j, printPieces (f j) = spaces ind ++ (99 :: 97 :: 115 :: 101 :: 32 :: (printPieces (render j) ++ [58, 10]))) :
    ∀ (labels : List JsExpr) (rest : Bytes), ImgList labels →
    jsLex (printPieces (labels.flatMap f) ++ rest) =
      pre ((labels.map plain).flatMap (fun l => Tok.id b!"case" :: (tk l ++ [.p b!":"]))) (jsLex rest)
  | [], rest, _ => by simp [printPieces_nil]
  | l :: r, rest, h => by
    simp only [ImgList] at h
    have ih := lex_labels f ind hf r rest h.2
    simp only [List.flatMap_cons, printPieces_append, hf, List.append_assoc, List.cons_append, List.nil_append, List.map_cons]
    simp +decide [lex_id_cons, (LxN.render h.1).cons, ih]

theorem renderConds_notFirst (ind : Nat) (conds : JsConds) (h : conds ≠ .nil) :
    printPieces (renderConds false ind conds false) = b!" else " ++ printPieces (renderConds false ind conds true) := by
  cases conds with
  | nil => exact absurd rfl h
  | els body => simp [renderConds, printPieces_append, printPieces_cons, printPieces_nil, Piece.print]
  | cons c body rest => simp [renderConds, printPieces_append, printPieces_cons, Piece.print]

theorem plainConds_more (c : JsExpr) (body : JsStmts) {rest : JsConds} (h : rest ≠ .nil) :
    plainConds (.cons c body rest) = .ifElse (plain c) (.block (plainSs body)) (plainConds rest) := by
  cases rest with
  | nil => exact absurd rfl h
  | els e => simp [plainConds]
  | cons c' b' r' => simp [plainConds]

/-- the tokens of the `case n:` clauses of a plural switch -/
def tkPlural : JsPlural → List Tok
  | .nil => []
  | .cons v body rest =>
    .id b!"case" :: (tk (pnum v) ++ .p b!":" :: (tkSs (plainSs body) ++ (.id b!"break" :: .p b!";" :: tkPlural rest)))

theorem tkCs_plainPlural : ∀ (cases : JsPlural) (d : PStmts),
    tkCs (plainPlural cases d) = tkPlural cases ++ (.id b!"default" :: .p b!":" :: tkSs d)
  | .nil, d => by simp [plainPlural, tkCs, tkPlural]
  | .cons v body rest, d => by simp [plainPlural, tkCs, tkPlural, tkCs_plainPlural rest d, tkSs_snoc, tkS]

@[simp] theorem lex_hyphenStr (rest : Bytes) : jsLex (39 :: 45 :: 39 :: rest) = pre [.str b!"-"] (jsLex rest) :=
  lex_str (s := b!"-") (ascii_valid _ (by decide)) rest

/-- `lexs` for statements (`renderStmt false`: the first argument is `es6`) -/
macro "lexss" : tactic => `(tactic| simp only [renderStmt, renderStmts, renderCases, renderConds, renderPlural, printPieces_append,
  printPieces_cons, printPieces_nil, Piece.print, List.append_assoc, List.cons_append, List.nil_append, List.append_nil,
  Bool.false_eq_true, if_false, if_true])

mutual
  theorem lexS : ∀ (s : JsStmt) (ind : Nat), ImgS s → ∀ (rest : Bytes),
      jsLex (printPieces (renderStmt false ind s) ++ rest) = pre (tkS (plainS s)) (jsLex rest)
    | .appendLit b t, ind, h, rest => by
      simp only [ImgS] at h
      lexss
      simp +decide [lex_ident h.1.1, lex_str h.2, plainS, tkS, tk, AsgOp.tok]
    | .append b e ds, ind, h, rest => by
      simp only [ImgS] at h
      have hn := (lex_nest ds _ _ h.2.2 (LxN.render h.2.1)).cons (c := 59) rfl (by decide) (10 :: rest)
      simp only [List.append_assoc] at hn
      lexss
      simp +decide [lex_ident h.1.1, hn, plainS, tkS, tk, AsgOp.tok]
    | .var x e, ind, h, rest => by
      simp only [ImgS] at h
      lexss
      simp +decide [lex_id_cons, lex_ident h.1.1, (LxN.render h.2.1).cons, plainS, tkS, tkDecls, tkDeclsTail]
    | .varEmpty x, ind, h, rest => by
      simp only [ImgS] at h
      lexss
      simp +decide [lex_id_cons, lex_ident h.1, plainS, tkS, tkDecls, tkDeclsTail, tk]
    | .ifs conds, ind, h, rest => by
      simp only [ImgS] at h
      have hne : conds ≠ .nil := by intro e; rw [e] at h; exact h.1
      lexss
      simp [lexConds conds ind h.2 hne, plainS]
    | .varLength x l, ind, h, rest => by
      simp only [ImgS] at h
      have hl := lex_dot_ident (k := sLength) ⟨_, _, rfl, rfl, by decide⟩ (rest := 59 :: 10 :: rest) (sep1_cons rfl _)
      simp only [List.cons_append, List.nil_append, sLength] at hl
      lexss
      simp +decide [lex_id_cons, lex_ident h.1.1, lex_ident h.2.1, hl, plainS, tkS, tkDecls, tkDeclsTail, tk, sLength]
    | .varIndex x l i, ind, h, rest => by
      simp only [ImgS] at h
      lexss
      simp +decide [lex_id_cons, lex_ident h.1.1, lex_ident h.2.1.1, lex_ident h.2.2.1, plainS, tkS, tkDecls, tkDeclsTail, tk]
    | .forUp i lim body, ind, h, rest => by
      simp only [ImgS] at h
      lexss
      simp +decide [lex_id_cons, lex_ident h.1.1, lex_ident h.2.1.1, lex_num0, lexSs body (ind + 1) h.2.2, plainS, tkS, tkDecls,
        tkDeclsTail, tkExprs, tkExprsTail, tk, BinOp.sym]
    | .ifPos lim body els, ind, h, rest => by
      simp only [ImgS] at h
      lexss
      simp +decide [lex_id_cons, lex_ident h.1.1, lex_num0, lexSs body (ind + 1) h.2.1, lexSs els (ind + 1) h.2.2, plainS, tkS, tk, BinOp.sym]
    | .forStep i lim step idx init body, ind, h, rest => by
      simp only [ImgS] at h
      lexss
      simp +decide [lex_id_cons, lex_ident h.1.1, lex_ident h.2.1.1, lex_ident h.2.2.1.1, lex_ident h.2.2.2.1.1,
        (LxN.render h.2.2.2.2.1).cons, lex_num0, lexSs body (ind + 1) h.2.2.2.2.2, plainS, tkS, tkDecls, tkDeclsTail, tkExprs,
        tkExprsTail, tk, BinOp.sym, AsgOp.tok]
    | .switchS e cases, ind, h, rest => by
      simp only [ImgS] at h
      lexss
      simp +decide [lex_id_cons, (LxN.render h.1).cons, lexCases cases (ind + 1) h.2, plainS, tkS]
    | .call b callee base params, ind, h, rest => by
      simp only [ImgS] at h
      lexss
      simp +decide [lex_id_cons, lex_ident h.1.1, lex_qname h.2.1, (lex_data base params h.2.2.1 h.2.2.2).cons, plainS, tkS,
        tk, tkArgs, tkArgsTail, AsgOp.tok]
    | .ifZero idx body, ind, h, rest => by
      simp only [ImgS] at h
      lexss
      simp +decide [lex_id_cons, lex_ident h.1.1, lex_num0, lexSs body (ind + 1) h.2, plainS, tkS, tk, BinOp.sym]
    | .pluralS e cases dflt, ind, h, rest => by
      simp only [ImgS] at h
      lexss
      simp +decide [lex_id_cons, (LxN.render h.1).cons, lexPlural cases (ind + 1) h.2.1, lexSs dflt (ind + 1 + 1) h.2.2, plainS, tkS,
        tkCs_plainPlural]
    | .appendCss b e, ind, h, rest => by
      simp only [ImgS] at h
      lexss
      simp +decide [lex_ident h.1.1, (LxN.render h.2.1).cons, plainS, tkS, tk, AsgOp.tok, BinOp.sym]
    | .debuggerS, ind, _, rest => by
      lexss
      simp +decide [lex_id_cons, plainS, tkS]
  theorem lexSs : ∀ (ss : JsStmts) (ind : Nat), ImgSs ss → ∀ (rest : Bytes),
      jsLex (printPieces (renderStmts false ind ss) ++ rest) = pre (tkSs (plainSs ss)) (jsLex rest)
    | .nil, ind, _, rest => by simp [renderStmts, printPieces_nil, plainSs, tkSs]
    | .cons s r, ind, h, rest => by
      simp only [ImgSs] at h
      lexss
      simp [lexS s ind h.1, lexSs r ind h.2, plainSs, tkSs]
  theorem lexConds : ∀ (conds : JsConds) (ind : Nat), ImgConds conds → conds ≠ .nil → ∀ (rest : Bytes),
      jsLex (printPieces (renderConds false ind conds true) ++ rest) = pre (tkS (plainConds conds)) (jsLex rest)
    | .nil, _, _, hne, _ => absurd rfl hne
    | .els body, ind, h, _, rest => by
      simp only [ImgConds] at h
      lexss
      simp [lexSs body (ind + 1) h, plainConds, tkS]
    | .cons c body rest', ind, h, _, rest => by
      simp only [ImgConds] at h
      by_cases hr : rest' = .nil
      · subst hr
        lexss
        simp +decide [lex_id_cons, (LxN.render h.1).cons, lexSs body (ind + 1) h.2.1, plainConds, tkS]
      · have ih := lexConds rest' ind h.2.2 hr rest
        have hf := renderConds_notFirst ind rest' hr
        simp only [renderConds, printPieces_append, printPieces_cons, Piece.print, List.append_assoc,
          List.cons_append, List.nil_append, if_true, hf]
        simp +decide [lex_id_cons, (LxN.render h.1).cons, lexSs body (ind + 1) h.2.1, ih, plainConds_more c body hr, tkS]
  theorem lexCases : ∀ (cases : JsCases) (ind : Nat), ImgCases cases → ∀ (rest : Bytes),
      jsLex (printPieces (renderCases false ind cases) ++ rest) = pre (tkCs (plainCases cases)) (jsLex rest)
    | .nil, ind, _, rest => by simp [renderCases, printPieces_nil, plainCases, tkCs]
    | .dflt body, ind, h, rest => by
      simp only [ImgCases] at h
      lexss
      simp +decide [lex_id_cons, lexSs body (ind + 1) h, plainCases, tkCs, tkSs_snoc, tkS]
    | .cons labels body rest', ind, h, rest => by
      simp only [ImgCases] at h
      simp only [renderCases, printPieces_append, List.append_assoc]
      rw [lex_labels _ ind (fun j => by simp [printPieces_append, printPieces_cons, printPieces_nil, Piece.print]) labels _ h.2.1,
        lexSs body (ind + 1) h.2.2.1]
      simp only [printPieces_cons, printPieces_nil, Piece.print, List.append_assoc, List.cons_append, List.nil_append,
        List.append_nil]
      simp +decide [lex_id_cons, lexCases rest' ind h.2.2.2, plainCases, tkCs_plainLabels _ _ _ (by simpa using h.1 : labels.map plain ≠ []), tkSs_snoc, tkS]
  theorem lexPlural : ∀ (cases : JsPlural) (ind : Nat), ImgPlural cases → ∀ (rest : Bytes),
      jsLex (printPieces (renderPlural false ind cases) ++ rest) = pre (tkPlural cases) (jsLex rest)
    | .nil, ind, _, rest => by simp [renderPlural, printPieces_nil, tkPlural]
    | .cons v body rest', ind, h, rest => by
      simp only [ImgPlural] at h
      lexss
      simp +decide [lex_id_cons, lex_int v (sepN_cons (c := 58) rfl (by decide) _), lexSs body (ind + 1) h.1, lexPlural rest' ind h.2, tkPlural]
end

/-- the tree of a dotted name is one (`isQ`): well-levelled, a reference, beginning with a name (`isQ_wf`, `isQ_head`) -/
theorem isQ_plainQ {q : Bytes} (h : QName q) : isQ (plainQ q) = true := by
  obtain ⟨g, segs, e, _, hr, _⟩ := h
  have : ∀ (segs : List Bytes) (acc : PE), isQ acc = true → isQ (segs.foldl PE.member acc) = true := by
    intro segs
    induction segs with
    | nil => exact fun _ h => h
    | cons s r ih => exact fun acc h => ih _ (by simpa [isQ] using h)
  unfold plainQ
  rw [e]
  exact this segs _ (by simp [isQ, hr])

theorem wfArgs_plainArgs : ∀ xs : List PE, (∀ x ∈ xs, Wf x) → WfArgs (plainArgs xs)
  | [], _ => trivial
  | x :: r, h => by
    simp only [plainArgs, WfArgs]
    exact ⟨h x (List.mem_cons_self ..), wfArgs_plainArgs r (fun y hy => h y (List.mem_cons_of_mem _ hy))⟩

theorem wf_dirArgs (d : Directive) (h : DirOk d) : ∀ x ∈ dirArgs d, Wf x := by
  intro x hx
  unfold dirArgs at hx
  rcases List.mem_append.mp hx with hx | hx
  · simp only [List.mem_map, List.mem_filterMap] at hx
    obtain ⟨j, ⟨a, ha, hl⟩, rfl⟩ := hx
    exact plain_wf j (h.2 a ha j hl)
  · split at hx
    · simp only [List.mem_singleton] at hx; subst hx; trivial
    · cases hx

theorem wf_plainPrint : ∀ (ds : List Directive) (P : PE), (∀ d ∈ ds, DirOk d) → Wf P → Wf (plainPrint P ds)
  | [], P, _, w => w
  | d :: ds, P, h, w => by
    have hd := h d (List.mem_cons_self ..)
    have hq := isQ_wf _ (isQ_plainQ (dirOk_js hd).1)
    simp only [plainPrint, List.foldl_cons]
    apply wf_plainPrint ds _ (fun x hx => h x (List.mem_cons_of_mem _ hx))
    simp only [Wf, WfArgs]
    exact ⟨hq.1, hq.2.1, w, wfArgs_plainArgs _ (wf_dirArgs d hd)⟩

theorem wf_plainBase (b : DataBase) (h : ImgBase b) : Wf (plainBase b) := by
  cases b with
  | empty => simp [plainBase, Wf, WfProps]
  | all => simp only [plainBase, Wf]; decide
  | expr e => exact plain_wf e h

theorem wf_plainProps : ∀ ps : List (Bytes × JsExpr), ImgParams ps → WfProps (plainProps ps)
  | [], _ => trivial
  | (k, v) :: r, h => by
    simp only [ImgParams] at h
    simp only [plainProps, WfProps]
    exact ⟨plain_wf v h.2.1, wf_plainProps r h.2.2⟩

theorem wf_plainData (b : DataBase) (ps : List (Bytes × JsExpr)) (hb : ImgBase b) (hp : ImgParams ps) :
    Wf (plainData b ps) := by
  cases ps with
  | nil => exact wf_plainBase b hb
  | cons p r =>
    have hq := isQ_wf _ (isQ_plainQ qname_augment)
    simp only [plainData, Wf, WfArgs]
    exact ⟨hq.1, hq.2.1, wf_plainBase b hb, wf_plainProps _ hp, trivial⟩

theorem wfSs_snoc : ∀ (ss : PStmts) (s : PS), WfSs ss → WfS s → WfSs (PStmts.snoc ss s)
  | .nil, s, _, w => by simp only [PStmts.snoc, WfSs]; exact ⟨w, trivial⟩
  | .cons a r, s, h, w => by
    simp only [WfSs] at h
    simp only [PStmts.snoc, WfSs]
    exact ⟨h.1, wfSs_snoc r s h.2 w⟩

theorem wfCs_plainLabels : ∀ (ls : List PE) (body : PStmts) (rest : PClauses), (∀ l ∈ ls, Wf l) → WfSs body → WfCs rest →
    WfCs (plainLabels ls body rest)
  | [], _, _, _, _, wr => wr
  | [l], body, rest, hl, wb, wr => by
    simp only [plainLabels, WfCs]
    exact ⟨hl l (List.mem_cons_self ..), wb, wr⟩
  | l :: l' :: ls, body, rest, hl, wb, wr => by
    simp only [plainLabels, WfCs]
    exact ⟨hl l (List.mem_cons_self ..), trivial,
      wfCs_plainLabels (l' :: ls) body rest (fun x hx => hl x (List.mem_cons_of_mem _ hx)) wb wr⟩

theorem imgList_wf : ∀ (ls : List JsExpr), ImgList ls → ∀ l ∈ ls.map plain, Wf l
  | [], _, l, hl => by cases hl
  | e :: r, h, l, hl => by
    simp only [ImgList] at h
    simp only [List.map_cons, List.mem_cons] at hl
    rcases hl with rfl | hl
    · exact plain_wf e h.1
    · exact imgList_wf r h.2 l hl

theorem wf_ident {g : Bytes} (h : JsName g) : Wf (.ident g) := by simp only [Wf]; exact h.2.1

mutual
  theorem wfS_plain : ∀ (s : JsStmt), ImgS s → WfS (plainS s)
    | .appendLit b t, h => by
      simp only [ImgS] at h
      simp only [plainS, WfS, Wf, isRef, headTok]
      exact ⟨⟨h.1.2.1, trivial, trivial⟩, by simp⟩
    | .append b e ds, h => by
      simp only [ImgS] at h
      simp only [plainS, WfS, Wf, isRef, headTok]
      exact ⟨⟨h.1.2.1, trivial, wf_plainPrint ds _ h.2.2 (plain_wf e h.2.1)⟩, by simp⟩
    | .var x e, h => by
      simp only [ImgS] at h
      simp only [plainS, WfS, WfDecls]
      exact ⟨by simp, h.1.2.1, plain_wf e h.2.1, trivial⟩
    | .varEmpty x, h => by
      simp only [ImgS] at h
      simp only [plainS, WfS, WfDecls, Wf]
      exact ⟨by simp, h.2.1, trivial, trivial⟩
    | .ifs conds, h => by
      simp only [ImgS] at h
      simp only [plainS]
      exact wfConds_plain conds h.2
    | .varLength x l, h => by
      simp only [ImgS] at h
      simp only [plainS, WfS, WfDecls, Wf, PE.lvl]
      exact ⟨by simp, h.1.2.1, ⟨h.2.2.1, trivial⟩, trivial⟩
    | .varIndex x l i, h => by
      simp only [ImgS] at h
      simp only [plainS, WfS, WfDecls, Wf, PE.lvl]
      exact ⟨by simp, h.1.2.1, ⟨h.2.1.2.1, trivial, h.2.2.2.1⟩, trivial⟩
    | .forUp i lim body, h => by
      simp only [ImgS] at h
      simp only [plainS, WfS, WfDecls, WfExprs, Wf, PE.lvl, BinOp.lvl]
      exact ⟨by simp, ⟨h.1.2.1, trivial, trivial⟩, ⟨h.1.2.1, h.2.1.2.1, by omega, by omega⟩, by simp, ⟨⟨h.1.2.1, trivial⟩, trivial⟩,
        wfSs_plain body h.2.2⟩
    | .ifPos lim body els, h => by
      simp only [ImgS] at h
      simp only [plainS, WfS, Wf, PE.lvl, BinOp.lvl, closed]
      exact ⟨⟨h.1.2.1, trivial, by omega, by omega⟩, wfSs_plain body h.2.1, trivial, wfSs_plain els h.2.2⟩
    | .forStep i lim step idx init body, h => by
      simp only [ImgS] at h
      simp only [plainS, WfS, WfDecls, WfExprs, Wf, PE.lvl, BinOp.lvl, isRef]
      exact ⟨by simp, ⟨h.1.2.1, plain_wf init h.2.2.2.2.1, h.2.2.2.1.2.1, trivial, trivial⟩,
        ⟨h.1.2.1, h.2.1.2.1, by omega, by omega⟩, by simp,
        ⟨⟨h.1.2.1, trivial, h.2.2.1.2.1⟩, ⟨h.2.2.2.1.2.1, trivial⟩, trivial⟩, wfSs_plain body h.2.2.2.2.2⟩
    | .switchS e cases, h => by
      simp only [ImgS] at h
      simp only [plainS, WfS]
      exact ⟨plain_wf e h.1, wfCases_plain cases h.2⟩
    | .call b callee base params, h => by
      simp only [ImgS] at h
      have hq := isQ_wf _ (isQ_plainQ h.2.1)
      simp only [plainS, WfS, Wf, WfArgs, isRef, headTok]
      refine ⟨⟨h.1.2.1, trivial, hq.1, hq.2.1, wf_plainData base params h.2.2.1 h.2.2.2, by decide, by decide, trivial⟩, by simp⟩
    | .ifZero idx body, h => by
      simp only [ImgS] at h
      simp only [plainS, WfS, Wf, PE.lvl, BinOp.lvl]
      exact ⟨⟨h.1.2.1, trivial, by omega, by omega⟩, wfSs_plain body h.2⟩
    | .pluralS e cases dflt, h => by
      simp only [ImgS] at h
      simp only [plainS, WfS]
      exact ⟨plain_wf e h.1, wfPlural_plain cases _ h.2.1 (wfSs_plain dflt h.2.2)⟩
    | .appendCss b e, h => by
      simp only [ImgS] at h
      have := lvl_plain1 e h.2.2
      simp only [plainS, WfS, Wf, isRef, headTok, BinOp.lvl]
      exact ⟨⟨h.1.2.1, trivial, plain_wf e h.2.1, trivial, by omega, by simp [PE.lvl]⟩, by simp⟩
    | .debuggerS, _ => trivial
  theorem wfSs_plain : ∀ (ss : JsStmts), ImgSs ss → WfSs (plainSs ss)
    | .nil, _ => trivial
    | .cons s r, h => by
      simp only [ImgSs] at h
      simp only [plainSs, WfSs]
      exact ⟨wfS_plain s h.1, wfSs_plain r h.2⟩
  theorem wfConds_plain : ∀ (conds : JsConds), ImgConds conds → WfS (plainConds conds)
    | .nil, _ => by simp [plainConds, WfS, WfSs]
    | .els body, h => by
      simp only [ImgConds] at h
      simp only [plainConds, WfS]
      exact wfSs_plain body h
    | .cons c body rest, h => by
      simp only [ImgConds] at h
      by_cases hr : rest = .nil
      · subst hr
        simp only [plainConds, WfS]
        exact ⟨plain_wf c h.1, wfSs_plain body h.2.1⟩
      · rw [plainConds_more c body hr]
        simp only [WfS, closed]
        exact ⟨plain_wf c h.1, wfSs_plain body h.2.1, trivial, wfConds_plain rest h.2.2⟩
  theorem wfCases_plain : ∀ (cases : JsCases), ImgCases cases → WfCs (plainCases cases)
    | .nil, _ => trivial
    | .dflt body, h => by
      simp only [ImgCases] at h
      simp only [plainCases, WfCs]
      exact ⟨wfSs_snoc _ _ (wfSs_plain body h) trivial, trivial⟩
    | .cons labels body rest, h => by
      simp only [ImgCases] at h
      simp only [plainCases]
      exact wfCs_plainLabels _ _ _ (imgList_wf labels h.2.1) (wfSs_snoc _ _ (wfSs_plain body h.2.2.1) trivial)
        (wfCases_plain rest h.2.2.2)
  theorem wfPlural_plain : ∀ (cases : JsPlural) (d : PStmts), ImgPlural cases → WfSs d → WfCs (plainPlural cases d)
    | .nil, d, _, hd => by simp only [plainPlural, WfCs]; exact ⟨hd, trivial⟩
    | .cons v body rest, d, h, hd => by
      simp only [ImgPlural] at h
      simp only [plainPlural, WfCs]
      exact ⟨wf_pnum v, wfSs_snoc _ _ (wfSs_plain body h.1) trivial, wfPlural_plain rest d h.2 hd⟩
end

/-! ## the canonical form

  Two statements of Spec/JsStmt have the text of another one, with the same meaning: `buf += 't';` is `appendLit`
  and `append` of a string literal without directives; `var x = '';` is `varEmpty` and `var` of the empty string
  (`var x = l.length;` is `varLength` only: `var` of `length` of a variable is `var x = (l).length;`).  The grammar
  reads the special form.  And the literal arguments of a directive are read back as source expressions AT POSITION 0,
  `|truncate:n` with the `true` the generator writes for it.  `canonS` maps a statement to what is read; `canon_exec`
  (below): it has the same meaning. -/

def canonArgs (d : Directive) : List Expr :=
  (d.args.filterMap litAst).filterMap litOf ++ (if d.name == sTruncate && d.args.length == 1 then [.bool 0 true] else [])

def canonDir (d : Directive) : Directive := ⟨0, d.name, canonArgs d⟩

mutual
  def canonS : JsStmt → JsStmt
    | .append b e ds =>
      (match e, ds with
        | .str t, [] => .appendLit b t
        | e, ds => .append b e (ds.map canonDir))
    | .var x e =>
      (match e with
        | .str [] => .varEmpty x
        | e => .var x e)
    | .ifs conds => .ifs (canonConds conds)
    | .forUp i lim body => .forUp i lim (canonSs body)
    | .ifPos lim body els => .ifPos lim (canonSs body) (canonSs els)
    | .forStep i lim step idx init body => .forStep i lim step idx init (canonSs body)
    | .switchS e cases => .switchS e (canonCases cases)
    | .ifZero idx body => .ifZero idx (canonSs body)
    | .pluralS e cases dflt => .pluralS e (canonPlural cases) (canonSs dflt)
    | s => s
  def canonSs : JsStmts → JsStmts
    | .nil => .nil
    | .cons s r => .cons (canonS s) (canonSs r)
  def canonConds : JsConds → JsConds
    | .nil => .nil
    | .els body => .els (canonSs body)
    | .cons c body rest => .cons c (canonSs body) (canonConds rest)
  def canonCases : JsCases → JsCases
    | .nil => .nil
    | .dflt body => .dflt (canonSs body)
    | .cons labels body rest => .cons labels (canonSs body) (canonCases rest)
  def canonPlural : JsPlural → JsPlural
    | .nil => .nil
    | .cons v body rest => .cons v (canonSs body) (canonPlural rest)
end

theorem qnameOf_foldl : ∀ (segs : List Bytes) (acc : PE) (q : Bytes), qnameOf acc = some q →
    qnameOf (segs.foldl PE.member acc) = some (q ++ segs.flatMap (46 :: ·))
  | [], acc, q, h => by simpa using h
  | s :: r, acc, q, h => by
    have := qnameOf_foldl r (.member acc s) (q ++ 46 :: s) (by simp [qnameOf, h])
    simpa using this

theorem qnameOf_plainQ {q : Bytes} (h : QName q) : qnameOf (plainQ q) = some q := by
  obtain ⟨g, segs, e, _, _, _⟩ := h
  have hj := qSplit_join q g segs e
  unfold plainQ
  rw [e, qnameOf_foldl segs (.ident g) g rfl, ← hj]

theorem litOf_litAst {a : Expr} {j : JsExpr} (h : litAst a = some j) : ∃ e, litOf j = some e := by
  cases a <;> simp [litAst] at h <;> subst h <;> exact ⟨_, rfl⟩

theorem readLits_plainArgs : ∀ (js : List JsExpr), (∀ j ∈ js, Img j) → (∀ j ∈ js, ∃ e, litOf j = some e) →
    readLits (plainArgs (js.map plain)) = some (js.filterMap litOf)
  | [], _, _ => rfl
  | j :: r, hi, hl => by
    obtain ⟨e, he⟩ := hl j (List.mem_cons_self ..)
    have ih := readLits_plainArgs r (fun x hx => hi x (List.mem_cons_of_mem _ hx)) (fun x hx => hl x (List.mem_cons_of_mem _ hx))
    simp only [List.map_cons, plainArgs, readLits, read_plain j (hi j (List.mem_cons_self ..)), ih, he, List.filterMap_cons]

theorem readLits_append : ∀ (xs ys : List PE) (a b : List Expr), readLits (plainArgs xs) = some a →
    readLits (plainArgs ys) = some b → readLits (plainArgs (xs ++ ys)) = some (a ++ b)
  | [], ys, a, b, ha, hb => by simp only [plainArgs, readLits, Option.some.injEq] at ha; subst ha; simpa using hb
  | x :: r, ys, a, b, ha, hb => by
    simp only [List.cons_append, plainArgs, readLits] at ha ⊢
    cases hx : readE x with
    | none => simp [hx] at ha
    | some jx =>
      cases hr : readLits (plainArgs r) with
      | none => simp [hx, hr] at ha
      | some es =>
        simp only [hx, hr] at ha
        cases hl : litOf jx with
        | none => simp [hl] at ha
        | some e =>
          simp only [hl, Option.some.injEq] at ha
          subst ha
          simp [readLits_append r ys es b hr hb, hl]

theorem readLits_dirArgs (d : Directive) (h : DirOk d) : readLits (plainArgs (dirArgs d)) = some (canonArgs d) := by
  unfold dirArgs canonArgs
  apply readLits_append
  · apply readLits_plainArgs
    · intro j hj
      simp only [List.mem_filterMap] at hj
      obtain ⟨a, ha, hl⟩ := hj
      exact h.2 a ha j hl
    · intro j hj
      simp only [List.mem_filterMap] at hj
      obtain ⟨a, _, hl⟩ := hj
      exact litOf_litAst hl
  · split <;> rfl

theorem pnum_not_call (i : Int) (f : PE) (as : PArgs) : pnum i ≠ .call f as := by
  unfold pnum; split <;> (intro e; cases e)

/-- the calls of the expression fragment are no directives -/
theorem plain_call_nodir (e : JsExpr) (f a : PE) (as : PArgs) (h : plain e = .call f (.cons a as)) :
    dirOfCallee f = none := by
  cases e with
  | num i => exact absurd h (pnum_not_call i f _)
  | call1 g _ => cases g <;> cases h <;> decide
  | call2 g _ _ => cases g <;> cases h <;> decide
  | _ => cases h

theorem readPrint_nodir {p : PE} {jp : JsExpr} (hr : readE p = some jp)
    (h : ∀ f a as, p = .call f (.cons a as) → dirOfCallee f = none) :
    readPrint p = some (jp, []) := by
  unfold readPrint
  split
  · rename_i f a as
    rw [h f a as rfl]
    simp [hr]
  · simp [hr]

theorem readPrint_foldl : ∀ (ds : List Directive) (P : PE) (e0 : JsExpr) (ds0 : List Directive), (∀ d ∈ ds, DirOk d) →
    readPrint P = some (e0, ds0) → readPrint (plainPrint P ds) = some (e0, ds0 ++ ds.map canonDir)
  | [], P, e0, ds0, _, hp => by simpa [plainPrint] using hp
  | d :: ds, P, e0, ds0, h, hp => by
    have hd := h d (List.mem_cons_self ..)
    obtain ⟨hq, hj⟩ := dirOk_js hd
    have step : readPrint (.call (plainQ (directiveJsName d.name)) (.cons P (plainArgs (dirArgs d)))) =
        some (e0, ds0 ++ [canonDir d]) := by
      unfold readPrint
      simp only [dirOfCallee, qnameOf_plainQ hq, hj, hp, readLits_dirArgs d hd, canonDir]
    have := readPrint_foldl ds _ e0 (ds0 ++ [canonDir d]) (fun x hx => h x (List.mem_cons_of_mem _ hx)) step
    simpa [plainPrint] using this

theorem readPrint_plainPrint (e : JsExpr) (he : Img e) (ds : List Directive) (h : ∀ d ∈ ds, DirOk d) :
    readPrint (plainPrint (plain e) ds) = some (e, ds.map canonDir) := by
  have := readPrint_foldl ds (plain e) e [] h (readPrint_nodir (read_plain e he) (plain_call_nodir e))
  simpa using this

theorem plain_str (e : JsExpr) (t : Bytes) (h : plain e = .str t) : e = .str t := by
  cases e with
  | num i => unfold plain pnum at h; split at h <;> cases h
  | str s => simp only [plain, PE.str.injEq] at h; rw [h]
  | call1 f _ => cases f <;> cases h
  | call2 f _ _ => cases f <;> cases h
  | _ => cases h

theorem plain_ident (e : JsExpr) (g : Bytes) (h : plain e = .ident g) : e = .local g ∨ (e = .ijData ∧ g = sOptIj) := by
  cases e with
  | num i => unfold plain pnum at h; split at h <;> cases h
  | «local» g' => simp only [plain, PE.ident.injEq] at h; rw [h]; exact Or.inl rfl
  | ijData => simp only [plain, PE.ident.injEq] at h; exact Or.inr ⟨rfl, h.symm⟩
  | call1 f _ => cases f <;> cases h
  | call2 f _ _ => cases f <;> cases h
  | _ => cases h

theorem plain_not_obj (e : JsExpr) (ps : PProps) (h : plain e = .obj ps) : False := by
  cases e with
  | num i => unfold plain pnum at h; split at h <;> cases h
  | call1 f _ => cases f <;> cases h
  | call2 f _ _ => cases f <;> cases h
  | _ => cases h

theorem plain_not_call_obj (e : JsExpr) (f base : PE) (ps : PProps) (h : plain e = .call f (.cons base (.cons (.obj ps) .nil))) :
    False := by
  cases e with
  | num i => unfold plain pnum at h; split at h <;> cases h
  | call1 f _ => cases f <;> cases h
  | call2 g _ b' =>
    cases g <;> simp only [plain, PE.call.injEq, PArgs.cons.injEq] at h <;> exact plain_not_obj b' _ h.2.2.1
  | _ => cases h

theorem dirArgs_not_ident (d : Directive) : ∀ x ∈ dirArgs d, ∀ g, x ≠ .ident g := by
  intro x hx g e
  subst e
  unfold dirArgs at hx
  rcases List.mem_append.mp hx with hx | hx
  · simp only [List.mem_map, List.mem_filterMap] at hx
    obtain ⟨j, ⟨a, _, hl⟩, hj⟩ := hx
    rcases plain_ident j g hj with rfl | ⟨rfl, _⟩ <;> (cases a <;> simp [litAst] at hl)
  · split at hx
    · simp at hx
    · cases hx

theorem plainPrint_concat (P : PE) (ds : List Directive) (d : Directive) :
    plainPrint P (ds ++ [d]) = .call (plainQ (directiveJsName d.name)) (.cons (plainPrint P ds) (plainArgs (dirArgs d))) := by
  simp [plainPrint, List.foldl_append]

theorem canon_append (b : Bytes) {e : JsExpr} {ds : List Directive} (h : ds = [] → ∀ t, e ≠ .str t) :
    canonS (.append b e ds) = .append b e (ds.map canonDir) := by
  unfold canonS
  split
  · exact absurd rfl (h rfl _)
  · rfl

/-- `buf += dN(…(e)…);`.  No directive, or a last one; in each case the branches of `readAppend` for the other forms of
    `buf += …;` are excluded by the shape of the tree, or by what `readE` reads it as. -/
theorem readAppend_plain (b : Bytes) (e : JsExpr) (he : Img e) (ds : List Directive) (hd : ∀ d ∈ ds, DirOk d) :
    readAppend b (plainPrint (plain e) ds) = some (canonS (.append b e ds)) := by
  have hp := readPrint_plainPrint e he ds hd
  rcases List.eq_nil_or_concat ds with rfl | ⟨ds', d, rfl⟩
  · simp only [plainPrint, List.foldl_nil] at hp ⊢
    unfold readAppend
    split
    · rename_i t h
      cases plain_str e t h
      rfl
    · rename_i x t h
      exact (plain_not_bin e _ _ _ h).elim
    · rename_i f d a1 a2 h
      have hr := read_of_plain he h
      rw [readE] at hr <;> first | cases hr | (intros; rename_i e; cases e)
    · rename_i h1 _ _
      rw [hp, canon_append b (fun _ t ht => h1 t (by rw [ht]; rfl))]
  · rw [List.concat_eq_append] at hp ⊢
    rw [plainPrint_concat] at hp ⊢
    unfold readAppend
    split
    · rename_i h; cases h
    · rename_i h; cases h
    · rename_i f d0 a1 a2 h
      simp only [PE.call.injEq, PArgs.cons.injEq] at h
      cases hx : dirArgs d with
      | nil => rw [hx] at h; cases h.2.2
      | cons x r =>
        rw [hx] at h
        simp only [plainArgs, PArgs.cons.injEq] at h
        exact absurd h.2.2.1 (dirArgs_not_ident d x (by rw [hx]; exact List.mem_cons_self) a1)
    · rw [hp, canon_append b (fun h => absurd h (by simp))]

/-- `l.length` in the tree of an expression of the image: `opt_data.length`, `opt_ijData.length`, or the key `length`
    of the variable `l` (the length FUNCTION on a variable is written `(l).length`) -/
theorem plain_member_length (e : JsExpr) (l : Bytes) (h : plain e = .member (.ident l) sLength) :
    l = sOptData ∨ l = sOptIj ∨ e = .member (.local l) sLength := by
  cases e with
  | optData k' =>
    simp only [plain, PE.member.injEq, PE.ident.injEq] at h
    exact Or.inl h.1.symm
  | member x k' =>
    simp only [plain, PE.member.injEq] at h
    obtain ⟨hx, rfl⟩ := h
    rcases plain_ident x l hx with rfl | ⟨rfl, rfl⟩
    · exact Or.inr (Or.inr rfl)
    · exact Or.inr (Or.inl rfl)
  | num i => unfold plain pnum at h; split at h <;> cases h
  | call1 f _ => cases f <;> cases h
  | call2 f _ _ => cases f <;> cases h
  | _ => cases h

theorem canon_var (x : Bytes) {e : JsExpr} (h : plain e ≠ .str []) : canonS (.var x e) = .var x e := by
  unfold canonS
  split
  · exact absurd rfl h
  · rfl

/-- `var x = e;` -/
theorem readVar_plain (x : Bytes) (e : JsExpr) (he : Img e) (hnl : ∀ l, e ≠ .member (.local l) sLength) :
    readVar x (plain e) = some (canonS (.var x e)) := by
  unfold readVar
  split
  · rename_i h
    cases plain_str e [] h
    rfl
  · rename_i l k h
    rw [canon_var x (by rw [h]; exact PE.noConfusion)]
    split
    · rename_i hk
      simp only [Bool.and_eq_true, beq_iff_eq, bne_iff_ne, ne_eq] at hk
      obtain ⟨⟨rfl, h1⟩, h2⟩ := hk
      rcases plain_member_length e l h with rfl | rfl | rfl
      · exact absurd rfl h1
      · exact absurd rfl h2
      · exact absurd rfl (hnl l)
    · rw [read_of_plain he h]
  · rename_i l i h
    have hr := read_of_plain he h
    rw [readE] at hr <;> first | cases hr | (intros; rename_i e; cases e)
  · rename_i h1 _ _
    rw [read_plain e he, canon_var x h1]

theorem isOptData_plain (e : JsExpr) (h : Img e) : isOptData (plain e) = false := by
  cases hp : plain e with
  | ident g =>
    rcases plain_ident e g hp with rfl | ⟨rfl, rfl⟩
    · simp only [Img] at h
      simp [isOptData, h.2.2.1]
    · decide
  | _ => rfl

theorem readBase_plain (b : DataBase) (h : ImgBase b) : readBase (plainBase b) = some b := by
  cases b with
  | empty => simp [plainBase, readBase]
  | all => simp [plainBase, readBase, isOptData]
  | expr e =>
    simp only [plainBase]
    unfold readBase
    split
    · rename_i hp; exact absurd hp (fun hp => plain_not_obj e _ hp)
    · simp [isOptData_plain e h, read_plain e h]

theorem readProps_plain : ∀ ps : List (Bytes × JsExpr), ImgParams ps → readProps (plainProps ps) = some ps
  | [], _ => rfl
  | (k, v) :: r, h => by
    simp only [ImgParams] at h
    simp [plainProps, readProps, read_plain v h.2.1, readProps_plain r h.2.2]

theorem plainBase_not_augment (b : DataBase) (f base : PE) (ps : PProps) :
    plainBase b ≠ .call f (.cons base (.cons (.obj ps) .nil)) := by
  cases b with
  | empty => intro h; cases h
  | all => intro h; cases h
  | expr e =>
    exact plain_not_call_obj e f base ps

theorem readData_plain (b : DataBase) (ps : List (Bytes × JsExpr)) (hb : ImgBase b) (hp : ImgParams ps) :
    readData (plainData b ps) = some (b, ps) := by
  cases ps with
  | nil =>
    simp only [plainData]
    unfold readData
    split
    · rename_i h; exact absurd h (plainBase_not_augment b _ _ _)
    · simp [readBase_plain b hb]
  | cons p r =>
    simp only [plainData]
    unfold readData
    simp [qnameOf_plainQ qname_augment, readBase_plain b hb, readProps_plain _ hp]

theorem snoc_ne_nil (ss : PStmts) (s : PS) : PStmts.snoc ss s ≠ .nil := by
  cases ss <;> (intro h; cases h)

theorem readCases_labels (B : PStmts) (R : PClauses) (b' : JsStmts) (r' : JsCases) (hB : B ≠ .nil)
    (hb : readBrk B = some b') (hr : readCases R = some r') :
    ∀ (labels : List JsExpr), labels ≠ [] → ImgList labels →
      readCases (plainLabels (labels.map plain) B R) = some (.cons labels b' r')
  | [], h, _ => absurd rfl h
  | [l], _, hi => by
    simp only [ImgList] at hi
    simp only [List.map_cons, List.map_nil, plainLabels]
    cases B with
    | nil => exact absurd rfl hB
    | cons s r =>
      rw [readCases] <;> first | (intro h; cases h; done) | skip
      simp [read_plain l hi.1, hb, hr]
  | l :: l' :: ls, _, hi => by
    simp only [ImgList] at hi
    have ih := readCases_labels B R b' r' hB hb hr (l' :: ls) (by simp) (by simp only [ImgList]; exact hi.2)
    simp only [List.map_cons, plainLabels] at ih ⊢
    rw [readCases]
    simp [read_plain l hi.1, ih]

theorem plainS_ne_brk_ret (s : JsStmt) : plainS s ≠ .brk ∧ ∀ e, plainS s ≠ .ret e := by
  cases s with
  | ifs conds =>
    simp only [plainS]
    cases conds with
    | nil => simp [plainConds]
    | els _ => simp [plainConds]
    | cons c b r => cases r <;> simp [plainConds]
  | _ => simp [plainS]

theorem jsName_ne {l : Bytes} (h : JsName l) : (l != sOptData) = true ∧ (l != sOptIj) = true := by
  simp [h.2.2.1, h.2.2.2]

/-- statements of the fragment are not closed by `break;` -/
theorem readBrk_none : ∀ (ss : JsStmts), readBrk (plainSs ss) = none
  | .nil => rfl
  | .cons s r => by
    simp only [plainSs]
    rw [readBrk]
    · simp [readBrk_none r]
    · intro hs
      exact absurd hs (plainS_ne_brk_ret s).1

/-- a plural switch (its `default:` clause is not closed by `break;`) is not read as an ordinary switch -/
theorem readCases_plural : ∀ (cases : JsPlural) (d : PStmts), readBrk d = none → readCases (plainPlural cases d) = none
  | .nil, d, hd => by simp [plainPlural, readCases, hd]
  | .cons v body rest, d, hd => by
    have ih := readCases_plural rest d hd
    simp only [plainPlural]
    cases hb : PStmts.snoc (plainSs body) .brk with
    | nil => exact absurd hb (snoc_ne_nil _ _)
    | cons s r =>
      rw [readCases] <;> first | (intro h; cases h; done) | skip
      simp [ih]

mutual
  theorem readS_plain : ∀ (s : JsStmt), ImgS s → readS (plainS s) = some (canonS s)
    | .appendLit b t, _ => by simp [plainS, readS, readAppend, canonS]
    | .append b e ds, h => by
      simp only [ImgS] at h
      simp only [plainS, readS]
      exact readAppend_plain b e h.2.1 ds h.2.2
    | .var x e, h => by
      simp only [ImgS] at h
      simp only [plainS, readS]
      exact readVar_plain x e h.2.1 h.2.2
    | .varEmpty x, _ => by simp [plainS, readS, readVar, canonS]
    | .ifs conds, h => by
      simp only [ImgS] at h
      cases conds with
      | nil => exact absurd h.1 (by simp)
      | els _ => exact absurd h.1 (by simp)
      | cons c body rest =>
        have hc := h.2
        simp only [ImgConds] at hc
        have hb := readSs_plain body hc.2.1
        simp only [plainS]
        -- the condition is no comparison: the statement is neither `ifZero` nor `ifPos`
        by_cases hr : rest = .nil
        · subst hr
          simp only [plainConds]
          rw [readS]
          · simp [read_plain c hc.1, hb, canonS, canonConds]
          · intro idx n hh
            exact plain_not_bin c _ _ _ hh
        · rw [plainConds_more c body hr, readS]
          · simp [read_plain c hc.1, hb, readElse_plain rest hc.2.2 hr, canonS, canonConds]
          · intro lim els' hh _
            exact plain_not_bin c _ _ _ hh
    | .varLength x l, h => by
      simp only [ImgS] at h
      simp [plainS, readS, readVar, (jsName_ne h.2).1, (jsName_ne h.2).2, canonS]
    | .varIndex x l i, _ => by simp [plainS, readS, readVar, canonS]
    | .forUp i lim body, h => by
      simp only [ImgS] at h
      simp [plainS, readS, readSs_plain body h.2.2, canonS]
    | .ifPos lim body els, h => by
      simp only [ImgS] at h
      simp [plainS, readS, readSs_plain body h.2.1, readSs_plain els h.2.2, canonS]
    | .forStep i lim step idx init body, h => by
      simp only [ImgS] at h
      simp [plainS, readS, read_plain init h.2.2.2.2.1, readSs_plain body h.2.2.2.2.2, canonS]
    | .switchS e cases, h => by
      simp only [ImgS] at h
      simp [plainS, readS, read_plain e h.1, readCases_plain cases h.2, canonS]
    | .call b callee base params, h => by
      simp only [ImgS] at h
      simp [plainS, readS, readAppend, qnameOf_plainQ h.2.1, readData_plain base params h.2.2.1 h.2.2.2, canonS]
    | .ifZero idx body, h => by
      simp only [ImgS] at h
      simp [plainS, readS, readSs_plain body h.2, canonS]
    | .pluralS e cases dflt, h => by
      simp only [ImgS] at h
      have hd := readSs_plain dflt h.2.2
      have hp := readPlural_plain cases (plainSs dflt) (canonSs dflt) h.2.1 hd
      have hn := readCases_plural cases (plainSs dflt) (readBrk_none dflt)
      simp [plainS, readS, read_plain e h.1, hn, hp, canonS]
    | .appendCss b e, h => by
      simp only [ImgS] at h
      simp [plainS, readS, readAppend, read_plain e h.2.1, canonS]
    | .debuggerS, _ => by simp [plainS, readS, canonS]
  theorem readSs_plain : ∀ (ss : JsStmts), ImgSs ss → readSs (plainSs ss) = some (canonSs ss)
    | .nil, _ => rfl
    | .cons s r, h => by
      simp only [ImgSs] at h
      simp [plainSs, readSs, readS_plain s h.1, readSs_plain r h.2, canonSs]
  theorem readElse_plain : ∀ (conds : JsConds), ImgConds conds → conds ≠ .nil →
      readElse (plainConds conds) = some (canonConds conds)
    | .nil, _, hne => absurd rfl hne
    | .els body, h, _ => by
      simp only [ImgConds] at h
      simp [plainConds, readElse, readSs_plain body h, canonConds]
    | .cons c body rest, h, _ => by
      simp only [ImgConds] at h
      by_cases hr : rest = .nil
      · subst hr
        simp [plainConds, readElse, read_plain c h.1, readSs_plain body h.2.1, canonConds]
      · rw [plainConds_more c body hr]
        simp [readElse, read_plain c h.1, readSs_plain body h.2.1, readElse_plain rest h.2.2 hr, canonConds]
  theorem readBrk_plain : ∀ (ss : JsStmts), ImgSs ss → readBrk (PStmts.snoc (plainSs ss) .brk) = some (canonSs ss)
    | .nil, _ => by simp [plainSs, PStmts.snoc, readBrk, canonSs]
    | .cons s r, h => by
      simp only [ImgSs] at h
      simp only [plainSs, PStmts.snoc]
      rw [readBrk]
      · simp [readS_plain s h.1, readBrk_plain r h.2, canonSs]
      · intro hs
        exact absurd hs (plainS_ne_brk_ret s).1
  theorem readCases_plain : ∀ (cases : JsCases), ImgCases cases → readCases (plainCases cases) = some (canonCases cases)
    | .nil, _ => rfl
    | .dflt body, h => by
      simp only [ImgCases] at h
      simp [plainCases, readCases, readBrk_plain body h, canonCases]
    | .cons labels body rest, h => by
      simp only [ImgCases] at h
      simp only [plainCases, canonCases]
      exact readCases_labels _ _ _ _ (snoc_ne_nil _ _) (readBrk_plain body h.2.2.1) (readCases_plain rest h.2.2.2) labels h.1 h.2.1
  theorem readPlural_plain : ∀ (cases : JsPlural) (d : PStmts) (jd : JsStmts), ImgPlural cases → readSs d = some jd →
      readPlural (plainPlural cases d) = some (canonPlural cases, jd)
    | .nil, d, jd, _, hd => by simp [plainPlural, readPlural, hd, canonPlural]
    | .cons v body rest, d, jd, h, hd => by
      simp only [ImgPlural] at h
      simp [plainPlural, readPlural, read_pnum, readBrk_plain body h.1, readPlural_plain rest d jd h.2 hd, canonPlural]
end

/-- the text of a statement list of the image, read by the grammar, is that statement list (in canonical form) -/
theorem jsparse_render_stmts (ss : JsStmts) (ind : Nat) (h : ImgSs ss) :
    jsParseStmts (printPieces (renderStmts false ind ss)) = some (canonSs ss) :=
  (jsParseStmts_of_lex (lex_whole (lexSs ss ind h [])) (wfSs_plain ss h)).trans (readSs_plain ss h)

section
open SoyVerif.Spec.JsStmt
open SoyVerif.Spec.JsSemRef (JVal JOut JEnv eval)
variable (F : Bytes → List Expr → JVal → JOut) (G : Callee) (fuel : Nat)

theorem applyCalls_canon (hF : ∀ d : Directive, F d.name (canonArgs d) = F d.name d.args) :
    ∀ (ds : List Directive) (o : JOut), applyCalls F (ds.map canonDir) o = applyCalls F ds o := by
  intro ds
  induction ds with
  | nil => intro o; rfl
  | cons d r ih =>
    intro o
    simp only [applyCalls, List.map_cons, List.foldl_cons, canonDir, hF d] at ih ⊢
    exact ih _

mutual
  theorem canon_execStmt (hF : ∀ d : Directive, F d.name (canonArgs d) = F d.name d.args) :
      ∀ (s : JsStmt) (env : JEnv), execStmt F G fuel (canonS s) env = execStmt F G fuel s env
    | .appendLit _ _, _ => by simp [canonS]
    | .append b e ds, env => by
      unfold canonS
      split
      · simp [execStmt, applyCalls, eval, withVal]
      · simp [execStmt, applyCalls_canon F hF]
    | .var x e, env => by
      unfold canonS
      split
      · simp [execStmt, eval, withVal]
      · rfl
    | .varEmpty _, _ => by simp [canonS]
    | .ifs conds, env => by simp [canonS, execStmt, canon_execConds hF conds env]
    | .varLength _ _, _ => by simp [canonS]
    | .varIndex _ _ _, _ => by simp [canonS]
    | .forUp i lim body, env => by
      have : execStmts F G fuel (canonSs body) = execStmts F G fuel body := funext (canon_execStmts hF body)
      simp [canonS, execStmt, this]
    | .ifPos lim body els, env => by
      simp [canonS, execStmt, canon_execStmts hF body env, canon_execStmts hF els env]
    | .forStep i lim step idx init body, env => by
      have : execStmts F G fuel (canonSs body) = execStmts F G fuel body := funext (canon_execStmts hF body)
      simp [canonS, execStmt, this]
    | .switchS e cases, env => by
      have : ∀ v, execCases F G fuel (canonCases cases) v env = execCases F G fuel cases v env :=
        fun v => canon_execCases hF cases v env
      simp [canonS, execStmt, this]
    | .call _ _ _ _, _ => by simp [canonS]
    | .ifZero idx body, env => by simp [canonS, execStmt, canon_execStmts hF body env]
    | .pluralS e cases dflt, env => by
      have h1 : ∀ i, execPlural F G fuel (canonPlural cases) i env = execPlural F G fuel cases i env :=
        fun i => canon_execPlural hF cases i env
      simp [canonS, execStmt, h1, canon_execStmts hF dflt env]
    | .appendCss _ _, _ => by simp [canonS]
    | .debuggerS, _ => by simp [canonS]
  theorem canon_execStmts (hF : ∀ d : Directive, F d.name (canonArgs d) = F d.name d.args) :
      ∀ (ss : JsStmts) (env : JEnv), execStmts F G fuel (canonSs ss) env = execStmts F G fuel ss env
    | .nil, _ => rfl
    | .cons s r, env => by
      have : ∀ env', execStmts F G fuel (canonSs r) env' = execStmts F G fuel r env' := canon_execStmts hF r
      simp [canonSs, execStmts, canon_execStmt hF s env, this]
  theorem canon_execConds (hF : ∀ d : Directive, F d.name (canonArgs d) = F d.name d.args) :
      ∀ (conds : JsConds) (env : JEnv), execConds F G fuel (canonConds conds) env = execConds F G fuel conds env
    | .nil, _ => rfl
    | .els body, env => by simp [canonConds, execConds, canon_execStmts hF body env]
    | .cons c body rest, env => by
      simp [canonConds, execConds, canon_execStmts hF body env, canon_execConds hF rest env]
  theorem canon_execCases (hF : ∀ d : Directive, F d.name (canonArgs d) = F d.name d.args) :
      ∀ (cases : JsCases) (v : JVal) (env : JEnv), execCases F G fuel (canonCases cases) v env = execCases F G fuel cases v env
    | .nil, _, _ => rfl
    | .dflt body, v, env => by simp [canonCases, execCases, canon_execStmts hF body env]
    | .cons labels body rest, v, env => by
      simp [canonCases, execCases, canon_execStmts hF body env, canon_execCases hF rest v env]
  theorem canon_execPlural (hF : ∀ d : Directive, F d.name (canonArgs d) = F d.name d.args) :
      ∀ (cases : JsPlural) (i : Int) (env : JEnv), execPlural F G fuel (canonPlural cases) i env = execPlural F G fuel cases i env
    | .nil, _, _ => rfl
    | .cons v body rest, i, env => by
      simp [canonPlural, execPlural, canon_execStmts hF body env, canon_execPlural hF rest i env]
end

/-- the canonical form of a statement list (what the grammar reads) runs exactly as the statement list — for every
    library-function oracle `F` that looks at the literal arguments of a directive only (not at their source positions,
    and reads `|truncate:n` as `|truncate:n,true`, which is what the generator writes) -/
theorem canon_exec (hF : ∀ d : Directive, F d.name (canonArgs d) = F d.name d.args) (ss : JsStmts) (env : JEnv) :
    execStmts F G fuel (canonSs ss) env = execStmts F G fuel ss env :=
  canon_execStmts F G fuel hF ss env

end

open SoyVerif.Props.C04f (renderFunc)

/-- `opt_data = opt_data || {};` -/
def optDefault : PS := .expr (.assign .set (.ident sOptData) (.bin .or (.ident sOptData) (.obj .nil)))

def plainBody (f : JsFunc) : PStmts :=
  if f.optional then
    .cons optDefault (.cons (.var [(sOutput, .str [])]) (PStmts.snoc (plainSs f.body) (.ret (.ident sOutput))))
  else .cons (.var [(sOutput, .str [])]) (PStmts.snoc (plainSs f.body) (.ret (.ident sOutput)))

def plainF (f : JsFunc) : PTop := .func (plainQ f.name) [sOptData, b!"opt_sb", sOptIj] (plainBody f)

def canonF (f : JsFunc) : JsFunc := ⟨f.name, f.optional, canonSs f.body⟩

def ImgF (f : JsFunc) : Prop := QName f.name ∧ ImgSs f.body

theorem lexF (f : JsFunc) (ind : Nat) (h : ImgF f) (rest : Bytes) :
    jsLex (printPieces (renderFunc false ind f) ++ rest) = pre (tkTop (plainF f)) (jsLex rest) := by
  unfold renderFunc
  cases hopt : f.optional <;>
    simp only [printPieces_append, printPieces_cons, printPieces_nil, Piece.print, SoyVerif.Model.JsGen.sigTail,
      List.append_assoc, List.cons_append, List.nil_append, List.append_nil, Bool.false_eq_true, if_false, if_true] <;>
    simp +decide [lex_id_cons, lex_qname h.1, lexSs f.body (ind + 1) h.2, plainF, plainBody, optDefault, hopt, tkTop, tkParams,
      tkParamsTail, tkS, tkDecls, tkDeclsTail, tk, tkProps, tkSs, tkSs_snoc, AsgOp.tok, BinOp.sym, sOptData, sOptIj,
      sOutput]

theorem wfF (f : JsFunc) (h : ImgF f) : WfTop (plainF f) := by
  have hb := wfSs_snoc _ (.ret (.ident sOutput)) (wfSs_plain f.body h.2) (by simp only [WfS, Wf]; decide)
  have hv : WfS (.var [(sOutput, .str [])]) := by simp only [WfS, WfDecls, Wf]; exact ⟨by simp, by decide, trivial, trivial⟩
  have ho : WfS optDefault := by
    simp only [optDefault, WfS, Wf, WfProps, isRef, PE.lvl, BinOp.lvl, headTok]
    exact ⟨⟨by decide, trivial, ⟨by decide, trivial, by omega, by omega⟩⟩, by simp⟩
  simp only [plainF, WfTop]
  refine ⟨isQ_plainQ h.1, by decide, ?_⟩
  unfold plainBody
  split
  · simp only [WfSs]; exact ⟨ho, hv, hb⟩
  · simp only [WfSs]; exact ⟨hv, hb⟩

theorem readRet_plain : ∀ (ss : JsStmts), ImgSs ss → readRet (PStmts.snoc (plainSs ss) (.ret (.ident sOutput))) = some (canonSs ss)
  | .nil, _ => by simp [plainSs, PStmts.snoc, readRet, canonSs]
  | .cons s r, h => by
    simp only [ImgSs] at h
    simp only [plainSs, PStmts.snoc]
    rw [readRet]
    · simp [readS_plain s h.1, readRet_plain r h.2, canonSs]
    · intro g hs
      exact absurd hs ((plainS_ne_brk_ret s).2 _)

theorem readF (f : JsFunc) (h : ImgF f) : readFunc (plainQ f.name) [sOptData, b!"opt_sb", sOptIj] (plainBody f) = some (canonF f) := by
  have hr := readRet_plain f.body h.2
  unfold readFunc plainBody
  simp only [qnameOf_plainQ h.1, sOptIj, beq_self_eq_true, if_true]
  cases hopt : f.optional
  · simp [readBody, hr, canonF, hopt]
  · simp [optDefault, readBody, hr, canonF, hopt]

theorem lexFs (ind : Nat) : ∀ (fs : List JsFunc), (∀ f ∈ fs, ImgF f) → ∀ (rest : Bytes),
    jsLex (printPieces (fs.flatMap (renderFunc false ind)) ++ rest) = pre (tkTops (fs.map plainF)) (jsLex rest)
  | [], _, rest => by simp [printPieces_nil, tkTops]
  | f :: r, h, rest => by
    simp only [List.flatMap_cons, printPieces_append, List.append_assoc, List.map_cons, tkTops]
    rw [lexF f ind (h f (List.mem_cons_self ..)), lexFs ind r (fun x hx => h x (List.mem_cons_of_mem _ hx)), pre_pre]

theorem readProgram_funcs : ∀ (fs : List JsFunc), (∀ f ∈ fs, ImgF f) → readProgram (fs.map plainF) = some (fs.map canonF)
  | [], _ => rfl
  | f :: r, h => by
    simp [readProgram, plainF, readF f (h f (List.mem_cons_self ..)),
      readProgram_funcs r (fun x hx => h x (List.mem_cons_of_mem _ hx))]

def NoDot (s : Bytes) : Prop := ∀ c ∈ s, c ≠ 46

theorem JsIdent.noDot {s : Bytes} (h : JsIdent s) : NoDot s := by
  obtain ⟨c, r, rfl, hc, hr⟩ := h
  intro x hx e
  subst e
  rcases List.mem_cons.mp hx with rfl | hx
  · revert hc; decide
  · have := hr _ hx; revert this; decide

theorem indexOfDot_noDot : ∀ (s t : Bytes), NoDot s →
    Model.JsGen.indexOfDot (s ++ t) = (Model.JsGen.indexOfDot t).map (· + s.length)
  | [], t, _ => by simp
  | c :: r, t, h => by
    have hc : (c == 46) = false := by simp [h c (List.mem_cons_self ..)]
    have ih := indexOfDot_noDot r t (fun x hx => h x (List.mem_cons_of_mem _ hx))
    simp only [List.cons_append, Model.JsGen.indexOfDot, hc, Bool.false_eq_true, if_false, ih, List.length_cons]
    cases Model.JsGen.indexOfDot t <;> simp
    omega

theorem indexOfDot_segs (r : List Bytes) :
    Model.JsGen.indexOfDot (r.flatMap (46 :: ·)) = (if r.isEmpty then none else some 0) := by
  cases r <;> simp [Model.JsGen.indexOfDot]

/-- the prefixes behind `pfx`: `pfx.s1`, `pfx.s1.s2`, … -/
def prefixesFrom (pfx : Bytes) : List Bytes → List Bytes
  | [] => []
  | s :: r => (pfx ++ 46 :: s) :: prefixesFrom (pfx ++ 46 :: s) r

theorem nsNext_at (name pfx s : Bytes) (r : List Bytes) (hn : name = pfx ++ (46 :: s ++ r.flatMap (46 :: ·))) (hs : NoDot s) :
    nsNext name pfx.length = (pfx ++ 46 :: s).length := by
  unfold nsNext
  have hd : name.drop (pfx.length + 1) = s ++ r.flatMap (46 :: ·) := by
    rw [hn, show pfx ++ (46 :: s ++ r.flatMap (46 :: ·)) = (pfx ++ [46]) ++ (s ++ r.flatMap (46 :: ·)) by simp]
    exact List.drop_left' (by simp)
  rw [hd, indexOfDot_noDot s _ hs, indexOfDot_segs]
  cases r with
  | nil => simp [hn]
  | cons s' r' => simp; omega

theorem nsPieces_from (ind : Nat) (name : Bytes) : ∀ (rest : List Bytes) (pfx : Bytes) (fuel : Nat),
    name = pfx ++ rest.flatMap (46 :: ·) → (∀ s ∈ rest, NoDot s) → rest.length < fuel →
    nsPieces ind name fuel pfx.length = (prefixesFrom pfx rest).flatMap (nsLine ind)
  | [], pfx, fuel, hn, _, hf => by
    cases fuel with
    | zero => omega
    | succ fuel => simp [nsPieces, prefixesFrom, hn]
  | s :: r, pfx, fuel, hn, hs, hf => by
    cases fuel with
    | zero => omega
    | succ fuel =>
      have hn' : name = pfx ++ (46 :: s ++ r.flatMap (46 :: ·)) := by simpa using hn
      have hnext := nsNext_at name pfx s r hn' (hs s (List.mem_cons_self ..))
      have hlt : pfx.length < name.length := by rw [hn']; simp
      have htake : name.take (pfx ++ 46 :: s).length = pfx ++ 46 :: s := by
        rw [hn', show pfx ++ (46 :: s ++ r.flatMap (46 :: ·)) = (pfx ++ 46 :: s) ++ r.flatMap (46 :: ·) by simp]
        exact List.take_left' rfl
      have ih := nsPieces_from ind name r (pfx ++ 46 :: s) fuel (by rw [hn']; simp)
        (fun x hx => hs x (List.mem_cons_of_mem _ hx)) (by simp at hf; omega)
      unfold nsPieces
      simp only [hlt, if_true, hnext, htake, ih, prefixesFrom, List.flatMap_cons]

/-- visitNamespace writes one declaration per prefix of the namespace -/
theorem nsPieces_eq (ind : Nat) (name g : Bytes) (segs : List Bytes) (hn : name = g ++ segs.flatMap (46 :: ·)) (hg : JsIdent g)
    (hs : ∀ s ∈ segs, NoDot s) :
    nsPieces ind name (name.length + 1) 0 = (g :: prefixesFrom g segs).flatMap (nsLine ind) := by
  obtain ⟨c, g', rfl, hc, hr⟩ := hg
  have hgd : NoDot (c :: g') := JsIdent.noDot ⟨c, g', rfl, hc, hr⟩
  have hg'd : NoDot g' := fun x hx => hgd x (List.mem_cons_of_mem _ hx)
  have hnext : nsNext name 0 = (c :: g').length := by
    unfold nsNext
    have hd : name.drop (0 + 1) = g' ++ segs.flatMap (46 :: ·) := by rw [hn]; simp
    rw [hd, indexOfDot_noDot g' _ hg'd, indexOfDot_segs]
    cases segs with
    | nil => simp [hn]
    | cons s' r' => simp
  have hlt : 0 < name.length := by rw [hn]; simp
  have htake : name.take (c :: g').length = c :: g' := by rw [hn]; exact List.take_left' rfl
  have hcount : segs.length < name.length := by
    have : ∀ l : List Bytes, l.length ≤ (l.flatMap (46 :: ·)).length := by
      intro l
      induction l with
      | nil => simp
      | cons s r ih => simp only [List.flatMap_cons, List.length_append, List.length_cons]; omega
    have := this segs
    rw [hn]
    simp only [List.length_append, List.length_cons]
    omega
  have hb := nsPieces_from ind name segs (c :: g') name.length hn hs hcount
  show nsPieces ind name (name.length + 1) 0 = _
  unfold nsPieces
  simp only [hlt, if_true, hnext, htake, hb, List.flatMap_cons]

def sUndefined : Bytes := b!"undefined"

/-- `if (typeof a.b == 'undefined') { a.b = {}; }` / `if (typeof a == 'undefined') { var a = {}; }` -/
def nsDecl (p : Bytes) : PS :=
  .ifS (.bin .eq (.unary .typeof (plainQ p)) (.str sUndefined))
    (.block (.cons (if p.contains 46 then .expr (.assign .set (plainQ p) (.obj .nil)) else .var [(p, .obj .nil)]) .nil))

theorem lex_undefined (rest : Bytes) :
    jsLex (39 :: 117 :: 110 :: 100 :: 101 :: 102 :: 105 :: 110 :: 101 :: 100 :: 39 :: rest) = pre [.str sUndefined] (jsLex rest) :=
  lex_str (ascii_valid sUndefined (by decide)) rest

theorem qSplit_of_join : ∀ (segs : List Bytes) (g : Bytes), NoDot g → (∀ s ∈ segs, NoDot s) →
    qSplit (g ++ segs.flatMap (46 :: ·)) = g :: segs
  | segs, c :: g', hg, hs => by
    have hc : (c == 46) = false := by simp [hg c (List.mem_cons_self ..)]
    have ih := qSplit_of_join segs g' (fun x hx => hg x (List.mem_cons_of_mem _ hx)) hs
    simp [qSplit, hc, ih]
  | [], [], _, _ => rfl
  | s :: r, [], _, hs => by
    have ih := qSplit_of_join r s (hs s (List.mem_cons_self ..)) (fun x hx => hs x (List.mem_cons_of_mem _ hx))
    simp [qSplit, ih]
termination_by segs g => (segs.length, g.length)

theorem qSplit_noDot (p : Bytes) (h : NoDot p) : qSplit p = [p] := by
  simpa using qSplit_of_join [] p h (fun _ h => nomatch h)

theorem lex_nsLine (ind : Nat) (p : Bytes) (hp : QName p) (rest : Bytes) :
    jsLex (printPieces (nsLine ind p) ++ rest) = pre (tkS (nsDecl p)) (jsLex rest) := by
  by_cases hm : (46 : UInt8) ∈ p
  · have hd : p.contains 46 = true := by simp [hm]
    simp only [nsLine, hd, printPieces_cons, printPieces_nil, Piece.print, List.append_assoc, List.cons_append,
      List.nil_append, List.append_nil, if_true]
    simp +decide [lex_id_cons, lex_qname hp, lex_undefined, nsDecl, hm, tkS, tkSs, tk, tkProps, UnOp.tok, BinOp.sym, AsgOp.tok]
  · have hd : p.contains 46 = false := by simp [hm]
    have hplain : plainQ p = .ident p := by unfold plainQ; rw [qSplit_noDot p (fun c hc e => hm (e ▸ hc))]; rfl
    simp only [nsLine, hd, printPieces_cons, printPieces_nil, Piece.print, List.append_assoc, List.cons_append,
      List.nil_append, List.append_nil, Bool.false_eq_true, if_false]
    simp +decide [lex_id_cons, lex_qname hp, lex_undefined, nsDecl, hm, tkS, tkSs, tk, tkProps, tkDecls, tkDeclsTail, UnOp.tok,
      BinOp.sym, hplain]

theorem wf_nsDecl (p : Bytes) (hp : QName p) : WfTop (.stmt (nsDecl p)) := by
  have hq := isQ_wf _ (isQ_plainQ hp)
  obtain ⟨g', hh, _⟩ := isQ_head _ (isQ_plainQ hp)
  simp only [WfTop]
  refine ⟨?_, b!"if", _, by simp only [nsDecl, tkS]; rfl, by decide⟩
  simp only [nsDecl, WfS, Wf, BinOp.lvl]
  refine ⟨⟨⟨hq.1, by rw [hq.2.1]; omega⟩, trivial, by simp [PE.lvl], by simp [PE.lvl]⟩, ?_⟩
  by_cases hm : (46 : UInt8) ∈ p
  · have hd : p.contains 46 = true := by simp [hm]
    simp only [hd, if_true, WfSs, WfS, Wf, WfProps, headTok]
    exact ⟨⟨⟨hq.1, hq.2.2, trivial⟩, by rw [hh]; simp⟩, trivial⟩
  · have hd : p.contains 46 = false := by simp [hm]
    have hplain : plainQ p = .ident p := by unfold plainQ; rw [qSplit_noDot p (fun c hc e => hm (e ▸ hc))]; rfl
    have hw := hq.1
    rw [hplain] at hw
    simp only [Wf] at hw
    simp only [hd, Bool.false_eq_true, if_false, WfSs, WfS, WfDecls, Wf, WfProps]
    exact ⟨⟨by simp, hw, trivial, trivial⟩, trivial⟩

theorem isNsDecl_nsDecl (p : Bytes) (hp : QName p) : isNsDecl (nsDecl p) = true := by
  have hq := qnameOf_plainQ hp
  by_cases hm : (46 : UInt8) ∈ p
  · simp [nsDecl, isNsDecl, hm, hq, sUndefined]
  · simp [nsDecl, isNsDecl, hm, hq, sUndefined]

/-- `noLineSep (47 :: body)`: `lexOne` looks for U+2028 / U+2029 in the text behind the FIRST `/` -/
theorem lex_comment (body rest : Bytes) (h1 : ∀ c ∈ body, isEol c = false) (h2 : noLineSep (47 :: body) = true) :
    jsLex (47 :: 47 :: (body ++ 10 :: rest)) = jsLex rest := by
  obtain ⟨e1, e2⟩ := SoyVerif.Lemmas.NatDigits.takeWhile_sep (fun b => !isEol b) (47 :: body) (10 :: rest)
    (by
      intro b hb
      rcases List.mem_cons.mp hb with rfl | hb
      · rfl
      · simp [h1 b hb])
    (by intro c r e; cases e; rfl)
  have : lexOne (47 :: 47 :: (body ++ 10 :: rest)) = some (none, 10 :: rest) := by
    rw [lexOne]
    simp only [List.cons_append] at e1 e2
    simp only [show isWs 47 = false from rfl, Bool.false_eq_true, if_false, beq_self_eq_true, if_true, e1, e2, h2,
      List.take_succ_cons, List.take_zero, Bool.and_self]
  rw [lex_skip this, lex_nl]

theorem noLineSep_dot : ∀ (f : Bytes), noLineSep (f ++ [46]) = noLineSep f
  | [] => rfl
  | [c] => by simp [noLineSep, isLineSep]
  | [c, d] => by simp [noLineSep, isLineSep]
  | c :: d :: e :: r => by
    have ih := noLineSep_dot (d :: e :: r)
    simp only [List.cons_append] at ih ⊢
    simp only [noLineSep] at ih ⊢
    rw [ih]
    simp [isLineSep]

theorem lex_header (fname : Bytes) (hc : SoyVerif.Lemmas.JsGenTop.CommentSafe fname) (rest : Bytes) :
    jsLex (printPieces (headerPieces fname) ++ rest) = jsLex rest := by
  have hl1 := lex_comment (b!" This file was automatically generated from " ++ (fname ++ [46]))
    (47 :: 47 :: (b!" Please don't edit this file by hand." ++ 10 :: 10 :: rest))
    (by
      intro c hc'
      rcases List.mem_append.mp hc' with h | h
      · have : ∀ x ∈ (b!" This file was automatically generated from " : Bytes), isEol x = false := by decide
        exact this c h
      · rcases List.mem_append.mp h with h | h
        · have := hc.1 c h
          simp [isEol, this.1, this.2]
        · simp only [List.mem_singleton] at h; subst h; rfl)
    (by
      rw [show (47 : UInt8) :: (b!" This file was automatically generated from " ++ (fname ++ [46])) =
        (47 :: b!" This file was automatically generated from ") ++ (fname ++ [46]) from rfl,
        SoyVerif.Lemmas.JsEscapeB.noLineSep_of_noE2 _ _ (by decide), noLineSep_dot]
      exact hc.2)
  have hl2 := lex_comment b!" Please don't edit this file by hand." (10 :: rest) (by decide) (by decide)
  simp only [headerPieces, spaces, printPieces_cons, printPieces_nil, Piece.print, List.append_assoc, List.cons_append,
    List.nil_append, List.append_nil] at hl1 hl2 ⊢
  rw [hl1, hl2, lex_nl]

theorem prefixes_form (g : Bytes) : ∀ (rest done : List Bytes) (x : Bytes),
    x ∈ prefixesFrom (g ++ done.flatMap (46 :: ·)) rest → ∃ k, x = g ++ (done ++ rest.take k).flatMap (46 :: ·)
  | [], _, _, h => by cases h
  | s :: r, done, x, h => by
    simp only [prefixesFrom, List.mem_cons] at h
    rcases h with rfl | h
    · exact ⟨1, by simp⟩
    · have hpre : g ++ done.flatMap (46 :: ·) ++ 46 :: s = g ++ (done ++ [s]).flatMap (46 :: ·) := by simp
      rw [hpre] at h
      obtain ⟨k, hk⟩ := prefixes_form g r (done ++ [s]) x h
      exact ⟨k + 1, by rw [hk]; simp⟩

theorem prefixes_qname {name g : Bytes} {segs : List Bytes} (he : qSplit name = g :: segs) (hg : JsIdent g)
    (hr : isReserved g = false) (hs : ∀ s ∈ segs, JsIdent s) : ∀ x ∈ g :: prefixesFrom g segs, QName x := by
  intro x hx
  have hform : ∃ k, x = g ++ (segs.take k).flatMap (46 :: ·) := by
    rcases List.mem_cons.mp hx with rfl | hx
    · exact ⟨0, by simp⟩
    · have := prefixes_form g segs [] x (by simpa using hx)
      simpa using this
  obtain ⟨k, rfl⟩ := hform
  have hsub : ∀ s ∈ segs.take k, JsIdent s := fun s h => hs s (List.mem_of_mem_take h)
  exact ⟨g, segs.take k, qSplit_of_join _ g (JsIdent.noDot hg) (fun s h => JsIdent.noDot (hsub s h)), hg, hr, hsub⟩

theorem tkTops_append : ∀ (a b : List PTop), tkTops (a ++ b) = tkTops a ++ tkTops b
  | [], b => rfl
  | x :: r, b => by simp [tkTops, tkTops_append r b]

theorem lex_nsLines (ind : Nat) : ∀ (ps : List Bytes), (∀ p ∈ ps, QName p) → ∀ (rest : Bytes),
    jsLex (printPieces (ps.flatMap (nsLine ind)) ++ rest) = pre (tkTops (ps.map fun p => .stmt (nsDecl p))) (jsLex rest)
  | [], _, rest => by simp [printPieces_nil, tkTops]
  | p :: r, h, rest => by
    simp only [List.flatMap_cons, printPieces_append, List.append_assoc, List.map_cons, tkTops, tkTop]
    rw [lex_nsLine ind p (h p (List.mem_cons_self ..)), lex_nsLines ind r (fun x hx => h x (List.mem_cons_of_mem _ hx)), pre_pre]

theorem readProgram_ns : ∀ (ps : List Bytes) (xs : List PTop), (∀ p ∈ ps, QName p) →
    readProgram (ps.map (fun p => .stmt (nsDecl p)) ++ xs) = readProgram xs
  | [], _, _ => rfl
  | p :: r, xs, h => by
    simp [readProgram, isNsDecl_nsDecl p (h p (List.mem_cons_self ..)),
      readProgram_ns r xs (fun x hx => h x (List.mem_cons_of_mem _ hx))]

/-- a program — declarations of namespaces, then functions of the image — is read as its functions (in canonical form) -/
theorem jsparse_program (ind : Nat) (qs : List Bytes) (fs : List JsFunc) (hq : ∀ p ∈ qs, QName p) (hf : ∀ f ∈ fs, ImgF f) :
    jsParseFile (printPieces (qs.flatMap (nsLine ind) ++ fs.flatMap (renderFunc false ind))) = some (fs.map canonF) := by
  have hl : jsLex (printPieces (qs.flatMap (nsLine ind) ++ fs.flatMap (renderFunc false ind))) =
      some (tkTops (qs.map (fun p => .stmt (nsDecl p)) ++ fs.map plainF)) := by
    rw [printPieces_append, lex_nsLines ind qs hq, lex_whole (lexFs ind fs hf []), tkTops_append]
    rfl
  have hw : ∀ x ∈ qs.map (fun p => PTop.stmt (nsDecl p)) ++ fs.map plainF, WfTop x := by
    simp only [List.mem_append, List.mem_map]
    rintro x (⟨q, hq', rfl⟩ | ⟨f, hf', rfl⟩)
    · exact wf_nsDecl q (hq q hq')
    · exact wfF f (hf f hf')
  rw [jsParseFile_of_lex hl hw, readProgram_ns _ _ hq]
  exact readProgram_funcs fs hf

/-- the text of a function of the image, read by the grammar as a program, is that function (in canonical form) -/
theorem jsparse_render_func (f : JsFunc) (ind : Nat) (h : ImgF f) :
    jsParseFile (printPieces (renderFunc false ind f)) = some [canonF f] := by
  simpa using jsparse_program ind [] [f] (by simp) (by simpa using h)

theorem jsparse_render_funcs (fs : List JsFunc) (h : ∀ f ∈ fs, ImgF f) :
    jsParseFile (printPieces (fs.flatMap (renderFunc false 0))) = some (fs.map canonF) := by
  simpa using jsparse_program 0 [] fs (by simp) h

section
open SoyVerif.Model SoyVerif.Model.JsGen
open SoyVerif.Props.C04d (toCmds At walkCmds_renders)
open SoyVerif.Props.C04f (toFile visitSoyFile_renders)
open SoyVerif.Props.C04c (Globals GlobalsAre)
variable [Globals] (sk : List Bytes → List Bytes) (o : Options) [GlobalsAre o]

/-- from every state at the right indentation, buffer, autoescape mode and scope, the generator model (ES5
    formatter, no message bundle) writes for a command list of the fragment a text that the grammar reads as exactly
    the statement list `toCmds` translates it to (Props/C04d: the AST whose semantics is the subject of the C04
    theorems), in canonical form -/
theorem gen_stmts_parse (ho : o.messages = none) (h5 : isEs6 o = false) (ae : Autoescape) (cs : CmdList) (buf : Bytes)
    (sc : Scope) (r : JsStmts × Scope) (h : toCmds ae buf cs sc = some r) (hi : ImgSs r.1) (ind : Nat) (s : St)
    (hs : At ind buf ae sc s) :
    ∃ ps s', walkCmds sk o cs s = .ok ((), ps, s') ∧ jsParseStmts (printPieces ps) = some (canonSs r.1) := by
  obtain ⟨s', hw, _⟩ := walkCmds_renders sk o ae ho cs buf sc r h ind s hs
  rw [h5] at hw
  exact ⟨_, s', hw, jsparse_render_stmts r.1 ind hi⟩

/-- the text the generator model writes for a file of the fragment ends with a text that the grammar reads, as a program,
    as the functions `toFile` translates the file to (Props/C04fFile), in canonical form.  Of what stands before it (`pre`:
    the two comment lines and the namespace declarations) the statement says nothing; `gen_text_parses` reads the whole
    text. -/
theorem gen_funcs_parse (ho : o.messages = none) (h5 : isEs6 o = false) (f : SoyFile) (r : List JsFunc × Scope)
    (h : toFile f = some r) (hi : ∀ g ∈ r.1, ImgF g) :
    ∃ pre fs s', visitSoyFile sk o f initState = .ok ((), pre ++ fs, s') ∧
      jsParseFile (printPieces fs) = some (r.1.map canonF) := by
  obtain ⟨pre, s', hw, _⟩ := visitSoyFile_renders sk o ho f r h
  rw [h5] at hw
  exact ⟨pre, _, s', hw, jsparse_render_funcs r.1 hi⟩

end

section
open SoyVerif.Model SoyVerif.Model.JsGen
open SoyVerif.Props.C04f (toFile)
open SoyVerif.Props.C04c (Globals GlobalsAre)
variable [Globals]

/-- the text the generator model (ES5 formatter, no message bundle) writes for a file of the fragment — the two
    comment lines, the declarations of the namespace's prefixes, the functions — is read by the grammar, as a program,
    as exactly the functions `toFile` translates the file to (Props/C04f: the ASTs whose semantics the registry theorems
    of C04 are about), in canonical form.  The namespace is a dotted name, the functions are in the image; the file's
    name is ANY byte string (visitSoyFile replaces its line terminators: `commentName_safe`). -/
theorem gen_text_parses (sk : List Bytes → List Bytes) (o : Options) [GlobalsAre o] (ho : o.messages = none) (h5 : isEs6 o = false)
    (f : SoyFile) (r : List JsFunc × Scope) (h : toFile f = some r) (hi : ∀ g ∈ r.1, ImgF g)
    (hn : ∀ p name ae rest, f.body = .namespace p name ae :: rest → QName name) :
    ∃ ps s', visitSoyFile sk o f initState = .ok ((), ps, s') ∧ jsParseFile (printPieces ps) = some (r.1.map canonF) := by
  obtain ⟨p, name, ae', rest, s', hbody, hw, _⟩ := file_renders sk o ho f r h
  rw [h5] at hw
  refine ⟨_, s', hw, ?_⟩
  obtain ⟨g, segs, he, hg, hr, hs⟩ := hn p name ae' rest hbody
  have hc : ∀ x, jsParseFile (printPieces (headerPieces (commentName f.name) ++ x)) = jsParseFile (printPieces x) := fun x => by
    simp only [jsParseFile, printPieces_append, lex_header _ (SoyVerif.Lemmas.JsGenTop.commentName_safe f.name)]
  rw [hc, nsPieces_eq 0 name g segs (qSplit_join name g segs he) hg (fun s h => JsIdent.noDot (hs s h))]
  exact jsparse_program 0 _ r.1 (prefixes_qname he hg hr hs) hi

end

/-! # instances (the hypotheses are satisfiable; the reader rejects what is no JavaScript) -/

section examples

theorem jsName_of {g : Bytes} (h : (identB g && !isReserved g && g != sOptData && g != sOptIj) = true) : JsName g := by
  simp only [Bool.and_eq_true, Bool.not_eq_true', bne_iff_ne, ne_eq] at h
  exact ⟨identB_ok h.1.1.1, h.1.1.2, h.1.2, h.2⟩

/-- `((opt_data.x) != null ? opt_data.x : y$1.k[0])` -/
def exE : JsExpr := .nonNullElse (.optData b!"x") (.optData b!"x") (.index (.member (.local b!"y$1") b!"k") 0)

theorem exE_img : Img exE := by
  simp only [exE, Img, lv]
  exact ⟨identB_ok (by decide), identB_ok (by decide),
    ⟨jsName_of (by decide), trivial, identB_ok (by decide), by decide⟩, trivial, by decide⟩

example : jsParseExpr (printPieces (render exE)) = some exE := jsparse_render_expr exE exE_img
example : printPieces (render exE) = b!"((opt_data.x) != null ? opt_data.x : y$1.k[0])" := by decide

/-- `output += soy.$$escapeHtml(soy.$$truncate(opt_data.s,5,true));`, an `if` chain, a loop, a call -/
def exSs : JsStmts :=
  .cons (.append b!"output" (.optData b!"s") [⟨7, b!"truncate", [.int 9 5]⟩, ⟨0, b!"escapeHtml", []⟩])
  (.cons (.ifs (.cons (.bin .lt (.optData b!"n") (.num 3)) (.cons (.appendLit b!"output" b!"a<b") .nil)
      (.els (.cons (.var b!"v$1" (.neg (.num 2))) .nil))))
  (.cons (.forUp b!"i$2" b!"n$2" (.cons (.varIndex b!"x$2" b!"l$2" b!"i$2") .nil))
  (.cons (.call b!"output" b!"ns.sub.u" .all [(b!"k", .str b!"v")]) .nil)))

theorem exSs_img : ImgSs exSs := by
  simp only [exSs, ImgSs, ImgS, ImgConds, ImgBase, ImgParams, Img, lv]
  refine ⟨⟨jsName_of (by decide), identB_ok (by decide), ?_⟩, ⟨trivial, ⟨identB_ok (by decide), trivial⟩,
      ⟨⟨jsName_of (by decide), ?_⟩, trivial⟩, ⟨⟨jsName_of (by decide), ⟨trivial, by decide⟩, fun l h => by cases h⟩, trivial⟩⟩,
    ⟨jsName_of (by decide), jsName_of (by decide), ⟨jsName_of (by decide), jsName_of (by decide), jsName_of (by decide)⟩, trivial⟩,
    ⟨jsName_of (by decide), qOkB_ok (by decide), trivial, identB_ok (by decide), ?_, trivial⟩, trivial⟩
  · intro d hd
    simp only [List.mem_cons, List.mem_nil_iff, or_false] at hd
    rcases hd with rfl | rfl
    · refine ⟨⟨⟨b!"truncate", b!"soy.$$truncate", false⟩, by simp [Gen.jsDirectives], rfl, by decide⟩, ?_⟩
      intro a ha j hj
      simp only [List.mem_singleton] at ha
      subst ha
      simp only [litAst, Option.some.injEq] at hj
      subst hj
      trivial
    · exact ⟨⟨⟨b!"escapeHtml", b!"soy.$$escapeHtml", true⟩, by simp [Gen.jsDirectives], rfl, by decide⟩, fun a ha => by cases ha⟩
  · exact ascii_valid _ (by decide)
  · exact ascii_valid _ (by decide)

example : jsParseStmts (printPieces (renderStmts false 1 exSs)) = some (canonSs exSs) := jsparse_render_stmts exSs 1 exSs_img

/-- the canonical form changed the positions of the directives and spelled out the `true` of `|truncate:5`; nothing else -/
example : canonSs exSs =
    .cons (.append b!"output" (.optData b!"s") [⟨0, b!"truncate", [.int 0 5, .bool 0 true]⟩, ⟨0, b!"escapeHtml", []⟩])
    (.cons (.ifs (.cons (.bin .lt (.optData b!"n") (.num 3)) (.cons (.appendLit b!"output" b!"a<b") .nil)
        (.els (.cons (.var b!"v$1" (.neg (.num 2))) .nil))))
    (.cons (.forUp b!"i$2" b!"n$2" (.cons (.varIndex b!"x$2" b!"l$2" b!"i$2") .nil))
    (.cons (.call b!"output" b!"ns.sub.u" .all [(b!"k", .str b!"v")]) .nil))) := by
  simp [exSs, canonSs, canonS, canonConds, canonDir, canonArgs, litAst, litOf, sTruncate]

example : jsParseFile (printPieces (renderFunc false 0 ⟨b!"ns.sub.t", true, exSs⟩)) = some [canonF ⟨b!"ns.sub.t", true, exSs⟩] :=
  jsparse_render_func _ 0 ⟨qOkB_ok (by decide), exSs_img⟩

/-! what is no JavaScript (or outside the fragment) is rejected -/

example : jsParseExpr b!"((opt_data.x) + (1)" = none := by decide +kernel            -- unbalanced
example : jsParseExpr b!"'abc" = none := by decide +kernel                           -- unterminated string
example : jsParseExpr b!"5.length" = none := by decide +kernel                       -- no engine reads it: `{length(5)}` is written `(5).length`
/-- isNonnull is a primary `(a != null)`, also under a minus and inside another isNonnull -/
example : printPieces (render (.neg (.call1 .nonNull (.call1 .nonNull (.optData b!"x"))))) = b!"(- ((opt_data.x != null) != null))" := by
  decide
example : jsParseExpr b!"(- ((opt_data.x != null) != null))" = some (.neg (.call1 .nonNull (.call1 .nonNull (.optData b!"x")))) :=
  jsparse_render_expr (.neg (.call1 .nonNull (.call1 .nonNull (.optData b!"x"))))
    (by simp only [Img, lv]; exact ⟨⟨⟨⟨_, _, rfl, rfl, by decide⟩, by omega⟩, by omega⟩, by omega⟩)
/-- the data KEY `length` and the length FUNCTION: textually distinct, and read apart -/
example : jsParseExpr b!"opt_data.x.length" = some (.member (.optData b!"x") b!"length") :=
  jsparse_render_expr (.member (.optData b!"x") b!"length")
    (by simp only [Img]; exact ⟨⟨_, _, rfl, rfl, by decide⟩, rfl, ⟨_, _, rfl, rfl, by decide⟩, fun _ => rfl⟩)
example : jsParseExpr b!"(opt_data.x).length" = some (.call1 .length (.optData b!"x")) :=
  jsparse_render_expr (.call1 .length (.optData b!"x")) (by simp only [Img]; exact ⟨_, _, rfl, rfl, by decide⟩)
example : jsParseExpr b!"(5).length" = some (.call1 .length (.num 5)) :=                    -- `{length(5)}`
  jsparse_render_expr (.call1 .length (.num 5)) (by simp [Img])
example : jsParseExpr b!"soy.$$augmentMap(opt_data, {2nd: 1})" = none := by decide +kernel
example : jsParseExpr b!"((1) + * (2))" = none := by decide +kernel
example : (jsParseStmts b!"output += 'a'\n").isNone = true := by decide +kernel     -- no automatic semicolon insertion
example : (jsParseStmts b!"var class = 1;").isNone = true := by decide +kernel      -- a reserved word
example : (jsParseStmts b!"output += 'a';").isSome = true := by decide +kernel
/-- `{length(not $x)}`: the grammar reads `!(opt_data.x).length` as `!((opt_data.x).length)`, which is not the text of any
    `JsExpr`; soyjs writes `(!(opt_data.x)).length`, the text of the AST of C04c -/
example : ((jsLex b!"!(opt_data.x).length").bind parseExpr).isSome = true := by decide +kernel
example : jsParseExpr b!"!(opt_data.x).length" = none := by decide +kernel
example : printPieces (render (.call1 .length (.not (.optData b!"x")))) = b!"(!(opt_data.x)).length" := by decide
example : jsParseExpr b!"(!(opt_data.x)).length" = some (.call1 .length (.not (.optData b!"x"))) :=
  jsparse_render_expr (.call1 .length (.not (.optData b!"x"))) (by simp only [Img]; exact ⟨_, _, rfl, rfl, by decide⟩)

end examples

end SoyVerif.Props.C14c
