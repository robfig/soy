/-
  C15 — Template text is normalised by the line-joining rule and nothing else.

  The model `Model.rawtext` mirrors parse/rawtext.go including its index arithmetic and Go's
  bounds checks (`none` = panic); `Spec.joinLines` is the declarative rule.
-/
import SoyVerif.Lemmas.RawTextProps

namespace SoyVerif.Props.C15
open SoyVerif SoyVerif.Model SoyVerif.Spec

/-- For every byte string and both flags the implementation model returns
    exactly the text the line-joining rule defines (and in particular never indexes
    out of range: the result is `some`). -/
theorem rawtext_spec (s : Bytes) (tb ta : Bool) :
    rawtext s tb ta = some (joinLines s tb ta) := by
  rw [rawtext_eq_rawtextA, rawtextA_eq_joinLines]

/-- No slice / buffer index of rawtext.go is ever out of range. -/
theorem rawtext_no_panic (s : Bytes) (tb ta : Bool) : (rawtext s tb ta).isSome = true := by
  rw [rawtext_spec]; rfl

/-- Every non-whitespace byte of the text reaches the output, intact and in order
    (nothing but whitespace is ever removed or inserted). -/
theorem rawtext_keeps_nonspace (s : Bytes) (tb ta : Bool) :
    ∃ out, rawtext s tb ta = some out ∧ out.filter nonWs = s.filter nonWs := by
  refine ⟨joinLines s tb ta, rawtext_spec s tb ta, ?_⟩
  rw [(joinLines_thin s tb ta).filter (tokenize_flat_classed s).2, (tokenize_flat_classed s).1]

/-- Whitespace without a line break is preserved exactly: text without CR/LF is
    returned unchanged when no trimming is requested. -/
theorem rawtext_no_linebreak_identity (s : Bytes) (h : hasNL s = false) :
    rawtext s false false = some s := by
  rw [rawtext_spec, (joinLines_thin s false false).eq_flat (by rw [(tokenize_flat_classed s).1]; exact h),
    (tokenize_flat_classed s).1]

/-- The result never exceeds the input (the Go code allocates exactly len(s) bytes
    for it and would otherwise write past the buffer). -/
theorem rawtext_in_bounds (s : Bytes) (tb ta : Bool) :
    ∃ out, rawtext s tb ta = some out ∧ out.length ≤ s.length := by
  refine ⟨joinLines s tb ta, rawtext_spec s tb ta, ?_⟩
  simpa [(tokenize_flat_classed s).1] using (joinLines_thin s tb ta).length_le

example : rawtext [32, 97, 32, 10, 32, 32, 98, 32] false false = some [32, 97, 32, 98, 32] := by decide
example : rawtext [60, 97, 62, 10, 32, 60, 98, 62] true false = some [60, 97, 62, 60, 98, 62] := by decide
example : joinLines [97, 10, 98] false false = [97, 32, 98] := by decide
/- a NUL is an ordinary character (/repo 4eb5547): `a\x00⏎  b` is joined WITH a space, and so is `a⏎\x00b` -/
example : rawtext [97, 0, 10, 32, 32, 98] false false = some [97, 0, 32, 98] := by decide
example : rawtext [97, 10, 0, 98] false false = some [97, 32, 0, 98] := by decide
example : joinLines [97, 0, 10, 32, 32, 98] false false = [97, 0, 32, 98] := by decide

end SoyVerif.Props.C15
