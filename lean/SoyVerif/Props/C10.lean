/-
  C10 — Message ids are a stable function of message content and meaning.

  Property theorems about `Model/Msg.lean` (the model of soymsg/{id,placeholder,soymsg}.go,
  tied to the code by the correspondence sub-checks C10fp and C10id).  The last section — `Parts` inverts the
  placeholder string — is what C11's identity translation starts from (Props/C11, Lemmas/MsgValidate use it).
-/
import SoyVerif.Lemmas.MsgNames
import SoyVerif.Lemmas.MsgDistinct
import SoyVerif.Lemmas.MsgParts

namespace SoyVerif.Props.C10
open SoyVerif SoyVerif.Model.Msg

/-- for every message body and every pair of iteration orders of the
    four Go maps ranged over by `setPlaceholderNames`, the assigned names coincide. -/
theorem names_order_independent (o₁ o₂ : Orders) (h₁ : o₁.Valid) (h₂ : o₂.Valid) (body : List Part) :
    setNames o₁ body = setNames o₂ body := by
  unfold setNames queue
  rw [setNamesQ_eq_canon o₁ h₁ _ (mkQueue_ids_nodup _), setNamesQ_eq_canon o₂ h₂ _ (mkQueue_ids_nodup _)]

/-- … hence so do the named body, the fingerprint / placeholder strings and the id. -/
theorem namedBody_order_independent (o₁ o₂ : Orders) (h₁ : o₁.Valid) (h₂ : o₂.Valid) (body : List Part) :
    namedBody o₁ body = namedBody o₂ body := by
  unfold namedBody
  rw [names_order_independent o₁ o₂ h₁ h₂]

theorem id_order_independent (o₁ o₂ : Orders) (h₁ : o₁.Valid) (h₂ : o₂.Valid) (m : Msg) :
    calcID o₁ m = calcID o₂ m ∧ placeholderString o₁ m = placeholderString o₂ m := by
  unfold calcID placeholderString writeFingerprint
  rw [namedBody_order_independent o₁ o₂ h₁ h₂]
  exact ⟨rfl, rfl⟩

def revOrders : Orders := ⟨List.reverse, List.reverse, List.reverse, List.reverse⟩

theorem revOrders_valid : revOrders.Valid :=
  ⟨fun l => List.reverse_perm l, fun l => List.reverse_perm l, fun l => List.reverse_perm l,
   fun l => List.reverse_perm l⟩

theorem idOrders_valid : Orders.id.Valid :=
  ⟨fun _ => List.Perm.refl _, fun _ => List.Perm.refl _, fun _ => List.Perm.refl _, fun _ => List.Perm.refl _⟩

/-- non-vacuity: the message of the property statement, `{$a.x}{$b.x}{$x_1}` (base names
    X, X, X_1): the suffix 1 is skipped because X_1 is a base name, under both orders. -/
example : setNames Orders.id [.ph [88] [1], .ph [88] [2], .ph [88, 95, 49] [3]]
    = [[88, 95, 50], [88, 95, 51], [88, 95, 49]] := by decide
example : setNames revOrders [.ph [88] [1], .ph [88] [2], .ph [88, 95, 49] [3]]
    = [[88, 95, 50], [88, 95, 51], [88, 95, 49]] := by decide

theorem calcIDOf_lt (fpstr meaning : Bytes) : (calcIDOf fpstr meaning).toNat < 2 ^ 63 := by
  unfold calcIDOf
  simp only [UInt64.toNat_and]
  exact Nat.lt_of_le_of_lt Nat.and_le_right (by decide)

/-- every id fits in 63 bits. -/
theorem id_top_bit_clear (o : Orders) (m : Msg) : (calcID o m).toNat < 2 ^ 63 :=
  calcIDOf_lt _ _

example : (calcID Orders.id ⟨[110], [], [.text [65]]⟩).toNat < 2 ^ 63 := id_top_bit_clear _ _
example : calcIDOf [65] [] = calcIDOf [65] [] ∧ (calcIDOf [65, 114, 99, 104, 105, 118, 101] [110, 111, 117, 110]).toNat
    = 7224011416745566687 := by decide

/-- two messages with the same fingerprint string and the same meaning have the same
    id — whatever their descriptions, and whatever else differs between them. -/
theorem id_depends_only_on (o₁ o₂ : Orders) (m₁ m₂ : Msg)
    (hfp : writeFingerprint o₁ m₁ false = writeFingerprint o₂ m₂ false)
    (hmeaning : m₁.meaning = m₂.meaning) : calcID o₁ m₁ = calcID o₂ m₂ := by
  unfold calcID
  rw [hfp, hmeaning]

/-- the description never matters -/
theorem id_ignores_desc (o : Orders) (meaning d₁ d₂ : Bytes) (body : List Part) :
    calcID o ⟨meaning, d₁, body⟩ = calcID o ⟨meaning, d₂, body⟩ := rfl

/-- the fingerprint string is a function of the named body — the texts, the names in
    order and the plural structure (case values) — and of nothing else (`NPart` has no
    other content): bodies with the same named body have the same string, in both modes. -/
theorem fingerprint_string_spec (o₁ o₂ : Orders) (m₁ m₂ : Msg) (braces : Bool)
    (h : namedBody o₁ m₁.body = namedBody o₂ m₂.body) :
    writeFingerprint o₁ m₁ braces = writeFingerprint o₂ m₂ braces := by
  unfold writeFingerprint
  rw [h]

example : id_ignores_desc Orders.id [] [1] [2] [.text [65]] = rfl := rfl
/-- different placeholders, same names and text ⇒ same fingerprint string and id -/
example : calcID Orders.id ⟨[], [1], [.ph [65] [1], .text [32]]⟩ = calcID Orders.id ⟨[], [2], [.ph [65] [7, 7], .text [32]]⟩ := by
  apply id_depends_only_on
  · decide
  · rfl

/-- two nodes of a message (placeholders or plurals, at any depth; `i`, `j` are their
    positions in the processing order) receive the same name if and only if they have the
    same base name and the same source text.  So distinct representative nodes — a
    different source text under one base name, or different base names — get distinct
    names, and equivalent nodes share one. -/
theorem names_distinct (o : Orders) (ho : o.Valid) (body : List Part) (i j : Nat)
    (hi : i < (queue body).length) (hj : j < (queue body).length) :
    (setNames o body).getD i [] = (setNames o body).getD j [] ↔
      ((queue body)[i].base = (queue body)[j].base ∧ (queue body)[i].src = (queue body)[j].src) := by
  have nd : ((queue body).map (·.id)).Nodup := mkQueue_ids_nodup _
  have inv := inv1_step1 _ nd
  unfold setNames
  rw [setNamesQ_eq_canon o ho _ nd, canonNames_getD _ _ i hi, canonNames_getD _ _ j hj]
  have e1 : (queue body)[i].id = i := mkQueue_getElem_id _ i hi
  have e2 : (queue body)[j].id = j := mkQueue_getElem_id _ j hj
  have := nameOfId_eq_iff inv nd (List.getElem_mem hi) (List.getElem_mem hj)
  rw [e1, e2] at this
  exact this

/-- reading a node's name through (base name, source text), as the
    model's `namedBody` does, gives the name Go stored in the node itself. -/
theorem names_equiv_same (o : Orders) (ho : o.Valid) (body : List Part) (i : Nat)
    (hi : i < (queue body).length) :
    nameFor (queue body) (setNames o body) (queue body)[i].base (queue body)[i].src
      = (setNames o body).getD i [] := by
  unfold nameFor
  cases hf : (queue body).findIdx? (fun n => n.base == (queue body)[i].base && n.src == (queue body)[i].src) with
  | none =>
    have := List.findIdx?_eq_none_iff.mp hf _ (List.getElem_mem hi)
    simp at this
  | some k =>
    obtain ⟨hk, hp, _⟩ := List.findIdx?_eq_some_iff_getElem.mp hf
    simp only [Bool.and_eq_true, beq_iff_eq] at hp
    exact (names_distinct o ho body k i hk hi).mpr hp

/-- non-vacuity: `{$a.x}{$b.x}{$x_1}{$a.x}`: four nodes, three names -/
example : setNames Orders.id [.ph [88] [1], .ph [88] [2], .ph [88, 95, 49] [3], .ph [88] [1]]
    = [[88, 95, 50], [88, 95, 51], [88, 95, 49], [88, 95, 50]] := by decide

/-- for flat (non-plural) bodies: if no run of adjacent raw texts contains a substring of
    the shape `{[A-Z0-9_]+}` and every name is in `[A-Z0-9_]+`, then `Parts` applied to the
    placeholder string returns the body's text / placeholder sequence (adjacent texts
    merged, empty texts dropped).  (`Parts` does not parse plural syntax — soymsg.go says
    so — hence the restriction to flat bodies.) -/
theorem parts_writeFP (nb : List NPart) (htext : NoMatch (leadText nb)) (hflat : FlatOK nb) :
    parts (writeFPList true nb) = expectedParts nb [] :=
  partsGo_writeFP nb [] htext hflat

theorem parts_placeholderString (o : Orders) (m : Msg)
    (htext : NoMatch (leadText (namedBody o m.body))) (hflat : FlatOK (namedBody o m.body)) :
    parts (placeholderString o m) = expectedParts (namedBody o m.body) [] :=
  parts_writeFP _ htext hflat

/-- non-vacuity: `x{A}{B_1} {}` + `.` — hypotheses hold, texts around are merged -/
example : parts (writeFPList true [.text [120], .ph [65], .ph [66, 95, 49], .text [32], .text [123, 125], .text [46]])
    = [.text [120], .ph [65], .ph [66, 95, 49], .text [32, 123, 125, 46]] := by
  rw [parts_writeFP]
  · rfl
  · exact noMatch_of_noMatchB (by decide)
  · refine ⟨⟨by simp, by decide⟩, noMatch_of_noMatchB (by decide), ⟨by simp, by decide⟩,
      noMatch_of_noMatchB (by decide), trivial⟩
/-- the hypothesis on the texts is needed: the raw text `{A}` comes back as a placeholder -/
example : parts (writeFPList true [.text [123, 65, 125]]) = [.ph [65]] := by decide

end SoyVerif.Props.C10
