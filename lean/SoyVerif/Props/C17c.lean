/-
  C17 — print commands with directives, from the bytes (file mode of the lexer).

    printPrint ff arg dirs = "{" ++ printExpr arg ++ ("|" name [":" arg ("," arg)*])* ++ "}"        (PrintNode.String())

  * the token view: `piecesBody`, what `NamesOk` gives for it (`adj_body`, `chain_body`) and the types a printed
    expression can begin with (`headTypes`, `pieces_head`).
  * lexer: `print_tag_steps` / `print_tag_run` — the print tag at any offset, from any lexer record, whatever follows: from
    `lexLeftDelim` back to `lexText`, sending exactly the LeftDelim item, the printed tokens and the RightDelim item (each
    with its END offset).  At the end of the file the same as runs of Props/SrcLex (`print_tag_runs`, `text_cmd_runs`,
    `text_end_runs`), of which Props/C15d and Props/C17d make bodies, the `{template}` frame and a file with `{namespace}`.
  * parser, walked with `Ok` of Lemmas/ParserBasic (postconditions `Kept st …`): `parsePrint_rt` — the file parser's `parsePrint`
    (→ `printLoop` → `directiveArgs`, Model/FileParser) on these tokens behind the `{` gives the print node back modulo
    positions; above it `beginTag_print` (the dispatch to `parsePrint` for every first token of a printed expression),
    `textOrTag_print` (Props/C15d's round for a command), and for the lone command `itemList_print`,
    `itemList_print_until` and `template_print`.  Props/C15d and Props/C17d reuse `textOrTag_print`, `textOrTag_close`,
    `loop_eof`, `parseAttrs_none` and `template_around` (the template tag around any body).
  * `textTk` / `textItem_tk` are declared here into the namespace of Props/C17d, because Props/C15d, which comes between
    the two files, needs them.
  * The results for the lone command stand at the end of Props/C17d, in this file's namespace: `lex_print_cmd(_items)`
    and `print_cmd_file_roundtrip` are the body theorems there at a body of one piece; `print_cmd_roundtrip_bytes` and
    `print_cmd_injective_bytes` are `lex_print_cmd` and then `parsePrint_rt`.
    Not covered: a soydoc in front of the template (Props/C17e has the minimal one only).
  Hypotheses: `NamesOk ff` of the expression and of every directive argument (Lemmas/LexPrintNames), and `DirNameOk`:
  the directive name is an identifier as the lexer reads it after `|` that is not a word of `builtinIdents` (`{$x|call}`,
  `{$x|if:1}` are rejected by the real parser too: the lexer has ONE keyword table for the whole tag); for the parser half
  `CmdCanon` (`Canon` of the expression and of every directive argument: what the expression parser returns).
-/
import SoyVerif.Props.C17b
import SoyVerif.Props.C15c

namespace SoyVerif.Props.C17c
open SoyVerif SoyVerif.Model SoyVerif.Model.Lex SoyVerif.Model.Parser SoyVerif.Model.PrintTokens
open SoyVerif.Model.Printer SoyVerif.Lemmas.LexPrint SoyVerif.Lemmas.ParserBasic
open SoyVerif.Lemmas.ParserAdj SoyVerif.Lemmas.ParserToks

section
variable (ff : UInt64 → Bytes)

/-- further directive arguments, each behind a comma -/
def piecesDArgsTail : List Expr → List Piece
  | [] => []
  | a :: r => .tok tComma :: (pieces ff a ++ piecesDArgsTail r)

/-- `:a,b,c` (nothing for no argument) -/
def piecesDArgs : List Expr → List Piece
  | [] => []
  | a :: r => .tok tColon :: (pieces ff a ++ piecesDArgsTail ff r)

/-- `|name:a,b` -/
def piecesDir (d : Directive) : List Piece := .tok tPipe :: .tok (tIdent d.name) :: piecesDArgs ff d.args

def piecesDirs : List Directive → List Piece
  | [] => []
  | d :: r => piecesDir ff d ++ piecesDirs r

/-- the text between the braces -/
def piecesBody (arg : Expr) (dirs : List Directive) : List Piece := pieces ff arg ++ piecesDirs ff dirs

theorem spell_dargsTail : ∀ (r : List Expr) (a : Expr),
    spell (pieces ff a ++ piecesDArgsTail ff r) = (((a :: r).map (printExpr ff)).intersperse [44]).flatten
  | [], a => by simp [piecesDArgsTail, spell_pieces]
  | b :: r, a => by
    have ih := spell_dargsTail r b
    simp only [piecesDArgsTail, spell_append, spell, spell_pieces] at ih ⊢
    simp [ih, tComma]

theorem spell_dir (d : Directive) : spell (piecesDir ff d) = printDirective ff d := by
  unfold piecesDir printDirective
  cases h : d.args with
  | nil => simp [piecesDArgs, spell, tPipe, tIdent]
  | cons a r =>
    have := spell_dargsTail ff r a
    simp only [piecesDArgs, spell, tPipe, tIdent, tColon, this]
    simp

theorem spell_dirs : ∀ (ds : List Directive), spell (piecesDirs ff ds) = (ds.map (printDirective ff)).flatten
  | [] => rfl
  | d :: r => by simp [piecesDirs, spell_append, spell_dir, spell_dirs r]

theorem spell_body (arg : Expr) (dirs : List Directive) :
    printPrint ff arg dirs = 123 :: (spell (piecesBody ff arg dirs) ++ [125]) := by
  simp [printPrint, piecesBody, spell_append, spell_pieces, spell_dirs]

end

/-! ## what follows every token, and what stands in front of every `-` -/

/-- the name of a directive as the lexer reads it behind `|`: an ASCII letter or `_`, then letters / digits / `_` (of any
    script), and no word of the lexer's keyword table -/
def DirNameOk (d : Directive) : Prop :=
  ∃ c k, d.name = c :: k ∧ isIdStart c = true ∧ alnumBytes k = true ∧ Gen.builtinIdents.lookup (c :: k) = none

/-- the conditions on a print command: names as the lexer reads them, in the expression, the directive names and the
    directive arguments -/
def CmdOk (ff : UInt64 → Bytes) (arg : Expr) (dirs : List Directive) : Prop :=
  NamesOk ff arg = true ∧ ∀ d ∈ dirs, DirNameOk d ∧ ∀ a ∈ d.args, NamesOk ff a = true

section
variable (ff : UInt64 → Bytes) (LT : LexTableOK)
include LT

theorem adj_dargsTail : ∀ (r : List Expr), (∀ a ∈ r, NamesOk ff a = true) → ∀ tail, Closer tail →
    Adj (piecesDArgsTail ff r) tail ∧ Closer (spell (piecesDArgsTail ff r) ++ tail)
  | [], _, tail, ht => ⟨trivial, by simpa [piecesDArgsTail, spell] using ht⟩
  | a :: r, h, tail, ht => by
    obtain ⟨ih1, ih2⟩ := adj_dargsTail r (fun x hx => h x (List.mem_cons_of_mem _ hx)) tail ht
    refine ⟨?_, by simp only [piecesDArgsTail, spell, tComma, List.cons_append]; exact closer_comma _⟩
    simp only [piecesDArgsTail, Adj]
    refine ⟨TokOk.comma _, ?_⟩
    rw [adj_append]
    exact ⟨adjE LT ff a (h a (List.mem_cons_self ..)) _ ih2, ih1⟩

theorem adj_dargs (args : List Expr) (h : ∀ a ∈ args, NamesOk ff a = true) (tail : Bytes) (ht : Closer tail) :
    Adj (piecesDArgs ff args) tail ∧ WordEnd (spell (piecesDArgs ff args) ++ tail) := by
  cases args with
  | nil => exact ⟨trivial, by simpa [piecesDArgs, spell] using closer_wordEnd ht⟩
  | cons a r =>
    -- the same pieces as `piecesDArgsTail (a :: r)` behind `:` instead of `,`
    have ih : Adj (.tok tComma :: (pieces ff a ++ piecesDArgsTail ff r)) tail := (adj_dargsTail ff LT (a :: r) h tail ht).1
    exact ⟨⟨TokOk.colon _, ih.2⟩, by simp only [piecesDArgs, spell, tColon, List.cons_append]; exact ⟨by decide, by decide⟩⟩

theorem adj_dirs : ∀ (ds : List Directive), (∀ d ∈ ds, DirNameOk d ∧ ∀ a ∈ d.args, NamesOk ff a = true) → ∀ tail, Closer tail →
    Adj (piecesDirs ff ds) tail ∧ Closer (spell (piecesDirs ff ds) ++ tail)
  | [], _, tail, ht => ⟨trivial, by simpa [piecesDirs, spell] using ht⟩
  | d :: r, h, tail, ht => by
    obtain ⟨ih1, ih2⟩ := adj_dirs r (fun x hx => h x (List.mem_cons_of_mem _ hx)) tail ht
    obtain ⟨⟨c, k, hn, hc, hk, hl⟩, ha⟩ := h d (List.mem_cons_self ..)
    obtain ⟨a1, a2⟩ := adj_dargs ff LT d.args ha _ ih2
    refine ⟨?_, by simp only [piecesDirs, piecesDir, spell, tPipe, List.cons_append]; exact closer_pipe _⟩
    simp only [piecesDirs, piecesDir, List.cons_append, Adj]
    refine ⟨TokOk.pipe _, ?_, ?_⟩
    · rw [spell_append, List.append_assoc]
      simp only [tIdent, hn]
      exact TokOk.word c k .tIdent _ hc hk a2 (Or.inr ⟨hl, rfl⟩)
    · rw [adj_append]
      exact ⟨a1, ih1⟩

theorem adj_body (arg : Expr) (dirs : List Directive) (h : CmdOk ff arg dirs) (tail : Bytes) (ht : Closer tail) :
    Adj (piecesBody ff arg dirs) tail := by
  obtain ⟨d1, d2⟩ := adj_dirs ff LT dirs h.2 tail ht
  unfold piecesBody
  rw [adj_append]
  exact ⟨adjE LT ff arg h.1 _ d2, d1⟩

end

section
variable (ff : UInt64 → Bytes)

theorem good_sepArg {x s : ItemType} (hs : s ∈ beforeOperand) (hp : chainOK x [s] = true) (a : Expr) {l : List ItemType}
    (hl : ∀ y ∈ afterOperand, Good y l) : Good x ([s] ++ (typs (toks ff a) ++ l)) :=
  have ga := good_toks ff a s hs
  good_append hp (good_append ga.1 (hl _ ga.2))

theorem good_dargsTail : ∀ (r : List Expr) (x : ItemType), x ∈ afterOperand → Good x (typs (unsp (piecesDArgsTail ff r)))
  | [], x, hx => ⟨rfl, hx⟩
  | a :: r, x, hx => by
    have : typs (unsp (piecesDArgsTail ff (a :: r))) = [.tComma] ++ (typs (toks ff a) ++ typs (unsp (piecesDArgsTail ff r))) := by
      simp [piecesDArgsTail, unsp, unsp_append, typs, toks, tComma]
    rw [this]
    exact good_sepArg ff (by simp [beforeOperand]) (by simp [chainOK, pairOK]) a (good_dargsTail r)

theorem good_dargs (args : List Expr) : Good .tIdent (typs (unsp (piecesDArgs ff args))) := by
  cases args with
  | nil => exact ⟨rfl, by simp [piecesDArgs, unsp, typs, lastOf, afterOperand]⟩
  | cons a r =>
    have : typs (unsp (piecesDArgs ff (a :: r))) = [.tColon] ++ (typs (toks ff a) ++ typs (unsp (piecesDArgsTail ff r))) := by
      simp [piecesDArgs, unsp, unsp_append, typs, toks, tColon]
    rw [this]
    exact good_sepArg ff (by simp [beforeOperand]) (by simp [chainOK, pairOK]) a (good_dargsTail ff r)

theorem good_dirs : ∀ (ds : List Directive) (x : ItemType), x ∈ afterOperand → Good x (typs (unsp (piecesDirs ff ds)))
  | [], x, hx => ⟨rfl, hx⟩
  | d :: r, x, hx => by
    have ga := good_dargs ff d.args
    have ih := good_dirs r _ ga.2
    have : typs (unsp (piecesDirs ff (d :: r))) =
        [.tPipe, .tIdent] ++ (typs (unsp (piecesDArgs ff d.args)) ++ typs (unsp (piecesDirs ff r))) := by
      simp [piecesDirs, piecesDir, unsp, unsp_append, typs, tPipe, tIdent]
    rw [this]
    refine good_append (by simp [chainOK, pairOK]) ?_
    exact good_append ga.1 ih

/-- in the body of a print command, behind `{`, every `-` stands where the lexer reads it as intended -/
theorem chain_body (arg : Expr) (dirs : List Directive) :
    chainOK .tLeftDelim (typs (unsp (piecesBody ff arg dirs))) = true := by
  have ga := good_toks ff arg .tLeftDelim (by simp [beforeOperand])
  have gd := good_dirs ff dirs _ ga.2
  have : typs (unsp (piecesBody ff arg dirs)) = typs (toks ff arg) ++ typs (unsp (piecesDirs ff dirs)) := by
    simp [piecesBody, unsp_append, typs, toks]
  rw [this]
  exact (good_append ga.1 gd).1

end

section
variable (ff : UInt64 → Bytes)

/-- the token types a printed expression begins with -/
def headTypes : List ItemType :=
  [.tLeftParen, .tLeftBracket, .tNegate, .tNot, .tNull, .tBool, .tIdent, .tDollarIdent, .tInteger, .tFloat, .tString]

theorem wrapP_head {a : Expr} {m : Nat} (h : ∃ t, (pieces ff a).head? = some (.tok t) ∧ t.typ ∈ headTypes) :
    ∃ t, (wrapP a m (pieces ff a)).head? = some (.tok t) ∧ t.typ ∈ headTypes := by
  unfold wrapP
  split
  · exact ⟨tLP, rfl, by simp [tLP, headTypes]⟩
  · exact h

theorem pieces_head : ∀ (e : Expr), ∃ t, (pieces ff e).head? = some (.tok t) ∧ t.typ ∈ headTypes
  | .null _ => ⟨_, rfl, by decide⟩
  | .bool _ _ => ⟨_, rfl, (by decide : ItemType.tBool ∈ headTypes)⟩
  | .int _ _ => ⟨_, rfl, (by decide : ItemType.tInteger ∈ headTypes)⟩
  | .float _ _ => ⟨_, rfl, (by decide : ItemType.tFloat ∈ headTypes)⟩
  | .str _ _ _ => ⟨_, rfl, (by decide : ItemType.tString ∈ headTypes)⟩
  | .global _ n => ⟨tIdent (splitDots n).1, rfl, (by decide : ItemType.tIdent ∈ headTypes)⟩
  | .func _ n _ => ⟨tIdent n, rfl, (by decide : ItemType.tIdent ∈ headTypes)⟩
  | .list _ _ => ⟨tLB, rfl, by decide⟩
  | .map _ items => by cases items <;> exact ⟨tLB, rfl, by decide⟩
  | .dataRef _ k _ => ⟨⟨.tDollarIdent, [36] ++ k⟩, rfl, (by decide : ItemType.tDollarIdent ∈ headTypes)⟩
  | .not _ _ => ⟨tNot, rfl, by decide⟩
  | .neg _ a => by cases a <;> exact ⟨tNeg, rfl, by decide⟩
  | .bin op _ a b => by
    obtain ⟨t, h1, h2⟩ := wrapP_head ff (m := leftMin op) (pieces_head a)
    exact ⟨t, by simp only [pieces, List.head?_append, h1]; rfl, h2⟩
  | .tern _ c a b => by
    obtain ⟨t, h1, h2⟩ := wrapP_head ff (m := precElvis + 1) (pieces_head c)
    exact ⟨t, by simp only [pieces, List.head?_append, h1]; rfl, h2⟩

end

section
-- `tg`: the `tagStart` of the lexer record `L tg …` that `print_tag_run` starts from
variable {tg : Int} (ff : UInt64 → Bytes) (LT : LexTableOK)
include LT

/-- the items of the tag of a print command whose `{` stands at offset `q` -/
def tagItems (q : Nat) (arg : Expr) (dirs : List Directive) : List Item :=
  ⟨.tLeftDelim, q + 1, [123]⟩ :: (emitT (q + 1) (piecesBody ff arg dirs) ++
    [⟨.tRightDelim, q + 1 + (spell (piecesBody ff arg dirs)).length + 1, [125]⟩])

/-- the items `lex` sends for a print command: `{`, the body's tokens, `}`, EOF (END offsets) -/
def cmdItems (arg : Expr) (dirs : List Directive) : List Item :=
  ⟨.tLeftDelim, 1, [123]⟩ :: (emitT 1 (piecesBody ff arg dirs) ++
    [⟨.tRightDelim, 1 + (spell (piecesBody ff arg dirs)).length + 1, [125]⟩,
     ⟨.tEOF, 1 + (spell (piecesBody ff arg dirs)).length + 1, []⟩])

theorem body_first_byte (arg : Expr) (dirs : List Directive) (h : CmdOk ff arg dirs) :
    ∃ c s, spell (piecesBody ff arg dirs) = c :: s ∧ c < 128 ∧ c ≠ 123 ∧ c ≠ 47 ∧ c ≠ 92 := by
  obtain ⟨t, hh, hty⟩ := pieces_head ff arg
  obtain ⟨c, s, hv, h1, h2, h3, h4, _⟩ := adj_first (adj_body ff LT arg dirs h [125] (closer_rbrace []))
    (t := t) (by simp [piecesBody, List.head?_append, hh])
  exact ⟨c, s, hv, h1, h2, fun e => by rw [h4 e] at hty; revert hty; decide, h3⟩

/-- a print tag anywhere in the input, from any lexer record (`lexLeftDelim` sets `doubleDelim` and `tagStart` itself),
    whatever follows the tag (`post`): `k + 4` state functions later the machine is back in `lexText` behind the `}`, and
    has sent the LeftDelim item, the items of the printed tokens and the RightDelim item (END offsets) -/
theorem print_tag_steps (arg : Expr) (dirs : List Directive) (h : CmdOk ff arg dirs) {inp : Array UInt8} {q : Nat} {post : Bytes}
    (hin : InpAt inp q (printPrint ff arg dirs ++ post)) (dd : Bool) (ts : Int) (le : Item) (its : Array Item) :
    ∃ k, k ≤ 2 * (spell (piecesBody ff arg dirs)).length ∧ ∀ (w : Int) (n : Nat), ∃ its',
      run (n + k + 4) .leftDelim (Lexer.mk inp q q w dd ts le its) =
        run n .text (L (q : Int) inp (q + 1 + (spell (piecesBody ff arg dirs)).length + 1)
          (q + 1 + (spell (piecesBody ff arg dirs)).length + 1) 1
          ⟨.tRightDelim, q + 1 + (spell (piecesBody ff arg dirs)).length + 1, [125]⟩ its') ∧
      its'.toList = its.toList ++ tagItems ff q arg dirs := by
  have hadj := adj_body ff LT arg dirs h (125 :: post) (closer_rbrace post)
  have hchain := chain_body ff arg dirs
  obtain ⟨c, s, hB, hc, hc1, hc2, hc3⟩ := body_first_byte ff LT arg dirs h
  have hlen := adj_length _ _ hadj
  have hin0 : InpAt inp q (123 :: c :: (s ++ 125 :: post)) := by
    rw [spell_body, hB] at hin; simpa using hin
  have hin1 : InpAt inp (q + 1) (spell (piecesBody ff arg dirs) ++ 125 :: post) := by
    have := inpAt_tail hin0; rw [hB]; simpa using this
  have hin1' : InpAt inp (q + 1) (c :: (s ++ 125 :: post)) := inpAt_tail hin0
  have hinq : InpAt inp (q + 1 + (spell (piecesBody ff arg dirs)).length) (125 :: post) := inpAt_append hin1
  obtain ⟨k, hk, hrun⟩ := pieces_run (tg := (q : Int)) LT (inp := inp) (125 :: post) (piecesBody ff arg dirs) (q + 1)
    ⟨.tLeftDelim, q + 1, [123]⟩ (its.push ⟨.tLeftDelim, q + 1, [123]⟩) hin1 hadj (chain_of_chainOK LT _ _ _ hadj hchain)
  refine ⟨k, by omega, fun w n => ?_⟩
  obtain ⟨w', le', its', h1, h2⟩ := hrun 1 (n + 2)
  refine ⟨its'.push ⟨.tRightDelim, q + 1 + (spell (piecesBody ff arg dirs)).length + 1, [125]⟩, ?_, ?_⟩
  · rw [show n + k + 4 = ((n + 2 + k) + 1) + 1 by omega, run_step (step_leftDelim hin0 hc hc1 w dd ts le its),
      run_step (step_beginTag hin1' hc hc2 hc3 1 _ _), h1, run_step (step_rbrace hinq w' le' its'),
      run_step (step_rightDelim hinq le' its')]
  · simp [tagItems, h2]

/-- `print_tag_steps` from a lexer record inside a single-brace tag (`L tg …`) -/
theorem print_tag_run (arg : Expr) (dirs : List Directive) (h : CmdOk ff arg dirs) {inp : Array UInt8} {q : Nat} {post : Bytes}
    (hin : InpAt inp q (printPrint ff arg dirs ++ post)) (le : Item) (its : Array Item) :
    ∃ k, k ≤ 2 * (spell (piecesBody ff arg dirs)).length ∧ ∀ (w : Int) (n : Nat), ∃ its',
      run (n + k + 4) .leftDelim (L tg inp q q w le its) =
        run n .text (L (q : Int) inp (q + 1 + (spell (piecesBody ff arg dirs)).length + 1)
          (q + 1 + (spell (piecesBody ff arg dirs)).length + 1) 1
          ⟨.tRightDelim, q + 1 + (spell (piecesBody ff arg dirs)).length + 1, [125]⟩ its') ∧
      its'.toList = its.toList ++ tagItems ff q arg dirs :=
  print_tag_steps ff LT arg dirs h hin false tg le its

end

/-! # the PARSER half: `parsePrint` on the tokens of a print command

  Walked with `Ok` of Lemmas/ParserBasic: no action of these walks touches a field of the state other than the
  parser's `p`, so the postconditions are `Kept st …`, and a proof follows the parser function action by action
  (`Ok.bindK`). -/

section
open SoyVerif.Model.FileParser (FState FP liftP parsePrint printLoop directiveArgs parseExpr0 Node)
open SoyVerif.Lemmas.ParserRound
open SoyVerif.Lemmas.ParserSafe (bind_run)

/-- a directive without positions -/
def eraseDir (d : Directive) : Directive := ⟨0, d.name, d.args.map erase⟩

/-- the `}` that closes a tag -/
def tRD : Tk := ⟨.tRightDelim, [125]⟩

/-- what may follow an expression inside a print tag -/
def isTagStop (t : ItemType) : Prop := t = .tPipe ∨ t = .tComma ∨ t = .tRightDelim

variable (ff : UInt64 → Bytes) (pf : Bytes → Option UInt64) (T : TableOK)
include T

theorem expr_tagstop (e : Expr) (hC : Canon ff pf e) (h : Tk) (ht : isTagStop h.typ) (rest : List Tk) (ef : Nat)
    (hF : 1 + 8 * (toks ff e).length ≤ ef) (st : FState) (hst : At st.p (toks ff e ++ h :: rest)) :
    Ok (parseExpr0 pf ef) st fun r => Kept st fun p2 => erase r = erase e ∧ At1 p2 (h :: rest) :=
  Ok.lift ((aAll pf T e).ends (m := 0) (slot_plain ff pf e (renders_toks ff pf e hC)) (Nat.zero_le _)
    (ends_stop (by rw [isBinaryOp_eq T]; rcases ht with e | e | e <;> rw [e] <;> rfl)
      (by rcases ht with e | e | e <;> rw [e] <;> simp) (by rcases ht with e | e | e <;> rw [e] <;> simp [noAccess])) hst hF)

/-- the tokens of the arguments of a directive: each behind a separator (`:` the first, `,` the others) -/
def dargToks (sep : Tk) : List Expr → List Tk
  | [] => []
  | a :: r => sep :: (toks ff a ++ dargToks tComma r)

omit T in
theorem unsp_dargsTail : ∀ r : List Expr, unsp (piecesDArgsTail ff r) = dargToks ff tComma r
  | [] => rfl
  | a :: r => by simp [piecesDArgsTail, unsp, unsp_append, dargToks, toks, unsp_dargsTail r]

omit T in
theorem unsp_dargs (args : List Expr) : unsp (piecesDArgs ff args) = dargToks ff tColon args := by
  cases args with
  | nil => rfl
  | cons a r => simp [piecesDArgs, unsp, unsp_append, dargToks, toks, unsp_dargsTail ff r]

/-- `directiveArgs` reads the arguments and stops in front of `|` or `}` -/
theorem directiveArgs_rt (ef : Nat) (h : Tk) (hh : h.typ = .tPipe ∨ h.typ = .tRightDelim) (rest : List Tk) :
    ∀ (r : List Expr) (sep : Tk) (acc : List Expr) (fuel : Nat) (st : FState),
      (sep.typ = .tColon ∨ sep.typ = .tComma) → (∀ a ∈ r, Canon ff pf a ∧ 1 + 8 * (toks ff a).length ≤ ef) → r.length < fuel →
      At st.p (dargToks ff sep r ++ h :: rest) →
      Ok (directiveArgs pf ef fuel acc) st fun v => Kept st fun p2 =>
        ∃ args', v = acc ++ args' ∧ args'.map erase = r.map erase ∧ At1 p2 (h :: rest)
  | [], sep, acc, fuel, st, _, _, hf, hst => by
    obtain ⟨fuel, rfl⟩ : ∃ f, fuel = f + 1 := ⟨fuel - 1, by omega⟩
    unfold directiveArgs
    refine (Ok.fnext (t := h) (ts := rest) (by simpa [dargToks] using hst)).bindK fun it p1 ⟨ht, hv, hj⟩ => ?_
    rw [if_neg (by rw [ht]; rcases hh with e | e <;> simp [e])]
    exact (Ok.fbackup hj).bindK fun _ p2 h2 => Ok.pure ⟨_, rfl, [], by simp, rfl, tk_eq ht hv ▸ h2⟩
  | a :: r, sep, acc, fuel, st, hsep, hc, hf, hst => by
    obtain ⟨fuel, rfl⟩ : ∃ f, fuel = f + 1 := ⟨fuel - 1, by omega⟩
    obtain ⟨hca, hfa⟩ := hc a (List.mem_cons_self ..)
    -- what follows the argument: `,` (more arguments) or the follower of the directive
    obtain ⟨nx, rest', hnx, hstop⟩ : ∃ nx rest', dargToks ff tComma r ++ h :: rest = nx :: rest' ∧ isTagStop nx.typ := by
      cases r with
      | nil => exact ⟨h, rest, rfl, by rcases hh with e | e <;> simp [isTagStop, e]⟩
      | cons b r' => exact ⟨tComma, toks ff b ++ (dargToks ff tComma r' ++ h :: rest), by simp [dargToks], Or.inr (Or.inl rfl)⟩
    unfold directiveArgs
    refine (Ok.fnext (t := sep) (ts := toks ff a ++ nx :: rest') (by simpa [dargToks, hnx] using hst)).bindK
      fun it p1 ⟨ht, _, hj⟩ => ?_
    rw [if_pos (by rw [ht]; rcases hsep with e | e <;> simp [e])]
    refine (expr_tagstop ff pf T a hca nx hstop rest' ef hfa _ hj.at).bindK fun e' p2 ⟨he, h2a⟩ => ?_
    refine (directiveArgs_rt ef h hh rest r tComma (acc ++ [e']) fuel _ (Or.inr rfl)
      (fun x hx => hc x (List.mem_cons_of_mem _ hx)) (by simp at hf; omega) (by rw [hnx]; exact h2a.at)).mono ?_
    rintro v _ ⟨p3, rfl, args', rfl, h3e, h3a⟩
    exact ⟨p3, rfl, e' :: args', by simp, by simp [he, h3e], h3a⟩

/-- the fuel of the expression parser suffices for every expression of the command -/
def ExprFuel (ef : Nat) (arg : Expr) (dirs : List Directive) : Prop :=
  1 + 8 * (toks ff arg).length ≤ ef ∧ ∀ d ∈ dirs, ∀ a ∈ d.args, 1 + 8 * (toks ff a).length ≤ ef

/-- every expression of the command is one the expression parser returns (literals in range, map keys ascending) -/
def CmdCanon (arg : Expr) (dirs : List Directive) : Prop :=
  Canon ff pf arg ∧ ∀ d ∈ dirs, ∀ a ∈ d.args, Canon ff pf a

omit T in
theorem unsp_dirs_cons (d : Directive) (r : List Directive) :
    unsp (piecesDirs ff (d :: r)) = tPipe :: tIdent d.name :: (dargToks ff tColon d.args ++ unsp (piecesDirs ff r)) := by
  simp [piecesDirs, piecesDir, unsp, unsp_append, unsp_dargs]

omit T in
/-- behind the arguments of a directive: the `|` of the next directive or the closing `}` -/
theorem dirs_follower (ds : List Directive) (rest : List Tk) :
    ∃ nx rest', unsp (piecesDirs ff ds) ++ tRD :: rest = nx :: rest' ∧ (nx.typ = .tPipe ∨ nx.typ = .tRightDelim) := by
  cases ds with
  | nil => exact ⟨tRD, rest, by simp [piecesDirs, unsp], Or.inr rfl⟩
  | cons d r => exact ⟨tPipe, _, by rw [unsp_dirs_cons]; rfl, Or.inl rfl⟩

/-- `printLoop` reads the directives and the closing `}` -/
theorem printLoop_rt (ef : Nat) (pos : Nat) (expr : Expr) (rest : List Tk) :
    ∀ (ds : List Directive) (acc : List Directive) (fuel : Nat) (st : FState),
      (∀ d ∈ ds, ∀ a ∈ d.args, Canon ff pf a ∧ 1 + 8 * (toks ff a).length ≤ ef) →
      (∀ d ∈ ds, d.args.length + ds.length + 1 < fuel) →  ds.length < fuel →
      At st.p (unsp (piecesDirs ff ds) ++ tRD :: rest) →
      Ok (printLoop pf ef pos expr fuel acc) st fun v => Kept st fun p2 =>
        ∃ ds', v = Node.print pos expr (acc ++ ds') ∧ ds'.map eraseDir = ds.map eraseDir ∧ At p2 rest
  | [], acc, fuel, st, _, _, hf, hst => by
    obtain ⟨fuel, rfl⟩ : ∃ f, fuel = f + 1 := ⟨fuel - 1, by omega⟩
    unfold printLoop
    refine (Ok.fnext (t := tRD) (ts := rest) (by simpa [piecesDirs, unsp] using hst)).bindK fun it p1 ⟨ht, _, hj⟩ => ?_
    rw [if_pos (by rw [ht]; rfl)]
    exact Ok.pure ⟨_, rfl, [], by simp, rfl, hj.at⟩
  | d :: r, acc, fuel, st, hc, hfa, hf, hst => by
    obtain ⟨fuel, rfl⟩ : ∃ f, fuel = f + 1 := ⟨fuel - 1, by omega⟩
    obtain ⟨nx, rest', hnx, hh⟩ := dirs_follower ff r rest
    have hfd := hfa d (List.mem_cons_self ..)
    rw [unsp_dirs_cons] at hst
    unfold printLoop
    refine (Ok.fnext (t := tPipe) (ts := tIdent d.name :: (dargToks ff tColon d.args ++ nx :: rest'))
      (by simpa [hnx] using hst)).bindK fun it p1 ⟨ht, _, hj⟩ => ?_
    rw [if_neg (by rw [ht]; decide), if_pos (by rw [ht]; rfl)]
    refine (Ok.fexpect (t := tIdent d.name) hj.at).bindK fun id p2 ⟨_, hidv, hj2⟩ => ?_
    refine (directiveArgs_rt ff pf T ef nx hh rest' d.args tColon [] fuel _ (Or.inl rfl) (hc d (List.mem_cons_self ..))
      (by simp at hfd; omega) hj2.at).bindK ?_
    rintro args' p3 ⟨_, rfl, h3e, h3a⟩
    refine (printLoop_rt ef pos expr rest r _ fuel _ (fun x hx => hc x (List.mem_cons_of_mem _ hx))
      (fun x hx => by have := hfa x (List.mem_cons_of_mem _ hx); simp at this ⊢; omega) (by simp at hf; omega)
      (by rw [hnx]; exact h3a.at)).mono ?_
    rintro _ _ ⟨p4, rfl, ds', rfl, h4e, h4a⟩
    exact ⟨p4, rfl, ⟨it.pos, id.val, args'⟩ :: ds', by simp, by simp [eraseDir, show id.val = d.name from hidv, h3e, h4e], h4a⟩

/-- `parsePrint` (the print tag's own parser: the token in front — `print`, or the first token of the
    expression backed up — has been dealt with by `beginTag`) on the tokens of the body and the closing `}` gives the
    print node back, modulo positions, and leaves the rest of the stream -/
theorem parsePrint_rt (arg : Expr) (dirs : List Directive) (hC : CmdCanon ff pf arg dirs) (ef fuel : Nat)
    (hE : ExprFuel ff ef arg dirs) (hf : ∀ d ∈ dirs, d.args.length + dirs.length + 1 < fuel) (hf' : dirs.length < fuel)
    (token : Item) (rest : List Tk) (st : FState) (hst : At st.p (unsp (piecesBody ff arg dirs) ++ tRD :: rest)) :
    ∃ e' ds' p2, parsePrint pf ef fuel token st = .ok (Node.print token.pos e' ds', { st with p := p2 }) ∧
      erase e' = erase arg ∧ ds'.map eraseDir = dirs.map eraseDir ∧ At p2 rest := by
  obtain ⟨nx, rest', hnx, hh⟩ := dirs_follower ff dirs rest
  have hG : Ok (parsePrint pf ef fuel token) st fun v => Kept st fun p2 => ∃ e' ds', v = Node.print token.pos e' ds' ∧
      erase e' = erase arg ∧ ds'.map eraseDir = dirs.map eraseDir ∧ At p2 rest := by
    unfold parsePrint
    refine (expr_tagstop ff pf T arg hC.1 nx (hh.elim Or.inl fun h => Or.inr (Or.inr h)) rest' ef hE.1 st
      (by rw [← hnx]; simpa [piecesBody, unsp_append, toks] using hst)).bindK fun e' p1 ⟨he, h1a⟩ => ?_
    refine (printLoop_rt ff pf T ef token.pos e' rest dirs [] fuel _
      (fun d hd a ha => ⟨hC.2 d hd a ha, hE.2 d hd a ha⟩) hf hf' (by rw [hnx]; exact h1a.at)).mono ?_
    rintro _ _ ⟨p2, rfl, ds', rfl, h2e, h2a⟩
    exact ⟨p2, rfl, e', ds', by simp, he, h2e, h2a⟩
  obtain ⟨_, _, h, p2, rfl, e', ds', rfl, he, hd, ha⟩ := hG
  exact ⟨e', ds', p2, h, he, hd, ha⟩

omit T in
theorem len_dargs : ∀ (r : List Expr) (sep : Tk), r.length ≤ (dargToks ff sep r).length ∧
    ∀ a ∈ r, (toks ff a).length ≤ (dargToks ff sep r).length
  | [], _ => ⟨Nat.le_refl _, fun a h => by cases h⟩
  | b :: r, sep => by
    obtain ⟨i1, i2⟩ := len_dargs r tComma
    refine ⟨by simp [dargToks]; omega, ?_⟩
    intro a ha
    simp only [dargToks, List.length_cons, List.length_append]
    rcases List.mem_cons.mp ha with rfl | ha
    · omega
    · have := i2 a ha; omega

omit T in
theorem len_dirs : ∀ (ds : List Directive), ds.length ≤ (unsp (piecesDirs ff ds)).length ∧
    ∀ d ∈ ds, (dargToks ff tColon d.args).length ≤ (unsp (piecesDirs ff ds)).length
  | [] => ⟨Nat.le_refl _, fun d h => by cases h⟩
  | e :: r => by
    obtain ⟨i1, i2⟩ := len_dirs r
    rw [unsp_dirs_cons]
    refine ⟨by simp; omega, ?_⟩
    intro d hd
    simp only [List.length_cons, List.length_append]
    rcases List.mem_cons.mp hd with rfl | hd
    · omega
    · have := i2 d hd; omega

omit T in
/-- 8 per token (+1) for the expression parser, 2 per token (+2) for the loops of the tag -/
theorem fuel_ok (arg : Expr) (dirs : List Directive) (n : Nat) (hn : (unsp (piecesBody ff arg dirs)).length ≤ n) :
    ExprFuel ff (8 * n + 1) arg dirs ∧ (∀ d ∈ dirs, d.args.length + dirs.length + 1 < 2 * n + 2) ∧ dirs.length < 2 * n + 2 := by
  have hb : (unsp (piecesBody ff arg dirs)).length = (toks ff arg).length + (unsp (piecesDirs ff dirs)).length := by
    simp [piecesBody, unsp_append, toks]
  obtain ⟨d1, d2⟩ := len_dirs ff dirs
  refine ⟨⟨by omega, ?_⟩, ?_, by omega⟩
  · intro d hd a ha
    have := (len_dargs ff d.args tColon).2 a ha
    have := d2 d hd
    omega
  · intro d hd
    have := (len_dargs ff d.args tColon).1
    have := d2 d hd
    omega

end

section
open SoyVerif.Model.FileParser (FState FP liftP parsePrint Node NodeList beginTag textOrTag itemListLoop skipComments
  parseFile parseSource)
open SoyVerif.Lemmas.ParserRound
open SoyVerif.Props.C15b (skipComments_id textOrTag_halt textOrTag_closing textOrTag_tag)

variable (ff : UInt64 → Bytes) (pf : Bytes → Option UInt64) (T : TableOK)

omit T in
theorem body_head (arg : Expr) (dirs : List Directive) :
    ∃ t r, unsp (piecesBody ff arg dirs) = t :: r ∧ t.typ ∈ headTypes := by
  obtain ⟨t, hh, hty⟩ := pieces_head ff arg
  unfold piecesBody
  cases hp : pieces ff arg with
  | nil => rw [hp] at hh; cases hh
  | cons x ps =>
    rw [hp] at hh
    simp only [List.head?_cons, Option.some.injEq] at hh
    subst hh
    exact ⟨t, _, rfl, hty⟩

include T

/-- `beginTag` (the `{` has been read) on the tokens of a printed print command: whatever token the printed expression
    begins with — `(` `[` `-` `not` `null` a boolean, an identifier, `$ident`, an integer, a float, a string —, the
    dispatch takes the implicit-print arm, backs that token up and `parsePrint` gives the print node back; the node's
    position is that first token's -/
theorem beginTag_print (arg : Expr) (dirs : List Directive) (hC : CmdCanon ff pf arg dirs) (ef fuel : Nat)
    (hE : ExprFuel ff ef arg dirs) (hf : ∀ d ∈ dirs, d.args.length + dirs.length + 1 < fuel) (hf' : dirs.length < fuel)
    (rest : List Tk) (st : FState) (hst : At st.p (unsp (piecesBody ff arg dirs) ++ tRD :: rest)) :
    ∃ pos e' ds' p2, beginTag pf ef (fuel + 1) st = .ok (some (Node.print pos e' ds'), { st with p := p2 }) ∧
      erase e' = erase arg ∧ ds'.map eraseDir = dirs.map eraseDir ∧ At p2 rest := by
  obtain ⟨t, r, hr, hty⟩ := body_head ff arg dirs
  have hG : Ok (beginTag pf ef (fuel + 1)) st fun v => Kept st fun p2 => ∃ pos e' ds', v = some (Node.print pos e' ds') ∧
      erase e' = erase arg ∧ ds'.map eraseDir = dirs.map eraseDir ∧ At p2 rest := by
    unfold beginTag
    refine (Ok.fnext (t := t) (ts := r ++ tRD :: rest) (by rw [hr] at hst; simpa using hst)).bindK
      fun it p1 ⟨hity, hiv, hj⟩ => ?_
    -- the implicit-print arm, the same for each of the eleven token types
    have arm : Ok (do FileParser.backup; pure (some (← parsePrint pf ef fuel it)) : FP (Option Node)) { st with p := p1 }
        fun v => Kept st fun p2 => ∃ pos e' ds', v = some (Node.print pos e' ds') ∧ erase e' = erase arg ∧
          ds'.map eraseDir = dirs.map eraseDir ∧ At p2 rest := by
      refine (Ok.fbackup hj).bindK fun _ p2 ha1 => ?_
      rw [tk_eq hity hiv, ← List.cons_append, ← hr] at ha1
      obtain ⟨e', ds', p3, hpp, he, hd, ha⟩ := parsePrint_rt ff pf T arg dirs hC ef fuel hE hf hf' it rest
        { st with p := p2 } ha1.at
      refine (Ok.of_eq hpp).seq ?_
      rintro _ _ ⟨rfl, rfl⟩
      exact Ok.pure ⟨p3, rfl, it.pos, e', ds', rfl, he, hd, ha⟩
    rw [← hity] at hty
    simp only [headTypes, List.mem_cons, List.not_mem_nil, or_false] at hty
    rcases hty with h | h | h | h | h | h | h | h | h | h | h <;> (simp only [h]; exact arm)
  obtain ⟨_, _, h, p2, rfl, pos, e', ds', rfl, he, hd, ha⟩ := hG
  exact ⟨pos, e', ds', p2, h, he, hd, ha⟩

/-- `textOrTag` handed the `{` of a printed print command (`untl` holds neither `{` nor a first token of an expression) -/
theorem textOrTag_print (arg : Expr) (dirs : List Directive) (hC : CmdCanon ff pf arg dirs) (ef fuel : Nat)
    (hE : ExprFuel ff ef arg dirs) (hf : ∀ d ∈ dirs, d.args.length + dirs.length + 1 < fuel) (hf' : dirs.length < fuel)
    (untl : List ItemType) (hu1 : untl.contains .tLeftDelim = false) (hu2 : ∀ t ∈ headTypes, untl.contains t = false)
    (token : Item) (htok : token.typ = .tLeftDelim)
    (rest : List Tk) (st : FState) (hst : At st.p (unsp (piecesBody ff arg dirs) ++ tRD :: rest)) :
    ∃ pos e' ds' p2, textOrTag pf ef (fuel + 2) token untl st =
        .ok ((some (Node.print pos e' ds'), false), { st with p := p2 }) ∧
      erase e' = erase arg ∧ ds'.map eraseDir = dirs.map eraseDir ∧ At p2 rest := by
  obtain ⟨t, r, hr, hty⟩ := body_head ff arg dirs
  have hst1 : At st.p (t :: (r ++ tRD :: rest)) := by rw [hr] at hst; simpa using hst
  obtain ⟨it, _, hn, p1, rfl, hity, hiv, hj⟩ := Ok.fnext hst1
  obtain ⟨_, _, hb, p2, rfl, ha1⟩ := Ok.fbackup (st := { st with p := p1 }) hj
  rw [tk_eq hity hiv, ← List.cons_append, ← hr] at ha1
  obtain ⟨pos, e', ds', p3, hbt, he, hd, ha⟩ := beginTag_print ff pf T arg dirs hC ef fuel hE hf hf' rest
    { st with p := p2 } ha1.at
  exact ⟨pos, e', ds', p3, textOrTag_tag pf (skipComments_id fuel token st (by rw [htok]; decide)) htok hu1 hn
    (by rw [hity]; exact hu2 t.typ hty) hb hbt, he, hd, ha⟩

omit T in
theorem loop_eof (ef g : Nat) (lpos : Option Nat) (nodes : NodeList) (s : List Tk) (st : FState)
    (hst : At st.p (⟨.tEOF, []⟩ :: s)) :
    ∃ lp p', itemListLoop pf ef (g + 3) [.tEOF] lpos nodes st = .ok (.list lp nodes, { st with p := p' }) := by
  obtain ⟨eo, _, hn, p1, rfl, het, _, _⟩ := Ok.fnext hst
  have het' : eo.typ = .tEOF := het
  have hun : textOrTag pf ef (g + 1 + 1) eo [.tEOF] { st with p := p1 } = .ok ((none, true), { st with p := p1 }) :=
    textOrTag_halt pf (skipComments_id g eo _ (by rw [het']; decide)) (by rw [het']; rfl)
  exact ⟨lpos.getD eo.pos, p1, C15c.itemListLoop_halt (f := g + 2) pf hn hun⟩

omit T in
/-- `textOrTag` handed the `{` of the closing command `cl` of the block (an until token): the list ends; `cl` is read -/
theorem textOrTag_close (ef g : Nat) (untl : List ItemType) (hu1 : untl.contains .tLeftDelim = false) (cl : Tk)
    (hcl : untl.contains cl.typ = true) (l2 : Item) (hl2 : l2.typ = .tLeftDelim) (rest : List Tk) (p3 : PState) (st : FState)
    (hj : Just p3 l2 (cl :: rest)) :
    ∃ p4, textOrTag pf ef (g + 2) l2 untl { st with p := p3 } = .ok ((none, true), { st with p := p4 }) ∧ At p4 rest := by
  obtain ⟨c, _, hn3, p4, rfl, hct, _, hj4⟩ := Ok.fnext (st := { st with p := p3 }) hj.at
  exact ⟨p4, textOrTag_closing pf (skipComments_id g l2 _ (by rw [hl2]; decide)) hl2 hu1 hn3 (by rw [hct]; exact hcl), hj4.at⟩

omit T in
theorem loop_close (ef g : Nat) (untl : List ItemType) (hu1 : untl.contains .tLeftDelim = false) (cl : Tk)
    (hcl : untl.contains cl.typ = true) (lpos : Option Nat) (nodes : NodeList) (rest : List Tk) (st : FState)
    (hst : At st.p (⟨.tLeftDelim, [123]⟩ :: cl :: rest)) :
    ∃ lp p', itemListLoop pf ef (g + 3) untl lpos nodes st = .ok (.list lp nodes, { st with p := p' }) ∧ At p' rest := by
  obtain ⟨l2, _, hn2, p3, rfl, hl2, _, hj3⟩ := Ok.fnext hst
  obtain ⟨p4, hun, ha⟩ := textOrTag_close pf ef g untl hu1 cl hcl l2 hl2 rest p3 st hj3
  exact ⟨lpos.getD l2.pos, p4, C15c.itemListLoop_halt (f := g + 2) pf hn2 hun, ha⟩

theorem loop_print (arg : Expr) (dirs : List Directive) (hC : CmdCanon ff pf arg dirs) (ef fuel : Nat)
    (hE : ExprFuel ff ef arg dirs) (hf : ∀ d ∈ dirs, d.args.length + dirs.length + 1 < fuel) (hf' : dirs.length < fuel)
    (untl : List ItemType) (hu1 : untl.contains .tLeftDelim = false) (hu2 : ∀ t ∈ headTypes, untl.contains t = false)
    (lpos : Option Nat) (nodes : NodeList) (rest : List Tk) (st : FState)
    (hst : At st.p (⟨.tLeftDelim, [123]⟩ :: (unsp (piecesBody ff arg dirs) ++ tRD :: rest))) :
    ∃ lpos' pos e' ds' p', itemListLoop pf ef (fuel + 3) untl lpos nodes st =
        itemListLoop pf ef (fuel + 2) untl lpos' (nodes.append (.cons (Node.print pos e' ds') .nil)) { st with p := p' } ∧
      erase e' = erase arg ∧ ds'.map eraseDir = dirs.map eraseDir ∧ At p' rest := by
  obtain ⟨ld, _, hn1, p1, rfl, hlt, _, hj1⟩ := Ok.fnext hst
  obtain ⟨pos, e', ds', p2, hto, he, hd, ha⟩ := textOrTag_print ff pf T arg dirs hC ef fuel hE hf hf' untl
    hu1 hu2 ld hlt rest { st with p := p1 } hj1.at
  refine ⟨some (lpos.getD ld.pos), pos, e', ds', p2, ?_, he, hd, ha⟩
  show itemListLoop pf ef ((fuel + 2) + 1) untl lpos nodes st = _
  rw [C15c.itemListLoop_round pf hn1 hto]
  rfl


/-- `itemList(itemEOF)` — the top level of `parse.SoyFile` — on `{`, the tokens of a printed print command, `}`, EOF:
    the list with the one print node -/
theorem itemList_print (arg : Expr) (dirs : List Directive) (hC : CmdCanon ff pf arg dirs) (ef fuel : Nat)
    (hE : ExprFuel ff ef arg dirs) (hf : ∀ d ∈ dirs, d.args.length + dirs.length + 1 < fuel) (hf' : dirs.length < fuel)
    (st : FState)
    (hst : At st.p (⟨.tLeftDelim, [123]⟩ :: (unsp (piecesBody ff arg dirs) ++ [tRD, ⟨.tEOF, []⟩]))) :
    ∃ lpos pos e' ds' st', itemListLoop pf ef (fuel + 3) [.tEOF] none .nil st =
        .ok (.list lpos (.cons (Node.print pos e' ds') .nil), st') ∧
      erase e' = erase arg ∧ ds'.map eraseDir = dirs.map eraseDir := by
  obtain ⟨k, rfl⟩ : ∃ k, fuel = k + 1 := ⟨fuel - 1, by omega⟩
  obtain ⟨lp1, pos, e', ds', p1, hr1, he, hd, ha⟩ := loop_print ff pf T arg dirs hC ef (k + 1) hE hf hf' [.tEOF] (by decide)
    (by decide) none .nil [⟨.tEOF, []⟩] st (by simpa using hst)
  obtain ⟨lp, p2, hr2⟩ := loop_eof pf ef k lp1 (NodeList.nil.append (.cons (Node.print pos e' ds') .nil)) [] { st with p := p1 } ha
  exact ⟨lp, pos, e', ds', _, hr1.trans hr2, he, hd⟩

/-- `itemList(untl…)` inside a block — e.g. `itemList(itemTemplateEnd)`, the body of a template — on `{`, the tokens of a
    printed print command, `}` and the closing command `{` `cl` (`cl` an until token): the list with the one print
    node; the stream is left behind `cl` -/
theorem itemList_print_until (arg : Expr) (dirs : List Directive) (hC : CmdCanon ff pf arg dirs) (ef fuel : Nat)
    (hE : ExprFuel ff ef arg dirs) (hf : ∀ d ∈ dirs, d.args.length + dirs.length + 1 < fuel) (hf' : dirs.length < fuel)
    (untl : List ItemType) (hu1 : untl.contains .tLeftDelim = false) (hu2 : ∀ t ∈ headTypes, untl.contains t = false)
    (cl : Tk) (hcl : untl.contains cl.typ = true) (rest : List Tk) (st : FState)
    (hst : At st.p (⟨.tLeftDelim, [123]⟩ :: (unsp (piecesBody ff arg dirs) ++ tRD :: ⟨.tLeftDelim, [123]⟩ :: cl :: rest))) :
    ∃ lpos pos e' ds' p', itemListLoop pf ef (fuel + 3) untl none .nil st =
        .ok (.list lpos (.cons (Node.print pos e' ds') .nil), { st with p := p' }) ∧
      erase e' = erase arg ∧ ds'.map eraseDir = dirs.map eraseDir ∧ At p' rest := by
  obtain ⟨k, rfl⟩ : ∃ k, fuel = k + 1 := ⟨fuel - 1, by omega⟩
  obtain ⟨lp1, pos, e', ds', p1, hr1, he, hd, ha⟩ := loop_print ff pf T arg dirs hC ef (k + 1) hE hf hf' untl hu1 hu2
    none .nil _ st hst
  obtain ⟨lp, p2, hr2, ha2⟩ := loop_close pf ef k untl hu1 cl hcl lp1 (NodeList.nil.append (.cons (Node.print pos e' ds') .nil))
    rest { st with p := p1 } ha
  exact ⟨lp, pos, e', ds', p2, hr1.trans hr2, he, hd, ha2⟩

omit T in
/-- a tag without attributes: `parseAttrs` reads the `}` and backs it up -/
theorem parseAttrs_none (allowed : List Bytes) (y : Nat) {ts : List Tk} {st : FState} (h : At st.p (tRD :: ts)) :
    Ok (FileParser.parseAttrs allowed (y + 1) []) st fun v => Kept st fun p' => v = [] ∧ At1 p' (tRD :: ts) := by
  unfold FileParser.parseAttrs
  refine (Ok.fnext h).bindK fun r p1 ⟨hr, hrv, hj⟩ => ?_
  have hr' : r.typ = .tRightDelim := hr
  simp only [hr', show (ItemType.tRightDelim == ItemType.tIdent) = false by decide, Bool.false_eq_true, if_false,
    beq_self_eq_true, Bool.true_or, if_true]
  exact (Ok.fbackup hj).bindK fun _ p2 h2 => Ok.pure ⟨_, rfl, rfl, tk_eq hr hrv ▸ h2⟩

omit T in
/-- a TEMPLATE around a body, token level: `beginTag` on `template` `.name` `}` body-tokens, where `itemList(itemTemplateEnd)`
    (`hbody`) reads the body tokens and the `{` `/template` behind them and stops in front of a `}`: the template node
    (no attributes: autoescape unspecified, not private) whose body is the list `hbody` returns -/
theorem template_around (ef y : Nat) (tv name : Bytes) (toks rest : List Tk) (P : Nat → NodeList → Prop) (st : FState)
    (hst : At st.p (⟨.tTemplate, tv⟩ :: ⟨.tDotIdent, name⟩ :: tRD :: toks))
    (hbody : ∀ p5, At p5 toks → ∃ lp nl p6, itemListLoop pf ef (y + 1) [.tTemplateEnd] none .nil { st with p := p5 } =
        .ok (.list lp nl, { st with p := p6 }) ∧ P lp nl ∧ At p6 (tRD :: rest)) :
    ∃ tpos lp nl p', beginTag pf ef (y + 3) st =
        .ok (some (Node.template tpos (st.ns ++ name) (.list lp nl) .unspecified false), { st with p := p' }) ∧
      P lp nl ∧ At p' rest := by
  have hG : Ok (beginTag pf ef (y + 3)) st fun v => Kept st fun p' => ∃ tpos lp nl,
      v = some (Node.template tpos (st.ns ++ name) (.list lp nl) .unspecified false) ∧ P lp nl ∧ At p' rest := by
    unfold beginTag
    refine (Ok.fnext hst).bindK fun tt p1 ⟨htt, _, hj1⟩ => ?_
    have htt' : tt.typ = .tTemplate := htt
    simp only [htt']
    refine Ok.bindK (Q := fun n p7 => ∃ lp nl, n = Node.template tt.pos (st.ns ++ name) (.list lp nl) .unspecified false ∧
      P lp nl ∧ At p7 rest) ?_ fun n p7 ⟨lp, nl, hn, hP, ha⟩ => Ok.pure ⟨p7, rfl, tt.pos, lp, nl, by rw [hn], hP, ha⟩
    unfold FileParser.parseTemplate
    refine (Ok.fexpect (t := ⟨.tDotIdent, name⟩) hj1.at).bindK fun di p2 ⟨_, hdv, hj2⟩ => ?_
    refine (parseAttrs_none _ y (ts := toks) hj2.at).bindK ?_
    rintro _ p4 ⟨rfl, ha4⟩
    simp only [FileParser.parseAutoescape, FileParser.boolAttr, FileParser.lookup, List.find?_nil, Option.map_none,
      Option.getD_none, beq_self_eq_true, if_true, pure_bind]
    refine (Ok.fexpect (t := tRD) ha4.at).bindK fun _ p5 ⟨_, _, hj5⟩ => ?_
    obtain ⟨lp, nl, p6, hil, hP, ha6⟩ := hbody p5 hj5.at
    refine (Ok.of_eq hil).seq ?_
    rintro _ _ ⟨rfl, rfl⟩
    refine Ok.get ((Ok.fexpect (t := tRD) ha6).bindK fun _ p7 ⟨_, _, hj7⟩ => Ok.pure ⟨p7, rfl, lp, nl, ?_, hP, hj7.at⟩)
    rw [show di.val = name from hdv]
  obtain ⟨_, _, h, p', rfl, tpos, lp, nl, rfl, hP, ha⟩ := hG
  exact ⟨tpos, lp, nl, p', h, hP, ha⟩

/-- a TEMPLATE around the tag, token level: `beginTag` on `template` `.name` `}` `{` the printed print command `}` `{`
    `/template` `}` gives the template node (no attributes: autoescape unspecified, not private) whose body is the list
    with the one print node -/
theorem template_print (arg : Expr) (dirs : List Directive) (hC : CmdCanon ff pf arg dirs) (ef fuel : Nat)
    (hE : ExprFuel ff ef arg dirs) (hf : ∀ d ∈ dirs, d.args.length + dirs.length + 1 < fuel) (hf' : dirs.length < fuel)
    (tv ev name : Bytes) (rest : List Tk) (st : FState)
    (hst : At st.p (⟨.tTemplate, tv⟩ :: ⟨.tDotIdent, name⟩ :: tRD :: ⟨.tLeftDelim, [123]⟩ ::
      (unsp (piecesBody ff arg dirs) ++ tRD :: ⟨.tLeftDelim, [123]⟩ :: ⟨.tTemplateEnd, ev⟩ :: tRD :: rest))) :
    ∃ tpos lpos pos e' ds' p', beginTag pf ef (fuel + 5) st =
        .ok (some (Node.template tpos (st.ns ++ name) (.list lpos (.cons (Node.print pos e' ds') .nil)) .unspecified false),
          { st with p := p' }) ∧
      erase e' = erase arg ∧ ds'.map eraseDir = dirs.map eraseDir ∧ At p' rest := by
  obtain ⟨tpos, lp, nl, p', h, ⟨pos, e', ds', rfl, he, hd⟩, ha⟩ := template_around pf ef (fuel + 2) tv name _ rest
    (fun _ nl => ∃ pos e' ds', nl = .cons (Node.print pos e' ds') .nil ∧ erase e' = erase arg ∧
      ds'.map eraseDir = dirs.map eraseDir) st hst
    (fun p5 h5 => by
      obtain ⟨lpos, pos, e', ds', p6, hil, he, hd, ha6⟩ := itemList_print_until ff pf T arg dirs hC ef fuel hE hf hf'
        [.tTemplateEnd] (by decide) (by decide) ⟨.tTemplateEnd, ev⟩ (by simp) (tRD :: rest) { st with p := p5 } h5
      exact ⟨lpos, _, p6, hil, ⟨pos, e', ds', rfl, he, hd⟩, ha6⟩)
  exact ⟨tpos, lp, pos, e', ds', p', h, he, hd, ha⟩

end

end SoyVerif.Props.C17c

namespace SoyVerif.Props.C17d
open SoyVerif SoyVerif.Model SoyVerif.Model.PrintTokens
open SoyVerif.Props.C15c (textItem dropped)

/-- the token of a text piece (none for the empty and the dropped ones) -/
def textTk (t : Bytes) : List Tk := if 0 < t.length ∧ dropped t = false then [⟨.tText, t⟩] else []

theorem textItem_tk (t : Bytes) (e : Nat) : (textItem t e).map Item.tk = textTk t := by
  unfold textItem textTk
  split <;> rfl

end SoyVerif.Props.C17d

namespace SoyVerif.Props.C17c
open SoyVerif SoyVerif.Model SoyVerif.Model.Lex SoyVerif.Model.Parser SoyVerif.Model.PrintTokens
open SoyVerif.Model.Printer SoyVerif.Lemmas.LexPrint SoyVerif.Lemmas.ParserBasic
open SoyVerif.Props.C15c (Holds textOK textItem TextByte dropped Runs holds_of_inpAt)

/-- what ends a body: the end of the input, or the `{` of the command that closes the block it stands in -/
def endSt : Bytes → Option St
  | [] => none
  | _ :: _ => some .leftDelim

/-- … and the item `lexText` sends there besides the pending text: EOF at the end of the input -/
def endItems : Bytes → Nat → List Item
  | [], e => [⟨.tEOF, e, []⟩]
  | _ :: _, _ => []

section
variable (ff : UInt64 → Bytes)

theorem printPrint_length (a : Expr) (d : List Directive) :
    (printPrint ff a d).length = 1 + (spell (piecesBody ff a d)).length + 1 := by
  rw [spell_body]; simp; omega

variable (LT : LexTableOK)
include LT

theorem print_tag_runs {inp : Array UInt8} {q : Nat} (arg : Expr) (dirs : List Directive) (h : CmdOk ff arg dirs) (post : Bytes)
    (hin : InpAt inp q (printPrint ff arg dirs ++ post)) :
    Runs inp .leftDelim q (some .text) (q + 1 + (spell (piecesBody ff arg dirs)).length + 1) (tagItems ff q arg dirs)
      (2 * (spell (piecesBody ff arg dirs)).length + 4) := by
  intro w dd ts le its fuel hf
  obtain ⟨k, hk, hrun⟩ := print_tag_steps ff LT arg dirs h hin dd ts le its
  obtain ⟨f, rfl⟩ : ∃ f, fuel = f + k + 4 := ⟨fuel - (k + 4), by omega⟩
  obtain ⟨its', h1, h2⟩ := hrun w f
  exact ⟨f, 1, false, (q : Int), _, its', by omega, h2, h1⟩

theorem text_cmd_runs {inp : Array UInt8} {q : Nat} (t : Bytes) (ht : t = [] ∨ textOK t) (arg : Expr) (dirs : List Directive)
    (h : CmdOk ff arg dirs) (post : Bytes) (hin : InpAt inp q (t ++ (printPrint ff arg dirs ++ post))) :
    Runs inp .text q (some .text) (q + t.length + 1 + (spell (piecesBody ff arg dirs)).length + 1)
      (textItem t (q + t.length) ++ tagItems ff (q + t.length) arg dirs) (2 * (printPrint ff arg dirs).length + 5) := by
  have hH : Holds inp q (t ++ 123 :: (spell (piecesBody ff arg dirs) ++ [125])) :=
    holds_of_inpAt (post := post) (by rw [spell_body] at hin; simpa using hin)
  refine ((C15c.text_open_runs ht hH).trans (print_tag_runs ff LT arg dirs h post (inpAt_append hin))).mono rfl rfl ?_
  rw [printPrint_length]; omega

omit LT in
/-- a text run `t` (possibly empty) at the end of a body: in front of the end of the input (`post = []`: its Text item
    and EOF) or of the `{` of the command that closes the block (`lexLeftDelim` takes over) -/
theorem text_end_runs {inp : Array UInt8} {q : Nat} {t post : Bytes} (ht : t = [] ∨ textOK t) (hin : InpAt inp q (t ++ post))
    (hp : post = [] ∨ ∃ p, post = 123 :: p) :
    Runs inp .text q (endSt post) (q + t.length) (textItem t (q + t.length) ++ endItems post (q + t.length)) 1 := by
  rcases hp with rfl | ⟨p, rfl⟩
  · exact C15c.text_eof_runs ht (holds_of_inpAt hin) (by have := inpAt_len hin; simpa using this)
  · exact (C15c.text_open_runs ht (holds_of_inpAt (post := []) (by simpa using hin))).mono rfl (by simp [endItems]) (Nat.le_refl _)

end

end SoyVerif.Props.C17c
