/-
  C18, file mode: `parse.SoyFile` leaves no lexer goroutine behind — neither the one it starts
  for the file nor the nested ones `parseQuotedExpr` starts for quoted attribute expressions.

  Real code (parse.go): `SoyFile` starts `lex(name, text)` and defers `t.recover`; on a
  non-runtime panic (every `t.errorf`) `recover` calls `t.lex.drain()`; after a successful
  `itemList(itemEOF)` the parser has received the EOF item, the last thing the lexer sends before
  it closes the channel — and `SoyFile` drains there too, so the scanner is gone (not merely about to
  exit) when the call returns: `fileEntry_drained`, which needs NO assumption on the token list.
  `parseQuotedExpr` starts `lexExpr("", str)` and `defer tt.lex.drain()`s it on every way out.

  With the channel transition system of Model/Conc.lean (`producer_exits_iff`, Props/C18.lean:
  the producer exits iff the consumer received at least as many items as were produced, or
  drained):
  * `fileEntry_drains` — on a token list whose EOF item is only ever the last one, every
    normal return of `SoyFile` (a tree, or an error at any token — lexer error items and errors
    re-raised from a quoted expression included) either called drain or received every item;
  * `fileEntry_no_leak` — hence the lexer goroutine exits under every interleaving;
  * `soyFile_no_leak` — for EVERY input: the lexer model's token list has that shape
    (`lex_eof_last`), and `SoyFile` returns normally (`parse_source_no_panic`,
    `parse_source_total`);
  * `quotedEntry_no_leak` — the nested lexer of a quoted expression is always drained, whether
    the nested parser succeeds or fails, and `parseQuotedExpr` is `quotedEntry` on the nested
    lexer's items (`parseQuotedExpr_eq`).
-/
import SoyVerif.Props.C18
import SoyVerif.Props.C05parse

namespace SoyVerif.Props.C18
open SoyVerif SoyVerif.Model SoyVerif.Model.Conc SoyVerif.Model.Parser SoyVerif.Model.FileParser
open SoyVerif.Lemmas.ParserSafe SoyVerif.Props.C05

/-- the EOF item, if any, is the last item of the list -/
def EOFLast (items : List Item) : Prop := ∀ x ∈ items.dropLast, x.typ ≠ .tEOF

/-- every normal return of `parse.SoyFile` — a tree or an error — HAS CALLED drain, on any token list
    whatever (also after a successful parse) -/
theorem fileEntry_drained (pf : Bytes → Option UInt64) (ef : Nat) (items : List Item)
    (hres : (∃ ns, (fileEntry pf ef items).result = .ok ns) ∨ (∃ p, (fileEntry pf ef items).result = .error (.err p))) :
    (fileEntry pf ef items).drainCalled = true ∧ (fileEntry pf ef items).drained = true := by
  unfold fileEntry at hres ⊢
  simp only [StateT.run] at hres ⊢
  split
  · exact ⟨rfl, rfl⟩
  · rename_i he; simp only [he] at hres; rcases hres with ⟨_, h⟩ | ⟨_, h⟩ <;> simp at h
  · exact ⟨rfl, rfl⟩
  · rename_i he; simp only [he] at hres; rcases hres with ⟨_, h⟩ | ⟨_, h⟩ <;> simp at h
  · rename_i he; simp only [he] at hres; rcases hres with ⟨_, h⟩ | ⟨_, h⟩ <;> simp at h

/-- every normal return of `parse.SoyFile` has drained the channel or received every item -/
theorem fileEntry_drains (pf : Bytes → Option UInt64) (items : List Item) (hel : EOFLast items)
    (hres : (∃ ns, (fileEntry pf (exprFuel items) items).result = .ok ns) ∨
      (∃ p, (fileEntry pf (exprFuel items) items).result = .error (.err p))) :
    (fileEntry pf (exprFuel items) items).drainCalled = true ∨
      items.length ≤ (fileEntry pf (exprFuel items) items).received :=
  Or.inl (fileEntry_drained pf _ items hres).1

/-- … hence, by `producer_exits_iff`, the lexer goroutine of that call has exited in every
    interleaving (`k` = the receives the parser performed, at least `received`) -/
theorem fileEntry_no_leak (pf : Bytes → Option UInt64) (items : List Item) (hel : EOFLast items)
    (hres : (∃ ns, (fileEntry pf (exprFuel items) items).result = .ok ns) ∨
      (∃ p, (fileEntry pf (exprFuel items) items).result = .error (.err p)))
    (k : Nat) (hk : (fileEntry pf (exprFuel items) items).received ≤ k) (t : St)
    (hr : Reach ⟨items.length, false, program k (fileEntry pf (exprFuel items) items).drainCalled⟩ t)
    (hs : Stuck t) : producerDone t = true :=
  (producer_exits_iff items.length k _ t hr hs).2.2 (Or.inr (fileEntry_drained pf _ items hres).1)

/-- the nested lexer of a quoted attribute expression is drained on every way out -/
theorem quotedEntry_drains (pf : Bytes → Option UInt64) (items : List Item) :
    (quotedEntry pf items).drainCalled = true := by
  unfold quotedEntry
  split <;> rfl

theorem quotedEntry_no_leak (pf : Bytes → Option UInt64) (items : List Item) (k : Nat) (t : St)
    (hr : Reach ⟨items.length, false, program k (quotedEntry pf items).drainCalled⟩ t) (hs : Stuck t) :
    producerDone t = true := by
  rw [quotedEntry_drains] at hr
  exact ((producer_exits_iff items.length k true t hr hs).2).2 (Or.inr rfl)

/-- `parseQuotedExpr(str)` is `quotedEntry` on the items of the nested lexer: the tree on
    success (moved to the enclosing parser's current token, `setPos`), `t.errorf` of the
    enclosing parser on a nested error -/
theorem parseQuotedExpr_eq (pf : Bytes → Option UInt64) (str : Bytes) (is : List Item) (st : FState)
    (hl : Lex.lexAll str true = .items is) :
    parseQuotedExpr pf str st =
      match (quotedEntry pf is).result with
      | .ok e =>
        (match Parser.errPos st.p with
         | .ok p => .ok (reposition p e, st)
         | .error _ => .error .panic)
      | .error (.err _) => (FileParser.errorf : FP Expr) st
      | .error .panic => .error .panic
      | .error .fuelOut => .error .fuelOut := by
  unfold parseQuotedExpr quotedEntry
  rw [hl]
  simp only
  cases (Parser.parseExpr pf (Parser.fuelFor is.length) 0).run (Parser.initState is) with
  | ok r => rfl
  | error e => cases e <;> rfl

/-- on a token list whose EOF item is only ever the last one the top loop ends in a tree, with every item
    received, in a positioned error, or in a panic (fuel suffices) -/
theorem fileEntry_cases (pf : Bytes → Option UInt64) (items : List Item) (hel : EOFLast items) :
    let o := fileEntry pf (exprFuel items) items
    (∃ ns, o.result = .ok ns ∧ o.received = items.length) ∨
    (∃ p, o.result = .error (.err p) ∧ o.drainCalled = true) ∨ o.result = .error .panic := by
  have h := top_safe pf True ⟨True, False⟩ (fun _ => True) trivial items (fun _ _ => trivial)
    (fun _ _ => Or.inl trivial) (fun _ => hel) (fun h => absurd h id)
  unfold FSafe at h
  simp only
  unfold fileEntry
  simp only [StateT.run]
  split
  · rename_i pos nodes st he
    rw [he] at h
    have hr := h.2.1 trivial
    left
    exact ⟨_, rfl, by simp [hr]⟩
  · right; right; rfl
  · right; left; exact ⟨_, rfl, rfl⟩
  · right; right; rfl
  · rename_i he
    rw [he] at h
    exact absurd h id

/-- for EVERY input: `parse.SoyFile` returns a tree or a positioned error, and in either case
    its lexer goroutine can finish -/
theorem soyFile_no_leak (pf : Bytes → Option UInt64) (input : Bytes) :
    ∃ is, Lex.lexAll input false = .items is ∧
      ((∃ ns, (fileEntry pf (exprFuel is) is).result = .ok ns) ∨
        (∃ p, (fileEntry pf (exprFuel is) is).result = .error (.err p))) ∧
      ((fileEntry pf (exprFuel is) is).drainCalled = true ∨
        is.length ≤ (fileEntry pf (exprFuel is) is).received) := by
  obtain ⟨is, hl, _⟩ := lex_items input false
  have hel : EOFLast is := lex_eof_last input false is hl
  have hres : (∃ ns, (fileEntry pf (exprFuel is) is).result = .ok ns) ∨
      (∃ p, (fileEntry pf (exprFuel is) is).result = .error (.err p)) := by
    rcases fileEntry_cases pf is hel with ⟨ns, h, _⟩ | ⟨p, h, _⟩ | hp
    · exact Or.inl ⟨ns, h⟩
    · exact Or.inr ⟨p, h⟩
    · -- a panic is impossible: the same run is `parseFile`, which never panics on lexer output
      exfalso
      apply parse_no_panic_of_wf pf is (lex_wf input false is hl) lexWF
      unfold fileEntry at hp
      unfold parseFile
      simp only [StateT.run] at hp ⊢
      split at hp <;> simp_all
  exact ⟨is, hl, hres, Or.inl (fileEntry_drained pf _ is hres).1⟩

/- Non-vacuity.  The quoted expression of `{call .u data="$x +"/}`: the nested lexer has 3 items (`$x`, `+`, the
   Error item "unclosed tag") and the nested parser fails after ONE receive.  `program 1 true` (one receive, then
   the deferred drain): the producer exits.  `program 1 false` (one receive, no drain): it never does. -/
example : ∃ t, Reach ⟨3, false, program 1 true⟩ t ∧ Stuck t ∧ producerDone t = true :=
  ⟨⟨0, true, []⟩,
   Reach.step (Step.sendRecv 2 _) (Reach.step (Step.sendDrain 1 _) (Reach.step (Step.sendDrain 0 _)
     (Reach.step (Step.close _) (Reach.step (Step.drainClosed _) (Reach.refl _))))),
   stuck_nil_closed, rfl⟩

example : ∃ t, Reach ⟨3, false, program 1 false⟩ t ∧ Stuck t ∧ producerDone t = false :=
  ⟨⟨2, false, []⟩, Reach.step (Step.sendRecv 2 _) (Reach.refl _), stuck_nil_open 1, rfl⟩

/-- to decide `x = .error e` the errors are compared; no equality test on syntax trees is needed -/
local instance {ε α : Type} [DecidableEq ε] (x : Except ε α) (e : ε) : Decidable (x = .error e) :=
  match x with
  | .error e' => decidable_of_iff (e' = e) ⟨congrArg _, Except.error.inj⟩
  | .ok _ => isFalse nofun

/-- the nested parse of `$x +` on its token list fails, and is drained -/
example : ∃ pf : Bytes → Option UInt64,
    (quotedEntry pf [⟨.tDollarIdent, 2, [36, 120]⟩, ⟨.tAdd, 4, [43]⟩, ⟨.tError, 4, []⟩]).result = .error (.err 4) ∧
    (quotedEntry pf [⟨.tDollarIdent, 2, [36, 120]⟩, ⟨.tAdd, 4, [43]⟩, ⟨.tError, 4, []⟩]).drainCalled = true :=
  ⟨fun _ => none, by decide +kernel⟩

set_option maxHeartbeats 4000000 in
/-- `{$x +}`: the parser fails at `}`; `recover` drains -/
example : (fileEntry (fun _ => none) 104 [⟨.tLeftDelim, 1, [123]⟩, ⟨.tDollarIdent, 3, [36, 120]⟩, ⟨.tAdd, 5, [43]⟩,
      ⟨.tRightDelim, 6, [125]⟩, ⟨.tEOF, 6, []⟩]).result = .error (.err 6) ∧
    (fileEntry (fun _ => none) 104 [⟨.tLeftDelim, 1, [123]⟩, ⟨.tDollarIdent, 3, [36, 120]⟩, ⟨.tAdd, 5, [43]⟩,
      ⟨.tRightDelim, 6, [125]⟩, ⟨.tEOF, 6, []⟩]).drainCalled = true := by decide +kernel

/-- `hi`: success — every item received, and the channel drained before SoyFile returns -/
example : (fileEntry (fun _ => none) 80 [⟨.tText, 2, [104, 105]⟩, ⟨.tEOF, 2, []⟩]).drainCalled = true ∧
    (fileEntry (fun _ => none) 80 [⟨.tText, 2, [104, 105]⟩, ⟨.tEOF, 2, []⟩]).received = 2 := by decide +kernel

end SoyVerif.Props.C18
