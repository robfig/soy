/-
  The interpreter's directive library read as a directive semantics of the specification (`modelDirSem`: the table,
  the implementations, on scalars — `concV` takes a scalar of Spec/Eval back to the interpreter's value), and `outCode`,
  the code through which a result of the specification is compared by evaluation.  Both sides of the development use
  them: Props/C02Spec (the interpreter refines the specification under `modelDirSem`) and Props/C04d–h (the generated
  JavaScript against the specification under the same library), which is why they stand apart from either.
-/
import SoyVerif.Lemmas.EvalRefine

namespace SoyVerif.Props.C02Spec
open SoyVerif SoyVerif.Model SoyVerif.Model.Eval SoyVerif.Refine
open SoyVerif.Spec.Eval (Val Out)

/-! Concrete runs of the specification are evaluated by the kernel (`decide +kernel`).  `Out` has no decidable equality: a
    result is first mapped to an `Option` code. -/

def outCode {α : Type} : Out α → Option (Option α)
  | .val a => some (some a)
  | .error => some none
  | .unspec => none

theorem eq_of_outCode {α : Type} {a b : Out α} (h : outCode a = outCode b) : a = b := by
  cases a <;> cases b <;> simp [outCode] at h
  · rw [h]
  · rfl
  · rfl

/-- scalars back into the interpreter's values -/
def concV : Val → Value
  | .undefined => .undefined
  | .null => .null
  | .bool b => .bool b
  | .int i => .int (Int64.ofInt i)
  | .float f => .float f
  | .str s => .str s
  | .list _ => .undefined
  | .map _ => .undefined

theorem concV_absV (mv : Value) (h : Scalar mv = true) : concV (absV mv) = mv := by
  cases mv <;> simp_all [absV, concV, Scalar]

theorem concL_absL : ∀ (l : List Value), (∀ x ∈ l, Scalar x = true) → (absL l).map concV = l
  | [], _ => rfl
  | x :: r, h => by
    simp only [absL, List.map_cons]
    rw [concV_absV x (h x List.mem_cons_self), concL_absL r (fun y hy => h y (List.mem_cons_of_mem _ hy))]

def scalarV : Val → Bool
  | .list _ => false
  | .map _ => false
  | _ => true

theorem scalarV_abs (mv : Value) : scalarV (absV mv) = Scalar mv := by cases mv <;> rfl

theorem scalarV_absL : ∀ (l : List Value), (absL l).all scalarV = true → ∀ x ∈ l, Scalar x = true
  | [], _ => by simp
  | x :: r, h => by
    simp only [absL, List.all_cons, Bool.and_eq_true] at h
    intro y hy
    rcases List.mem_cons.mp hy with rfl | hy
    · rw [← scalarV_abs]; exact h.1
    · exact scalarV_absL r h.2 y hy

/-- the directive semantics of the interpreter's library: its table, its implementations — on scalar values
    and arguments; on collections this instance leaves the result open -/
def modelDirSem (tbl : Directives.Table) : Spec.Eval.DirSem :=
  { lookup := fun name => (Directives.lookup tbl name).map fun e => (e.arities, e.impl, e.cancel)
    apply := fun impl v args =>
      if scalarV v && args.all scalarV then
        match applyDirective impl (concV v) (args.map concV) with
        | some r => .val (absV r)
        | none => .error
      else .unspec }

end SoyVerif.Props.C02Spec
