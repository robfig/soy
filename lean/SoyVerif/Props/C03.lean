/-
  C03 — Autoescaping: data never reaches HTML output raw unless explicitly cancelled.

  Property theorems over the byte-level models of Model/Escape.lean and Model/Directives.lean
  (tied to /repo by the correspondences C03esc / C16dir and the generated directive table).
  The specification side (decoder, "no raw special", "every & starts a reference") is
  Spec/Html.lean.  All statements hold for ALL byte strings (no length bound, invalid UTF-8
  included).
-/
import SoyVerif.Lemmas.EscapeHtml
import SoyVerif.Lemmas.EscapeDirectives
import SoyVerif.Lemmas.EscapeBreaks

namespace SoyVerif.Props.C03
open SoyVerif SoyVerif.Model SoyVerif.Spec SoyVerif.Model.Directives
open SoyVerif.Lemmas.EscapeHtml SoyVerif.Lemmas.EscapeDirectives SoyVerif.Lemmas.EscapeBreaks

/-- `out` is a safe HTML encoding of the data `v`: none of  < > " '  occurs in it, every `&`
    in it begins a complete character reference, and it decodes back to exactly `v`. -/
def SafeHtmlEncoding (out v : Bytes) : Prop :=
  (∀ b ∈ out, b ≠ 60 ∧ b ≠ 62 ∧ b ≠ 34 ∧ b ≠ 39) ∧
  (∀ pre post, out = pre ++ 38 :: post → (matchRef (38 :: post)).isSome = true) ∧
  htmlUnescape out = v

/-- the autoescaper soyhtml.htmlEscapeString, for every byte string -/
theorem htmlEscape_safe (s : Bytes) : SafeHtmlEncoding (htmlEscape s) s :=
  ⟨(noRawSpecial_iff _).1 (htmlEscape_noRaw s), (ampsStartRefs_iff _).1 (htmlEscape_amps s),
   htmlUnescape_htmlEscape s⟩

example : htmlEscape [60, 97, 62, 38, 34, 39] =
    [38, 108, 116, 59, 97, 38, 103, 116, 59, 38, 97, 109, 112, 59, 38, 113, 117, 111, 116, 59, 38, 35, 51, 57, 59] := by decide
example : htmlUnescape [38, 108, 116, 59, 97, 38, 103, 116, 59] = [60, 97, 62] := by decide
/- the specification rejects raw text and cut references -/
example : noRawSpecial [60, 97, 62] = false := by decide
example : ampsStartRefs [38, 108, 60, 119, 98, 114, 62, 116, 59] = false := by decide

/- The escaping directives (escapeHtml, and the first step of changeNewlineToBr / insertWordBreaks) call the renderer's
   own escaper (soyhtml/directives.go), so `htmlEscape_safe` covers them. -/

/-- the HTML-producing directives that cancel autoescaping still escape every data byte they
    pass through: with the tags they insert themselves removed, the output of escapeHtml,
    changeNewlineToBr and insertWordBreaks is a safe encoding of the value (for
    changeNewlineToBr without its line breaks); see C16 for "no reference is cut". -/
theorem escaping_directives_safe (s : Bytes) (n : Int) :
    SafeHtmlEncoding (htmlEscape s) s ∧
    SafeHtmlEncoding (removeTag brTag (changeNewlineToBr s)) (s.filter notNL) ∧
    SafeHtmlEncoding (removeTag wbrTag (insertWordBreaks s n)) s := by
  rw [removeBr_changeNewlineToBr, removeWbr_insertWordBreaks]
  exact ⟨htmlEscape_safe s, htmlEscape_safe _, htmlEscape_safe s⟩

/-- the escape decision of evalPrint: in a mode other than Off, a print whose directives
    (obligatory ones included) all exist in the table without the cancel flag writes exactly
    the autoescaper's image of the final value `r` of the directive chain — whatever the table,
    the directives' arguments and the value are. -/
theorem print_escapes (tbl : Table) (oblig : List Bytes) (mode : Mode) (dirs : List DirCall) (v out : Bytes)
    (hmode : mode ≠ .off)
    (hnc : noCancel tbl (dirs ++ oblig.map fun n => (n, [])) = true)
    (hout : printBytesWith tbl oblig mode dirs v = .ok out) :
    ∃ r, chainValue tbl (dirs ++ oblig.map fun n => (n, [])) v = .ok r ∧ out = htmlEscape r ∧
      SafeHtmlEncoding out r := by
  obtain ⟨r, h1, h2⟩ := printBytesWith_noCancel tbl oblig mode dirs v out hmode hnc hout
  exact ⟨r, h1, h2, h2 ▸ htmlEscape_safe r⟩

/- non-vacuity on a two-entry table: `t` (truncate, does not cancel) is escaped, `i` (id, cancels) is not -/
example : printBytesWith [⟨[116], [1, 2], false, sDirectiveTruncate⟩, ⟨[105], [0], true, sDirectiveNoAutoescape⟩] []
    .on [([116], [.int 2, .bool false])] [60, 97, 62] = .ok [38, 108, 116, 59, 97] := by decide
example : noCancel [⟨[116], [1, 2], false, sDirectiveTruncate⟩, ⟨[105], [0], true, sDirectiveNoAutoescape⟩]
    [([116], [.int 2, .bool false])] = true := by decide
example : printBytesWith [⟨[116], [1, 2], false, sDirectiveTruncate⟩, ⟨[105], [0], true, sDirectiveNoAutoescape⟩] []
    .on [([105], [])] [60, 97, 62] = .ok [60, 97, 62] := by decide

/-- with no directive at all the written bytes are the escaped value -/
theorem print_plain (tbl : Table) (mode : Mode) (v : Bytes) (hmode : mode ≠ .off) :
    printBytesWith tbl [] mode [] v = .ok (htmlEscape v) := by
  cases mode <;> simp_all [printBytesWith, runChain]

/-- in mode Off, with no directive, the value is written raw (that nothing else lets it through raw is `print_escapes`) -/
theorem print_off (tbl : Table) (v : Bytes) : printBytesWith tbl [] .off [] v = .ok v := by
  simp [printBytesWith, runChain]

/-- the mode in force is Off only if the template says autoescape="false", or does not say
    anything and the namespace says "false" -/
theorem effectiveMode_off (ns tmpl : Mode) :
    effectiveMode ns tmpl = .off ↔ (tmpl = .off ∨ (tmpl = .unspecified ∧ ns = .off)) := by
  cases ns <;> cases tmpl <;> simp [effectiveMode]

end SoyVerif.Props.C03
