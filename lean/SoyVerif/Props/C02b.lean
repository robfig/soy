/-
  C02 — `scope.alldata` never fails inside a run started by `Execute`.

  `data="all"` passes the caller's frames from the innermost ENTERED frame down (Props/C02
  `callee_env_all`).  The Go code has a `panic("impossible")` for a scope without an entered frame; the
  model counts those failures in the ghost field `St.impossible`.  Every scope the walk reaches is
  `Shaped` (unmarked frames above an entered one): a run starts on the result of `enter`, every sub-run
  is started on the current scope or on a `push` of it, every callee on the result of `enter`
  (Lemmas/EvalShaped.lean: on shaped scopes the counter obeys the law of the walk, Lemmas/EvalWalk.lean).
-/
import SoyVerif.Lemmas.EvalShaped

namespace SoyVerif.Props.C02b
open SoyVerif SoyVerif.Model SoyVerif.Model.Eval
open SoyVerif.Props.C02 (Shaped shaped_enter)

/-- a template walk from a scope with an entered frame never counts a failed `scope.alldata` (Lemmas/EvalShaped
    `runTmpl_noimp`, under the name the property is cited by) -/
theorem walk_keeps_counter (g : GEnv) (fuel : Nat) (t : Registry.Tmpl) (ctx : Scope) (st : St)
    (hown : Own ctx st) (hs : Shaped ctx) : (runTmpl g fuel t ctx st).st.impossible = st.impossible :=
  runTmpl_noimp g fuel t ctx st hown hs

/-- a render never reaches `panic("impossible")` of scope.alldata -/
theorem alldata_total_in_runs (g : GEnv) (name : Bytes) (data : Frame) (fuel : Nat) :
    (execute g name data fuel).impossible = 0 := by
  cases ht : Registry.lookup g.reg name with
  | none => unfold execute; rw [ht]
  | some t =>
    rw [execute_some g name data fuel t ht]
    exact runTmpl_noimp g fuel t [⟨1, false⟩, ⟨0, true⟩] _ ⟨⟨1, false⟩, [⟨0, true⟩], ⟨[], false⟩, rfl, rfl, rfl⟩
      ⟨[⟨1, false⟩], ⟨0, true⟩, [], rfl, by simp, rfl⟩

/-- on a shaped scope the data scope of a data="all" call exists: unmarked frames are dropped, the callee
    gets a fresh frame on top of the frames from the entered one down -/
theorem data_all_scope_exists (g : GEnv) (d : Option Expr) (ctx : Scope) (st : St) (hs : Shaped ctx) :
    ∃ locals f rest, ctx = locals ++ f :: rest ∧ (∀ x ∈ locals, x.entered = false) ∧ f.entered = true ∧
      callData g true d ctx st =
        some (⟨st.heap.length, false⟩ :: f :: rest, { st with heap := st.heap ++ [⟨[], false⟩] }) := by
  obtain ⟨l, f, r, rfl, hl, hf⟩ := hs
  exact ⟨l, f, r, rfl, hl, hf, C02.callee_env_all g d l f r st hl hf⟩

/-! ### non-vacuity: on a scope WITHOUT an entered frame the counter does move -/

def tC : Registry.Tmpl :=
  { name := [99], params := [], body := .mk 0 .nil, autoescape := .unspecified, nsName := [110],
    nsAutoescape := .unspecified, pos := 0, file := [102], text := [] }

def g0 : GEnv := { reg := [tC], globals := [], ij := none, msgs := none, tbl := [], oblig := [] }

example : (execCmd g0 true (fun _ ctx st => ⟨.ok, ctx, st⟩) (.call 0 [99] true none .nil) [⟨0, false⟩]
    { heap := [⟨[], false⟩], out := [], next := 2, foreign := 0 }).st.impossible = 1 := by decide +kernel
/-- … whereas a render through `execute` — where the theorem keeps it at 0 — goes through, e.g. `{call .c data="all" /}` -/
example : (execute { g0 with reg := [{ tC with name := [116], body := .mk 0 (.cons (.call 1 [99] true none .nil) .nil) }, tC] }
    [116] [] 3).cls = .ok := by decide +kernel

end SoyVerif.Props.C02b
