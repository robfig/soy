/-
  C15 (source level): template bodies made of text, print tags `{$ident}` and block comments, from the BYTES to the
  nodes.  `body_source_spec_comments` states what `parse.SoyFile` does with the source of a well-formed body: the items
  the lexer sends, with their positions, and the nodes the parser builds — a text piece next to a comment is normalised
  with `trimAfter` / `trimBefore`.  `body_source_spec` is the case without comments; at the end the case of one run of
  plain text, stated in the terms of Props/C15b.

  The lexer half composes runs (Props/SrcLex: `Runs`): `lex_cbody` is the induction over the pieces with the text run
  still to be read as a parameter (`Pending`), because `lexText` sends a text and the comment behind it in ONE call.
  The parser's actions are stated as steps on the token stream (the success judgement `Ok` of Lemmas/ParserBasic,
  here in its reading `Does` with `Strm`; Props/C05c uses them for every command),
  and one round of `itemList` as four lemmas, one per branch of `textOrTag` (`halt_round`, `close_round`, `tag_round`,
  `text_round`; Props/C05c uses them too).  `parse_cbody` is the induction over the pieces with the Comment
  tokens read since the last node as a parameter, because comments make no round of their own: `textOrTag` skips them
  on its way to the next token.
-/
import SoyVerif.Props.SrcLex
import SoyVerif.Lemmas.ParserBasic

namespace SoyVerif.Props.C15c
open SoyVerif SoyVerif.Model SoyVerif.Model.Parser SoyVerif.Model.FileParser SoyVerif.Lemmas.ParserSafe
open SoyVerif.Spec SoyVerif.Props.C15b
open SoyVerif.Lemmas.ParserBasic (Ok)
open Lex

/-- a piece of a body without comments; `CPiece` further down is the same with comments (joined by `Piece.toC`) -/
inductive Piece where
  | text (t : Bytes)
  /-- the print tag `{$id}` -/
  | tag (id : Bytes)
  deriving Repr, DecidableEq

abbrev Body := List Piece

def Piece.src : Piece → Bytes
  | .text t => t
  | .tag id => 123 :: 36 :: (id ++ [125])

def srcOf : Body → Bytes
  | [] => []
  | p :: r => p.src ++ srcOf r

def Piece.isText : Piece → Bool
  | .text _ => true
  | .tag _ => false

/-- well-formed bodies: text pieces are `textOK`, identifiers `idOK`, and no two text pieces are adjacent -/
def WF : Body → Prop
  | [] => True
  | .text t :: r => textOK t ∧ (∀ p ∈ r.head?, p.isText = false) ∧ WF r
  | .tag id :: r => idOK id ∧ WF r

/-- the items `lex` sends for a body that begins at byte `q` of the source -/
def itemsOf : Nat → Body → List Item
  | q, [] => [⟨.tEOF, q, []⟩]
  | q, .text t :: r => (if dropped t = false then [⟨.tText, q + t.length, t⟩] else []) ++ itemsOf (q + t.length) r
  | q, .tag id :: r =>
    ⟨.tLeftDelim, q + 1, [123]⟩ :: ⟨.tDollarIdent, q + 2 + id.length, 36 :: id⟩ ::
      ⟨.tRightDelim, q + 3 + id.length, [125]⟩ :: itemsOf (q + 3 + id.length) r

/-- `C05c.tag_runs` (Props/SrcLex) on the tag `{` `$id` `}` -/
theorem print_tag_runs {inp : Array UInt8} {q : Nat} {id post : Bytes} (hid : idOK id)
    (h : Holds inp q (123 :: 36 :: (id ++ [125]) ++ post)) :
    Runs inp .leftDelim q (some .text) (q + 3 + id.length)
      [⟨.tLeftDelim, q + 1, [123]⟩, ⟨.tDollarIdent, q + 2 + id.length, 36 :: id⟩,
       ⟨.tRightDelim, q + 3 + id.length, [125]⟩] 6 := by
  have := C05c.tag_runs (.open [.dollar id] false) ⟨by simp, hid, (show C05c.delimByte (125 : UInt8).toNat by decide), trivial⟩ (inp := inp) (q := q)
    (by simpa [C05c.Tag.src, C05c.srcEs, C05c.Elem.src, C05c.closeBytes] using h.append.1)
  refine this.mono ?_ ?_ ?_
  · simp [C05c.Tag.src, C05c.srcEs, C05c.Elem.src, C05c.closeBytes]; omega
  · simp [C05c.Tag.items, C05c.itemsEs, C05c.Elem.items, C05c.srcEs, C05c.Elem.src]; omega
  · simp [C05c.Tag.steps, C05c.stepsEs, C05c.Elem.steps]

section parser
variable (pf : Bytes → Option UInt64)

/-! ## the parser's actions as steps on the token stream

  The success judgement is `Ok m st R` of Lemmas/ParserBasic (one for both parser monads); `Ok.seq` walks through a `do`
  block one action at a time.  Two readings for the file parser:

  * `Does m st v Q` — the value `v` is known beforehand.  This file and Props/C05c know the stream as a list of ITEMS:
    `Strm st0 k s st`: `st` has the token stream `s`, at most `k ≤ 2` tokens backed up, and the file-level fields of
    `st0` (the bound 2 is the parser's own, so reading a token asks nothing of `k`; only `backup` needs `k ≤ 1`).
  * Props/C17c, C15d and C17d know the stream as a list of TOKENS and use `Ok` itself with postconditions `Kept st …`
    (Lemmas/ParserBasic: `Ok.bindK`, `Ok.fnext`, …). -/

def Does {α : Type} (m : FP α) (st : FState) (v : α) (Q : FState → Prop) : Prop := Ok m st fun a st' => a = v ∧ Q st'

theorem Does.mk {α : Type} {m : FP α} {st st' : FState} {v : α} {Q : FState → Prop} (hm : m st = .ok (v, st')) (h : Q st') :
    Does m st v Q :=
  ⟨v, st', hm, rfl, h⟩

theorem Does.out {α : Type} {m : FP α} {st : FState} {v : α} {Q : FState → Prop} (h : Does m st v Q) :
    ∃ st', m st = .ok (v, st') ∧ Q st' :=
  let ⟨_, st', hm, e, hq⟩ := h
  ⟨st', e ▸ hm, hq⟩

theorem Does.bind {α β : Type} {m : FP α} {f : α → FP β} {st : FState} {v : α} {w : β} {Q R : FState → Prop}
    (h : Does m st v Q) (hf : ∀ st', Q st' → Does (f v) st' w R) : Does (m >>= f) st w R :=
  Ok.seq h fun _ st' ⟨e, hq⟩ => e ▸ hf st' hq

theorem Does.ret {α : Type} {v : α} {st : FState} {Q : FState → Prop} (h : Q st) : Does (pure v) st v Q :=
  Ok.pure ⟨rfl, h⟩

theorem Does.val {α : Type} {m : FP α} {st : FState} {v v' : α} {Q : FState → Prop} (h : Does m st v Q) (e : v = v') :
    Does m st v' Q :=
  e ▸ h

theorem Does.imp {α : Type} {m : FP α} {st : FState} {v : α} {Q R : FState → Prop} (h : Does m st v Q)
    (hqr : ∀ st', Q st' → R st') : Does m st v R :=
  Ok.mono h fun _ st' ⟨e, hq⟩ => ⟨e, hqr st' hq⟩

theorem Does.ret_bind {α β : Type} {f : α → FP β} {st : FState} {v : α} {w : β} {R : FState → Prop}
    (h : Does (f v) st w R) : Does (pure v >>= f) st w R := by
  rwa [pure_bind]

theorem Does.assoc {α β γ : Type} {m : FP α} {f : α → FP β} {g : β → FP γ} {st : FState} {w : γ} {R : FState → Prop}
    (h : Does (m >>= fun a => f a >>= g) st w R) : Does ((m >>= f) >>= g) st w R := by
  rwa [bind_assoc]

structure Strm (st0 : FState) (k : Nat) (s : List Item) (st : FState) : Prop where
  eq : stream st.p = s
  pc : st.p.peekCount ≤ k
  /-- the parser never has more than two tokens backed up, so `next`, `expect`, `peek` ask nothing of `k` -/
  k2 : k ≤ 2
  fr : Fr st0 st

theorem Strm.cast {st0 st : FState} {k : Nat} {s s' : List Item} (h : Strm st0 k s st) (e : s = s') : Strm st0 k s' st :=
  e ▸ h

theorem Strm.mono {st0 st : FState} {k k' : Nat} {s : List Item} (h : Strm st0 k s st) (hk : k ≤ k') (hk' : k' ≤ 2 := by omega) :
    Strm st0 k' s st :=
  ⟨h.eq, Nat.le_trans h.pc hk, hk', h.fr⟩

theorem Strm.up {st0 st : FState} {k : Nat} {s : List Item} (h : Strm st0 k s st) : Strm st0 2 s st :=
  h.mono h.k2

/-- the form in which Props/C05c states a whole command (`CmdSpec`, `TailSpec`, `CasesSpec` there) -/
theorem Does.fin {α : Type} {m : FP α} {st : FState} {v : α} {rest : List Item} (h : Does m st v (Strm st 2 rest)) :
    ∃ st', m st = .ok (v, st') ∧ stream st'.p = rest ∧ st'.p.peekCount ≤ 2 ∧ Fr st st' := by
  obtain ⟨st', hm, h⟩ := h.out
  exact ⟨st', hm, h.eq, h.pc, h.fr⟩

theorem next_does {st0 st : FState} {k : Nat} {x : Item} {s : List Item} (h : Strm st0 k (x :: s) st) :
    Does FileParser.next st x fun st' => Strm st0 (k - 1) s st' ∧ top st'.p = x := by
  obtain ⟨st', hn, hs, ht, hp, hfr⟩ := fnext_stream (Nat.le_trans h.pc h.k2) h.eq
  exact Does.mk hn ⟨⟨hs, by have := h.pc; omega, by have := h.k2; omega, h.fr.trans hfr⟩, ht⟩

theorem expect_does {st0 st : FState} {k : Nat} {x : Item} {s : List Item} {t : ItemType} (h : Strm st0 k (x :: s) st)
    (ht : x.typ = t) : Does (FileParser.expect t) st x (Strm st0 (k - 1) s) := by
  obtain ⟨p', hn, a, _, c⟩ := stream_next (Nat.le_trans h.pc h.k2) h.eq
  refine Does.mk (st' := { st with p := p' }) ?_ ⟨a, by have := h.pc; show p'.peekCount ≤ k - 1; omega, by have := h.k2; omega,
    h.fr.trans ⟨rfl, rfl, rfl⟩⟩
  have : Parser.expect t st.p = .ok (x, p') := by
    unfold Parser.expect
    rw [bind_run, hn]
    simp only [ht, bne_self_eq_false, Bool.false_eq_true, if_false]
    rfl
  simp [FileParser.expect, liftP, this]

theorem peek_does {st0 st : FState} {k : Nat} {x : Item} {s : List Item} (h : Strm st0 k (x :: s) st) :
    Does FileParser.peek st x (Strm st0 2 (x :: s)) := by
  obtain ⟨p', hp, hs, hpc⟩ := stream_peek (Nat.le_trans h.pc h.k2) h.eq
  exact Does.mk (st' := { st with p := p' }) (by simp [FileParser.peek, liftP, hp])
    ⟨hs, by have := h.pc; have := h.k2; show p'.peekCount ≤ 2; omega, Nat.le_refl 2, h.fr.trans ⟨rfl, rfl, rfl⟩⟩

theorem backup_does {st0 st : FState} {k : Nat} {s : List Item} (h : Strm st0 k s st) (hk : k ≤ 1) :
    Does FileParser.backup st () (Strm st0 (k + 1) (top st.p :: s)) := by
  obtain ⟨st', hb, hs, hp, hfr⟩ := fbackup_stream (st := st) (Nat.le_trans h.pc hk)
  exact Does.mk hb ⟨by rw [hs, h.eq], by have := h.pc; omega, by omega, h.fr.trans hfr⟩

/-- the node list after a round of `itemList`: the node `textOrTag` returned, if any, is appended -/
def appendNode (nodes : NodeList) : Option Node → NodeList
  | some n => nodes.append (.cons n .nil)
  | none => nodes

theorem itemListLoop_round {ef f : Nat} {untl : List ItemType} {lpos : Option Nat} {nodes : NodeList} {st st1 st2 : FState}
    {tok : Item} {node : Option Node} (hn : FileParser.next st = .ok (tok, st1))
    (hto : textOrTag pf ef f tok untl st1 = .ok ((node, false), st2)) :
    itemListLoop pf ef (f + 1) untl lpos nodes st =
      itemListLoop pf ef f untl (some (lpos.getD tok.pos)) (appendNode nodes node) st2 := by
  conv => lhs; unfold itemListLoop
  rw [bind_run, hn]
  simp only
  rw [bind_run, hto]
  cases node <;> rfl

/-- `parse.SoyFile` is the lexer and then `itemList(itemEOF)`, both with the fuel of the item list -/
theorem parseSource_of_loop {src : Bytes} {items : List Item} {lp : Nat} {nl : NodeList} {st' : FState}
    (hl : lexAll src false = .items items)
    (hr : itemListLoop pf (8 * items.length + 64) (8 * items.length + 64) [.tEOF] none .nil { p := initState items } =
      .ok (.list lp nl, st')) : parseSource pf src = .ok nl.toList := by
  unfold parseSource
  rw [hl]
  simp only
  unfold parseFile
  simp only [StateT.run, FileParser.fuelFor, exprFuel, Parser.fuelFor]
  rw [hr]

theorem itemListLoop_halt {ef f : Nat} {untl : List ItemType} {lpos : Option Nat} {nodes : NodeList} {st st1 st2 : FState}
    {tok : Item} {node : Option Node} (hn : FileParser.next st = .ok (tok, st1))
    (hto : textOrTag pf ef f tok untl st1 = .ok ((node, true), st2)) :
    itemListLoop pf ef (f + 1) untl lpos nodes st = .ok (.list (lpos.getD tok.pos) nodes, st2) := by
  conv => lhs; unfold itemListLoop
  rw [bind_run, hn]
  simp only
  rw [bind_run, hto]
  rfl

/-! ### one round of `itemList`

  A round reads the pending Comment tokens `cs` and the token `x` behind them.  `x` decides: an until token or `{` and
  an until command end the list; `{` and another command is `beginTag`'s; a Text token gives a RawText node. -/

/-- position of the first token a round reads: the first pending Comment, or the token behind them -/
def firstPos : List Item → Item → Nat
  | [], x => x.pos
  | c :: _, _ => c.pos

/-- `next` reads the first of `cs` (or `x`), and `skipComments` goes on to `x` -/
theorem round_head {cs : List Item} (hcs : ∀ c ∈ cs, c.typ = .tComment) {x : Item} (hx : x.typ ≠ .tComment) {s : List Item}
    {f : Nat} {st : FState} (hpc : st.p.peekCount ≤ 2) (hs : stream st.p = cs ++ x :: s) (hf : cs.length + 1 ≤ f) :
    ∃ tok st0 st1, FileParser.next st = .ok (tok, st0) ∧ tok.pos = firstPos cs x ∧
      skipComments f tok st0 = .ok (x, st1) ∧ stream st1.p = s ∧ top st1.p = x ∧ st1.p.peekCount ≤ 1 ∧ Fr st st1 := by
  obtain ⟨tok, tl, htl, hpos⟩ : ∃ tok tl, cs ++ x :: s = tok :: tl ∧ tok.pos = firstPos cs x := by
    cases cs with
    | nil => exact ⟨_, _, rfl, rfl⟩
    | cons c r => exact ⟨_, _, rfl, rfl⟩
  rw [htl] at hs
  obtain ⟨st0, hn, hs0, ht0, hp0, hfr0⟩ := fnext_stream hpc hs
  obtain ⟨st1, hsk, hs1, ht1, hp1, hfr1⟩ := skipComments_spec cs f tok x s st0 hf (by omega) ht0 (by rw [hs0, ← htl]) hcs hx
  exact ⟨tok, st0, st1, hn, hpos, hsk, hs1, ht1, by omega, hfr0.trans hfr1⟩

variable {ef f : Nat} {untl : List ItemType} {lpos : Option Nat} {nodes : NodeList} {st : FState} {cs s : List Item}

/-- `x` is an until token (EOF at the top level) -/
theorem halt_round (hcs : ∀ c ∈ cs, c.typ = .tComment) {x : Item} (hx : x.typ ≠ .tComment) (hu : untl.contains x.typ = true)
    (hpc : st.p.peekCount ≤ 2) (hs : stream st.p = cs ++ x :: s) (hf : cs.length + 1 ≤ f) :
    ∃ st', itemListLoop pf ef (f + 2) untl lpos nodes st = .ok (.list (lpos.getD (firstPos cs x)) nodes, st') ∧
      stream st'.p = s ∧ top st'.p = x ∧ st'.p.peekCount ≤ 1 ∧ Fr st st' := by
  obtain ⟨tok, st0, st1, hn, hpos, hsk, hs1, ht1, hp1, hfr⟩ := round_head hcs hx hpc hs hf
  exact ⟨st1, by rw [← hpos]; exact itemListLoop_halt pf hn (textOrTag_halt pf hsk hu), hs1, ht1, hp1, hfr⟩

/-- `{` and a command token `k` that is an until token (`{/if}`, `{else}` …): `k` is consumed -/
theorem close_round (hcs : ∀ c ∈ cs, c.typ = .tComment) {ld k : Item} (hld : ld.typ = .tLeftDelim)
    (hu1 : untl.contains .tLeftDelim = false) (hk : untl.contains k.typ = true)
    (hpc : st.p.peekCount ≤ 2) (hs : stream st.p = cs ++ ld :: k :: s) (hf : cs.length + 1 ≤ f) :
    ∃ st', itemListLoop pf ef (f + 2) untl lpos nodes st = .ok (.list (lpos.getD (firstPos cs ld)) nodes, st') ∧
      stream st'.p = s ∧ top st'.p = k ∧ st'.p.peekCount = 0 ∧ Fr st st' := by
  obtain ⟨tok, st0, st1, hn, hpos, hsk, hs1, ht1, hp1, hfr⟩ := round_head hcs (by rw [hld]; decide) hpc hs hf
  obtain ⟨st2, hn2, hs2, ht2, hp2, hfr2⟩ := fnext_stream (st := st1) (by omega) hs1
  exact ⟨st2, by rw [← hpos]; exact itemListLoop_halt pf hn (textOrTag_closing pf hsk hld hu1 hn2 (by rw [hk])), hs2, ht2,
    by omega, hfr.trans hfr2⟩

/-- `{` and any other command token `k`: `beginTag` (`hbt`) reads the command and its node is appended -/
theorem tag_round (hcs : ∀ c ∈ cs, c.typ = .tComment) {ld k : Item} (hld : ld.typ = .tLeftDelim)
    (hu1 : untl.contains .tLeftDelim = false) (hk : untl.contains k.typ = false) {n : Node} {rest' : List Item}
    (hpc : st.p.peekCount ≤ 2) (hs : stream st.p = cs ++ ld :: k :: s) (hf : cs.length + 1 ≤ f)
    (hbt : ∀ st2 : FState, stream st2.p = k :: s → st2.p.peekCount ≤ 1 → Fr st st2 →
      ∃ st3, beginTag pf ef f st2 = .ok (some n, st3) ∧ stream st3.p = rest' ∧ st3.p.peekCount ≤ 2 ∧ Fr st2 st3) :
    ∃ st3, itemListLoop pf ef (f + 2) untl lpos nodes st =
        itemListLoop pf ef (f + 1) untl (some (lpos.getD (firstPos cs ld))) (nodes.append (.cons n .nil)) st3 ∧
      stream st3.p = rest' ∧ st3.p.peekCount ≤ 2 ∧ Fr st st3 := by
  obtain ⟨tok, st0, st1, hn, hpos, hsk, hs1, ht1, hp1, hfr⟩ := round_head hcs (by rw [hld]; decide) hpc hs hf
  obtain ⟨st1', hn1', hs1', ht1', hp1', hfr1'⟩ := fnext_stream (st := st1) (by omega) hs1
  obtain ⟨st2, hb2, hs2, hp2, hfr2⟩ := fbackup_stream (st := st1') (by omega)
  rw [ht1', hs1'] at hs2
  obtain ⟨st3, hbt3, hs3, hp3, hfr3⟩ := hbt st2 hs2 (by omega) ((hfr.trans hfr1').trans hfr2)
  exact ⟨st3, by rw [← hpos]; exact itemListLoop_round pf hn (textOrTag_tag pf hsk hld hu1 hn1' hk hb2 hbt3), hs3, hp3,
    ((hfr.trans hfr1').trans hfr2).trans hfr3⟩

/-- a Text token `x` in front of a token `nxt` of another type: the RawText node of C15b's `textNode` (if any) is appended -/
theorem text_round (hcs : ∀ c ∈ cs, c.typ = .tComment) {x nxt : Item} (hx : x.typ = .tText) (hnt : nxt.typ ≠ .tText)
    (hu : untl.contains .tText = false) (hpc : st.p.peekCount ≤ 2) (hs : stream st.p = cs ++ x :: nxt :: s)
    (hf : cs.length + 2 ≤ f) :
    ∃ st', itemListLoop pf ef (f + 2) untl lpos nodes st =
        itemListLoop pf ef (f + 1) untl (some (lpos.getD (firstPos cs x))) (appendNode nodes (textNode cs x [] nxt)) st' ∧
      stream st'.p = nxt :: s ∧ st'.p.peekCount ≤ 2 ∧ Fr st st' := by
  obtain ⟨tok, tl, htl, hpos⟩ : ∃ tok tl, cs ++ x :: nxt :: s = tok :: tl ∧ tok.pos = firstPos cs x := by
    cases cs with
    | nil => exact ⟨_, _, rfl, rfl⟩
    | cons c r => exact ⟨_, _, rfl, rfl⟩
  rw [htl] at hs
  obtain ⟨st0, hn, hs0, ht0, hp0, hfr0⟩ := fnext_stream hpc hs
  obtain ⟨st', hto, hs', hp', hfr'⟩ := textOrTag_text_spec' pf ef f untl tok st0 cs x [] nxt s (by omega) ht0
    (by rw [hs0, ← htl]; rfl) hcs hx (fun _ h => absurd h (by simp)) hnt hu (by simp; omega)
  exact ⟨st', by rw [← hpos]; exact itemListLoop_round pf hn hto, hs', hp', hfr0.trans hfr'⟩

/-- the tokens that end an expression in this family -/
def isTerm (t : ItemType) : Prop := t = .tRightDelim ∨ t = .tRightDelimEnd

theorem parseDataRef_term (f : Nat) (rd : Item) (s : List Item) (st : PState) (hpc : st.peekCount ≤ 1)
    (hs : stream st = rd :: s) (hrd : isTerm rd.typ) :
    ∃ st', parseDataRef pf (f + 1) st = .ok (.nil, st') ∧ stream st' = rd :: s ∧ st'.peekCount ≤ 1 := by
  obtain ⟨st1, hn1, hs1, ht1, hp1⟩ := stream_next (by omega) hs
  obtain ⟨st2, hb2, hs2, hp2⟩ := stream_backup (st := st1) (by omega)
  refine ⟨st2, ?_, by rw [hs2, ht1, hs1], by omega⟩
  unfold parseDataRef
  rw [bind_run, hn1]
  rcases hrd with h | h <;> (simp only [h]; rw [bind_run, hb2]; rfl)

theorem exprLoop_term (f : Nat) (n : Expr) (rd : Item) (s : List Item) (st : PState) (hpc : st.peekCount ≤ 1)
    (hs : stream st = rd :: s) (hrd : isTerm rd.typ) :
    ∃ st', exprLoop pf (f + 1) 0 n st = .ok (n, st') ∧ stream st' = rd :: s ∧ st'.peekCount ≤ 1 := by
  obtain ⟨st1, hn1, hs1, ht1, hp1⟩ := stream_next (by omega) hs
  obtain ⟨st2, hb2, hs2, hp2⟩ := stream_backup (st := st1) (by omega)
  refine ⟨st2, ?_, by rw [hs2, ht1, hs1], by omega⟩
  unfold exprLoop
  rw [bind_run, hn1]
  rcases hrd with h | h
  · simp only [h, show isBinaryOp .tRightDelim = false by decide, Bool.not_false, Bool.true_or, if_true,
      show ((0 : Nat) == 0 && ItemType.tRightDelim == ItemType.tTernIf) = false by decide, Bool.false_eq_true, if_false]
    rw [bind_run, hb2]; rfl
  · simp only [h, show isBinaryOp .tRightDelimEnd = false by decide, Bool.not_false, Bool.true_or, if_true,
      show ((0 : Nat) == 0 && ItemType.tRightDelimEnd == ItemType.tTernIf) = false by decide, Bool.false_eq_true, if_false]
    rw [bind_run, hb2]; rfl

theorem parseExpr_dollar (f : Nat) (di rd : Item) (key : Bytes) (s : List Item) (st : PState) (hpc : st.peekCount ≤ 2)
    (hs : stream st = di :: rd :: s) (hdi : di.typ = .tDollarIdent) (hv : di.val = 36 :: key) (hrd : isTerm rd.typ) :
    ∃ st', parseExpr pf (f + 4) 0 st = .ok (.dataRef di.pos key .nil, st') ∧ stream st' = rd :: s ∧ st'.peekCount ≤ 1 := by
  obtain ⟨st1, hn1, hs1, ht1, hp1⟩ := stream_next hpc hs
  obtain ⟨st2, hd2, hs2, hp2⟩ := parseDataRef_term pf f rd s st1 (by omega) hs1 hrd
  obtain ⟨st3, hl3, hs3, hp3⟩ := exprLoop_term pf (f + 2) (.dataRef di.pos key .nil) rd s st2 hp2 hs2 hrd
  refine ⟨st3, ?_, hs3, hp3⟩
  show parseExpr pf ((f + 3) + 1) 0 st = _
  unfold parseExpr
  rw [bind_run]
  have hft : parseExprFirstTerm pf (f + 3) st = .ok (.dataRef di.pos key .nil, st2) := by
    show parseExprFirstTerm pf ((f + 2) + 1) st = _
    unfold parseExprFirstTerm
    rw [bind_run, hn1]
    simp only [hdi, show isUnaryOp .tDollarIdent = false by decide, Bool.false_eq_true, if_false,
      show (ItemType.tDollarIdent == ItemType.tLeftParen) = false by decide,
      show isValue .tDollarIdent = true by decide, if_true]
    show newValueNode pf ((f + 1) + 1) di st1 = _
    unfold newValueNode
    simp only [hdi, hv]
    rw [bind_run]
    show (parseDataRef pf (f + 1) >>= fun acc => pure (Expr.dataRef di.pos key acc)) st1 = _
    rw [bind_run, hd2]
    rfl
  rw [hft]
  exact hl3


/-- the Print node of the tag `{$key}` whose DollarIdent token is `di` -/
def printNode (di : Item) (key : Bytes) : Node := .print di.pos (.dataRef di.pos key .nil) []

theorem parseExpr0_dollar (ef : Nat) {st0 st : FState} {k : Nat} {di rd : Item} {key : Bytes} {s : List Item}
    (h : Strm st0 k (di :: rd :: s) st) (hdi : di.typ = .tDollarIdent) (hv : di.val = 36 :: key)
    (hrd : isTerm rd.typ) : Does (parseExpr0 pf (ef + 4)) st (.dataRef di.pos key .nil) (Strm st0 1 (rd :: s)) := by
  obtain ⟨p1, he, hs1, hp1⟩ := parseExpr_dollar pf ef di rd key s st.p (Nat.le_trans h.pc h.k2) h.eq hdi hv hrd
  exact Does.mk (st' := { st with p := p1 }) (by simp only [parseExpr0, liftP, he]) ⟨hs1, hp1, by omega, h.fr.trans ⟨rfl, rfl, rfl⟩⟩

theorem beginTag_dollar (ef f : Nat) {st0 st : FState} {k : Nat} {di rd : Item} {key : Bytes} {s : List Item}
    (h : Strm st0 k (di :: rd :: s) st) (hdi : di.typ = .tDollarIdent) (hv : di.val = 36 :: key)
    (hrd : rd.typ = .tRightDelim) : Does (beginTag pf (ef + 4) (f + 2)) st (some (printNode di key)) (Strm st0 2 s) := by
  show Does (beginTag pf (ef + 4) ((f + 1) + 1)) st _ _
  unfold beginTag
  refine (next_does h).bind fun st1 ⟨h1, ht1⟩ => ?_
  simp only [hdi]
  refine (backup_does h1 (by have := h.k2; omega)).bind fun st2 h2 => ?_
  rw [ht1] at h2
  refine Does.bind (v := printNode di key) ?_ fun _ h => Does.ret h
  unfold parsePrint
  refine (parseExpr0_dollar pf ef h2 hdi hv (Or.inl hrd)).bind fun st3 h3 => ?_
  unfold printLoop
  refine (next_does h3).bind fun st4 ⟨h4, _⟩ => ?_
  simp only [hrd, beq_self_eq_true, if_true]
  exact Does.ret h4.up

/-- the RawText node of a text piece that ends at `e`: none if the lexer drops the piece or its
    normalised text is empty -/
def textNodes (t : Bytes) (e : Nat) : List Node :=
  if dropped t = false ∧ (joinLines t false false).isEmpty = false then [.rawText e (joinLines t false false)] else []

/-- the nodes `itemList` builds for a body that begins at byte `q` of the source -/
def nodesOf : Nat → Body → List Node
  | _, [] => []
  | q, .text t :: r => textNodes t (q + t.length) ++ nodesOf (q + t.length) r
  | q, .tag id :: r =>
    .print (q + 2 + id.length) (.dataRef (q + 2 + id.length) id .nil) [] :: nodesOf (q + 3 + id.length) r

theorem toList_append : ∀ (a b : NodeList), (a.append b).toList = a.toList ++ b.toList
  | .nil, _ => rfl
  | .cons n r, b => by simp [NodeList.append, NodeList.toList, toList_append r b]

theorem appendNode_toList (nodes : NodeList) (o : Option Node) : (appendNode nodes o).toList = nodes.toList ++ o.toList := by
  cases o with
  | none => simp [appendNode]
  | some n => simp [appendNode, toList_append, NodeList.toList]

end parser

/-! # bodies with block comments

  Bodies of text pieces, print tags `{$id}` and block comments `/*c*/` (`c` non-empty, ASCII, without `*`):
  the lexer sends one Comment item per comment; the parser builds no node for it, but the text piece
  directly before a comment is normalised with `trimAfter`, the one directly after it with
  `trimBefore` (`joinLines t tb ta`). -/

theorem lexBlockComment_some {l l1 : Lexer} {r : Int} {star : Bool} (hn : l.next = some (r, l1)) :
    lexBlockComment l star =
      if r = eof then Lex.errorfAt l1 l1.start clsComment
      else if r = 42 then lexBlockComment l1 true
      else if r = 47 ∧ star = true then
        match l1.emit .tComment with
        | none => none
        | some l2 => some (some .text, l2)
      else lexBlockComment l1 false := by
  rw [lexBlockComment]
  split
  · rename_i h; rw [hn] at h; exact absurd h (by simp)
  · rename_i r' l1' h
    rw [hn] at h
    simp only [Option.some.injEq, Prod.mk.injEq] at h
    obtain ⟨rfl, rfl⟩ := h
    rfl

theorem lexBlockComment_body (inp : Array UInt8) (a : Nat) (dd : Bool) (ts : Int) (le : Item) (its : Array Item) :
    ∀ (k q : Nat) (w : Int), q + k + 1 < inp.size → a ≤ q →
    (∀ i, i < k → byteAt inp (q + i) < 128 ∧ byteAt inp (q + i) ≠ 42) → byteAt inp (q + k) = 42 →
    byteAt inp (q + k + 1) = 47 →
    lexBlockComment (Lexer.mk inp q a w dd ts le its) false =
      some (some .text, Lexer.mk inp ((q + k + 2 : Nat) : Int) ((q + k + 2 : Nat) : Int) 1 dd ts
        ⟨.tComment, q + k + 2, (inp.extract a (q + k + 2)).toList⟩
        (its.push ⟨.tComment, q + k + 2, (inp.extract a (q + k + 2)).toList⟩)) := by
  intro k
  induction k with
  | zero =>
    intro q w hq ha _ h1 h2
    rw [lexBlockComment_some (next_mk inp q a w dd ts le its 42 (by omega) h1 (by omega))]
    simp only [Int.cast_ofNat_Int, eof, show ¬ ((42 : Int) = -1) by decide, if_false, if_true]
    rw [lexBlockComment_some (next_mk inp (q + 1) a 1 dd ts le its 47 (by omega) h2 (by omega))]
    simp only [Int.cast_ofNat_Int, eof, show ¬ ((47 : Int) = -1) by decide, show ¬ ((47 : Int) = 42) by decide, if_false,
      and_self, if_true]
    rw [emit_mk inp a (q + 1 + 1) 1 dd ts le its .tComment (by omega) (by omega)]
  | succ k ih =>
    intro q w hq ha hb h1 h2
    obtain ⟨hc, h42⟩ := hb 0 (by omega)
    simp only [Nat.add_zero] at hc h42
    rw [lexBlockComment_some (next_mk inp q a w dd ts le its (byteAt inp q) (by omega) rfl hc)]
    rw [if_neg (by simp only [eof]; omega), if_neg (by omega), if_neg (by simp)]
    rw [ih (q + 1) 1 (by omega) (by omega) (fun i hi => by
      have := hb (i + 1) (by omega)
      rw [show q + 1 + i = q + (i + 1) by omega]; exact this)
      (by rw [show q + 1 + k = q + (k + 1) by omega]; exact h1)
      (by rw [show q + 1 + k + 1 = q + (k + 1) + 1 by omega]; exact h2)]
    rw [show q + 1 + k + 2 = q + (k + 1) + 2 by omega]


/-- text then `/*`: `lexText` sends the text and goes on as `afterSlashStar` from the lexer that stands behind the `/*`,
    its pending token beginning at the `/` (the common start of a block comment and of a soydoc) -/
theorem lexText_text_slashStar (inp : Array UInt8) (q n : Nat) (w : Int) (dd : Bool) (ts : Int) (le : Item) (its : Array Item)
    (hsz : q + n + 1 < inp.size)
    (htxt : ∀ i, i < n → TextByte (byteAt inp (q + i)) (byteAt inp (q + i + 1)))
    (h1 : byteAt inp (q + n) = 47) (h2 : byteAt inp (q + n + 1) = 42) :
    ∃ (w' : Int) (dd' : Bool) (ts' : Int) (le' : Item) (its' : Array Item),
      lexText (Lexer.mk inp q q w dd ts le its) =
        afterSlashStar (Lexer.mk inp ((q + n + 2 : Nat) : Int) ((q + n : Nat) : Int) w' dd' ts' le' its') ∧
      its'.toList = its.toList ++ textItems inp (q : Int) ((q + n : Nat) : Int) := by
  obtain ⟨l', lc', hr, hp⟩ := plainRun_text n (Lexer.mk inp q q w dd ts le its) noChar (by show (0 : Int) ≤ q; omega)
    (by show (q : Int) + n ≤ (inp.size : Int); omega)
    (by intro i hi; show TextByte (byteAt inp ((q : Int).toNat + i)) (byteAt inp ((q : Int).toNat + i + 1))
        simp only [Int.toNat_natCast]; exact htxt i hi)
    (by intro _; show byteAt inp ((q : Int).toNat + n) < 128; simp only [Int.toNat_natCast]; omega)
  have hp' : l'.pos = ((q + n : Nat) : Int) := by rw [hp]; show (q : Int) + n = _; omega
  obtain ⟨_, _, _, hin, _⟩ := lexTextLoop_run hr
  have hin' : l'.input = inp := hin
  have hn := next_ascii (l := l') (by omega) (by simp only [Lexer.len, hin', hp']; omega)
    (by rw [hin', hp']; simp only [Int.toNat_natCast]; omega)
  rw [hin', hp'] at hn
  simp only [Int.toNat_natCast, h1] at hn
  have hn2 := next_ascii (l := { l' with width := 1, pos := ((q + n : Nat) : Int) + 1 })
    (by show (0 : Int) ≤ ((q + n : Nat) : Int) + 1; omega)
    (by show ((q + n : Nat) : Int) + 1 < (l'.input.size : Int); rw [hin']; omega)
    (by show byteAt l'.input (((q + n : Nat) : Int) + 1).toNat < 128
        rw [hin', show (((q + n : Nat) : Int) + 1).toNat = q + n + 1 by omega]; omega)
  have e1 : ({ l' with width := 1, pos := ((q + n : Nat) : Int) + 1 } : Lexer).pos.toNat = q + n + 1 := by
    show (((q + n : Nat) : Int) + 1).toNat = _; omega
  rw [e1] at hn2
  have e2 : ({ l' with width := 1, pos := ((q + n : Nat) : Int) + 1 } : Lexer).input = inp := hin'
  rw [e2, h2] at hn2
  obtain ⟨l3, hit, hp3, hin3, hlx, hst3⟩ := lexText_cut_block hr hn hn2 (by show (0 : Int) ≤ q; omega)
    (by show (q : Int) ≤ q; omega)
  obtain ⟨inp3, p3, s3, w3, dd3, ts3, le3, its3⟩ := l3
  simp only at hit hp3 hin3 hst3
  subst hin3
  have hp3' : p3 = ((q + n + 2 : Nat) : Int) := by
    rw [hp3]; show ((q + n : Nat) : Int) + 1 + 1 = _; omega
  rw [hp'] at hst3 hit
  subst hp3' hst3
  exact ⟨w3, dd3, ts3, le3, its3, hlx, hit⟩

/-- text then `/*c*/`: ONE `lexText` call sends the text and the Comment item and returns to `lexText` -/
theorem lexText_text_cmt (inp : Array UInt8) (q n k : Nat) (w : Int) (dd : Bool) (ts : Int) (le : Item) (its : Array Item)
    (hsz : q + n + k + 3 < inp.size)
    (htxt : ∀ i, i < n → TextByte (byteAt inp (q + i)) (byteAt inp (q + i + 1)))
    (h1 : byteAt inp (q + n) = 47) (h2 : byteAt inp (q + n + 1) = 42) (hk : 0 < k)
    (hc : ∀ i, i < k → byteAt inp (q + n + 2 + i) < 128 ∧ byteAt inp (q + n + 2 + i) ≠ 42)
    (h3 : byteAt inp (q + n + 2 + k) = 42) (h4 : byteAt inp (q + n + 2 + k + 1) = 47) :
    ∃ (w' : Int) (dd' : Bool) (ts' : Int) (le' : Item) (its' : Array Item),
      lexText (Lexer.mk inp q q w dd ts le its) =
        some (some .text, Lexer.mk inp ((q + n + k + 4 : Nat) : Int) ((q + n + k + 4 : Nat) : Int) w' dd' ts' le' its') ∧
      its'.toList = its.toList ++ textItems inp (q : Int) ((q + n : Nat) : Int) ++
        [⟨.tComment, q + n + k + 4, (inp.extract (q + n) (q + n + k + 4)).toList⟩] := by
  obtain ⟨w3, dd3, ts3, le3, its3, hlx, hit⟩ := lexText_text_slashStar inp q n w dd ts le its (by omega) htxt h1 h2
  have hc0 := hc 0 hk
  simp only [Nat.add_zero] at hc0
  refine ⟨1, dd3, ts3, ⟨.tComment, q + n + k + 4, (inp.extract (q + n) (q + n + k + 4)).toList⟩,
    its3.push ⟨.tComment, q + n + k + 4, (inp.extract (q + n) (q + n + k + 4)).toList⟩, ?_, ?_⟩
  · rw [hlx]
    unfold afterSlashStar
    rw [next_mk inp (q + n + 2) _ w3 dd3 ts3 le3 its3 (byteAt inp (q + n + 2)) (by omega) rfl hc0.1]
    simp only
    rw [if_neg (by omega), backup_mk]
    rw [lexBlockComment_body inp (q + n) dd3 ts3 le3 its3 k (q + n + 2) 1 (by omega) (by omega) hc h3 h4]
    rw [show q + n + 2 + k + 2 = q + n + k + 4 by omega]
  · simp only [Array.toList_push, hit]


/-! `Piece` / `Body` with `srcOf`, `itemsOf`, `nodesOf`, `WF` (at the head of the file) and `CPiece` / `CBody` with `csrcOf`,
  `citemsOf`, `cnodesOf`, `CWF` are two descriptions of one thing, the second with comments as a third kind of piece.
  `Piece.toC` embeds the first in the second and `toC_src`, `toC_items`, `toC_wf`, `toC_nodes` carry each notion across,
  so that `body_source_spec` is `body_source_spec_comments`. -/

inductive CPiece where
  | text (t : Bytes)
  | tag (id : Bytes)
  /-- the block comment `/*c*/` -/
  | comment (c : Bytes)
  deriving Repr, DecidableEq

abbrev CBody := List CPiece

def CPiece.src : CPiece → Bytes
  | .text t => t
  | .tag id => 123 :: 36 :: (id ++ [125])
  | .comment c => 47 :: 42 :: (c ++ [42, 47])

def csrcOf : CBody → Bytes
  | [] => []
  | p :: r => p.src ++ csrcOf r

/-- the inside of a block comment: non-empty, ASCII, no `*` -/
def cmtOK (c : Bytes) : Prop :=
  0 < c.length ∧ ∀ i, i < c.length → (c.getD i 0).toNat < 128 ∧ (c.getD i 0).toNat ≠ 42

instance (c : Bytes) : Decidable (cmtOK c) := by unfold cmtOK; infer_instance

def CPiece.isText : CPiece → Bool
  | .text _ => true
  | _ => false

def CPiece.isComment : CPiece → Bool
  | .comment _ => true
  | _ => false

/-- well-formed: text pieces are `textOK`, identifiers `idOK`, comments `cmtOK`; no two text pieces are adjacent; a text
    piece directly before a comment does not end with `/` -/
def CWF : CBody → Prop
  | [] => True
  | .text t :: r =>
    textOK t ∧ (∀ p ∈ r.head?, p.isText = false ∧ (p.isComment = true → (t.getD (t.length - 1) 0).toNat ≠ 47)) ∧ CWF r
  | .tag id :: r => idOK id ∧ CWF r
  | .comment c :: r => cmtOK c ∧ CWF r

def citemsOf : Nat → CBody → List Item
  | q, [] => [⟨.tEOF, q, []⟩]
  | q, .text t :: r => (if dropped t = false then [⟨.tText, q + t.length, t⟩] else []) ++ citemsOf (q + t.length) r
  | q, .tag id :: r =>
    ⟨.tLeftDelim, q + 1, [123]⟩ :: ⟨.tDollarIdent, q + 2 + id.length, 36 :: id⟩ ::
      ⟨.tRightDelim, q + 3 + id.length, [125]⟩ :: citemsOf (q + 3 + id.length) r
  | q, .comment c :: r => ⟨.tComment, q + 4 + c.length, 47 :: 42 :: (c ++ [42, 47])⟩ :: citemsOf (q + 4 + c.length) r

theorem text_cmt_runs {inp : Array UInt8} {q : Nat} {t c post : Bytes} (ht : t = [] ∨ textOK t) (hc : cmtOK c)
    (hlast : (t.getD (t.length - 1) 0).toNat ≠ 47)
    (h : Holds inp q (t ++ (47 :: 42 :: (c ++ [42, 47]) ++ post))) :
    Runs inp .text q (some .text) (q + t.length + 4 + c.length)
      (textItem t (q + t.length) ++ [⟨.tComment, q + t.length + 4 + c.length, 47 :: 42 :: (c ++ [42, 47])⟩]) 1 := by
  obtain ⟨ht', hcm⟩ := h.append
  obtain ⟨hsrc, _⟩ := hcm.append
  have hval := hsrc.extract
  obtain ⟨h0, hb0, h1⟩ := hsrc.cons
  obtain ⟨h1', hb1, h2⟩ := h1.cons
  obtain ⟨hcb, hend⟩ := h2.append
  obtain ⟨h3', hb3, h4⟩ := hend.cons
  obtain ⟨h4', hb4, _⟩ := h4.cons
  have e2 : q + t.length + 1 + 1 = q + t.length + 2 := by omega
  rw [e2] at hcb hb3 h3' hb4 h4'
  simp only [List.length_cons, List.length_append, List.length_nil] at hval
  refine Runs.of_steps fun w dd ts le its f => ?_
  obtain ⟨w', dd', ts', le', its', hlx, hits⟩ := lexText_text_cmt inp q t.length c.length w dd ts le its (by omega)
    (text_bytes ht' ht (Or.inl hlast)) hb0 hb1 hc.1
    (fun i hi => by rw [(hcb i hi).2]; exact hc.2 i hi) hb3 hb4
  refine ⟨w', dd', ts', le', its', ?_, ?_⟩
  · rw [hits, textItems_holds ht']
    rw [show q + t.length + (c.length + (0 + 1 + 1) + 1 + 1) = q + t.length + c.length + 4 by omega] at hval
    rw [hval, show q + t.length + c.length + 4 = q + t.length + 4 + c.length by omega, List.append_assoc]
  · rw [Lemmas.LexPrint.run_step (n := f) (show step .text _ = _ from hlx)]
    rw [show q + t.length + c.length + 4 = q + t.length + 4 + c.length by omega]

/-- what may follow a pending text run `t`: no text piece, and a comment only if `t` does not end with `/` -/
def Pending (t : Bytes) (b : CBody) : Prop :=
  (t = [] ∨ textOK t) ∧
    (t ≠ [] → ∀ p ∈ b.head?, p.isText = false ∧ (p.isComment = true → (t.getD (t.length - 1) 0).toNat ≠ 47))

/-- the lexer on a well-formed body with comments that stands, behind a text run `t` still to be read, at the end of
    the input: by induction over the pieces, every piece a run -/
theorem lex_cbody {inp : Array UInt8} : ∀ (b : CBody) (t : Bytes) (q : Nat), CWF b → Pending t b →
    Holds inp q (t ++ csrcOf b) → q + (t ++ csrcOf b).length = inp.size →
    Runs inp .text q none (q + (t ++ csrcOf b).length) (textItem t (q + t.length) ++ citemsOf (q + t.length) b)
      (7 * (csrcOf b).length + 1)
  | [], t, q, _, hp, hh, hsz => by
    simp only [csrcOf, List.append_nil] at hh hsz ⊢
    exact (text_eof_runs hp.1 hh hsz).mono rfl rfl (by omega)
  | .text t' :: r, t, q, hwf, hp, hh, hsz => by
    have ht : t = [] := by
      rcases hp.1 with h | h
      · exact h
      · have h0 := h.1
        have := (hp.2 (by intro e; rw [e] at h0; simp at h0) (.text t') (by simp)).1
        simp [CPiece.isText] at this
    subst ht
    have hl := hwf.1.1
    refine (lex_cbody r t' q hwf.2.2 ⟨Or.inr hwf.1, fun _ => hwf.2.1⟩ hh hsz).mono rfl ?_
      (by simp only [csrcOf, CPiece.src, List.length_append]; omega)
    simp [citemsOf, textItem, hl]
  | .tag id :: r, t, q, hwf, hp, hh, hsz => by
    have hh' : Holds inp q (t ++ (123 :: 36 :: (id ++ [125]) ++ csrcOf r)) := hh
    have h1 := text_open_runs (post := 36 :: (id ++ [125]) ++ csrcOf r) hp.1 hh'
    have h2 := print_tag_runs hwf.1 hh'.append.2
    have hr : Holds inp (q + t.length + 3 + id.length) ([] ++ csrcOf r) := by
      have := (show Holds inp (q + t.length) ((123 :: 36 :: (id ++ [125])) ++ csrcOf r) from hh'.append.2).append.2
      rw [show q + t.length + (123 :: 36 :: (id ++ [125])).length = q + t.length + 3 + id.length by simp; omega] at this
      exact this
    have h3 := lex_cbody r [] (q + t.length + 3 + id.length) hwf.2 ⟨Or.inl rfl, fun h => absurd rfl h⟩ hr
      (by rw [← hsz]; simp [csrcOf, CPiece.src]; omega)
    refine ((h1.trans h2).trans h3).mono (by simp [csrcOf, CPiece.src]; omega) ?_
      (by simp only [csrcOf, CPiece.src, List.length_append, List.length_cons]; omega)
    simp [citemsOf, textItem]
  | .comment c :: r, t, q, hwf, hp, hh, hsz => by
    have hh' : Holds inp q (t ++ (47 :: 42 :: (c ++ [42, 47]) ++ csrcOf r)) := hh
    have hlast : (t.getD (t.length - 1) 0).toNat ≠ 47 := by
      by_cases ht : t = []
      · subst ht; decide
      · exact (hp.2 ht (.comment c) (by simp)).2 rfl
    have h1 := text_cmt_runs hp.1 hwf.1 hlast hh'
    have hr : Holds inp (q + t.length + 4 + c.length) ([] ++ csrcOf r) := by
      have := (show Holds inp (q + t.length) ((47 :: 42 :: (c ++ [42, 47])) ++ csrcOf r) from hh'.append.2).append.2
      rw [show q + t.length + (47 :: 42 :: (c ++ [42, 47])).length = q + t.length + 4 + c.length by simp; omega] at this
      exact this
    have h3 := lex_cbody r [] (q + t.length + 4 + c.length) hwf.2 ⟨Or.inl rfl, fun h => absurd rfl h⟩ hr
      (by rw [← hsz]; simp [csrcOf, CPiece.src]; omega)
    refine (h1.trans h3).mono (by simp [csrcOf, CPiece.src]; omega) ?_
      (by simp only [csrcOf, CPiece.src, List.length_append, List.length_cons]; omega)
    simp [citemsOf, textItem]

theorem lexAll_cbody (b : CBody) (h : CWF b) : lexAll (csrcOf b) false = .items (citemsOf 0 b) := by
  have := lex_cbody (inp := (csrcOf b).toArray) b [] 0 h ⟨Or.inl rfl, fun h => absurd rfl h⟩ (holds_self _) (by simp)
  exact (this.mono rfl (by simp [textItem]) (Nat.le_refl _)).lexAll_eq (by omega)


section cparser
variable (pf : Bytes → Option UInt64)

/-- the RawText node of a text piece that ends at `e`, with the two trim flags -/
def ctextNodes (t : Bytes) (e : Nat) (tb ta : Bool) : List Node :=
  if dropped t = false ∧ (joinLines t tb ta).isEmpty = false then [.rawText e (joinLines t tb ta)] else []

def nextIsComment (r : CBody) : Bool :=
  match r.head? with
  | some p => p.isComment
  | none => false

/-- the nodes of a body with comments; `tb` = the piece before is a comment -/
def cnodesOf : Bool → Nat → CBody → List Node
  | _, _, [] => []
  | tb, q, .text t :: r => ctextNodes t (q + t.length) tb (nextIsComment r) ++ cnodesOf false (q + t.length) r
  | _, q, .tag id :: r =>
    .print (q + 2 + id.length) (.dataRef (q + 2 + id.length) id .nil) [] :: cnodesOf false (q + 3 + id.length) r
  | _, q, .comment c :: r => cnodesOf true (q + 4 + c.length) r

theorem cnodesOf_flag (tb : Bool) (q : Nat) (r : CBody) (h : ∀ p ∈ r.head?, p.isText = false) :
    cnodesOf tb q r = cnodesOf false q r := by
  match r, h with
  | [], _ => rfl
  | .tag _ :: _, _ => rfl
  | .comment _ :: _, _ => rfl
  | .text t :: _, h => have := h (.text t) (by simp); simp [CPiece.isText] at this

theorem citemsOf_head (q : Nat) (r : CBody) (h : ∀ p ∈ r.head?, p.isText = false) :
    ∃ nxt s, citemsOf q r = nxt :: s ∧ nxt.typ ≠ .tText ∧ (nxt.typ == .tComment) = nextIsComment r := by
  match r, h with
  | [], _ => exact ⟨_, _, rfl, by simp, by simp [nextIsComment]⟩
  | .tag id :: r, _ => exact ⟨_, _, rfl, by simp, by simp [nextIsComment, CPiece.isComment]⟩
  | .comment c :: r, _ => exact ⟨_, _, rfl, by simp, by simp [nextIsComment, CPiece.isComment]⟩
  | .text t :: r, h => have := h (.text t) (by simp); simp [CPiece.isText] at this

/-- `comments` = the Comment tokens that stand in front of the body's tokens, still unread (a comment piece adds one and
    makes no round of its own; the tag or text piece behind them is one round, which reads them first) -/
theorem parse_cbody (ef : Nat) : ∀ (b : CBody), CWF b → ∀ (q fuel : Nat) (lpos : Option Nat) (nodes : NodeList) (st : FState)
    (comments : List Item),
    st.p.peekCount ≤ 2 → (∀ c ∈ comments, c.typ = .tComment) → stream st.p = comments ++ citemsOf q b →
    (comments ++ citemsOf q b).length + 4 ≤ fuel →
    ∃ p nl st', itemListLoop pf (ef + 4) fuel [.tEOF] lpos nodes st = .ok (.list p nl, st') ∧
      nl.toList = nodes.toList ++ cnodesOf (!comments.isEmpty) q b := by
  intro b
  induction b with
  | nil =>
    intro _ q fuel lpos nodes st comments hpc hc hs hf
    simp only [citemsOf, List.length_append, List.length_cons, List.length_nil] at hf
    obtain ⟨f, rfl⟩ : ∃ f, fuel = f + 2 := ⟨fuel - 2, by omega⟩
    obtain ⟨st', hl, _⟩ := halt_round pf (ef := ef + 4) (f := f) (untl := [.tEOF]) (lpos := lpos) (nodes := nodes) hc
      (x := ⟨.tEOF, q, []⟩) (by simp) (by simp) hpc hs (by omega)
    exact ⟨_, nodes, st', hl, by simp [cnodesOf]⟩
  | cons pc r ih =>
    intro hwf q fuel lpos nodes st comments hpc hc hs hf
    match pc, hwf, hs, hf with
    | .comment c, hwf, hs, hf =>
      simp only [citemsOf] at hs hf
      have e : comments ++ ⟨.tComment, q + 4 + c.length, 47 :: 42 :: (c ++ [42, 47])⟩ :: citemsOf (q + 4 + c.length) r =
          (comments ++ [⟨.tComment, q + 4 + c.length, 47 :: 42 :: (c ++ [42, 47])⟩]) ++ citemsOf (q + 4 + c.length) r := by
        simp
      rw [e] at hs hf
      obtain ⟨p, nl, st3, hl, hnl⟩ := ih hwf.2 (q + 4 + c.length) fuel lpos nodes st _ hpc
        (by intro x hx
            rcases List.mem_append.mp hx with hx | hx
            · exact hc x hx
            · simp at hx; rw [hx]) hs hf
      refine ⟨p, nl, st3, hl, ?_⟩
      rw [hnl]
      have : (!(comments ++ [(⟨.tComment, q + 4 + c.length, 47 :: 42 :: (c ++ [42, 47])⟩ : Item)]).isEmpty) = true := by
        cases comments <;> rfl
      rw [this]
      simp [cnodesOf]
    | .tag id, hwf, hs, hf =>
      simp only [citemsOf] at hs hf
      have hf' : comments.length + (citemsOf (q + 3 + id.length) r).length + 7 ≤ fuel := by
        simp only [List.length_append, List.length_cons] at hf; omega
      obtain ⟨f, rfl⟩ : ∃ f, fuel = f + 4 := ⟨fuel - 4, by omega⟩
      obtain ⟨st2, hl2, hs2, hp2, _⟩ := tag_round pf (ef := ef + 4) (f := f + 2) (untl := [.tEOF]) (lpos := lpos) (nodes := nodes)
        hc (ld := ⟨.tLeftDelim, q + 1, [123]⟩) (k := ⟨.tDollarIdent, q + 2 + id.length, 36 :: id⟩) rfl (by decide) (by simp)
        (n := printNode ⟨.tDollarIdent, q + 2 + id.length, 36 :: id⟩ id) hpc hs (by omega)
        (fun st2 h2 hp _ => (beginTag_dollar pf ef f (st0 := st2) (k := 1) ⟨h2, hp, by omega, Fr.refl st2⟩ rfl rfl rfl).fin)
      obtain ⟨p, nl, st3, hl, hnl⟩ := ih hwf.2 (q + 3 + id.length) (f + 3) _ _ st2 [] hp2
        (fun _ h => absurd h (by simp)) (by simpa using hs2) (by simp; omega)
      refine ⟨p, nl, st3, hl2.trans hl, ?_⟩
      rw [hnl, toList_append]
      simp [cnodesOf, printNode, NodeList.toList]
    | .text t, hwf, hs, hf =>
      have hhead : ∀ p ∈ r.head?, p.isText = false := fun p hp => (hwf.2.1 p hp).1
      by_cases hd : dropped t = false
      · obtain ⟨nxt, s, hnx, hnt, hnc⟩ := citemsOf_head (q + t.length) r hhead
        simp only [citemsOf, hd, if_true, hnx, List.cons_append, List.nil_append] at hs hf
        have hf' : comments.length + s.length + 6 ≤ fuel := by
          simp only [List.length_append, List.length_cons] at hf; omega
        obtain ⟨f, rfl⟩ : ∃ f, fuel = f + 2 := ⟨fuel - 2, by omega⟩
        obtain ⟨st2, hl2, hs2, hp2, _⟩ := text_round pf (ef := ef + 4) (f := f) (untl := [.tEOF]) (lpos := lpos) (nodes := nodes)
          hc (x := ⟨.tText, q + t.length, t⟩) rfl hnt (by decide) hpc hs (by omega)
        rw [← hnx] at hs2
        have htn : textNode comments ⟨.tText, q + t.length, t⟩ [] nxt =
            if (joinLines t (!comments.isEmpty) (nextIsComment r)).isEmpty then none
            else some (.rawText (q + t.length) (joinLines t (!comments.isEmpty) (nextIsComment r))) := by
          simp only [textNode, List.flatMap_nil, List.append_nil, hnc]
        obtain ⟨p, nl, st3, hl, hnl⟩ := ih hwf.2.2 (q + t.length) (f + 1) _ _ st2 [] hp2
          (fun _ h => absurd h (by simp)) (by simpa using hs2) (by rw [hnx]; simp; omega)
        refine ⟨p, nl, st3, hl2.trans hl, ?_⟩
        rw [hnl, appendNode_toList, htn]
        by_cases hj : (joinLines t (!comments.isEmpty) (nextIsComment r)).isEmpty = true <;>
          simp [cnodesOf, ctextNodes, hj, hd]
      · have hd' : dropped t = true := by simpa using hd
        simp only [citemsOf, hd', Bool.true_eq_false, if_false, List.nil_append] at hs hf
        obtain ⟨p, nl, st3, hl, hnl⟩ := ih hwf.2.2 (q + t.length) fuel lpos nodes st comments hpc hc hs hf
        refine ⟨p, nl, st3, hl, ?_⟩
        rw [hnl, cnodesOf_flag _ _ r hhead]
        simp [cnodesOf, ctextNodes, hd']

end cparser

/-- For every well-formed body `b` of text pieces, print tags `{$id}` and block
    comments `/*c*/` (`CWF`), `parse.SoyFile` on the source text `csrcOf b`: the lexer sends exactly `citemsOf 0 b` —
    one Text item per text piece that is not dropped, LeftDelim / DollarIdent / RightDelim per tag, a Comment item per
    comment, EOF, every item positioned at the byte where it ends; the parser returns exactly `cnodesOf false 0 b` — the
    RawText node of a text piece `t` is `joinLines t tb ta` with `tb` = the piece directly before is a comment, `ta` = the
    piece directly after is a comment; the Print node of `$id` per tag; comments yield no node. -/
theorem body_source_spec_comments (pf : Bytes → Option UInt64) (b : CBody) (h : CWF b) :
    lexAll (csrcOf b) false = .items (citemsOf 0 b) ∧ parseSource pf (csrcOf b) = .ok (cnodesOf false 0 b) := by
  obtain ⟨p, nl, st', hl, hnl⟩ := parse_cbody pf (8 * (citemsOf 0 b).length + 60) b h 0
    (8 * (citemsOf 0 b).length + 64) none .nil { p := initState (citemsOf 0 b) } [] (by simp [initState])
    (fun _ h => absurd h (by simp)) (by simp [stream, pending, initState]) (by simp only [List.nil_append]; omega)
  refine ⟨lexAll_cbody b h, (parseSource_of_loop pf (lexAll_cbody b h) hl).trans ?_⟩
  simp only [hnl, NodeList.toList, List.nil_append, List.isEmpty_nil, Bool.not_true]


/-! ### Non-vacuity (comments)

  `t␣/* x */␣b⏎␣c␣/*y*/{$d}`: the text `t␣` before a comment loses its trailing space (`trimAfter`),
  the text `␣b⏎␣c␣` between two comments is trimmed on both sides and joined to `b c`. -/

def cexBody : CBody :=
  [.text [116, 32], .comment [32, 120, 32], .text [32, 98, 10, 32, 99, 32], .comment [121], .tag [100]]

theorem cexBody_wf : CWF cexBody := by
  simp only [cexBody, CWF, List.head?_cons, Option.mem_def, Option.some.injEq, forall_eq', CPiece.isText, CPiece.isComment,
    and_true, true_and, forall_const]
  refine ⟨?_, ?_, ?_, ?_, ?_, ?_, ?_⟩ <;> decide

theorem cexBody_dropped : dropped [116, 32] = false ∧ dropped [32, 98, 10, 32, 99, 32] = false := by
  refine ⟨?_, ?_⟩ <;>
    simp [dropped, allSpaceWithNewline, allSpaceLoop, Lex.decodeRune, byteAt, Lex.isSpaceEOL, Lex.isSpace, Lex.isEndOfLine]

theorem cexBody_spec (pf : Bytes → Option UInt64) :
    lexAll [116, 32, 47, 42, 32, 120, 32, 42, 47, 32, 98, 10, 32, 99, 32, 47, 42, 121, 42, 47, 123, 36, 100, 125] false =
      .items [⟨.tText, 2, [116, 32]⟩, ⟨.tComment, 9, [47, 42, 32, 120, 32, 42, 47]⟩, ⟨.tText, 15, [32, 98, 10, 32, 99, 32]⟩,
        ⟨.tComment, 20, [47, 42, 121, 42, 47]⟩, ⟨.tLeftDelim, 21, [123]⟩, ⟨.tDollarIdent, 23, [36, 100]⟩,
        ⟨.tRightDelim, 24, [125]⟩, ⟨.tEOF, 24, []⟩] ∧
    parseSource pf [116, 32, 47, 42, 32, 120, 32, 42, 47, 32, 98, 10, 32, 99, 32, 47, 42, 121, 42, 47, 123, 36, 100, 125] =
      .ok [.rawText 2 [116], .rawText 15 [98, 32, 99], .print 23 (.dataRef 23 [100] .nil) []] := by
  have h := body_source_spec_comments pf cexBody cexBody_wf
  have hsrc : csrcOf cexBody =
      [116, 32, 47, 42, 32, 120, 32, 42, 47, 32, 98, 10, 32, 99, 32, 47, 42, 121, 42, 47, 123, 36, 100, 125] := by rfl
  have hitems : citemsOf 0 cexBody =
      [⟨.tText, 2, [116, 32]⟩, ⟨.tComment, 9, [47, 42, 32, 120, 32, 42, 47]⟩, ⟨.tText, 15, [32, 98, 10, 32, 99, 32]⟩,
        ⟨.tComment, 20, [47, 42, 121, 42, 47]⟩, ⟨.tLeftDelim, 21, [123]⟩, ⟨.tDollarIdent, 23, [36, 100]⟩,
        ⟨.tRightDelim, 24, [125]⟩, ⟨.tEOF, 24, []⟩] := by
    simp [cexBody, citemsOf, cexBody_dropped]
  have j1 : joinLines [116, 32] false true = [116] := by rfl
  have j2 : joinLines [32, 98, 10, 32, 99, 32] true true = [98, 32, 99] := by rfl
  have hnodes : cnodesOf false 0 cexBody =
      [.rawText 2 [116], .rawText 15 [98, 32, 99], .print 23 (.dataRef 23 [100] .nil) []] := by
    simp [cexBody, cnodesOf, ctextNodes, nextIsComment, CPiece.isComment, cexBody_dropped, j1, j2]
  rw [hsrc, hitems, hnodes] at h
  exact h

def Piece.toC : Piece → CPiece
  | .text t => .text t
  | .tag id => .tag id

theorem toC_src : ∀ (b : Body), csrcOf (b.map Piece.toC) = srcOf b
  | [] => rfl
  | .text _ :: r => by simp [csrcOf, srcOf, Piece.toC, CPiece.src, Piece.src, toC_src r]
  | .tag _ :: r => by simp [csrcOf, srcOf, Piece.toC, CPiece.src, Piece.src, toC_src r]

theorem toC_items : ∀ (b : Body) (q : Nat), citemsOf q (b.map Piece.toC) = itemsOf q b
  | [], _ => rfl
  | .text _ :: r, q => by simp [citemsOf, itemsOf, Piece.toC, toC_items r]
  | .tag _ :: r, q => by simp [citemsOf, itemsOf, Piece.toC, toC_items r]

theorem toC_head (r : Body) : nextIsComment (r.map Piece.toC) = false ∧
    ((∀ p ∈ r.head?, p.isText = false) → ∀ p ∈ (r.map Piece.toC).head?, p.isText = false ∧ (p.isComment = true → False)) := by
  cases r with
  | nil => exact ⟨rfl, fun _ p hp => by simp at hp⟩
  | cons x r =>
    cases x with
    | text t => exact ⟨rfl, fun h => by have := h (.text t) (by simp); simp [Piece.isText] at this⟩
    | tag id => exact ⟨rfl, fun _ p hp => by simp [Piece.toC] at hp; subst hp; simp [CPiece.isText, CPiece.isComment]⟩

theorem toC_wf : ∀ (b : Body), WF b → CWF (b.map Piece.toC)
  | [], _ => trivial
  | .text _ :: r, h => ⟨h.1, fun p hp => ⟨((toC_head r).2 h.2.1 p hp).1, fun hc => (((toC_head r).2 h.2.1 p hp).2 hc).elim⟩,
      toC_wf r h.2.2⟩
  | .tag _ :: r, h => ⟨h.1, toC_wf r h.2⟩

theorem toC_nodes : ∀ (b : Body) (q : Nat), cnodesOf false q (b.map Piece.toC) = nodesOf q b
  | [], _ => rfl
  | .text t :: r, q => by
    simp only [List.map_cons, Piece.toC, cnodesOf, nodesOf, (toC_head r).1, toC_nodes r]
    rfl
  | .tag _ :: r, q => by simp [cnodesOf, nodesOf, Piece.toC, toC_nodes r]

/-- For every well-formed body `b` (text pieces and print tags `{$id}`,
    no two text pieces adjacent), `parse.SoyFile` on the source text `srcOf b`:

    * the lexer sends exactly `itemsOf 0 b` — one Text item per text piece that is not dropped
      (dropped = all whitespace with a line break), LeftDelim / DollarIdent / RightDelim per tag,
      EOF — every item positioned at the byte where its piece / token ends;
    * the parser returns exactly `nodesOf 0 b` — `RawText (joinLines t false false)` at the end
      position of every text piece `t` that is not dropped and does not normalise to nothing, the
      Print node of the data reference `$id` for every tag, in source order.

    Derived from `body_source_spec_comments`: a body without comments is a `CBody` (`Piece.toC`). -/
theorem body_source_spec (pf : Bytes → Option UInt64) (b : Body) (h : WF b) :
    lexAll (srcOf b) false = .items (itemsOf 0 b) ∧ parseSource pf (srcOf b) = .ok (nodesOf 0 b) := by
  have := body_source_spec_comments pf (b.map Piece.toC) (toC_wf b h)
  rwa [toC_src, toC_items, toC_nodes] at this


/-! ## Non-vacuity

  `Hi {$name}⏎␣␣{$x_1}a⏎␣␣<b>/c`: three text pieces — `Hi␣`, the whitespace-with-line-break run
  between the two tags (dropped by the lexer) and `a⏎␣␣<b>/c` (the line break next to `<` is joined
  away without a space; the `/` before `c` stays text) — and two tags. -/

def exBody : Body :=
  [.text [72, 105, 32], .tag [110, 97, 109, 101], .text [10, 32, 32], .tag [120, 95, 49],
   .text [97, 10, 32, 32, 60, 98, 62, 47, 99]]

theorem exBody_wf : WF exBody := by
  simp only [exBody, WF, List.head?_cons, Option.mem_def, Option.some.injEq, forall_eq', Piece.isText, List.head?_nil,
    and_true, true_and]
  refine ⟨?_, ?_, ?_, ?_, ?_⟩ <;> decide

theorem exBody_src : srcOf exBody =
    [72, 105, 32, 123, 36, 110, 97, 109, 101, 125, 10, 32, 32, 123, 36, 120, 95, 49, 125,
     97, 10, 32, 32, 60, 98, 62, 47, 99] := by rfl

theorem exBody_dropped : dropped [72, 105, 32] = false ∧ dropped [10, 32, 32] = true ∧
    dropped [97, 10, 32, 32, 60, 98, 62, 47, 99] = false := by
  refine ⟨?_, ?_, ?_⟩ <;>
    simp [dropped, allSpaceWithNewline, allSpaceLoop, Lex.decodeRune, byteAt, Lex.isSpaceEOL, Lex.isSpace, Lex.isEndOfLine]

theorem exBody_items : itemsOf 0 exBody =
    [⟨.tText, 3, [72, 105, 32]⟩, ⟨.tLeftDelim, 4, [123]⟩, ⟨.tDollarIdent, 9, [36, 110, 97, 109, 101]⟩, ⟨.tRightDelim, 10, [125]⟩,
     ⟨.tLeftDelim, 14, [123]⟩, ⟨.tDollarIdent, 18, [36, 120, 95, 49]⟩, ⟨.tRightDelim, 19, [125]⟩,
     ⟨.tText, 28, [97, 10, 32, 32, 60, 98, 62, 47, 99]⟩, ⟨.tEOF, 28, []⟩] := by
  simp [exBody, itemsOf, exBody_dropped]

theorem exBody_nodes : nodesOf 0 exBody =
    [.rawText 3 [72, 105, 32], .print 9 (.dataRef 9 [110, 97, 109, 101] .nil) [],
     .print 18 (.dataRef 18 [120, 95, 49] .nil) [], .rawText 28 [97, 60, 98, 62, 47, 99]] := by
  have j1 : joinLines [72, 105, 32] false false = [72, 105, 32] := by rfl
  have j3 : joinLines [97, 10, 32, 32, 60, 98, 62, 47, 99] false false = [97, 60, 98, 62, 47, 99] := by rfl
  simp [exBody, nodesOf, textNodes, exBody_dropped, j1, j3]

theorem exBody_spec (pf : Bytes → Option UInt64) :
    lexAll [72, 105, 32, 123, 36, 110, 97, 109, 101, 125, 10, 32, 32, 123, 36, 120, 95, 49, 125,
        97, 10, 32, 32, 60, 98, 62, 47, 99] false =
      .items [⟨.tText, 3, [72, 105, 32]⟩, ⟨.tLeftDelim, 4, [123]⟩, ⟨.tDollarIdent, 9, [36, 110, 97, 109, 101]⟩,
        ⟨.tRightDelim, 10, [125]⟩, ⟨.tLeftDelim, 14, [123]⟩, ⟨.tDollarIdent, 18, [36, 120, 95, 49]⟩, ⟨.tRightDelim, 19, [125]⟩,
        ⟨.tText, 28, [97, 10, 32, 32, 60, 98, 62, 47, 99]⟩, ⟨.tEOF, 28, []⟩] ∧
    parseSource pf [72, 105, 32, 123, 36, 110, 97, 109, 101, 125, 10, 32, 32, 123, 36, 120, 95, 49, 125,
        97, 10, 32, 32, 60, 98, 62, 47, 99] =
      .ok [.rawText 3 [72, 105, 32], .print 9 (.dataRef 9 [110, 97, 109, 101] .nil) [],
        .print 18 (.dataRef 18 [120, 95, 49] .nil) [], .rawText 28 [97, 60, 98, 62, 47, 99]] := by
  have := body_source_spec pf exBody exBody_wf
  rw [exBody_src, exBody_items, exBody_nodes] at this
  exact this


end SoyVerif.Props.C15c

namespace SoyVerif.Props.C15b
open SoyVerif SoyVerif.Model SoyVerif.Model.FileParser SoyVerif.Spec SoyVerif.Props.C15c
open Lex

theorem plain_txtOK {txt : Bytes} (h : ∀ b ∈ txt, b.toNat < 128 ∧ b ≠ 47 ∧ b ≠ 123 ∧ b ≠ 125) : txt = [] ∨ textOK txt := by
  by_cases h0 : txt = []
  · exact Or.inl h0
  · refine Or.inr ⟨List.length_pos_iff.mpr h0, fun i hi => ?_⟩
    have hb := h txt[i] (List.getElem_mem hi)
    rw [List.getD_eq_getElem?_getD, List.getElem?_eq_getElem hi]
    refine ⟨hb.1, fun e => hb.2.2.1 (UInt8.toNat_inj.mp e), fun e => hb.2.2.2 (UInt8.toNat_inj.mp e),
      fun e => absurd (UInt8.toNat_inj.mp e) hb.2.1⟩

/-- Text made of ASCII bytes other than `/`, `{`, `}`, followed by `{`: `lexText`, started on
    the whole input, sends that text as one Text item positioned at the `{` (nothing if it is
    empty or only whitespace with a line break) and hands over to `lexLeftDelim` there. -/
theorem lexText_plain_then_open (pre post : Bytes)
    (hpre : ∀ b ∈ pre, b.toNat < 128 ∧ b ≠ 47 ∧ b ≠ 123 ∧ b ≠ 125) :
    ∃ lf, lexText (initLexer (pre ++ 123 :: post)) = some (some .leftDelim, lf) ∧
      lf.items.toList = textItems (pre ++ 123 :: post).toArray 0 pre.length ∧ lf.pos = pre.length ∧
      lf.start = pre.length := by
  have hh := (holds_self (pre ++ 123 :: post)).append
  obtain ⟨hq, hb0, _⟩ := hh.2.cons
  obtain ⟨w', dd', ts', le', its', h1, h2⟩ := lexText_text_open (pre ++ 123 :: post).toArray 0 pre.length 0 false 0 Item.zero #[]
    hq (text_bytes hh.1 (plain_txtOK hpre) (Or.inr (by rw [hb0]; decide))) hb0
  exact ⟨_, h1, by simpa using h2, by simp, by simp⟩

/-- A source that is ONE run of plain text (ASCII, no `/`, `{`, `}`): lexer ∘ parser give the
    single RawText node `joinLines txt false false`, positioned at the end of the text (the Text
    token's position) — no node if the text is empty, is whitespace with a line break (the lexer
    drops it), or normalises to nothing.  (`body_source_spec` for the body of at most one piece.) -/
theorem plain_text_source (pf : Bytes → Option UInt64) (txt : Bytes)
    (htxt : ∀ b ∈ txt, b.toNat < 128 ∧ b ≠ 47 ∧ b ≠ 123 ∧ b ≠ 125) :
    parseSource pf txt = .ok
      (if txt ≠ [] ∧ Lex.allSpaceWithNewline txt = false ∧ (joinLines txt false false).isEmpty = false
       then [.rawText txt.length (joinLines txt false false)] else []) := by
  rcases plain_txtOK htxt with rfl | h
  · simpa [srcOf, nodesOf] using (body_source_spec pf [] trivial).2
  · have h0 : txt ≠ [] := List.length_pos_iff.mp h.1
    simpa [srcOf, Piece.src, nodesOf, textNodes, dropped, h0] using
      (body_source_spec pf [.text txt] ⟨h, by simp, trivial⟩).2

/-- the hypothesis is satisfiable: `a⏎ b` as a whole source.  This instantiates the theorem and evaluates nothing: the
    `if` does not reduce, because `allSpaceWithNewline` is defined by well-founded recursion (the driver's `parsesrc`
    shows the result `RawText 4 "a b"`) -/
example (pf : Bytes → Option UInt64) := plain_text_source pf [97, 10, 32, 98] (by decide)

example : joinLines [97, 10, 32, 98] false false = [97, 32, 98] := by rfl

end SoyVerif.Props.C15b
