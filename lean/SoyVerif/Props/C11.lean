/-
  C11 — Extracted messages round-trip: translations land on the right placeholders.

  Theorems about the render model (Model/MsgRender.lean: evalMsg / evalMsgParts /
  MsgNode.Placeholder / walkMsgBody of soyhtml and ast, msgid / Validate / newMessage of
  soymsg/pomsg) on top of the naming theorems of C10.  `ρ` renders a placeholder from its
  source text, `ν` evaluates a plural's value, `sel` is the bundle's `PluralCase`; all three
  are arbitrary.  The model is tied to the code by the correspondence sub-check C11msg.
-/
import SoyVerif.Lemmas.MsgRenderNames

namespace SoyVerif.Props.C11
open SoyVerif SoyVerif.Model.Msg SoyVerif.Props.C10

variable (ρ : Bytes → Bytes) (ν : Bytes → Int) (sel : Int → Int)

/-- In the compiled body of a flat message, placeholders bearing one name have one source
    text (from `names_distinct` / `names_equiv_same`). -/
theorem flat_name_determines_src (o : Orders) (ho : o.Valid) (body : List Part) (hflat : bodyFlat body = true)
    (n s s' : Bytes) (h : RPart.ph n s ∈ rbody o body) (h' : RPart.ph n s' ∈ rbody o body) : s = s' := by
  obtain ⟨b, hb, e⟩ := mem_annotList_flat _ body hflat n s h
  obtain ⟨b', hb', e'⟩ := mem_annotList_flat _ body hflat n s' h'
  obtain ⟨q, hq, q1, q2⟩ := mkQueue_mem hb
  obtain ⟨q', hq', q1', q2'⟩ := mkQueue_mem hb'
  rw [← queue_flat body hflat] at hq hq'
  have := nm_inj o ho body hq hq' (by
    simp only [q1, q2, q1', q2', Part.base, Part.src]
    exact e.symm.trans e')
  simpa [q2, q2', Part.src] using this

theorem msgid_flat (R : List RPart) (h : isFlat R = true) : msgid R = some (writephList R) := by
  unfold msgid msgidn
  cases R with
  | nil => rfl
  | cons p r =>
    cases p with
    | plural _ _ _ _ => simp [isFlat, RPart.isPlural] at h
    | text b => rfl
    | ph n s => rfl

/-- `identity_translation` below, under the guard of `Props.C10.parts_placeholderString` (`NoMatch`, `FlatOK` of
    Lemmas/MsgParts) in place of `Validate` -/
theorem identity_translation_of_guard (o : Orders) (ho : o.Valid) (body : List Part) (hflat : bodyFlat body = true)
    (hguard : NoMatch (leadText (namedBody o body))) (hok : FlatOK (namedBody o body)) :
    ∃ id, msgid (rbody o body) = some id ∧
      renderTranslated ρ ν sel (rbody o body) (newMessage [] [id]) = some (renderSource ρ ν (rbody o body)) := by
  have hR : isFlat (rbody o body) = true := isFlat_annotList _ body hflat
  have hN : toNList (rbody o body) = namedBody o body := toNList_annotList_flat _ body hflat
  exact ⟨writephList (rbody o body), msgid_flat _ hR,
    render_parts_writeph ρ ν sel _ _ (fun n => placeholder_flat n _ hR)
      (fun n s s' h h' => congrArg ρ (flat_name_determines_src o ho body hflat n s s' h h'))
      _ hR (fun _ h => h) (hN ▸ hguard) (hN ▸ hok)⟩

/-- `pomsg.Validate` implies the guard of `Props.C10.parts_placeholderString` (Lemmas/MsgValidate) -/
theorem validate_implies_text_guard (o : Orders) (body : List Part) (hflat : bodyFlat body = true)
    (hval : validate (rbody o body) = true) (hnames : NamesValid (rbody o body)) :
    NoMatch (leadText (namedBody o body)) ∧ FlatOK (namedBody o body) := by
  have hR : isFlat (rbody o body) = true := isFlat_annotList _ body hflat
  have hN : toNList (rbody o body) = namedBody o body := toNList_annotList_flat _ body hflat
  rw [validate_flat _ hR] at hval
  rw [← hN]
  exact text_guard_of_validateText _ hR hval hnames

/-- non-plural messages: a flat message that is PO-representable (`Validate` accepts
    it) and whose placeholder names are in `[A-Z0-9_]+`: with `msgstr = msgid` the translated
    render equals the render without a catalogue, for every environment. -/
theorem identity_translation (o : Orders) (ho : o.Valid) (body : List Part) (hflat : bodyFlat body = true)
    (hval : validate (rbody o body) = true) (hnames : NamesValid (rbody o body)) :
    ∃ id, msgid (rbody o body) = some id ∧
      renderTranslated ρ ν sel (rbody o body) (newMessage [] [id]) = some (renderSource ρ ν (rbody o body)) := by
  obtain ⟨g, f⟩ := validate_implies_text_guard o body hflat hval hnames
  exact identity_translation_of_guard ρ ν sel o ho body hflat g f

theorem rbody_poPlural (o : Orders) (b s : Bytes) (k : Int) (c d : List Part) :
    rbody o [.plural b s [(k, c)] d] =
      [.plural (nmOf o [.plural b s [(k, c)] d] b s) s
        [(k, annotList (nmOf o [.plural b s [(k, c)] d]) c)] (annotList (nmOf o [.plural b s [(k, c)] d]) d)] := by
  simp [rbody, annotList, annot, annotCases, nmOf]

theorem poPlural_name_determines_src (o : Orders) (ho : o.Valid) (b s₀ : Bytes) (k : Int) (c d : List Part)
    (hc : bodyFlat c = true) (hd : bodyFlat d = true) (n s s' : Bytes)
    (h : RPart.ph n s ∈ annotList (nmOf o [.plural b s₀ [(k, c)] d]) d ++ annotList (nmOf o [.plural b s₀ [(k, c)] d]) c)
    (h' : RPart.ph n s' ∈ annotList (nmOf o [.plural b s₀ [(k, c)] d]) d ++ annotList (nmOf o [.plural b s₀ [(k, c)] d]) c) :
    s = s' := by
  have key : ∀ s, RPart.ph n s ∈ annotList (nmOf o [.plural b s₀ [(k, c)] d]) d ++ annotList (nmOf o [.plural b s₀ [(k, c)] d]) c →
      ∃ q ∈ queue [.plural b s₀ [(k, c)] d], q.src = s ∧ nmOf o [.plural b s₀ [(k, c)] d] q.base q.src = n := by
    intro s h
    have : ∃ base, Part.ph base s ∈ phNodes c ++ phNodes d ∧ n = nmOf o [.plural b s₀ [(k, c)] d] base s := by
      rcases List.mem_append.mp h with h | h
      · obtain ⟨base, h1, h2⟩ := mem_annotList_flat _ d hd n s h
        exact ⟨base, List.mem_append_right _ h1, h2⟩
      · obtain ⟨base, h1, h2⟩ := mem_annotList_flat _ c hc n s h
        exact ⟨base, List.mem_append_left _ h1, h2⟩
    obtain ⟨base, h1, h2⟩ := this
    obtain ⟨q, hq, q1, q2⟩ := mkQueue_mem (ps := .plural b s₀ [(k, c)] d :: (phNodes c ++ phNodes d))
      (List.mem_cons_of_mem _ h1)
    rw [← queue_poPlural b s₀ k c d hc hd] at hq
    exact ⟨q, hq, by simpa [Part.src] using q2, by simp only [q1, q2, Part.base, Part.src]; exact h2.symm⟩
  obtain ⟨q, hq, e1, e2⟩ := key s h
  obtain ⟨q', hq', e1', e2'⟩ := key s' h'
  have := nm_inj o ho _ hq hq' (e2.trans e2'.symm)
  rw [← e1, ← e1']; exact this

/-- `identity_translation_plural` below, under the text guard on both bodies in place of `Validate` -/
theorem identity_translation_plural_of_guard (o : Orders) (ho : o.Valid) (b s : Bytes) (c d : List Part)
    (hc : bodyFlat c = true) (hd : bodyFlat d = true)
    (hsel1 : sel 1 = 0) (hselN : ∀ n, n ≠ 1 → sel n = 1) :
    let body := [Part.plural b s [(1, c)] d]
    let nm := nmOf o body
    NoMatch (leadText (toNList (annotList nm c))) → FlatOK (toNList (annotList nm c)) →
    NoMatch (leadText (toNList (annotList nm d))) → FlatOK (toNList (annotList nm d)) →
    ∃ id idPlural, msgid (rbody o body) = some id ∧ msgidPlural (rbody o body) = some idPlural ∧
      renderTranslated ρ ν sel (rbody o body) (newMessage (nm b s) [id, idPlural])
        = some (renderSource ρ ν (rbody o body)) := by
  intro body nm gc fc gd fd
  have hC : isFlat (annotList nm c) = true := isFlat_annotList _ c hc
  have hD : isFlat (annotList nm d) = true := isFlat_annotList _ d hd
  have hR : rbody o body = [.plural (nm b s) s [(1, annotList nm c)] (annotList nm d)] := rbody_poPlural o b s 1 c d
  rw [hR]
  refine ⟨writephList (annotList nm c), writephList (annotList nm d), rfl, rfl, ?_⟩
  have hnew : newMessage (nm b s) [writephList (annotList nm c), writephList (annotList nm d)] =
      [.plural (nm b s) [liftParts (parts (writephList (annotList nm c))), liftParts (parts (writephList (annotList nm d)))]] := by
    unfold newMessage
    cases nm b s <;> rfl
  have hlook : ∀ n, placeholder n [RPart.plural (nm b s) s [(1, annotList nm c)] (annotList nm d)]
      = findSrc n (annotList nm d ++ annotList nm c) :=
    fun n => placeholder_poPlural n _ _ _ _ _ hC hD
  have huniq : ∀ n s₁ s₂, RPart.ph n s₁ ∈ annotList nm d ++ annotList nm c →
      RPart.ph n s₂ ∈ annotList nm d ++ annotList nm c → ρ s₁ = ρ s₂ :=
    fun n s₁ s₂ h h' => congrArg ρ (poPlural_name_determines_src o ho b s 1 c d hc hd n s₁ s₂ h h')
  have rc := render_parts_writeph ρ ν sel _ _ hlook huniq (annotList nm c) hC
    (fun x hx => List.mem_append_right _ hx) gc fc
  have rd := render_parts_writeph ρ ν sel _ _ hlook huniq (annotList nm d) hD
    (fun x hx => List.mem_append_left _ hx) gd fd
  rw [hnew]
  exact renderTranslated_twoForms ρ ν sel _ s _ _ _ _ hsel1 hselN rc rd

theorem validate_poPlural (N s : Bytes) (C D : List RPart) :
    validate [.plural N s [(1, C)] D] = (validateText C && validateText D) := by
  have : validateText [RPart.plural N s [(1, C)] D] = true := by
    simp only [validateText, litText]; decide
  simp [validate, validateFrom, this]

/-- PO-valid plural messages: the sole child is a plural with `{case 1}` and
    `{default}`, flat bodies; `Validate` accepts the message and the names are in
    `[A-Z0-9_]+`.  With `msgstr[0] = msgid`, `msgstr[1] = msgid_plural` and a two-form selector
    the translated render equals the source render for every plural value and environment. -/
theorem identity_translation_plural (o : Orders) (ho : o.Valid) (b s : Bytes) (c d : List Part)
    (hc : bodyFlat c = true) (hd : bodyFlat d = true)
    (hsel1 : sel 1 = 0) (hselN : ∀ n, n ≠ 1 → sel n = 1) :
    let body := [Part.plural b s [(1, c)] d]
    let nm := nmOf o body
    validate (rbody o body) = true → NamesValid (annotList nm c) → NamesValid (annotList nm d) →
    ∃ id idPlural, msgid (rbody o body) = some id ∧ msgidPlural (rbody o body) = some idPlural ∧
      renderTranslated ρ ν sel (rbody o body) (newMessage (nm b s) [id, idPlural])
        = some (renderSource ρ ν (rbody o body)) := by
  intro body nm hval nc nd
  rw [rbody_poPlural o b s 1 c d, validate_poPlural, Bool.and_eq_true] at hval
  obtain ⟨gc, fc⟩ := text_guard_of_validateText _ (isFlat_annotList nm c hc) hval.1 nc
  obtain ⟨gd, fd⟩ := text_guard_of_validateText _ (isFlat_annotList nm d hd) hval.2 nd
  exact identity_translation_plural_of_guard ρ ν sel o ho b s c d hc hd hsel1 hselN gc fc gd fd

/-- what one translation segment contributes -/
def segOut (R : List RPart) : MsgPart → Option Bytes
  | .text b => some b
  | .ph n => (placeholder n R).map ρ

/-- rendering a translation is the concatenation of the renders of its pieces … -/
theorem parts_compositional (R : List RPart) (ts₁ ts₂ : List TPart) :
    renderTranslated ρ ν sel R (ts₁ ++ ts₂) =
      (renderTranslated ρ ν sel R ts₁).bind fun x => (renderTranslated ρ ν sel R ts₂).map fun y => x ++ y :=
  renderTs_append ρ ν sel R ts₁ ts₂

/-- … a flat translation renders segment by segment: every segment must render, and the result is the
    concatenation, in the translation's order; -/
theorem renderTranslated_lift (R : List RPart) : ∀ ts : List MsgPart,
    renderTranslated ρ ν sel R (liftParts ts) = (ts.mapM (segOut ρ R)).map List.flatten
  | [] => rfl
  | t :: ts => by
    have ih := renderTranslated_lift R ts
    unfold renderTranslated liftParts at ih ⊢
    have ht : renderT ρ ν sel R (TPart.ofMsgPart t) = segOut ρ R t := by cases t <;> rfl
    simp only [List.map_cons, renderTs, ih, ht, List.mapM_cons]
    cases segOut ρ R t <;> cases ts.mapM (segOut ρ R) <;> rfl

/-- … so the render of ANY flat translation whose placeholders exist is the concatenation, in
    the translation's order, of its text segments and of `ρ` of the placeholders it names; -/
theorem translation_renders_segments (R : List RPart) : ∀ (ts : List MsgPart),
    (∀ t ∈ ts, (segOut ρ R t).isSome = true) →
    renderTranslated ρ ν sel R (liftParts ts) = some ((ts.map fun t => (segOut ρ R t).getD []).flatten) :=
  fun ts h => by rw [renderTranslated_lift, mapM_of_isSome _ [] ts h]; rfl

/-- a placeholder the message does not have is an error, never silently dropped; -/
theorem translation_unknown_placeholder (R : List RPart) (ts₁ ts₂ : List MsgPart) (n : Bytes)
    (h : placeholder n R = none) :
    renderTranslated ρ ν sel R (liftParts (ts₁ ++ .ph n :: ts₂)) = none := by
  have hn : segOut ρ R (.ph n) = none := by simp [segOut, h]
  rw [renderTranslated_lift, List.mapM_append]
  cases ts₁.mapM (segOut ρ R) <;> simp [List.mapM_cons, hn]

/-- and a translation that reorders (or repeats, or omits) segments — `idx` lists
    which segment of `ts` comes where — renders exactly the reordered (repeated, shortened)
    sequence of the per-segment renders.  With `idx` a permutation this is "a translation
    that reorders placeholders reorders exactly their rendered values". -/
theorem reorder_reorders (R : List RPart) (ts : List MsgPart)
    (hts : ∀ t ∈ ts, (segOut ρ R t).isSome = true) (idx : List Nat) (hidx : ∀ i ∈ idx, i < ts.length) :
    renderTranslated ρ ν sel R (liftParts (idx.map fun i => ts.getD i (.text []))) =
      some ((idx.map fun i => (segOut ρ R (ts.getD i (.text []))).getD []).flatten) := by
  rw [translation_renders_segments]
  · rw [List.map_map]; rfl
  · intro t ht
    obtain ⟨i, hi, rfl⟩ := List.mem_map.mp ht
    have hlt := hidx i hi
    rw [List.getD_eq_getElem?_getD, List.getElem?_eq_getElem hlt]
    exact hts _ (List.getElem_mem hlt)

/-- without a bundle, or with a bundle that lacks the id, the source is rendered. -/
theorem missing_falls_back (R : List RPart) (id : UInt64) :
    evalMsg ρ ν none id R = some (renderSource ρ ν R) ∧
    ∀ b : Bundle, b.message id = none → evalMsg ρ ν (some b) id R = some (renderSource ρ ν R) := by
  refine ⟨rfl, ?_⟩
  intro b h
  simp [evalMsg, h]

/-- a catalogue entry whose msgstrs are all empty (PO's "not translated yet") is not
    loaded into the bundle, so the message renders its source text. -/
theorem untranslated_falls_back (R : List RPart) (id : UInt64) (varName : Bytes) (msgstrs : List Bytes)
    (h : ∀ s ∈ msgstrs, s = []) :
    evalMsg ρ ν (some (poBundle id varName msgstrs sel)) id R = some (renderSource ρ ν R) := by
  have hu : untranslated msgstrs = true := by
    simp only [untranslated, List.all_eq_true]
    intro s hs; simp [h s hs]
  simp [evalMsg, poBundle, loadEntry, hu]

/-- … and a translated entry is used as `newMessage` builds it -/
theorem translated_entry_used (R : List RPart) (id : UInt64) (varName : Bytes) (msgstrs : List Bytes)
    (h : ∃ s ∈ msgstrs, s ≠ []) :
    evalMsg ρ ν (some (poBundle id varName msgstrs sel)) id R =
      renderTranslated ρ ν sel R (newMessage varName msgstrs) := by
  have hu : untranslated msgstrs = false := by
    obtain ⟨s, hs, hne⟩ := h
    simp only [untranslated, List.all_eq_false]
    exact ⟨s, hs, by cases s <;> simp_all⟩
  simp [evalMsg, poBundle, loadEntry, hu]

theorem renderTCase_eq (R : List RPart) : ∀ (cs : List (List TPart)) (n : Nat),
    renderTCase ρ ν sel R cs n = if h : n < cs.length then renderTs ρ ν sel R cs[n] else none
  | [], n => by simp [renderTCase]
  | c :: cs, 0 => by simp [renderTCase]
  | c :: cs, n + 1 => by
    simp only [renderTCase, renderTCase_eq R cs n, List.length_cons, Nat.add_lt_add_iff_right, List.getElem_cons_succ]

/-- the case rendered for a `PluralPart` is `cases[sel (ν plural)]` (followed by `[]`, the render of the empty
    rest of the one-part translation) … -/
theorem plural_pick (R : List RPart) (v s : Bytes) (cs : List (List TPart))
    (hnode : findPluralNode v R = some s) (h0 : 0 ≤ sel (ν s)) (hlt : (sel (ν s)).toNat < cs.length) :
    renderTranslated ρ ν sel R [.plural v cs] =
      (renderTranslated ρ ν sel R (cs[(sel (ν s)).toNat])).map fun x => x ++ [] := by
  have hneg : ¬ (sel (ν s) < 0) := by omega
  simp only [renderTranslated, renderTs, renderT, hnode, hneg, if_false, renderTCase_eq, hlt, dif_pos]
  cases renderTs ρ ν sel R cs[(sel (ν s)).toNat] <;> simp

/-- … and an index outside the translation's cases is an error — never a wrong case; -/
theorem plural_out_of_range (R : List RPart) (v s : Bytes) (cs : List (List TPart))
    (hnode : findPluralNode v R = some s) (h : sel (ν s) < 0 ∨ cs.length ≤ (sel (ν s)).toNat) :
    renderTranslated ρ ν sel R [.plural v cs] = none := by
  simp only [renderTranslated, renderTs, renderT, hnode, renderTCase_eq]
  by_cases hneg : sel (ν s) < 0
  · simp [hneg]
  · have : ¬ ((sel (ν s)).toNat < cs.length) := by
      rcases h with h | h
      · exact absurd h hneg
      · omega
    simp [hneg, this]

/-- so is a plural the message does not have -/
theorem plural_unknown_var (R : List RPart) (v : Bytes) (cs : List (List TPart))
    (hnode : findPluralNode v R = none) : renderTranslated ρ ν sel R [.plural v cs] = none := by
  simp [renderTranslated, renderTs, renderT, hnode]

section examples

/-- a test environment: a placeholder renders as its source text between `<` `>` -/
def ρ₀ (s : Bytes) : Bytes := 60 :: s ++ [62]
def sel₂ (n : Int) : Int := if n == 1 then 0 else 1

/-- `Hi {$a}{$b.a}{$a}` (base names A, A, A; names A_1, A_2, A_1) -/
def body₁ : List Part := [.text [72, 105, 32], .ph [65] [36, 97], .ph [65] [36, 98, 46, 97], .ph [65] [36, 97]]

example : msgid (rbody Orders.id body₁) =
    some [72, 105, 32, 123, 65, 95, 49, 125, 123, 65, 95, 50, 125, 123, 65, 95, 49, 125] := by decide +kernel

/-- the identity translation renders what the source renders … -/
example : renderTranslated ρ₀ (fun _ => 0) sel₂ (rbody Orders.id body₁)
      (newMessage [] [(msgid (rbody Orders.id body₁)).getD []])
    = some (renderSource ρ₀ (fun _ => 0) (rbody Orders.id body₁)) := by decide +kernel

/-- … and the translation `{A_2} {A_1}` renders `$b.a`'s value, a space, `$a`'s value. -/
example : renderTranslated ρ₀ (fun _ => 0) sel₂ (rbody Orders.id body₁)
      (newMessage [] [[123, 65, 95, 50, 125, 32, 123, 65, 95, 49, 125]])
    = some (ρ₀ [36, 98, 46, 97] ++ [32] ++ ρ₀ [36, 97]) := by decide +kernel

/-- `{plural $n}{case 1}one {$n}{default}{$n} many{/plural}`: both plural values, two-form selector -/
def body₂ : List Part := [.plural [78] [112] [(1, [.text [111, 110, 101, 32], .ph [78] [36, 110]])]
  [.ph [78] [36, 110], .text [32, 109, 97, 110, 121]]]

example : ∀ v ∈ [0, 1, 2, 7], renderTranslated ρ₀ (fun _ => v) sel₂ (rbody Orders.id body₂)
      (newMessage [78, 95, 49] [(msgid (rbody Orders.id body₂)).getD [], (msgidPlural (rbody Orders.id body₂)).getD []])
    = some (renderSource ρ₀ (fun _ => v) (rbody Orders.id body₂)) := by decide +kernel

/-- a three-form selector on the two-form catalogue: index 2 is out of range ⇒ error -/
example : renderTranslated ρ₀ (fun _ => 5) (fun n => if n == 1 then 0 else if n < 5 then 1 else 2) (rbody Orders.id body₂)
      (newMessage [78, 95, 49] [[97], [98]]) = none := by decide +kernel

/-- THE GUARD IS NEEDED.  `{msg desc=""}{lb}FOO{rb}{$foo}{/msg}`: the text `{FOO}` followed by
    the placeholder FOO.  The msgid is `{FOO}{FOO}`; `Parts` reads the text as a second
    placeholder, and the identity translation renders `$foo` twice instead of `{FOO}` + `$foo`. -/
def body₃ : List Part := [.text [123, 70, 79, 79, 125], .ph [70, 79, 79] [36, 102, 111, 111]]

example : msgid (rbody Orders.id body₃) = some [123, 70, 79, 79, 125, 123, 70, 79, 79, 125] := by decide +kernel
/-- `Validate` rejects it (it is not PO-representable), and accepts `body₁` -/
example : validate (rbody Orders.id body₃) = false ∧ validate (rbody Orders.id body₁) = true
    ∧ validate (rbody Orders.id body₂) = true := by decide +kernel
/-- an untranslated entry (`msgstr ""`) falls back to the source -/
example : evalMsg ρ₀ (fun _ => 0) (some (poBundle 7 [] [[]] sel₂)) 7 (rbody Orders.id body₁)
    = some (renderSource ρ₀ (fun _ => 0) (rbody Orders.id body₁)) := by decide +kernel
example : renderSource ρ₀ (fun _ => 0) (rbody Orders.id body₃) = [123, 70, 79, 79, 125] ++ ρ₀ [36, 102, 111, 111] := by decide +kernel
example : renderTranslated ρ₀ (fun _ => 0) sel₂ (rbody Orders.id body₃)
      (newMessage [] [(msgid (rbody Orders.id body₃)).getD []])
    = some (ρ₀ [36, 102, 111, 111] ++ ρ₀ [36, 102, 111, 111]) := by decide +kernel

end examples

end SoyVerif.Props.C11
