/-
  C04, command level — running the emitted statements against the reference (third layer, on Props/C04dInv).
  `cmd_sim`: ONE simulation (`Sim E P N`: a run that completes has `P`; a run that throws has `N`, under the
  assumption `E` about throwing callees; outside the common subset nothing is said), proved node kind by node kind.
  `CmdOk`, `CasesOk` … `gen_correct_cmds_partial` are its reading for completed runs (`E := False`); Props/C04e reads
  the clause for throws.
-/
import SoyVerif.Props.C04dInv

namespace SoyVerif.Props.C04d
open SoyVerif SoyVerif.Model SoyVerif.Model.JsGen SoyVerif.Spec.JsSemRef SoyVerif.Spec.JsStmt
open SoyVerif.Props.C02Spec (eq_of_outCode)
open SoyVerif.Props.C04c (toAst render RunsSc Same walkExpr_renders toJsV EnvRel Globals GlobalsAre IjRel GlobRel)

set_option linter.unusedSectionVars false

section Dev
variable [Globals] {ent : Spec.Eval.Binds}
open SoyVerif.Spec.Eval (Val Out)
open SoyVerif.Props.C04c (VarRel LoopRel FrameRel)

section
variable (F : Bytes → List Expr → JVal → JOut) (G : Callee) (fuel : Nat)

theorem execStmts_append : ∀ (a b : JsStmts) (env : JEnv),
    execStmts F G fuel (a.append b) env = (execStmts F G fuel a env).bind (execStmts F G fuel b)
  | .nil, b, env => by simp [JsStmts.append, execStmts, SRes.bind]
  | .cons s r, b, env => by
    simp only [JsStmts.append, execStmts]
    cases execStmt F G fuel s env with
    | ok e1 => simp only [SRes.bind]; exact execStmts_append r b e1
    | error => rfl
    | unspec => rfl

theorem execStmts_one (s : JsStmt) (env : JEnv) : execStmts F G fuel (.one s) env = execStmt F G fuel s env := by
  simp only [JsStmts.one, execStmts]
  cases execStmt F G fuel s env <;> rfl

theorem applyCalls_goPrint (ae : Autoescape) (dirs : List Directive) (ck : Bool × List Directive)
    (hc : collectDirs dirs = some ck) (hok : dirs.all dirOk = true) (x : JOut) :
    C04b.goPrint (liftF F) Gen.directiveTable ae dirs x = some (applyCalls F (printDirs ae ck.1 ck.2) x) := by
  have hgo : ∀ d ∈ dirs, (Directives.lookup Gen.directiveTable d.name).isSome := by
    intro d hd
    have := List.all_eq_true.mp hok d hd
    simp only [dirOk, Bool.and_eq_true] at this
    exact this.2
  rw [← C04b.print_directives_agree (liftF F) ae dirs x (by simp [hc]) hgo]
  unfold C04b.jsPrint
  rw [hc, Option.map_some, C04b.denote_applyDirs]
  rfl

end

section
variable (F : Bytes → List Expr → JVal → JOut) (G : Callee) (R : RefCtx) (ae : Autoescape) (buf : Bytes)

theorem out_bind_val {α β : Type} {o : Out α} {f : α → Out β} {b : β} (h : o.bind f = .val b) : ∃ a, o = .val a ∧ f a = .val b := by
  cases o with
  | val a => exact ⟨a, rfl, h⟩
  | error => cases h
  | unspec => cases h

theorem strictEq_corr {a b : Val} {ja jb : JVal} {c : Bool} (ha : toJsV a = some ja) (hb : toJsV b = some jb)
    (h : strictEq ja jb = some c) : Spec.Eval.equalsV a b = .val c := by
  cases ja <;> cases jb <;> simp only [strictEq, Option.some.injEq, reduceCtorEq] at h
  all_goals subst h
  all_goals
    first
      | (have := C04c.toJsV_null ha; subst this)
      | (have := C04c.toJsV_bool ha; subst this)
      | (obtain ⟨rfl, _⟩ := C04c.toJsV_num ha)
      | (have := C04c.toJsV_str ha; subst this)
  all_goals
    first
      | (have := C04c.toJsV_null hb; subst this)
      | (have := C04c.toJsV_bool hb; subst this)
      | (obtain ⟨rfl, _⟩ := C04c.toJsV_num hb)
      | (have := C04c.toJsV_str hb; subst this)
  all_goals simp [Spec.Eval.equalsV]

theorem keeps_setNew (lo : Nat) (e : JEnv) {x u : Bytes} {m : Nat} (hx : x.contains 36 = false) (hu : IsUse u)
    (hm : lo < m) (val : JVal) : Keeps buf lo e (setLocal e (Scope.jsname x u m) val) := by
  refine ⟨rfl, rfl, ?_⟩
  intro g _ hg
  exact find_setLocal_ne e _ g val (hg x u m hx hu hm)

theorem find_setLocal_eq (e : JEnv) (x : Bytes) (val : JVal) :
    (setLocal e x val).locals.find? (·.1 == x) = some (x, val) := by
  simp [setLocal]

/-- the situation in which a node is met: the scope satisfies the invariant (`scOk`), the output variable `buf` is `good`
    for it, the Soy environment and the JavaScript environment are related over the data `R.entry` the template was
    entered with (`rel`), and `buf` holds the text `out` written so far (`bufIs`) -/
structure Start (sc : Scope) (env : SEnv) (jenv : JEnv) (out : Bytes) : Prop where
  scOk : ScOk sc
  good : GoodBuf sc buf
  rel : EnvRel R.entry sc env jenv
  bufIs : BufIs buf jenv out

variable {R buf} in
/-- a run that changed only the output variable and younger locals: the same situation, with what the variable holds now -/
theorem Start.keep {sc : Scope} {env : SEnv} {e e' : JEnv} {out out' : Bytes} (st : Start R buf sc env e out)
    (hk : Keeps buf sc.n e e') (hb : BufIs buf e' out') : Start R buf sc env e' out' :=
  ⟨st.scOk, st.good, envRel_keep st.rel hk st.scOk.2 (Nat.le_refl _) st.good.2 rfl, hb⟩

variable {R buf} in
/-- `var x = val;` for a name `x` of the next generation (a loop's list, limit, index, step or variable): the situation does
    not see it -/
theorem Start.setNew {sc : Scope} {env : SEnv} {e0 e : JEnv} {out : Bytes} (st : Start R buf sc env e out)
    (k0 : Keeps buf sc.n e0 e) {v u : Bytes} (hv : v.contains 36 = false) (hu : IsUse u) (val : JVal) :
    Start R buf sc env (setLocal e (Scope.jsname v u (sc.n + 1)) val) out ∧
      Keeps buf sc.n e0 (setLocal e (Scope.jsname v u (sc.n + 1)) val) := by
  have k := keeps_setNew buf sc.n e hv hu (Nat.lt_succ_self _) val
  refine ⟨st.keep k ?_, k0.trans k (Nat.le_refl _)⟩
  unfold BufIs
  rw [find_setLocal_ne e _ buf val (st.good.ne_next hv hu).symm]
  exact st.bufIs

variable {buf} in
/-- … and a run in the scope of that generation (the body of the loop) keeps it -/
theorem Keeps.new {sc : Scope} (hg : GoodBuf sc buf) {v u : Bytes} (hv : v.contains 36 = false) (hu : IsUse u) {a b : JEnv}
    (hk : Keeps buf (sc.n + 1) a b) {w : JVal}
    (h : a.locals.find? (·.1 == Scope.jsname v u (sc.n + 1)) = some (Scope.jsname v u (sc.n + 1), w)) :
    b.locals.find? (·.1 == Scope.jsname v u (sc.n + 1)) = some (Scope.jsname v u (sc.n + 1), w) :=
  (hk.2.2 _ (hg.ne_next hv hu) (old_jsname hv hu (Nat.le_refl _))).trans h

/-- … as does `var x' = val;` for another name of the generation -/
theorem find_setNew_ne {e : JEnv} {v u u' : Bytes} {m : Nat} (hv : v.contains 36 = false) (hu : IsUse u) (hu' : IsUse u')
    (hne : u ≠ u') (val : JVal) {w : JVal}
    (h : e.locals.find? (·.1 == Scope.jsname v u m) = some (Scope.jsname v u m, w)) :
    (setLocal e (Scope.jsname v u' m) val).locals.find? (·.1 == Scope.jsname v u m) = some (Scope.jsname v u m, w) :=
  (find_setLocal_ne e _ _ val (jsname_use_ne hv hu hu' hne)).trans h

theorem eval_local {e : JEnv} {x : Bytes} {val : JVal} (h : e.locals.find? (·.1 == x) = some (x, val)) :
    eval e (.local x) = .val val := by
  simp [eval, h]

theorem cond_lt {e : JEnv} {xi xn : Bytes} {a b : Int} (h1 : e.locals.find? (·.1 == xi) = some (xi, .num a))
    (h2 : e.locals.find? (·.1 == xn) = some (xn, .num b)) :
    eval e (.bin .lt (.local xi) (.local xn)) = .val (.bool (decide (a < b))) := by
  simp [eval, JOut.bind, binop, h1, h2]

theorem cond_gt0 {e : JEnv} {xn : Bytes} {b : Int} (h2 : e.locals.find? (·.1 == xn) = some (xn, .num b)) :
    eval e (.bin .gt (.local xn) (.num 0)) = .val (.bool (decide (0 < b))) := by
  have : SoyVerif.Spec.JsSem.exact 0 = true := by decide
  simp [eval, JOut.bind, binop, h2, this]

theorem indexVar_eval {e : JEnv} {xl xi : Bytes} {js : List JVal} {i : Nat}
    (h1 : e.locals.find? (·.1 == xl) = some (xl, .arr js)) (h2 : e.locals.find? (·.1 == xi) = some (xi, .num i)) :
    indexVar e xl xi = .val (js.getD i .undefined) := by
  have : ¬ ((i : Int) < 0) := by omega
  simp [indexVar, eval, JOut.bind, getIndex, h1, h2, this]

/-- the elements `range(a, l, s)` has in the specification -/
def rangeItems (a l s : Int) : List Val :=
  match Spec.Eval.rangeSpec a l s with
  | .val (.list xs) => xs
  | _ => []

theorem rangeSpec_val (a l s : Int) (hs : 0 < s) : Spec.Eval.rangeSpec a l s = .val (.list (rangeItems a l s)) := by
  have hs' : ¬ s ≤ 0 := by omega
  unfold rangeItems Spec.Eval.rangeSpec
  by_cases hle : l ≤ a <;> simp [hs', hle]

theorem rangeItems_done (a l s : Int) (hs : 0 < s) (h : ¬ a < l) : rangeItems a l s = [] := by
  have hs' : ¬ s ≤ 0 := by omega
  have hle : l ≤ a := by omega
  simp [rangeItems, Spec.Eval.rangeSpec, hs', hle]

theorem rangeItems_step (a l s : Int) (hs : 0 < s) (h : a < l) :
    rangeItems a l s = .int a :: rangeItems (a + s) l s := by
  have hs' : ¬ s ≤ 0 := by omega
  have hle : ¬ l ≤ a := by omega
  have hne : s ≠ 0 := by omega
  have hcount : ((l - a) + s - 1) / s = ((l - (a + s)) + s - 1) / s + 1 := by
    have : (l - a) + s - 1 = ((l - (a + s)) + s - 1) + 1 * s := by omega
    rw [this, Int.add_mul_ediv_right _ _ hne]
  by_cases hle2 : l ≤ a + s
  · have h1 : ((l - a) + s - 1) / s = 1 := by
      rw [hcount]
      have : ((l - (a + s)) + s - 1) / s = 0 := Int.ediv_eq_zero_of_lt (by omega) (by omega)
      omega
    simp [rangeItems, Spec.Eval.rangeSpec, hs', hle, hle2, h1, List.range_succ]
  · have hpos : 0 ≤ ((l - (a + s)) + s - 1) / s := Int.ediv_nonneg (by omega) (by omega)
    have htn : (((l - a) + s - 1) / s).toNat = (((l - (a + s)) + s - 1) / s).toNat + 1 := by
      rw [hcount]; omega
    simp only [rangeItems, Spec.Eval.rangeSpec, hs', hle, hle2, if_false, htn, List.range_succ_eq_map, List.map_cons,
      List.map_map]
    congr 1
    · simp
    · apply List.map_congr_left
      intro k _
      simp only [Function.comp]
      congr 1
      simp only [Nat.succ_eq_add_one, Int.natCast_add, Int.natCast_one, Int.add_mul, Int.one_mul]
      omega

theorem pushForRange_lookup (sc : Scope) (x k : Bytes) (hk : k.contains 36 = false) :
    (sc.pushForRange x).2.lookup k = if x == k then some (sc.pushForRange x).1.1 else sc.lookup k := by
  have hlim := C04c.dollar_beq (SoyVerif.Lemmas.JsGenSpec.kLimit_dollar x) hk
  have hidx := C04c.dollar_beq (SoyVerif.Lemmas.JsGenSpec.kIndex_dollar x) hk
  have hstep := C04c.dollar_beq (SoyVerif.Lemmas.JsGenSpec.kStep_dollar x) hk
  have hvar := C04c.dollar_beq (SoyVerif.Lemmas.JsGenSpec.kVar_dollar x) hk
  simp only [Scope.pushForRange, Scope.lookup, Scope.lookupIn, C04c.frameGet_frameSet, hlim, hidx, hstep, hvar,
    Bool.false_eq_true, if_false]
  by_cases h : (x == k) = true
  · simp [h]
  · simp [h, frameGet?]

theorem envRel_forrange (sc : Scope) (env : SEnv) (e : JEnv) (x : Bytes) (hx : x.contains 36 = false) (a s l : Int)
    (idx last : Nat) (hrel : EnvRel ent sc env e) (ha : SoyVerif.Spec.JsSem.exact a = true)
    (hexi : SoyVerif.Spec.JsSem.exact (idx : Int) = true)
    (hfind : e.locals.find? (·.1 == Scope.jsname x [] (sc.n + 1)) = some (Scope.jsname x [] (sc.n + 1), .num a))
    (hfs : e.locals.find? (·.1 == Scope.jsname x b!"Step" (sc.n + 1)) = some (Scope.jsname x b!"Step" (sc.n + 1), .num s))
    (hfl : e.locals.find? (·.1 == Scope.jsname x b!"Limit" (sc.n + 1)) = some (Scope.jsname x b!"Limit" (sc.n + 1), .num l))
    (hfi : e.locals.find? (·.1 == Scope.jsname x b!"Index" (sc.n + 1)) = some (Scope.jsname x b!"Index" (sc.n + 1), .num idx))
    (hdec : decide (l ≤ a + s) = (idx == last)) :
    EnvRel ent (sc.pushForRange x).2 { (env.bind x (.int a)) with loops := (x, idx, last) :: env.loops } e := by
  refine ⟨hrel.1.bind (x := x) (v := .int a) (fun k hd => pushForRange_lookup sc x k hd) (C04c.lookup_bind env x (.int a))
    ⟨_, hfind, by simp [C04c.toJsV, ha]⟩ rfl (fun _ _ _ _ _ => rfl), ?_, hrel.2.2⟩
  · intro v' f hf
    rw [pushForRange_stack] at hf
    simp only [Scope.loopFrame, rangeFrame_index sc x v' hx] at hf
    by_cases hvv : (x == v') = true
    · have : x = v' := C04c.beq_true_eq hvv
      subst this
      simp only [beq_self_eq_true, if_true, Option.some.injEq] at hf
      subst hf
      refine ⟨idx, last, by simp [Spec.Eval.findLoop], hexi, ?_, ?_⟩
      · intro ix hix
        rw [rangeFrame_index sc x x hx] at hix
        simp only [beq_self_eq_true, if_true, Option.some.injEq] at hix
        subst hix
        exact C04c.localNum_of_find hfi
      · rw [rangeFrame_step]
        intro lv lim hlv hlim
        rw [rangeFrame_var] at hlv
        rw [rangeFrame_limit] at hlim
        simp only [Option.some.injEq] at hlv hlim
        subst hlv; subst hlim
        exact ⟨a, s, l, C04c.localNum_of_find hfind, C04c.localNum_of_find hfs, C04c.localNum_of_find hfl, hdec⟩
    · have hvv' : (x == v') = false := by simpa using hvv
      simp only [hvv', Bool.false_eq_true, if_false] at hf
      obtain ⟨i', last', hfl', hfr⟩ := hrel.2.1 v' f hf
      exact ⟨i', last', by simp [Spec.Eval.findLoop, hvv', hfl'], hfr⟩

theorem applyFn_range (args : List Val) : Spec.Eval.applyFn b!"range" args =
    (match args with
     | [.int l] => Spec.Eval.rangeSpec 0 l 1
     | [.int a, .int l] => Spec.Eval.rangeSpec a l 1
     | [.int a, .int l, .int s] => Spec.Eval.rangeSpec a l s
     | _ => .error) := rfl

/-- a call of `range` evaluates as its three-argument form, the start and the step the generator fills in (`rangeInit`,
    `rangeIncr`) in their places -/
theorem range_eval_eq (env : SEnv) (p : Nat) (args : ExprList) (l : Expr) (hl : rangeLimit args = some l) :
    Spec.Eval.eval env (.func p b!"range" args) =
      (Spec.Eval.eval env (rangeInit args)).bind fun a => (Spec.Eval.eval env l).bind fun lim =>
        (Spec.Eval.eval env (rangeIncr args)).bind fun st => Spec.Eval.applyFn b!"range" [a, lim, st] := by
  have hz : ∀ z : Int, Spec.Eval.eval env (litInt z) = .val (.int z) := fun z => by rw [litInt, Spec.Eval.eval]
  rw [C04c.specEval_func env rfl]
  match args, hl with
  | .cons _ .nil, hl =>
    cases hl
    simp only [Spec.Eval.evalList, rangeInit, rangeIncr, hz, Spec.Eval.Out.bind_assoc, Spec.Eval.Out.val_bind]
    exact congrArg _ (funext fun w => by rw [applyFn_range, applyFn_range]; cases w <;> rfl)
  | .cons _ (.cons _ .nil), hl =>
    cases hl
    simp only [Spec.Eval.evalList, rangeInit, rangeIncr, hz, Spec.Eval.Out.bind_assoc, Spec.Eval.Out.val_bind]
    exact congrArg _ (funext fun w1 => congrArg _ (funext fun w2 => by
      rw [applyFn_range, applyFn_range]; cases w1 <;> first | rfl | (cases w2 <;> rfl)))
  | .cons _ (.cons _ (.cons _ .nil)), hl =>
    cases hl
    simp only [Spec.Eval.evalList, rangeInit, rangeIncr, Spec.Eval.Out.bind_assoc, Spec.Eval.Out.val_bind]

theorem range_eval (env : SEnv) (p : Nat) (args : ExprList) (l : Expr) (a lim st : Int)
    (hl : rangeLimit args = some l) (h1 : Spec.Eval.eval env (rangeInit args) = .val (.int a))
    (h2 : Spec.Eval.eval env l = .val (.int lim)) (h3 : Spec.Eval.eval env (rangeIncr args) = .val (.int st)) :
    Spec.Eval.eval env (.func p b!"range" args) = Spec.Eval.rangeSpec a lim st := by
  rw [range_eval_eq env p args l hl, h1, h2, h3]
  rfl

theorem range_args_val (env : SEnv) (pf : Nat) (args : ExprList) (l : Expr) (hl : rangeLimit args = some l) (w : Val)
    (hw : Spec.Eval.eval env (.func pf b!"range" args) = .val w) :
    (∃ w1, Spec.Eval.eval env l = .val w1) ∧ (∃ w2, Spec.Eval.eval env (rangeInit args) = .val w2) := by
  rw [range_eval_eq env pf args l hl] at hw
  obtain ⟨w2, hw2, hw⟩ := out_bind_val hw
  obtain ⟨w1, hw1, _⟩ := out_bind_val hw
  exact ⟨⟨w1, hw1⟩, ⟨w2, hw2⟩⟩

/-- from `a` to `b` only locals generated after the counter was `lo` changed -/
def KeepsAll (lo : Nat) (a b : JEnv) : Prop :=
  b.optData = a.optData ∧ b.ijData = a.ijData ∧ ∀ g, Old lo g → b.locals.find? (·.1 == g) = a.locals.find? (·.1 == g)

omit ent in
theorem KeepsAll.refl (lo : Nat) (a : JEnv) : KeepsAll lo a a := ⟨rfl, rfl, fun _ _ => rfl⟩

omit ent in
theorem KeepsAll.trans {lo lo' : Nat} {a b c : JEnv} (h1 : KeepsAll lo a b) (h2 : KeepsAll lo' b c) (hl : lo ≤ lo') :
    KeepsAll lo a c :=
  ⟨h2.1.trans h1.1, h2.2.1.trans h1.2.1, fun g hg => (h2.2.2 g (hg.mono hl)).trans (h1.2.2 g hg)⟩

omit ent in
theorem KeepsAll.keeps {lo : Nat} {a b : JEnv} (h : KeepsAll lo a b) (buf' : Bytes) : Keeps buf' lo a b :=
  ⟨h.1, h.2.1, fun g _ hg => h.2.2 g hg⟩

theorem envRel_keepAll {sc sc' : Scope} {env : SEnv} {jenv jenv' : JEnv} {lo : Nat} (hrel : EnvRel ent sc env jenv)
    (hk : KeepsAll lo jenv jenv') (hb : Bounded sc) (hlo : sc.n ≤ lo) (hst : sc'.stack = sc.stack) :
    EnvRel ent sc' env jenv' :=
  -- `envRel_keep` wants a buffer name that is fresh for `sc`: any name of the next generation, here that of a variable "x"
  envRel_keep hrel (hk.keeps (Scope.jsname b!"x" [] (sc.n + 1))) hb hlo
    (fresh_new hb (by decide) IsUse.var (Nat.lt_succ_self _)) hst

/-- where the body of a content block starts: after `var x$n = '';`, with `x$n` as the output variable -/
theorem content_start (name : Bytes) (hname : name.contains 36 = false) {sc : Scope} (hs : ScOk sc) {env : SEnv} {jenv : JEnv}
    (hrel : EnvRel ent sc env jenv) :
    ScOk (sc.genname name).2 ∧ GoodBuf (sc.genname name).2 (sc.genname name).1 ∧
      EnvRel ent (sc.genname name).2 env (setLocal jenv (sc.genname name).1 (.str [])) := by
  have hg' : GoodBuf (sc.genname name).2 (sc.genname name).1 :=
    ⟨old_jsname hname IsUse.var (Nat.le_refl _), fun f hf kv hkv => (hs.2 f hf kv hkv).2 name [] (sc.n + 1) hname IsUse.var
      (Nat.lt_succ_self _)⟩
  exact ⟨scOk_of_stack hs rfl (Nat.le_succ _), hg', envRel_keep hrel
    (keeps_setNew (sc.genname name).1 sc.n jenv hname IsUse.var (Nat.lt_succ_self _) _) hs.2 (Nat.le_refl _) hg'.2 rfl⟩

omit ent in
theorem toJsKvs_append : ∀ (a b : List (Bytes × Val)) (ja jb : List (Bytes × JVal)), C04c.toJsKvs a = some ja →
    C04c.toJsKvs b = some jb → C04c.toJsKvs (a ++ b) = some (ja ++ jb)
  | [], b, ja, jb, ha, hb => by
    simp only [C04c.toJsKvs, Option.some.injEq] at ha; subst ha; simpa using hb
  | (k, v) :: r, b, ja, jb, ha, hb => by
    simp only [C04c.toJsKvs] at ha
    cases hv : toJsV v with
    | none => simp [hv] at ha
    | some jv =>
      cases hr : C04c.toJsKvs r with
      | none => simp [hv, hr] at ha
      | some jr =>
        simp only [hv, hr, Option.some.injEq] at ha; subst ha
        simp [C04c.toJsKvs, hv, toJsKvs_append r b jr jb hr hb]

/-- the param's buffer still holds the text wherever the `key: value` list is evaluated -/
theorem content_param_find {sc : Scope} {rb : JsStmts × Scope} {rr : JsStmts × List (Bytes × JsExpr) × Scope}
    {e1 jenvF jenv2 : JEnv} {text : Bytes} (a2' : sc.n + 1 ≤ rb.2.n) (b2 : rb.2.n ≤ rr.2.2.n)
    (hb' : BufIs (sc.genname b!"param").1 e1 text) (kt : KeepsAll rb.2.n e1 jenvF) (hk2 : KeepsAll rr.2.2.n jenvF jenv2) :
    eval jenv2 (.local (sc.genname b!"param").1) = .val (.str text) := by
  have hold : Old rb.2.n (sc.genname b!"param").1 := old_jsname (by decide) IsUse.var a2'
  apply eval_local
  rw [hk2.2.2 _ (hold.mono b2), kt.2.2 _ hold]; exact hb'

/-- the callee oracle `G` agrees with the reference's `call`: when the generated function `name` returns `r` on the
    JSON image of the data `ce.entry`, `name` is a template of the registry, it renders on that data, and `r` is
    the text -/
def CallRel : Prop :=
  ∀ (name : Bytes) (ce : Spec.Eval.CallEnv) (jd : List (Bytes × JVal)) (jij : Option (List (Bytes × JVal))) (r : JVal),
    C04c.toJsKvs ce.entry = some jd → IjRel ce.ij jij → GlobRel ce.globals → G name (.obj jd) jij = .val r →
    ∃ callee out, Registry.lookup R.reg name = some callee ∧ R.call callee ce = .val out ∧ r = .str out

section Simulation
open SoyVerif.Props.C04c (SimE out_bind_not_val)

/-- a completion of the emitted statements against the reference: a run that completes has `P`; a run that throws has
    `N` — claimed only under `E`, the assumption that callees throw only where the reference has no value (`NoThrow`);
    outside the common subset nothing is said.
    (An inductive predicate and not a `match` on the completion: unfolding that would make `whnf` evaluate the run.) -/
inductive Sim (E : Prop) (P : JEnv → Prop) (N : Prop) : SRes → Prop
  | ok {e : JEnv} (h : P e) : Sim E P N (.ok e)
  | error (h : E → N) : Sim E P N .error
  | unspec : Sim E P N .unspec

/-- `Sim` against a reference result: completes → the reference has a value `x` with `Q x`; throws → it has none -/
def SimR (E : Prop) {α : Type} (res : SRes) (ref : Out α) (Q : α → JEnv → Prop) : Prop :=
  Sim E (fun e => ∃ x, ref = .val x ∧ Q x e) (∀ x, ref ≠ .val x) res

section
variable {E : Prop} {α β : Type} {res : SRes} {ref : Out α} {Q : α → JEnv → Prop}

theorem Sim.run_ok {P : JEnv → Prop} {N : Prop} (h : Sim E P N res) {e : JEnv} (hx : res = .ok e) : P e := by
  subst hx; cases h; assumption

theorem Sim.run_error {P : JEnv → Prop} {N : Prop} (h : Sim E P N res) (hE : E) (hx : res = .error) : N := by
  subst hx; cases h with | error h => exact h hE

theorem SimR.run_ok (h : SimR E res ref Q) {e : JEnv} (hx : res = .ok e) : ∃ x, ref = .val x ∧ Q x e := Sim.run_ok h hx

theorem SimR.run_error (h : SimR E res ref Q) (hE : E) (hx : res = .error) : ∀ x, ref ≠ .val x := Sim.run_error h hE hx

theorem Sim.of_runs {P : JEnv → Prop} {N : Prop} (h : ∀ e, res = .ok e → P e) (hn : E → res = .error → N) : Sim E P N res := by
  cases res with
  | ok e => exact .ok (h e rfl)
  | error => exact .error fun hE => hn hE rfl
  | unspec => exact .unspec

theorem SimR.val {e : JEnv} {x : α} (hr : ref = .val x) (hq : Q x e) : SimR E (.ok e) ref Q := Sim.ok ⟨x, hr, hq⟩

theorem Sim.imp {P P' : JEnv → Prop} {N N' : Prop} (h : Sim E P N res) (hp : ∀ e, P e → P' e) (hn : N → N') : Sim E P' N' res := by
  cases h with
  | ok h => exact .ok (hp _ h)
  | error h => exact .error fun hE => hn (h hE)
  | unspec => exact .unspec

theorem Sim.bind {P1 P2 : JEnv → Prop} {N1 N2 : Prop} {r1 : SRes} {k : JEnv → SRes} (h1 : Sim E P1 N1 r1)
    (h2 : ∀ e1, P1 e1 → Sim E P2 N2 (k e1)) (hn : N1 → N2) : Sim E P2 N2 (r1.bind k) := by
  cases h1 with
  | ok h => exact h2 _ h
  | error h => exact Sim.error fun h' => hn (h h')
  | unspec => exact Sim.unspec

theorem Sim.withVal {jo : JOut} {so : Out Val} {k : JVal → SRes} {P : JEnv → Prop} {N : Prop} (h1 : SimE E so jo)
    (h2 : ∀ v jv, so = .val v → toJsV v = some jv → Sim E P N (k jv)) (hn : (∀ v, so ≠ .val v) → N) :
    Sim E P N (SoyVerif.Spec.JsStmt.withVal jo k) := by
  cases h1 with
  | val v hv hvj => exact h2 v _ hv hvj
  | error h => exact Sim.error fun hE => hn (h hE)
  | unspec => exact Sim.unspec

theorem SimR.post {Q' : α → JEnv → Prop} (h : SimR E res ref Q) (hq : ∀ x e, Q x e → Q' x e) : SimR E res ref Q' :=
  h.imp (fun e ⟨x, hx, hp⟩ => ⟨x, hx, hq x e hp⟩) id

/-- the reference of a sequence is the `bind` of the references -/
theorem SimR.bind {r1 : SRes} {k : JEnv → SRes} {f : α → Out β} {Q2 : β → JEnv → Prop} (h1 : SimR E r1 ref Q)
    (h2 : ∀ x e1, Q x e1 → SimR E (k e1) (f x) Q2) : SimR E (r1.bind k) (ref.bind f) Q2 :=
  Sim.bind h1 (fun e1 ⟨x, hx, hq⟩ => by rw [hx]; exact h2 x e1 hq) out_bind_not_val

theorem SimR.map {g : α → β} {Q' : β → JEnv → Prop} (h : SimR E res ref Q) (hq : ∀ x e, Q x e → Q' (g x) e) :
    SimR E res (ref.bind fun x => .val (g x)) Q' :=
  h.imp (fun e ⟨x, hx, hp⟩ => ⟨g x, by rw [hx]; rfl, hq x e hp⟩) out_bind_not_val

theorem SimR.withVal {jo : JOut} {so : Out Val} {k : JVal → SRes} {f : Val → Out β} {Q : β → JEnv → Prop}
    (h1 : SimE E so jo) (h2 : ∀ v jv, so = .val v → toJsV v = some jv → SimR E (k jv) (f v) Q) :
    SimR E (SoyVerif.Spec.JsStmt.withVal jo k) (so.bind f) Q :=
  Sim.withVal h1 (fun v jv hv hvj => by rw [hv]; exact h2 v jv hv hvj) out_bind_not_val

theorem Sim.numRes {P : JEnv → Prop} {N : Prop} {n : Int} {k : JVal → SRes}
    (h : SoyVerif.Spec.JsSem.exact n = true → Sim E P N (k (.num n))) :
    Sim E P N (SoyVerif.Spec.JsStmt.withVal (SoyVerif.Spec.JsSemRef.numRes n) k) := by
  unfold SoyVerif.Spec.JsSemRef.numRes
  by_cases hex : SoyVerif.Spec.JsSem.exact n = true
  · rw [if_pos hex]; exact h hex
  · rw [if_neg hex]; exact Sim.unspec

end

theorem withVal_val (v : JVal) (k : JVal → SRes) : withVal (.val v) k = k v := rfl

theorem sres_bind_withVal (o : JOut) (k : JVal → SRes) (k' : JEnv → SRes) :
    (withVal o k).bind k' = withVal o fun v => (k v).bind k' := by
  cases o <;> rfl

theorem sres_ok_bind (e : JEnv) (k : JEnv → SRes) : (SRes.ok e).bind k = k e := rfl

theorem sres_bind_ok_id (r : SRes) : (r.bind fun e => .ok e) = r := by
  cases r <;> rfl

theorem eval_num (e : JEnv) (i : Int) : eval e (.num i) = numRes i := by
  simp only [eval, SoyVerif.Spec.JsSemRef.numRes]

theorem appendTo_eq {buf : Bytes} {jenv : JEnv} {out : Bytes} (hb : BufIs buf jenv out) (v : JVal) :
    appendTo jenv buf v = match toStr? v with
      | some s => .ok (setLocal jenv buf (.str (out ++ s)))
      | none => .unspec := by
  have he : eval jenv (.local buf) = .val (.str out) := by
    unfold BufIs at hb
    simp [eval, hb]
  unfold appendTo
  rw [he]
  cases v <;> simp [withVal, binop, isStr, toStr?]

theorem applyCalls_abrupt (F : Bytes → List Expr → JVal → JOut) : ∀ (ds : List Directive) (o : JOut), (∀ v, o ≠ .val v) →
    applyCalls F ds o = o
  | [], _, _ => rfl
  | d :: ds, o, h => by
    have : o.bind (F d.name d.args) = o := by
      cases o with
      | val v => exact absurd rfl (h v)
      | error => rfl
      | unspec => rfl
    show applyCalls F ds (o.bind (F d.name d.args)) = o
    rw [this]
    exact applyCalls_abrupt F ds o h

theorem pushForRange_names (sc : Scope) (v : Bytes) : (sc.pushForRange v).1 =
    (Scope.jsname v [] (sc.n + 1), Scope.jsname v b!"Limit" (sc.n + 1), Scope.jsname v b!"Step" (sc.n + 1),
      Scope.jsname v b!"Index" (sc.n + 1)) := rfl

theorem execLoopStep_nums (body : JEnv → SRes) {i lim : Bytes} (step idx : Bytes) (k : Nat) {e : JEnv} {vi vl : JVal}
    (h1 : e.locals.find? (·.1 == i) = some (i, vi)) (h2 : e.locals.find? (·.1 == lim) = some (lim, vl)) :
    (∃ a l, vi = .num a ∧ vl = .num l) ∨ execLoopStep body i lim step idx k e = .unspec := by
  cases k with
  | zero => exact Or.inr rfl
  | succ k =>
    have h : eval e (.bin .lt (.local i) (.local lim)) = binop .lt vi vl := by
      simp [eval, JOut.bind, h1, h2]
    unfold execLoopStep
    rw [h]
    cases vi with
    | num a =>
      cases vl with
      | num l => exact Or.inl ⟨a, l, rfl, rfl⟩
      | _ => exact Or.inr rfl
    | _ => exact Or.inr rfl

/-- what the error clause of the simulation rests on: the callee oracle throws only where the reference's `call` does not
    render (the hypothesis `CallRelE` of Props/C04e; an emitted expression needs no assumption: Props/C04c `TrExpr.sim`) -/
def NoThrow : Prop :=
  ∀ (name : Bytes) (ce : Spec.Eval.CallEnv) (jd : List (Bytes × JVal)) (jij : Option (List (Bytes × JVal))),
    C04c.toJsKvs ce.entry = some jd → IjRel ce.ij jij → GlobRel ce.globals → G name (.obj jd) jij = .error →
    ∀ callee out, Registry.lookup R.reg name = some callee → R.call callee ce ≠ .val out

/-- what a completed run of a command leaves.  Arguments: the start (`sc`, `jenv`, `out` as in `Start`), then `sc'` the scope
    after the command, `x` the reference's text and environment, `jenv'` the environment the run left -/
def Done (sc : Scope) (jenv : JEnv) (out : Bytes) (sc' : Scope) (x : Bytes × SEnv) (jenv' : JEnv) : Prop :=
  EnvRel R.entry sc' x.2 jenv' ∧ BufIs buf jenv' (out ++ x.1) ∧ Keeps buf sc.n jenv jenv'

/-- … and of a node that binds nothing outside itself (`text`: the reference's text) -/
def DoneT (sc : Scope) (jenv : JEnv) (out : Bytes) (text : Bytes) (jenv' : JEnv) : Prop :=
  BufIs buf jenv' (out ++ text) ∧ Keeps buf sc.n jenv jenv'

variable (E : Prop)

/-- the simulation statement for a command (`PartsSim` … `CasesSim` below: the same for the other syntactic classes): from
    every start in which its translation `r` exists, the run of `r.1` against `refCmd`, `Done` in the scope `r.2` -/
def CmdSim (c : Cmd) : Prop :=
  ∀ (fuel : Nat) (sc : Scope) (r : JsStmts × Scope) (env : SEnv) (jenv : JEnv) (out : Bytes),
    toCmd ae buf c sc = some r → Start R buf sc env jenv out →
    SimR E (execStmts F G fuel r.1 jenv) (refCmd F R ae c env) (Done R buf sc jenv out r.2)

def PartsSim (ps : MsgParts) : Prop :=
  ∀ (fuel : Nat) (sc : Scope) (r : JsStmts × Scope) (env : SEnv) (jenv : JEnv) (out : Bytes),
    toParts ae buf ps sc = some r → Start R buf sc env jenv out →
    SimR E (execStmts F G fuel r.1 jenv) (refParts F R ae ps env) (Done R buf sc jenv out r.2)

def PhSim (b : MsgPhBody) : Prop :=
  ∀ (fuel : Nat) (sc : Scope) (r : JsStmts × Scope) (env : SEnv) (jenv : JEnv) (out : Bytes),
    toPh ae buf b sc = some r → Start R buf sc env jenv out →
    SimR E (execStmts F G fuel r.1 jenv) (refPh F R ae b env) (Done R buf sc jenv out r.2)

def CmdsSim (cs : CmdList) : Prop :=
  ∀ (fuel : Nat) (sc : Scope) (r : JsStmts × Scope) (env : SEnv) (jenv : JEnv) (out : Bytes),
    toCmds ae buf cs sc = some r → Start R buf sc env jenv out →
    SimR E (execStmts F G fuel r.1 jenv) (refCmds F R ae cs env) (DoneT buf sc jenv out)

def BlockSim (b : Block) : Prop :=
  ∀ (fuel : Nat) (sc : Scope) (r : JsStmts × Scope) (env : SEnv) (jenv : JEnv) (out : Bytes),
    toBlock ae buf b sc = some r → Start R buf sc env jenv out →
    SimR E (execStmts F G fuel r.1 jenv) (refBlock F R ae b env) (DoneT buf sc jenv out)

def BodySim (b : Block) : Prop :=
  ∀ (fuel : Nat) (sc : Scope) (r : JsStmts × Scope) (env : SEnv) (jenv : JEnv) (out : Bytes),
    toBody ae buf b sc = some r → Start R buf sc env jenv out →
    SimR E (execStmts F G fuel r.1 jenv) (refBlock F R ae b env) (DoneT buf sc jenv out)

def CondsSim (cs : CondList) : Prop :=
  ∀ (fuel : Nat) (sc : Scope) (r : JsConds × Scope) (env : SEnv) (jenv : JEnv) (out : Bytes),
    toConds ae buf cs sc = some r → Start R buf sc env jenv out →
    SimR E (execConds F G fuel r.1 jenv) (refConds F R ae cs env) (DoneT buf sc jenv out)

def CasesSim (cs : CaseList) : Prop :=
  ∀ (fuel : Nat) (sc : Scope) (r : JsCases × Scope) (env : SEnv) (jenv : JEnv) (out : Bytes) (sv : Val) (jv : JVal),
    toCases ae buf cs sc = some r → Start R buf sc env jenv out → toJsV sv = some jv →
    SimR E (execCases F G fuel r.1 jv jenv) (refCases F R ae cs sv env) (DoneT buf sc jenv out)

/-- `===` against the labels of a clause, against `matchAny`.  (A `match` on the result is harmless here and in `SimB`, unlike
    in `Sim`: the proofs `generalize` the result before they inspect the predicate.) -/
def SimL (E : Prop) (so : Out Bool) : Option (JOut ⊕ Bool) → Prop
  | some (.inr b) => so = .val b
  | some (.inl .error) => E → ∀ b, so ≠ .val b
  | _ => True

/-- the `{case n}` clauses of a plural against `refPlural`: JavaScript matches no label exactly when the reference matches
    no case, and the clause JavaScript runs is the case the reference renders -/
inductive SimPl (E : Prop) (ref : Option Spec.Eval.ROut) (Q : Bytes × SEnv → JEnv → Prop) : Option SRes → Prop
  | none (h : ref = none) : SimPl E ref Q none
  | some {res : SRes} (ro : Spec.Eval.ROut) (h : ref = some ro) (hs : SimR E res ro Q) : SimPl E ref Q (some res)
  | unspec : SimPl E ref Q (some .unspec)

def PCasesSim (cs : PluralCases) : Prop :=
  ∀ (fuel : Nat) (sc : Scope) (r : JsPlural × Scope) (env : SEnv) (jenv : JEnv) (out : Bytes) (i : Int),
    toPCases ae buf cs sc = some r → Start R buf sc env jenv out →
    SimPl E (refPlural F R ae cs i env) (Done R buf sc jenv out r.2) (execPlural F G fuel r.1 i jenv)

/-- the evaluated `key: value` list against the reference's params (`acc`: what was evaluated before) -/
inductive SimP (E : Prop) (ref : Out Spec.Eval.Binds) (acc : List (Bytes × JVal)) : JOut ⊕ List (Bytes × JVal) → Prop
  | val {extra : List (Bytes × JVal)} (bs : Spec.Eval.Binds) (jbs : List (Bytes × JVal)) (hr : ref = .val bs)
      (hj : C04c.toJsKvs bs = some jbs) (he : extra = jbs ++ acc) : SimP E ref acc (.inr extra)
  | error (h : E → ∀ bs, ref ≠ .val bs) : SimP E ref acc (.inl .error)
  | other {o : JOut} (h : o ≠ .error) : SimP E ref acc (.inl o)

/-- the params of a call, in two stages: the statements that fill the content params' buffers, then the `key: value` list,
    evaluated later in any environment that kept the buffers -/
def ParamsSim (ps : ParamList) : Prop :=
  ∀ (fuel : Nat) (sc : Scope) (r : JsStmts × List (Bytes × JsExpr) × Scope) (env : SEnv) (jenv : JEnv),
    toParams ae ps sc = some r → ScOk sc → EnvRel R.entry sc env jenv →
    Sim E (fun jenvF => KeepsAll sc.n jenv jenvF ∧ ∀ (jenv2 : JEnv) (acc : List (Bytes × JVal)),
        KeepsAll r.2.2.n jenvF jenv2 → SimP E (refParams F R ae ps env) acc (evalParams jenv2 r.2.1 acc))
      (∀ bs, refParams F R ae ps env ≠ .val bs) (execStmts F G fuel r.1 jenv)

/-- the first argument of the callee against the data the reference passes on -/
def SimB (E : Prop) (ref : Out Spec.Eval.Binds) : JOut → Prop
  | .val (.obj bkvs) => ∃ bd, ref = .val bd ∧ C04c.toJsKvs bd = some bkvs
  | .error => E → ∀ bd, ref ≠ .val bd
  | _ => True

variable {F G R ae buf E}
variable (hE : E → NoThrow G R)

theorem expr_sim {sc : Scope} {env : SEnv} {jenv : JEnv} (hrel : EnvRel R.entry sc env jenv) {e : Expr} {j : JsExpr}
    (hj : toAst sc e = some j) : SimE E (Spec.Eval.eval env e) (eval jenv j) :=
  (C04c.toAst_tr sc e j hj).sim env jenv hrel

/-- a node that binds nothing outside itself leaves the relation as it was, in every scope with the frames of `sc` -/
theorem Start.closed {sc sc' : Scope} {env : SEnv} {jenv jenv' : JEnv} {out text : Bytes} (st : Start R buf sc env jenv out)
    (hst : sc'.stack = sc.stack) (hd : DoneT buf sc jenv out text jenv') : Done R buf sc jenv out sc' (text, env) jenv' :=
  ⟨envRel_keep st.rel hd.2 st.scOk.2 (Nat.le_refl _) st.good.2 hst, hd⟩

/-- a node that emits nothing -/
theorem Start.none {sc : Scope} {env : SEnv} {jenv : JEnv} {out : Bytes} (st : Start R buf sc env jenv out) :
    DoneT buf sc jenv out [] jenv :=
  ⟨by simpa using st.bufIs, Keeps.refl _ _ _⟩

theorem Start.append {sc : Scope} {env : SEnv} {jenv : JEnv} {out : Bytes} (st : Start R buf sc env jenv out) (s : Bytes) :
    Done R buf sc jenv out sc (s, env) (setLocal jenv buf (.str (out ++ s))) :=
  st.closed rfl ⟨bufIs_setBuf _ _ _, keeps_setBuf _ _ _ _⟩

theorem Start.stack {sc sc' : Scope} {env : SEnv} {jenv : JEnv} {out : Bytes} (st : Start R buf sc env jenv out)
    (hst : sc'.stack = sc.stack) (hn : sc.n ≤ sc'.n) : Start R buf sc' env jenv out :=
  ⟨scOk_of_stack st.scOk hst hn, goodBuf_of_stack st.good hst hn, envRel_stack st.rel hst, st.bufIs⟩

theorem DoneT.mono {sc sc' : Scope} {jenv jenv' : JEnv} {out text : Bytes} (h : DoneT buf sc' jenv out text jenv')
    (hn : sc.n ≤ sc'.n) : DoneT buf sc jenv out text jenv' := ⟨h.1, h.2.mono hn⟩

theorem rawText_sim (p : Nat) (t : Bytes) : CmdSim F G R ae buf E (.rawText p t) := by
  intro fuel sc r env jenv out h st
  simp only [toCmd, Option.some.injEq] at h; subst h
  rw [execStmts_one]
  simp only [execStmt, appendTo_eq st.bufIs, toStr?]
  exact SimR.val (by simp [refCmd]) (st.append t)

theorem print_sim (p : Nat) (arg : Expr) (dirs : List Directive) : CmdSim F G R ae buf E (.print p arg dirs) := by
  intro fuel sc r env jenv out h st
  obtain ⟨hok, j, ck, hj, hc, rfl⟩ := toCmd_print_some h
  rw [execStmts_one]
  simp only [execStmt, refCmd]
  have hs := expr_sim (E := E) st.rel (jenv := jenv) hj
  generalize eval jenv j = jo at hs ⊢
  cases hs with
  | error hs =>
    rw [applyCalls_abrupt F _ _ (by simp)]
    exact Sim.error fun h => out_bind_not_val (hs h)
  | unspec => rw [applyCalls_abrupt F _ _ (by simp)]; exact Sim.unspec
  | @val jv v hv hvj =>
    -- the generated nest of calls computes what the Go renderer's directive loop computes
    have hgo := applyCalls_goPrint F ae dirs ck hc hok (.val jv)
    cases hr : applyCalls F (printDirs ae ck.1 ck.2) (.val jv) with
    | error =>
      rw [hr] at hgo
      refine Sim.error fun _ x hxv => ?_
      simp [hv, Spec.Eval.Out.bind, refPrint, refPrintJs, hvj, hgo] at hxv
    | unspec => exact Sim.unspec
    | val rv =>
      rw [hr] at hgo
      simp only [withVal, appendTo_eq st.bufIs]
      cases hs' : toStr? rv with
      | none => exact Sim.unspec
      | some s =>
        exact SimR.val (by simp only [hv, Spec.Eval.Out.bind, refPrint, refPrintJs, hvj, hgo, hs']) (st.append s)

theorem letValue_sim (p : Nat) (x : Bytes) (e : Expr) : CmdSim F G R ae buf E (.letValue p x e) := by
  intro fuel sc r env jenv out h st
  obtain ⟨hxd, j, hj, rfl⟩ := toCmd_letValue_some h
  rw [execStmts_one]
  simp only [execStmt, refCmd]
  refine SimR.withVal (expr_sim st.rel hj) fun v jv _ hvj => SimR.val rfl ?_
  obtain ⟨hne, hbd⟩ := st.scOk
  cases hst : sc.stack with
  | nil => exact absurd hst hne
  | cons f fs =>
    -- the new local is none of the names in the scope, and not the output variable
    have hnew : ∀ g, Old sc.n g → g ≠ (sc.makevar x).1 := fun g ho => ho x [] (sc.n + 1) hxd IsUse.var (Nat.lt_succ_self _)
    refine ⟨⟨C04c.envRel_let sc env jenv f fs hst (bounded_shape hbd) x hxd v jv st.rel.1 hvj, ?_, st.rel.2.2⟩, ?_, rfl, rfl, ?_⟩
    · exact loopRel_setTop st.rel.2.1 x _ hxd _ (fun f0 hf0 kv hkv => localNum_congr (find_setLocal_ne jenv _ _ jv
        (hnew _ (hbd f0 hf0 kv hkv).2))) rfl
    · unfold BufIs
      rw [find_setLocal_ne jenv _ buf jv (hnew _ st.good.1), List.append_nil]
      exact st.bufIs
    · exact fun g _ hn => find_setLocal_ne jenv _ g jv (hnew g hn)

theorem ifc_sim (p : Nat) (conds : CondList) (ih : CondsSim F G R ae buf E conds) : CmdSim F G R ae buf E (.ifc p conds) := by
  intro fuel sc r env jenv out h st
  obtain ⟨rc, hrc, rfl⟩ := toCmd_ifc_some h
  rw [execStmts_one]
  simp only [execStmt, refCmd]
  obtain ⟨h1, _⟩ := toConds_scope ae conds buf sc rc hrc st.scOk
  exact (ih fuel sc rc env jenv out hrc st).map fun _ _ => st.closed h1

theorem block_mk_sim (p : Nat) (cmds : CmdList) (ih : CmdsSim F G R ae buf E cmds) : BlockSim F G R ae buf E (.mk p cmds) := by
  intro fuel sc r env jenv out h st
  obtain ⟨rc, hrc, rfl⟩ := toBlock_some h
  exact ih fuel sc.push rc env jenv out hrc ⟨scOk_push st.scOk.2, goodBuf_push st.good, envRel_push st.rel, st.bufIs⟩

theorem body_mk_sim (p : Nat) (cmds : CmdList) (ih : CmdsSim F G R ae buf E cmds) : BodySim F G R ae buf E (.mk p cmds) :=
  fun fuel sc r env jenv out h st => ih fuel sc r env jenv out h st

theorem cmds_nil_sim : CmdsSim F G R ae buf E .nil := by
  intro fuel sc r env jenv out h st
  simp only [toCmds, Option.some.injEq] at h; subst h
  exact SimR.val (x := []) rfl st.none

theorem cmds_cons_sim (c : Cmd) (rest : CmdList) (ih1 : CmdSim F G R ae buf E c) (ih2 : CmdsSim F G R ae buf E rest) :
    CmdsSim F G R ae buf E (.cons c rest) := by
  intro fuel sc r env jenv out h st
  obtain ⟨r1, r2, h1, h2, rfl⟩ := toCmds_cons_some h
  rw [execStmts_append]
  simp only [refCmds]
  refine SimR.bind (ih1 fuel sc r1 env jenv out h1 st) fun x e1 ⟨hrel1, hb1, hk1⟩ => ?_
  have g := toCmd_inv ae c buf sc r1 h1 st.scOk
  exact (ih2 fuel r1.2 r2 x.2 e1 (out ++ x.1) h2 ⟨g.scOk, g.good buf st.good, hrel1, hb1⟩).map
    fun t e2 ⟨hb2, hk2⟩ => ⟨by rw [← List.append_assoc]; exact hb2, hk1.trans hk2 g.le⟩

theorem conds_nil_sim : CondsSim F G R ae buf E .nil := by
  intro fuel sc r env jenv out h st
  simp only [toConds, Option.some.injEq] at h; subst h
  exact SimR.val (x := []) rfl st.none

theorem conds_some_sim (p : Nat) (c : Expr) (body : Block) (rest : CondList) (ih1 : BlockSim F G R ae buf E body)
    (ih2 : CondsSim F G R ae buf E rest) : CondsSim F G R ae buf E (.cons p (some c) body rest) := by
  intro fuel sc r env jenv out h st
  obtain ⟨j, rb, rr, hj, hbk, hr, rfl⟩ := toConds_cond_some h
  simp only [execConds, refConds]
  refine SimR.withVal (expr_sim st.rel hj) fun v jv _ hvj => ?_
  rw [C04c.truthy_toBoolean v jv hvj]
  by_cases hc : toBoolean jv = true
  · simp only [hc, if_true]
    exact ih1 fuel sc rb env jenv out hbk st
  · simp only [hc, Bool.false_eq_true, if_false]
    obtain ⟨a1, a2⟩ := toBlock_scope ae body buf sc rb hbk st.scOk
    exact (ih2 fuel rb.2 rr env jenv out hr (st.stack a1 a2)).post fun _ _ hd => hd.mono a2

theorem conds_else_sim (p : Nat) (body : Block) (rest : CondList) (ih1 : BlockSim F G R ae buf E body) :
    CondsSim F G R ae buf E (.cons p none body rest) := by
  intro fuel sc r env jenv out h st
  obtain ⟨_, rb, hbk, rfl⟩ := toConds_else_some h
  exact ih1 fuel sc rb env jenv out hbk st

theorem matchLabels_sim {sc : Scope} {env : SEnv} {jenv : JEnv} (hrel : EnvRel R.entry sc env jenv) {sv : Val} {jv : JVal}
    (hsv : toJsV sv = some jv) : ∀ (values : List Expr) (js : List JsExpr), astList sc values = some js →
    SimL E (Spec.Eval.matchAny env sv values) (matchLabels jenv jv js)
  | [], js, h => by
    simp only [astList, Option.some.injEq] at h; subst h
    exact rfl
  | v :: r, js, h => by
    obtain ⟨j, jr, hj, hr, rfl⟩ := astList_cons_some h
    unfold matchLabels
    simp only [Spec.Eval.matchAny]
    have hs := expr_sim (E := E) hrel (jenv := jenv) hj
    generalize eval jenv j = jo at hs ⊢
    cases hs with
    | unspec => trivial
    | error hs => exact fun h => out_bind_not_val (hs h)
    | @val w vw hvw hvwj =>
      rw [hvw]
      simp only [Spec.Eval.Out.bind]
      cases hse : strictEq jv w with
      | none => trivial
      | some c =>
        rw [strictEq_corr hsv hvwj hse]
        cases c with
        | true => exact rfl
        | false => exact matchLabels_sim hrel hsv r jr hr

theorem cases_nil_sim : CasesSim F G R ae buf E .nil := by
  intro fuel sc r env jenv out sv jv h st hsv
  simp only [toCases, Option.some.injEq] at h; subst h
  exact SimR.val (x := []) rfl st.none

theorem cases_cons_sim (p : Nat) (values : List Expr) (body : Block) (rest : CaseList) (ih1 : BlockSim F G R ae buf E body)
    (ih2 : CasesSim F G R ae buf E rest) : CasesSim F G R ae buf E (.cons p values body rest) := by
  intro fuel sc r env jenv out sv jv h st hsv
  unfold toCases at h
  obtain ⟨rbv, hrb, hc⟩ := caseJoin_some h
  rcases hc with ⟨rfl, _, rfl⟩ | ⟨hne, js, rr, hjs, hrr, rfl⟩
  · simp only [execCases, refCases, List.isEmpty_nil, if_true]
    exact ih1 fuel sc rbv env jenv out hrb st
  · have hem : values.isEmpty = false := by cases values <;> simp at hne ⊢
    simp only [execCases, refCases, hem, Bool.false_eq_true, if_false]
    have hm := matchLabels_sim (E := E) st.rel hsv values js hjs
    generalize matchLabels jenv jv js = m at hm ⊢
    match m, hm with
    | some (.inr true), hm =>
      rw [show Spec.Eval.matchAny env sv values = .val true from hm]
      exact ih1 fuel sc rbv env jenv out hrb st
    | some (.inr false), hm =>
      rw [show Spec.Eval.matchAny env sv values = .val false from hm]
      obtain ⟨a1, a2⟩ := toBlock_scope ae body buf sc rbv hrb st.scOk
      exact (ih2 fuel rbv.2 rr env jenv out sv jv hrr (st.stack a1 a2) hsv).post fun _ _ hd => hd.mono a2
    | some (.inl .error), hm => exact Sim.error fun h => out_bind_not_val (hm h)
    | some (.inl .unspec), _ => exact Sim.unspec
    | some (.inl (.val _)), _ => exact Sim.unspec
    | none, _ => exact Sim.unspec

theorem switch_sim (p : Nat) (value : Expr) (cases : CaseList) (ih : CasesSim F G R ae buf E cases) :
    CmdSim F G R ae buf E (.switch p value cases) := by
  intro fuel sc r env jenv out h st
  obtain ⟨j, rc, hj, hrc, rfl⟩ := toCmd_switch_some h
  rw [execStmts_one]
  simp only [execStmt, refCmd]
  obtain ⟨h1, _⟩ := toCases_scope ae cases buf sc rc hrc st.scOk
  refine SimR.withVal (expr_sim st.rel hj) fun sv jv _ hsvj => ?_
  exact (ih fuel sc rc env jenv out sv jv hrc st hsvj).map fun _ _ => st.closed h1

theorem css_none_sim (p : Nat) (suffix : Bytes) : CmdSim F G R ae buf E (.css p none suffix) := by
  intro fuel sc r env jenv out h st
  have := rawText_sim (F := F) (G := G) (ae := ae) (E := E) p suffix fuel sc r env jenv out (by simpa [toCmd] using h) st
  simpa [refCmd] using this

theorem css_some_sim (p : Nat) (e : Expr) (suffix : Bytes) : CmdSim F G R ae buf E (.css p (some e) suffix) := by
  intro fuel sc r env jenv out h st
  obtain ⟨j, hj, rfl⟩ := toCmd_css_some h
  simp only [execStmts, JsStmts.one, execStmt, refCmd]
  rw [sres_bind_withVal]
  refine SimR.withVal (expr_sim st.rel hj) fun v jv _ hvj => ?_
  cases hs : toStr? jv with
  | none => exact Sim.unspec
  | some s =>
    simp only [C04c.showVal_toStr v jv s hvj hs, Spec.Eval.Out.bind, appendTo_eq st.bufIs, toStr?, sres_ok_bind,
      appendTo_eq (bufIs_setBuf buf jenv _)]
    have k1 := keeps_setBuf buf sc.n jenv (.str (out ++ (s ++ [45])))
    obtain ⟨hrel2, hb2, hk2⟩ := (st.keep k1 (bufIs_setBuf _ _ _)).append suffix
    exact SimR.val rfl ⟨hrel2, by simpa [List.append_assoc] using hb2, k1.trans hk2 (Nat.le_refl _)⟩

theorem debugger_sim (p : Nat) : CmdSim F G R ae buf E (.debugger p) := by
  intro fuel sc r env jenv out h st
  simp only [toCmd, Option.some.injEq] at h; subst h
  rw [execStmts_one]
  simp only [execStmt]
  exact SimR.val (x := ([], env)) (by simp [refCmd]) (st.closed rfl st.none)

/-- the iterations of a `{foreach}` from index `i` on: the JavaScript loop against `loopSpec` over the rest of the list -/
theorem loop_sim {sc : Scope} (v : Bytes) (hv : v.contains 36 = false) (body : Block)
    (rb : JsStmts × Scope) (hrb : toBody ae buf body (sc.pushForEach v).2 = some rb) (ihb : BodySim F G R ae buf E body)
    (env : SEnv) (xs : List Val) (js : List JVal) (hxs : C04c.toJsList xs = some js) (fuel last : Nat)
    (hexl : SoyVerif.Spec.JsSem.exact (js.length : Int) = true) (hlast : xs ≠ [] → xs.length = last + 1) :
    ∀ (rest : List Val) (i : Nat), xs.drop i = rest → ∀ (k : Nat) (e : JEnv) (out : Bytes), Start R buf sc env e out →
      e.locals.find? (·.1 == Scope.jsname v b!"List" (sc.n + 1)) = some (Scope.jsname v b!"List" (sc.n + 1), .arr js) →
      e.locals.find? (·.1 == Scope.jsname v b!"Limit" (sc.n + 1)) = some (Scope.jsname v b!"Limit" (sc.n + 1), .num js.length) →
      e.locals.find? (·.1 == Scope.jsname v b!"Index" (sc.n + 1)) = some (Scope.jsname v b!"Index" (sc.n + 1), .num i) →
      SimR E (execLoop (execStmts F G fuel (.cons (.varIndex (Scope.jsname v [] (sc.n + 1)) (Scope.jsname v b!"List" (sc.n + 1))
          (Scope.jsname v b!"Index" (sc.n + 1))) rb.1)) (Scope.jsname v b!"Index" (sc.n + 1)) (Scope.jsname v b!"Limit" (sc.n + 1)) k e)
        (Spec.Eval.loopSpec (refBlock F R ae body) env v last rest i) (DoneT buf sc e out) := by
  have hlen := C04c.toJsList_length xs js hxs
  intro rest
  induction rest with
  | nil =>
    intro i hd k e out st h1 h2 h3
    have hle : xs.length ≤ i := List.drop_eq_nil_iff.mp hd
    cases k with
    | zero => exact Sim.unspec
    | succ k =>
      unfold execLoop
      rw [cond_lt h3 h2, withVal_val]
      have hd : decide ((i : Int) < (js.length : Int)) = false := by simp only [decide_eq_false_iff_not]; omega
      simp only [hd, toBoolean, Bool.false_eq_true, if_false]
      exact SimR.val (x := []) rfl st.none
  | cons item rest' ih =>
    intro i hd k e out st h1 h2 h3
    have hlt : i < xs.length := by
      apply Nat.lt_of_not_le
      intro hge
      rw [List.drop_eq_nil_of_le hge] at hd
      cases hd
    rw [List.drop_eq_getElem_cons hlt] at hd
    simp only [List.cons.injEq] at hd
    obtain ⟨hitem, hrest⟩ := hd
    cases k with
    | zero => exact Sim.unspec
    | succ k =>
      unfold execLoop
      rw [cond_lt h3 h2, withVal_val]
      have hd : decide ((i : Int) < (js.length : Int)) = true := by simp only [decide_eq_true_eq]; omega
      -- the body: `var v = list[index];` then the translated commands
      simp only [hd, toBoolean, if_true, execStmts, execStmt, indexVar_eval h1 h3, withVal_val, sres_ok_bind, Spec.Eval.loopSpec]
      have hjitem : toJsV item = some (js.getD i .undefined) := by
        have := C04c.toJsList_getD xs js i hxs
        rw [List.getD_eq_getElem?_getD, List.getElem?_eq_getElem hlt, Option.getD_some, hitem] at this
        exact this
      have hne0 : xs ≠ [] := by intro e0; rw [e0] at hlt; cases hlt
      have hrel_a := envRel_foreach_iter st.scOk v hv env e st.rel item _ hjitem i last js.length
        (exact_le (by omega) (by omega) hexl) (by have := hlast hne0; omega) h2 h3
      obtain ⟨hs1, _, hn1⟩ := scOk_pushForEach st.scOk v hv
      obtain ⟨st_a, k_a⟩ := st.setNew (Keeps.refl _ _ _) hv IsUse.var (js.getD i .undefined)
      refine SimR.bind (ihb fuel _ rb _ _ out hrb ⟨hs1, goodBuf_pushForEach st.good v hv, hrel_a, st_a.bufIs⟩) fun ti eb ⟨hb_b, hk_b⟩ => ?_
      rw [hn1] at hk_b
      -- `index++`
      rw [eval_local (hk_b.new st.good hv IsUse.index (find_setNew_ne hv IsUse.index IsUse.var (by decide) _ h3)), withVal_val]
      simp only [incr]
      have hcast : ((i : Int) + 1) = ((i + 1 : Nat) : Int) := by omega
      rw [hcast]
      refine Sim.numRes fun _ => ?_
      have k_b := k_a.trans (hk_b.mono (Nat.le_succ _)) (Nat.le_refl _)
      obtain ⟨st_c, k_c⟩ := (st.keep k_b hb_b).setNew k_b hv IsUse.index (.num ((i + 1 : Nat) : Int))
      exact (ih (i + 1) hrest k _ (out ++ ti) st_c
        (find_setNew_ne hv IsUse.list IsUse.index (by decide) _
          (hk_b.new st.good hv IsUse.list (find_setNew_ne hv IsUse.list IsUse.var (by decide) _ h1)))
        (find_setNew_ne hv IsUse.limit IsUse.index (by decide) _
          (hk_b.new st.good hv IsUse.limit (find_setNew_ne hv IsUse.limit IsUse.var (by decide) _ h2)))
        (find_setLocal_eq _ _ _)).map fun tr e' ⟨hb', hk'⟩ =>
        ⟨by rw [← List.append_assoc]; exact hb', k_c.trans hk' (Nat.le_refl _)⟩

/-- `var xList = list; var xLimit = xList.length;` — what follows runs with the array and its length in the two locals; where
    one of the two throws, or the value is no array, the specification has no list -/
theorem foreach_head_sim {sc : Scope} {env : SEnv} {jenv : JEnv} (hrel : EnvRel R.entry sc env jenv) {list : Expr} {j : JsExpr}
    (hj : toAst sc list = some j) (fuel : Nat) (xl xn : Bytes) {β : Type} {rest : JEnv → SRes} {f : Val → Out β} {Q : β → JEnv → Prop}
    (hf : ∀ w, (∀ xs, w ≠ .list xs) → ∀ x, f w ≠ .val x)
    (h : ∀ xs js, Spec.Eval.eval env list = .val (.list xs) → C04c.toJsList xs = some js →
      SoyVerif.Spec.JsSem.exact (js.length : Int) = true →
      SimR E (rest (setLocal (setLocal jenv xl (.arr js)) xn (.num js.length))) (f (.list xs)) Q) :
    SimR E ((execStmt F G fuel (.var xl j) jenv).bind fun e1 => (execStmt F G fuel (.varLength xn xl) e1).bind rest)
      ((Spec.Eval.eval env list).bind f) Q := by
  simp only [execStmt]
  rw [sres_bind_withVal]
  refine SimR.withVal (expr_sim hrel hj) fun w jl hw hlj => ?_
  have hlen : eval (setLocal jenv xl jl) (.call1 .length (.local xl)) = apply1 .length jl := by
    simp [eval, JOut.bind, setLocal]
  rw [sres_ok_bind, hlen, sres_bind_withVal]
  cases jl with
  | arr js =>
    obtain ⟨xs, rfl, hxs⟩ := C04c.toJsV_arr hlj
    simp only [apply1]
    exact Sim.numRes fun hex => h xs js hw hxs hex
  | undefined =>
    have := C04c.toJsV_undefined hlj; subst this
    exact Sim.error fun _ => hf _ (fun _ e => nomatch e)
  | null =>
    have := C04c.toJsV_null hlj; subst this
    exact Sim.error fun _ => hf _ (fun _ e => nomatch e)
  | bool _ => exact Sim.unspec
  | num _ => exact Sim.unspec
  | str _ => exact Sim.unspec
  | obj _ => exact Sim.unspec

theorem foreach_loop_sim {sc : Scope} {env : SEnv} {jenv : JEnv} {out : Bytes} (st : Start R buf sc env jenv out) {v : Bytes}
    (hv : v.contains 36 = false) {body : Block} {rb : JsStmts × Scope} (hrb : toBody ae buf body (sc.pushForEach v).2 = some rb)
    (ihb : BodySim F G R ae buf E body) {xs : List Val} {js : List JVal} (hxs : C04c.toJsList xs = some js)
    (hexl : SoyVerif.Spec.JsSem.exact (js.length : Int) = true) (fuel : Nat) :
    SimR E (execStmt F G fuel (.forUp (sc.pushForEach v).1.2.2.2 (sc.pushForEach v).1.2.2.1
          (.cons (.varIndex (sc.pushForEach v).1.1 (sc.pushForEach v).1.2.1 (sc.pushForEach v).1.2.2.2) rb.1))
        (setLocal (setLocal jenv (sc.pushForEach v).1.2.1 (.arr js)) (sc.pushForEach v).1.2.2.1 (.num js.length)))
      (Spec.Eval.loopSpec (refBlock F R ae body) env v (xs.length - 1) xs 0) (DoneT buf sc jenv out) := by
  obtain ⟨st1, k1⟩ := st.setNew (Keeps.refl _ _ _) hv IsUse.list (.arr js)
  obtain ⟨st2, k2⟩ := st1.setNew k1 hv IsUse.limit (.num js.length)
  obtain ⟨st3, k3⟩ := st2.setNew k2 hv IsUse.index (.num 0)
  simp only [execStmt]
  exact (loop_sim v hv body rb hrb ihb env xs js hxs fuel (xs.length - 1) hexl
    (fun hne => by have := List.length_pos_iff.mpr hne; omega) xs 0 List.drop_zero fuel _ out st3
    (find_setNew_ne hv IsUse.list IsUse.index (by decide) _ (find_setNew_ne hv IsUse.list IsUse.limit (by decide) _ (find_setLocal_eq _ _ _)))
    (find_setNew_ne hv IsUse.limit IsUse.index (by decide) _ (find_setLocal_eq _ _ _)) (find_setLocal_eq _ _ _)).post
    fun _ _ ⟨hb', hk'⟩ => ⟨hb', k3.trans hk' (Nat.le_refl _)⟩

/-- the iterations from value `a` (iteration number `idx`) on: the JavaScript loop against `loopSpec` over the rest of the
    range; a completed loop leaves the number of iterations in the index local -/
theorem range_loop_sim {sc : Scope} (v : Bytes) (hv : v.contains 36 = false) (body : Block)
    (rb : JsStmts × Scope) (hrb : toBody ae buf body (sc.pushForRange v).2 = some rb) (ihb : BodySim F G R ae buf E body)
    (env : SEnv) (l s : Int) (hspos : 0 < s) (fuel last : Nat) :
    ∀ (k : Nat) (a : Int) (idx : Nat) (e : JEnv) (out : Bytes),
      SoyVerif.Spec.JsSem.exact a = true → SoyVerif.Spec.JsSem.exact (idx : Int) = true →
      (a < l → idx + (rangeItems a l s).length = last + 1) → Start R buf sc env e out →
      e.locals.find? (·.1 == Scope.jsname v b!"Limit" (sc.n + 1)) = some (Scope.jsname v b!"Limit" (sc.n + 1), .num l) →
      e.locals.find? (·.1 == Scope.jsname v b!"Step" (sc.n + 1)) = some (Scope.jsname v b!"Step" (sc.n + 1), .num s) →
      e.locals.find? (·.1 == Scope.jsname v b!"Index" (sc.n + 1)) = some (Scope.jsname v b!"Index" (sc.n + 1), .num idx) →
      e.locals.find? (·.1 == Scope.jsname v [] (sc.n + 1)) = some (Scope.jsname v [] (sc.n + 1), .num a) →
      SimR E (execLoopStep (execStmts F G fuel rb.1) (Scope.jsname v [] (sc.n + 1)) (Scope.jsname v b!"Limit" (sc.n + 1))
          (Scope.jsname v b!"Step" (sc.n + 1)) (Scope.jsname v b!"Index" (sc.n + 1)) k e)
        (Spec.Eval.loopSpec (refBlock F R ae body) env v last (rangeItems a l s) idx)
        fun text e' => BufIs buf e' (out ++ text) ∧ Keeps buf sc.n e e' ∧
          e'.locals.find? (·.1 == Scope.jsname v b!"Index" (sc.n + 1)) =
            some (Scope.jsname v b!"Index" (sc.n + 1), .num ((idx + (rangeItems a l s).length : Nat) : Int)) := by
  intro k
  induction k with
  | zero => intro a idx e out _ _ _ _ _ _ _ _; exact Sim.unspec
  | succ k ih =>
    intro a idx e out hexa hexi hlen st h2 hst hix h3
    obtain ⟨hs1, _, hn1⟩ := scOk_pushForRange st.scOk v hv
    unfold execLoopStep
    rw [cond_lt h3 h2, withVal_val]
    by_cases hlt : a < l
    · have hd : decide (a < l) = true := by simpa using hlt
      have hitems := rangeItems_step a l s hspos hlt
      have hlen' := hlen hlt
      rw [hitems, List.length_cons] at hlen'
      -- `isLast` in this iteration: the next value is beyond the limit
      have hdec : decide (l ≤ a + s) = (idx == last) := by
        by_cases hnx : a + s < l
        · have h1 := rangeItems_step (a + s) l s hspos hnx
          rw [h1, List.length_cons] at hlen'
          have e1 : decide (l ≤ a + s) = false := by simp; omega
          have e2 : (idx == last) = false := by simp; omega
          rw [e1, e2]
        · have h1 := rangeItems_done (a + s) l s hspos hnx
          rw [h1, List.length_nil] at hlen'
          have e1 : decide (l ≤ a + s) = true := by simp; omega
          have e2 : (idx == last) = true := by simp; omega
          rw [e1, e2]
      have hrel_a := envRel_forrange sc env e v hv a s l idx last st.rel hexa hexi h3 hst h2 hix hdec
      rw [hitems]
      simp only [hd, toBoolean, if_true, Spec.Eval.loopSpec]
      refine SimR.bind (ihb fuel _ rb _ _ out hrb ⟨hs1, goodBuf_pushForRange st.good v hv, hrel_a, st.bufIs⟩) fun ti eb ⟨hb_b, hk_b⟩ => ?_
      rw [hn1] at hk_b
      -- `v += step`, `index++`
      have hadd : eval eb (.bin .add (.local (Scope.jsname v [] (sc.n + 1))) (.local (Scope.jsname v b!"Step" (sc.n + 1)))) =
          numRes (a + s) := by
        simp [eval, JOut.bind, binop, hk_b.new st.good hv IsUse.var h3, hk_b.new st.good hv IsUse.step hst]
      rw [hadd]
      refine Sim.numRes fun hexa' => ?_
      rw [eval_local (find_setNew_ne hv IsUse.index IsUse.var (by decide) _ (hk_b.new st.good hv IsUse.index hix)), withVal_val]
      simp only [incr]
      have hcast : ((idx : Int) + 1) = ((idx + 1 : Nat) : Int) := by omega
      rw [hcast]
      refine Sim.numRes fun hexi' => ?_
      have k_b := hk_b.mono (Nat.le_succ sc.n)
      obtain ⟨st_c, k_c⟩ := (st.keep k_b hb_b).setNew k_b hv IsUse.var (.num (a + s))
      obtain ⟨st_d, k_d⟩ := st_c.setNew k_c hv IsUse.index (.num ((idx + 1 : Nat) : Int))
      refine (ih (a + s) (idx + 1) _ (out ++ ti) hexa' hexi' (fun _ => by omega) st_d
        (find_setNew_ne hv IsUse.limit IsUse.index (by decide) _
          (find_setNew_ne hv IsUse.limit IsUse.var (by decide) _ (hk_b.new st.good hv IsUse.limit h2)))
        (find_setNew_ne hv IsUse.step IsUse.index (by decide) _
          (find_setNew_ne hv IsUse.step IsUse.var (by decide) _ (hk_b.new st.good hv IsUse.step hst)))
        (find_setLocal_eq _ _ _) (find_setNew_ne hv IsUse.var IsUse.index (by decide) _ (find_setLocal_eq _ _ _))).map
        fun tr e' ⟨hb', hk', hfi⟩ => ?_
      refine ⟨by rw [← List.append_assoc]; exact hb', k_d.trans hk' (Nat.le_refl _), ?_⟩
      rw [hfi, List.length_cons]
      have : idx + 1 + (rangeItems (a + s) l s).length = idx + ((rangeItems (a + s) l s).length + 1) := by omega
      rw [this]
    · have hd : decide (a < l) = false := by simpa using hlt
      simp only [hd, toBoolean, Bool.false_eq_true, if_false]
      rw [rangeItems_done a l s hspos hlt]
      exact SimR.val (x := []) rfl ⟨by simpa using st.bufIs, Keeps.refl _ _ _, by simpa using hix⟩

/-- a loop over `range(…)`: a completed run — the list Spec/Eval loops over, the text of the loop, and the index local, the
    number of iterations; a run that throws — the reference's loop has no text -/
theorem range_core_sim (v : Bytes) (list : Expr) (body : Block) (ihb : BodySim F G R ae buf E body) (fuel : Nat) (sc : Scope)
    (r : JsStmts × Scope) (env : SEnv) (jenv : JEnv) (out : Bytes)
    (h : rangeJoin v list sc (toBody ae buf body (sc.pushForRange v).2) true = some r) (st : Start R buf sc env jenv out) :
    Sim E (fun jenv' => ∃ xs text, Spec.Eval.eval env list = .val (.list xs) ∧
        Spec.Eval.loopSpec (refBlock F R ae body) env v (xs.length - 1) xs 0 = .val text ∧
        EnvRel R.entry r.2 env jenv' ∧ BufIs buf jenv' (out ++ text) ∧ Keeps buf sc.n jenv jenv' ∧
        jenv'.locals.find? (·.1 == (sc.pushForRange v).1.2.2.2) = some ((sc.pushForRange v).1.2.2.2, .num (xs.length : Int)))
      (∀ xs, Spec.Eval.eval env list = .val (.list xs) →
        xs ≠ [] ∧ ∀ t, Spec.Eval.loopSpec (refBlock F R ae body) env v (xs.length - 1) xs 0 ≠ .val t)
      (execStmts F G fuel r.1 jenv) := by
  obtain ⟨args, l, c, jl, ji, rbv, pc, ⟨hv, hr, hl, hinc, hpos, hjl, hji, hrb, rfl⟩⟩ := rangeJoin_some h
  obtain ⟨pf, rfl⟩ := isRangeCall_some hr
  have harg := range_args_val env pf args l hl
  simp only [pushForRange_names, rangeStmts, JsStmts.one, execStmts, execStmt, sres_bind_withVal, sres_ok_bind, sres_bind_ok_id]
  -- `var vLimit = limit;`
  refine Sim.withVal (expr_sim st.rel hjl) (fun vlim jlim hvlim hlimj => ?_) fun hs1 xs hev =>
    absurd (harg _ hev).1 (by simpa using hs1)
  rw [eval_num]
  -- `var vStep = c;`
  refine Sim.numRes fun _ => ?_
  obtain ⟨st1, k1⟩ := st.setNew (Keeps.refl _ _ _) hv IsUse.limit jlim
  obtain ⟨st2, k2⟩ := st1.setNew k1 hv IsUse.step (.num c)
  -- `for (var v = init, vIndex = 0; …`
  refine Sim.withVal (expr_sim st2.rel hji) (fun vinit jinit hvinit hinitj => ?_) fun hs3 xs hev =>
    absurd (harg _ hev).2 (by simpa using hs3)
  obtain ⟨st3, k3⟩ := st2.setNew k2 hv IsUse.var jinit
  obtain ⟨st4, k4⟩ := st3.setNew k3 hv IsUse.index (.num 0)
  have fN := find_setNew_ne (m := sc.n + 1) hv IsUse.limit IsUse.index (by decide) (.num 0) (find_setNew_ne hv IsUse.limit IsUse.var
    (by decide) jinit (find_setNew_ne hv IsUse.limit IsUse.step (by decide) (.num c) (find_setLocal_eq jenv _ jlim)))
  rcases execLoopStep_nums (execStmts F G fuel rbv.1) _ _ fuel
    (find_setNew_ne hv IsUse.var IsUse.index (by decide) _ (find_setLocal_eq _ _ _)) fN with ⟨a, lim, rfl, rfl⟩ | hu
  case inr => rw [hu]; exact Sim.unspec
  obtain ⟨rfl, hexa⟩ := C04c.toJsV_num hinitj
  obtain ⟨rfl, _⟩ := C04c.toJsV_num hlimj
  have hev : Spec.Eval.eval env (.func pf b!"range" args) = .val (.list (rangeItems a lim c)) := by
    rw [range_eval env pf args l a lim c hl hvinit hvlim (by rw [hinc]; simp [Spec.Eval.eval]), rangeSpec_val a lim c hpos]
  have hl := range_loop_sim v hv body rbv hrb ihb env lim c hpos fuel ((rangeItems a lim c).length - 1) fuel a 0 _
    out hexa (by decide) (fun hlt => by rw [rangeItems_step a lim c hpos hlt]; simp) st4 fN
    (find_setNew_ne hv IsUse.step IsUse.index (by decide) _ (find_setNew_ne hv IsUse.step IsUse.var (by decide) _
      (find_setLocal_eq _ _ _))) (find_setLocal_eq _ _ _)
    (find_setNew_ne hv IsUse.var IsUse.index (by decide) _ (find_setLocal_eq _ _ _))
  refine hl.imp (fun _ ⟨text, ht, hb', hk', hfi⟩ => ?_) fun hl xs hxs => ?_
  · have hk := k4.trans hk' (Nat.le_refl _)
    exact ⟨_, text, hev, ht, envRel_keep st.rel hk st.scOk.2 (Nat.le_refl _) st.good.2 (rangeBody_scope ae st.scOk hv hrb).1,
      hb', hk, by simpa using hfi⟩
  · rw [hev] at hxs
    simp only [Out.val.injEq, Val.list.injEq] at hxs
    subst hxs
    exact ⟨fun e0 => hl [] (by rw [e0]; rfl), hl⟩

theorem refForc_ne {env : SEnv} {v : Bytes} {list : Expr} {body : Block} (p : Nat) (ie : Option Block)
    (h : ∀ xs, Spec.Eval.eval env list = .val (.list xs) →
      xs ≠ [] ∧ ∀ t, Spec.Eval.loopSpec (refBlock F R ae body) env v (xs.length - 1) xs 0 ≠ .val t) :
    ∀ x, refCmd F R ae (.forc p v list body ie) env ≠ .val x := by
  intro x hx
  -- (the `Option` is split first: `refCmd` recurses through it)
  cases ie <;> simp only [refCmd] at hx <;> obtain ⟨lv, hlv, hx⟩ := out_bind_val hx <;> cases lv <;> try cases hx
  all_goals
    rename_i xs
    obtain ⟨hne, hl⟩ := h xs hlv
    have hem : xs.isEmpty = false := by cases xs <;> simp at hne ⊢
    simp only [hem, Bool.false_eq_true, if_false] at hx
    obtain ⟨t, ht, _⟩ := out_bind_val hx
    exact hl t ht

theorem loopSpec_ite (b : SEnv → Out Bytes) (env : SEnv) (v : Bytes) (xs : List Val) :
    (if xs.isEmpty = true then (Out.val ([], env) : Spec.Eval.ROut)
      else (Spec.Eval.loopSpec b env v (xs.length - 1) xs 0).bind fun out => .val (out, env)) =
    (Spec.Eval.loopSpec b env v (xs.length - 1) xs 0).bind fun out => .val (out, env) := by
  cases xs <;> rfl

theorem forc_none_sim (p : Nat) (v : Bytes) (list : Expr) (body : Block) (ihb : BodySim F G R ae buf E body) :
    CmdSim F G R ae buf E (.forc p v list body none) := by
  intro fuel sc r env jenv out h st
  unfold toCmd at h
  rcases loopJoin_some h with h | h
  · obtain ⟨hv, _, j, rbv, hj, hrb, he⟩ := forcJoin_some h
    simp only at he
    subst he
    simp only [foreachStmts, JsStmts.one, execStmts, sres_bind_ok_id]
    rw [refCmd]
    refine foreach_head_sim st.rel hj fuel _ _ (fun w hw x hx => by cases w <;> first | exact absurd rfl (hw _) | cases hx)
      fun xs js hev hxs hexl => ?_
    dsimp only
    rw [loopSpec_ite]
    have hst := (eachBody_scope ae st.scOk hv hrb).1
    exact (foreach_loop_sim st hv hrb ihb hxs hexl fuel).map fun _ _ => st.closed hst
  · exact (range_core_sim v list body ihb fuel sc r env jenv out h st).imp (fun _ ⟨xs, text, hev, ht, hrel', hb', hk, _⟩ =>
      ⟨(text, env), by simp only [refCmd, hev, Spec.Eval.Out.val_bind]; rw [loopSpec_ite, ht]; rfl, hrel', hb', hk⟩) (refForc_ne p none)

theorem forc_some_sim (p : Nat) (v : Bytes) (list : Expr) (body ie : Block) (ihb : BodySim F G R ae buf E body)
    (ihe : BlockSim F G R ae buf E ie) : CmdSim F G R ae buf E (.forc p v list body (some ie)) := by
  intro fuel sc r env jenv out h st
  unfold toCmd at h
  rcases loopJoin_ie_some h with h | ⟨r0, re, hr0, hre, rfl⟩
  · obtain ⟨hv, _, j, rbv, hj, hrb, he⟩ := forcJoin_some h
    simp only at he
    obtain ⟨re, hre, rfl⟩ := he
    obtain ⟨hst, hn⟩ := eachBody_scope ae st.scOk hv hrb
    obtain ⟨c1, c2⟩ := toBlock_scope ae ie buf _ re hre (scOk_of_stack st.scOk hst hn)
    simp only [foreachStmts, JsStmts.one, execStmts, sres_bind_ok_id]
    rw [refCmd]
    refine foreach_head_sim st.rel hj fuel _ _ (fun w hw x hx => by cases w <;> first | exact absurd rfl (hw _) | cases hx)
      fun xs js hev hxs hexl => ?_
    have hlen := C04c.toJsList_length xs js hxs
    obtain ⟨st1, k1⟩ := st.setNew (Keeps.refl _ _ _) hv IsUse.list (.arr js)
    obtain ⟨st2, k2⟩ := st1.setNew k1 hv IsUse.limit (.num js.length)
    -- `if (xLimit > 0)`
    simp only [execStmt]
    rw [show eval _ (.bin .gt (.local (sc.pushForEach v).1.2.2.1) (.num 0)) = _ from cond_gt0 (find_setLocal_eq _ _ _), withVal_val]
    by_cases hpos : (0 : Int) < (js.length : Int)
    · have hd : decide ((0 : Int) < (js.length : Int)) = true := by simpa using hpos
      have hem : xs.isEmpty = false := by cases xs with
        | nil => simp only [List.length_nil] at hlen; omega
        | cons _ _ => rfl
      simp only [hd, toBoolean, if_true, execStmts, sres_bind_ok_id, hem, Bool.false_eq_true, if_false]
      exact (foreach_loop_sim st hv hrb ihb hxs hexl fuel).map fun _ _ => st.closed (c1.trans hst)
    · have hd : decide ((0 : Int) < (js.length : Int)) = false := by simpa using hpos
      have he : xs = [] := by cases xs with
        | nil => rfl
        | cons _ _ => simp only [List.length_cons] at hlen; omega
      subst he
      simp only [hd, toBoolean, Bool.false_eq_true, if_false, List.isEmpty_nil, if_true]
      exact (ihe fuel _ re env _ out hre (st2.stack hst hn)).map fun _ _ ⟨hb', hk'⟩ =>
        st.closed (c1.trans hst) ⟨hb', k2.trans (hk'.mono hn) (Nat.le_refl _)⟩
  · -- a range loop, then `if (index == 0) {…}` outside its frame
    rw [execStmts_append]
    refine Sim.bind (range_core_sim v list body ihb fuel sc r0 env jenv out hr0 st) ?_ (refForc_ne p (some ie))
    intro e1 ⟨xs, text, hev, ht, hrel1, hb1, hk1, hfi⟩
    obtain ⟨args, l, c, jl, ji, rbv, pc, q⟩ := rangeJoin_some hr0
    obtain ⟨hst, hn⟩ : r0.2.stack = sc.stack ∧ sc.n ≤ r0.2.n := q.result ▸ rangeBody_scope ae st.scOk q.var q.body
    obtain ⟨c1, c2⟩ := toBlock_scope ae ie buf _ re hre (scOk_of_stack st.scOk hst hn)
    rw [execStmts_one]
    simp only [execStmt]
    rw [show eval e1 (.loopFirst (sc.pushForRange v).1.2.2.2) = .val (.bool ((xs.length : Int) == 0)) by simp [eval, localNum, hfi],
      withVal_val]
    cases xs with
    | nil =>
      simp only [Spec.Eval.loopSpec, Out.val.injEq] at ht
      subst ht
      simp only [List.length_nil, Int.natCast_zero, beq_self_eq_true, toBoolean, if_true, refCmd, hev, Spec.Eval.Out.bind,
        List.isEmpty_nil]
      exact (ihe fuel _ re env e1 (out ++ []) hre ⟨scOk_of_stack st.scOk hst hn, goodBuf_of_stack st.good hst hn, hrel1, hb1⟩).map
        fun _ _ ⟨hb', hk'⟩ => st.closed (c1.trans hst) ⟨by simpa using hb', hk1.trans (hk'.mono hn) (Nat.le_refl _)⟩
    | cons x xs' =>
      have hne : ((((x :: xs').length : Nat) : Int) == 0) = false := by simp; omega
      simp only [hne, toBoolean, Bool.false_eq_true, if_false]
      exact SimR.val (x := (text, env)) (by simp only [refCmd, hev, Spec.Eval.Out.val_bind, List.isEmpty_cons, Bool.false_eq_true, if_false, ht])
        ⟨envRel_stack hrel1 c1, hb1, hk1⟩

theorem ph_tag_sim (p : Nat) (t : Bytes) : PhSim F G R ae buf E (.htmlTag p t) := by
  intro fuel sc r env jenv out h st
  have := rawText_sim (F := F) (G := G) (ae := ae) (E := E) p t fuel sc r env jenv out (by simpa [toPh, toCmd] using h) st
  simpa [refPh, refCmd] using this

theorem ph_cmd_sim (c : Cmd) (ih : CmdSim F G R ae buf E c) : PhSim F G R ae buf E (.cmd c) := by
  intro fuel sc r env jenv out h st
  unfold toPh at h
  simpa [refPh] using ih fuel sc r env jenv out h st

theorem parts_nil_sim : PartsSim F G R ae buf E .nil := by
  intro fuel sc r env jenv out h st
  simp only [toParts, Option.some.injEq] at h; subst h
  exact SimR.val (x := ([], env)) rfl (st.closed rfl st.none)

theorem parts_ph_sim (p : Nat) (name : Bytes) (body : MsgPhBody) (rest : MsgParts) (ih1 : PhSim F G R ae buf E body)
    (ih2 : PartsSim F G R ae buf E rest) : PartsSim F G R ae buf E (.ph p name body rest) := by
  intro fuel sc r env jenv out h st
  unfold toParts at h
  obtain ⟨a, b, ha, hb2, rfl⟩ := phJoin_some h
  rw [execStmts_append]
  simp only [refParts]
  refine SimR.bind (ih1 fuel sc a env jenv out ha st) fun x e1 ⟨hrel1, hb1, hk1⟩ => ?_
  have g := toPh_inv ae body buf sc a ha st.scOk
  exact (ih2 fuel a.2 b x.2 e1 (out ++ x.1) hb2 ⟨g.scOk, g.good buf st.good, hrel1, hb1⟩).map
    fun y e2 ⟨hrel2, hb3, hk2⟩ => ⟨hrel2, by rw [← List.append_assoc]; exact hb3, hk1.trans hk2 g.le⟩

theorem parts_text_sim (p : Nat) (t : Bytes) (rest : MsgParts) (ih2 : PartsSim F G R ae buf E rest) :
    PartsSim F G R ae buf E (.text p t rest) := by
  intro fuel sc r env jenv out h st
  have h' : toParts ae buf (.ph p [] (.htmlTag p t) rest) sc = some r := by
    unfold toParts at h ⊢
    simpa [toPh] using h
  have := parts_ph_sim p [] (.htmlTag p t) rest (ph_tag_sim p t) ih2 fuel sc r env jenv out h' st
  simp only [refParts, refPh, Spec.Eval.Out.bind] at this ⊢
  exact this

theorem pcases_nil_sim : PCasesSim F G R ae buf E .nil := by
  intro fuel sc r env jenv out i h st
  simp only [toPCases, Option.some.injEq] at h; subst h
  exact .none rfl

theorem pcases_cons_sim (p : Nat) (v : Int) (bp : Nat) (body : MsgParts) (rest : PluralCases) (ih1 : PartsSim F G R ae buf E body)
    (ih2 : PCasesSim F G R ae buf E rest) :
    PCasesSim F G R ae buf E (.cons p v bp body rest) := by
  intro fuel sc r env jenv out i h st
  unfold toPCases at h
  obtain ⟨rb, rr, hrb, hst, hrr, rfl⟩ := pcaseJoin_some h
  obtain ⟨a1, _, a3, _⟩ := toParts_inv ae body buf sc rb hrb st.scOk
  obtain ⟨_, b2, _⟩ := toPCases_scope ae rest buf rb.2 rr hrr a1
  simp only [execPlural, refPlural]
  by_cases hex : SoyVerif.Spec.JsSem.exact v = true
  · simp only [hex, if_true]
    by_cases hiv : (i == v) = true
    · simp only [hiv, if_true]
      exact .some _ rfl ((ih1 fuel sc rb env jenv out hrb st).post fun _ _ ⟨hrel', hd⟩ => ⟨envRel_stack hrel' b2, hd⟩)
    · simp only [hiv, Bool.false_eq_true, if_false]
      have := ih2 fuel rb.2 rr env jenv out i hrr (st.stack hst a3)
      generalize execPlural F G fuel rr.1 i jenv = res at this ⊢
      cases this with
      | none h => exact .none h
      | unspec => exact .unspec
      | some ro h hs => exact .some ro h (hs.post fun _ _ ⟨hrel', hb', hk⟩ => ⟨hrel', hb', hk.mono a3⟩)
  · simp only [hex, Bool.false_eq_true, if_false]
    exact .unspec

theorem parts_plural_sim (p : Nat) (vn : Bytes) (value : Expr) (cases : PluralCases) (dp : Nat) (dflt rest : MsgParts)
    (ihc : PCasesSim F G R ae buf E cases) (ihd : PartsSim F G R ae buf E dflt)
    (ihr : PartsSim F G R ae buf E rest) : PartsSim F G R ae buf E (.plural p vn value cases dp dflt rest) := by
  intro fuel sc r env jenv out h st
  unfold toParts at h
  obtain ⟨j, rc, rd, rr, hj, hrc, hrd, hstd, hrr, rfl⟩ := pluralJoin_some h
  obtain ⟨c1, c2, c3⟩ := toPCases_scope ae cases buf sc rc hrc st.scOk
  obtain ⟨d1, _, d3, _⟩ := toParts_inv ae dflt buf rc.2 rd hrd c1
  simp only [execStmts, execStmt, refParts]
  rw [sres_bind_withVal]
  refine SimR.withVal (expr_sim st.rel hj) fun vv jv _ hvj => ?_
  cases jv with
  | num i =>
    have := (C04c.toJsV_num hvj).1
    subst this
    dsimp only
    -- the clause that runs, then the rest of the message
    refine SimR.bind (Q := Done R buf sc jenv out rd.2) ?_ fun x e1 ⟨hrel1, hb1, hk1⟩ => ?_
    · have hc := ihc fuel sc rc env jenv out i hrc st
      generalize execPlural F G fuel rc.1 i jenv = res at hc ⊢
      cases hc with
      | unspec => exact Sim.unspec
      | some ro h hs =>
        rw [h]
        exact hs.post fun _ _ ⟨hrel', hd⟩ => ⟨envRel_stack hrel' (hstd.trans c2.symm), hd⟩
      | none h =>
        rw [h]
        exact (ihd fuel rc.2 rd env jenv out hrd (st.stack c2 c3)).post fun _ _ ⟨hrel', hb', hk⟩ => ⟨hrel', hb', hk.mono c3⟩
    · exact (ihr fuel rd.2 rr x.2 e1 (out ++ x.1) hrr
        ⟨d1, goodBuf_of_stack st.good hstd (Nat.le_trans c3 d3), hrel1, hb1⟩).map fun y e2 ⟨hrel2, hb2, hk2⟩ =>
        ⟨hrel2, by rw [← List.append_assoc]; exact hb2, hk1.trans hk2 (Nat.le_trans c3 d3)⟩
  | undefined => exact Sim.unspec
  | null => exact Sim.unspec
  | bool _ => exact Sim.unspec
  | str _ => exact Sim.unspec
  | arr _ => exact Sim.unspec
  | obj _ => exact Sim.unspec

theorem msg_sim (p id : Nat) (m d : Bytes) (bp : Nat) (body : MsgParts) (ih : PartsSim F G R ae buf E body) :
    CmdSim F G R ae buf E (.msg p id m d bp body) := by
  intro fuel sc r env jenv out h st
  unfold toCmd at h
  obtain ⟨rb, hrb, rfl⟩ := msgJoin_some h
  obtain ⟨_, b2, _, _⟩ := toParts_inv ae body buf sc.push rb hrb (scOk_push st.scOk.2)
  have hst : rb.2.pop.stack = sc.stack := by simp only [Scope.pop]; rw [b2]; rfl
  simp only [refCmd]
  exact (ih fuel sc.push rb env jenv out hrb ⟨scOk_push st.scOk.2, goodBuf_push st.good, envRel_push st.rel, st.bufIs⟩).map
    fun _ _ hd => st.closed hst hd.2

/-- a block rendered into a buffer of its own (`{let $x}…{/let}`, `{param k}…{/param}`): after `var x$n = '';` and the body's
    statements the text is in the new buffer, nothing older changed, and the relation holds in the scope after it -/
theorem content_sim (name : Bytes) (hname : name.contains 36 = false) (body : Block) (ih : ∀ buf', BlockSim F G R ae buf' E body)
    {fuel : Nat} {sc : Scope} {rb : JsStmts × Scope} {env : SEnv} {jenv : JEnv}
    (hrb : toBlock ae (sc.genname name).1 body (sc.genname name).2 = some rb) (hs : ScOk sc) (hrel : EnvRel R.entry sc env jenv) :
    SimR E (execStmts F G fuel (.cons (.varEmpty (sc.genname name).1) rb.1) jenv) (refBlock F R ae body env) fun text e1 =>
      BufIs (sc.genname name).1 e1 text ∧ KeepsAll sc.n jenv e1 ∧ EnvRel R.entry rb.2 env e1 ∧ ScOk rb.2 ∧ sc.n + 1 ≤ rb.2.n ∧
        rb.2.stack = sc.stack := by
  obtain ⟨hs', hg', hrel1⟩ := content_start name hname hs hrel
  obtain ⟨a1, a2⟩ := toBlock_scope ae body _ _ rb hrb hs'
  have a2' : sc.n + 1 ≤ rb.2.n := a2
  simp only [execStmts, execStmt, sres_ok_bind]
  refine (ih (sc.genname name).1 fuel _ rb env _ [] hrb ⟨hs', hg', hrel1, find_setLocal_eq _ _ _⟩).post fun text e1 ⟨hb', hk'⟩ => ?_
  simp only [List.nil_append] at hb'
  have hk' : Keeps (sc.genname name).1 (sc.n + 1) _ e1 := hk'
  have k1 : Keeps (sc.genname name).1 sc.n jenv (setLocal jenv (sc.genname name).1 (.str [])) :=
    keeps_setNew _ sc.n jenv hname IsUse.var (Nat.lt_succ_self _) _
  have hka : KeepsAll sc.n jenv e1 := by
    refine ⟨hk'.1.trans k1.1, hk'.2.1.trans k1.2.1, ?_⟩
    intro g hgo
    have hgn : g ≠ (sc.genname name).1 := fun e => hgo name [] (sc.n + 1) hname IsUse.var (Nat.lt_succ_self _) e
    rw [hk'.2.2 g hgn (hgo.mono (Nat.le_succ _)), find_setLocal_ne jenv _ g _ hgn]
  exact ⟨hb', hka, envRel_keepAll hrel hka hs.2 (Nat.le_refl _) a1, scOk_of_stack hs' a1 a2, a2', a1⟩

theorem letContent_sim (p : Nat) (name : Bytes) (body : Block) (ih : ∀ buf', BlockSim F G R ae buf' E body) :
    CmdSim F G R ae buf E (.letContent p name body) := by
  intro fuel sc r env jenv out h st
  unfold toCmd at h
  obtain ⟨hname, rbv, hrb, rfl⟩ := letJoin_some h
  simp only [refCmd]
  refine (content_sim name hname body ih hrb st.scOk st.rel).map fun text jenv' ⟨hb', hka, _, _, _, a1⟩ => ?_
  have hkeep := hka.keeps buf
  have hbuf' : BufIs buf jenv' out := by
    unfold BufIs
    rw [hka.2.2 buf st.good.1]
    exact st.bufIs
  refine ⟨?_, by simpa using hbuf', hkeep⟩
  -- the relation in the scope that binds `name` to the buffer
  have hloop : C04c.LoopRel (rbv.2.bind name (sc.genname name).1) (env.bind name (.str text)) jenv' :=
    loopRel_setTop (loopRel_keep st.rel.2.1 hkeep st.scOk.2 (Nat.le_refl _) st.good.2 a1) name _ hname _ (fun _ _ _ _ => rfl) rfl
  refine ⟨?_, hloop, by rw [hkeep.1]; exact st.rel.2.2.1, by rw [hkeep.2.1]; exact st.rel.2.2.2.1, st.rel.2.2.2.2⟩
  cases hstk : rbv.2.stack with
  | nil => rw [a1] at hstk; exact absurd hstk st.scOk.1
  | cons f fs =>
    have hlook : ∀ k, k.contains 36 = false → (rbv.2.bind name (sc.genname name).1).lookup k =
        if name == k then some (sc.genname name).1 else sc.lookup k := by
      intro k _
      have hsc : sc.lookup k = Scope.lookupIn (f :: fs) k := by
        simp only [Scope.lookup]; rw [← hstk, a1]
      rw [hsc]
      simp only [Scope.bind, Scope.lookup, hstk, Scope.setTop, Scope.lookupIn, C04c.frameGet_frameSet]
      by_cases hnk : (name == k) = true
      · simp [hnk]
      · simp [hnk]
    exact st.rel.1.bind hlook (C04c.lookup_bind env name (.str text)) ⟨_, hb', by simp [C04c.toJsV]⟩ hkeep.1
      fun k g _ _ hl => by
        obtain ⟨f0, hf0, hm⟩ := lookupIn_mem sc.stack k g hl
        exact hkeep.2.2 g (st.good.2 f0 hf0 _ hm) (st.scOk.2 f0 hf0 _ hm).2

/-- one more `key: value` in front of the list: the reference appends it -/
theorem SimP.snoc {ref : Out Spec.Eval.Binds} {acc : List (Bytes × JVal)} {res : JOut ⊕ List (Bytes × JVal)} {key : Bytes}
    {v : Val} {jv : JVal} (hvj : toJsV v = some jv) (h : SimP E ref ((key, jv) :: acc) res) :
    SimP E (ref.bind fun r => .val (r ++ [(key, v)])) acc res := by
  cases h with
  | other h => exact .other h
  | error h => exact .error fun h' => out_bind_not_val (h h')
  | val bs jbs hr hjb he =>
    exact .val (bs ++ [(key, v)]) (jbs ++ [(key, jv)]) (by rw [hr]; rfl)
      (toJsKvs_append _ _ _ _ hjb (by simp [C04c.toJsKvs, hvj])) (by simp [he])

theorem params_nil_sim : ParamsSim F G R ae E .nil := by
  intro fuel sc r env jenv h hs hrel
  simp only [toParams, Option.some.injEq] at h; subst h
  exact Sim.ok ⟨KeepsAll.refl _ _, fun _ acc _ => .val [] [] rfl rfl rfl⟩

theorem params_value_sim (p : Nat) (key : Bytes) (e : Expr) (rest : ParamList)
    (iht : ParamsSim F G R ae E rest) :
    ParamsSim F G R ae E (.value p key e rest) := by
  intro fuel sc r env jenv h hs hrel
  unfold toParams at h
  obtain ⟨j, rr, hj, hrr, rfl⟩ := valueParamJoin_some h
  obtain ⟨_, b2⟩ := toParams_scope ae rest sc rr hrr hs
  -- the reference evaluates `e` first; it has no params where `e` or the rest has none
  have hne : (∀ bs, refParams F R ae rest env ≠ .val bs) → ∀ bs, refParams F R ae (.value p key e rest) env ≠ .val bs := by
    intro h0 bs hbs
    simp only [refParams] at hbs
    obtain ⟨v, _, hbs⟩ := out_bind_val hbs
    obtain ⟨r', hr', _⟩ := out_bind_val hbs
    exact h0 r' hr'
  refine (iht fuel sc rr env jenv hrr hs hrel).imp (fun jenvF h0 => ⟨h0.1, fun jenv2 acc hk2 => ?_⟩) hne
  · have hrel2 : EnvRel R.entry sc env jenv2 := envRel_keepAll hrel (h0.1.trans hk2 b2) hs.2 (Nat.le_refl _) rfl
    simp only [evalParams]
    have hs' := expr_sim (E := E) hrel2 (jenv := jenv2) hj
    generalize eval jenv2 j = jo at hs' ⊢
    cases hs' with
    | unspec => exact .other (by simp)
    | error h1 =>
      refine .error fun h' bs hbs => ?_
      simp only [refParams] at hbs
      obtain ⟨v, hv, _⟩ := out_bind_val hbs
      exact h1 h' v hv
    | @val jv v hv hvj =>
      simp only [refParams, hv, Spec.Eval.Out.val_bind]
      exact (h0.2 jenv2 ((key, jv) :: acc) hk2).snoc hvj

theorem params_content_sim (p : Nat) (key : Bytes) (body : Block) (rest : ParamList)
    (ih : ∀ buf', BlockSim F G R ae buf' E body) (iht : ParamsSim F G R ae E rest) :
    ParamsSim F G R ae E (.content p key body rest) := by
  intro fuel sc r env jenv h hs hrel
  unfold toParams at h
  obtain ⟨rb, rr, hrb, hrr, rfl⟩ := contentParamJoin_some h
  rw [execStmts_append]
  simp only [refParams]
  refine Sim.bind (content_sim b!"param" (by decide) body ih hrb hs hrel) ?_ out_bind_not_val
  intro e1 ⟨text, ht, hb', hka, hrelt, hs1, a2', _⟩
  obtain ⟨_, b2⟩ := toParams_scope ae rest rb.2 rr hrr hs1
  rw [ht, Spec.Eval.Out.val_bind]
  refine (iht fuel rb.2 rr env e1 hrr hs1 hrelt).imp (fun jenvF h0 =>
    ⟨hka.trans h0.1 (Nat.le_trans (Nat.le_succ _) a2'), fun jenv2 acc hk2 => ?_⟩) out_bind_not_val
  simp only [evalParams]
  rw [content_param_find a2' b2 hb' h0.1 hk2]
  exact (h0.2 jenv2 ((key, .str text) :: acc) hk2).snoc (by simp [C04c.toJsV])

theorem base_sim {sc : Scope} {env : SEnv} {jenv : JEnv} (hrel : EnvRel R.entry sc env jenv) {allData : Bool}
    {data : Option Expr} {base : DataBase} (hbase : callBase sc allData data = some base) :
    SimB E (refBase R allData data env) (evalBase jenv base) := by
  cases allData <;> cases data <;> simp only [callBase, Option.some.injEq, Option.map_eq_some_iff, reduceCtorEq] at hbase
  · subst hbase
    exact ⟨[], by simp [refBase], by simp [C04c.toJsKvs]⟩
  · obtain ⟨j, hj, rfl⟩ := hbase
    simp only [evalBase, refBase, Bool.false_eq_true, if_false]
    have hs := expr_sim (E := E) hrel (jenv := jenv) hj
    generalize eval jenv j = jo at hs ⊢
    cases hs with
    | unspec => trivial
    | error hs => exact fun h => out_bind_not_val (hs h)
    | @val jv v hv hvj =>
      cases jv with
      | obj bkvs =>
        obtain ⟨kvs, rfl, hk⟩ := C04c.toJsV_obj hvj
        exact ⟨kvs, by simp [hv, Spec.Eval.Out.bind], hk⟩
      | _ => trivial
  · subst hbase
    exact ⟨R.entry, by simp [refBase], hrel.2.2.1⟩

theorem refCall_val {p : Nat} {name : Bytes} {allData : Bool} {data : Option Expr} {params : ParamList} {env : SEnv}
    {x : Bytes × SEnv} (h : refCmd F R ae (.call p name allData data params) env = .val x) :
    ∃ callee bd bs outc, Registry.lookup R.reg name = some callee ∧ refBase R allData data env = .val bd ∧
      refParams F R ae params env = .val bs ∧ R.call callee ⟨bs ++ bd, env.ij, env.globals⟩ = .val outc ∧ x = (outc, env) := by
  simp only [refCmd] at h
  cases hlk : Registry.lookup R.reg name with
  | none => simp [hlk] at h
  | some callee =>
    simp only [hlk] at h
    obtain ⟨bd, hbd, h⟩ := out_bind_val h
    obtain ⟨bs, hbs, h⟩ := out_bind_val h
    obtain ⟨outc, hc, h⟩ := out_bind_val h
    exact ⟨callee, bd, bs, outc, rfl, hbd, hbs, hc, (Out.val.inj h).symm⟩

include hE in
/-- `{call}`: the statements of the content params, then the call.  `A` guards the one use of the callee's soundness, for
    the completed run: with `A := False` this is the statement about throws alone, which needs no `CallRel` -/
theorem call_sim (A : Prop) (hG : A → CallRel G R) (p : Nat) (name : Bytes) (allData : Bool) (data : Option Expr)
    (params : ParamList) (ihp : ParamsSim F G R ae E params) (fuel : Nat) (sc : Scope)
    (r : JsStmts × Scope) (env : SEnv) (jenv : JEnv) (out : Bytes) (h : toCmd ae buf (.call p name allData data params) sc = some r)
    (st : Start R buf sc env jenv out) :
    Sim E (fun e => A → ∃ x, refCmd F R ae (.call p name allData data params) env = .val x ∧ Done R buf sc jenv out r.2 x e)
      (∀ x, refCmd F R ae (.call p name allData data params) env ≠ .val x) (execStmts F G fuel r.1 jenv) := by
  unfold toCmd at h
  obtain ⟨base, rp, hbase, hrp, rfl⟩ := callJoin_some h
  obtain ⟨a1, a2⟩ := toParams_scope ae params sc rp hrp st.scOk
  rw [execStmts_append]
  refine Sim.bind (ihp fuel sc rp env jenv hrp st.scOk st.rel) ?_ fun h0 x hx => ?_
  case refine_2 =>
    obtain ⟨_, _, bs, _, _, _, hbs, _⟩ := refCall_val hx
    exact h0 bs hbs
  intro jenvF ⟨kp, hpp⟩
  have hrelF : EnvRel R.entry sc env jenvF := envRel_keepAll st.rel kp st.scOk.2 (Nat.le_refl _) rfl
  have hbF : BufIs buf jenvF out := by unfold BufIs; rw [kp.2.2 buf st.good.1]; exact st.bufIs
  rw [execStmts_one]
  simp only [execStmt]
  have hb := base_sim (E := E) hrelF hbase
  generalize evalBase jenvF base = bo at hb ⊢
  match bo, hb with
  | .unspec, _ => exact Sim.unspec
  | .error, hb =>
    refine Sim.error fun h' x hx => ?_
    obtain ⟨_, bd, _, _, _, hbd, _⟩ := refCall_val hx
    exact hb h' bd hbd
  | .val .undefined, _ | .val .null, _ | .val (.bool _), _ | .val (.num _), _ | .val (.str _), _ | .val (.arr _), _ =>
    exact Sim.unspec
  | .val (.obj bkvs), ⟨bd, hbd, hbj⟩ =>
    rw [withVal_val]
    have hp := hpp jenvF [] (KeepsAll.refl _ _)
    generalize evalParams jenvF rp.2.1 [] = pe at hp ⊢
    cases hp with
    | error h1 =>
      refine Sim.error fun h' x hx => ?_
      obtain ⟨_, _, bs, _, _, _, hbs, _⟩ := refCall_val hx
      exact h1 h' bs hbs
    | @other o h1 => cases o <;> first | exact Sim.unspec | exact absurd rfl h1
    | val bs jbs hr hjb he =>
      simp only [List.append_nil] at he
      rw [he]
      dsimp only
      have hkvs := toJsKvs_append _ _ _ _ hjb hbj
      cases hg : G name (.obj (jbs ++ bkvs)) jenvF.ijData with
      | unspec => exact Sim.unspec
      | error =>
        refine Sim.error fun h' x hx => ?_
        obtain ⟨callee, bd', bs', outc, hlk, hbd', hbs', hc, _⟩ := refCall_val hx
        rw [hbd] at hbd'; rw [hr] at hbs'
        cases hbd'; cases hbs'
        exact hE h' name ⟨bs ++ bd, env.ij, env.globals⟩ _ jenvF.ijData hkvs hrelF.2.2.2.1 hrelF.2.2.2.2 hg callee outc hlk hc
      | val rv =>
        rw [withVal_val, appendTo_eq hbF]
        cases hs : toStr? rv with
        | none => exact Sim.unspec
        | some s =>
          refine Sim.ok fun hA => ?_
          obtain ⟨callee, outc, hlk, hc, rfl⟩ := hG hA name ⟨bs ++ bd, env.ij, env.globals⟩ _ jenvF.ijData rv hkvs hrelF.2.2.2.1
            hrelF.2.2.2.2 hg
          simp only [toStr?, Option.some.injEq] at hs; subst hs
          have hkeep : Keeps buf sc.n jenv (setLocal jenvF buf (.str (out ++ outc))) :=
            (kp.keeps buf).trans (keeps_setBuf buf sc.n jenvF _) (Nat.le_refl _)
          exact ⟨(outc, env), by simp only [refCmd, hlk, hbd, hr, hc, Spec.Eval.Out.bind],
            st.closed a1 ⟨bufIs_setBuf _ _ _, hkeep⟩⟩

include hE in
theorem call_cmd_sim (hG : CallRel G R) (p : Nat) (name : Bytes) (allData : Bool) (data : Option Expr) (params : ParamList)
    (ihp : ParamsSim F G R ae E params) :
    CmdSim F G R ae buf E (.call p name allData data params) :=
  fun fuel sc r env jenv out h st =>
    (call_sim hE (A := True) (hG := fun _ => hG) p name allData data params ihp fuel sc r env jenv out h st).imp
      (fun _ h0 => h0 trivial) id

variable (F G R ae E)
variable (hG : CallRel G R)
include hE hG

mutual
  /-- the simulation for every node of the fragment.  The `x_sim` lemmas above take the simulations of the parts of a node as
      hypotheses; this block only ties the recursion over the syntax -/
  theorem cmd_sim : ∀ (c : Cmd) (buf : Bytes), CmdSim F G R ae buf E c
    | .rawText p t, _ => rawText_sim p t
    | .print p arg dirs, _ => print_sim p arg dirs
    | .letValue p x e, _ => letValue_sim p x e
    | .ifc p conds, buf => ifc_sim p conds (conds_sim conds buf)
    | .msg p id m d bp body, buf => msg_sim p id m d bp body (parts_sim body buf)
    | .css p none suffix, _ => css_none_sim p suffix
    | .css p (some e) suffix, _ => css_some_sim p e suffix
    | .debugger p, _ => debugger_sim p
    | .forc p v list body none, buf => forc_none_sim p v list body (body_sim body buf)
    | .forc p v list body (some ie), buf => forc_some_sim p v list body ie (body_sim body buf) (block_sim ie buf)
    | .switch p value cases, buf => switch_sim p value cases (cases_sim cases buf)
    | .call p name allData data params, _ => call_cmd_sim hE hG p name allData data params (params_sim params)
    | .letContent p name body, _ => letContent_sim p name body (fun b' => block_sim body b')
    | .log .., _ | .headerParam .., _ | .namespace .., _ | .template .., _ | .soyDoc .., _ =>
      fun _ _ _ _ _ _ h => by simp [toCmd] at h
  theorem parts_sim : ∀ (ps : MsgParts) (buf : Bytes), PartsSim F G R ae buf E ps
    | .nil, _ => parts_nil_sim
    | .text p t rest, buf => parts_text_sim p t rest (parts_sim rest buf)
    | .ph p name body rest, buf => parts_ph_sim p name body rest (ph_sim body buf) (parts_sim rest buf)
    | .plural p vn value cases dp dflt rest, buf =>
      parts_plural_sim p vn value cases dp dflt rest (pcases_sim cases buf) (parts_sim dflt buf) (parts_sim rest buf)
  theorem pcases_sim : ∀ (cs : PluralCases) (buf : Bytes), PCasesSim F G R ae buf E cs
    | .nil, _ => pcases_nil_sim
    | .cons p v bp body rest, buf => pcases_cons_sim p v bp body rest (parts_sim body buf) (pcases_sim rest buf)
  theorem ph_sim : ∀ (b : MsgPhBody) (buf : Bytes), PhSim F G R ae buf E b
    | .htmlTag p t, _ => ph_tag_sim p t
    | .cmd c, buf => ph_cmd_sim c (cmd_sim c buf)
  theorem params_sim : ∀ (ps : ParamList), ParamsSim F G R ae E ps
    | .nil => params_nil_sim
    | .value p key e rest => params_value_sim p key e rest (params_sim rest)
    | .content p key body rest => params_content_sim p key body rest (fun b' => block_sim body b') (params_sim rest)
  theorem body_sim : ∀ (b : Block) (buf : Bytes), BodySim F G R ae buf E b
    | .mk p cmds, buf => body_mk_sim p cmds (cmds_sim cmds buf)
  theorem block_sim : ∀ (b : Block) (buf : Bytes), BlockSim F G R ae buf E b
    | .mk p cmds, buf => block_mk_sim p cmds (cmds_sim cmds buf)
  theorem cmds_sim : ∀ (cs : CmdList) (buf : Bytes), CmdsSim F G R ae buf E cs
    | .nil, _ => cmds_nil_sim
    | .cons c rest, buf => cmds_cons_sim c rest (cmd_sim c buf) (cmds_sim rest buf)
  theorem cases_sim : ∀ (cs : CaseList) (buf : Bytes), CasesSim F G R ae buf E cs
    | .nil, _ => cases_nil_sim
    | .cons p values body rest, buf => cases_cons_sim p values body rest (block_sim body buf) (cases_sim rest buf)
  theorem conds_sim : ∀ (cs : CondList) (buf : Bytes), CondsSim F G R ae buf E cs
    | .nil, _ => conds_nil_sim
    | .cons p (some c) body rest, buf => conds_some_sim p c body rest (block_sim body buf) (conds_sim rest buf)
    | .cons p none body rest, buf => conds_else_sim p body rest (block_sim body buf)
end

end Simulation

/-- `gen_correct_cmds_partial` for ONE node: `CmdSim` read for the runs that complete, written out (`CmdsOk`, `CondsOk`, `CasesOk`,
    `BodyOk`, `PartsOk` below: the same for other syntactic classes).  From a start situation (`Start`), a run of the statements
    that completes means: the reference renders the node to a `text` (and, for a command, an environment related again in the
    scope after it), the output variable then holds `out ++ text`, and nothing but it and locals generated later changed -/
def CmdOk (c : Cmd) : Prop :=
  ∀ (fuel : Nat) (sc : Scope) (r : JsStmts × Scope) (env : SEnv) (jenv jenv' : JEnv) (out : Bytes),
    toCmd ae buf c sc = some r → ScOk sc → GoodBuf sc buf → EnvRel R.entry sc env jenv → BufIs buf jenv out →
    execStmts F G fuel r.1 jenv = .ok jenv' →
    ∃ text env', refCmd F R ae c env = .val (text, env') ∧ EnvRel R.entry r.2 env' jenv' ∧ BufIs buf jenv' (out ++ text) ∧
      Keeps buf sc.n jenv jenv'

def CmdsOk (cs : CmdList) : Prop :=
  ∀ (fuel : Nat) (sc : Scope) (r : JsStmts × Scope) (env : SEnv) (jenv jenv' : JEnv) (out : Bytes),
    toCmds ae buf cs sc = some r → ScOk sc → GoodBuf sc buf → EnvRel R.entry sc env jenv → BufIs buf jenv out →
    execStmts F G fuel r.1 jenv = .ok jenv' →
    ∃ text, refCmds F R ae cs env = .val text ∧ BufIs buf jenv' (out ++ text) ∧ Keeps buf sc.n jenv jenv'

def CondsOk (cs : CondList) : Prop :=
  ∀ (fuel : Nat) (sc : Scope) (r : JsConds × Scope) (env : SEnv) (jenv jenv' : JEnv) (out : Bytes),
    toConds ae buf cs sc = some r → ScOk sc → GoodBuf sc buf → EnvRel R.entry sc env jenv → BufIs buf jenv out →
    execConds F G fuel r.1 jenv = .ok jenv' →
    ∃ text, refConds F R ae cs env = .val text ∧ BufIs buf jenv' (out ++ text) ∧ Keeps buf sc.n jenv jenv'

def CasesOk (cs : CaseList) : Prop :=
  ∀ (fuel : Nat) (sc : Scope) (r : JsCases × Scope) (env : SEnv) (jenv jenv' : JEnv) (out : Bytes) (sv : Val) (jv : JVal),
    toCases ae buf cs sc = some r → ScOk sc → GoodBuf sc buf → EnvRel R.entry sc env jenv → BufIs buf jenv out → toJsV sv = some jv →
    execCases F G fuel r.1 jv jenv = .ok jenv' →
    ∃ text, refCases F R ae cs sv env = .val text ∧ BufIs buf jenv' (out ++ text) ∧ Keeps buf sc.n jenv jenv'

def BodyOk (b : Block) : Prop :=
  ∀ (fuel : Nat) (sc : Scope) (r : JsStmts × Scope) (env : SEnv) (jenv jenv' : JEnv) (out : Bytes),
    toBody ae buf b sc = some r → ScOk sc → GoodBuf sc buf → EnvRel R.entry sc env jenv → BufIs buf jenv out →
    execStmts F G fuel r.1 jenv = .ok jenv' →
    ∃ text, refBlock F R ae b env = .val text ∧ BufIs buf jenv' (out ++ text) ∧ Keeps buf sc.n jenv jenv'

def PartsOk (ps : MsgParts) : Prop :=
  ∀ (fuel : Nat) (sc : Scope) (r : JsStmts × Scope) (env : SEnv) (jenv jenv' : JEnv) (out : Bytes),
    toParts ae buf ps sc = some r → ScOk sc → GoodBuf sc buf → EnvRel R.entry sc env jenv → BufIs buf jenv out →
    execStmts F G fuel r.1 jenv = .ok jenv' →
    ∃ text env', refParts F R ae ps env = .val (text, env') ∧ EnvRel R.entry r.2 env' jenv' ∧ BufIs buf jenv' (out ++ text) ∧
      Keeps buf sc.n jenv jenv'

/-- `ParamsSim` read for the runs that complete -/
def ParamsOk (ps : ParamList) : Prop :=
  ∀ (fuel : Nat) (sc : Scope) (r : JsStmts × List (Bytes × JsExpr) × Scope) (env : SEnv) (jenv jenvF : JEnv),
    toParams ae ps sc = some r → ScOk sc → EnvRel R.entry sc env jenv → execStmts F G fuel r.1 jenv = .ok jenvF →
    KeepsAll sc.n jenv jenvF ∧
    ∀ (jenv2 : JEnv) (acc extra : List (Bytes × JVal)), KeepsAll r.2.2.n jenvF jenv2 →
      evalParams jenv2 r.2.1 acc = .inr extra →
      ∃ bs jbs, refParams F R ae ps env = .val bs ∧ C04c.toJsKvs bs = some jbs ∧ extra = jbs ++ acc

theorem BodySim.of_ok {b : Block} (h : BodyOk F G R ae buf b) : BodySim F G R ae buf False b :=
  fun fuel sc r env jenv out ht st =>
    Sim.of_runs (fun e hx => h fuel sc r env jenv e out ht st.scOk st.good st.rel st.bufIs hx) False.elim

theorem PartsSim.of_ok {ps : MsgParts} (h : PartsOk F G R ae buf ps) : PartsSim F G R ae buf False ps :=
  fun fuel sc r env jenv out ht st => Sim.of_runs (fun e hx => by
    obtain ⟨t, env', hr, hd⟩ := h fuel sc r env jenv e out ht st.scOk st.good st.rel st.bufIs hx
    exact ⟨(t, env'), hr, hd⟩) False.elim

theorem ParamsSim.of_runs (E : Prop) {ps : ParamList} (h : ParamsOk F G R ae ps)
    (hn : E → ∀ (fuel : Nat) (sc : Scope) (r : JsStmts × List (Bytes × JsExpr) × Scope) (env : SEnv) (jenv : JEnv),
      toParams ae ps sc = some r → ScOk sc → EnvRel R.entry sc env jenv →
      (execStmts F G fuel r.1 jenv = .error → ∀ bs, refParams F R ae ps env ≠ .val bs) ∧
      (∀ (jenvF jenv2 : JEnv) (acc : List (Bytes × JVal)), execStmts F G fuel r.1 jenv = .ok jenvF →
        KeepsAll r.2.2.n jenvF jenv2 → evalParams jenv2 r.2.1 acc = .inl .error → ∀ bs, refParams F R ae ps env ≠ .val bs)) :
    ParamsSim F G R ae E ps := by
  intro fuel sc r env jenv ht hs hrel
  refine Sim.of_runs (fun jenvF hx => ?_) fun h' hx => (hn h' fuel sc r env jenv ht hs hrel).1 hx
  obtain ⟨hk, hp⟩ := h fuel sc r env jenv jenvF ht hs hrel hx
  refine ⟨hk, fun jenv2 acc hk2 => ?_⟩
  cases hev : evalParams jenv2 r.2.1 acc with
  | inr extra =>
    obtain ⟨bs, jbs, hr, hj, he⟩ := hp jenv2 acc extra hk2 hev
    exact .val bs jbs hr hj he
  | inl o =>
    cases o with
    | error => exact .error fun h' => (hn h' fuel sc r env jenv ht hs hrel).2 jenvF jenv2 acc hx hk2 hev
    | val _ => exact .other (by simp)
    | unspec => exact .other (by simp)

/-- `range_loop_sim` read for the runs that complete -/
theorem range_loop_ok {sc : Scope} (hs : ScOk sc) (hg : GoodBuf sc buf) (v : Bytes) (hv : v.contains 36 = false) (body : Block)
    (rb : JsStmts × Scope) (hrb : toBody ae buf body (sc.pushForRange v).2 = some rb) (ihb : BodyOk F G R ae buf body)
    (env : SEnv) (l s : Int) (hspos : 0 < s) (fuel last : Nat)
    (lv xn xs xi : Bytes) (hlv : lv = Scope.jsname v [] (sc.n + 1)) (hxn : xn = Scope.jsname v b!"Limit" (sc.n + 1))
    (hxs : xs = Scope.jsname v b!"Step" (sc.n + 1)) (hxi : xi = Scope.jsname v b!"Index" (sc.n + 1)) :
    ∀ (k : Nat) (a : Int) (idx : Nat) (e e' : JEnv) (out : Bytes),
      SoyVerif.Spec.JsSem.exact a = true → SoyVerif.Spec.JsSem.exact (idx : Int) = true →
      (a < l → idx + (rangeItems a l s).length = last + 1) → EnvRel R.entry sc env e → BufIs buf e out →
      e.locals.find? (·.1 == xn) = some (xn, .num l) →
      e.locals.find? (·.1 == xs) = some (xs, .num s) →
      e.locals.find? (·.1 == xi) = some (xi, .num idx) →
      e.locals.find? (·.1 == lv) = some (lv, .num a) →
      execLoopStep (execStmts F G fuel rb.1) lv xn xs xi k e = .ok e' →
      ∃ text, Spec.Eval.loopSpec (refBlock F R ae body) env v last (rangeItems a l s) idx = .val text ∧
        BufIs buf e' (out ++ text) ∧ Keeps buf sc.n e e' ∧
        e'.locals.find? (·.1 == xi) = some (xi, .num ((idx + (rangeItems a l s).length : Nat) : Int)) := by
  subst hlv hxn hxs hxi
  intro k a idx e e' out hexa hexi hlen hrel hb h2 hst hix h3 hx
  exact (range_loop_sim v hv body rb hrb (BodySim.of_ok F G R ae buf ihb) env l s hspos fuel last k a idx e out hexa hexi hlen
    ⟨hs, hg, hrel, hb⟩ h2 hst hix h3).run_ok hx

theorem msg_ok (p id : Nat) (m d : Bytes) (bp : Nat) (body : MsgParts) (ih : PartsOk F G R ae buf body) :
    CmdOk F G R ae buf (.msg p id m d bp body) := by
  intro fuel sc r env jenv jenv' out ht hs hg hrel hb hx
  obtain ⟨x, hr, hd⟩ :=
    (msg_sim p id m d bp body (PartsSim.of_ok F G R ae buf ih) fuel sc r env jenv out ht ⟨hs, hg, hrel, hb⟩).run_ok hx
  exact ⟨x.1, x.2, hr, hd⟩

theorem call_ok (hG : CallRel G R) (p : Nat) (name : Bytes) (allData : Bool) (data : Option Expr) (params : ParamList)
    (ihp : ParamsOk F G R ae params) : CmdOk F G R ae buf (.call p name allData data params) := by
  intro fuel sc r env jenv jenv' out ht hs hg hrel hb hx
  obtain ⟨x, hr, hd⟩ := (call_sim (E := False) (hE := False.elim) (A := True) (hG := fun _ => hG) p name allData data params
    (ParamsSim.of_runs F G R ae False ihp False.elim) fuel sc r env jenv out ht ⟨hs, hg, hrel, hb⟩).run_ok hx trivial
  exact ⟨x.1, x.2, hr, hd⟩

variable (hG : CallRel G R)
include hG

theorem parts_ok : ∀ (ps : MsgParts) (buf : Bytes), PartsOk F G R ae buf ps := by
  intro ps buf fuel sc r env jenv jenv' out ht hs hg hrel hb hx
  obtain ⟨x, hr, hd⟩ := (parts_sim F G R ae False False.elim hG ps buf fuel sc r env jenv out ht ⟨hs, hg, hrel, hb⟩).run_ok hx
  exact ⟨x.1, x.2, hr, hd⟩

theorem params_ok : ∀ (ps : ParamList), ParamsOk F G R ae ps := by
  intro ps fuel sc r env jenv jenvF ht hs hrel hx
  obtain ⟨hk, hp⟩ := (params_sim F G R ae False False.elim hG ps fuel sc r env jenv ht hs hrel).run_ok hx
  refine ⟨hk, fun jenv2 acc extra hk2 hev => ?_⟩
  have := hp jenv2 acc hk2
  rw [hev] at this
  cases this with
  | val bs jbs hr hj he => exact ⟨bs, jbs, hr, hj, he⟩

theorem cmds_ok : ∀ (cs : CmdList) (buf : Bytes), CmdsOk F G R ae buf cs :=
  fun cs buf fuel sc r env jenv _ out ht hs hg hrel hb hx =>
    (cmds_sim F G R ae False False.elim hG cs buf fuel sc r env jenv out ht ⟨hs, hg, hrel, hb⟩).run_ok hx

theorem cases_ok : ∀ (cs : CaseList) (buf : Bytes), CasesOk F G R ae buf cs :=
  fun cs buf fuel sc r env jenv _ out sv jv ht hs hg hrel hb hsv hx =>
    (cases_sim F G R ae False False.elim hG cs buf fuel sc r env jenv out sv jv ht ⟨hs, hg, hrel, hb⟩ hsv).run_ok hx

theorem conds_ok : ∀ (cs : CondList) (buf : Bytes), CondsOk F G R ae buf cs :=
  fun cs buf fuel sc r env jenv _ out ht hs hg hrel hb hx =>
    (conds_sim F G R ae False False.elim hG cs buf fuel sc r env jenv out ht ⟨hs, hg, hrel, hb⟩).run_ok hx

end

section
variable (F : Bytes → List Expr → JVal → JOut) (G : Callee) (R : RefCtx) (ae : Autoescape) (buf : Bytes)

/-- PARTIAL (C04, command level).  For a list of commands of the fragment — raw text, `{print}` with
    directives, `{let $x: e /}`, `{if}/{elseif}/{else}`, `{foreach}` / `{ifempty}`, `{for … in range(…)}`, `{switch}`,
    `{let $x}…{/let}`, `{call}` with value / content params and `data="all"` / `data="$e"` (callee oracle `G`,
    reference context `R`, hypothesis `CallRel G R`), `{css}`, `{debugger}`, `{msg}` without a message bundle
    (`ho`), over the expressions of Props/C04c — met in the generator scope `sc` with output variable `buf`:
    (a) the generator model writes exactly the statements `r.1` of the translation;
    (b) whenever these statements run to completion (Spec/JsStmt; every interpretation `F` of the
        directive functions) from a JavaScript environment related to the Soy environment `env`, in
        which `buf` holds `out`, the reference semantics `refCmds` (Props/C04dInv; Spec/Eval.renderCmds itself only
        without directives and under `EscapeHtmlIs`: `gen_correct_cmds_spec`) renders the commands in `env` to a text,
        and `buf` then holds `out` followed by exactly this text. -/
theorem gen_correct_cmds_partial (hG : CallRel G R) (sk : List Bytes → List Bytes) (o : Options) [GlobalsAre o]
    (ho : o.messages = none)
    (cmds : CmdList) (sc : Scope) (r : JsStmts × Scope) (h : toCmds ae buf cmds sc = some r) :
    (∀ ind, Runs (At ind buf ae sc) (At ind buf ae r.2) (walkCmds sk o cmds) (renderStmts (isEs6 o) ind r.1)) ∧
    (∀ (fuel : Nat) (env : SEnv) (jenv jenv' : JEnv) (out : Bytes), ScOk sc → GoodBuf sc buf → EnvRel R.entry sc env jenv → BufIs buf jenv out →
      execStmts F G fuel r.1 jenv = .ok jenv' →
      ∃ text, refCmds F R ae cmds env = .val text ∧ BufIs buf jenv' (out ++ text)) := by
  refine ⟨walkCmds_renders sk o ae ho cmds buf sc r h, ?_⟩
  intro fuel env jenv jenv' out hs hg hrel hb hx
  obtain ⟨text, ht, hb', _⟩ := cmds_ok F G R ae hG cmds buf fuel sc r env jenv jenv' out h hs hg hrel hb hx
  exact ⟨text, ht, hb'⟩

/-- the body of a template: entered with `opt_data` the JSON image of the data, after
    `var output = '';`, in a fresh frame -/
theorem gen_correct_body_partial (hG : CallRel G R) (body : CmdList) (n : Nat) (r : JsStmts × Scope)
    (h : toCmds ae b!"output" body ⟨[[]], n⟩ = some r) (env : SEnv) (optData : List (Bytes × JVal))
    (ij : Option (List (Bytes × JVal))) (hent : R.entry = env.vars) (hdata : C04c.toJsKvs env.vars = some optData)
    (hij : IjRel env.ij ij) (hgl : GlobRel env.globals)
    (jenv' : JEnv) (fuel : Nat)
    (hx : execStmts F G fuel r.1 ⟨optData, ij, [(b!"output", .str [])]⟩ = .ok jenv') :
    ∃ text, refCmds F R ae body env = .val text ∧ BufIs b!"output" jenv' text := by
  have hrel : EnvRel R.entry ⟨[[]], n⟩ env ⟨optData, ij, [(b!"output", .str [])]⟩ := by
    rw [hent]
    exact C04c.envRel_params _ env _ (fun k => by simp [Scope.lookup, Scope.lookupIn, frameGet?]) hdata hij hgl
  obtain ⟨text, ht, hb', _⟩ := cmds_ok F G R ae hG body b!"output" fuel _ r env _ jenv' [] h (scOk_fresh n)
    (goodBuf_plain n _ (by decide)) hrel (bufIs_init _ _ _) hx
  exact ⟨text, ht, by simpa using hb'⟩

end

end Dev

end SoyVerif.Props.C04d
