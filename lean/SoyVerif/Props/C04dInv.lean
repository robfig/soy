/-
  C04, command level — the reference semantics and the invariants (second layer, on Props/C04dTr).
  `refCmds`: Spec/Eval.renderCmds restricted to the fragment, with print directives the way the Go renderer applies
  them.  Generated names (`jsname_*`), the scope and buffer invariants along the translation (`ScOk`, `GoodBuf`,
  `Grows`, `toCmd_inv`), and what a run of the emitted statements keeps of the JavaScript environment and
  of the relation to the Soy environment (`BufIs`, `Keeps`, `envRel_*`).
-/
import SoyVerif.Props.C04dTr

namespace SoyVerif.Props.C04d
open SoyVerif SoyVerif.Model SoyVerif.Model.JsGen SoyVerif.Spec.JsSemRef SoyVerif.Spec.JsStmt
open SoyVerif.Props.C02Spec (eq_of_outCode)
open SoyVerif.Props.C04c (toAst render RunsSc Same walkExpr_renders toJsV EnvRel Globals GlobalsAre IjRel GlobRel)

set_option linter.unusedSectionVars false

section Dev
variable [Globals] {ent : Spec.Eval.Binds}

abbrev SEnv := Spec.Eval.Env
open SoyVerif.Spec.Eval (Val Out)

/-- what a `{call}` needs of the specification (the section variables of Spec/Eval.renderCmd): the registry, the data
    the template was entered with (`data="all"`), and the callee's rendering, one call level down -/
structure RefCtx where
  reg : Registry.Reg
  entry : Spec.Eval.Binds
  call : Registry.Tmpl → Spec.Eval.CallEnv → Out Bytes

section
-- `F name args x`: what the library function the generator writes for `|name:args` computes from `x`
variable (F : Bytes → List Expr → JVal → JOut) (R : RefCtx) (ae : Autoescape)

/-- strict in an abrupt argument -/
def liftF (name : Bytes) (args : List Expr) (x : JOut) : JOut := x.bind (F name args)

/-- the text of a print: the Go renderer's directive loop (Props/C04b `goPrint`: left to right, the
    escape flag cleared by a cancelling directive, escaping last) on the JSON image of the value,
    then ToString -/
def refPrintJs (dirs : List Directive) (v : Val) : Out Bytes :=
  match toJsV v with
  | none => .unspec
  | some jv =>
    match C04b.goPrint (liftF F) Gen.directiveTable ae dirs (.val jv) with
    | some (.val r) => (match toStr? r with
      | some s => .val s
      | none => .unspec)
    | some .error => .error
    | _ => .unspec

/-- Spec/Eval's print without directives: ToString of the value (an undefined value is an error), HTML-escaped
    unless autoescaping is off -/
def specPlain (v : Val) : Out Bytes :=
  if Spec.Eval.isUndef v then .error
  else (Spec.Eval.showVal v).bind fun s => .val (if ae != .off then htmlEscape s else s)

/-- Spec/Eval's print (the `.print` clause of `renderCmd` after the argument is evaluated): without a directive
    semantics a print with directives is `unspec`; an undefined value is an error; the directives left to right, then
    ToString, HTML-escaped if the flag is still set -/
def specPrint (dsem : Option Spec.Eval.LibSem) (esc : Bool) (env : SEnv) (dirs : List Directive) (v : Val) : Out Bytes :=
  if !dirs.isEmpty && (Spec.Eval.dirsOf dsem).isNone then .unspec
  else if Spec.Eval.isUndef v then .error
  else (Spec.Eval.runDirs (Spec.Eval.dirsOf dsem) env dirs v esc).bind fun r =>
    (Spec.Eval.showVal r.1).bind fun s => .val (if r.2 then htmlEscape s else s)

/-- the Go library as Spec/Eval's library semantics (Props/C02SpecLib `modelDirSem` of the live table; = Props/C04g `goLib`) -/
def goLibD : Spec.Eval.LibSem := { dirs := some (SoyVerif.Props.C02Spec.modelDirSem Gen.directiveTable) }

/-- an environment for the literal arguments of directives (they look nothing up) -/
def env0 : SEnv := { vars := [], loops := [], ij := none, globals := [] }

/-- the text of a print in the reference semantics: through the JSON image and the library functions `F` where that
    says something; where it is silent (a value without a JSON image, a list or a map, a function `F` leaves open)
    what Spec/Eval prints — with the Go library, if the print has directives.  (The theorems about the generated
    statements look at the `val` / `error` answers of `refPrintJs` only; the fall-back makes the reference total where
    Spec/Eval is, which is what the converse theorems against Spec/Eval need.) -/
def refPrint (dirs : List Directive) (v : Val) : Out Bytes :=
  match refPrintJs F ae dirs v with
  | .unspec => if dirs.isEmpty then specPlain ae v else specPrint (some goLibD) (ae != .off) env0 dirs v
  | o => o

/-- the data a call passes on before its params: the caller's entry data (`data="all"`), the map `data="$e"`
    evaluates to, or nothing -/
def refBase (allData : Bool) (data : Option Expr) (env : SEnv) : Out Spec.Eval.Binds :=
  if allData then .val R.entry
  else match data with
    | some e => (Spec.Eval.eval env e).bind fun v =>
      match v with
      | .map kvs => .val kvs
      | _ => .error
    | none => .val []

mutual
  /-- Spec/Eval.renderCmd on the fragment (lexical scoping: what a block binds is visible inside only) -/
  def refCmd : Cmd → SEnv → Spec.Eval.ROut
    | .rawText _ t, env => .val (t, env)
    | .print _ arg dirs, env =>
      (Spec.Eval.eval env arg).bind fun v => (refPrint F ae dirs v).bind fun s => .val (s, env)
    | .letValue _ name e, env => (Spec.Eval.eval env e).bind fun v => .val ([], env.bind name v)
    | .ifc _ conds, env => (refConds conds env).bind fun out => .val (out, env)
    | .forc _ var list body ifEmpty, env =>
      (Spec.Eval.eval env list).bind fun lv =>
        match lv with
        | .list xs =>
          if xs.isEmpty then
            match ifEmpty with
            | some b => (refBlock b env).bind fun out => .val (out, env)
            | none => .val ([], env)
          else (Spec.Eval.loopSpec (refBlock body) env var (xs.length - 1) xs 0).bind fun out => .val (out, env)
        | _ => .error
    | .switch _ value cases, env =>
      (Spec.Eval.eval env value).bind fun sv => (refCases cases sv env).bind fun out => .val (out, env)
    | .letContent _ name body, env => (refBlock body env).bind fun out => .val ([], env.bind name (.str out))
    | .call _ name allData data params, env =>
      match Registry.lookup R.reg name with
      | none => .error
      | some callee =>
        (refBase R allData data env).bind fun b =>
          (refParams params env).bind fun ps =>
            (R.call callee { entry := ps ++ b, ij := env.ij, globals := env.globals }).bind fun out => .val (out, env)
    | .css _ e suffix, env =>
      (match e with
        | none => .val (suffix, env)
        | some e => (Spec.Eval.eval env e).bind fun v => (Spec.Eval.showVal v).bind fun s => .val (s ++ [45] ++ suffix, env))
    | .debugger _, env => .val ([], env)
    | .msg _ _ _ _ _ body, env =>
      -- no message bundle: the parts in order; the body is a scope of its own
      (refParts body env).bind fun r => .val (r.1, env)
    | _, _ => .unspec
  /-- Spec/Eval.renderParts on the fragment -/
  def refParts : MsgParts → SEnv → Spec.Eval.ROut
    | .nil, env => .val ([], env)
    | .text _ t rest, env => (refParts rest env).bind fun r => .val (t ++ r.1, r.2)
    | .ph _ _ body rest, env =>
      (refPh body env).bind fun r1 => (refParts rest r1.2).bind fun r2 => .val (r1.1 ++ r2.1, r2.2)
    | .plural _ _ value cases _ dflt rest, env =>
      -- Spec/Eval.renderParts: the first `{case n}` with the value, else `{default}`
      (Spec.Eval.eval env value).bind fun v =>
        match v with
        | .int i =>
          (match refPlural cases i env with
            | some r => r
            | none => refParts dflt env).bind fun r1 => (refParts rest r1.2).bind fun r2 => .val (r1.1 ++ r2.1, r2.2)
        | _ => .error
  def refPlural : PluralCases → Int → SEnv → Option Spec.Eval.ROut
    | .nil, _, _ => none
    | .cons _ v _ body rest, i, env => if i == v then some (refParts body env) else refPlural rest i env
  def refPh : MsgPhBody → SEnv → Spec.Eval.ROut
    | .htmlTag _ t, env => .val (t, env)
    | .cmd c, env => refCmd c env
  /-- the call's params, in the caller's environment (later ones first in the result) -/
  def refParams : ParamList → SEnv → Out Spec.Eval.Binds
    | .nil, _ => .val []
    | .value _ key e rest, env =>
      (Spec.Eval.eval env e).bind fun v => (refParams rest env).bind fun r => .val (r ++ [(key, v)])
    | .content _ key body rest, env =>
      (refBlock body env).bind fun out => (refParams rest env).bind fun r => .val (r ++ [(key, .str out)])
  def refBlock : Block → SEnv → Out Bytes
    | .mk _ cmds, env => refCmds cmds env
  def refCmds : CmdList → SEnv → Out Bytes
    | .nil, _ => .val []
    | .cons c rest, env =>
      (refCmd c env).bind fun r => (refCmds rest r.2).bind fun more => .val (r.1 ++ more)
  def refCases : CaseList → Val → SEnv → Out Bytes
    | .nil, _, _ => .val []
    | .cons _ values body rest, sv, env =>
      if values.isEmpty then refBlock body env
      else (Spec.Eval.matchAny env sv values).bind fun hit =>
        if hit then refBlock body env else refCases rest sv env
  def refConds : CondList → SEnv → Out Bytes
    | .nil, _ => .val []
    | .cons _ cond body rest, env =>
      match cond with
      | none => refBlock body env
      | some c => (Spec.Eval.eval env c).bind fun v =>
          if Spec.Eval.truthy v then refBlock body env else refConds rest env
end

end

theorem natDigits_inj {m m' : Nat} (h : F64.natDigits m = F64.natDigits m') : m = m' := by
  have h1 := (SoyVerif.Lemmas.NatDigits.natDigits_shape m).2.2.2
  have h2 := (SoyVerif.Lemmas.NatDigits.natDigits_shape m').2.2.2
  rw [h] at h1
  exact h1.symm.trans h2

theorem jsname_dollar (k use : Bytes) (m : Nat) : (Scope.jsname k use m).contains 36 = true := by
  simp [Scope.jsname]

/-- the `use` parts of scope.go: a variable, a loop's list / limit / index / step -/
def IsUse (use : Bytes) : Prop := use = [] ∨ use = b!"List" ∨ use = b!"Limit" ∨ use = b!"Index" ∨ use = b!"Step"

theorem IsUse.var : IsUse [] := Or.inl rfl
theorem IsUse.list : IsUse b!"List" := Or.inr (Or.inl rfl)
theorem IsUse.limit : IsUse b!"Limit" := Or.inr (Or.inr (Or.inl rfl))
theorem IsUse.index : IsUse b!"Index" := Or.inr (Or.inr (Or.inr (Or.inl rfl)))
theorem IsUse.step : IsUse b!"Step" := Or.inr (Or.inr (Or.inr (Or.inr rfl)))

/-- the `use` part of a generated name is letters, the counter after it digits: the name splits at its first digit -/
theorem use_digits_split {u u' : Bytes} {m m' : Nat} (hu : IsUse u) (hu' : IsUse u')
    (e : u ++ F64.natDigits m = u' ++ F64.natDigits m') : u = u' := by
  have letters : ∀ {w : Bytes}, IsUse w → ∀ c ∈ w, decide (65 ≤ c) = true := by
    intro w hw
    rcases hw with rfl | rfl | rfl | rfl | rfl <;> decide
  have split : ∀ {w : Bytes} (k : Nat), IsUse w → (w ++ F64.natDigits k).takeWhile (fun c => decide (65 ≤ c)) = w := by
    intro w k hw
    obtain ⟨hne, hall, _⟩ := SoyVerif.Lemmas.NatDigits.natDigits_shape k
    cases hd : F64.natDigits k with
    | nil => exact absurd hd hne
    | cons c r =>
      have hc := hall c (by rw [hd]; simp)
      have hc' : ¬ decide (65 ≤ c) = true := by
        simp only [Spec.Json.isDigit, Bool.and_eq_true, decide_eq_true_eq] at hc ⊢
        exact fun h65 => absurd (UInt8.le_trans h65 hc.2) (by decide)
      rw [List.takeWhile_append_of_pos (letters hw), List.takeWhile_cons_of_neg (p := fun a => decide (65 ≤ a)) hc', List.append_nil]
  rw [← split m hu, e, split m' hu']

theorem jsname_inj_all {x x' u u' : Bytes} {m m' : Nat} (hx : x.contains 36 = false) (hx' : x'.contains 36 = false)
    (hu : IsUse u) (hu' : IsUse u') (h : Scope.jsname x u m = Scope.jsname x' u' m') : x = x' ∧ u = u' ∧ m = m' := by
  have hxx := C04c.jsname_inj hx hx' h
  subst hxx
  have e : u ++ F64.natDigits m = u' ++ F64.natDigits m' := by simpa [Scope.jsname] using h
  have huu := use_digits_split hu hu' e
  subst huu
  exact ⟨rfl, rfl, natDigits_inj (List.append_cancel_left e)⟩

theorem jsname_inj_n {k k' : Bytes} {m m' : Nat} (hk : k.contains 36 = false) (hk' : k'.contains 36 = false)
    (h : Scope.jsname k [] m = Scope.jsname k' [] m') : k = k' ∧ m = m' :=
  have := jsname_inj_all hk hk' IsUse.var IsUse.var h
  ⟨this.1, this.2.2⟩

theorem jsname_use_ne {x u u' : Bytes} {m : Nat} (hx : x.contains 36 = false) (hu : IsUse u) (hu' : IsUse u') (hne : u ≠ u') :
    Scope.jsname x u m ≠ Scope.jsname x u' m :=
  fun e => hne (jsname_inj_all hx hx hu hu' e).2.1

/-- `g` is none of the names generated after the counter was `lo` -/
def Old (lo : Nat) (g : Bytes) : Prop :=
  ∀ x use m, x.contains 36 = false → IsUse use → lo < m → g ≠ Scope.jsname x use m

theorem old_jsname {x u : Bytes} {m lo : Nat} (hx : x.contains 36 = false) (hu : IsUse u) (hm : m ≤ lo) :
    Old lo (Scope.jsname x u m) := by
  intro x' u' m' hx' hu' hlt e
  have := (jsname_inj_all hx hx' hu hu' e).2.2
  omega

theorem Old.mono {lo lo' : Nat} {g : Bytes} (h : Old lo g) (hl : lo ≤ lo') : Old lo' g :=
  fun x u m hx hu hm => h x u m hx hu (by omega)

theorem old_plain {g : Bytes} (lo : Nat) (h : g.contains 36 = false) : Old lo g := by
  intro x u m _ _ _ e
  have := jsname_dollar x u m
  rw [← e, h] at this
  cases this

/-- the entry `(k, g)` of a frame, if `k` is a Soy name (no `$`; the scope's own keys `$limit:x`, `$index:x` … have
    one): `g` is the variable name generated for `k` at some counter `m ≤ n` -/
def Named (n : Nat) (k g : Bytes) : Prop := k.contains 36 = false → ∃ m, m ≤ n ∧ g = Scope.jsname k [] m

/-- every entry of every frame: a Soy name holds a name generated for it, and no entry is a name still to be generated -/
def Bounded (sc : Scope) : Prop := ∀ f ∈ sc.stack, ∀ kv ∈ f, Named sc.n kv.1 kv.2 ∧ Old sc.n kv.2

/-- what the walk of a template body keeps: a frame is open, and the names are bounded -/
def ScOk (sc : Scope) : Prop := sc.stack ≠ [] ∧ Bounded sc

theorem Named.mono {n n' : Nat} {k g : Bytes} (h : Named n k g) (hn : n ≤ n') : Named n' k g := by
  intro hk
  obtain ⟨m, hm, e⟩ := h hk
  exact ⟨m, by omega, e⟩

theorem frameSet_mem (f : Frame) (k v : Bytes) (kv : Bytes × Bytes) (h : kv ∈ frameSet f k v) : kv = (k, v) ∨ kv ∈ f :=
  FrameAll.set (P := fun a b => (a, b) = (k, v) ∨ (a, b) ∈ f) (fun _ h => Or.inr h) (Or.inl rfl) kv h

theorem frameGet_mem (f : Frame) (k v : Bytes) (h : frameGet? f k = some v) : (k, v) ∈ f :=
  FrameAll.get (P := fun a b => (a, b) ∈ f) (fun _ h => h) h

theorem lookupIn_mem (st : List Frame) (k v : Bytes) (h : Scope.lookupIn st k = some v) : ∃ f ∈ st, (k, v) ∈ f :=
  StackAll.lookupIn (P := fun a b => ∃ f ∈ st, (a, b) ∈ f) (fun f hf _ h => ⟨f, hf, h⟩) h

/-- `Bounded` is the invariant "every entry is `Named` and `Old`" of Lemmas/ScopeAll, at any later counter -/
theorem Bounded.le {sc : Scope} (h : Bounded sc) {n : Nat} (hn : sc.n ≤ n) :
    StackAll (fun k g => Named n k g ∧ Old n g) sc.stack :=
  StackAll.mono (P := fun k g => Named sc.n k g ∧ Old sc.n g) (fun _ _ h => ⟨h.1.mono hn, h.2.mono hn⟩) h

theorem bounded_lookup {sc : Scope} (h : Bounded sc) {k g : Bytes} (hk : k.contains 36 = false)
    (hl : sc.lookup k = some g) : ∃ m, m ≤ sc.n ∧ g = Scope.jsname k [] m :=
  (Scope.all_lookup (h.le (Nat.le_refl _)) hl).1 hk

theorem bounded_shape {sc : Scope} (h : Bounded sc) : SoyVerif.Lemmas.JsGenSpec.ScopeShape sc := by
  intro k g hk hl
  obtain ⟨m, _, e⟩ := bounded_lookup h hk hl
  exact ⟨[], m, e⟩

theorem bounded_of_stack {sc sc' : Scope} (h : Bounded sc) (hs : sc'.stack = sc.stack) (hn : sc.n ≤ sc'.n) : Bounded sc' := by
  unfold Bounded
  rw [hs]
  exact h.le hn

theorem entry_var {x : Bytes} (hx : x.contains 36 = false) (n : Nat) :
    Named n x (Scope.jsname x [] n) ∧ Old n (Scope.jsname x [] n) :=
  ⟨fun _ => ⟨n, Nat.le_refl _, rfl⟩, old_jsname hx IsUse.var (Nat.le_refl _)⟩

theorem entry_key {k x u : Bytes} (hk : k.contains 36 = true) (hx : x.contains 36 = false) (hu : IsUse u) (n : Nat) :
    Named n k (Scope.jsname x u n) ∧ Old n (Scope.jsname x u n) :=
  ⟨fun h => (by rw [hk] at h; cases h), old_jsname hx hu (Nat.le_refl _)⟩

/-- the scope a template body starts in: one empty frame -/
theorem scOk_fresh (n : Nat) : ScOk ⟨[[]], n⟩ := by
  refine ⟨by simp, ?_⟩
  intro f hf kv hkv
  simp only [List.mem_singleton] at hf
  subst hf
  cases hkv

theorem scOk_push {sc : Scope} (h : Bounded sc) : ScOk sc.push :=
  ⟨by simp [Scope.push], Scope.all_push (h.le (Nat.le_refl _))⟩

theorem scOk_setTop {sc : Scope} (h : ScOk sc) {n' : Nat} (hn : sc.n ≤ n') {x g : Bytes} (hg : Named n' x g ∧ Old n' g) :
    ScOk ⟨Scope.setTop sc.stack x g, n'⟩ ∧ (Scope.setTop sc.stack x g).tail = sc.stack.tail := by
  refine ⟨⟨?_, (h.2.le hn).setTop hg⟩, ?_⟩
  · cases hst : sc.stack with
    | nil => exact absurd hst h.1
    | cons f st => simp [Scope.setTop]
  · cases sc.stack <;> rfl

theorem scOk_makevar {sc : Scope} (h : ScOk sc) (x : Bytes) (hx : x.contains 36 = false) :
    ScOk (sc.makevar x).2 ∧ (sc.makevar x).2.stack.tail = sc.stack.tail ∧ (sc.makevar x).2.n = sc.n + 1 :=
  have := scOk_setTop h (Nat.le_succ _) (entry_var hx (sc.n + 1))
  ⟨this.1, this.2, rfl⟩

theorem scOk_pushForEach {sc : Scope} (h : ScOk sc) (v : Bytes) (hv : v.contains 36 = false) :
    ScOk (sc.pushForEach v).2 ∧ (sc.pushForEach v).2.stack.tail = sc.stack ∧ (sc.pushForEach v).2.n = sc.n + 1 :=
  ⟨⟨by simp [Scope.pushForEach], Scope.all_pushForEach (h.2.le (Nat.le_succ _)) (entry_var hv _)
    (entry_key (Lemmas.JsGenSpec.kLimit_dollar v) hv IsUse.limit _) (entry_key (Lemmas.JsGenSpec.kIndex_dollar v) hv IsUse.index _)⟩,
    rfl, rfl⟩

theorem scOk_pushForRange {sc : Scope} (h : ScOk sc) (v : Bytes) (hv : v.contains 36 = false) :
    ScOk (sc.pushForRange v).2 ∧ (sc.pushForRange v).2.stack.tail = sc.stack ∧ (sc.pushForRange v).2.n = sc.n + 1 :=
  ⟨⟨by simp [Scope.pushForRange], Scope.all_pushForRange (h.2.le (Nat.le_succ _)) (entry_var hv _)
    (entry_key (Lemmas.JsGenSpec.kLimit_dollar v) hv IsUse.limit _) (entry_key (Lemmas.JsGenSpec.kStep_dollar v) hv IsUse.step _)
    (entry_key (Lemmas.JsGenSpec.kIndex_dollar v) hv IsUse.index _) (entry_key (Lemmas.JsGenSpec.kVar_dollar v) hv IsUse.var _)⟩,
    rfl, rfl⟩

theorem scOk_of_stack {sc sc' : Scope} (h : ScOk sc) (hs : sc'.stack = sc.stack) (hn : sc.n ≤ sc'.n) : ScOk sc' :=
  ⟨by rw [hs]; exact h.1, bounded_of_stack h.2 hs hn⟩

theorem scOk_bind {sc : Scope} (h : ScOk sc) (x : Bytes) (hx : x.contains 36 = false) (m : Nat) (hm : m ≤ sc.n) :
    ScOk (sc.bind x (Scope.jsname x [] m)) ∧ (sc.bind x (Scope.jsname x [] m)).stack.tail = sc.stack.tail ∧
      (sc.bind x (Scope.jsname x [] m)).n = sc.n :=
  have := scOk_setTop h (Nat.le_refl _) (g := Scope.jsname x [] m) (x := x)
    ⟨fun _ => ⟨m, hm, rfl⟩, old_jsname hx IsUse.var hm⟩
  ⟨this.1, this.2, rfl⟩

/-- no entry of the scope holds the name `g` -/
def Fresh (sc : Scope) (g : Bytes) : Prop := ∀ f ∈ sc.stack, ∀ kv ∈ f, kv.2 ≠ g

/-- the output variable `buf` can be told from every local the translation declares: it is no name still to be
    generated (`Old`) and no name the scope holds (`Fresh`); `output` and the `x$n` of an open content block are such -/
def GoodBuf (sc : Scope) (buf : Bytes) : Prop := Old sc.n buf ∧ Fresh sc buf

theorem fresh_new {sc : Scope} (h : Bounded sc) {x u : Bytes} {m : Nat} (hx : x.contains 36 = false) (hu : IsUse u)
    (hm : sc.n < m) : Fresh sc (Scope.jsname x u m) :=
  fun f hf kv hkv => (h f hf kv hkv).2 x u m hx hu hm

theorem goodBuf_of_stack {sc sc' : Scope} {g : Bytes} (h : GoodBuf sc g) (hs : sc'.stack = sc.stack) (hn : sc.n ≤ sc'.n) :
    GoodBuf sc' g :=
  ⟨h.1.mono hn, fun f hf kv hkv => h.2 f (by rw [← hs]; exact hf) kv hkv⟩

theorem goodBuf_push {sc : Scope} {g : Bytes} (h : GoodBuf sc g) : GoodBuf sc.push g :=
  ⟨h.1, Scope.all_push (P := fun _ v => v ≠ g) h.2⟩

theorem goodBuf_plain (n : Nat) (g : Bytes) (hg : g.contains 36 = false) : GoodBuf ⟨[[]], n⟩ g :=
  ⟨old_plain n hg, StackAll.cons (P := fun _ v => v ≠ g) FrameAll.nil StackAll.nil⟩

theorem goodBuf_setTop {sc : Scope} {g x val : Bytes} (h : GoodBuf sc g) (hne : val ≠ g) (n' : Nat) (hn : sc.n ≤ n') :
    GoodBuf ⟨Scope.setTop sc.stack x val, n'⟩ g :=
  ⟨h.1.mono hn, StackAll.setTop (P := fun _ v => v ≠ g) h.2 hne⟩

theorem goodBuf_makevar {sc : Scope} {g : Bytes} (h : GoodBuf sc g) (x : Bytes) (hx : x.contains 36 = false) :
    GoodBuf (sc.makevar x).2 g :=
  goodBuf_setTop h (fun e => h.1 x [] (sc.n + 1) hx IsUse.var (Nat.lt_succ_self _) e.symm) _ (Nat.le_succ _)

theorem GoodBuf.ne_next {sc : Scope} {g : Bytes} (h : GoodBuf sc g) {v : Bytes} (hv : v.contains 36 = false) {u : Bytes}
    (hu : IsUse u) : Scope.jsname v u (sc.n + 1) ≠ g :=
  fun e => h.1 v u (sc.n + 1) hv hu (Nat.lt_succ_self _) e.symm

theorem goodBuf_pushForEach {sc : Scope} {g : Bytes} (h : GoodBuf sc g) (v : Bytes) (hv : v.contains 36 = false) :
    GoodBuf (sc.pushForEach v).2 g :=
  ⟨h.1.mono (Nat.le_succ _), Scope.all_pushForEach (P := fun _ v => v ≠ g) h.2 (h.ne_next hv IsUse.var)
    (h.ne_next hv IsUse.limit) (h.ne_next hv IsUse.index)⟩

theorem goodBuf_pushForRange {sc : Scope} {g : Bytes} (h : GoodBuf sc g) (v : Bytes) (hv : v.contains 36 = false) :
    GoodBuf (sc.pushForRange v).2 g :=
  ⟨h.1.mono (Nat.le_succ _), Scope.all_pushForRange (P := fun _ v => v ≠ g) h.2 (h.ne_next hv IsUse.var)
    (h.ne_next hv IsUse.limit) (h.ne_next hv IsUse.step) (h.ne_next hv IsUse.index) (h.ne_next hv IsUse.var)⟩

/-- what translating a node does to the scope (`toCmd_inv`): the invariant holds again, at most the top frame gained entries,
    the counter did not fall, and an output variable that was good is good still -/
structure Grows (sc sc' : Scope) : Prop where
  scOk : ScOk sc'
  tail : sc'.stack.tail = sc.stack.tail
  le : sc.n ≤ sc'.n
  good : ∀ g, GoodBuf sc g → GoodBuf sc' g

theorem Grows.refl {sc : Scope} (hs : ScOk sc) : Grows sc sc := ⟨hs, rfl, Nat.le_refl _, fun _ hg => hg⟩

theorem Grows.trans {sc sc1 sc2 : Scope} (a : Grows sc sc1) (b : Grows sc1 sc2) : Grows sc sc2 :=
  ⟨b.scOk, b.tail.trans a.tail, Nat.le_trans a.le b.le, fun g hg => b.good g (a.good g hg)⟩

/-- a node that leaves the frames as they were -/
theorem Grows.of_stack {sc sc' : Scope} (hs : ScOk sc) (hst : sc'.stack = sc.stack) (hn : sc.n ≤ sc'.n) : Grows sc sc' :=
  ⟨scOk_of_stack hs hst hn, by rw [hst], hn, fun _ hg => goodBuf_of_stack hg hst hn⟩

/-- a loop restores the stack: `sc1` is the scope with the loop's frame, `r` the scope after the body -/
theorem pop_scope {sc sc1 r : Scope} (p2 : sc1.stack.tail = sc.stack) (p3 : sc1.n = sc.n + 1) (b2 : r.stack.tail = sc1.stack.tail)
    (b3 : sc1.n ≤ r.n) : r.pop.stack = sc.stack ∧ sc.n ≤ r.pop.n :=
  ⟨by simp only [Scope.pop]; rw [b2, p2], by simp only [Scope.pop]; omega⟩

section
variable (ae : Autoescape)

mutual
  theorem toCmd_inv : ∀ (c : Cmd) (buf : Bytes) (sc : Scope) (r : JsStmts × Scope), toCmd ae buf c sc = some r → ScOk sc → Grows sc r.2
    | .rawText p t, buf, sc, r, h, hs => by
      simp only [toCmd, Option.some.injEq] at h; subst h
      exact .refl hs
    | .print p arg dirs, buf, sc, r, h, hs => by
      obtain ⟨_, _, _, _, _, rfl⟩ := toCmd_print_some h
      exact .refl hs
    | .letValue p x e, buf, sc, r, h, hs => by
      obtain ⟨hx, _, _, rfl⟩ := toCmd_letValue_some h
      obtain ⟨h1, h2, h3⟩ := scOk_makevar hs x hx
      exact ⟨h1, h2, by simp only [h3]; omega, fun _ hg => goodBuf_makevar hg x hx⟩
    | .ifc p conds, buf, sc, r, h, hs => by
      obtain ⟨rc, hrc, rfl⟩ := toCmd_ifc_some h
      obtain ⟨h1, h2⟩ := toConds_scope conds buf sc rc hrc hs
      exact .of_stack hs h1 h2
    | .msg p id m d bp body, buf, sc, r, h, hs => by
      unfold toCmd at h
      obtain ⟨rb, hrb, rfl⟩ := msgJoin_some h
      obtain ⟨_, b2, b3, _⟩ := toParts_inv body buf sc.push rb hrb (scOk_push hs.2)
      exact .of_stack hs (by simp only [Scope.pop]; rw [b2]; rfl) b3
    | .css p none suffix, buf, sc, r, h, hs => by
      simp only [toCmd, Option.some.injEq] at h; subst h
      exact .refl hs
    | .css p (some e) suffix, buf, sc, r, h, hs => by
      obtain ⟨_, _, rfl⟩ := toCmd_css_some h
      exact .refl hs
    | .debugger p, buf, sc, r, h, hs => by
      simp only [toCmd, Option.some.injEq] at h; subst h
      exact .refl hs
    | .log .., _, _, _, h, _ => by simp [toCmd] at h
    | .forc p v list body none, buf, sc, r, h, hs => by
      unfold toCmd at h
      rcases loopJoin_some h with h | h
      · obtain ⟨hv, _, j, rbv, _, hrb, he⟩ := forcJoin_some h
        simp only at he
        subst he
        obtain ⟨p1, p2, p3⟩ := scOk_pushForEach hs v hv
        obtain ⟨_, b2, b3, _⟩ := toBody_inv body buf _ rbv hrb p1
        obtain ⟨hst, hn⟩ := pop_scope p2 p3 b2 b3
        exact .of_stack hs hst hn
      · obtain ⟨args, l, c, jl, ji, rbv, pc, q⟩ := rangeJoin_some h
        obtain rfl := q.result
        obtain ⟨p1, p2, p3⟩ := scOk_pushForRange hs v q.var
        obtain ⟨_, b2, b3, _⟩ := toBody_inv body buf _ rbv q.body p1
        obtain ⟨hst, hn⟩ := pop_scope p2 p3 b2 b3
        exact .of_stack hs hst hn
    | .forc p v list body (some ie), buf, sc, r, h, hs => by
      unfold toCmd at h
      rcases loopJoin_ie_some h with h | ⟨r0, re, hr0, hre, rfl⟩
      · obtain ⟨hv, _, j, rbv, _, hrb, he⟩ := forcJoin_some h
        simp only at he
        obtain ⟨re, hre, rfl⟩ := he
        obtain ⟨p1, p2, p3⟩ := scOk_pushForEach hs v hv
        obtain ⟨_, b2, b3, _⟩ := toBody_inv body buf _ rbv hrb p1
        obtain ⟨hst, hn⟩ := pop_scope p2 p3 b2 b3
        obtain ⟨c1, c2⟩ := toBlock_scope ie buf _ re hre (scOk_of_stack hs hst hn)
        exact .of_stack hs (c1.trans hst) (Nat.le_trans hn c2)
      · obtain ⟨args, l, c, jl, ji, rbv, pc, q⟩ := rangeJoin_some hr0
        obtain rfl := q.result
        obtain ⟨p1, p2, p3⟩ := scOk_pushForRange hs v q.var
        obtain ⟨_, b2, b3, _⟩ := toBody_inv body buf _ rbv q.body p1
        obtain ⟨hst, hn⟩ := pop_scope p2 p3 b2 b3
        obtain ⟨c1, c2⟩ := toBlock_scope ie buf _ re hre (scOk_of_stack hs hst hn)
        exact .of_stack hs (c1.trans hst) (Nat.le_trans hn c2)
    | .switch p value cases, buf, sc, r, h, hs => by
      obtain ⟨_, rc, _, hrc, rfl⟩ := toCmd_switch_some h
      obtain ⟨h1, h2⟩ := toCases_scope cases buf sc rc hrc hs
      exact .of_stack hs h1 h2
    | .call p name allData data params, buf, sc, r, h, hs => by
      unfold toCmd at h
      obtain ⟨b, rp, _, hrp, rfl⟩ := callJoin_some h
      obtain ⟨a1, a2⟩ := toParams_scope params sc rp hrp hs
      exact .of_stack hs a1 a2
    | .letContent p name body, buf, sc, r, h, hs => by
      unfold toCmd at h
      obtain ⟨hname, rbv, hrb, rfl⟩ := letJoin_some h
      have hs' : ScOk (sc.genname name).2 := scOk_of_stack hs rfl (Nat.le_succ _)
      obtain ⟨a1, a2⟩ := toBlock_scope body _ _ rbv hrb hs'
      have a2' : sc.n + 1 ≤ rbv.2.n := a2
      obtain ⟨b1, b2, b3⟩ := scOk_bind (scOk_of_stack hs' a1 a2) name hname (sc.n + 1) a2'
      refine ⟨b1, b2.trans (by rw [a1]; rfl), Nat.le_trans (Nat.le_succ _) a2', fun g hg => ?_⟩
      exact goodBuf_setTop (goodBuf_of_stack hg a1 (Nat.le_trans (Nat.le_succ _) a2'))
        (fun e => hg.1 name [] (sc.n + 1) hname IsUse.var (Nat.lt_succ_self _) e.symm) _ (Nat.le_refl _)
    | .headerParam .., _, _, _, h, _ => by simp [toCmd] at h
    | .namespace .., _, _, _, h, _ => by simp [toCmd] at h
    | .template .., _, _, _, h, _ => by simp [toCmd] at h
    | .soyDoc .., _, _, _, h, _ => by simp [toCmd] at h
  theorem toParams_scope : ∀ (ps : ParamList) (sc : Scope) (r : JsStmts × List (Bytes × JsExpr) × Scope),
      toParams ae ps sc = some r → ScOk sc → r.2.2.stack = sc.stack ∧ sc.n ≤ r.2.2.n
    | .nil, sc, r, h, hs => by
      simp only [toParams, Option.some.injEq] at h; subst h
      exact ⟨rfl, Nat.le_refl _⟩
    | .value p key e rest, sc, r, h, hs => by
      unfold toParams at h
      obtain ⟨j, rr, _, hrr, rfl⟩ := valueParamJoin_some h
      exact toParams_scope rest sc rr hrr hs
    | .content p key body rest, sc, r, h, hs => by
      unfold toParams at h
      obtain ⟨rb, rr, hrb, hrr, rfl⟩ := contentParamJoin_some h
      have hs' : ScOk (sc.genname b!"param").2 := scOk_of_stack hs rfl (Nat.le_succ _)
      obtain ⟨a1, a2⟩ := toBlock_scope body _ _ rb hrb hs'
      have a2' : sc.n + 1 ≤ rb.2.n := a2
      obtain ⟨b1, b2⟩ := toParams_scope rest rb.2 rr hrr (scOk_of_stack hs' a1 a2)
      exact ⟨b1.trans a1, Nat.le_trans (Nat.le_succ _) (Nat.le_trans a2' b2)⟩
  theorem toParts_inv : ∀ (ps : MsgParts) (buf : Bytes) (sc : Scope) (r : JsStmts × Scope), toParts ae buf ps sc = some r → ScOk sc → Grows sc r.2
    | .nil, buf, sc, r, h, hs => by
      simp only [toParts, Option.some.injEq] at h; subst h
      exact .refl hs
    | .text p t rest, buf, sc, r, h, hs => by
      unfold toParts at h
      obtain ⟨a, b, ha, hb, rfl⟩ := phJoin_some h
      simp only [Option.some.injEq] at ha; subst ha
      exact toParts_inv rest buf sc b hb hs
    | .ph p name body rest, buf, sc, r, h, hs => by
      unfold toParts at h
      obtain ⟨a, b, ha, hb, rfl⟩ := phJoin_some h
      have x := toPh_inv body buf sc a ha hs
      exact x.trans (toParts_inv rest buf a.2 b hb x.scOk)
    | .plural p vn value cases dp dflt rest, buf, sc, r, h, hs => by
      unfold toParts at h
      obtain ⟨j, rc, rd, rr, _, hrc, hrd, hst, hrr, rfl⟩ := pluralJoin_some h
      obtain ⟨c1, c2, c3⟩ := toPCases_scope cases buf sc rc hrc hs
      obtain ⟨d1, _, d3, _⟩ := toParts_inv dflt buf rc.2 rd hrd c1
      obtain ⟨e1, e2, e3, e4⟩ := toParts_inv rest buf rd.2 rr hrr d1
      exact ⟨e1, by rw [e2, hst], Nat.le_trans c3 (Nat.le_trans d3 e3),
        fun g hg => e4 g (goodBuf_of_stack hg hst (Nat.le_trans c3 d3))⟩
  theorem toPCases_scope : ∀ (cs : PluralCases) (buf : Bytes) (sc : Scope) (r : JsPlural × Scope), toPCases ae buf cs sc = some r →
      ScOk sc → ScOk r.2 ∧ r.2.stack = sc.stack ∧ sc.n ≤ r.2.n
    | .nil, buf, sc, r, h, hs => by
      simp only [toPCases, Option.some.injEq] at h; subst h
      exact ⟨hs, rfl, Nat.le_refl _⟩
    | .cons p v bp body rest, buf, sc, r, h, hs => by
      unfold toPCases at h
      obtain ⟨rb, rr, hrb, hst, hrr, rfl⟩ := pcaseJoin_some h
      obtain ⟨a1, _, a3, _⟩ := toParts_inv body buf sc rb hrb hs
      obtain ⟨b1, b2, b3⟩ := toPCases_scope rest buf rb.2 rr hrr a1
      exact ⟨b1, b2.trans hst, Nat.le_trans a3 b3⟩
  theorem toPh_inv : ∀ (b : MsgPhBody) (buf : Bytes) (sc : Scope) (r : JsStmts × Scope), toPh ae buf b sc = some r → ScOk sc → Grows sc r.2
    | .htmlTag p t, buf, sc, r, h, hs => by
      simp only [toPh, Option.some.injEq] at h; subst h
      exact .refl hs
    | .cmd c, buf, sc, r, h, hs => by
      unfold toPh at h
      exact toCmd_inv c buf sc r h hs
  theorem toCases_scope : ∀ (cs : CaseList) (buf : Bytes) (sc : Scope) (r : JsCases × Scope), toCases ae buf cs sc = some r → ScOk sc →
      r.2.stack = sc.stack ∧ sc.n ≤ r.2.n
    | .nil, buf, sc, r, h, hs => by
      simp only [toCases, Option.some.injEq] at h; subst h
      exact ⟨rfl, Nat.le_refl _⟩
    | .cons p values body rest, buf, sc, r, h, hs => by
      unfold toCases at h
      obtain ⟨rbv, hrb, hc⟩ := caseJoin_some h
      obtain ⟨a1, a2⟩ := toBlock_scope body buf sc rbv hrb hs
      rcases hc with ⟨_, _, rfl⟩ | ⟨_, js, rr, _, hrr, rfl⟩
      · exact ⟨a1, a2⟩
      · obtain ⟨b1, b2⟩ := toCases_scope rest buf rbv.2 rr hrr (scOk_of_stack hs a1 a2)
        exact ⟨b1.trans a1, Nat.le_trans a2 b2⟩
  theorem toBody_inv : ∀ (b : Block) (buf : Bytes) (sc : Scope) (r : JsStmts × Scope), toBody ae buf b sc = some r → ScOk sc → Grows sc r.2
    | .mk p cmds, buf, sc, r, h, hs => by
      unfold toBody at h
      exact toCmds_inv cmds buf sc r h hs
  theorem toBlock_scope : ∀ (b : Block) (buf : Bytes) (sc : Scope) (r : JsStmts × Scope), toBlock ae buf b sc = some r → ScOk sc →
      r.2.stack = sc.stack ∧ sc.n ≤ r.2.n
    | .mk p cmds, buf, sc, r, h, hs => by
      obtain ⟨rc, hrc, rfl⟩ := toBlock_some h
      obtain ⟨_, h2, h3, _⟩ := toCmds_inv cmds buf sc.push rc hrc (scOk_push hs.2)
      exact ⟨by simpa [Scope.pop, Scope.push] using h2, by simpa [Scope.pop, Scope.push] using h3⟩
  theorem toCmds_inv : ∀ (cs : CmdList) (buf : Bytes) (sc : Scope) (r : JsStmts × Scope), toCmds ae buf cs sc = some r → ScOk sc → Grows sc r.2
    | .nil, buf, sc, r, h, hs => by
      simp only [toCmds, Option.some.injEq] at h; subst h
      exact .refl hs
    | .cons c rest, buf, sc, r, h, hs => by
      obtain ⟨r1, r2, h1, h2, rfl⟩ := toCmds_cons_some h
      have x := toCmd_inv c buf sc r1 h1 hs
      exact x.trans (toCmds_inv rest buf r1.2 r2 h2 x.scOk)
  theorem toConds_scope : ∀ (cs : CondList) (buf : Bytes) (sc : Scope) (r : JsConds × Scope), toConds ae buf cs sc = some r → ScOk sc →
      r.2.stack = sc.stack ∧ sc.n ≤ r.2.n
    | .nil, buf, sc, r, h, hs => by
      simp only [toConds, Option.some.injEq] at h; subst h
      exact ⟨rfl, Nat.le_refl _⟩
    | .cons p (some c) body rest, buf, sc, r, h, hs => by
      obtain ⟨_, rb, rr, _, hb, hr, rfl⟩ := toConds_cond_some h
      obtain ⟨a1, a2⟩ := toBlock_scope body buf sc rb hb hs
      obtain ⟨b1, b2⟩ := toConds_scope rest buf rb.2 rr hr (scOk_of_stack hs a1 a2)
      exact ⟨b1.trans a1, Nat.le_trans a2 b2⟩
    | .cons p none body rest, buf, sc, r, h, hs => by
      obtain ⟨_, rb, hb, rfl⟩ := toConds_else_some h
      exact toBlock_scope body buf sc rb hb hs
end

theorem toCmds_scope : ∀ (cs : CmdList) (buf : Bytes) (sc : Scope) (r : JsStmts × Scope), toCmds ae buf cs sc = some r → ScOk sc →
    ScOk r.2 ∧ r.2.stack.tail = sc.stack.tail ∧ sc.n ≤ r.2.n :=
  fun cs buf sc r h hs => have := toCmds_inv ae cs buf sc r h hs; ⟨this.scOk, this.tail, this.le⟩

theorem toBody_good (b : Block) (buf : Bytes) (sc : Scope) (r : JsStmts × Scope) (h : toBody ae buf b sc = some r) (hs : ScOk sc)
    (g : Bytes) (hg : GoodBuf sc g) : GoodBuf r.2 g := (toBody_inv ae b buf sc r h hs).good g hg

/-- a loop body translated in a scope `sc1` with one frame more than `sc`: popping that frame gives `sc`'s stack back -/
theorem loopBody_scope {sc sc1 : Scope} (p : ScOk sc1 ∧ sc1.stack.tail = sc.stack ∧ sc1.n = sc.n + 1) {body : Block} {buf : Bytes}
    {rb : JsStmts × Scope} (hrb : toBody ae buf body sc1 = some rb) : rb.2.pop.stack = sc.stack ∧ sc.n ≤ rb.2.pop.n := by
  obtain ⟨_, b2, b3, _⟩ := toBody_inv ae body buf _ rb hrb p.1
  exact pop_scope p.2.1 p.2.2 b2 b3

theorem eachBody_scope {sc : Scope} (hs : ScOk sc) {v : Bytes} (hv : v.contains 36 = false) {body : Block} {buf : Bytes}
    {rb : JsStmts × Scope} (hrb : toBody ae buf body (sc.pushForEach v).2 = some rb) :
    rb.2.pop.stack = sc.stack ∧ sc.n ≤ rb.2.pop.n :=
  loopBody_scope ae (scOk_pushForEach hs v hv) hrb

theorem rangeBody_scope {sc : Scope} (hs : ScOk sc) {v : Bytes} (hv : v.contains 36 = false) {body : Block} {buf : Bytes}
    {rb : JsStmts × Scope} (hrb : toBody ae buf body (sc.pushForRange v).2 = some rb) :
    rb.2.pop.stack = sc.stack ∧ sc.n ≤ rb.2.pop.n :=
  loopBody_scope ae (scOk_pushForRange hs v hv) hrb

end

/-- the output variable holds the text `out` -/
def BufIs (buf : Bytes) (jenv : JEnv) (out : Bytes) : Prop :=
  jenv.locals.find? (·.1 == buf) = some (buf, .str out)

/-- from `a` to `b` only the output variable and locals generated after the counter was `lo` changed -/
def Keeps (buf : Bytes) (lo : Nat) (a b : JEnv) : Prop :=
  b.optData = a.optData ∧ b.ijData = a.ijData ∧
  ∀ g, g ≠ buf → Old lo g → b.locals.find? (·.1 == g) = a.locals.find? (·.1 == g)

theorem Keeps.refl (buf : Bytes) (lo : Nat) (a : JEnv) : Keeps buf lo a a := ⟨rfl, rfl, fun _ _ _ => rfl⟩

theorem Keeps.trans {buf : Bytes} {lo lo' : Nat} {a b c : JEnv} (h1 : Keeps buf lo a b) (h2 : Keeps buf lo' b c)
    (hl : lo ≤ lo') : Keeps buf lo a c := by
  refine ⟨h2.1.trans h1.1, h2.2.1.trans h1.2.1, ?_⟩
  intro g hg hn
  rw [h2.2.2 g hg (hn.mono hl), h1.2.2 g hg hn]

theorem Keeps.mono {buf : Bytes} {lo lo' : Nat} {a b : JEnv} (h : Keeps buf lo' a b) (hl : lo ≤ lo') : Keeps buf lo a b :=
  (Keeps.refl buf lo a).trans h hl

theorem find_setLocal_ne (jenv : JEnv) (x g : Bytes) (v : JVal) (h : g ≠ x) :
    (setLocal jenv x v).locals.find? (·.1 == g) = jenv.locals.find? (·.1 == g) := by
  have : (x == g) = false := by simpa using fun e : x = g => h e.symm
  simp [setLocal, List.find?_cons, this]

theorem keeps_setBuf (buf : Bytes) (lo : Nat) (jenv : JEnv) (v : JVal) : Keeps buf lo jenv (setLocal jenv buf v) :=
  ⟨rfl, rfl, fun g hg _ => find_setLocal_ne jenv buf g v hg⟩

/-- the environment a template body starts in: the output variable is the one local, and empty -/
theorem bufIs_init (buf : Bytes) (d : List (Bytes × JVal)) (ij : Option (List (Bytes × JVal))) :
    BufIs buf ⟨d, ij, [(buf, .str [])]⟩ [] := by
  simp [BufIs]

theorem bufIs_setBuf (buf : Bytes) (jenv : JEnv) (t : Bytes) : BufIs buf (setLocal jenv buf (.str t)) t := by
  simp [BufIs, setLocal]

open SoyVerif.Props.C04c (VarRel LoopRel FrameRel)

theorem localNum_congr {a b : JEnv} {x : Bytes} (h : b.locals.find? (·.1 == x) = a.locals.find? (·.1 == x)) :
    localNum b x = localNum a x := by
  simp only [localNum, h]

/-- a loop's state only looks at the `$`-keys of its frame and at the locals they name -/
theorem frameRel_congr {f f' : Frame} {v : Bytes} {i last : Nat} {jenv jenv' : JEnv}
    (hget : ∀ k, k.contains 36 = true → frameGet? f' k = frameGet? f k)
    (hloc : ∀ k x, frameGet? f k = some x → localNum jenv' x = localNum jenv x)
    (h : FrameRel f v i last jenv) : FrameRel f' v i last jenv' := by
  obtain ⟨hex, hix, hlast⟩ := h
  have gI := hget _ (SoyVerif.Lemmas.JsGenSpec.kIndex_dollar v)
  have gL := hget _ (SoyVerif.Lemmas.JsGenSpec.kLimit_dollar v)
  have gS := hget _ (SoyVerif.Lemmas.JsGenSpec.kStep_dollar v)
  have gV := hget _ (SoyVerif.Lemmas.JsGenSpec.kVar_dollar v)
  refine ⟨hex, ?_, ?_⟩
  · intro idx hidx
    rw [gI] at hidx
    rw [hloc _ _ hidx]
    exact hix idx hidx
  · rw [gS]
    cases hs : frameGet? f (Scope.kStep ++ v) with
    | none =>
      simp only [hs] at hlast ⊢
      intro lim hlim
      rw [gL] at hlim
      rw [hloc _ _ hlim]
      exact hlast lim hlim
    | some step =>
      simp only [hs] at hlast ⊢
      intro lv lim hlv hlim
      rw [gV] at hlv
      rw [gL] at hlim
      obtain ⟨a, st, l, h1, h2, h3, h4⟩ := hlast lv lim hlv hlim
      exact ⟨a, st, l, by rw [hloc _ _ hlv]; exact h1, by rw [hloc _ _ hs]; exact h2, by rw [hloc _ _ hlim]; exact h3, h4⟩

theorem loopRel_keep {buf : Bytes} {sc sc' : Scope} {env : SEnv} {jenv jenv' : JEnv} {lo : Nat}
    (hrel : LoopRel sc env jenv) (hk : Keeps buf lo jenv jenv') (hb : Bounded sc) (hlo : sc.n ≤ lo)
    (hfr : Fresh sc buf) (hst : sc'.stack = sc.stack) : LoopRel sc' env jenv' := by
  intro v f hf
  rw [hst] at hf
  obtain ⟨i, last, hfl, hfr'⟩ := hrel v f hf
  have hmem := Scope.loopFrame_mem hf
  refine ⟨i, last, hfl, frameRel_congr (fun _ _ => rfl) ?_ hfr'⟩
  intro k x hkx
  have hm := frameGet_mem f k x hkx
  exact localNum_congr (hk.2.2 x (hfr f hmem _ hm) ((hb f hmem _ hm).2.mono hlo))

/-- the relation survives everything `Keeps` allows, in every scope with the same frames -/
theorem envRel_keep {buf : Bytes} {sc sc' : Scope} {env : SEnv} {jenv jenv' : JEnv} {lo : Nat}
    (hrel : EnvRel ent sc env jenv) (hk : Keeps buf lo jenv jenv') (hb : Bounded sc) (hlo : sc.n ≤ lo)
    (hfr : Fresh sc buf) (hst : sc'.stack = sc.stack) : EnvRel ent sc' env jenv' := by
  refine ⟨?_, loopRel_keep hrel.2.1 hk hb hlo hfr hst, by rw [hk.1]; exact hrel.2.2.1, by rw [hk.2.1]; exact hrel.2.2.2.1,
    hrel.2.2.2.2⟩
  intro k hkij hkd
  have hl : sc'.lookup k = sc.lookup k := by simp [Scope.lookup, hst]
  rw [hl]
  have hr := hrel.1 k hkij hkd
  cases hg : sc.lookup k with
  | none =>
    simp only [hg] at hr ⊢
    rw [hk.1]; exact hr
  | some g =>
    simp only [hg] at hr ⊢
    obtain ⟨kv, hfind, hkv⟩ := hr
    obtain ⟨f0, hf0, hm⟩ := lookupIn_mem sc.stack k g hg
    obtain ⟨m0, hm0, rfl⟩ := bounded_lookup hb hkd hg
    refine ⟨kv, ?_, hkv⟩
    rw [hk.2.2 _ ?_ ?_]
    · exact hfind
    · exact hfr f0 hf0 _ hm
    · exact old_jsname hkd IsUse.var (by omega)

theorem envRel_stack {sc sc' : Scope} {env : SEnv} {jenv : JEnv} (hrel : EnvRel ent sc env jenv) (hst : sc'.stack = sc.stack) :
    EnvRel ent sc' env jenv := by
  refine ⟨?_, ?_, hrel.2.2⟩
  · intro k hkij hkd
    have hl : sc'.lookup k = sc.lookup k := by simp [Scope.lookup, hst]
    rw [hl]
    exact hrel.1 k hkij hkd
  · intro v f hf
    rw [hst] at hf
    exact hrel.2.1 v f hf

theorem lookup_push (sc : Scope) (k : Bytes) : sc.push.lookup k = sc.lookup k := by
  simp [Scope.push, Scope.lookup, Scope.lookupIn, frameGet?]

theorem envRel_push {sc : Scope} {env : SEnv} {jenv : JEnv} (hrel : EnvRel ent sc env jenv) : EnvRel ent sc.push env jenv := by
  refine ⟨?_, ?_, hrel.2.2⟩
  · intro k hk hd
    rw [lookup_push]
    exact hrel.1 k hk hd
  · intro v f hf
    have : Scope.loopFrame sc.push.stack v = Scope.loopFrame sc.stack v := by
      simp [Scope.push, Scope.loopFrame, frameGet?]
    rw [this] at hf
    exact hrel.2.1 v f hf

theorem key_no_dollar {v k : Bytes} (hv : v.contains 36 = false) (hk : k.contains 36 = true) : (v == k) = false :=
  BEq.comm.trans (C04c.dollar_beq hk hv)

/-- a frame in which a Soy name was (re)bound: the loops do not see it -/
theorem loopFrame_setTop (st : List Frame) (x g v : Bytes) (hx : x.contains 36 = false) :
    (∀ f', Scope.loopFrame (Scope.setTop st x g) v = some f' →
      ∃ f, Scope.loopFrame st v = some f ∧ ∀ k, k.contains 36 = true → frameGet? f' k = frameGet? f k) := by
  intro f' hf'
  cases st with
  | nil => simp [Scope.setTop, Scope.loopFrame] at hf'
  | cons f0 r =>
    have hget : ∀ k, k.contains 36 = true → frameGet? (frameSet f0 x g) k = frameGet? f0 k := by
      intro k hk
      rw [C04c.frameGet_frameSet, key_no_dollar hx hk]
      simp
    simp only [Scope.setTop, Scope.loopFrame] at hf' ⊢
    rw [hget _ (SoyVerif.Lemmas.JsGenSpec.kIndex_dollar v)] at hf'
    cases hg : frameGet? f0 (Scope.kIndex ++ v) with
    | some _ =>
      simp only [hg, Option.some.injEq] at hf' ⊢
      subst hf'
      exact ⟨f0, rfl, hget⟩
    | none =>
      simp only [hg] at hf' ⊢
      exact ⟨f', hf', fun _ _ => rfl⟩

theorem loopRel_setTop {sc : Scope} {env env' : SEnv} {jenv jenv' : JEnv} (hrel : LoopRel sc env jenv)
    (x g : Bytes) (hx : x.contains 36 = false) (n' : Nat)
    (hloc : ∀ f ∈ sc.stack, ∀ kv ∈ f, localNum jenv' kv.2 = localNum jenv kv.2)
    (hloops : env'.loops = env.loops) :
    LoopRel ⟨Scope.setTop sc.stack x g, n'⟩ env' jenv' := by
  intro v f' hf'
  obtain ⟨f, hf, hget⟩ := loopFrame_setTop sc.stack x g v hx f' hf'
  obtain ⟨i, last, hfl, hfr⟩ := hrel v f hf
  have hmem := Scope.loopFrame_mem hf
  refine ⟨i, last, by rw [hloops]; exact hfl, frameRel_congr hget ?_ hfr⟩
  intro k y hky
  exact hloc f hmem _ (frameGet_mem f k y hky)

theorem exact_le {i n : Int} (h0 : 0 ≤ i) (hle : i ≤ n) (hn : SoyVerif.Spec.JsSem.exact n = true) :
    SoyVerif.Spec.JsSem.exact i = true := by
  simp only [SoyVerif.Spec.JsSem.exact, decide_eq_true_eq] at hn ⊢
  have : (0 : Int) ≤ SoyVerif.Spec.JsSem.two53 := by decide
  omega

/-- the frame `pushForEach` opens -/
def eachFrame (sc : Scope) (v : Bytes) : Frame :=
  frameSet (frameSet (frameSet [] v (Scope.jsname v [] (sc.n + 1))) (Scope.kLimit ++ v) (Scope.jsname v b!"Limit" (sc.n + 1)))
    (Scope.kIndex ++ v) (Scope.jsname v b!"Index" (sc.n + 1))

theorem pushForEach_stack (sc : Scope) (v : Bytes) : (sc.pushForEach v).2.stack = eachFrame sc v :: sc.stack := rfl

theorem eachFrame_index (sc : Scope) (v v' : Bytes) (hv : v.contains 36 = false) :
    frameGet? (eachFrame sc v) (Scope.kIndex ++ v') = if v == v' then some (Scope.jsname v b!"Index" (sc.n + 1)) else none := by
  have e3 : (v == Scope.kIndex ++ v') = false := key_no_dollar hv (SoyVerif.Lemmas.JsGenSpec.kIndex_dollar v')
  simp [eachFrame, C04c.frameGet_frameSet, Scope.kIndex, Scope.kLimit, frameGet?] at e3 ⊢
  simp [e3]

theorem eachFrame_limit (sc : Scope) (v : Bytes) :
    frameGet? (eachFrame sc v) (Scope.kLimit ++ v) = some (Scope.jsname v b!"Limit" (sc.n + 1)) := by
  simp [eachFrame, C04c.frameGet_frameSet, Scope.kIndex, Scope.kLimit]

theorem eachFrame_step (sc : Scope) (v : Bytes) (hv : v.contains 36 = false) :
    frameGet? (eachFrame sc v) (Scope.kStep ++ v) = none := by
  have e3 : (v == Scope.kStep ++ v) = false := key_no_dollar hv (SoyVerif.Lemmas.JsGenSpec.kStep_dollar v)
  simp [eachFrame, C04c.frameGet_frameSet, Scope.kIndex, Scope.kLimit, Scope.kStep, frameGet?] at e3 ⊢
  simp [e3]

theorem envRel_foreach_iter {sc : Scope} (hs : ScOk sc) (v : Bytes) (hv : v.contains 36 = false) (env : SEnv) (e : JEnv)
    (hrel : EnvRel ent sc env e) (item : Val) (jitem : JVal) (hitem : toJsV item = some jitem) (i last : Nat) (n : Int)
    (hexi : SoyVerif.Spec.JsSem.exact (i : Int) = true) (hn : n = (last : Int) + 1)
    (h2 : e.locals.find? (·.1 == Scope.jsname v b!"Limit" (sc.n + 1)) = some (Scope.jsname v b!"Limit" (sc.n + 1), .num n))
    (h3 : e.locals.find? (·.1 == Scope.jsname v b!"Index" (sc.n + 1)) = some (Scope.jsname v b!"Index" (sc.n + 1), .num i)) :
    EnvRel ent (sc.pushForEach v).2 { (env.bind v item) with loops := (v, i, last) :: env.loops }
      (setLocal e (Scope.jsname v [] (sc.n + 1)) jitem) := by
  refine ⟨C04c.envRel_foreach sc env e (bounded_shape hs.2) v hv item jitem hrel.1 hitem, ?_, hrel.2.2⟩
  intro v' f hf
  rw [pushForEach_stack] at hf
  simp only [Scope.loopFrame, eachFrame_index sc v v' hv] at hf
  by_cases hvv : (v == v') = true
  · have : v = v' := C04c.beq_true_eq hvv
    subst this
    simp only [beq_self_eq_true, if_true, Option.some.injEq] at hf
    subst hf
    refine ⟨i, last, by simp [Spec.Eval.findLoop], hexi, ?_, ?_⟩
    · intro idx hidx
      rw [eachFrame_index sc v v hv] at hidx
      simp only [beq_self_eq_true, if_true, Option.some.injEq] at hidx
      subst hidx
      rw [localNum_congr (find_setLocal_ne e _ _ jitem (jsname_use_ne hv IsUse.index IsUse.var (by decide)))]
      exact C04c.localNum_of_find h3
    · rw [eachFrame_step sc v hv]
      intro lim hlim
      rw [eachFrame_limit] at hlim
      simp only [Option.some.injEq] at hlim
      subst hlim
      rw [localNum_congr (find_setLocal_ne e _ _ jitem (jsname_use_ne hv IsUse.limit IsUse.var (by decide))), ← hn]
      exact C04c.localNum_of_find h2
  · have hvv' : (v == v') = false := by simpa using hvv
    simp only [hvv', Bool.false_eq_true, if_false] at hf
    obtain ⟨i', last', hfl, hfr⟩ := hrel.2.1 v' f hf
    have hmem := Scope.loopFrame_mem hf
    refine ⟨i', last', by simp [Spec.Eval.findLoop, hvv', hfl], frameRel_congr (fun _ _ => rfl) ?_ hfr⟩
    intro k y hky
    have hold := (hs.2 f hmem _ (frameGet_mem f k y hky)).2
    exact localNum_congr (find_setLocal_ne e _ y jitem (hold v [] (sc.n + 1) hv IsUse.var (Nat.lt_succ_self _)))

/-- the frame `pushForRange` opens -/
def rangeFrame (sc : Scope) (v : Bytes) : Frame :=
  frameSet (frameSet (frameSet (frameSet (frameSet [] v (Scope.jsname v [] (sc.n + 1))) (Scope.kLimit ++ v)
    (Scope.jsname v b!"Limit" (sc.n + 1))) (Scope.kStep ++ v) (Scope.jsname v b!"Step" (sc.n + 1)))
    (Scope.kIndex ++ v) (Scope.jsname v b!"Index" (sc.n + 1))) (Scope.kVar ++ v) (Scope.jsname v [] (sc.n + 1))

theorem pushForRange_stack (sc : Scope) (v : Bytes) : (sc.pushForRange v).2.stack = rangeFrame sc v :: sc.stack := rfl

theorem rangeFrame_index (sc : Scope) (v v' : Bytes) (hv : v.contains 36 = false) :
    frameGet? (rangeFrame sc v) (Scope.kIndex ++ v') = if v == v' then some (Scope.jsname v b!"Index" (sc.n + 1)) else none := by
  have e4 : (v == Scope.kIndex ++ v') = false := key_no_dollar hv (SoyVerif.Lemmas.JsGenSpec.kIndex_dollar v')
  simp [rangeFrame, C04c.frameGet_frameSet, Scope.kVar, Scope.kStep, Scope.kIndex, Scope.kLimit, frameGet?] at e4 ⊢
  simp [e4]

theorem rangeFrame_step (sc : Scope) (v : Bytes) :
    frameGet? (rangeFrame sc v) (Scope.kStep ++ v) = some (Scope.jsname v b!"Step" (sc.n + 1)) := by
  simp [rangeFrame, C04c.frameGet_frameSet, Scope.kVar, Scope.kStep, Scope.kIndex]

theorem rangeFrame_var (sc : Scope) (v : Bytes) :
    frameGet? (rangeFrame sc v) (Scope.kVar ++ v) = some (Scope.jsname v [] (sc.n + 1)) := by
  simp [rangeFrame, C04c.frameGet_frameSet]

theorem rangeFrame_limit (sc : Scope) (v : Bytes) :
    frameGet? (rangeFrame sc v) (Scope.kLimit ++ v) = some (Scope.jsname v b!"Limit" (sc.n + 1)) := by
  simp [rangeFrame, C04c.frameGet_frameSet, Scope.kVar, Scope.kStep, Scope.kIndex, Scope.kLimit]

end Dev

end SoyVerif.Props.C04d
