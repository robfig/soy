/-
  C16 — Print directives encode faithfully.

  Theorems over the byte-level models of Model/Escape.lean and Model/Directives.lean (tied to
  /repo by the correspondence C16dir and the generated directive table).  Specification side:
  Spec/Percent.lean (percent-decoding, URL-safe alphabet), Spec/Html.lean (reference decoder,
  removal of an inserted tag), Spec/Utf8.lean (well-formed UTF-8, for truncate), Spec/JsString.lean (the strict
  evaluator of JavaScript string literal text and the safety predicates, for the JS escaper).  All statements hold
  for ALL byte strings.
-/
import SoyVerif.Lemmas.EscapeQuery
import SoyVerif.Lemmas.EscapeBreaks
import SoyVerif.Lemmas.Truncate
import SoyVerif.Lemmas.JsEscapeB

namespace SoyVerif.Props.C16
open SoyVerif SoyVerif.Model SoyVerif.Spec SoyVerif.Model.Directives
open SoyVerif.Lemmas.EscapeQuery SoyVerif.Lemmas.EscapeBreaks SoyVerif.Lemmas.EscapeHtml SoyVerif.Lemmas.Truncate

/-- escapeUri = net/url.QueryEscape: the output consists of unreserved characters
    [A-Za-z0-9-_.~], `+` and `%` only, and percent-decodes back to exactly the value. -/
theorem queryEscape_roundtrip_safe (s : Bytes) :
    (∀ b ∈ queryEscape s, isUnreserved b = true ∨ b = 43 ∨ b = 37) ∧
    queryUnescape (queryEscape s) = some s :=
  ⟨(urlSafe_iff _).1 (queryEscape_urlSafe s), queryUnescape_queryEscape s⟩

example : queryEscape [97, 32, 47, 38, 255, 126] = [97, 43, 37, 50, 70, 37, 50, 54, 37, 70, 70, 126] := by decide
example : queryUnescape [97, 43, 37, 50, 70, 37, 102, 102] = some [97, 32, 47, 255] := by decide
example : queryUnescape [37, 50] = none := by decide
example : urlSafe [47] = false := by decide

/-- changeNewlineToBr changes nothing but line breaks: with the inserted `<br>` removed the
    output is exactly the escaped text of the value without its CR / LF bytes (so no data byte
    passes raw), and in the output as written every `&` still begins a complete character
    reference (no reference is cut by a `<br>`). -/
theorem changeNewlineToBr_only_breaks (s : Bytes) :
    removeTag brTag (changeNewlineToBr s) = htmlEscape (s.filter notNL) ∧
    (∀ pre post, changeNewlineToBr s = pre ++ 38 :: post → (matchRef (38 :: post)).isSome = true) :=
    ⟨removeBr_changeNewlineToBr s, (ampsStartRefs_iff _).1 ((nl_marked s false).amps (Or.inl rfl))⟩

example : changeNewlineToBr [60, 13, 10, 97, 10] = [38, 108, 116, 59, 60, 98, 114, 62, 97, 60, 98, 114, 62] := by decide
example : removeTag brTag [38, 108, 116, 59, 60, 98, 114, 62, 97, 60, 98, 114, 62] = [38, 108, 116, 59, 97] := by decide

/-- insertWordBreaks changes nothing but break opportunities, for every limit `n` (in range
    or not): with the inserted `<wbr>` removed the output is exactly the escaped text of the value,
    and in the output as written every `&` still begins a complete character reference — a
    `<wbr>` is never put inside a reference. -/
theorem insertWordBreaks_only_breaks (s : Bytes) (n : Int) :
    removeTag wbrTag (insertWordBreaks s n) = htmlEscape s ∧
    (∀ pre post, insertWordBreaks s n = pre ++ 38 :: post → (matchRef (38 :: post)).isSome = true) :=
    ⟨removeWbr_insertWordBreaks s n, (ampsStartRefs_iff _).1 ((wb_marked n s 0 0 (by simp)).amps (Or.inr rfl))⟩

/- "<<<<" with n = 2: the break falls between two references, not inside one -/
example : insertWordBreaks [60, 60, 60, 60] 2 =
    [38, 108, 116, 59, 38, 108, 116, 59, 60, 119, 98, 114, 62, 38, 108, 116, 59, 38, 108, 116, 59] := by decide
example : insertWordBreaks [97, 98, 99] 1 = [97, 60, 119, 98, 114, 62, 98, 60, 119, 98, 114, 62, 99] := by decide
/- a four-byte rune counts as one character and is not split -/
example : insertWordBreaks [240, 159, 152, 128, 97] 1 = [240, 159, 152, 128, 60, 119, 98, 114, 62, 97] := by decide

/-- truncate(n) / truncate(n, e) with an in-range limit n ≥ 0, exactly as the code behaves
    (`truncArgs n none` = one argument, ellipsis defaults to true; `truncCut` = n-3 if the ellipsis
    is on and n > 3, else n; `truncEll` = "..." in that case, else nothing):

    * the call never panics;
    * a value that fits is returned unchanged;
    * otherwise the result is `str[:k] ++ truncEll` where k is the LAST rune start at or before
      the cut position — the byte at k is not a continuation byte and every byte after it up to
      the cut is — or k = 0 (the empty prefix) when there is no rune start there (text that
      begins with continuation bytes, i.e. not UTF-8); it is at most n bytes long;
    * on well-formed UTF-8 the result is well-formed UTF-8. -/
theorem truncate_spec (str : Bytes) (n : Nat) (oe : Option Bool) :
    (str.length ≤ n → truncate str (truncArgs n oe) = .ok str) ∧
    (n < str.length →
      ∃ k, truncate str (truncArgs n oe) = .ok (str.take k ++ truncEll n (oe.getD true)) ∧
          k ≤ truncCut n (oe.getD true) ∧ (k = 0 ∨ startAt str k) ∧
          (∀ j, k < j → j ≤ truncCut n (oe.getD true) → contAt str j) ∧
          (str.take k ++ truncEll n (oe.getD true)).length ≤ n) ∧
    (∃ out, truncate str (truncArgs n oe) = .ok out ∧ (ValidUtf8 str → ValidUtf8 out)) := by
  have hcut : truncCut n (oe.getD true) ≤ n := by unfold truncCut; split <;> omega
  have hlen : ∀ k, k ≤ truncCut n (oe.getD true) → n < str.length →
      (str.take k ++ truncEll n (oe.getD true)).length ≤ n := by
    intro k hk hl
    simp only [List.length_append, List.length_take]
    unfold truncCut at hk
    unfold truncEll
    by_cases hc : (oe.getD true && decide (n > 3)) = true
    · rw [if_pos hc] at hk ⊢
      simp only [Bool.and_eq_true, decide_eq_true_eq] at hc
      simp only [ellipsisBytes, List.length_cons, List.length_nil]
      omega
    · rw [if_neg hc] at hk ⊢
      simp only [List.length_nil]
      omega
  suffices hcase : _ from ⟨fun hl => by rw [truncate_eq, if_pos hl], hcase, by
    by_cases hl : str.length ≤ n
    · exact ⟨str, by rw [truncate_eq, if_pos hl], id⟩
    · obtain ⟨k, hk, _, hst, _, _⟩ := hcase (by omega)
      refine ⟨_, hk, fun hv => ValidUtf8.append ?_ ?_⟩
      · rcases hst with rfl | hst
        · simp; exact ValidUtf8.nil
        · exact ValidUtf8.take hv k (Or.inr hst)
      · unfold truncEll
        split
        · exact ValidUtf8.seq [46] _ (by decide) (ValidUtf8.seq [46] _ (by decide) (ValidUtf8.seq [46] _ (by decide) ValidUtf8.nil))
        · exact ValidUtf8.nil⟩
  intro hl
  rw [truncate_eq, if_neg (by omega)]
  obtain ⟨k, hs⟩ := scanBack_isSome str (truncCut n (oe.getD true)) (by omega)
  obtain ⟨h1, h2, h3⟩ := scanBack_some str _ k hs
  exact ⟨k, by rw [hs], h1, h2, h3, hlen k h1 hl⟩

/- "héllo" style cases: the cut falls inside é (C3 A9) and moves back to its start -/
example : truncate [104, 195, 169, 108, 108, 111] (truncArgs 2 (some false)) = .ok [104] := by decide
example : truncate [104, 195, 169, 108, 108, 111] (truncArgs 5 none) = .ok [104, 46, 46, 46] := by decide
example : truncate [104, 195, 169] (truncArgs 3 none) = .ok [104, 195, 169] := by decide
/- text that starts with continuation bytes (not UTF-8): the empty prefix -/
example : truncate [128, 128] (truncArgs 1 none) = .ok [] := by decide
example : truncate [183] (truncArgs 0 none) = .ok [] := by decide
example : truncate [128, 128, 128, 128, 128, 128] (truncArgs 5 none) = .ok [46, 46, 46] := by decide
example : ValidUtf8 [104, 195, 169] :=
  ValidUtf8.seq [104] _ (by decide) (ValidUtf8.seq [195, 169] _ (by decide) ValidUtf8.nil)

/-- the JavaScript string escaper of soy (internal/jsescape, `Model/JsEscape2.lean`:
    text/template.JSEscape with astral runes as surrogate pairs), for EVERY table `isPrint`:

    safety, for every byte string (UTF-8 or not) — the output
    * has no control byte (so no LF / CR) and none of  < > & = ,
    * has every ' and " directly behind an escaping backslash, and no dangling backslash,
    * has no raw U+2028 / U+2029;

    round trip, for every well-formed UTF-8 string — the strict evaluator of JavaScript string
    literal text (`Spec.jsUnescape`: four-digit \u escapes, surrogate pairs, \\ \' \"; rejects
    anything unsafe or ill-formed) accepts the output and yields exactly the value. -/
theorem jsEscapeFixed_roundtrip_safe (isPrint : Nat → Bool) (s : Bytes) :
    (∀ b ∈ jsEscapeFixedWith isPrint s, jsByteSafe b = true) ∧
    jsQuotesEscaped (jsEscapeFixedWith isPrint s) = true ∧
    noLineSep (jsEscapeFixedWith isPrint s) = true ∧
    (ValidUtf8 s → jsUnescape (jsEscapeFixedWith isPrint s) = some s) := by
  have h := SoyVerif.Lemmas.JsEscapeB.pieces_ok isPrint s
  refine ⟨h.tok.1, ?_, ?_, fun hv => ?_⟩
  · simpa [jsQuotesEscaped, jsQuotesEscapedGo] using h.tok.2 []
  · simpa [noLineSep] using h.sep []
  · rw [SoyVerif.Lemmas.JsEscapeB.roundtrip_all, SoyVerif.Lemmas.Utf8.sanitize_valid s hv]

/-- … in particular with unicode.IsPrint of the toolchain in use -/
theorem jsEscapeFixed_roundtrip (s : Bytes) (h : ValidUtf8 s) : jsUnescape (jsEscapeFixed s) = some s :=
  (jsEscapeFixed_roundtrip_safe Model.isPrint s).2.2.2 h

/- U+F0000 (private use, not printable): `\uDB80\uDC00`, which evaluates back to F3 B0 80 80;
   text/template.JSEscape writes `\uF0000` = U+F000 followed by "0" -/
example : jsEscapeFixedWith (fun _ => false) [243, 176, 128, 128] =
    [92, 117, 68, 66, 56, 48, 92, 117, 68, 67, 48, 48] := by decide
example : jsUnescape [92, 117, 68, 66, 56, 48, 92, 117, 68, 67, 48, 48] = some [243, 176, 128, 128] := by decide
example : jsUnescape [92, 117, 70, 48, 48, 48, 48] = some [239, 128, 128, 48] := by decide
/- `</script>'` and U+2028 -/
example : jsEscapeFixedWith (fun _ => true) [60, 47, 39, 226, 128, 168] =
    [92, 117, 48, 48, 51, 67, 47, 92, 39, 92, 117, 50, 48, 50, 56] := by decide
/- the evaluator is strict: raw quote, raw <, lone surrogate, five-digit leftovers are what they are -/
example : jsUnescape [39] = none := by decide
example : jsUnescape [60] = none := by decide
example : jsUnescape [92, 117, 68, 56, 48, 48] = none := by decide
example : jsUnescape [226, 128, 168] = none := by decide
example : jsUnescape [195, 169, 92, 92] = some [195, 169, 92] := by decide

end SoyVerif.Props.C16
