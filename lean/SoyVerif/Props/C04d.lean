/-
  C04 — generated JavaScript ≡ Go renderer, COMMAND level (partial).

  The fragment: raw text, `{print}` with directives, `{let $x: e /}`, `{if}/{elseif}/{else}`,
  `{foreach $x in e}…{ifempty}…{/foreach}`, `{for $i in range(a[, b[, c]])}` (c a positive literal),
  `{switch}` (`{default}` last), `{let $x}…{/let}` content blocks (a buffer of their own), `{call}` with value
  params, `{param k}…{/param}` content params and `data="all"` / `data="$e"` (soy.$$augmentMap) — against a CALLEE
  ORACLE: `G name data`, what the generated function `name` returns, related by the hypothesis `CallRel` to the
  `call` of the reference context `R : RefCtx` (registry, entry data, `call` as in Spec/Eval) —, `{msg}` WITHOUT a
  message bundle (the generator then writes the parts one after the other: raw text, HTML
  tags, print and call placeholders, and for a `{plural}` a `switch` on its value; hypothesis `o.messages = none` of the generator theorems),
  `{css}` and `{debugger}` — the expressions of Props/C04c inside them.

  The layers, each a module of its own:
  Props/C04dTr  — `toCmds`, the translation to the statement AST of Spec/JsStmt, and `walkCmds_renders`: the generator model
                  writes EXACTLY its text;
  Props/C04dInv — `refCmds`, the reference semantics (Spec/Eval.renderCmds on the fragment, print directives as the Go renderer
                  applies them, the directive functions uninterpreted symbols `F name args` on JSON images), and the invariants;
  Props/C04dSim — `cmd_sim`, ONE simulation of the emitted statements against `refCmds`; `gen_correct_cmds_partial` is its
                  reading for completed runs, Props/C04e reads the clause for throws;
  Props/C04dLed — `ref_le_spec_cmds` / `spec_le_ref_cmds`: without directives, and `F escapeHtml` read as
                  Spec/Eval.htmlEscape ∘ ToString, `refCmds` IS Spec/Eval.renderCmds.
  This module imports them all and holds the examples.
-/
import SoyVerif.Props.C04dLed

namespace SoyVerif.Props.C04d
open SoyVerif SoyVerif.Model SoyVerif.Model.JsGen SoyVerif.Spec.JsSemRef SoyVerif.Spec.JsStmt
open SoyVerif.Props.C02Spec (eq_of_outCode)
open SoyVerif.Props.C04c (toAst render RunsSc Same walkExpr_renders toJsV EnvRel Globals GlobalsAre IjRel GlobRel)

set_option linter.unusedSectionVars false

section Examples
open SoyVerif.Spec.Eval (Val Out)

/-- the examples are without globals (those with: the last ones) -/
def exGlobals : Globals := ⟨[]⟩
local instance : Globals := exGlobals
local instance : GlobalsAre ({} : Options) := ⟨rfl⟩

theorem exGlobRel (gs : Spec.Eval.Binds) : GlobRel gs := fun _ _ _ h => by
  have : (Globals.tbl : List (Bytes × Value)) = [] := rfl
  rw [this] at h
  simp [assocGet?] at h

/-! The concrete runs below are evaluated by the kernel (`decide +kernel`).  `JVal` and `Out` have no decidable
    equality: a result is first mapped to the text it holds (`strOf`), resp. to an `Option` code (`C02Spec.outCode`). -/

def strOf : Option JVal → Option Bytes
  | some (.str s) => some s
  | _ => none

theorem eq_of_strOf {o : Option JVal} {s : Bytes} (h : strOf o = some s) : o = some (.str s) := by
  unfold strOf at h
  split at h
  · rw [Option.some.inj h]
  · cases h

theorem eq_of_bind_strOf {oo : Option (Option JVal)} {s : Bytes} (h : oo.bind strOf = some s) :
    oo = some (some (.str s)) := by
  cases oo with
  | none => cases h
  | some o => exact congrArg some (eq_of_strOf h)

/-- `{let $x: $a + 1 /}{if $x > 2}big {let $x: '<' /}{$x}{else}small{/if}{$x |truncate:3}` -/
def sampleCmds : CmdList :=
  .cons (.letValue 0 b!"x" (.bin .add 0 (.dataRef 0 b!"a" .nil) (.int 0 1)))
  (.cons (.ifc 0
    (.cons 0 (some (.bin .gt 0 (.dataRef 0 b!"x" .nil) (.int 0 2)))
      (.mk 0 (.cons (.rawText 0 b!"big ") (.cons (.letValue 0 b!"x" (.str 0 b!"'<'" b!"<"))
        (.cons (.print 0 (.dataRef 0 b!"x" .nil) []) .nil))))
      (.cons 0 none (.mk 0 (.cons (.rawText 0 b!"small") .nil)) .nil)))
  (.cons (.print 0 (.dataRef 0 b!"x" .nil) [⟨0, b!"truncate", [.int 0 3]⟩]) .nil))

/-- soy.$$escapeHtml as htmlEscape ∘ ToString; any other library function `f` ↦ "f!" ++ ToString -/
def sampleF (name : Bytes) (_ : List Expr) (jv : JVal) : JOut :=
  match toStr? jv with
  | some s => .val (.str (if name == escapeHtmlName then htmlEscape s else name ++ b!"!" ++ s))
  | none => .unspec

/-- no other template to call -/
def noCall : Callee := fun _ _ _ => .unspec
/-- a reference context without templates, for the entry data `e` -/
def noRefOn (e : Spec.Eval.Binds) : RefCtx := ⟨[], e, fun _ _ => .unspec⟩
def noRef : RefCtx := noRefOn []

theorem noCall_rel (R : RefCtx) : CallRel noCall R := fun _ _ _ _ _ _ _ _ h => by simp [noCall] at h

theorem sampleF_escape : EscapeHtmlIs sampleF := by
  intro jv
  simp only [sampleF]
  cases toStr? jv <;> simp

-- the JavaScript the generator model writes for it (autoescaping on, one level of indentation)
set_option maxRecDepth 8000 in
example : (toCmds .on b!"output" sampleCmds ⟨[[]], 0⟩).map (fun r => printPieces (renderStmts false 1 r.1)) = some
    b!"  var x$1 = ((opt_data.a) + (1));\n  if (((x$1) > (2))) {\n    output += 'big ';\n    var x$2 = '\\u003C';\n    output += soy.$$escapeHtml(x$2);\n  } else {\n    output += 'small';\n  }\n  output += soy.$$escapeHtml(soy.$$truncate(x$1,3,true));\n" := by decide +kernel

def sampleJEnv (a : Int) : JEnv := ⟨[(b!"a", .num a)], none, [(b!"output", .str [])]⟩
def sampleEnv (a : Int) : SEnv := { vars := [(b!"a", .int a)], loops := [], ij := none, globals := [] }

/-- what the statements leave in `output` -/
def sampleRun (a : Int) : Option JVal :=
  match toCmds .on b!"output" sampleCmds ⟨[[]], 0⟩ with
  | some r =>
    (match execStmts sampleF noCall 10 r.1 (sampleJEnv a) with
      | .ok e => (e.locals.find? (·.1 == b!"output")).map (·.2)
      | _ => none)
  | none => none

-- the inner `$x` is the fresh local `x$2`; after the block `$x` is `x$1` again
example : sampleRun 5 = some (.str b!"big &lt;truncate!6") := eq_of_strOf (by decide +kernel)
example : sampleRun 0 = some (.str b!"smalltruncate!1") := eq_of_strOf (by decide +kernel)
example : refCmds sampleF noRef .on sampleCmds (sampleEnv 5) = .val b!"big &lt;truncate!6" := eq_of_outCode (by decide +kernel)
example : refCmds sampleF noRef .on sampleCmds (sampleEnv 0) = .val b!"smalltruncate!1" := eq_of_outCode (by decide +kernel)

/-- the theorem on the sample: for EVERY `a` the statements complete on, the specification's text is
    what `output` holds -/
example (a : Int) (ha : SoyVerif.Spec.JsSem.exact a = true) (jenv' : JEnv) (r : JsStmts × Scope) (h : toCmds .on b!"output" sampleCmds ⟨[[]], 0⟩ = some r)
    (hx : execStmts sampleF noCall 10 r.1 (sampleJEnv a) = .ok jenv') :
    ∃ text, refCmds sampleF (noRefOn (sampleEnv a).vars) .on sampleCmds (sampleEnv a) = .val text ∧
      BufIs b!"output" jenv' text :=
  gen_correct_body_partial sampleF noCall (noRefOn (sampleEnv a).vars) .on (noCall_rel _) sampleCmds 0 r h (sampleEnv a) _ none rfl
    (by simp [sampleEnv, C04c.toJsKvs, C04c.toJsV, ha]) rfl (exGlobRel _) jenv' 10 hx

/-- … and these statements are what the generator model writes: from a state inside a template
    function (indentation 1, buffer `output`, autoescaping on, a fresh frame) -/
example : ∀ r, toCmds .on b!"output" sampleCmds ⟨[[]], 0⟩ = some r →
    ∃ s', walkCmds id {} sampleCmds { indent := 1, bufferName := b!"output", autoescape := .on, scope := ⟨[[]], 0⟩ } =
      .ok ((), renderStmts false 1 r.1, s') ∧ s'.scope = r.2 := by
  intro r h
  obtain ⟨s', h1, h2⟩ := (gen_correct_cmds_partial sampleF noCall noRef .on b!"output" (noCall_rel _) id {} rfl sampleCmds _ r h).1 1
    { indent := 1, bufferName := b!"output", autoescape := .on, scope := ⟨[[]], 0⟩ } ⟨rfl, rfl, rfl, rfl⟩
  exact ⟨s', h1, h2.2.2.2⟩

/-- the semantics has teeth: had the generator reused `x$1` for the inner `{let $x}` (no fresh name:
    a `var` is function-scoped), the print after the `{if}` would see the inner value -/
def badStmts : JsStmts :=
  .cons (.var b!"x$1" (.bin .add (.optData b!"a") (.num 1)))
  (.cons (.ifs (.cons (.bin .gt (.local b!"x$1") (.num 2))
      (.cons (.appendLit b!"output" b!"big ") (.cons (.var b!"x$1" (.str b!"<"))
        (.cons (.append b!"output" (.local b!"x$1") [escapeHtmlDir]) .nil)))
      (.els (.cons (.appendLit b!"output" b!"small") .nil))))
  (.cons (.append b!"output" (.local b!"x$1") [⟨0, b!"truncate", [.int 0 3]⟩, escapeHtmlDir]) .nil))

example : (match execStmts sampleF noCall 10 badStmts (sampleJEnv 5) with
    | .ok e => (e.locals.find? (·.1 == b!"output")).map (·.2)
    | _ => none) = some (.str b!"big &lt;truncate!&lt;") := eq_of_strOf (by decide +kernel)

/-- `{foreach $x in $xs}[{$x}]{let $y: $x + 1 /}{ifempty}none{/foreach}{$x}` — after the loop `$x` is the
    parameter again -/
def sampleLoop : CmdList :=
  .cons (.forc 0 b!"x" (.dataRef 0 b!"xs" .nil)
      (.mk 0 (.cons (.rawText 0 b!"[") (.cons (.print 0 (.dataRef 0 b!"x" .nil) [])
        (.cons (.rawText 0 b!"]") (.cons (.letValue 0 b!"y" (.bin .add 0 (.dataRef 0 b!"x" .nil) (.int 0 1))) .nil)))))
      (some (.mk 0 (.cons (.rawText 0 b!"none") .nil))))
  (.cons (.print 0 (.dataRef 0 b!"x" .nil) []) .nil)

set_option maxRecDepth 8000 in
example : (toCmds .off b!"output" sampleLoop ⟨[[]], 0⟩).map (fun r => printPieces (renderStmts false 1 r.1)) = some
    b!"  var x$List1 = opt_data.xs;\n  var x$Limit1 = x$List1.length;\n  if (x$Limit1 > 0) {\n    for (var x$Index1 = 0; x$Index1 < x$Limit1; x$Index1++) {\n      var x$1 = x$List1[x$Index1];\n      output += '[';\n      output += x$1;\n      output += ']';\n      var y$2 = ((x$1) + (1));\n    }\n  } else {\n    output += 'none';\n  }\n  output += opt_data.x;\n" := by decide +kernel

def loopRun (xs : List JVal) : Option JVal :=
  match toCmds .off b!"output" sampleLoop ⟨[[]], 0⟩ with
  | some r =>
    (match execStmts sampleF noCall 10 r.1 ⟨[(b!"xs", .arr xs), (b!"x", .str b!"p")], none, [(b!"output", .str [])]⟩ with
      | .ok e => (e.locals.find? (·.1 == b!"output")).map (·.2)
      | _ => none)
  | none => none

def loopEnv (xs : List Val) : SEnv :=
  { vars := [(b!"xs", .list xs), (b!"x", .str b!"p")], loops := [], ij := none, globals := [] }

example : loopRun [.num 7, .num 8, .num 9] = some (.str b!"[7][8][9]p") := eq_of_strOf (by decide +kernel)
example : loopRun [] = some (.str b!"nonep") := eq_of_strOf (by decide +kernel)
example : refCmds sampleF noRef .off sampleLoop (loopEnv [.int 7, .int 8, .int 9]) = .val b!"[7][8][9]p" :=
  eq_of_outCode (by decide +kernel)
example : refCmds sampleF noRef .off sampleLoop (loopEnv []) = .val b!"nonep" := eq_of_outCode (by decide +kernel)
-- the loop needs fuel: with too little the run is not a completed one (and the theorem says nothing)
example : (match toCmds .off b!"output" sampleLoop ⟨[[]], 0⟩ with
    | some r => (match execStmts sampleF noCall 2 r.1
        ⟨[(b!"xs", .arr [.num 7, .num 8, .num 9])], none, [(b!"output", .str [])]⟩ with
      | .unspec => true
      | _ => false)
    | none => false) = true := by decide +kernel

/-- `{for $i in range(1, $n, 2)}{$i},{/for}{$i}` — after the loop `$i` is the parameter again -/
def sampleRange : CmdList :=
  .cons (.forc 0 b!"i" (.func 0 b!"range" (.cons (.int 0 1) (.cons (.dataRef 0 b!"n" .nil) (.cons (.int 0 2) .nil))))
      (.mk 0 (.cons (.print 0 (.dataRef 0 b!"i" .nil) []) (.cons (.rawText 0 b!",") .nil))) none)
  (.cons (.print 0 (.dataRef 0 b!"i" .nil) []) .nil)

set_option maxRecDepth 8000 in
example : (toCmds .off b!"output" sampleRange ⟨[[]], 0⟩).map (fun r => printPieces (renderStmts false 1 r.1)) = some
    b!"  var i$Limit1 = opt_data.n;\n  var i$Step1 = 2;\n  for (var i$1 = 1, i$Index1 = 0; i$1 < i$Limit1; i$1 += i$Step1, i$Index1++) {\n    output += i$1;\n    output += ',';\n  }\n  output += opt_data.i;\n" := by decide +kernel

example : (match toCmds .off b!"output" sampleRange ⟨[[]], 0⟩ with
    | some r => (match execStmts sampleF noCall 10 r.1 ⟨[(b!"n", .num 6), (b!"i", .str b!"p")], none, [(b!"output", .str [])]⟩ with
      | .ok e => (e.locals.find? (·.1 == b!"output")).map (·.2)
      | _ => none)
    | none => none) = some (.str b!"1,3,5,p") := eq_of_strOf (by decide +kernel)

example : refCmds sampleF noRef .off sampleRange
    { vars := [(b!"n", .int 6), (b!"i", .str b!"p")], loops := [], ij := none, globals := [] } = .val b!"1,3,5,p" :=
    eq_of_outCode (by decide +kernel)

/-- `{foreach $i in range($n)}[{$i}]{ifempty}nothing{$i}{/foreach}` (soyjs visitForRange) — the `{ifempty}` block after the loop,
    where `$i` is the parameter again -/
def sampleRangeIe : CmdList :=
  .cons (.forc 0 b!"i" (.func 0 b!"range" (.cons (.dataRef 0 b!"n" .nil) .nil))
      (.mk 0 (.cons (.rawText 0 b!"[") (.cons (.print 0 (.dataRef 0 b!"i" .nil) []) (.cons (.rawText 0 b!"]") .nil))))
      (some (.mk 0 (.cons (.rawText 0 b!"nothing") (.cons (.print 0 (.dataRef 0 b!"i" .nil) []) .nil))))) .nil

set_option maxRecDepth 8000 in
example : (toCmds .off b!"output" sampleRangeIe ⟨[[]], 0⟩).map (fun r => printPieces (renderStmts false 1 r.1)) = some
    b!"  var i$Limit1 = opt_data.n;\n  var i$Step1 = 1;\n  for (var i$1 = 0, i$Index1 = 0; i$1 < i$Limit1; i$1 += i$Step1, i$Index1++) {\n    output += '[';\n    output += i$1;\n    output += ']';\n  }\n  if (i$Index1 == 0) {\n    output += 'nothing';\n    output += opt_data.i;\n  }\n" := by
  decide +kernel

def rangeIeRun (n : Int) : Option JVal :=
  match toCmds .off b!"output" sampleRangeIe ⟨[[]], 0⟩ with
  | some r => (match execStmts sampleF noCall 10 r.1 ⟨[(b!"n", .num n), (b!"i", .str b!"p")], none, [(b!"output", .str [])]⟩ with
    | .ok e => (e.locals.find? (·.1 == b!"output")).map (·.2)
    | _ => none)
  | none => none

example : rangeIeRun 0 = some (.str b!"nothingp") := eq_of_strOf (by decide +kernel)
example : rangeIeRun 2 = some (.str b!"[0][1]") := eq_of_strOf (by decide +kernel)
example : refCmds sampleF noRef .off sampleRangeIe
    { vars := [(b!"n", .int 0), (b!"i", .str b!"p")], loops := [], ij := none, globals := [] } = .val b!"nothingp" :=
    eq_of_outCode (by decide +kernel)
example : refCmds sampleF noRef .off sampleRangeIe
    { vars := [(b!"n", .int 2), (b!"i", .str b!"p")], loops := [], ij := none, globals := [] } = .val b!"[0][1]" :=
    eq_of_outCode (by decide +kernel)

/-- `{switch $n}{case 1, 2}low{let $n: 'x' /}{$n}{case 'a'}str{default}other{/switch}{$n}` -/
def sampleSwitch : CmdList :=
  .cons (.switch 0 (.dataRef 0 b!"n" .nil)
    (.cons 0 [.int 0 1, .int 0 2] (.mk 0 (.cons (.rawText 0 b!"low") (.cons (.letValue 0 b!"n" (.str 0 b!"'x'" b!"x"))
        (.cons (.print 0 (.dataRef 0 b!"n" .nil) []) .nil))))
      (.cons 0 [.str 0 b!"'a'" b!"a"] (.mk 0 (.cons (.rawText 0 b!"str") .nil))
        (.cons 0 [] (.mk 0 (.cons (.rawText 0 b!"other") .nil)) .nil))))
  (.cons (.print 0 (.dataRef 0 b!"n" .nil) []) .nil)

set_option maxRecDepth 8000 in
example : (toCmds .off b!"output" sampleSwitch ⟨[[]], 0⟩).map (fun r => printPieces (renderStmts false 1 r.1)) = some
    b!"  switch (opt_data.n) {\n    case 1:\n    case 2:\n      output += 'low';\n      var n$1 = 'x';\n      output += n$1;\n      break;\n    case 'a':\n      output += 'str';\n      break;\n    default:\n      output += 'other';\n      break;\n  }\n  output += opt_data.n;\n" := by decide +kernel

def switchRun (n : JVal) : Option JVal :=
  match toCmds .off b!"output" sampleSwitch ⟨[[]], 0⟩ with
  | some r =>
    (match execStmts sampleF noCall 10 r.1 ⟨[(b!"n", n)], none, [(b!"output", .str [])]⟩ with
      | .ok e => (e.locals.find? (·.1 == b!"output")).map (·.2)
      | _ => none)
  | none => none

example : switchRun (.num 2) = some (.str b!"lowx2") := eq_of_strOf (by decide +kernel)
example : switchRun (.str b!"a") = some (.str b!"stra") := eq_of_strOf (by decide +kernel)
example : switchRun (.bool true) = some (.str b!"othertrue") := eq_of_strOf (by decide +kernel)
example : refCmds sampleF noRef .off sampleSwitch { vars := [(b!"n", .int 2)], loops := [], ij := none, globals := [] } =
    .val b!"lowx2" := eq_of_outCode (by decide +kernel)

/-- `a{let $x}<{$n}{let $n}in{/let}{$n}>{/let}b{$x}{$n}` — the inner `{let $n}` is visible in the content block only -/
def sampleContent : CmdList :=
  .cons (.rawText 0 b!"a")
  (.cons (.letContent 0 b!"x" (.mk 0 (.cons (.rawText 0 b!"<") (.cons (.print 0 (.dataRef 0 b!"n" .nil) [])
      (.cons (.letContent 0 b!"n" (.mk 0 (.cons (.rawText 0 b!"in") .nil)))
        (.cons (.print 0 (.dataRef 0 b!"n" .nil) []) (.cons (.rawText 0 b!">") .nil)))))))
  (.cons (.rawText 0 b!"b") (.cons (.print 0 (.dataRef 0 b!"x" .nil) []) (.cons (.print 0 (.dataRef 0 b!"n" .nil) []) .nil))))

set_option maxRecDepth 8000 in
example : (toCmds .off b!"output" sampleContent ⟨[[]], 0⟩).map (fun r => printPieces (renderStmts false 1 r.1)) = some
    b!"  output += 'a';\n  var x$1 = '';\n  x$1 += '\\u003C';\n  x$1 += opt_data.n;\n  var n$2 = '';\n  n$2 += 'in';\n  x$1 += n$2;\n  x$1 += '\\u003E';\n  output += 'b';\n  output += x$1;\n  output += opt_data.n;\n" := by decide +kernel

example : (match toCmds .off b!"output" sampleContent ⟨[[]], 0⟩ with
    | some r => (match execStmts sampleF noCall 10 r.1 ⟨[(b!"n", .num 7)], none, [(b!"output", .str [])]⟩ with
      | .ok e => (e.locals.find? (·.1 == b!"output")).map (·.2)
      | _ => none)
    | none => none) = some (.str b!"ab<7in>7") := eq_of_strOf (by decide +kernel)

example : refCmds sampleF noRef .off sampleContent { vars := [(b!"n", .int 7)], loops := [], ij := none, globals := [] } =
    .val b!"ab<7in>7" := eq_of_outCode (by decide +kernel)

/-- `{for $i in range(1, 4)}{index($i)}{isFirst($i) ? 'F' : ''}{isLast($i) ? 'L' : ''},{/for}` and the same over a list —
    the example of ed89aa1: index counts iterations (0, 1, 2), not the values 1, 2, 3 -/
def sampleLoopFns (list : Expr) : CmdList :=
  .cons (.forc 0 b!"i" list
      (.mk 0 (.cons (.print 0 (.func 0 b!"index" (.cons (.dataRef 0 b!"i" .nil) .nil)) [])
        (.cons (.print 0 (.tern 0 (.func 0 b!"isFirst" (.cons (.dataRef 0 b!"i" .nil) .nil)) (.str 0 b!"'F'" b!"F") (.str 0 b!"''" [])) [])
        (.cons (.print 0 (.tern 0 (.func 0 b!"isLast" (.cons (.dataRef 0 b!"i" .nil) .nil)) (.str 0 b!"'L'" b!"L") (.str 0 b!"''" [])) [])
        (.cons (.rawText 0 b!",") .nil))))) none) .nil

def rangeList : Expr := .func 0 b!"range" (.cons (.int 0 1) (.cons (.int 0 4) .nil))

set_option maxRecDepth 8000 in
example : (toCmds .off b!"output" (sampleLoopFns rangeList) ⟨[[]], 0⟩).map (fun r => printPieces (renderStmts false 1 r.1)) = some
    b!"  var i$Limit1 = 4;\n  var i$Step1 = 1;\n  for (var i$1 = 1, i$Index1 = 0; i$1 < i$Limit1; i$1 += i$Step1, i$Index1++) {\n    output += i$Index1;\n    output += (((i$Index1 == 0)) ?'F':'');\n    output += (((i$1 + i$Step1 >= i$Limit1)) ?'L':'');\n    output += ',';\n  }\n" := by decide +kernel

def loopFnsRun (list : Expr) (data : List (Bytes × JVal)) : Option JVal :=
  match toCmds .off b!"output" (sampleLoopFns list) ⟨[[]], 0⟩ with
  | some r =>
    (match execStmts sampleF noCall 10 r.1 ⟨data, none, [(b!"output", .str [])]⟩ with
      | .ok e => (e.locals.find? (·.1 == b!"output")).map (·.2)
      | _ => none)
  | none => none

example : loopFnsRun rangeList [] = some (.str b!"0F,1,2L,") := eq_of_strOf (by decide +kernel)
example : refCmds sampleF noRef .off (sampleLoopFns rangeList) { vars := [], loops := [], ij := none, globals := [] } =
    .val b!"0F,1,2L," := eq_of_outCode (by decide +kernel)
example : loopFnsRun (.dataRef 0 b!"xs" .nil) [(b!"xs", .arr [.str b!"a", .str b!"b"])] = some (.str b!"0F,1L,") :=
  eq_of_strOf (by decide +kernel)
example : refCmds sampleF noRef .off (sampleLoopFns (.dataRef 0 b!"xs" .nil))
    { vars := [(b!"xs", .list [.str b!"a", .str b!"b"])], loops := [], ij := none, globals := [] } = .val b!"0F,1L," :=
    eq_of_outCode (by decide +kernel)

/-- `[{call sem.c data="all"}{param p: $a + 1 /}{param c}<{$a}>{/param}{/call}]` -/
def sampleCall : CmdList :=
  .cons (.rawText 0 b!"[") (.cons (.call 0 b!"sem.c" true none
    (.value 0 b!"p" (.bin .add 0 (.dataRef 0 b!"a" .nil) (.int 0 1))
      (.content 0 b!"c" (.mk 0 (.cons (.rawText 0 b!"<") (.cons (.print 0 (.dataRef 0 b!"a" .nil) []) (.cons (.rawText 0 b!">") .nil)))) .nil)))
    (.cons (.rawText 0 b!"]") .nil))

-- the content param is rendered into `param$1` first; the call's data is `opt_data` with the params laid over it
set_option maxRecDepth 8000 in
example : (toCmds .on b!"output" sampleCall ⟨[[]], 0⟩).map (fun r => printPieces (renderStmts false 1 r.1)) = some
    b!"  output += '[';\n  var param$1 = '';\n  param$1 += '\\u003C';\n  param$1 += soy.$$escapeHtml(opt_data.a);\n  param$1 += '\\u003E';\n  output += sem.c(soy.$$augmentMap(opt_data, {p: ((opt_data.a) + (1)), c: param$1}), opt_sb, opt_ijData);\n  output += ']';\n" := by decide +kernel

/-- a callee oracle: the function `sem.c` returns `p:c:a` of its data object (`{$p}:{$c|noAutoescape}:{$a}`) -/
def sampleG : Callee := fun name d _ =>
  if name == b!"sem.c" then
    match d with
    | .obj jd =>
      (match prop jd b!"p", prop jd b!"c", prop jd b!"a" with
        | .num p, .str c, .num a => .val (.str (F64.intDigits p ++ b!":" ++ c ++ b!":" ++ F64.intDigits a))
        | _, _, _ => .unspec)
    | _ => .unspec
  else .unspec

def sampleTmpl : Registry.Tmpl := { (default : Registry.Tmpl) with name := b!"sem.c" }

/-- … and the reference's `call` for it: the template `sem.c` renders `p:c:a` of the data it is entered with -/
def sampleR (entry : Spec.Eval.Binds) : RefCtx :=
  ⟨[sampleTmpl], entry, fun _ ce =>
    match Spec.Eval.find ce.entry b!"p", Spec.Eval.find ce.entry b!"c", Spec.Eval.find ce.entry b!"a" with
    | some (.int p), some (.str c), some (.int a) => .val (F64.intDigits p ++ b!":" ++ c ++ b!":" ++ F64.intDigits a)
    | _, _, _ => .error⟩

theorem find_of_getD {b : Spec.Eval.Binds} {k : Bytes} {v : Val} (h : (Spec.Eval.find b k).getD .undefined = v)
    (hv : v ≠ .undefined) : Spec.Eval.find b k = some v := by
  cases hf : Spec.Eval.find b k with
  | none => rw [hf] at h; exact absurd h.symm hv
  | some w => rw [hf] at h; exact congrArg some h

/-- the oracle pair satisfies the hypothesis of the call theorems -/
theorem sampleG_rel (entry : Spec.Eval.Binds) : CallRel sampleG (sampleR entry) := by
  intro name ce jd jij r hj _ _ hg
  unfold sampleG at hg
  split at hg
  · rename_i hn
    have hn' : name = b!"sem.c" := by simpa using hn
    subst hn'
    simp only at hg
    have hp := C04c.toJsKvs_find ce.entry jd b!"p" hj
    have hc := C04c.toJsKvs_find ce.entry jd b!"c" hj
    have ha := C04c.toJsKvs_find ce.entry jd b!"a" hj
    split at hg
    · rename_i p c a h1 h2 h3
      simp only [JOut.val.injEq] at hg; subst hg
      rw [h1] at hp; rw [h2] at hc; rw [h3] at ha
      have e1 := find_of_getD (C04c.toJsV_num hp).1 (by simp)
      have e2 := find_of_getD (C04c.toJsV_str hc) (by simp)
      have e3 := find_of_getD (C04c.toJsV_num ha).1 (by simp)
      exact ⟨sampleTmpl, _, rfl, by simp only [sampleR, e1, e2, e3], rfl⟩
    · cases hg
  · cases hg

def callRun (a : Int) : Option JVal :=
  match toCmds .on b!"output" sampleCall ⟨[[]], 0⟩ with
  | some r =>
    (match execStmts sampleF sampleG 10 r.1 ⟨[(b!"a", .num a)], none, [(b!"output", .str [])]⟩ with
      | .ok e => (e.locals.find? (·.1 == b!"output")).map (·.2)
      | _ => none)
  | none => none

example : callRun 5 = some (.str b!"[6:<5>:5]") := eq_of_strOf (by decide +kernel)
example : refCmds sampleF (sampleR [(b!"a", .int 5)]) .on sampleCall (sampleEnv 5) = .val b!"[6:<5>:5]" := eq_of_outCode (by decide +kernel)

/-- the theorem on the sample, for every `a`: what the JavaScript leaves in `output` is what the reference renders -/
example (a : Int) (jenv' : JEnv) (r : JsStmts × Scope) (h : toCmds .on b!"output" sampleCall ⟨[[]], 0⟩ = some r)
    (ha : SoyVerif.Spec.JsSem.exact a = true)
    (hx : execStmts sampleF sampleG 10 r.1 (sampleJEnv a) = .ok jenv') :
    ∃ text, refCmds sampleF (sampleR (sampleEnv a).vars) .on sampleCall (sampleEnv a) = .val text ∧
      BufIs b!"output" jenv' text :=
  gen_correct_body_partial sampleF sampleG (sampleR (sampleEnv a).vars) .on (sampleG_rel _) sampleCall 0 r h (sampleEnv a) _ none rfl
    (by simp [sampleEnv, C04c.toJsKvs, C04c.toJsV, ha]) rfl (exGlobRel _) jenv' 10 hx

/-- the semantics of the call has teeth: were the params laid UNDER the data (`augmentMap` the other way round), a
    param could not override a key of `data="all"` -/
example : (match execStmts sampleF sampleG 10
      (.cons (.call b!"output" b!"sem.c" .all [(b!"c", .str b!"x"), (b!"p", .num 1), (b!"a", .num 9)]) .nil)
      ⟨[(b!"a", .num 5)], none, [(b!"output", .str [])]⟩ with
    | .ok e => (e.locals.find? (·.1 == b!"output")).map (·.2)
    | _ => none) = some (.str b!"1:x:9") := eq_of_strOf (by decide +kernel)

/-- `{msg desc="d"}Hi <b>{$a}</b>, {$a + 1}!{/msg}` — without a bundle: the parts in order -/
def sampleMsg : CmdList :=
  .cons (.msg 0 7 [] b!"d" 0
    (.text 0 b!"Hi " (.ph 0 b!"START_BOLD" (.htmlTag 0 b!"<b>") (.ph 0 b!"A" (.cmd (.print 0 (.dataRef 0 b!"a" .nil) []))
      (.ph 0 b!"END_BOLD" (.htmlTag 0 b!"</b>") (.text 0 b!", "
        (.ph 0 b!"XXX" (.cmd (.print 0 (.bin .add 0 (.dataRef 0 b!"a" .nil) (.int 0 1)) [])) (.text 0 b!"!" .nil)))))))) .nil

set_option maxRecDepth 8000 in
example : (toCmds .on b!"output" sampleMsg ⟨[[]], 0⟩).map (fun r => printPieces (renderStmts false 1 r.1)) = some
    b!"  output += 'Hi ';\n  output += '\\u003Cb\\u003E';\n  output += soy.$$escapeHtml(opt_data.a);\n  output += '\\u003C/b\\u003E';\n  output += ', ';\n  output += soy.$$escapeHtml(((opt_data.a) + (1)));\n  output += '!';\n" := by decide +kernel

example : (match toCmds .on b!"output" sampleMsg ⟨[[]], 0⟩ with
    | some r => (match execStmts sampleF noCall 10 r.1 (sampleJEnv 5) with
      | .ok e => (e.locals.find? (·.1 == b!"output")).map (·.2)
      | _ => none)
    | none => none) = some (.str b!"Hi <b>5</b>, 6!") := eq_of_strOf (by decide +kernel)

example : refCmds sampleF noRef .on sampleMsg (sampleEnv 5) = .val b!"Hi <b>5</b>, 6!" := eq_of_outCode (by decide +kernel)

-- … and Spec/Eval.renderCmds (no bundle) renders the same
example : Spec.Eval.renderCmds [] false true [] (fun _ _ => .unspec) none sampleMsg (sampleEnv 5) = .val b!"Hi <b>5</b>, 6!" :=
  eq_of_outCode (by decide +kernel)

/-- `{msg desc="d"}{plural $a}{case 1}one{case 5}five {$a}{default}many{/plural}!{/msg}` -/
def samplePlural : CmdList :=
  .cons (.msg 0 7 [] b!"d" 0
    (.plural 0 b!"A" (.dataRef 0 b!"a" .nil)
      (.cons 0 1 0 (.text 0 b!"one" .nil) (.cons 0 5 0 (.text 0 b!"five " (.ph 0 b!"A" (.cmd (.print 0 (.dataRef 0 b!"a" .nil) [])) .nil)) .nil))
      0 (.text 0 b!"many" .nil) (.text 0 b!"!" .nil))) .nil

set_option maxRecDepth 8000 in
example : (toCmds .off b!"output" samplePlural ⟨[[]], 0⟩).map (fun r => printPieces (renderStmts false 1 r.1)) = some
    b!"  switch (opt_data.a) {\n    case 1:\n      output += 'one';\n      break;\n    case 5:\n      output += 'five ';\n      output += opt_data.a;\n      break;\n    default:\n      output += 'many';\n  }\n  output += '!';\n" := by
  decide +kernel

def pluralRun (a : JVal) : Option SRes :=
  (toCmds .off b!"output" samplePlural ⟨[[]], 0⟩).map fun r =>
    execStmts sampleF noCall 10 r.1 ⟨[(b!"a", a)], none, [(b!"output", .str [])]⟩

example : (pluralRun (.num 5)).map (fun r => match r with
    | .ok e => (e.locals.find? (·.1 == b!"output")).map (·.2)
    | _ => none) = some (some (.str b!"five 5!")) := eq_of_bind_strOf (by decide +kernel)
example : (pluralRun (.num 2)).map (fun r => match r with
    | .ok e => (e.locals.find? (·.1 == b!"output")).map (·.2)
    | _ => none) = some (some (.str b!"many!")) := eq_of_bind_strOf (by decide +kernel)
example : refCmds sampleF noRef .off samplePlural (sampleEnv 5) = .val b!"five 5!" := eq_of_outCode (by decide +kernel)
example : refCmds sampleF noRef .off samplePlural (sampleEnv 2) = .val b!"many!" := eq_of_outCode (by decide +kernel)
-- a plural over a string: Soy (Tofu, Spec/Eval) stops with an error, JavaScript takes the default clause — the
-- semantics is SILENT there (`unspec`)
example : (pluralRun (.str b!"5")).map (fun r => match r with | .unspec => true | _ => false) = some true := by decide +kernel
example : refCmds sampleF noRef .off samplePlural { vars := [(b!"a", .str b!"5")], loops := [], ij := none, globals := [] } = .error :=
  eq_of_outCode (by decide +kernel)

end Examples

section ExamplesGlobals
open SoyVerif.Spec.Eval (Val Out)

/-- one compile-time global: `G_I` = 42 -/
local instance : Globals := ⟨[(b!"G_I", .int 42)]⟩

/-- `{$ij.a + G_I}|{$ij.q?.z}` -/
def sampleIj : CmdList :=
  .cons (.print 0 (.bin .add 0 (.dataRef 0 b!"ij" (.cons (.key 0 false b!"a") .nil)) (.global 0 b!"G_I")) [])
  (.cons (.rawText 0 b!"|")
  (.cons (.print 0 (.dataRef 0 b!"ij" (.cons (.key 0 false b!"q") (.cons (.key 0 true b!"z") .nil))) []) .nil))

-- the global is the literal the generator writes; `$ij` is the third parameter
example : (toCmds .off b!"output" sampleIj ⟨[[]], 0⟩).map (fun r => printPieces (renderStmts false 1 r.1)) = some
    b!"  output += ((opt_ijData.a) + (42));\n  output += '|';\n  output += ((opt_ijData.q == null) ? null : opt_ijData.q.z);\n" := by
  decide +kernel

example : (match walkCmds id { globals := [(b!"G_I", .int 42)] } sampleIj
      { indent := 1, bufferName := b!"output", autoescape := .off, scope := ⟨[[]], 0⟩ } with
    | .ok (_, ps, _) => some (printPieces ps)
    | .error _ => none) = (toCmds .off b!"output" sampleIj ⟨[[]], 0⟩).map (fun r => printPieces (renderStmts false 1 r.1)) := by
  decide +kernel

example : (match toCmds .off b!"output" sampleIj ⟨[[]], 0⟩ with
    | some r => (match execStmts sampleF noCall 10 r.1 ⟨[], some [(b!"a", .num 1), (b!"q", .obj [(b!"z", .num 9)])], [(b!"output", .str [])]⟩ with
      | .ok e => (e.locals.find? (·.1 == b!"output")).map (·.2)
      | _ => none)
    | none => none) = some (.str b!"43|9") := eq_of_strOf (by decide +kernel)

example : refCmds sampleF noRef .off sampleIj
    { vars := [], loops := [], ij := some [(b!"a", .int 1), (b!"q", .map [(b!"z", .int 9)])], globals := [(b!"G_I", .int 42)] } =
    .val b!"43|9" := eq_of_outCode (by decide +kernel)

end ExamplesGlobals

/-! ## what remains outside the theorems

  No theorem at the command level covers: `range` with a computed step, `{call}` to a `{deltemplate}` (`{delcall}`),
  `{msg}` with a message bundle (translated parts), `{log}` (its scratch buffer `output_` is a plain name: the
  `Keeps` / `Old` discipline — only the output variable and names generated LATER change — has no room for it), `$ij` in a
  function called without injected data, globals that are floats / lists / maps, print directives with non-literal
  arguments, and the file level above the functions (namespace declarations, goog.provide / ES6 imports — covered for
  SHAPE by C14, not for meaning; the functions themselves: Props/C04f). -/

end SoyVerif.Props.C04d
