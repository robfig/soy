/-
  C05 (lexer part): lexing any input terminates with a token list, never panics.

  `lexAll input exprMode` is the model of `lex(name, input)` / `lexExpr(name, input)` run to
  the closing of the channel (Model/Lexer.lean; tied to /repo/parse/lexer.go by the C05lex
  correspondence).  For EVERY byte string and both entry points:

  * `lex_no_panic` — the result is never `panic`: no slice or index expression of the lexer
    (`l.input[l.start:l.pos]` in emit, `l.input[l.pos:]` in next, the `l.pos -= 2`, `l.pos--`,
    `l.start++`, `l.pos = lastNonSpace` adjustments, `l.input[l.start]` in scanNumber, …) is
    ever out of range;
  * `lex_total` — the result is never `fuelOut`: the budget `fuelFor |input| = 7·|input| + 8`
    of state transitions is never used up (the scanning loops inside the state functions
    terminate by construction: Lean accepted them with the measure `|input| − pos`);
  * `lex_items` — hence the result is a list of items, its last item is the EOF item or
    an Error item (what the parser relies on to stop), and every item (Error items included:
    `errorf` at `l.pos`, `errorfAt` at `l.start` / `docStart` / `l.tagStart`) is positioned
    inside the input (what line/column computation relies on: `l.input[:pos]`);
  * `lexAll_items` — all of it read off a result `lexAll … = .items is`; `lex_items_slice`, `lexAll_items_le`,
    `lexAll_vals_le` are its readings.

  Proof: every state function keeps `0 ≤ start ≤ pos ≤ |input|` and decreases the measure
  `phi` (Lemmas/Lexer*.lean, `step_ok`).
-/
import SoyVerif.Lemmas.LexerText

namespace SoyVerif.Props.C05
open SoyVerif SoyVerif.Model SoyVerif.Model.Lex

def EndsWithEofOrError (is : List Item) : Prop :=
  ∃ it, is.getLast? = some it ∧ (it.typ = .tEOF ∨ it.typ = .tError)

def PosBounded (n : Int) (is : List Item) : Prop := ∀ it ∈ is, (it.pos : Int) ≤ n

/-- `Lexer.mp`, a fold of `max` so that a step updates it by rewriting, read back as a bound on every position -/
theorem foldl_max_ge (xs : List Item) : ∀ init : Nat, init ≤ xs.foldl (fun m it => max m it.pos) init ∧
    ∀ x ∈ xs, x.pos ≤ xs.foldl (fun m it => max m it.pos) init := by
  induction xs with
  | nil => intro init; simp
  | cons y r ih =>
    intro init
    simp only [List.foldl_cons, List.mem_cons]
    have := ih (max init y.pos)
    refine ⟨by omega, ?_⟩
    intro x hx
    rcases hx with rfl | hx
    · omega
    · exact this.2 x hx

theorem run_items (n : Int) : ∀ (fuel : Nat) (s : St) (l : Lexer), Good n l → Extra s l → phi n s l < fuel →
    ∃ is, run fuel s l = .items is ∧ EndsWithEofOrError is ∧ PosBounded n is ∧
      (∀ it ∈ is.dropLast, itemOK it = true ∧ sliceOK l.input it = true) ∧
      (∀ it, is.getLast? = some it → it.typ = .tError → ErrItemOK l.input it) ∧
      (is.length : Int) ≤ 2 * n + 1 ∧ (((is.map (·.val.length)).sum : Nat) : Int) ≤ n + 1 := by
  intro fuel
  induction fuel with
  | zero => intro s l _ _ h; exact absurd h (Nat.not_lt_zero _)
  | succ f ih =>
    intro s l hg hx hphi
    obtain ⟨⟨s', l'⟩, hstep, hpost⟩ := step_ok s hg hx
    unfold run
    rw [hstep]
    cases s' with
    | none =>
      obtain ⟨⟨it, hb, ht⟩, ⟨hmp, hcnt, htot⟩, hbad, herr⟩ := hpost.2.1 rfl
      have hin : l'.input = l.input := hpost.2.2
      refine ⟨_, rfl, ⟨it, by simpa using hb, ht⟩, ?_, ?_, ?_, by simpa [Lexer.cnt] using hcnt, htot⟩
      rotate_left 2
      · intro it' hl' ht'
        rw [← hin]
        exact herr it' (by simpa using hl') ht'
      · intro x hx
        have := (foldl_max_ge l'.items.toList 0).2 x hx
        have hmp' : ((Lexer.mp l' : Nat) : Int) ≤ n := hmp
        unfold Lexer.mp at hmp'
        omega
      · intro x hx
        have hbad' : Lexer.badInit l' = 0 := hbad
        unfold Lexer.badInit at hbad'
        have hnil := List.eq_nil_of_length_eq_zero hbad'
        rw [← hin]
        by_cases hok : (itemOK x && sliceOK l'.input x) = true
        · simpa using hok
        · have : x ∈ List.filter (fun it => !(itemOK it && sliceOK l'.input it)) l'.items.toList.dropLast := by
            simp only [List.mem_filter]
            refine ⟨hx, ?_⟩
            cases hb : (itemOK x && sliceOK l'.input x)
            · rfl
            · exact absurd hb hok
          rw [hnil] at this
          exact absurd this (by simp)
    | some s'' =>
      obtain ⟨⟨hg', hx'⟩, hlt⟩ := hpost.1 s'' rfl
      have hin : l'.input = l.input := hpost.2.2
      dsimp only at hg' hx' hlt
      obtain ⟨is, h1, h2, h3, h4, h5, h6, h7⟩ := ih s'' l' hg' hx' (by omega)
      exact ⟨is, h1, h2, h3, by rw [← hin]; exact h4, by rw [← hin]; exact h5, h6, h7⟩

theorem init_good (input : Bytes) : Good (input.length : Int) (initLexer input) := by
  have h0 : (0 : Int) ≤ input.length := Int.natCast_nonneg _
  refine ⟨⟨rfl, ?_, Int.le_refl 0, h0, Int.le_refl 0, h0, rfl, h0, rfl⟩, Int.le_refl 0, Int.le_refl 0, h0⟩
  simp [initLexer, Lexer.len]

theorem init_extra (input : Bytes) (exprMode : Bool) :
    Extra (if exprMode then .insideTag else .text) (initLexer input) := by
  cases exprMode
  · trivial
  · exact rfl

theorem phi_init (input : Bytes) (s : St) :
    phi (input.length : Int) s (initLexer input) < fuelFor input.length := by
  have := rank_le s
  have hp : (initLexer input).pos = 0 := rfl
  unfold phi fuelFor
  rw [hp]
  omega

/-- what `run_items` says of `lexAll`, read off a result -/
theorem lexAll_items {input : Bytes} {exprMode : Bool} {is : List Item} (h : lexAll input exprMode = .items is) :
    EndsWithEofOrError is ∧ PosBounded input.length is ∧
      (∀ it ∈ is.dropLast, itemOK it = true ∧ sliceOK input.toArray it = true) ∧
      (∀ it, is.getLast? = some it → it.typ = .tError → ErrItemOK input.toArray it) ∧
      (is.length : Int) ≤ 2 * input.length + 1 ∧ (((is.map (·.val.length)).sum : Nat) : Int) ≤ input.length + 1 := by
  unfold lexAll at h
  obtain ⟨is', h1, hr⟩ := run_items _ _ _ _ (init_good input) (init_extra input exprMode) (phi_init input _)
  rw [h] at h1
  cases h1
  exact hr

/-- lexing always ends with a list of items: its last item is EOF or Error, every item is positioned inside the input,
    every item but the last is long enough for the slices the parser takes of it, and an Error item at the end stands
    where `ErrItemOK` says -/
theorem lex_items (input : Bytes) (exprMode : Bool) :
    ∃ is, lexAll input exprMode = .items is ∧ EndsWithEofOrError is ∧ PosBounded input.length is ∧
      (∀ it ∈ is.dropLast, itemOK it = true) ∧
      (∀ it, is.getLast? = some it → it.typ = .tError → ErrItemOK input.toArray it) := by
  obtain ⟨is, h, _⟩ := run_items _ _ _ _ (init_good input) (init_extra input exprMode) (phi_init input _)
  have h : lexAll input exprMode = .items is := h
  obtain ⟨h2, h3, h4, h5, _⟩ := lexAll_items h
  exact ⟨is, h, h2, h3, fun it hm => (h4 it hm).1, h5⟩

/-- the lexer sends at most `2·|input| + 1` items (tokens, and the EOF or Error item that ends the
    stream): every token but a few is a non-empty piece of the input, and the empty ones (the name of a
    `@param` without one, the type of a `{@param a:}`, the body of `{css}`) stand behind at least
    one byte that no other token pays for -/
theorem lexAll_items_le (input : Bytes) (exprMode : Bool) (is : List Item)
    (h : lexAll input exprMode = .items is) : is.length ≤ 2 * input.length + 1 := by
  have := (lexAll_items h).2.2.2.2.1
  omega

/-- the values of all items together are at most `|input| + 1` bytes: the tokens are DISJOINT pieces of
    the input (each one is the piece that ends at its position, `lex_items_slice`, and begins where the
    one before ended or later); the `+ 1` is the one-byte class code the model keeps in an Error item -/
theorem lexAll_vals_le (input : Bytes) (exprMode : Bool) (is : List Item)
    (h : lexAll input exprMode = .items is) : (is.map (·.val.length)).sum ≤ input.length + 1 := by
  have := (lexAll_items h).2.2.2.2.2
  omega

/-- every token but the last (EOF / Error) carries as its value the piece of the input that ends
    at its position: `it.val = input[it.pos - |it.val| .. it.pos)` -/
theorem lex_items_slice (input : Bytes) (exprMode : Bool) (is : List Item)
    (h : lexAll input exprMode = .items is) :
    ∀ it ∈ is.dropLast, it.val.length ≤ it.pos ∧ it.pos ≤ input.length ∧
      it.val = (input.drop (it.pos - it.val.length)).take it.val.length := by
  obtain ⟨_, h3, h4, _⟩ := lexAll_items h
  intro it hm
  have hs := (h4 it hm).2
  have hb : (it.pos : Int) ≤ input.length := h3 it (List.dropLast_subset _ hm)
  simp only [sliceOK] at hs
  have hs := of_decide_eq_true hs
  have hlen := congrArg List.length hs
  simp only [Array.length_toList, Array.size_extract, List.size_toArray] at hlen
  refine ⟨by omega, by omega, ?_⟩
  conv => lhs; rw [hs]
  simp only [List.extract_toArray, List.extract_eq_take_drop]
  congr 1; omega

/-- the lexer never runs out of its budget of state transitions: it terminates -/
theorem lex_total (input : Bytes) (exprMode : Bool) : lexAll input exprMode ≠ .fuelOut := by
  obtain ⟨is, h, _⟩ := lex_items input exprMode
  rw [h]; simp

/-- no Go runtime panic (slice / index out of range) in the lexer, on any input -/
theorem lex_no_panic (input : Bytes) (exprMode : Bool) : lexAll input exprMode ≠ .panic := by
  obtain ⟨is, h, _⟩ := lex_items input exprMode
  rw [h]; simp

end SoyVerif.Props.C05
