/-
  C01 — Expressions evaluate exactly as the Soy language defines.

  `eval_refines_spec_partial` / `eval_refines_spec_ordering`: on the fragment below the interpreter model
  (Model/Eval.lean `evalE`, which is tied to soyhtml/exec.go by the C01eval correspondence) refines the
  denotational semantics of Appendix A (Spec/Eval.lean `eval`): wherever the specification gives a value the
  model gives the same value (`absV`: identities of lists / maps dropped, int64 read as an integer, nested
  values related member by member), and wherever the specification gives an error the model gives an error.
  Where the specification is open (`unspec`: int overflow, division by zero, float print form outside the
  pinned window, `==` with an undefined operand or on two collections — identity —, `.N` or a non-string
  key on a map, printing a map with two or more entries, …) nothing is claimed.

  The fragment (`frag` / `fragO true false`), nested arbitrarily, over environments binding ANY values (scalars,
  lists, maps, nested):
    * null / boolean / integer (within int64) / float / string literals, globals;
    * variable references and `$ij` WITH ACCESS CHAINS: `$x`, `.k`, `.N`, `[e]` and the null-safe `?.k`, `?[e]`, on maps
      and lists — including the error cases (an access on null / undefined / a scalar, a key on a list, a
      non-integer index) and the values (`undefined` for an absent key or an index past the end, `null`
      for a null-safe LAST access on null / undefined);
    * list literals and map literals (pairwise different keys) as VALUES;
    * `not`, unary minus, `and`, `or`, `?:`, the ternary, `==`, `!=`, `+` (integer, float, string
      concatenation — of any printable values, lists included), `-`, `*`, `/`, `%`; `< > <= >=` in
      `eval_refines_spec_ordering` (`ordExact` is a theorem);
    * the builtins isNonnull, length, strContains, hasData, range, min, max, keys (sorted, on both sides),
      augmentMap, floor and ceiling (`Lemmas/FuncRefine.lean`; floor / ceiling of a float: `Lemmas/F64Floor.lean`).

  Outside — why the theorems keep `_partial`:
    * variables whose name ends in a loop's bookkeeping suffix (`x.index`, `x.lastIndex`; no variable name
      contains a '.', so this excludes nothing a parser produces).  The loop functions index / isFirst /
      isLast are inside under `LoopRel` (`eval_refines_spec_loops`, `fragO true true`), which bounds the loop
      length by 2^63: the specification's `index($x)` is an unbounded integer, the interpreter's an int64;
    * `round`: it needs exactness lemmas about the soft-float (decode ∘ round-to-nearest on integers below
      2^53, exact products by powers of ten) that are not proved;
    * `randomInt` (a PRNG);
    * a map literal whose TREE repeats a key — no parser produces one: `parseMapLiteral` keeps the last value
      of a repeated key and the tree is sorted by key (`mapFragO_of_sorted`).
  These stay decided by the exhaustive C01eval matrix against Spec.eval.

  The induction (`eval_meets`, `acc_meets`, `args_meets`, `map_meets`) is stated with `Out.Meets`
  (Lemmas/OutMeets.lean: a value is matched, an error is an error, an open case demands nothing) and passes each
  node once, `EMeets.then` joining the specification's `bind` with the interpreter's `match`; the statements in
  the two-implication form (`Sim`, `acc_sim`, …) are read off by `sim_iff` / `Out.meets_iff`.
-/
import SoyVerif.Lemmas.EvalRefine
import SoyVerif.Lemmas.FuncRefine
import SoyVerif.Lemmas.F64Order
import SoyVerif.Model.PrintTokens
import SoyVerif.Lemmas.EvalFrame

namespace SoyVerif.Props.C01
open SoyVerif SoyVerif.Model SoyVerif.Model.Eval SoyVerif.Refine
open SoyVerif.Spec.Eval (Val Out)

def opOk (ord : Bool) : BinOp → Bool
  | .lt | .le | .gt | .ge => ord
  | _ => true

/-- is `k` the name of a loop helper (`x.index`, `x.lastIndex`)?  The interpreter keeps those in the loop's
    frame as ordinary bindings; the specification keeps them apart (they are reachable through `index` /
    `isFirst` / `isLast` only), so the fragment does not read variables of such names. -/
def isHelper (k : Bytes) : Bool := sIndexSuffix.isSuffixOf k || sLastIndexSuffix.isSuffixOf k

def itemKeys : MapItems → List Bytes
  | .nil => []
  | .cons k _ r => k :: itemKeys r

mutual
/-- the expression fragment, with (`ord = true`) or without the four ordering comparisons, with (`lf = true`) or
    without the loop functions index / isFirst / isLast -/
def fragO (ord lf : Bool) : Expr → Bool
  | .null _ => true
  | .bool _ _ => true
  | .int _ v => decide (-2 ^ 63 ≤ v ∧ v < 2 ^ 63)
  | .float _ _ => true
  | .str _ _ _ => true
  | .global _ _ => true
  | .dataRef _ key acc => (key == sIj || !isHelper key) && accFrag ord lf acc
  | .not _ a => fragO ord lf a
  | .neg _ a => fragO ord lf a
  | .bin op _ a b => opOk ord op && fragO ord lf a && fragO ord lf b
  | .tern _ c a b => fragO ord lf c && fragO ord lf a && fragO ord lf b
  | .list _ items => listFragO ord lf items
  | .map _ items => mapFragO ord lf items
  | .func _ name args => (lf && isLoopFunc name) || (fnOk name && listFragO ord lf args)
def accFrag (ord lf : Bool) : AccessList → Bool
  | .nil => true
  | .cons (.key _ _ _) r => accFrag ord lf r
  | .cons (.index _ _ _) r => accFrag ord lf r
  | .cons (.expr _ _ e) r => fragO ord lf e && accFrag ord lf r
def listFragO (ord lf : Bool) : ExprList → Bool
  | .nil => true
  | .cons e r => fragO ord lf e && listFragO ord lf r
/-- the items of a map literal: pairwise different keys -/
def mapFragO (ord lf : Bool) : MapItems → Bool
  | .nil => true
  | .cons k e r => fragO ord lf e && !(itemKeys r).contains k && mapFragO ord lf r
end

/-- the values of a map literal are in the fragment (nothing about its keys) -/
def mapValsFrag (ord lf : Bool) : MapItems → Bool
  | .nil => true
  | .cons _ e r => fragO ord lf e && mapValsFrag ord lf r

theorem bytes_lt_irrefl : (a : Bytes) → Bytes.lt a a = false
  | [] => rfl
  | x :: r => by simp [Bytes.lt, bytes_lt_irrefl r]

theorem itemKeys_eq_keysOf : (items : MapItems) → itemKeys items = PrintTokens.keysOf items
  | .nil => rfl
  | .cons k _ r => by simp [itemKeys, PrintTokens.keysOf, itemKeys_eq_keysOf r]

/-- "pairwise different keys" excludes no map literal a parser produces: `parseMapLiteral` collects the items
    in a Go map — a repeated key keeps the LAST value — and the tree holds them in sorted key order
    (`MapItems.set` in Model/Parser.lean; `PrintTokens.SortedKeys` is part of C17's canonical trees); keys in
    strictly increasing order are pairwise different -/
theorem mapFragO_of_sorted (ord lf : Bool) : (items : MapItems) → PrintTokens.SortedKeys items →
    mapValsFrag ord lf items = true → mapFragO ord lf items = true
  | .nil, _, _ => rfl
  | .cons k e r, hs, hv => by
    simp only [mapValsFrag, Bool.and_eq_true] at hv
    simp only [PrintTokens.SortedKeys] at hs
    have hk : (itemKeys r).contains k = false := by
      cases hc : (itemKeys r).contains k with
      | false => rfl
      | true =>
        rw [itemKeys_eq_keysOf] at hc
        have := hs.1 k (by simpa using hc)
        rw [bytes_lt_irrefl] at this
        cases this
    simp only [mapFragO, hv.1, hk, mapFragO_of_sorted ord lf r hs.2 hv.2, Bool.not_false, Bool.and_self]

/-- the fragment without `< > <= >=` (no hypothesis about the soft-float needed) -/
def frag (e : Expr) : Bool := fragO false false e

/-- the model's environment and the specification's bind the same values (of any kind), up to `absV` -/
structure EnvRel (m : EEnv) (s : Spec.Eval.Env) : Prop where
  vars : ∀ k, isHelper k = false → absV (m.lookup k) = s.lookup k
  globals : ∀ k, match Frame.find m.globals k with
    | some v => Spec.Eval.find s.globals k = some (absV v)
    | none => Spec.Eval.find s.globals k = none
  /-- the injected data: present on both sides or on neither, the same bindings -/
  ij : (m.ij.map fun p => absK p.2) = s.ij

/-- on `e` the model agrees with the specification wherever the specification is defined -/
def Sim (m : EEnv) (s : Spec.Eval.Env) (e : Expr) : Prop :=
  ∀ n, (∀ v, Spec.Eval.eval s e = .val v → ∃ mv n', evalE m e n = .ok mv n' ∧ absV mv = v) ∧
       (Spec.Eval.eval s e = .error → evalE m e n = .err)

/-- the enclosing loops: the interpreter keeps the index and the last index of the loop over `x` under the
    names `x.index` / `x.lastIndex`, as int64 — and the loop is shorter than 2^63 (a list that fits in memory is;
    Go's `len` is an int.  This is where that is stated: the specification's `index($x)` is the unbounded natural) -/
def LoopRel (m : EEnv) (s : Spec.Eval.Env) : Prop :=
  ∀ x i l, Spec.Eval.findLoop s.loops x = some (i, l) →
    m.lookup (x ++ sIndexSuffix) = .int (Int64.ofInt i) ∧ m.lookup (x ++ sLastIndexSuffix) = .int (Int64.ofInt l) ∧
      i ≤ l ∧ (l : Int) < 2 ^ 63

theorem ofNat_toInt (i : Nat) (h : (i : Int) < 2 ^ 63) : (Int64.ofInt i).toInt = i :=
  Int64.toInt_ofInt_of_le (by omega) h

theorem ofNat_beq (i l : Nat) (hi : (i : Int) < 2 ^ 63) (hl : (l : Int) < 2 ^ 63) :
    (Int64.ofInt (i : Int) == Int64.ofInt (l : Int)) = (i == l) := by
  rw [Bool.eq_iff_iff]
  simp only [beq_iff_eq]
  constructor
  · intro h
    have := congrArg Int64.toInt h
    rw [ofNat_toInt i hi, ofNat_toInt l hl] at this
    exact Int.ofNat_inj.mp this
  · intro h; rw [h]

/-- the interpreter's result `r` against the specification's `o`: the same value up to `absV`, an error where
    the specification says error -/
abbrev EMeets (o : Out Val) (r : ERes) : Prop :=
  o.Meets (fun v => ∃ mv n', r = .ok mv n' ∧ absV mv = v) (r = .err)

theorem sim_iff {m : EEnv} {s : Spec.Eval.Env} {e : Expr} :
    Sim m s e ↔ ∀ n, EMeets (Spec.Eval.eval s e) (evalE m e n) :=
  forall_congr' fun _ => Out.meets_iff.symm

theorem EMeets.then {β : Type} {o : Out Val} {r : ERes} (h : EMeets o r) {f : Val → Out β} {Q : β → Prop} {E : Prop}
    (he : r = .err → E) (hv : ∀ mv n', r = .ok mv n' → (f (absV mv)).Meets Q E) : (o.bind f).Meets Q E :=
  Out.Meets.then h he fun _ ⟨mv, n', hr, ha⟩ => ha ▸ hv mv n' hr

theorem loopFn_meets {m : EEnv} {s : Spec.Eval.Env} (hr : LoopRel m s) (p : Nat) (name : Bytes)
    (hL : isLoopFunc name = true) (args : ExprList) (n : Nat) :
    EMeets (Spec.Eval.eval s (.func p name args)) (evalE m (.func p name args) n) := by
  have hS : Spec.Eval.isLoopFn name = true := hL
  rw [Spec.Eval.eval.eq_def, evalE.eq_def]
  simp only [hL, hS, if_true]
  cases args with
  | nil => exact .unspec
  | cons a rest =>
    cases a with
    | dataRef q key acc =>
      cases acc with
      | cons _ _ => exact .unspec
      | nil =>
        cases rest with
        | cons _ _ => exact .unspec
        | nil =>
          simp only
          cases hf : Spec.Eval.findLoop s.loops key with
          | none => exact .unspec
          | some il =>
            obtain ⟨i, l⟩ := il
            obtain ⟨hidx, hlast, hil, hl⟩ := hr key i l hf
            have hi : (i : Int) < 2 ^ 63 := by omega
            simp only [applyLoopFunc, hidx, hlast]
            have e1 : (name == Spec.Eval.nIndex) = (name == fIndex) := rfl
            have e2 : (name == Spec.Eval.nIsFirst) = (name == fIsFirst) := rfl
            rw [e1, e2]
            by_cases h1 : (name == fIndex) = true
            · simp only [h1, if_true]
              exact .val ⟨_, _, rfl, by rw [absV, ofNat_toInt i hi]⟩
            · simp only [h1, Bool.false_eq_true, if_false]
              by_cases h2 : (name == fIsFirst) = true
              · simp only [h2, if_true]
                exact .val ⟨_, _, rfl, by rw [absV]; exact congrArg Val.bool (by simpa using ofNat_beq i 0 hi (by decide))⟩
              · simp only [h2, Bool.false_eq_true, if_false]
                exact .val ⟨_, _, rfl, by rw [absV]; exact congrArg Val.bool (ofNat_beq i l hi hl)⟩
    | _ => exact .unspec

theorem bind_val {α β : Type} {o : Out α} {f : α → Out β} {b : β} (h : o.bind f = .val b) :
    ∃ a, o = .val a ∧ f a = .val b := by
  cases o <;> simp [Spec.Eval.Out.bind] at h ⊢; exact h

theorem evalMap_keys (s : Spec.Eval.Env) : ∀ (items : MapItems) (B : Spec.Eval.Binds), Spec.Eval.evalMap s items = .val B →
    ∀ kv ∈ B, kv.1 ∈ itemKeys items
  | .nil, B, h => by
    rw [Spec.Eval.evalMap] at h; simp only [Out.val.injEq] at h; subst h; intro kv hkv; cases hkv
  | .cons k e r, B, h => by
    rw [Spec.Eval.evalMap] at h
    obtain ⟨v, _, h⟩ := bind_val h
    obtain ⟨Br, hr, h⟩ := bind_val h
    simp only [Out.val.injEq] at h
    subst h
    intro kv hkv
    rcases List.mem_cons.mp hkv with rfl | hkv
    · simp [itemKeys]
    · have := evalMap_keys s r Br hr kv (List.mem_filter.mp hkv).1
      simp [itemKeys, this]

theorem filter_ne_self (B : Spec.Eval.Binds) (k : Bytes) (h : ∀ kv ∈ B, kv.1 ≠ k) :
    (B.filter fun kv => kv.1 != k) = B :=
  List.filter_eq_self.mpr fun kv hkv => by simpa using h kv hkv

/-- proved from the definitions of the soft-float (Lemmas/F64Order) -/
theorem ordExact : OrdExact := by
  intro x y hx hy
  simp only [Spec.Eval.small, Spec.Eval.two53, decide_eq_true_eq] at hx hy
  have hx' : -9007199254740992 ≤ x ∧ x ≤ 9007199254740992 := of_decide_eq_true hx
  have hy' : -9007199254740992 ≤ y ∧ y ≤ 9007199254740992 := of_decide_eq_true hy
  exact F64.ofInt_order x y (by simp only [F64.two53]; omega) (by simp only [F64.two53]; omega)

section
variable {m : EEnv} {s : Spec.Eval.Env} (hr : EnvRel m s)
include hr

omit hr in
theorem step_meets (rest : AccessList) {ms : AStep} {ss : Spec.Eval.Step} (hs : StepAgree ms ss) (n : Nat)
    (ih : ∀ (ref : Value) (n : Nat), EMeets (Spec.Eval.evalAcc s rest (absV ref)) (evalAccesses m rest ref n)) :
    EMeets (match (generalizing := false) ss with | .next v => Spec.Eval.evalAcc s rest v | .stop o => o)
      (match (generalizing := false) ms with | .cont v => evalAccesses m rest v n | .ret v => .ok v n | .err => .err) := by
  cases ss with
  | next v => obtain ⟨mv, rfl, rfl⟩ := hs; exact ih mv n
  | stop o =>
    cases o with
    | val v => obtain ⟨mv, rfl, rfl⟩ := hs; exact .val ⟨_, _, rfl, rfl⟩
    | error => cases hs; exact .error rfl
    | unspec => exact .unspec

omit hr in
theorem eval_bin {op : BinOp} {p : Nat} {a b : Expr} (hop : needsDef op = true ∨ op = .eq ∨ op = .ne) :
    Spec.Eval.eval s (.bin op p a b) =
      (Spec.Eval.eval s a).bind fun va => (Spec.Eval.eval s b).bind fun vb => Spec.Eval.binop op va vb := by
  cases op <;> first
    | (rcases hop with h | h | h <;> cases h; done)
    | (rw [Spec.Eval.eval] <;> first | rfl | (intro h; cases h))

omit hr in
theorem strict_meets (op : BinOp) (p : Nat) (a b : Expr) (hop : needsDef op = true)
    (harith : ∀ x y, ArithSpec op x y)
    (ha : ∀ n, EMeets (Spec.Eval.eval s a) (evalE m a n)) (hb : ∀ n, EMeets (Spec.Eval.eval s b) (evalE m b n)) (n : Nat) :
    EMeets (Spec.Eval.eval s (.bin op p a b)) (evalE m (.bin op p a b) n) := by
  have hM : evalE m (.bin op p a b) n =
      (match evalE m a n with
       | .ok .undefined _ => .err
       | .ok va n1 =>
         match evalE m b n1 with
         | .ok .undefined _ => .err
         | .ok vb n2 =>
           match arith op va vb with
           | some v => .ok v n2
           | none => .err
         | .err => .err
       | .err => .err) := by
    cases op <;> first | (cases hop; done) | (rw [evalE] <;> first | rfl | (intro h; cases h))
  rw [eval_bin (.inl hop), hM]
  refine (ha n).then (fun h => by rw [h]) fun ma n1 hma => ?_
  rw [hma]
  refine (hb n1).then (fun h => by split <;> first | rfl | (rename_i heq; cases heq; simp only [h])) fun mb n2 hmb => ?_
  refine (harith ma mb).meets.imp (fun v ⟨hna, hnb, mv, hmv, habs⟩ => ⟨mv, n2, ?_, habs⟩) fun herr => ?_
  · split
    · rename_i heq; cases heq; exact absurd rfl hna
    · rename_i heq; cases heq
      rw [hmb]
      split
      · rename_i heq; cases heq; exact absurd rfl hnb
      · rename_i heq; cases heq; simp only [hmv]
      · rename_i heq; cases heq
    · rename_i heq; cases heq
  · split
    · rfl
    · rename_i hna heq; cases heq
      rw [hmb]
      split
      · rfl
      · rename_i hnb heq; cases heq
        rcases herr with h | h | h
        · exact (hna h).elim
        · exact (hnb h).elim
        · simp only [h]
      · rfl
    · rfl

omit hr in
theorem evalE_func {p : Nat} {name : Bytes} {args : ExprList} {n : Nat} (hl : isLoopFunc name = false) :
    evalE m (.func p name args) n =
      if arityOk name args.length then
        (match evalArgs m args n with
         | none => .err
         | some (vs, n') => applyFunc name vs n')
      else .err := by
  rw [evalE.eq_def]
  cases hA : funcArities name with
  | none => simp only [hl, arityOk, hA, Bool.false_eq_true, if_false]
  | some ar =>
    simp only [hl, arityOk, hA, Bool.false_eq_true, if_false]
    cases ar.contains args.length <;> rfl

omit hr in
theorem equal_meets (op : BinOp) (p : Nat) (a b : Expr) (hop : op = .eq ∨ op = .ne)
    (ha : ∀ n, EMeets (Spec.Eval.eval s a) (evalE m a n)) (hb : ∀ n, EMeets (Spec.Eval.eval s b) (evalE m b n)) (n : Nat) :
    EMeets (Spec.Eval.eval s (.bin op p a b)) (evalE m (.bin op p a b) n) := by
  rw [eval_bin (.inr hop)]
  refine (ha n).then (fun h => by rcases hop with rfl | rfl <;> rw [evalE, h]) fun ma n1 hma => ?_
  refine (hb n1).then (fun h => by rcases hop with rfl | rfl <;> (rw [evalE]; simp only [hma, h])) fun mb n2 hmb => ?_
  rcases hop with rfl | rfl <;>
    (rw [evalE]; simp only [hma, hmb, Spec.Eval.binop]
     refine (equals_refines ma mb).then False.elim fun r hr => ?_
     rw [hr]; exact .val ⟨_, _, rfl, rfl⟩)

mutual
theorem eval_meets (ord lf : Bool) (hlf : lf = true → LoopRel m s) : (e : Expr) → fragO ord lf e = true →
    ∀ n, EMeets (Spec.Eval.eval s e) (evalE m e n)
  | .null _, _, n => by rw [Spec.Eval.eval, evalE]; exact .val ⟨_, _, rfl, rfl⟩
  | .bool _ b, _, n => by rw [Spec.Eval.eval, evalE]; exact .val ⟨_, _, rfl, rfl⟩
  | .int _ v, hf, n => by
    simp only [fragO, decide_eq_true_eq] at hf
    rw [Spec.Eval.eval, evalE]
    exact .val ⟨_, _, rfl, congrArg Val.int (Int64.toInt_ofInt_of_le hf.1 hf.2)⟩
  | .float _ bits, _, n => by rw [Spec.Eval.eval, evalE]; exact .val ⟨_, _, rfl, rfl⟩
  | .str _ _ v, _, n => by rw [Spec.Eval.eval, evalE]; exact .val ⟨_, _, rfl, rfl⟩
  | .global _ name, _, n => by
    have hg := hr.globals name
    rw [Spec.Eval.eval, evalE]
    split at hg
    · rename_i v hv; rw [hv, hg]; exact .val ⟨_, _, rfl, rfl⟩
    · rename_i hv; rw [hv, hg]; exact .unspec
  | .dataRef _ key acc, hf, n => by
    simp only [fragO, Bool.and_eq_true, Bool.or_eq_true, Bool.not_eq_true'] at hf
    rw [Spec.Eval.eval, evalE]
    by_cases h1 : (key == sIj) = true
    · have h2 : (key == Spec.Eval.sIj) = true := h1
      simp only [h1, h2, if_true]
      rw [← hr.ij]
      cases m.ij with
      | none => exact .error rfl
      | some p => exact acc_meets ord lf hlf acc hf.2 (.map p.1 p.2) n
    · have h1' : (key == sIj) = false := by simpa using h1
      have h2 : (key == Spec.Eval.sIj) = false := h1'
      simp only [h1', h2, Bool.false_eq_true, if_false]
      rw [← hr.vars key (hf.1.resolve_left (by rw [h1']; nofun))]
      exact acc_meets ord lf hlf acc hf.2 (m.lookup key) n
  | .not _ a, hf, n => by
    rw [Spec.Eval.eval, evalE]
    refine (eval_meets ord lf hlf a (by simpa [fragO] using hf) n).then (fun h => by rw [h]) fun ma n1 hma => ?_
    simp only [hma, truthy_abs]
    exact .val ⟨_, _, rfl, rfl⟩
  | .neg _ a, hf, n => by
    rw [Spec.Eval.eval, evalE]
    refine (eval_meets ord lf hlf a (by simpa [fragO] using hf) n).then (fun h => by rw [h]) fun ma n1 hma => ?_
    simp only [hma]
    cases ma with
    | int i =>
      simp only [absV, Spec.Eval.intRes]
      split
      · rename_i hin; rw [← toInt_neg_of _ hin]; exact .val ⟨_, _, rfl, rfl⟩
      · exact .unspec
    | float f => exact .val ⟨_, _, rfl, rfl⟩
    | _ => exact .error rfl
  | .tern _ c a b, hf, n => by
    simp only [fragO, Bool.and_eq_true] at hf
    rw [Spec.Eval.eval, evalE]
    refine (eval_meets ord lf hlf c hf.1.1 n).then (fun h => by rw [h]) fun mc n1 hmc => ?_
    simp only [hmc, truthy_abs]
    cases mc.truthy
    · exact eval_meets ord lf hlf b hf.2 n1
    · exact eval_meets ord lf hlf a hf.1.2 n1
  | .bin op p a b, hf, n => by
    simp only [fragO, Bool.and_eq_true] at hf
    have iha := eval_meets ord lf hlf a hf.1.2
    have ihb := eval_meets ord lf hlf b hf.2
    cases op with
    | add => exact strict_meets .add p a b rfl add_refines iha ihb n
    | sub => exact strict_meets .sub p a b rfl sub_refines iha ihb n
    | mul => exact strict_meets .mul p a b rfl mul_refines iha ihb n
    | div => exact strict_meets .div p a b rfl div_refines iha ihb n
    | mod => exact strict_meets .mod p a b rfl mod_refines iha ihb n
    | lt => exact strict_meets .lt p a b rfl (cmp_refines ordExact .lt (by simp)) iha ihb n
    | le => exact strict_meets .le p a b rfl (cmp_refines ordExact .le (by simp)) iha ihb n
    | gt => exact strict_meets .gt p a b rfl (cmp_refines ordExact .gt (by simp)) iha ihb n
    | ge => exact strict_meets .ge p a b rfl (cmp_refines ordExact .ge (by simp)) iha ihb n
    | eq => exact equal_meets .eq p a b (.inl rfl) iha ihb n
    | ne => exact equal_meets .ne p a b (.inr rfl) iha ihb n
    | and =>
      rw [Spec.Eval.eval, evalE]
      refine (iha n).then (fun h => by rw [h]) fun ma n1 hma => ?_
      simp only [hma, truthy_abs]
      cases ma.truthy
      · exact .val ⟨_, _, rfl, rfl⟩
      · refine (ihb n1).then (fun h => by simp only [h, if_true]) fun mb n2 hmb => ?_
        simp only [hmb, if_true, truthy_abs]
        exact .val ⟨_, _, rfl, rfl⟩
    | or =>
      rw [Spec.Eval.eval, evalE]
      refine (iha n).then (fun h => by rw [h]) fun ma n1 hma => ?_
      simp only [hma, truthy_abs]
      cases ma.truthy
      · refine (ihb n1).then (fun h => by simp only [h, Bool.false_eq_true, if_false]) fun mb n2 hmb => ?_
        simp only [hmb, Bool.false_eq_true, if_false, truthy_abs]
        exact .val ⟨_, _, rfl, rfl⟩
      · exact .val ⟨_, _, rfl, rfl⟩
    | elvis =>
      rw [Spec.Eval.eval, evalE]
      refine (iha n).then (fun h => by rw [h]) fun ma n1 hma => ?_
      simp only [hma]
      cases ma with
      | undefined => exact ihb n1
      | null => exact ihb n1
      | _ => exact .val ⟨_, _, rfl, rfl⟩
  | .func _ name args, hf, n => by
    by_cases hL : (lf && isLoopFunc name) = true
    · simp only [Bool.and_eq_true] at hL
      exact loopFn_meets (hlf hL.1) _ name hL.2 args n
    simp only [fragO, hL, Bool.false_or, Bool.and_eq_true] at hf
    obtain ⟨hlM, hlS⟩ := fnOk_notLoop name hf.1
    rw [Spec.Eval.eval.eq_def, evalE_func hlM]
    simp only [hlS, Bool.false_eq_true, if_false]
    refine Out.Meets.then (args_meets ord lf hlf args hf.2 n) (fun h => by rw [h]; split <;> rfl) fun vs ⟨mvs, n', h1, h2⟩ => ?_
    subst h2
    rw [h1, ← evalArgs_len args n mvs n' h1]
    refine (Out.meets_iff.2 (fn_agree name hf.1 mvs n')).imp (fun v ⟨har, h⟩ => by rw [har]; exact h) fun h => ?_
    rcases h with h | h
    · rw [h]; rfl
    · simp only [h]; split <;> rfl
  | .list _ items, hf, n => by
    rw [Spec.Eval.eval, evalE]
    refine Out.Meets.then (args_meets ord lf hlf items (by simpa [fragO] using hf) n) (fun h => by rw [h]) fun vs ⟨mvs, n', h1, h2⟩ => ?_
    rw [h1, ← h2]
    exact .val ⟨_, _, rfl, rfl⟩
  | .map _ items, hf, n => by
    rw [Spec.Eval.eval, evalE]
    refine Out.Meets.then (map_meets ord lf hlf items (by simpa [fragO] using hf) n) (fun h => by rw [h]) fun B ⟨kvs, n', h1, h2⟩ => ?_
    rw [h1, ← h2]
    exact .val ⟨_, _, rfl, rfl⟩
theorem acc_meets (ord lf : Bool) (hlf : lf = true → LoopRel m s) : (acc : AccessList) → accFrag ord lf acc = true →
    ∀ (ref : Value) (n : Nat), EMeets (Spec.Eval.evalAcc s acc (absV ref)) (evalAccesses m acc ref n)
  | .nil, _, ref, n => by rw [Spec.Eval.evalAcc, evalAccesses]; exact .val ⟨_, _, rfl, rfl⟩
  | .cons (.key _ ns k) rest, hf, ref, n => by
    simp only [accFrag] at hf
    rw [Spec.Eval.evalAcc.eq_def, evalAccesses]
    simp only
    exact step_meets rest (access_str ref ns k _) n (acc_meets ord lf hlf rest hf)
  | .cons (.index _ ns i) rest, hf, ref, n => by
    simp only [accFrag] at hf
    rw [Spec.Eval.evalAcc.eq_def, evalAccesses]
    simp only
    exact step_meets rest (access_int ref ns i _) n (acc_meets ord lf hlf rest hf)
  | .cons (.expr _ ns e) rest, hf, ref, n => by
    simp only [accFrag, Bool.and_eq_true] at hf
    have ihr := acc_meets ord lf hlf rest hf.2
    rw [Spec.Eval.evalAcc.eq_def, evalAccesses]
    simp only
    refine (eval_meets ord lf hlf e hf.1 n).then (fun h => by rw [h]) fun mk n1 hmk => ?_
    simp only [hmk]
    cases mk with
    | int i => exact step_meets rest (access_int ref ns i.toInt _) n1 ihr
    | str k => exact step_meets rest (access_str ref ns k _) n1 ihr
    | undefined => exact .unspec
    | list _ _ => exact .unspec
    | map _ _ => exact .unspec
    | null => exact step_meets rest (access_other ref ns _ _) n1 ihr
    | bool b => exact step_meets rest (access_other ref ns _ _) n1 ihr
    | float f => exact step_meets rest (access_other ref ns _ _) n1 ihr
theorem args_meets (ord lf : Bool) (hlf : lf = true → LoopRel m s) : (items : ExprList) → listFragO ord lf items = true → ∀ (n : Nat),
    (Spec.Eval.evalList s items).Meets (fun vs => ∃ mvs n', evalArgs m items n = some (mvs, n') ∧ absL mvs = vs)
      (evalArgs m items n = none)
  | .nil, _, n => by rw [Spec.Eval.evalList, evalArgs]; exact .val ⟨[], n, rfl, rfl⟩
  | .cons e r, hf, n => by
    simp only [listFragO, Bool.and_eq_true] at hf
    rw [Spec.Eval.evalList, evalArgs]
    refine (eval_meets ord lf hlf e hf.1 n).then (fun h => by rw [h]) fun mv n1 h1 => ?_
    refine Out.Meets.then (args_meets ord lf hlf r hf.2 n1) (fun h => by rw [h1]; simp only [h]) fun vr ⟨mvs, n2, h4, h5⟩ => ?_
    rw [h1]; simp only [h4]
    exact .val ⟨mv :: mvs, n2, rfl, by rw [absL, h5]⟩
theorem map_meets (ord lf : Bool) (hlf : lf = true → LoopRel m s) : (items : MapItems) → mapFragO ord lf items = true → ∀ (n : Nat),
    (Spec.Eval.evalMap s items).Meets (fun B => ∃ kvs n', evalMapItems m items n = some (kvs, n') ∧ absK kvs = B)
      (evalMapItems m items n = none)
  | .nil, _, n => by rw [Spec.Eval.evalMap, evalMapItems]; exact .val ⟨[], n, rfl, rfl⟩
  | .cons k e r, hf, n => by
    simp only [mapFragO, Bool.and_eq_true, Bool.not_eq_true', List.contains_eq_mem, decide_eq_false_iff_not] at hf
    obtain ⟨⟨hfe, hk⟩, hfr⟩ := hf
    rw [Spec.Eval.evalMap, evalMapItems]
    refine (eval_meets ord lf hlf e hfe n).then (fun h => by rw [h]) fun mv n1 h1 => ?_
    refine Out.Meets.thenEq (map_meets ord lf hlf r hfr n1) (fun h => by rw [h1]; simp only [h]) fun Br hv2 ⟨kvs, n2, h4, h5⟩ => ?_
    rw [h1]; simp only [h4]
    refine .val ⟨(k, mv) :: kvs, n2, rfl, ?_⟩
    rw [filter_ne_self Br k (fun kv hkv e => hk (e ▸ evalMap_keys s r Br hv2 kv hkv)), absK, h5]
end

/-- an access chain on related bases -/
theorem acc_sim (ord : Bool) (hord : ord = true → OrdExact) (lf : Bool) (hlf : lf = true → LoopRel m s) : (acc : AccessList) → accFrag ord lf acc = true →
    ∀ (ref : Value) (n : Nat),
      (∀ v, Spec.Eval.evalAcc s acc (absV ref) = .val v → ∃ mv n', evalAccesses m acc ref n = .ok mv n' ∧ absV mv = v) ∧
      (Spec.Eval.evalAcc s acc (absV ref) = .error → evalAccesses m acc ref n = .err) :=
  fun acc hf ref n => Out.meets_iff.1 (acc_meets hr ord lf hlf acc hf ref n)

/-- the items of a list literal / the arguments of a function, left to right -/
theorem args_sim (ord : Bool) (hord : ord = true → OrdExact) (lf : Bool) (hlf : lf = true → LoopRel m s) : (items : ExprList) → listFragO ord lf items = true → ∀ (n : Nat),
    (∀ vs, Spec.Eval.evalList s items = .val vs → ∃ mvs n', evalArgs m items n = some (mvs, n') ∧ absL mvs = vs) ∧
    (Spec.Eval.evalList s items = .error → evalArgs m items n = none) :=
  fun items hf n => Out.meets_iff.1 (args_meets hr ord lf hlf items hf n)

/-- the items of a map literal (pairwise different keys) -/
theorem map_sim (ord : Bool) (hord : ord = true → OrdExact) (lf : Bool) (hlf : lf = true → LoopRel m s) : (items : MapItems) → mapFragO ord lf items = true → ∀ (n : Nat),
    (∀ B, Spec.Eval.evalMap s items = .val B → ∃ kvs n', evalMapItems m items n = some (kvs, n') ∧ absK kvs = B) ∧
    (Spec.Eval.evalMap s items = .error → evalMapItems m items n = none) :=
  fun items hf n => Out.meets_iff.1 (map_meets hr ord lf hlf items hf n)

/-- the model refines the specification on the fragment without the ordering comparisons -/
theorem eval_refines_spec_partial (e : Expr) (hf : frag e = true) : Sim m s e :=
  sim_iff.2 (eval_meets hr false false nofun e hf)

/-- the refinement with `< > <= >=`, WITHOUT hypothesis: on the fragment `fragO true false` (everything of
    `frag` and the ordering comparisons on int/int, int/float, float/float operands, ints within ±2^53 as the
    specification demands) the model evaluates to what the specification says, and errs where it errs -/
theorem eval_refines_spec_ordering (e : Expr) (hf : fragO true false e = true) : Sim m s e :=
  sim_iff.2 (eval_meets hr true false nofun e hf)

/-- … and with the loop functions index / isFirst / isLast (`fragO true true`), given `LoopRel m s`: the
    interpreter's bookkeeping names hold the index and last index of the specification's enclosing loops,
    and those loops are shorter than 2^63 -/
theorem eval_refines_spec_loops (hl : LoopRel m s) (e : Expr) (hf : fragO true true e = true) : Sim m s e :=
  sim_iff.2 (eval_meets hr true true (fun _ => hl) e hf)
end

/-! `isLast($x) ? index($x) + 1 : 0` in the third (last) iteration of a loop over `x`: 3 -/
def mLoop : EEnv :=
  { lookup := fun k => if k == [120] ++ sIndexSuffix then .int 2 else if k == [120] ++ sLastIndexSuffix then .int 2 else .undefined,
    ij := none, globals := [] }
def sLoop : Spec.Eval.Env := { vars := [], loops := [([120], 2, 2)], ij := none, globals := [] }
theorem isHelper_index (v : Bytes) : isHelper (v ++ sIndexSuffix) = true := by
  simp [isHelper, List.isSuffixOf_iff_suffix]
theorem isHelper_last (v : Bytes) : isHelper (v ++ sLastIndexSuffix) = true := by
  simp [isHelper, List.isSuffixOf_iff_suffix]
theorem relLoopEnv : EnvRel mLoop sLoop := by
  refine ⟨fun k hk => ?_, fun k => by simp [mLoop, sLoop, Frame.find, Spec.Eval.find], rfl⟩
  have h1 : (k == [120] ++ sIndexSuffix) = false := by
    cases h : k == [120] ++ sIndexSuffix
    · rfl
    · rw [beq_iff_eq.mp h, isHelper_index] at hk; cases hk
  have h2 : (k == [120] ++ sLastIndexSuffix) = false := by
    cases h : k == [120] ++ sLastIndexSuffix
    · rfl
    · rw [beq_iff_eq.mp h, isHelper_last] at hk; cases hk
  show absV (if (k == [120] ++ sIndexSuffix) = true then _ else if (k == [120] ++ sLastIndexSuffix) = true then _ else _) = _
  rw [h1, h2]
  rfl
theorem loopRel0 : LoopRel mLoop sLoop := by
  intro x i l h
  simp only [sLoop, Spec.Eval.findLoop] at h
  split at h
  · rename_i hx
    simp only [Option.some.injEq, Prod.mk.injEq] at h
    obtain ⟨rfl, rfl⟩ := h
    rw [← beq_iff_eq.mp hx]
    exact ⟨rfl, rfl, Nat.le_refl _, by decide⟩
  · cases h
def xv (p : Nat) : ExprList := .cons (.dataRef p [120] .nil) .nil
def eLoop : Expr := .tern 0 (.func 0 fIsLast (xv 0)) (.bin .add 0 (.func 0 fIndex (xv 0)) (.int 0 1)) (.int 0 0)
example : ∃ mv n', evalE mLoop eLoop 7 = .ok mv n' ∧ absV mv = .int 3 :=
  (eval_refines_spec_loops relLoopEnv loopRel0 eLoop (by decide) 7).1 (.int 3) (by rfl)

/-- beyond 2^53 the conversion is NOT order-exact, in the model as in Go (`exec.go` compares
    `toFloat(a) < toFloat(b)`): 2^53 + 1 rounds to 2^53, so `9007199254740993 > 9007199254740992` is false
    and `9007199254740992 >= 9007199254740993` is true (the real soyhtml prints exactly that; `==` on two
    ints is exact and says false) — which is why the specification's ordering is stated for |i| ≤ 2^53 -/
theorem ord_inexact_beyond_two53 :
    F64.ofInt 9007199254740993 = F64.ofInt 9007199254740992 ∧
    F64.lt (F64.ofInt 9007199254740992) (F64.ofInt 9007199254740993) = false ∧
    F64.le (F64.ofInt 9007199254740993) (F64.ofInt 9007199254740992) = true ∧
    F64.lt (F64.ofInt 9223372036854775806) (F64.ofInt 9223372036854775807) = false := by decide +kernel

/-- at the edge: 2^53 − 1 < 2^53, −2^53 < −2^53 + 1 are decided correctly -/
example : F64.lt (F64.ofInt 9007199254740991) (F64.ofInt 9007199254740992) = true ∧
    F64.lt (F64.ofInt (-9007199254740992)) (F64.ofInt (-9007199254740991)) = true ∧
    F64.le (F64.ofInt 9007199254740992) (F64.ofInt 9007199254740991) = false :=
  ⟨by simpa using (ordExact 9007199254740991 9007199254740992 (by decide) (by decide)).1,
   by simpa using (ordExact (-9007199254740992) (-9007199254740991) (by decide) (by decide)).1,
   by simpa using (ordExact 9007199254740992 9007199254740991 (by decide) (by decide)).2⟩

/-- An expression the language leaves without a value makes the print fail and never produces text for
    it: if `evalPrint` ends in an error, the writer has received exactly what it had received before. -/
theorem print_error_writes_nothing (g : GEnv) (esc : Bool) (pos : Nat) (arg : Expr) (dirs : List Directive)
    (ctx : Scope) (st : St) (h : (evalPrint g esc pos arg dirs ctx st).cls = .err) :
    (evalPrint g esc pos arg dirs ctx st).st.out = st.out := by
  unfold evalPrint at h ⊢
  show (evalPrintAt g esc pos arg dirs ctx (atNode st arg.pos)).st.out = (atNode st arg.pos).out
  generalize atNode st arg.pos = st' at h ⊢
  unfold evalPrintAt at h ⊢
  split
  · rfl
  · rename_i st1 he; exact evalIn_out he
  · rename_i v st1 _ he
    split
    · have := evalIn_out he
      exact this
    · rename_i r esc' st2 hd
      split
      · rw [runDirectives_out hd, evalIn_out he]
      · rename_i s hs
        simp only [he, hd, hs] at h
        simp at h

/-! ### non-vacuity: `$x + 1 == 4 ? 'a' + $x : -$x` with x = 3 -/

def m0 : EEnv := { lookup := fun k => if k == [120] then .int 3 else .undefined, ij := none, globals := [] }
def s0 : Spec.Eval.Env := { vars := [([120], .int 3)], loops := [], ij := none, globals := [] }

theorem EnvRel.single (k0 : Bytes) (v : Value) :
    EnvRel { lookup := fun k => if k == k0 then v else .undefined, ij := none, globals := [] }
      { vars := [(k0, absV v)], loops := [], ij := none, globals := [] } := by
  refine ⟨fun k _ => ?_, fun k => ?_, rfl⟩
  · by_cases h : k = k0
    · subst h; simp [Spec.Eval.Env.lookup, Spec.Eval.find]
    · have h' : (k0 == k) = false := by simpa using fun e => h e.symm
      have h'' : (k == k0) = false := by simpa using h
      simp [Spec.Eval.Env.lookup, Spec.Eval.find, h', h'', absV]
  · simp [Frame.find, Spec.Eval.find]

theorem rel0 : EnvRel m0 s0 := EnvRel.single [120] (.int 3)

def x0 : Expr := .dataRef 0 [120] .nil
def e0 : Expr :=
  .tern 0 (.bin .eq 0 (.bin .add 0 x0 (.int 0 1)) (.int 0 4)) (.bin .add 0 (.str 0 [] [97]) x0) (.neg 0 x0)

/-- the specification says `a3`; by the theorem the model says `a3` too -/
example : ∃ mv n', evalE m0 e0 7 = .ok mv n' ∧ absV mv = .str [97, 51] := by
  obtain ⟨mv, n', h1, h2⟩ := (eval_refines_spec_partial rel0 e0 (by decide) 7).1 (.str [97, 51]) (by rfl)
  exact ⟨mv, n', h1, h2⟩

/-- with the ordering comparisons: `$x < 4 ? 'lt' : 'ge'` -/
def e1 : Expr := .tern 0 (.bin .lt 0 x0 (.int 0 4)) (.str 0 [] [108, 116]) (.str 0 [] [103, 101])

example (hx : OrdExact) : ∃ mv n', evalE m0 e1 7 = .ok mv n' ∧ absV mv = .str [108, 116] := by
  obtain ⟨mv, n', h1, h2⟩ := (eval_refines_spec_ordering rel0 e1 (by decide) 7).1 (.str [108, 116]) (by rfl)
  exact ⟨mv, n', h1, h2⟩
/-- … and without the hypothesis -/
example : ∃ mv n', evalE m0 e1 7 = .ok mv n' ∧ absV mv = .str [108, 116] := by
  obtain ⟨mv, n', h1, h2⟩ := (eval_refines_spec_ordering rel0 e1 (by decide) 7).1 (.str [108, 116]) (by rfl)
  exact ⟨mv, n', h1, h2⟩

/-- `'a' - 1` is inside the fragment and is an error on both sides -/
example : evalE m0 (.bin .sub 0 (.str 0 [] [97]) (.int 0 1)) 7 = .err :=
  (eval_refines_spec_partial rel0 _ (by decide) 7).2 (by rfl)

/-! ### accesses: x = {a: [10, {b: 'B'}], n: null}

    `$x.a[1].b` = 'B' (an access chain through a map, a list and a map); `$x.n?.q.r` … a null-safe hop on null
    as the LAST access: `$x.n?.q` = null; `$x.a[0 + 1]?.b` with a computed index; `$x.zz.y` (an access on
    undefined) and `$x.a.k` (a key on a list) are errors on both sides -/

def vx : Value := .map 5 [([97], .list 6 [.int 10, .map 7 [([98], .str [66])]]), ([110], .null)]
def m1 : EEnv := { lookup := fun k => if k == [120] then vx else .undefined, ij := none, globals := [] }
def s1 : Spec.Eval.Env := { vars := [([120], absV vx)], loops := [], ij := none, globals := [] }

theorem rel1 : EnvRel m1 s1 := EnvRel.single [120] vx

def xa1b : Expr := .dataRef 0 [120] (.cons (.key 0 false [97]) (.cons (.index 0 false 1) (.cons (.key 0 false [98]) .nil)))
def xnq : Expr := .dataRef 0 [120] (.cons (.key 0 false [110]) (.cons (.key 0 true [113]) .nil))
def xaeb : Expr := .dataRef 0 [120] (.cons (.key 0 false [97])
  (.cons (.expr 0 false (.bin .add 0 (.int 0 0) (.int 0 1))) (.cons (.key 0 true [98]) .nil)))

example : ∃ mv n', evalE m1 xa1b 7 = .ok mv n' ∧ absV mv = .str [66] :=
  (eval_refines_spec_partial rel1 xa1b (by decide) 7).1 (.str [66]) (by rfl)
example : ∃ mv n', evalE m1 xnq 7 = .ok mv n' ∧ absV mv = .null :=
  (eval_refines_spec_partial rel1 xnq (by decide) 7).1 .null (by rfl)
example : ∃ mv n', evalE m1 xaeb 7 = .ok mv n' ∧ absV mv = .str [66] :=
  (eval_refines_spec_partial rel1 xaeb (by decide) 7).1 (.str [66]) (by rfl)
example : evalE m1 (.dataRef 0 [120] (.cons (.key 0 false [122, 122]) (.cons (.key 0 false [121]) .nil))) 7 = .err :=
  (eval_refines_spec_partial rel1 _ (by decide) 7).2 (by rfl)

/-! `floor(2.5) + ceiling(-2.5)` = 2 + (-2) = 0 (`Lemmas/F64Floor.lean`: `int64(math.Floor(x))` is the exact floor) -/
def eFloor : Expr := .bin .add 0 (.func 0 fFloor (.cons (.float 0 0x4004000000000000) .nil))
  (.func 0 fCeiling (.cons (.float 0 0xC004000000000000) .nil))
example : ∃ mv n', evalE m1 eFloor 7 = .ok mv n' ∧ absV mv = .int 0 :=
  (eval_refines_spec_partial rel1 eFloor (by decide) 7).1 (.int 0) (by rfl)

/-! `$ij.u.v` with injected data {u: {v: 'J'}}; and `$ij` without injected data is an error on both sides -/
def mIj : EEnv := { m1 with ij := some (9, [([117], .map 8 [([118], .str [74])])]) }
def sIjEnv : Spec.Eval.Env := { s1 with ij := some [([117], .map [([118], .str [74])])] }
theorem relIj : EnvRel mIj sIjEnv := ⟨rel1.vars, rel1.globals, rfl⟩
def ijuv : Expr := .dataRef 0 [105, 106] (.cons (.key 0 false [117]) (.cons (.key 0 false [118]) .nil))
example : ∃ mv n', evalE mIj ijuv 7 = .ok mv n' ∧ absV mv = .str [74] :=
  (eval_refines_spec_partial relIj ijuv (by decide) 7).1 (.str [74]) (by rfl)
example : evalE m1 ijuv 7 = .err := (eval_refines_spec_partial rel1 ijuv (by decide) 7).2 (by rfl)
example : evalE m1 (.dataRef 0 [120] (.cons (.key 0 false [97]) (.cons (.key 0 false [107]) .nil))) 7 = .err :=
  (eval_refines_spec_partial rel1 _ (by decide) 7).2 (by rfl)

/-! ### collection literals as values: `[1, ['q': $x.a[0]], []]` and `['k': [1, 2], 'j': $x.n]` -/

def lit1 : Expr := .list 0 (.cons (.int 0 1) (.cons (.map 0 (.cons [113]
  (.dataRef 0 [120] (.cons (.key 0 false [97]) (.cons (.index 0 false 0) .nil))) .nil)) (.cons (.list 0 .nil) .nil)))
def lit2 : Expr := .map 0 (.cons [107] (.list 0 (.cons (.int 0 1) (.cons (.int 0 2) .nil)))
  (.cons [106] (.dataRef 0 [120] (.cons (.key 0 false [110]) .nil)) .nil))

example : ∃ mv n', evalE m1 lit1 7 = .ok mv n' ∧ absV mv = .list [.int 1, .map [([113], .int 10)], .list []] :=
  (eval_refines_spec_partial rel1 lit1 (by decide) 7).1 _ (by rfl)
example : ∃ mv n', evalE m1 lit2 7 = .ok mv n' ∧ absV mv = .map [([107], .list [.int 1, .int 2]), ([106], .null)] :=
  (eval_refines_spec_partial rel1 lit2 (by decide) 7).1 _ (by rfl)

/-! ### builtins: `length($x.a) + (strContains('abc', 'bc') ? 10 : 0) + (isNonnull($x.n) ? 100 : 0)` = 12, and
    `range(length($x.a))` = [0, 1] -/

def fn1 : Expr :=
  .bin .add 0 (.bin .add 0
    (.func 0 fLength (.cons (.dataRef 0 [120] (.cons (.key 0 false [97]) .nil)) .nil))
    (.tern 0 (.func 0 fStrContains (.cons (.str 0 [] [97, 98, 99]) (.cons (.str 0 [] [98, 99]) .nil))) (.int 0 10) (.int 0 0)))
    (.tern 0 (.func 0 fIsNonnull (.cons (.dataRef 0 [120] (.cons (.key 0 false [110]) .nil)) .nil)) (.int 0 100) (.int 0 0))
def fn2 : Expr := .func 0 fRange (.cons (.func 0 fLength (.cons (.dataRef 0 [120] (.cons (.key 0 false [97]) .nil)) .nil)) .nil)

example : ∃ mv n', evalE m1 fn1 7 = .ok mv n' ∧ absV mv = .int 12 :=
  (eval_refines_spec_partial rel1 fn1 (by decide) 7).1 _ (by rfl)
example : ∃ mv n', evalE m1 fn2 7 = .ok mv n' ∧ absV mv = .list [.int 0, .int 1] :=
  (eval_refines_spec_partial rel1 fn2 (by decide) 7).1 _ (by rfl)

/-! `min(length($x.a), 7) + max(1.5, 2)` = 2 + 2.0 -/
def fn3 : Expr := .func 0 fMin (.cons (.func 0 fLength (.cons (.dataRef 0 [120] (.cons (.key 0 false [97]) .nil)) .nil)) (.cons (.int 0 7) .nil))
example : ∃ mv n', evalE m1 fn3 7 = .ok mv n' ∧ absV mv = .int 2 :=
  (eval_refines_spec_partial rel1 fn3 (by decide) 7).1 _ (by rfl)

/-! `keys(augmentMap(['b': 1, 'a': 2], ['c': 3, 'a': 4]))` = ['a', 'b', 'c'], `augmentMap(…).a` … right wins -/
def mapBA : Expr := .map 0 (.cons [97] (.int 0 2) (.cons [98] (.int 0 1) .nil))
def mapCA : Expr := .map 0 (.cons [97] (.int 0 4) (.cons [99] (.int 0 3) .nil))
def fn4 : Expr := .func 0 fKeys (.cons (.func 0 fAugmentMap (.cons mapBA (.cons mapCA .nil))) .nil)
example : ∃ mv n', evalE m1 fn4 7 = .ok mv n' ∧ absV mv = .list [.str [97], .str [98], .str [99]] :=
  (eval_refines_spec_partial rel1 fn4 (by decide) 7).1 _ (by rfl)
example : ∃ mv n', evalE m1 (.func 0 fAugmentMap (.cons mapBA (.cons mapCA .nil))) 7 = .ok mv n' ∧
    absV mv = .map [([97], .int 4), ([98], .int 1), ([99], .int 3)] :=
  (eval_refines_spec_partial rel1 _ (by decide) 7).1 _ (by rfl)

/-! `$x['']` looks the key "" up (undefined here); `$x.a[-1]` is an index outside the list: undefined -/
example : ∃ mv n', evalE m1 (.dataRef 0 [120] (.cons (.expr 0 false (.str 0 [] [])) .nil)) 7 = .ok mv n' ∧ absV mv = .undefined :=
  (eval_refines_spec_partial rel1 _ (by decide) 7).1 _ (by rfl)
example : ∃ mv n', evalE m1 (.dataRef 0 [120] (.cons (.key 0 false [97]) (.cons (.index 0 false (-1)) .nil))) 7 = .ok mv n' ∧
    absV mv = .undefined :=
  (eval_refines_spec_partial rel1 _ (by decide) 7).1 _ (by rfl)

end SoyVerif.Props.C01
