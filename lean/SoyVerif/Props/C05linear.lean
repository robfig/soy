/-
  C05, "the parser returns in time PROPORTIONAL TO THE INPUT": the budgets of the model are linear
  in the BYTE length of the source, for every byte string (valid or not).

  What is counted.  The models of the lexer and of the parser are total functions that run on
  budgets ("fuel"); a run that exhausts its budget yields `fuelOut`.  One STEP is one unit of such a
  budget:
    * lexer (`Lex.run`): one call of a state function (`lexText`, `lexInsideTag`, …) — one iteration of
      `for l.state != nil { l.state = l.state(l) }`;
    * file parser (`itemListLoop` … of Model/FileParser.lean): one loop iteration of a parsing loop or
      one level of nesting of the recursive descent (the fuel goes down by one on every recursive call
      and on every iteration);
    * expression parser (`ef`): the same, for ONE embedded expression (each expression of a tag is
      parsed with the budget `ef`; it is a bound on depth + iterations of that parse, not a sum over
      all expressions of the file).

  What is proved, with `n = |input|` in bytes:
    * `lexAll_items_le` (Props/C05.lean): the lexer sends at most `2n + 1` items;
    * `lex_total` (Props/C05.lean): `7n + 8` state-function calls suffice (`Lex.fuelFor`);
    * `parse_total_fuel`: on ANY token list `is`, any budgets `ef, fuel ≥ 8·|is| + 64` suffice;
    * `parse_source_linear`: the whole pipeline, run with the budget `16n + 72` for the file parser and
      for each expression (and `7n + 8` for the lexer), never answers `fuelOut`;
    * `parse_source_budgets`: the budgets that `parseSource` — the function the correspondence checks run
      against the real code — hands out are at most `16n + 72`, and it never answers `fuelOut`;
    * `parseFileFuel_mono` / `parseExprFuel_mono` (from `fileMono` / `exprMono` of Lemmas/FuelMono.lean): a larger budget gives the
      same answer, hence `parseSourceFuel_eq`: the pipeline on the budget `16n + 72` IS `parseSource`
      (`parse_source_linear'`), and `parseExprSourceFuel_eq` for the standalone expression;
    * `parse_expr_linear`: the same end-to-end statement for `parse.Expr(str)` (lexer in expression
      mode, expression parser, drain);
    * `runPos_sorted`, `lexAll_positions_sorted`: the positions at which the state functions of a run
      are entered never go back.

  What is NOT counted.
    * The rune reads INSIDE one state function.  Each state function's inner loop (`scanWhile`,
      `lexTextLoop`, `lexBlockComment`, `lexString`, `lexSoyDocLoop`, `headerTypeLoop`) is a well-founded
      recursion on the remaining input `len - pos` and every iteration advances `pos` (`next_rem_lt`);
      `pos` moves back only by `backup` (at most once per `next`, by the width of that rune), by the
      `l.pos--` of lexSoyDoc (once per line) and by the look-ahead of `maybeEmitText`.  The state
      lemmas show `pos` never decreases across a state call (`runPos_sorted`, below), so the advances of
      the calls sum to at most `n`; that the reads of one call are its advance plus a constant of
      look-ahead is prose, not a theorem: the models carry no read counter.
    * String building: the cost of `tok.val` concatenation, `strings.Join`, the `String()` builders (the
      quadratic defects found at /repo 96546c0 and c3ff971 were there).  A count over state calls and
      tokens cannot see it; it is covered by the C05scale allocation probe only.
    * The nested lexer and parser of a quoted expression are bounded one by one (`parseQuotedExpr_budget`) and, given
      that the strings come from distinct tokens, in sum (`quoted_budgets_sum_le`); that premise is read off the
      model, not proved.  The SUM of the budgets handed to the embedded expression parses of a file is not linear;
      what they consume is not stated (section "The nested lexer and parser …" below).
-/
import SoyVerif.Props.C05parse
import SoyVerif.Lemmas.FuelMono
import SoyVerif.Lemmas.ParserQuote

namespace SoyVerif.Props.C05
open SoyVerif SoyVerif.Model SoyVerif.Model.Parser SoyVerif.Model.FileParser SoyVerif.Lemmas.ParserSafe

/-- on ANY token list, budgets of `8·|items| + 64` steps — or more — suffice -/
theorem parse_total_fuel (pf : Bytes → Option UInt64) (ef fuel : Nat) (items : List Item)
    (hef : 8 * items.length + 64 ≤ ef) (hfuel : 8 * items.length + 64 ≤ fuel) :
    parseFileFuel pf ef fuel items ≠ .error .fuelOut := by
  have h := parseFileFuel_of_safe (fun _ _ h => h.1) (top_safe_fuel pf True ⟨False, False⟩ (fun _ => True) trivial items
    (fun _ _ => trivial) (fun _ _ => Or.inl trivial) (fun h => absurd h id) (fun h => absurd h id)
    ef fuel (by omega) (by omega))
  intro hc
  rw [hc] at h
  exact h

/-- lexer ∘ parser with ONE budget `F` for the file parser and for each embedded expression
    (the lexer runs on its own budget `Lex.fuelFor |input| = 7·|input| + 8`) -/
def parseSourceFuel (pf : Bytes → Option UInt64) (F : Nat) (input : Bytes) : Except FErr (List Node) :=
  match Lex.lexAll input false with
  | .items is => parseFileFuel pf F F is
  | .panic => .error .panic
  | .fuelOut => .error .fuelOut

/-- the budget of the whole pipeline for a source of `n` bytes: `8·(2n + 1) + 64` -/
def sourceFuel (n : Nat) : Nat := 16 * n + 72

/-- for every byte string, valid or not, the pipeline ends within
    `7n + 8` state-function calls of the lexer and a parser budget of `16n + 72` -/
theorem parse_source_linear (pf : Bytes → Option UInt64) (input : Bytes) :
    Lex.fuelFor input.length = 7 * input.length + 8 ∧
    Lex.lexAll input false ≠ .fuelOut ∧
    parseSourceFuel pf (sourceFuel input.length) input ≠ .error .fuelOut := by
  refine ⟨rfl, lex_total input false, ?_⟩
  unfold parseSourceFuel
  obtain ⟨is, hl, _⟩ := lex_items input false
  have hle := lexAll_items_le input false is hl
  rw [hl]
  exact parse_total_fuel pf _ _ is (by unfold sourceFuel; omega) (by unfold sourceFuel; omega)

/-- the same for `parseSource`, the function the correspondence checks compare with the real
    `parse.SoyFile`: it lexes into at most `2n + 1` items, the budgets it then hands to the file
    parser and to each expression parse are at most `16n + 72`, and it never runs out of them -/
theorem parse_source_budgets (pf : Bytes → Option UInt64) (input : Bytes) :
    ∃ is, Lex.lexAll input false = .items is ∧ is.length ≤ 2 * input.length + 1 ∧
      FileParser.fuelFor is.length ≤ sourceFuel input.length ∧ exprFuel is ≤ sourceFuel input.length ∧
      parseSource pf input = parseFileFuel pf (exprFuel is) (FileParser.fuelFor is.length) is ∧
      parseSource pf input ≠ .error .fuelOut := by
  obtain ⟨is, hl, _⟩ := lex_items input false
  have hle := lexAll_items_le input false is hl
  refine ⟨is, hl, hle, ?_, ?_, ?_, parse_source_total pf input⟩
  · unfold FileParser.fuelFor sourceFuel; omega
  · unfold exprFuel Parser.fuelFor sourceFuel; omega
  · unfold parseSource; rw [hl]; rfl

/-- `parseExprEntry` with the budget made a parameter -/
def parseExprFuel (pf : Bytes → Option UInt64) (fuel : Nat) (items : List Item) : Except PErr Expr :=
  match (Parser.parseExpr pf fuel 0).run (Parser.initState items) with
  | Except.ok (e, _) => Except.ok e
  | Except.error err => Except.error err

theorem parseExprEntry_eq (pf : Bytes → Option UInt64) (items : List Item) :
    parseExprEntry pf items = parseExprFuel pf (Parser.fuelFor items.length) items := rfl

/-- on ANY token list a budget of `8·|items| + 10` steps — or more — suffices for the expression parser -/
theorem parse_expr_total_fuel (pf : Bytes → Option UInt64) (fuel : Nat) (items : List Item)
    (hfuel : 8 * items.length + 10 ≤ fuel) : parseExprFuel pf fuel items ≠ .error .fuelOut := by
  have hmu := mu_init items
  have hi : Inv ⟨False, False⟩ (fun _ => True) (Parser.initState items) :=
    (inv_init (fun _ => True) items trivial (fun _ _ => trivial) (fun h => absurd h id) (fun h => absurd h id)).crude (fun h => h)
  have h := (Lemmas.ParserSafe.exprSpecs_all pf True ⟨False, False⟩ (fun _ => True) trivial (fun _ _ => Or.inl trivial) fuel).parseExpr
    0 (Parser.initState items) hi (by omega)
  unfold PSafe at h
  unfold parseExprFuel
  simp only [StateT.run]
  intro hc
  split at hc
  · exact absurd hc (by simp)
  · rename_i e he
    rw [he] at h
    simp only [Except.error.injEq] at hc
    subst hc
    exact h

/-- `parse.Expr(str)`: the lexer model in expression mode composed with the expression parser and
    the drain of `Expr` / `tree.recover` (`Parser.exprEntry`) -/
def parseExprSource (pf : Bytes → Option UInt64) (input : Bytes) : EntryOutcome :=
  match Lex.lexAll input true with
  | .items is => exprEntry pf is
  | .panic => { result := .error .panic, drained := false }
  | .fuelOut => { result := .error .fuelOut, drained := false }

/-- … with the parser's budget a parameter -/
def parseExprSourceFuel (pf : Bytes → Option UInt64) (F : Nat) (input : Bytes) : Except PErr Expr :=
  match Lex.lexAll input true with
  | .items is => parseExprFuel pf F is
  | .panic => .error .panic
  | .fuelOut => .error .fuelOut

theorem exprEntry_result (pf : Bytes → Option UInt64) (items : List Item) :
    (exprEntry pf items).result = parseExprEntry pf items := by
  unfold exprEntry parseExprEntry
  split <;> simp_all

/-- the standalone expression: for every byte string, valid or not, `parse.Expr`
    ends within `7n + 8` state-function calls of the lexer and a parser budget of `16n + 72`; the
    budget `parse.Expr`'s model hands out is at most that, it never runs out of it, and unless the
    parser panics the lexer goroutine is drained -/
theorem parse_expr_linear (pf : Bytes → Option UInt64) (input : Bytes) :
    Lex.lexAll input true ≠ .fuelOut ∧
    parseExprSourceFuel pf (sourceFuel input.length) input ≠ .error .fuelOut ∧
    ∃ is, Lex.lexAll input true = .items is ∧ is.length ≤ 2 * input.length + 1 ∧
      Parser.fuelFor is.length ≤ sourceFuel input.length ∧
      (parseExprSource pf input).result = parseExprFuel pf (Parser.fuelFor is.length) is ∧
      (parseExprSource pf input).result ≠ .error .fuelOut ∧
      ((parseExprSource pf input).result ≠ .error .panic → (parseExprSource pf input).drained = true) := by
  obtain ⟨is, hl, _⟩ := lex_items input true
  have hle := lexAll_items_le input true is hl
  have htot : parseExprFuel pf (Parser.fuelFor is.length) is ≠ .error .fuelOut :=
    parse_expr_total_fuel pf _ is (by unfold Parser.fuelFor; omega)
  have hres : (parseExprSource pf input).result = parseExprFuel pf (Parser.fuelFor is.length) is := by
    unfold parseExprSource; rw [hl]; exact exprEntry_result pf is
  refine ⟨lex_total input true, ?_, is, hl, hle, by unfold Parser.fuelFor sourceFuel; omega, hres, by rw [hres]; exact htot, ?_⟩
  · unfold parseExprSourceFuel
    rw [hl]
    exact parse_expr_total_fuel pf _ is (by unfold sourceFuel; omega)
  · intro hnp
    have hd : (parseExprSource pf input).drained = (exprEntry pf is).drained := by
      unfold parseExprSource; rw [hl]
    have hr : (parseExprSource pf input).result = (exprEntry pf is).result := by
      unfold parseExprSource; rw [hl]
    rw [hd]
    rw [hr] at hnp
    have hnf : (exprEntry pf is).result ≠ .error .fuelOut := by rw [exprEntry_result]; exact htot
    revert hnp hnf
    unfold exprEntry
    split <;> simp

/-! ## Fuel monotonicity: a larger budget gives the same answer (Lemmas/FuelMono.lean) -/

theorem parseFileFuel_mono (pf : Bytes → Option UInt64) {e e' a b : Nat} (he : e ≤ e') (hab : a ≤ b)
    (items : List Item) (h : parseFileFuel pf e a items ≠ .error .fuelOut) :
    parseFileFuel pf e' b items = parseFileFuel pf e a items := by
  have hm := ((Lemmas.FuelMono.fileMono pf e e' he a b hab).itemListLoop [.tEOF] none .nil).le
    { p := Parser.initState items }
  unfold parseFileFuel at h ⊢
  simp only [StateT.run] at h ⊢
  rw [hm]
  intro hc
  rw [hc] at h
  exact h rfl

theorem parseExprFuel_mono (pf : Bytes → Option UInt64) {a b : Nat} (hab : a ≤ b)
    (items : List Item) (h : parseExprFuel pf a items ≠ .error .fuelOut) :
    parseExprFuel pf b items = parseExprFuel pf a items := by
  have hm := ((Lemmas.FuelMono.exprMono pf a b hab).parseExpr 0).le (Parser.initState items)
  unfold parseExprFuel at h ⊢
  simp only [StateT.run] at h ⊢
  rw [hm]
  intro hc
  rw [hc] at h
  exact h rfl

/-- the pipeline on the byte-linear budget, or any larger one, IS `parseSource` -/
theorem parseSourceFuel_eq_of_le (pf : Bytes → Option UInt64) (input : Bytes) (F : Nat)
    (hF : sourceFuel input.length ≤ F) : parseSourceFuel pf F input = parseSource pf input := by
  obtain ⟨is, hl, hle, hf1, hf2, heq, hne⟩ := parse_source_budgets pf input
  rw [heq]
  unfold parseSourceFuel
  rw [hl]
  exact parseFileFuel_mono pf (by omega) (by omega) is (by rw [← heq]; exact hne)

/-- the pipeline on the byte-linear budget IS `parseSource`, the function the correspondence checks tie
    to the real `parse.SoyFile` -/
theorem parseSourceFuel_eq (pf : Bytes → Option UInt64) (input : Bytes) :
    parseSourceFuel pf (sourceFuel input.length) input = parseSource pf input :=
  parseSourceFuel_eq_of_le pf input _ (Nat.le_refl _)

/-- the same for the standalone expression: the byte-linear budget gives the result of `parse.Expr`'s model -/
theorem parseExprSourceFuel_eq (pf : Bytes → Option UInt64) (input : Bytes) :
    parseExprSourceFuel pf (sourceFuel input.length) input = (parseExprSource pf input).result := by
  obtain ⟨_, _, is, hl, _, hf, hres, hne, _⟩ := parse_expr_linear pf input
  rw [hres]
  unfold parseExprSourceFuel
  rw [hl]
  exact parseExprFuel_mono pf hf is (by rw [← hres]; exact hne)

/-- `parse.SoyFile`'s model returns within a budget LINEAR in the byte length — stated about `parseSource` itself -/
theorem parse_source_linear' (pf : Bytes → Option UInt64) (input : Bytes) :
    parseSource pf input = parseSourceFuel pf (16 * input.length + 72) input ∧
    parseSource pf input ≠ .error .fuelOut :=
  ⟨(parseSourceFuel_eq pf input).symm, parse_source_total pf input⟩

/-! ## What one state-function call reads

  `runPos` lists the position `pos` of the lexer at the ENTRY of each state-function call of a run.
  The list is sorted and stays inside `[0, n]`, so the advances of the calls telescope to at most `n`; the look-ahead
  a call reads beyond the position it hands over is what its `backup`s give back — one rune per `next`, two bytes in
  `maybeEmitText(l, 2)`, six in `lexSoyDocParam` — and is prose: the model has no read counter. -/

/-- the positions at which the state functions of a run are entered -/
def runPos : Nat → Lex.St → Lex.Lexer → List Int
  | 0, _, l => [l.pos]
  | k + 1, s, l =>
    match Lex.step s l with
    | some (some s', l') => l.pos :: runPos k s' l'
    | _ => [l.pos]

theorem pos_le_of_phi_lt {n : Int} {s s' : Lex.St} {l l' : Lex.Lexer} (h1 : l.pos ≤ n) (h2 : l'.pos ≤ n)
    (h : Lex.phi n s' l' < Lex.phi n s l) : l.pos ≤ l'.pos := by
  have := Lex.rank_le s
  unfold Lex.phi at h
  omega

/-- every state function is entered at or behind the position the one before it was entered at, inside the input -/
theorem runPos_sorted (n : Int) : ∀ (k : Nat) (s : Lex.St) (l : Lex.Lexer), Lex.Good n l → Lex.Extra s l →
    (∀ p ∈ runPos k s l, l.pos ≤ p ∧ p ≤ n) ∧ (runPos k s l).Pairwise (· ≤ ·) := by
  intro k
  induction k with
  | zero =>
    intro s l hg _
    simp only [runPos, List.mem_singleton, forall_eq, List.pairwise_cons, List.not_mem_nil, false_implies,
      implies_true, List.Pairwise.nil, and_self, and_true]
    exact ⟨Int.le_refl _, hg.2.2.2⟩
  | succ k ih =>
    intro s l hg hx
    obtain ⟨⟨s', l'⟩, hstep, hpost⟩ := Lex.step_ok s hg hx
    unfold runPos
    rw [hstep]
    cases s' with
    | none =>
      simp only [List.mem_singleton, forall_eq, List.pairwise_cons, List.not_mem_nil, false_implies,
        implies_true, List.Pairwise.nil, and_self, and_true]
      exact ⟨Int.le_refl _, hg.2.2.2⟩
    | some s'' =>
      obtain ⟨⟨hg', hx'⟩, hlt⟩ := hpost.1 s'' rfl
      dsimp only at hg' hx' hlt
      have hle : l.pos ≤ l'.pos := pos_le_of_phi_lt hg.2.2.2 hg'.2.2.2 hlt
      obtain ⟨hall, hpw⟩ := ih s'' l' hg' hx'
      refine ⟨?_, ?_⟩
      · intro p hp
        simp only [List.mem_cons] at hp
        rcases hp with rfl | hp
        · exact ⟨Int.le_refl _, hg.2.2.2⟩
        · have := hall p hp
          exact ⟨by omega, this.2⟩
      · rw [List.pairwise_cons]
        refine ⟨fun p hp => ?_, hpw⟩
        have := hall p hp
        omega

/-- for the run of `lexAll`: the entry positions of its (at most `7n + 8`) state-function calls are sorted, in `[0, n]` -/
theorem lexAll_positions_sorted (input : Bytes) (exprMode : Bool) :
    let ps := runPos (Lex.fuelFor input.length) (if exprMode then .insideTag else .text) (Lex.initLexer input)
    ps.Pairwise (· ≤ ·) ∧ (∀ p ∈ ps, 0 ≤ p ∧ p ≤ input.length) ∧ ps.length ≤ Lex.fuelFor input.length + 1 := by
  intro ps
  obtain ⟨hall, hpw⟩ := runPos_sorted (input.length : Int) (Lex.fuelFor input.length)
    (if exprMode then .insideTag else .text) (Lex.initLexer input) (init_good input) (init_extra input exprMode)
  refine ⟨hpw, fun p hp => ?_, ?_⟩
  · have := hall p hp
    have h0 : (Lex.initLexer input).pos = 0 := rfl
    omega
  · have hlen : ∀ (k : Nat) (s : Lex.St) (l : Lex.Lexer), (runPos k s l).length ≤ k + 1 := by
      intro k
      induction k with
      | zero => intro s l; simp [runPos]
      | succ k ih =>
        intro s l
        unfold runPos
        split
        · rename_i s' l' _; simp only [List.length_cons]; have := ih s' l'; omega
        · simp
    exact hlen _ _ _

/-! ## The nested lexer and parser of a quoted attribute expression

  `data="…"`, `value="…"` and the expression of `{css e, x}` are lexed and parsed by a NEW lexer and a
  new parser (`parseQuotedExpr str`).  Their budgets are those of a standalone expression of `|str|`
  bytes: `7·|str| + 8` state-function calls and a parser budget of at most `16·|str| + 72`
  (`parseQuotedExpr_budget`).

  The strings: `str` is `strconv.Unquote` of ONE String token (`parseAttrs`; an attribute is looked up
  at most once per tag) or a trimmed prefix of ONE Text token (`parseCss`).  The tokens of a file are
  disjoint pieces of the input (`lex_items_slice`, `lexAll_vals_le`: their values sum to at most `n + 1`
  bytes), so the quoted strings of one file together are linear in `n`: `quoted_budgets_sum_le` — for any
  choice of strings, one per token of a SUB-list of the token stream and at most 3 times as long as
  that token (an unquoted string is at most as long as its quoted form EXCEPT that a byte that is not
  valid UTF-8 becomes the 3 bytes of U+FFFD), the budgets `23·|str| + 80` sum to at most
  `69·(n + 1) + 80·(2n + 1) = 229·n + 149`.
  That each quoted string of a run comes from a token of its own is read off the model
  (`parseAttrs`, `parseCallHead`, `callParamsLoop`, `parseCss`); it is NOT a theorem: the run of the
  model leaves no trace of its calls.

  What is NOT linear as a SUM OF BUDGETS: every embedded expression of a file is parsed on the budget
  `ef = 8·|is| + 64` of the WHOLE token stream (it is a limit on depth + iterations, sufficient
  whatever remains of the stream); a file has up to `|is| / 3` expressions, so the budgets handed out add
  up to a quadratic number although each parse can only consume the tokens in front of it.  The steps
  CONSUMED cannot be stated without a counter in the model. -/

/-- the budget of one quoted expression of `m` bytes: nested lexer + nested parser -/
def quotedBudget (m : Nat) : Nat := Lex.fuelFor m + sourceFuel m

theorem quotedBudget_eq (m : Nat) : quotedBudget m = 23 * m + 80 := by
  unfold quotedBudget Lex.fuelFor sourceFuel; omega

/-- one quoted expression: the nested lexer ends within `7·|str| + 8` state calls, sends at most
    `2·|str| + 1` items, the nested parser's budget is at most `16·|str| + 72`, and
    `parseQuotedExpr` never answers `fuelOut` -/
theorem parseQuotedExpr_budget (pf : Bytes → Option UInt64) (str : Bytes) :
    Lex.lexAll str true ≠ .fuelOut ∧
    (∃ is, Lex.lexAll str true = .items is ∧ is.length ≤ 2 * str.length + 1 ∧
      Parser.fuelFor is.length ≤ sourceFuel str.length) ∧
    ∀ st, parseQuotedExpr pf str st ≠ .error .fuelOut := by
  obtain ⟨is, hl, _⟩ := lex_items str true
  have hle := lexAll_items_le str true is hl
  refine ⟨lex_total str true, ⟨is, hl, hle, by unfold Parser.fuelFor sourceFuel; omega⟩, ?_⟩
  intro st
  have htot : parseExprFuel pf (Parser.fuelFor is.length) is ≠ .error .fuelOut :=
    parse_expr_total_fuel pf _ is (by unfold Parser.fuelFor; omega)
  unfold parseExprFuel at htot
  unfold parseQuotedExpr
  rw [hl]
  simp only
  split
  · split <;> simp
  · show (liftP Parser.errorf : FP Expr) st ≠ _
    unfold liftP Parser.errorf
    split
    · simp
    · simp
    · simp
    · rename_i heq
      exfalso
      unfold Parser.errPos at heq
      split at heq
      · simp at heq
      · rename_i _ e hpe
        simp only [Except.error.injEq] at heq
        subst heq
        repeat' split at hpe
        all_goals simp at hpe
  · simp
  · rename_i he
    rw [he] at htot
    exact absurd rfl htot

theorem sum_map_le_of_sublist (g : Item → Nat) {ts is : List Item} (h : ts.Sublist is) :
    (ts.map g).sum ≤ (is.map g).sum := by
  induction h with
  | slnil => simp
  | cons a _ ih => simp only [List.map_cons, List.sum_cons]; omega
  | cons_cons a _ ih => simp only [List.map_cons, List.sum_cons]; omega

theorem sum_map_le_of_le (g h : Item → Nat) (ts : List Item) (hgh : ∀ t, g t ≤ h t) :
    (ts.map g).sum ≤ (ts.map h).sum := by
  induction ts with
  | nil => simp
  | cons t r ih => simp only [List.map_cons, List.sum_cons]; have := hgh t; omega

theorem sum_map_affine (c d : Nat) (is : List Item) :
    (is.map (fun t => c * t.val.length + d)).sum = c * (is.map (·.val.length)).sum + d * is.length := by
  induction is with
  | nil => simp
  | cons t r ih =>
    simp only [List.map_cons, List.sum_cons, List.length_cons, ih, Nat.mul_add, Nat.mul_one]
    omega

/-- the quoted expressions of one file: strings taken one per token of a sub-list of the token stream,
    each at most 3 times as long as its token — their budgets together are linear in the byte length -/
theorem quoted_budgets_sum_le (input : Bytes) (is : List Item) (hl : Lex.lexAll input false = .items is)
    (ts : List Item) (hsub : ts.Sublist is) (str : Item → Bytes)
    (hstr : ∀ t, (str t).length ≤ 3 * t.val.length) :
    (ts.map (fun t => quotedBudget (str t).length)).sum ≤ 229 * input.length + 149 := by
  have h1 := lexAll_items_le input false is hl
  have h2 := lexAll_vals_le input false is hl
  have h3 : (ts.map (fun t => quotedBudget (str t).length)).sum ≤ (ts.map (fun t => 69 * t.val.length + 80)).sum :=
    sum_map_le_of_le _ _ ts (fun t => by rw [quotedBudget_eq]; have := hstr t; omega)
  have h4 := sum_map_le_of_sublist (fun t => 69 * t.val.length + 80) hsub
  have h5 := sum_map_affine 69 80 is
  omega

/-! ### The length of the quoted strings

  The strings the model hands to `parseQuotedExpr` are `goUnquote tok.val` of a String token
  (`parseAttrs`) and `trimSpace (tok.val.take lastComma)` of a Text token (`parseCss`).  Both are at
  most 3 times as long as the token (`goUnquote_length_le`, `css_expr_length_le`), so
  `quoted_budgets_sum_le_model` needs no length hypothesis: what remains as prose is only that each
  quoted string of a run comes from a token of its own. -/

theorem trimLeftSpace_length_le : ∀ (f : Nat) (s : Bytes), (trimLeftSpace f s).length ≤ s.length := by
  intro f
  induction f with
  | zero => intro s; simp [trimLeftSpace]
  | succ f ih =>
    intro s
    cases s with
    | nil => simp [trimLeftSpace]
    | cons b r =>
      rw [trimLeftSpace]
      · simp only
        split
        · have := ih ((b :: r).drop (Utf8.decodeRune (b :: r)).2)
          simp only [List.length_drop] at this
          omega
        · exact Nat.le_refl _
      · simp

theorem trimRightSpace_length_le : ∀ (f : Nat) (s : Bytes), (trimRightSpace f s).length ≤ s.length := by
  intro f
  induction f with
  | zero => intro s; simp [trimRightSpace]
  | succ f ih =>
    intro s
    rw [trimRightSpace]
    split
    · exact Nat.le_refl _
    · simp only
      split
      · have := ih (s.take (s.length - (decodeLastRune s).2))
        simp only [List.length_take] at this
        omega
      · exact Nat.le_refl _

theorem trimSpace_length_le (s : Bytes) : (trimSpace s).length ≤ s.length := by
  unfold trimSpace
  have h1 := trimLeftSpace_length_le s.length s
  have h2 := trimRightSpace_length_le (trimLeftSpace s.length s).length (trimLeftSpace s.length s)
  exact Nat.le_trans h2 h1

theorem encodeRune_length_le (r : Int) : (Utf8.encodeRune r).length ≤ 4 := by
  unfold Utf8.encodeRune
  simp only
  generalize (if Utf8.validRune r = true then r.toNat else Utf8.runeError) = n
  repeat' split
  all_goals simp

theorem takeHex_length : ∀ (n : Nat) (s : Bytes) (acc v : Nat) (r : Bytes),
    takeHex n s acc = some (v, r) → r.length + n = s.length := by
  intro n
  induction n with
  | zero => intro s acc v r h; simp [takeHex] at h; rw [h.2]; simp
  | succ n ih =>
    intro s acc v r h
    cases s with
    | nil => simp [takeHex] at h
    | cons b t =>
      rw [takeHex] at h
      cases hv : hexVal b with
      | none => rw [hv] at h; simp at h
      | some x =>
        rw [hv] at h
        simp only [Option.bind_some] at h
        have := ih t _ v r h
        simp only [List.length_cons]; omega


/-- the bytes `unquoteLoop` appends for one character -/
def outLen (r : Nat) (mb : Bool) : Nat := if r < 0x80 || !mb then 1 else (Utf8.encodeRune r).length

theorem outLen_false (r : Nat) : outLen r false = 1 := by simp [outLen]
theorem outLen_le4 (r : Nat) (mb : Bool) : outLen r mb ≤ 4 := by
  unfold outLen; split
  · omega
  · exact encodeRune_length_le _

theorem decodeRune_cases (b0 : UInt8) (rest : Bytes) :
    (Utf8.decodeRune (b0 :: rest)).2 ≤ (b0 :: rest).length ∧
    (((Utf8.decodeRune (b0 :: rest)).2 = 1 ∧
        ((Utf8.decodeRune (b0 :: rest)).1 < 0x80 ∨ (Utf8.decodeRune (b0 :: rest)).1 = Utf8.runeError)) ∨
      2 ≤ (Utf8.decodeRune (b0 :: rest)).2) := by
  rcases Lemmas.ParserQuote.decode_cases b0 rest with
    ⟨h, hd⟩ | ⟨_, hd⟩ | ⟨_, pre, suf, r0, hs, hp, _, _, hd, _⟩
  · rw [hd]
    exact ⟨Nat.le_add_left _ _, Or.inl ⟨rfl, Or.inl h⟩⟩
  · rw [hd]
    exact ⟨Nat.le_add_left _ _, Or.inl ⟨rfl, Or.inr rfl⟩⟩
  · rw [hd, hs]
    refine ⟨?_, Or.inr (Nat.succ_le_succ hp)⟩
    simp only [List.length_cons, List.length_append]
    omega

theorem outLen_runeError : outLen Utf8.runeError true = 3 := by
  decide

theorem outLen_decode (b0 : UInt8) (rest : Bytes) :
    outLen (Utf8.decodeRune (b0 :: rest)).1 true + 3 * ((b0 :: rest).drop (Utf8.decodeRune (b0 :: rest)).2).length
      ≤ 3 * (b0 :: rest).length := by
  obtain ⟨hw, hc⟩ := decodeRune_cases b0 rest
  simp only [List.length_drop]
  rcases hc with ⟨h1, h2 | h2⟩ | h2
  · have : outLen (Utf8.decodeRune (b0 :: rest)).1 true = 1 := by simp [outLen, h2]
    omega
  · rw [h2, outLen_runeError]; omega
  · have := outLen_le4 (Utf8.decodeRune (b0 :: rest)).1 true
    omega


/-- an `if` in a hypothesis, taken apart without simplifying the branches -/
theorem of_ite_eq {α : Type} {c : Prop} [Decidable c] {a b r : α} (h : (if c then a else b) = r) :
    (c ∧ a = r) ∨ (¬c ∧ b = r) := by
  split at h
  · exact Or.inl ⟨‹_›, h⟩
  · exact Or.inr ⟨‹_›, h⟩

/-- close a branch of `unquoteChar`: the result is a literal triple -/
macro "uq_fin" h:ident : tactic => `(tactic| (
  simp only [Option.some.injEq, Prod.mk.injEq] at $h:ident
  rcases $h:ident with ⟨h1, h2, h3⟩
  subst h1; subst h2; subst h3
  simp only [List.length_cons]
  first
    | (rw [outLen_false]; omega)
    | (have := outLen_le4 _ true; omega)))

/-- `\uhhhh` / `\Uhhhhhhhh`: `n` hex digits, then the rune if it is valid.  The pair is taken apart with `split`,
    not by `simp only`: `split` rewrites with the matcher's equation, so the proof term names the `if`; after a silent
    reduction the kernel would have to find the `if` by unfolding and would evaluate `Utf8.validRune` on an open term
    (`Nat.sub _ 0xD800` in unary). -/
theorem hexRune_le {n : Nat} {r2 : Bytes} {r : Nat} {mb : Bool} {rem : Bytes}
    (h : ((takeHex n r2 0).bind fun x =>
      match x with
      | (v, r3) => if Utf8.validRune ↑v = true then some (v, true, r3) else none) = some (r, mb, rem)) :
    outLen r mb + 3 * rem.length + 3 * n ≤ 3 * r2.length + 4 := by
  cases ht : takeHex n r2 0 with
  | none => rw [ht] at h; exact absurd h nofun
  | some p =>
    rw [ht, Option.bind_some] at h
    split at h
    rename_i v r3
    have hl := takeHex_length n r2 0 v r3 ht
    rcases of_ite_eq h with ⟨_, h⟩ | ⟨_, h⟩
    · simp only [Option.some.injEq, Prod.mk.injEq] at h
      obtain ⟨rfl, rfl, rfl⟩ := h
      have := outLen_le4 v true
      omega
    · exact absurd h nofun

theorem unquoteChar_le (s : Bytes) (q : UInt8) (r : Nat) (mb : Bool) (rem : Bytes)
    (h : unquoteChar s q = some (r, mb, rem)) : outLen r mb + 3 * rem.length ≤ 3 * s.length := by
  cases s with
  | nil => simp [unquoteChar] at h
  | cons c rest =>
    unfold unquoteChar at h
    simp only at h
    replace h := of_ite_eq h
    rcases h with ⟨c1, h⟩ | ⟨c1, h⟩
    · exact absurd h (by simp)
    replace h := of_ite_eq h
    rcases h with ⟨c2, h⟩ | ⟨c2, h⟩
    · simp only [Option.some.injEq, Prod.mk.injEq] at h
      obtain ⟨rfl, rfl, rfl⟩ := h
      exact outLen_decode c rest
    replace h := of_ite_eq h
    rcases h with ⟨c3, h⟩ | ⟨c3, h⟩
    · uq_fin h
    split at h
    · exact absurd h (by simp)
    · rename_i e r2
      split at h
      any_goals uq_fin h
      · -- \xhh
        cases ht : takeHex 2 r2 0 with
        | none => rw [ht] at h; simp at h
        | some p =>
          rw [ht] at h
          have hl := takeHex_length 2 r2 0 p.1 p.2 ht
          simp only [Option.map_some] at h
          uq_fin h
      · -- \uhhhh
        have := hexRune_le h
        simp only [List.length_cons]; omega
      · -- \Uhhhhhhhh
        have := hexRune_le h
        simp only [List.length_cons]; omega
      · split at h
        · uq_fin h
        · exact absurd h (by simp)
      · split at h
        · uq_fin h
        · exact absurd h (by simp)
      · split at h
        · split at h
          · split at h
            · split at h
              · exact absurd h (by simp)
              · uq_fin h
            · exact absurd h (by simp)
          · exact absurd h (by simp)
        · exact absurd h (by simp)


theorem unquoteLoop_le : ∀ (fuel : Nat) (s : Bytes) (q : UInt8) (buf out rem : Bytes),
    unquoteLoop fuel s q buf = some (out, rem) → out.length + 3 * rem.length ≤ buf.length + 3 * s.length := by
  intro fuel
  induction fuel with
  | zero => intro s q buf out rem h; simp [unquoteLoop] at h
  | succ fuel ih =>
    intro s q buf out rem h
    unfold unquoteLoop at h
    split at h
    · exact absurd h (by simp)
    · rename_i c rest
      split at h
      · simp only [Option.some.injEq, Prod.mk.injEq] at h
        rcases h with ⟨h1, h2⟩
        subst h1; subst h2
        simp only [List.length_cons]; omega
      · split at h
        · exact absurd h (by simp)
        · rename_i r mb rm huc
          have hc := unquoteChar_le _ _ _ _ _ huc
          split at h
          · exact absurd h (by simp)
          · have hb : (if (r < 0x80 || !mb) = true then buf ++ [UInt8.ofNat r] else buf ++ Utf8.encodeRune r).length
                = buf.length + outLen r mb := by
              unfold outLen
              split <;> simp
            simp only at h
            split at h
            · split at h
              · split at h
                · simp only [Option.some.injEq, Prod.mk.injEq] at h
                  rcases h with ⟨h1, h2⟩
                  subst h1; subst h2
                  rw [hb]
                  simp only [List.length_cons] at hc ⊢
                  omega
                · exact absurd h (by simp)
              · exact absurd h (by simp)
            · have := ih _ _ _ _ _ h
              rw [hb] at this
              omega

theorem indexByte_lt {s : Bytes} {b : UInt8} {i : Nat} (h : indexByte s b = some i) : i < s.length := by
  unfold indexByte at h
  simp only at h
  split at h
  · simp only [Option.some.injEq] at h; omega
  · exact absurd h (by simp)

/-- `strconv.Unquote` at most triples the length: escapes only shrink, but in the slow path a byte
    that is not valid UTF-8 becomes the 3 bytes of U+FFFD -/
theorem goUnquote_length_le (s r : Bytes) (h : goUnquote s = some r) : r.length ≤ 3 * s.length := by
  unfold goUnquote at h
  split at h
  · exact absurd h (by simp)
  · exact absurd h (by simp)
  · rename_i quote body _
    split at h
    · split at h
      · exact absurd h (by simp)
      · split at h
        · simp only [Option.some.injEq] at h
          subst h
          have := List.length_filter_le (fun x : UInt8 => x != 13) (List.take ‹Nat› body)
          simp only [List.length_take, List.length_cons] at this ⊢
          omega
        · exact absurd h (by simp)
    · split at h
      · exact absurd h (by simp)
      · split at h
        · exact absurd h (by simp)
        · rename_i endIdx _
          simp only at h
          split at h
          · rename_i out hfast
            split at h
            · simp only [Option.some.injEq] at h
              subst h
              have hout : out = body.take endIdx := by
                revert hfast
                repeat' split
                all_goals simp
                all_goals (intro e; exact e.symm)
              rw [hout]
              simp only [List.length_take, List.length_cons]
              omega
            · exact absurd h (by simp)
          · split at h
            · split at h
              · simp only [Option.some.injEq] at h
                subst h
                rename_i out rem hloop _
                have := unquoteLoop_le _ _ _ _ _ _ hloop
                simp only [List.length_nil, List.length_cons] at this ⊢
                omega
              · exact absurd h (by simp)
            · exact absurd h (by simp)

/-- the expression string of `{css e, x}` is not longer than the Text token it is cut from -/
theorem css_expr_length_le (v : Bytes) (k : Nat) : (trimSpace (v.take k)).length ≤ v.length := by
  have := trimSpace_length_le (v.take k)
  simp only [List.length_take] at this
  omega

/-- the string the model hands to `parseQuotedExpr` for a token: `strconv.Unquote` of a String token's
    value (`parseAttrs`), the trimmed text in front of the last comma of a Text token (`parseCss`) -/
def quotedStr (t : Item) : Bytes :=
  if t.typ = .tString then (goUnquote t.val).getD []
  else match lastIndexByte t.val 44 with
    | some k => trimSpace (t.val.take k)
    | none => []

theorem quotedStr_length_le (t : Item) : (quotedStr t).length ≤ 3 * t.val.length := by
  unfold quotedStr
  split
  · cases h : goUnquote t.val with
    | none => simp
    | some r => simpa using goUnquote_length_le t.val r h
  · split
    · have := css_expr_length_le t.val ‹Nat›
      omega
    · simp

/-- the quoted expressions of one file, with the strings the MODEL computes from the tokens: for any
    sub-list of the token stream the budgets sum to at most `229·n + 149` -/
theorem quoted_budgets_sum_le_model (input : Bytes) (is : List Item) (hl : Lex.lexAll input false = .items is)
    (ts : List Item) (hsub : ts.Sublist is) :
    (ts.map (fun t => quotedBudget (quotedStr t).length)).sum ≤ 229 * input.length + 149 :=
  quoted_budgets_sum_le input is hl ts hsub quotedStr quotedStr_length_le

end SoyVerif.Props.C05
