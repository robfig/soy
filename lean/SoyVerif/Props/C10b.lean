/-
  C10 — is the message id injective on content, up to the 64-bit hash?  What is true and what is not.

  The id is `fingerprint (writeFingerprint … false)` mixed with the meaning: its INPUT is the fingerprint
  string written WITHOUT braces around top-level placeholder names (soymsg/id.go `calcID`: the official
  Soy algorithm `buildMsgContentStrForMsgIdComputation(…, doUseBracedPhs = false)` for non-plural messages).

  * NOT injective (`id_input_collision_text_vs_placeholder`, `id_input_collision_adjacent`): the raw text
    `NAME` and the placeholder named `NAME`, or the placeholders `{A}{B}` and the single `{AB}`, give the SAME
    input string, hence the same id — no hash collision involved.  Confirmed on the real code:
    `{msg}Hello NAME{/msg}` / `{msg}Hello {$name}{/msg}` and `{msg}{$a}{$b}{/msg}` / `{msg}{$ab}{/msg}`
    share their ids.  (This is the official algorithm's behaviour; the property asks to follow it.)
  * injective where text and names cannot run into each other (`id_input_injective_separated`): on flat
    bodies in which texts and placeholders alternate, every text is non-empty and free of `[A-Z0-9_]`, and
    every name is a non-empty `[A-Z0-9_]+`, equal input strings mean equal bodies — there an id collision
    can only come from the hash.  Both hypotheses are needed (the two collisions above).
  * the BRACED string (`PlaceholderString`, what the catalogues store) is injective on flat bodies whose
    texts contain no `{[A-Z0-9_]+}` (`placeholderString_injective`, from `Props.C10.parts_writeFP`).
-/
import SoyVerif.Props.C10

namespace SoyVerif.Props.C10b
open SoyVerif SoyVerif.Model.Msg SoyVerif.Props.C10

/-- `Hello NAME` (raw text) and `Hello {$name}` (a placeholder named NAME): one input string, one id -/
theorem id_input_collision_text_vs_placeholder :
    let m1 : Msg := ⟨[], [], [.text [72, 101, 108, 108, 111, 32, 78, 65, 77, 69]]⟩
    let m2 : Msg := ⟨[], [], [.text [72, 101, 108, 108, 111, 32], .ph [78, 65, 77, 69] [36, 110, 97, 109, 101]]⟩
    namedBody Orders.id m1.body ≠ namedBody Orders.id m2.body ∧
    writeFingerprint Orders.id m1 false = writeFingerprint Orders.id m2 false ∧
    calcID Orders.id m1 = calcID Orders.id m2 ∧
    placeholderString Orders.id m1 ≠ placeholderString Orders.id m2 := by
  refine ⟨fun e => absurd (congrArg (writeFPList true) e) (by decide), by decide, ?_, by decide⟩
  exact id_depends_only_on _ _ _ _ (by decide) rfl

/-- `{$a}{$b}` and `{$ab}`: the names A, B and AB — one input string, one id -/
theorem id_input_collision_adjacent :
    let m1 : Msg := ⟨[], [], [.ph [65] [36, 97], .ph [66] [36, 98]]⟩
    let m2 : Msg := ⟨[], [], [.ph [65, 66] [36, 97, 98]]⟩
    namedBody Orders.id m1.body ≠ namedBody Orders.id m2.body ∧
    writeFingerprint Orders.id m1 false = writeFingerprint Orders.id m2 false ∧
    calcID Orders.id m1 = calcID Orders.id m2 := by
  refine ⟨fun e => absurd (congrArg (writeFPList true) e) (by decide), by decide, ?_⟩
  exact id_depends_only_on _ _ _ _ (by decide) rfl

/-- the longest prefix in a class is determined by the string: `a ++ x = b ++ y` with `a`, `b` inside the
    class and `x`, `y` beginning outside it (or empty) -/
theorem span_unique (P : UInt8 → Bool) : ∀ (a b x y : Bytes), a ++ x = b ++ y →
    (∀ c ∈ a, P c = true) → (∀ c ∈ b, P c = true) → (∀ c t, x = c :: t → P c = false) → (∀ c t, y = c :: t → P c = false) →
    a = b ∧ x = y
  | [], [], x, y, h, _, _, _, _ => ⟨rfl, by simpa using h⟩
  | [], c :: b, x, y, h, _, hb, hx, _ => by
    simp only [List.nil_append, List.cons_append] at h
    have := hx c (b ++ y) h
    rw [hb c (by simp)] at this; exact absurd this (by simp)
  | c :: a, [], x, y, h, ha, _, _, hy => by
    simp only [List.nil_append, List.cons_append] at h
    have := hy c (a ++ x) h.symm
    rw [ha c (by simp)] at this; exact absurd this (by simp)
  | c :: a, d :: b, x, y, h, ha, hb, hx, hy => by
    simp only [List.cons_append, List.cons.injEq] at h
    obtain ⟨h1, h2⟩ := span_unique P a b x y h.2 (fun e he => ha e (by simp [he])) (fun e he => hb e (by simp [he])) hx hy
    exact ⟨by rw [h.1, h1], h2⟩

/-- flat bodies in which non-empty texts without `[A-Z0-9_]` and placeholders with names in `[A-Z0-9_]+`
    alternate (`afterPh`: the previous part was a placeholder; `afterText`: a text) -/
def Sep : Bool → Bool → List NPart → Prop
  | _, _, [] => True
  | _, afterText, .text t :: r => afterText = false ∧ t ≠ [] ∧ (∀ c ∈ t, isPhChar c = false) ∧ Sep false true r
  | afterPh, _, .ph n :: r => afterPh = false ∧ n ≠ [] ∧ (∀ c ∈ n, isPhChar c = true) ∧ Sep true false r
  | _, _, .plural _ _ _ :: _ => False

theorem sep_head : ∀ (l : List NPart) (ap aft : Bool), Sep ap aft l →
    (ap = true → ∀ c t, writeFPList false l = c :: t → isPhChar c = false) ∧
    (aft = true → ∀ c t, writeFPList false l = c :: t → isPhChar c = true)
  | [], _, _, _ => by simp [writeFPList]
  | .text t :: r, ap, aft, h => by
    obtain ⟨h1, h2, h3, _⟩ := h
    subst h1
    refine ⟨fun _ c t' e => ?_, fun hh => absurd hh (by simp)⟩
    cases t with
    | nil => exact absurd rfl h2
    | cons b t0 =>
      simp only [writeFPList, writeFP, List.cons_append, List.cons.injEq] at e
      rw [← e.1]; exact h3 b (by simp)
  | .ph n :: r, ap, aft, h => by
    obtain ⟨h1, h2, h3, _⟩ := h
    subst h1
    refine ⟨fun hh => absurd hh (by simp), fun _ c t' e => ?_⟩
    cases n with
    | nil => exact absurd rfl h2
    | cons b n0 =>
      simp only [writeFPList, writeFP, Bool.false_eq_true, if_false, List.cons_append, List.cons.injEq] at e
      rw [← e.1]; exact h3 b (by simp)
  | .plural _ _ _ :: _, _, _, h => absurd h (by simp [Sep])

theorem sep_first : ∀ (p : NPart) (r : List NPart) (ap aft : Bool), Sep ap aft (p :: r) →
    ∃ c s, writeFPList false (p :: r) = c :: s ∧ isPhChar c = (match p with | .ph _ => true | _ => false)
  | .text [], _, _, _, h => absurd rfl h.2.1
  | .text (b :: t), r, _, _, h => ⟨b, t ++ writeFPList false r, by simp [writeFPList, writeFP], h.2.2.1 b (by simp)⟩
  | .ph [], _, _, _, h => absurd rfl h.2.1
  | .ph (b :: n), r, _, _, h => ⟨b, n ++ writeFPList false r, by simp [writeFPList, writeFP], h.2.2.1 b (by simp)⟩
  | .plural .., _, _, _, h => h.elim

theorem writeFP_injective_separated : ∀ (a b : List NPart) (ap aft : Bool), Sep ap aft a → Sep ap aft b →
    writeFPList false a = writeFPList false b → a = b
  | [], [], _, _, _, _, _ => rfl
  | [], p :: r, _, _, _, hb, h => by
    obtain ⟨c, s, e, _⟩ := sep_first p r _ _ hb
    rw [e] at h; simp [writeFPList] at h
  | p :: r, [], _, _, ha, _, h => by
    obtain ⟨c, s, e, _⟩ := sep_first p r _ _ ha
    rw [e] at h; simp [writeFPList] at h
  | .text t :: r, .text t' :: r', ap, aft, ha, hb, h => by
    obtain ⟨_, _, a3, a4⟩ := ha
    obtain ⟨_, _, b3, b4⟩ := hb
    simp only [writeFPList, writeFP] at h
    have hx := (sep_head r false true a4).2 rfl
    have hy := (sep_head r' false true b4).2 rfl
    obtain ⟨e1, e2⟩ := span_unique (fun c => !isPhChar c) t t' _ _ h (by simpa using a3) (by simpa using b3)
      (fun c t0 e => by simp [hx c t0 e]) (fun c t0 e => by simp [hy c t0 e])
    rw [e1, writeFP_injective_separated r r' false true a4 b4 e2]
  | .ph n :: r, .ph n' :: r', ap, aft, ha, hb, h => by
    obtain ⟨_, _, a3, a4⟩ := ha
    obtain ⟨_, _, b3, b4⟩ := hb
    simp only [writeFPList, writeFP, Bool.false_eq_true, if_false] at h
    have hx := (sep_head r true false a4).1 rfl
    have hy := (sep_head r' true false b4).1 rfl
    obtain ⟨e1, e2⟩ := span_unique isPhChar n n' _ _ h a3 b3 hx hy
    rw [e1, writeFP_injective_separated r r' true false a4 b4 e2]
  | .text t :: r, .ph n :: r', ap, aft, ha, hb, h => by
    obtain ⟨c, s, e1, h1⟩ := sep_first _ r _ _ ha
    obtain ⟨d, s', e2, h2⟩ := sep_first _ r' _ _ hb
    rw [e1, e2] at h
    rw [(List.cons.inj h).1, h2] at h1; exact absurd h1 (by simp)
  | .ph n :: r, .text t :: r', ap, aft, ha, hb, h => by
    obtain ⟨c, s, e1, h1⟩ := sep_first _ r _ _ ha
    obtain ⟨d, s', e2, h2⟩ := sep_first _ r' _ _ hb
    rw [e1, e2] at h
    rw [(List.cons.inj h).1, h2] at h1; exact absurd h1 (by simp)
  | .plural .. :: _, _ :: _, _, _, ha, _, _ => absurd ha (by simp [Sep])
  | _ :: _, .plural .. :: _, _, _, _, hb, _ => absurd hb (by simp [Sep])

/-- C10, injectivity of the id's input: two messages whose named bodies are separated (texts and
    placeholders alternate, texts free of `[A-Z0-9_]`, names in `[A-Z0-9_]+`) and whose fingerprint input
    strings agree have the same named body — for them, different text or a different sequence of placeholder
    names means a different input of the hash -/
theorem id_input_injective_separated (o₁ o₂ : Orders) (m₁ m₂ : Msg)
    (h₁ : Sep false false (namedBody o₁ m₁.body)) (h₂ : Sep false false (namedBody o₂ m₂.body))
    (h : writeFingerprint o₁ m₁ false = writeFingerprint o₂ m₂ false) :
    namedBody o₁ m₁.body = namedBody o₂ m₂.body :=
  writeFP_injective_separated _ _ false false h₁ h₂ h

/-- the braced string `writeFPList true` (what `placeholderString o m` is of `namedBody o m.body`) determines the
    text / placeholder sequence `expectedParts` — adjacent texts merged, empty ones dropped; not the list itself —
    of a flat named body whose texts contain no `{[A-Z0-9_]+}` (`Parts` is a left inverse: `Props.C10.parts_writeFP`) -/
theorem placeholderString_injective (a b : List NPart)
    (ha : NoMatch (leadText a)) (hfa : FlatOK a)
    (hb : NoMatch (leadText b)) (hfb : FlatOK b)
    (h : writeFPList true a = writeFPList true b) :
    expectedParts a [] = expectedParts b [] := by
  rw [← parts_writeFP a ha hfa, ← parts_writeFP b hb hfb, h]

/-- `hello {NAME}, {COUNT} i` is separated (a capital letter in the text would not be: `Hello {NAME}` and
    `{H}ello {NAME}` have one input string) … -/
example : Sep false false [.text [104, 101, 108, 108, 111, 32], .ph [78, 65, 77, 69], .text [44, 32], .ph [67, 79, 85, 78, 84], .text [32, 105]] := by
  simp only [Sep]; decide
/-- … `Hello NAME` (the text contains name characters) and `{A}{B}` (adjacent placeholders) are not -/
example : ¬ Sep false false [.text [72, 78]] := by simp only [Sep]; decide
example : ¬ Sep false false [.ph [65], .ph [66]] := by simp only [Sep]; decide

end SoyVerif.Props.C10b
