/-
  C19 (lexer + parser part): an error of `parse.SoyFile` points into the offending file.

  `parseSource pf input` = lexer model ∘ parser model (tied to the real code by the zero-diff
  sub-checks C05lex / C05parse, op `parsesrc`).

  * `err_at_token` — WHICH position: an error `err pos` of `parse.SoyFile` is positioned at
    one of the tokens the lexer produced for this input (`parse_err_at_lexed_token` on
    `lex_shape`): at the Error item for a lexical error, at the token handed to `unexpected`
    or the parser's current token otherwise — and NOT at the zero item (0:0) that the closed
    channel yields when the parser has read one token of look-ahead past the end (so a block
    left open at EOF is not reported at line 1, column 0).  The invariant
    behind it (Lemmas/ParserSafe `LexJ`): on a stream that ends with its only EOF / Error item
    the parser never continues after consuming that item, so apart from textOrTag's
    look-ahead it never reads the closed channel, and no token it holds is the zero item.
  * `lex_error_at_construct_start` — a lexical error about a construct that is never closed
    (`errorfAt`) is positioned where that construct BEGINS, not at the end of the input where
    the lexer noticed: the bytes of the input at the reported position are its opening delimiter.  (The
    model keeps the class of the error in the Error item's value; op `lex` compares it with the real message.)
  * `err_pos_in_input` — every error `err pos` has `pos ≤ |input|`: every token of the
    lexer — Error items of `errorf` and `errorfAt` included — is positioned inside the input
    (`lex_items`).  Hence the slices `l.input[:pos]` of `lineNumber` / `columnNumber` are in
    range, and
  * `err_line_in_range` — 1 ≤ line ≤ number of lines of the input.
  * `err_in_this_file` — there is no other kind of positioned error: an error inside a quoted attribute
    expression is re-raised by the enclosing parser (`parseQuotedExpr`, parse.go), so every error carries the
    enclosing file's name and coordinates (the model has the single constructor `FErr.err pos`).
  * `parse_error_position_table`, `parse_error_at_lex_error`, `stray_text_error_at_first_visible`,
    `token_line_begin` — WHERE in the offending token (the table further down): a lexical error where the
    lexer put its Error item (the last item, positioned by its class); a token the parser rejects at its
    END, which is on the line the token begins on unless the token contains a line break; stray text
    between the params of a {call} / the cases of a {switch} at its first visible character.
  * `lineNumber_eq`, `lineNumber_succ` — `lineNumber` is the line on which the byte at `pos` stands.
  * `lex_unclosed_tag_at_brace` — in file mode an unclosed tag or literal reported at a position other
    than 0 stands at a `{`.
-/
import SoyVerif.Props.C05parse

namespace SoyVerif.Props.C19
open SoyVerif SoyVerif.Model SoyVerif.Model.FileParser SoyVerif.Props.C05

/-- `lexer.lineNumber(pos)`: 1 + strings.Count(input[:pos], "\n") -/
def lineNumber (input : Bytes) (pos : Nat) : Nat := 1 + ((input.take pos).filter (· == 10)).length

/-- number of lines of the input -/
def lineCount (input : Bytes) : Nat := 1 + (input.filter (· == 10)).length

/-- an error of lexer ∘ parser is positioned at a token of the lexer's stream for this input -/
theorem err_at_token (pf : Bytes → Option UInt64) (input : Bytes) (pos : Nat)
    (h : parseSource pf input = .error (.err pos)) :
    ∃ is, Lex.lexAll input false = .items is ∧ ∃ it ∈ is, Lemmas.ParserSafe.ErrAt it pos :=
  parse_source_err_at_token pf input pos h

theorem soyFile_err_at_token (input : Bytes) (pos : Nat) (h : soyFile input = .error (.err pos)) :
    ∃ is, Lex.lexAll input false = .items is ∧ ∃ it ∈ is, Lemmas.ParserSafe.ErrAt it pos :=
  err_at_token parseFloat64 input pos h

theorem err_pos_in_input (pf : Bytes → Option UInt64) (input : Bytes) (pos : Nat)
    (h : parseSource pf input = .error (.err pos)) : pos ≤ input.length := by
  unfold parseSource at h
  obtain ⟨is, hl, _, hb, _⟩ := lex_items input false
  rw [hl] at h
  rcases parse_err_at_token pf is pos h with h0 | ⟨it, hm, hp⟩
  · omega
  · have := hb it hm
    have := hp.le
    omega

theorem err_line_in_range (pf : Bytes → Option UInt64) (input : Bytes) (pos : Nat)
    (_h : parseSource pf input = .error (.err pos)) :
    1 ≤ lineNumber input pos ∧ lineNumber input pos ≤ lineCount input := by
  unfold lineNumber lineCount
  refine ⟨by omega, ?_⟩
  have : ((input.take pos).filter (· == 10)).length ≤ (input.filter (· == 10)).length := by
    have hsub : List.Sublist ((input.take pos).filter (· == 10)) (input.filter (· == 10)) :=
      List.Sublist.filter _ (List.take_sublist pos input)
    exact hsub.length_le
  omega

/-- every failure of `parse.SoyFile` is an error positioned in this file: it does not panic
    (`parse_source_no_panic`), it terminates (`parse_source_total`), and the position lies
    inside the input -/
theorem err_in_this_file (pf : Bytes → Option UInt64) (input : Bytes) (e : FErr)
    (h : parseSource pf input = .error e) :
    ∃ pos, e = .err pos ∧ pos ≤ input.length := by
  cases e with
  | err pos => exact ⟨pos, rfl, err_pos_in_input pf input pos h⟩
  | panic => exact absurd h (parse_source_no_panic pf input)
  | fuelOut => exact absurd h (parse_source_total pf input)

/-- the same for `soyFile`, the front end with Go's float parsing (`pf := parseFloat64`, the
    soft-float ParseFloat tied by C20f64): no parameter is left open -/
theorem soyFile_err_in_this_file (input : Bytes) (e : FErr) (h : soyFile input = .error e) :
    ∃ pos, e = .err pos ∧ pos ≤ input.length := err_in_this_file parseFloat64 input e h

theorem byteAt_some {l : List UInt8} {i : Nat} {v : UInt8} (hv : v ≠ 0) (h : Lex.byteAt l.toArray i = v.toNat) :
    l[i]? = some v := by
  unfold Lex.byteAt at h
  have h' : l.toArray.getD i 0 = v := UInt8.toNat_inj.mp h
  simp only [Array.getD_eq_getD_getElem?, List.getElem?_toArray] at h'
  cases hx : l[i]? with
  | none => rw [hx] at h'; simp at h'; exact absurd h'.symm hv
  | some x => rw [hx] at h'; simpa using h'

/-- The Error item that ends a token stream, when it complains about an unclosed construct,
    is positioned at the opening delimiter of that construct (`e.val` = the class of the
    message, Model/Lexer.lean `clsTag` …):
    * "unclosed tag" / "unclosed literal": at the `{` that opened the tag, or at 0 (only for
      an expression lexed by `lexExpr`, which is not inside a tag);
    * "unexpected eof while scanning string": at the opening `"` or `'`;
    * "unclosed block comment": at `/*`;
    * "unexpected eof when scanning soydoc": at `/**`;
    * "unexpected beginning to name after '.'" / "… after '?.'": at that `.` / `?`.
    (Class 1 also covers the two malformed tags soy reports at their `{`:
    "expected {@param name: ...}" and "expected closing tag after {literal..".) -/
theorem lex_error_at_construct_start (input : Bytes) (exprMode : Bool) (is : List Item) (e : Item)
    (h : Lex.lexAll input exprMode = .items is) (hl : is.getLast? = some e) (ht : e.typ = .tError) :
    (e.val = [Lex.clsTag] ∨ e.val = [Lex.clsLiteral] → e.pos = 0 ∨ input[e.pos]? = some 123) ∧
    (e.val = [Lex.clsString] → input[e.pos]? = some 34 ∨ input[e.pos]? = some 39) ∧
    (e.val = [Lex.clsComment] → input[e.pos]? = some 47 ∧ input[e.pos + 1]? = some 42) ∧
    (e.val = [Lex.clsSoyDoc] → input[e.pos]? = some 47 ∧ input[e.pos + 1]? = some 42 ∧ input[e.pos + 2]? = some 42) ∧
    (e.val = [Lex.clsName] → input[e.pos]? = some 46 ∨ input[e.pos]? = some 63) := by
  obtain ⟨_, _, _, herr, _⟩ := lexAll_items h
  obtain ⟨h1, h2, h3, h4, h5⟩ := herr e hl ht
  refine ⟨fun hc => ?_, fun hc => ?_, fun hc => ?_, fun hc => ?_, fun hc => ?_⟩
  · rcases h1 hc with h | h
    · exact Or.inl h
    · exact Or.inr (byteAt_some (v := 123) (by decide) h)
  · rcases h2 hc with h | h
    · exact Or.inl (byteAt_some (v := 34) (by decide) h)
    · exact Or.inr (byteAt_some (v := 39) (by decide) h)
  · exact ⟨byteAt_some (v := 47) (by decide) (h3 hc).1, byteAt_some (v := 42) (by decide) (h3 hc).2⟩
  · exact ⟨byteAt_some (v := 47) (by decide) (h4 hc).1, byteAt_some (v := 42) (by decide) (h4 hc).2.1,
      byteAt_some (v := 42) (by decide) (h4 hc).2.2⟩
  · rcases h5 hc with h | h
    · exact Or.inl (byteAt_some (v := 46) (by decide) h)
    · exact Or.inr (byteAt_some (v := 63) (by decide) h)


/-! ### WHERE an error stands: the table

  An error `err pos` of `parse.SoyFile` is about ONE token `it` of the lexer's stream for this input:

  | the token `it`                       | `pos`                                                        |
  |--------------------------------------|--------------------------------------------------------------|
  | the lexer's Error item (the last one)| where the lexer put it — by class (`lex_error_at_construct_start`): the opening delimiter of the construct that is never closed (`{`, the quote, `/*`, `/**`), the `.` / `?` before a bad name; for the class-less errors of `errorf`, behind the character the scanner stopped at |
  | a token the parser rejects           | `it.pos` — the END of that token (`unexpected(tok)`, `errorf` at the current token, `errorfAt(node position)`: nodes are positioned at the end of their first token) |
  | stray TEXT between the params of a {call} / the cases of a {switch} | the first character of that Text token that is not a space, tab, CR or LF (`atTextStart`, parse.go) — not the token's end, which lies behind the line breaks and the indentation that follow the text |

  `lineNumber input pos` = 1 + the number of LF bytes before `pos`: the line ON WHICH THE BYTE AT `pos`
  STANDS (`lineNumber_eq`, `lineNumber_succ`).  So the reported line is the line of the
  opening delimiter (row 1), of the first non-blank character of the stray text (row 3), and in
  row 2 the line on which the rejected token ENDS — the line of the whole token unless it spans a
  line break (only Text, comment, soydoc and string tokens can). -/

/-- the table, rows 2 and 3: the token and the position -/
theorem parse_error_position_table (pf : Bytes → Option UInt64) (input : Bytes) (pos : Nat)
    (h : parseSource pf input = .error (.err pos)) :
    ∃ is, Lex.lexAll input false = .items is ∧ ∃ it ∈ is,
      it.pos = pos ∨
      (it.typ = .tText ∧ ∃ i, ∃ _ : i < it.val.length, pos = it.pos + i - it.val.length ∧
        (it.val[i] ≠ 32 ∧ it.val[i] ≠ 9 ∧ it.val[i] ≠ 13 ∧ it.val[i] ≠ 10) ∧
        ∀ j (_ : j < i), it.val[j] = 32 ∨ it.val[j] = 9 ∨ it.val[j] = 13 ∨ it.val[j] = 10) := by
  obtain ⟨is, hl, it, hm, hat⟩ := err_at_token pf input pos h
  refine ⟨is, hl, it, hm, ?_⟩
  rcases hat with hp | ⟨htx, hp⟩
  · exact Or.inl hp
  · rcases Lemmas.ParserSafe.atTextStart_spec it with ⟨i, hi, he, hnb, hb⟩ | ⟨he, _⟩
    · exact Or.inr ⟨htx, i, hi, by rw [← hp, he], hnb, hb⟩
    · exact Or.inl (by rw [← hp, he])

/-- row 3 in terms of the INPUT: the Text token is the piece `input[s .. it.pos)`, the reported
    position lies inside it, the byte there is not a space / tab / CR / LF, and every byte of the
    token in front of it is one — the error stands at the first visible character of the stray text -/
theorem stray_text_error_at_first_visible (input : Bytes) (is : List Item) (it : Item) (pos : Nat)
    (hl : Lex.lexAll input false = .items is) (hm : it ∈ is) (htx : it.typ = .tText)
    (hne : it.pos ≠ pos) (hat : Lemmas.ParserSafe.ErrAt it pos) :
    ∃ s, s ≤ pos ∧ pos < it.pos ∧ it.pos ≤ input.length ∧ it.val = (input.drop s).take (it.pos - s) ∧
      (∃ b, input[pos]? = some b ∧ b ≠ 32 ∧ b ≠ 9 ∧ b ≠ 13 ∧ b ≠ 10) ∧
      ∀ j, s ≤ j → j < pos → input[j]? = some 32 ∨ input[j]? = some 9 ∨ input[j]? = some 13 ∨ input[j]? = some 10 := by
  obtain ⟨⟨e, hlast, hend⟩, _, _, _⟩ := lexAll_items hl
  have hd : it ∈ is.dropLast := by
    obtain ⟨ys, hys⟩ := List.getLast?_eq_some_iff.mp hlast
    rw [hys] at hm ⊢
    simp only [List.dropLast_concat]
    rcases List.mem_append.mp hm with h | h
    · exact h
    · simp only [List.mem_singleton] at h
      rw [← h, htx] at hend
      rcases hend with h | h <;> exact absurd h (by decide)
  obtain ⟨hlen, hb, hs⟩ := lex_items_slice input false is hl it hd
  have hget : ∀ j (hj : j < it.val.length), input[it.pos - it.val.length + j]? = some it.val[j] := by
    intro j hj
    have h1 : it.val[j]? = ((input.drop (it.pos - it.val.length)).take it.val.length)[j]? :=
      congrArg (·[j]?) hs
    rw [List.getElem?_eq_getElem hj] at h1
    rw [h1, List.getElem?_take, if_pos hj, List.getElem?_drop]
  rcases hat with hp | ⟨_, hp⟩
  · exact absurd hp hne
  rcases Lemmas.ParserSafe.atTextStart_spec it with ⟨i, hi, he, hnb, hbl⟩ | ⟨he, _⟩
  · have hpos : pos = it.pos - it.val.length + i := by rw [← hp, he]; omega
    refine ⟨it.pos - it.val.length, by omega, by omega, hb, ?_, ⟨it.val[i], ?_, hnb⟩, ?_⟩
    · rw [show it.pos - (it.pos - it.val.length) = it.val.length by omega]; exact hs
    · rw [hpos]; exact hget i hi
    · intro j h1 h2
      have hj : j - (it.pos - it.val.length) < i := by omega
      have := hget (j - (it.pos - it.val.length)) (by omega)
      rw [show it.pos - it.val.length + (j - (it.pos - it.val.length)) = j by omega] at this
      rw [this]
      rcases hbl _ hj with h | h | h | h <;> simp [h]
  · exact absurd (by rw [← hp, he]) hne

/-- row 2: a rejected token is reported at its END; when no line break stands inside the token
    (always, but for Text, comment, soydoc and string tokens) that is the line on which it BEGINS -/
theorem token_line_begin (input : Bytes) (is : List Item) (it : Item)
    (hl : Lex.lexAll input false = .items is) (hd : it ∈ is.dropLast) (hnl : ∀ b ∈ it.val, b ≠ 10) :
    lineNumber input it.pos = lineNumber input (it.pos - it.val.length) := by
  obtain ⟨hlen, _, hs⟩ := lex_items_slice input false is hl it hd
  unfold lineNumber
  have h1 : input.take it.pos = input.take (it.pos - it.val.length) ++ it.val := by
    conv => rhs; rhs; rw [hs]
    rw [← List.take_add]
    congr 1; omega
  rw [h1, List.filter_append, List.length_append]
  have : it.val.filter (· == 10) = [] := by
    rw [List.filter_eq_nil_iff]
    intro b hb
    simpa using hnl b hb
  rw [this]; rfl

/-- row 1: when the token is an Error item it is the lexer's last item, positioned by its class -/
theorem parse_error_at_lex_error (input : Bytes) (is : List Item) (e : Item)
    (hl : Lex.lexAll input false = .items is) (hm : e ∈ is) (ht : e.typ = .tError) :
    is.getLast? = some e ∧
    (e.val = [Lex.clsTag] ∨ e.val = [Lex.clsLiteral] → e.pos = 0 ∨ input[e.pos]? = some 123) ∧
    (e.val = [Lex.clsString] → input[e.pos]? = some 34 ∨ input[e.pos]? = some 39) ∧
    (e.val = [Lex.clsComment] → input[e.pos]? = some 47 ∧ input[e.pos + 1]? = some 42) ∧
    (e.val = [Lex.clsSoyDoc] → input[e.pos]? = some 47 ∧ input[e.pos + 1]? = some 42 ∧ input[e.pos + 2]? = some 42) ∧
    (e.val = [Lex.clsName] → input[e.pos]? = some 46 ∨ input[e.pos]? = some 63) := by
  obtain ⟨_, _, hok, _⟩ := lexAll_items hl
  have hlast : is.getLast? = some e := by
    cases hne : is.getLast? with
    | none => simp [List.getLast?_eq_none_iff] at hne; subst hne; simp at hm
    | some x =>
      have hsplit : is = is.dropLast ++ [x] := by
        obtain ⟨ys, hys⟩ := List.getLast?_eq_some_iff.mp hne
        rw [hys]; simp
      rw [hsplit] at hm
      rcases List.mem_append.mp hm with hd | hx
      · have := (hok e hd).1
        simp only [Lex.itemOK, Lex.notEnd, ht, Bool.and_eq_true] at this
        exact absurd this.2 (by decide)
      · simp at hx; rw [hx]
  exact ⟨hlast, lex_error_at_construct_start input false is e hl hlast ht⟩

/-- `lineNumber input pos` is the line on which the byte at `pos` stands: 1 + the LF bytes before it -/
theorem lineNumber_eq (input : Bytes) (pos : Nat) :
    lineNumber input pos = 1 + ((input.take pos).filter (· == 10)).length := rfl

/-- … it moves to the next line exactly behind a LF byte -/
theorem lineNumber_succ (input : Bytes) (pos : Nat) (h : pos < input.length) :
    lineNumber input (pos + 1) = lineNumber input pos + (if input[pos] = 10 then 1 else 0) := by
  unfold lineNumber
  rw [List.take_add_one, List.getElem?_eq_getElem h]
  simp only [Option.toList_some, List.filter_append, List.length_append]
  by_cases hb : input[pos] = 10
  · simp [hb]; omega
  · simp [hb]

/-- in file mode, an "unclosed tag" / "unclosed literal" error reported at a position other than 0 stands
    at a `{` of the input -/
theorem lex_unclosed_tag_at_brace (input : Bytes) (is : List Item) (e : Item)
    (h : Lex.lexAll input false = .items is) (hl : is.getLast? = some e) (ht : e.typ = .tError)
    (hc : e.val = [Lex.clsTag] ∨ e.val = [Lex.clsLiteral]) (hp : e.pos ≠ 0) : input[e.pos]? = some 123 := by
  rcases (lex_error_at_construct_start input false is e h hl ht).1 hc with h0 | h0
  · exact absurd h0 hp
  · exact h0

section
open Lex
set_option maxRecDepth 8000

/-- `/*`: the comment is never closed; the error stands at 0, where `/*` is — not at 2 -/
theorem lex_open_comment : lexAll [47, 42] false = .items [⟨.tError, 0, [3]⟩] := by
  simp [lexAll, Lex.fuelFor, run, step, lexText, lexTextLoop, lexBlockComment, Lexer.next, initLexer, Lexer.len,
    decodeRune, byteAt, maybeEmitText, Lexer.backup, Lex.errorfAt, eof, clsComment]

example : ([47, 42] : Bytes)[0]? = some 47 ∧ ([47, 42] : Bytes)[0 + 1]? = some 42 :=
  (lex_error_at_construct_start [47, 42] false _ ⟨.tError, 0, [3]⟩ lex_open_comment rfl rfl).2.2.1 rfl

/-- `/**`: an unclosed soydoc comment, reported at 0 -/
theorem lex_open_soydoc :
    lexAll [47, 42, 42] false = .items [⟨.tSoyDocStart, 3, [47, 42, 42]⟩, ⟨.tError, 0, [4]⟩] := by
  simp [lexAll, Lex.fuelFor, run, step, lexText, lexTextLoop, lexSoyDoc, lexSoyDocLoop, Lexer.next, initLexer, Lexer.len,
    decodeRune, byteAt, maybeEmitText, Lex.errorfAt, eof, clsSoyDoc, Lexer.emit, sliceOf, Lexer.peek, Lexer.backup]

example := (lex_error_at_construct_start [47, 42, 42] false _ ⟨.tError, 0, [4]⟩ lex_open_soydoc rfl rfl).2.2.2.1 rfl
-- (the classes "unclosed tag", "unclosed literal" and "…scanning string" are exercised by the
--  C05lex correspondence: op `lex` prints the class of every Error item on both sides)
end


/-- the tokens of `{log}` followed by the end of the input: the {log} block is never closed -/
def openLog : List Item :=
  [⟨.tLeftDelim, 1, [123]⟩, ⟨.tLog, 4, [108, 111, 103]⟩, ⟨.tRightDelim, 5, [125]⟩, ⟨.tEOF, 5, []⟩]

example : LexShape openLog := by
  refine ⟨by simp [openLog], ?_, ?_⟩
  · intro x hx
    simp [openLog, List.dropLast] at hx
    rcases hx with rfl | rfl | rfl <;> rfl
  · intro x hx
    simp [openLog, List.getLast?] at hx
    subst hx
    exact ⟨by simp [Lemmas.ParserSafe.valid], rfl⟩

/-- "the outcome is an error at `p`" as a Boolean: the parse trees have no decidable equality, and
    `rfl` would run the parser in the elaborator instead of the kernel -/
def errAt {α : Type} (r : Except FErr α) (p : Nat) : Bool :=
  match r with
  | .error (.err q) => q == p
  | _ => false

theorem eq_of_errAt {α : Type} {r : Except FErr α} {p : Nat} (h : errAt r p = true) :
    r = .error (.err p) := by
  unfold errAt at h
  split at h
  · rw [beq_iff_eq.mp h]
  · cases h

set_option maxHeartbeats 4000000 in
/-- the parser reads the EOF item, then one token of look-ahead from the closed channel (the
    zero item, position 0), and reports the EOF item — position 5, not 0 -/
example : parseFile (fun _ => none) (exprFuel openLog) openLog = .error (.err 5) :=
  eq_of_errAt (by decide +kernel)

/-- a lexical error is reported at the Error item (here an unclosed tag that began at 3) -/
example : parseFile (fun _ => none) (exprFuel [⟨.tText, 3, [97, 98, 99]⟩, ⟨.tError, 3, [1]⟩])
    [⟨.tText, 3, [97, 98, 99]⟩, ⟨.tError, 3, [1]⟩] = .error (.err 3) :=
  eq_of_errAt (by decide +kernel)

end SoyVerif.Props.C19
