/-
  C09 — One compiled bundle can be rendered from many goroutines at once (PARTIAL by nature).

  What is proved: for any number of threads whose steps leave the shared state unchanged
  (the frame property that C08 establishes for the interpreter model: rendering never
  modifies registry, trees, data, ij or the message bundle), under EVERY schedule the
  shared state never changes — so no step ever writes shared memory and there is no pair
  of conflicting accesses, which is the Go memory model's definition of a data race —
  and every step a thread takes, wherever the schedule has got to, is applied to the initial
  shared state (`obs_schedule_independent`; no theorem here composes it with `runSolo_readonly`
  into a statement about the observation lists `Sys.obs`).

  What no theorem about this model can exhibit: the Go scheduler and memory model
  themselves, and writes that are undone before an operation ends.  Those are covered by
  the tie: `cmd racer` (the harness built with -race) runs G goroutines x R renders / JS
  generations / compilations over generated bundles and compares every goroutine's output
  with the sequential output.
-/
import SoyVerif.Model.Interleave

namespace SoyVerif.Props.C09
open SoyVerif.Model.Interleave

variable {σ Obs : Type}

def AllReadOnly (s : σ) (pending : List (List (Step σ Obs))) : Prop :=
  ∀ t ∈ pending, ∀ f ∈ t, ReadOnly s f

theorem runSolo_readonly (s : σ) : ∀ (t : List (Step σ Obs)), (∀ f ∈ t, ReadOnly s f) →
    runSolo s t = (s, t.map (fun f => (f s).2))
  | [], _ => rfl
  | f :: rest, h => by
    have hf : (f s).1 = s := h f (by simp)
    have ih := runSolo_readonly s rest (fun g hg => h g (by simp [hg]))
    simp only [runSolo]
    rw [show f s = (s, (f s).2) from Prod.ext hf rfl]
    simp [ih]

theorem stepThread_shared (sys : Sys σ Obs) (i : Nat) (h : AllReadOnly sys.shared sys.pending) :
    (stepThread sys i).shared = sys.shared ∧ AllReadOnly sys.shared (stepThread sys i).pending := by
  unfold stepThread
  cases hp : sys.pending[i]? with
  | none => exact ⟨rfl, h⟩
  | some t =>
    cases t with
    | nil => exact ⟨rfl, h⟩
    | cons f rest =>
      have hmem : (f :: rest) ∈ sys.pending := List.mem_of_getElem? hp
      have hf : (f sys.shared).1 = sys.shared := h _ hmem f (by simp)
      refine ⟨hf, ?_⟩
      intro t ht g hg
      simp only at ht  -- beta-reduces the record update `stepThread` builds
      rcases List.mem_or_eq_of_mem_set ht with h1 | h1
      · exact h t h1 g hg
      · subst h1; exact h _ hmem g (by simp [hg])

/-- read-only threads never change the shared state, under every schedule. -/
theorem shared_unchanged (sys : Sys σ Obs) (h : AllReadOnly sys.shared sys.pending) :
    ∀ sched : List Nat, (runSched sys sched).shared = sys.shared ∧
      AllReadOnly sys.shared (runSched sys sched).pending
  | [] => ⟨rfl, h⟩
  | i :: rest => by
    have ⟨h1, h2⟩ := stepThread_shared sys i h
    have ih := shared_unchanged (stepThread sys i) (by rw [h1]; exact h2) rest
    simp only [runSched]
    rw [h1] at ih
    exact ih

/-- the next step of any thread, wherever the schedule has got to, is applied to the initial shared state: it
    leaves it unchanged and observes what it observes there -/
theorem obs_schedule_independent (s : σ) (threads : List (List (Step σ Obs)))
    (h : AllReadOnly s threads) (sched : List Nat) (i : Nat) (f : Step σ Obs) (rest : List (Step σ Obs))
    (hp : (runSched (init s threads) sched).pending[i]? = some (f :: rest)) :
    -- the next step of thread i, wherever the schedule has got to, sees exactly `s`
    (f (runSched (init s threads) sched).shared) = (s, (f s).2) := by
  have ⟨h1, h2⟩ := shared_unchanged (init s threads) (by simpa [init] using h) sched
  simp only [init] at h1 h2
  have hmem : (f :: rest) ∈ (runSched (init s threads) sched).pending := List.mem_of_getElem? hp
  have hf : (f s).1 = s := h2 _ hmem f (by simp)
  simp only [init]
  rw [h1]
  exact Prod.ext hf rfl

/- Non-vacuity: two reader threads over a counter, any schedule leaves it alone. -/
example : (runSched (init (7 : Nat) [[fun s => (s, s + 1), fun s => (s, s * 2)], [fun s => (s, s)]]) [1, 0, 0, 1, 0]).shared = 7 := by
  decide
example : (runSched (init (7 : Nat) [[fun s => (s, s + 1), fun s => (s, s * 2)], [fun s => (s, s)]]) [1, 0, 0]).obs = [[8, 14], [7]] := by
  decide

end SoyVerif.Props.C09
