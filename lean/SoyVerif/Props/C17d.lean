/-
  C17 — print commands INSIDE A BODY, at byte level: bodies of text runs (Props/C15c's `textOK`) and ARBITRARY print
  commands, written as `PrintNode.String()` writes them, any number of them (`CBody`); then such a body inside
  `{template .name}` … `{/template}`, and that inside a complete minimal file with a `{namespace n}` line.

  These bodies are the bodies of Props/C15d without comments (`BPiece.toX`; the `toX_*` lemmas carry source, items,
  tokens, hypotheses and nodes across): `body_source_spec_cmds` is `body_source_spec_cmds_comments` there, and
  `print_cmd_in_body_roundtrip` is the body text, command, text.  `lex_text_cmd_text` (the items of that body, as
  `bodyItems`) is two runs of Props/C17c on its own.  The two frames are runs around the body's run (`frame_run`;
  `kw_tag_run` is the tag `{` keyword ` ` token `}` of which `{template .name}` and `{namespace n}` are instances), and
  the parser reads the body by Props/C15d's `parse_xbody_until` with `{/template` as the tokens that end the list.

  Items have their exact END offsets; nodes are stated modulo positions (`NodesMatch`).  Not covered: a soydoc
  `/** */` in front of the template (Props/C17e has the minimal one).

  At the end, in the namespace of Props/C17c: the lone print command as the body of one piece (`lex_print_cmd_items`,
  `print_cmd_roundtrip_bytes`, `print_cmd_file_roundtrip` and the two injectivity statements).
-/
import SoyVerif.Props.C15d

namespace SoyVerif.Props.C17d
open SoyVerif SoyVerif.Model SoyVerif.Model.Lex SoyVerif.Model.Parser SoyVerif.Model.PrintTokens
open SoyVerif.Model.Printer SoyVerif.Lemmas.LexPrint SoyVerif.Lemmas.ParserBasic
open SoyVerif.Props.C17c SoyVerif.Props.C15d
open SoyVerif.Props.C15c (Holds textOK textItem TextByte dropped Runs holds_of_inpAt)
open SoyVerif.Props.C15b (textItems skipComments_id textOrTag_tag)


section
variable (ff : UInt64 → Bytes)

/-- the items `lex` sends for `t1 ++ {print command} ++ t2` -/
def bodyItems (t1 t2 : Bytes) (arg : Expr) (dirs : List Directive) : List Item :=
  textItem t1 t1.length ++ tagItems ff t1.length arg dirs ++
    textItem t2 (t1.length + (printPrint ff arg dirs).length + t2.length) ++
    [⟨.tEOF, t1.length + (printPrint ff arg dirs).length + t2.length, []⟩]

end

/-- a piece of a body: a stretch of text, or a print command -/
inductive BPiece where
  | text (t : Bytes)
  | cmd (arg : Expr) (dirs : List Directive)

abbrev CBody := List BPiece

def BPiece.isText : BPiece → Bool
  | .text _ => true
  | .cmd _ _ => false

section
variable (ff : UInt64 → Bytes)

/-- the source text of a body: the text pieces as they are, the print commands as `PrintNode.String()` writes them -/
def srcOfC : CBody → Bytes
  | [] => []
  | .text t :: r => t ++ srcOfC r
  | .cmd a d :: r => printPrint ff a d ++ srcOfC r

/-- well-formed: text pieces are C15c's `textOK` and never adjacent; print commands are `CmdOk` -/
def WFL : CBody → Prop
  | [] => True
  | .text t :: r => textOK t ∧ (∀ p ∈ r.head?, p.isText = false) ∧ WFL r
  | .cmd a d :: r => CmdOk ff a d ∧ WFL r

/-- the items `lex` sends for a body that begins at byte `q` (exact END offsets) -/
def itemsOfC : Nat → CBody → List Item
  | q, [] => [⟨.tEOF, q, []⟩]
  | q, .text t :: r => textItem t (q + t.length) ++ itemsOfC (q + t.length) r
  | q, .cmd a d :: r => tagItems ff q a d ++ itemsOfC (q + 1 + (spell (piecesBody ff a d)).length + 1) r

end

section
variable (ff : UInt64 → Bytes)

/-- the items of a body that begins at byte `q`, without the EOF item -/
def itemsB : Nat → CBody → List Item
  | _, [] => []
  | q, .text t :: r => textItem t (q + t.length) ++ itemsB (q + t.length) r
  | q, .cmd a d :: r => tagItems ff q a d ++ itemsB (q + 1 + (spell (piecesBody ff a d)).length + 1) r

/-- … position-free -/
def tksB : CBody → List Tk
  | [] => []
  | .text t :: r => textTk t ++ tksB r
  | .cmd a d :: r => ⟨.tLeftDelim, [123]⟩ :: (unsp (piecesBody ff a d) ++ tRD :: tksB r)

theorem itemsB_tk : ∀ (b : CBody) (q : Nat), (itemsB ff q b).map Item.tk = tksB ff b
  | [], _ => rfl
  | .text t :: r, q => by simp [itemsB, tksB, textItem_tk, itemsB_tk r]
  | .cmd a d :: r, q => by simp [itemsB, tksB, tagItems, emitT_tk, itemsB_tk r, Item.tk, tRD]

end

section
open SoyVerif.Model.FileParser (FState Node NodeList itemListLoop parseFile parseSource)
open SoyVerif.Props.C15c (textNodes toList_append)
variable (ff : UInt64 → Bytes) (pf : Bytes → Option UInt64)

/-- every print command of the body is canonical (what the expression parser returns) -/
def CanonB : CBody → Prop
  | [] => True
  | .text _ :: r => CanonB r
  | .cmd a d :: r => CmdCanon ff pf a d ∧ CanonB r

/-- the node list of a body, MODULO POSITIONS: per text piece the RawText node of its normalised text (none if the lexer
    drops the piece or the text normalises to nothing), per print command its print node -/
def NodesMatch : List Node → CBody → Prop
  | nl, [] => nl = []
  | nl, .text t :: r => ∃ p rest, nl = textNodes t p ++ rest ∧ NodesMatch rest r
  | nl, .cmd a d :: r => ∃ pos e' ds' rest, nl = Node.print pos e' ds' :: rest ∧ erase e' = erase a ∧
      ds'.map eraseDir = d.map eraseDir ∧ NodesMatch rest r

def FuelB (ef G : Nat) : CBody → Prop
  | [] => True
  | .text _ :: r => FuelB ef G r
  | .cmd a d :: r => (ExprFuel ff ef a d ∧ (∀ x ∈ d, x.args.length + d.length + 1 < G) ∧ d.length < G) ∧ FuelB ef G r

/-- every print command's tokens are among the tokens of the body: the fuel of `parse.SoyFile` suffices -/
theorem fuelB_of_lenB : ∀ (b : CBody) (n : Nat), (tksB ff b).length ≤ n → FuelB ff (8 * n + 64) (2 * n + 2) b
  | [], _, _ => trivial
  | .text t :: r, n, h => fuelB_of_lenB r n (by simp [tksB] at h; omega)
  | .cmd a d :: r, n, h => by
    simp only [tksB, List.length_cons, List.length_append] at h
    obtain ⟨f1, f2, f3⟩ := fuel_ok ff a d n (by omega)
    exact ⟨⟨⟨by have := f1.1; omega, fun x hx y hy => by have := f1.2 x hx y hy; omega⟩, f2, f3⟩,
      fuelB_of_lenB r n (by omega)⟩

end

/-! `CBody` with `srcOfC`, `itemsOfC` / `itemsB`, `tksB`, `WFL`, `CanonB`, `FuelB`, `NodesMatch` and Props/C15d's `XBody`
  with `srcOfX`, `itemsOfX` / `itemsXB`, `tksXB`, `WFX`, `CanonX`, `FuelX`, `NodesMatchX` are two descriptions of one thing,
  the second with comments as a third kind of piece; `BPiece.toX` embeds the first in the second and the `toX_*` lemmas
  carry each notion across, so that every theorem of this file about a body is the one of Props/C15d. -/

def BPiece.toX : BPiece → XPiece
  | .text t => .text t
  | .cmd a d => .cmd a d

section
open SoyVerif.Model.FileParser (Node)
open SoyVerif.Props.C15c (textNodes ctextNodes)
variable (ff : UInt64 → Bytes) (pf : Bytes → Option UInt64)

theorem toX_src : ∀ (b : CBody), srcOfX ff (b.map BPiece.toX) = srcOfC ff b
  | [] => rfl
  | .text _ :: r => by simp [srcOfX, srcOfC, BPiece.toX, toX_src r]
  | .cmd _ _ :: r => by simp [srcOfX, srcOfC, BPiece.toX, toX_src r]

theorem toX_items : ∀ (b : CBody) (q : Nat), itemsOfX ff q (b.map BPiece.toX) = itemsOfC ff q b
  | [], _ => rfl
  | .text _ :: r, q => by simp [itemsOfX, itemsOfC, BPiece.toX, toX_items r]
  | .cmd _ _ :: r, q => by simp [itemsOfX, itemsOfC, BPiece.toX, toX_items r]

theorem toX_itemsB : ∀ (b : CBody) (q : Nat), itemsXB ff q (b.map BPiece.toX) = itemsB ff q b
  | [], _ => rfl
  | .text _ :: r, q => by simp [itemsXB, itemsB, BPiece.toX, toX_itemsB r]
  | .cmd _ _ :: r, q => by simp [itemsXB, itemsB, BPiece.toX, toX_itemsB r]

theorem toX_tksB : ∀ (b : CBody), tksXB ff (b.map BPiece.toX) = tksB ff b
  | [] => rfl
  | .text _ :: r => by simp [tksXB, tksB, BPiece.toX, toX_tksB r]
  | .cmd _ _ :: r => by simp [tksXB, tksB, BPiece.toX, toX_tksB r]

theorem toX_head (r : CBody) : nextIsCmt (r.map BPiece.toX) = false ∧
    ((∀ p ∈ r.head?, p.isText = false) → ∀ (n : Nat), ∀ p ∈ (r.map BPiece.toX).head?,
      p.isText = false ∧ (p.isCmt = true → n ≠ 47)) := by
  cases r with
  | nil => exact ⟨rfl, fun _ _ p hp => by simp at hp⟩
  | cons x r =>
    cases x with
    | text t => exact ⟨rfl, fun h => by have := h (.text t) (by simp); simp [BPiece.isText] at this⟩
    | cmd a d =>
      exact ⟨rfl, fun _ _ p hp => by simp [BPiece.toX] at hp; subst hp; simp [XPiece.isText, XPiece.isCmt]⟩

theorem toX_wf : ∀ (b : CBody), WFL ff b → WFX ff (b.map BPiece.toX)
  | [], _ => trivial
  | .text _ :: r, h => ⟨h.1, (toX_head r).2 h.2.1 _, toX_wf r h.2.2⟩
  | .cmd _ _ :: r, h => ⟨h.1, toX_wf r h.2⟩

theorem toX_canon : ∀ (b : CBody), CanonB ff pf b → CanonX ff pf (b.map BPiece.toX)
  | [], _ => trivial
  | .text _ :: r, h => toX_canon r h
  | .cmd _ _ :: r, h => ⟨h.1, toX_canon r h.2⟩

theorem toX_fuel (ef G : Nat) : ∀ (b : CBody), FuelB ff ef G b → FuelX ff ef G (b.map BPiece.toX)
  | [], _ => trivial
  | .text _ :: r, h => toX_fuel ef G r h
  | .cmd _ _ :: r, h => ⟨h.1, toX_fuel ef G r h.2⟩

theorem toX_match : ∀ (b : CBody) (nl : List Node), NodesMatchX false nl (b.map BPiece.toX) → NodesMatch nl b
  | [], _, h => h
  | .text t :: r, _, ⟨p, rest, e, h⟩ => ⟨p, rest, by rw [e, (toX_head r).1]; rfl, toX_match r rest h⟩
  | .cmd _ _ :: r, _, ⟨pos, e', ds', rest, e, he, hd, h⟩ => ⟨pos, e', ds', rest, e, he, hd, toX_match r rest h⟩

end

section
variable (ff : UInt64 → Bytes) (LT : LexTableOK)
include LT

/-- `t`: the text run still to be read; `post`: nothing, or the `{` of a closing command -/
theorem lex_cbody {inp : Array UInt8} (post : Bytes) (hp : post = [] ∨ ∃ p, post = 123 :: p) (b : CBody) (t : Bytes)
    (q : Nat) (hw : WFL ff b) (ht : t = [] ∨ textOK t) (hpend : t ≠ [] → ∀ p ∈ b.head?, p.isText = false)
    (hin : InpAt inp q (t ++ (srcOfC ff b ++ post))) :
    Runs inp .text q (endSt post) (q + t.length + (srcOfC ff b).length)
      (textItem t (q + t.length) ++ (itemsB ff (q + t.length) b ++ endItems post (q + t.length + (srcOfC ff b).length)))
      (7 * (srcOfC ff b).length + 1) := by
  have := lex_xbody ff LT post hp (b.map BPiece.toX) t q (toX_wf ff b hw) ht (fun h => (toX_head b).2 (hpend h) _)
    (by rw [toX_src]; exact hin)
  rwa [toX_src, toX_itemsB] at this

theorem lexAll_cbody (b : CBody) (h : WFL ff b) : lexAll (srcOfC ff b) false = .items (itemsOfC ff 0 b) := by
  have := lexAll_xbody ff LT (b.map BPiece.toX) (toX_wf ff b h)
  rwa [toX_src, toX_items] at this

/-- a print command between two text runs: the Text item of `t1` (none if it is empty or all whitespace with
    a line break), the items of the tag (positions shifted by `t1.length`), the Text item of `t2`, EOF -/
theorem lex_text_cmd_text (t1 t2 : Bytes) (h1 : t1 = [] ∨ textOK t1) (h2 : t2 = [] ∨ textOK t2)
    (arg : Expr) (dirs : List Directive) (h : CmdOk ff arg dirs) :
    lexAll (t1 ++ printPrint ff arg dirs ++ t2) false = .items (bodyItems ff t1 t2 arg dirs) := by
  have hlenP := printPrint_length ff arg dirs
  have hI : InpAt (t1 ++ printPrint ff arg dirs ++ t2).toArray 0 (t1 ++ (printPrint ff arg dirs ++ (t2 ++ []))) := by
    simpa using inpAt_zero (t1 ++ printPrint ff arg dirs ++ t2)
  have hI2 : InpAt (t1 ++ printPrint ff arg dirs ++ t2).toArray (0 + t1.length + 1 + (spell (piecesBody ff arg dirs)).length + 1)
      (t2 ++ []) := by
    have := inpAt_append (a := printPrint ff arg dirs) (inpAt_append hI); rw [hlenP] at this; simpa [Nat.add_assoc] using this
  refine (((text_cmd_runs ff LT t1 h1 arg dirs h _ hI).trans (text_end_runs h2 hI2 (Or.inl rfl))).mono rfl ?_
    (Nat.le_refl _)).lexAll_eq (by simp only [List.length_append]; omega)
  simp [bodyItems, endItems, hlenP, Nat.add_assoc]

end

section
open SoyVerif.Model.FileParser (Node NodeList parseFile parseSource)
open SoyVerif.Props.C15c (textNodes)
open SoyVerif.Spec (joinLines)
variable (ff : UInt64 → Bytes) (pf : Bytes → Option UInt64) (LT : LexTableOK) (T : TableOK)
include LT T

/-- C15c's `body_source_spec` with ARBITRARY print commands.  For every well-formed body
    `b` (text pieces — C15c's `textOK`, no two adjacent — and print commands `{expr|dir:args…}` that are `CmdOk` and
    `CmdCanon`, any number of them), `parse.SoyFile` on the source text `srcOfC ff b` (the commands as
    `PrintNode.String()` writes them):

    * the lexer sends exactly `itemsOfC ff 0 b` — one Text item per text piece that is not dropped, LeftDelim, the
      printed tokens and RightDelim per command, EOF — every item at its exact END offset;
    * the parser returns, in source order, `RawText (joinLines t false false)` for every text piece that is not dropped
      and does not normalise to nothing, and for every command its print node — the expression and every directive with
      its name and arguments, modulo positions (`NodesMatch`). -/
theorem body_source_spec_cmds (b : CBody) (hw : WFL ff b) (hc : CanonB ff pf b) :
    lexAll (srcOfC ff b) false = .items (itemsOfC ff 0 b) ∧
      ∃ nl, parseSource pf (srcOfC ff b) = .ok nl ∧ NodesMatch nl b := by
  obtain ⟨hl, nl, hp, hm⟩ := body_source_spec_cmds_comments ff pf LT T (b.map BPiece.toX) (toX_wf ff b hw) (toX_canon ff pf b hc)
  rw [toX_src] at hl hp
  rw [toX_items] at hl
  exact ⟨hl, nl, hp, toX_match b nl hm⟩

omit LT T in
theorem textNodes_nil (p : Nat) : textNodes [] p = [] := by
  have hj0 : (joinLines [] false false).isEmpty = true := by decide
  unfold textNodes
  rw [if_neg (by rw [hj0]; simp)]

/-- C17 for a print command INSIDE A BODY, from bytes to tree: `parse.SoyFile` on `t1 ++ PrintNode.String() ++ t2`
    (text pieces as in C15c: empty, or ASCII without braces and comment openers) returns the RawText node of `t1` (if it
    is not dropped by the lexer and does not normalise to nothing), the print node — the printed one modulo positions —
    and the RawText node of `t2`.  (`body_source_spec_cmds` for the body of at most three pieces.) -/
theorem print_cmd_in_body_roundtrip (t1 t2 : Bytes) (h1 : t1 = [] ∨ textOK t1) (h2 : t2 = [] ∨ textOK t2)
    (arg : Expr) (dirs : List Directive) (hN : CmdOk ff arg dirs) (hC : CmdCanon ff pf arg dirs) :
    ∃ p1 pos p2 e' ds', parseSource pf (t1 ++ printPrint ff arg dirs ++ t2) =
        .ok (textNodes t1 p1 ++ [Node.print pos e' ds'] ++ textNodes t2 p2) ∧
      erase e' = erase arg ∧ ds'.map eraseDir = dirs.map eraseDir := by
  rcases h1 with rfl | h1 <;> rcases h2 with rfl | h2
  · obtain ⟨_, nl, hp, pos, e', ds', rest, rfl, he, hd, rfl⟩ := body_source_spec_cmds ff pf LT T [.cmd arg dirs] ⟨hN, trivial⟩
      ⟨hC, trivial⟩
    exact ⟨0, pos, 0, e', ds', by simpa [srcOfC, textNodes_nil] using hp, he, hd⟩
  · obtain ⟨_, nl, hp, pos, e', ds', rest, rfl, he, hd, p2, rest2, rfl, rfl⟩ := body_source_spec_cmds ff pf LT T
      [.cmd arg dirs, .text t2] ⟨hN, h2, by simp, trivial⟩ ⟨hC, trivial⟩
    exact ⟨0, pos, p2, e', ds', by simpa [srcOfC, textNodes_nil] using hp, he, hd⟩
  · obtain ⟨_, nl, hp, p1, rest1, rfl, pos, e', ds', rest, rfl, he, hd, rfl⟩ := body_source_spec_cmds ff pf LT T
      [.text t1, .cmd arg dirs] ⟨h1, by simp [BPiece.isText], hN, trivial⟩ ⟨hC, trivial⟩
    exact ⟨p1, pos, 0, e', ds', by simpa [srcOfC, textNodes_nil] using hp, he, hd⟩
  · obtain ⟨_, nl, hp, p1, rest1, rfl, pos, e', ds', rest, rfl, he, hd, p2, rest2, rfl, rfl⟩ := body_source_spec_cmds ff pf LT T
      [.text t1, .cmd arg dirs, .text t2] ⟨h1, by simp [BPiece.isText], hN, h2, by simp, trivial⟩ ⟨hC, trivial⟩
    exact ⟨p1, pos, p2, e', ds', by simpa [srcOfC] using hp, he, hd⟩

end

/-- `template` -/
def kwT : Bytes := [116, 101, 109, 112, 108, 97, 116, 101]

/-- `{template .` name `}` -/
def openTag (nm : Bytes) : Bytes := 123 :: (kwT ++ 32 :: ((46 :: nm) ++ [125]))

/-- `{/template}` -/
def closeTag : Bytes := 123 :: ((47 :: kwT) ++ [125])

/-- a template name as `lexIdent` reads it behind the `.`: a letter or `_`, then letters, digits, `_` (any script) -/
def NameOk (nm : Bytes) : Prop :=
  ∃ c k, nm = c :: k ∧ alnumBytes (c :: k) = true ∧ isDig c = false ∧ ∀ r w, runeAt (c :: k) = some (r, w) → letterR r = true

/-- the items of `{template .name}` at offset `q` -/
def openItems (q : Nat) (nm : Bytes) : List Item :=
  [⟨.tLeftDelim, q + 1, [123]⟩, ⟨.tTemplate, q + 1 + kwT.length, kwT⟩,
   ⟨.tDotIdent, q + 1 + kwT.length + 1 + (46 :: nm).length, 46 :: nm⟩,
   ⟨.tRightDelim, q + 1 + kwT.length + 1 + (46 :: nm).length + 1, [125]⟩]

/-- the items of `{/template}` at offset `e` -/
def closeItems (e : Nat) : List Item :=
  [⟨.tLeftDelim, e + 1, [123]⟩, ⟨.tTemplateEnd, e + 1 + (47 :: kwT).length, 47 :: kwT⟩,
   ⟨.tRightDelim, e + 1 + (47 :: kwT).length + 1, [125]⟩]

section
variable (LT : LexTableOK)
include LT

omit LT in
/-- `{` keyword ` ` token `}` anywhere in the input, from any lexer record in `lexLeftDelim`: nine state functions.
    `t1` is the token of the keyword, `t2` the one behind the space; `h1`, `h2`: the two state functions that read each -/
theorem kw_tag_run {inp : Array UInt8} {q : Nat} (t1 t2 : Tk) (c : UInt8) (k1 post : Bytes) (ht1 : t1.val = c :: k1)
    (hc : c < 128) (hc1 : c ≠ 123) (hc2 : c ≠ 47) (hc3 : c ≠ 92)
    (hin : InpAt inp q (123 :: (t1.val ++ 32 :: (t2.val ++ 125 :: post))))
    (h1 : ∀ le its, Step2 (q : Int) inp (q + 1) le its t1)
    (h2 : ∀ le its, Step2 (q : Int) inp (q + 1 + t1.val.length + 1) le its t2)
    (w : Int) (dd : Bool) (ts : Int) (le : Item) (its : Array Item) (f : Nat) :
    ∃ (w' : Int) (le' : Item) (its' : Array Item),
      run (f + 9) .leftDelim (Lexer.mk inp q q w dd ts le its) =
        run f .text (Lexer.mk inp ((q + 1 + t1.val.length + 1 + t2.val.length + 1 : Nat) : Int)
          ((q + 1 + t1.val.length + 1 + t2.val.length + 1 : Nat) : Int) w' false (q : Int) le' its') ∧
      its'.toList = its.toList ++ [⟨.tLeftDelim, q + 1, [123]⟩, itemOf t1 (q + 1 + t1.val.length),
        itemOf t2 (q + 1 + t1.val.length + 1 + t2.val.length),
        ⟨.tRightDelim, q + 1 + t1.val.length + 1 + t2.val.length + 1, [125]⟩] := by
  have hin' : InpAt inp q (123 :: c :: (k1 ++ 32 :: (t2.val ++ 125 :: post))) := by rw [ht1] at hin; simpa using hin
  have g1 : InpAt inp (q + 1) (t1.val ++ 32 :: (t2.val ++ 125 :: post)) := inpAt_tail hin
  have g2 : InpAt inp (q + 1 + t1.val.length) (32 :: (t2.val ++ 125 :: post)) := inpAt_append g1
  have g4 : InpAt inp (q + 1 + t1.val.length + 1 + t2.val.length) (125 :: post) := inpAt_append (inpAt_tail g2)
  obtain ⟨w1, hr1⟩ := run_of_step2 (h1 ⟨.tLeftDelim, q + 1, [123]⟩ (its.push ⟨.tLeftDelim, q + 1, [123]⟩)) 1 (f + 5)
  obtain ⟨w2, hr2⟩ := run_of_step2 (h2 (itemOf t1 (q + 1 + t1.val.length))
    ((its.push ⟨.tLeftDelim, q + 1, [123]⟩).push (itemOf t1 (q + 1 + t1.val.length)))) 1 (f + 2)
  refine ⟨1, ⟨.tRightDelim, q + 1 + t1.val.length + 1 + t2.val.length + 1, [125]⟩,
    ((((its.push ⟨.tLeftDelim, q + 1, [123]⟩).push (itemOf t1 (q + 1 + t1.val.length))).push
      (itemOf t2 (q + 1 + t1.val.length + 1 + t2.val.length))).push
      ⟨.tRightDelim, q + 1 + t1.val.length + 1 + t2.val.length + 1, [125]⟩), ?_, by simp⟩
  rw [show f + 9 = (((f + 5) + 2) + 1) + 1 by omega, run_step (step_leftDelim hin' hc hc1 w dd ts le its),
    run_step (step_beginTag (inpAt_tail hin') hc hc2 hc3 1 _ _), hr1]
  unfold After
  rw [show f + 5 = ((f + 2) + 2) + 1 by omega, run_step (step_space g2 w1 _ _), hr2]
  unfold After
  rw [show f + 2 = (f + 1) + 1 by omega, run_step (step_rbrace g4 w2 _ _), run_step (step_rightDelim g4 _ _)]
  rfl

/-- `{template .name}` anywhere in the input, from any lexer record in `lexLeftDelim`: nine state functions -/
theorem open_tag_run {inp : Array UInt8} {q : Nat} (nm post : Bytes) (hnm : NameOk nm)
    (hin : InpAt inp q (openTag nm ++ post)) (w : Int) (dd : Bool) (ts : Int) (le : Item) (its : Array Item) (f : Nat) :
    ∃ (w' : Int) (le' : Item) (its' : Array Item),
      run (f + 9) .leftDelim (Lexer.mk inp q q w dd ts le its) =
        run f .text (Lexer.mk inp ((q + 1 + kwT.length + 1 + (46 :: nm).length + 1 : Nat) : Int)
          ((q + 1 + kwT.length + 1 + (46 :: nm).length + 1 : Nat) : Int) w' false (q : Int) le' its') ∧
      its'.toList = its.toList ++ openItems q nm := by
  obtain ⟨c, k, rfl, hk, hdg, hl⟩ := hnm
  have hin' : InpAt inp q (123 :: (kwT ++ 32 :: ((46 :: c :: k) ++ 125 :: post))) := by simpa [openTag] using hin
  exact kw_tag_run ⟨.tTemplate, kwT⟩ ⟨.tDotIdent, 46 :: c :: k⟩ 116 [101, 109, 112, 108, 97, 116, 101] post rfl (by decide)
    (by decide) (by decide) (by decide) hin'
    (fun le its => step_word LT (c := 116) (k := [101, 109, 112, 108, 97, 116, 101]) (inpAt_tail hin') (by decide) (by decide)
      ⟨by decide, by decide⟩ .tTemplate (Or.inl ⟨by decide, by decide, by decide⟩) le its)
    (fun le its => by
      have := step_dot (tg := (q : Int)) LT (inpAt_tail (inpAt_append (inpAt_tail hin'))) hk (fun _ => hl)
        (rest := 125 :: post) ⟨by decide, by decide⟩ le its
      rwa [hdg] at this)
    w dd ts le its f

set_option linter.unusedSectionVars false in
/-- `{/template}` anywhere in the input, from any lexer record in `lexLeftDelim`: five state functions (the closing tag
    `/template` of Props/SrcLex's `tag_run`) -/
theorem close_tag_run {inp : Array UInt8} {e : Nat} (post : Bytes) (hin : InpAt inp e (closeTag ++ post))
    (w : Int) (dd : Bool) (ts : Int) (le : Item) (its : Array Item) (f : Nat) :
    ∃ (w' : Int) (le' : Item) (its' : Array Item),
      run (f + 5) .leftDelim (Lexer.mk inp e e w dd ts le its) =
        run f .text (Lexer.mk inp ((e + 1 + (47 :: kwT).length + 1 : Nat) : Int) ((e + 1 + (47 :: kwT).length + 1 : Nat) : Int)
          w' false (e : Int) le' its') ∧
      its'.toList = its.toList ++ closeItems e :=
  C05c.tag_run (.close kwT) (by decide) (holds_of_inpAt hin) f w dd ts le its

end

section
variable (LT : LexTableOK)
include LT

theorem open_tag_runs {inp : Array UInt8} {q : Nat} (nm post : Bytes) (hnm : NameOk nm)
    (hin : InpAt inp q (openTag nm ++ post)) :
    Runs inp .leftDelim q (some .text) (q + 1 + kwT.length + 1 + (46 :: nm).length + 1) (openItems q nm) 9 :=
  Runs.of_steps fun w dd ts le its f => by
    obtain ⟨w', le', its', hr, hi⟩ := open_tag_run LT nm post hnm hin w dd ts le its f
    exact ⟨w', false, _, le', its', hi, hr⟩

theorem close_tag_runs {inp : Array UInt8} {e : Nat} (post : Bytes) (hin : InpAt inp e (closeTag ++ post)) :
    Runs inp .leftDelim e (some .text) (e + 1 + (47 :: kwT).length + 1) (closeItems e) 5 :=
  Runs.of_steps fun w dd ts le its f => by
    obtain ⟨w', le', its', hr, hi⟩ := close_tag_run LT post hin w dd ts le its f
    exact ⟨w', false, _, le', its', hi, hr⟩

variable (ff : UInt64 → Bytes)

/-- the frame `{template .nm}` body `{/template}` ANYWHERE in the input: from `lexLeftDelim` at its first `{` back to
    `lexText` behind its last `}` -/
theorem frame_run (nm : Bytes) (hnm : NameOk nm) (b : CBody) (hw : WFL ff b) {inp : Array UInt8} {q : Nat} (post : Bytes)
    (hin : InpAt inp q (openTag nm ++ (srcOfC ff b ++ (closeTag ++ post)))) :
    Runs inp .leftDelim q (some .text)
      (q + 1 + kwT.length + 1 + (46 :: nm).length + 1 + (srcOfC ff b).length + 1 + (47 :: kwT).length + 1)
      (openItems q nm ++ itemsB ff (q + 1 + kwT.length + 1 + (46 :: nm).length + 1) b ++
        closeItems (q + 1 + kwT.length + 1 + (46 :: nm).length + 1 + (srcOfC ff b).length))
      (7 * (srcOfC ff b).length + 15) := by
  have hol : (openTag nm).length = 1 + kwT.length + 1 + (46 :: nm).length + 1 := by simp [openTag]; omega
  have hIB : InpAt inp (q + 1 + kwT.length + 1 + (46 :: nm).length + 1)
      ([] ++ (srcOfC ff b ++ 123 :: ((47 :: kwT) ++ [125] ++ post))) := by
    have := inpAt_append hin; rw [hol] at this; simpa [closeTag, Nat.add_assoc] using this
  have hIC : InpAt inp (q + 1 + kwT.length + 1 + (46 :: nm).length + 1 + ([] : Bytes).length + (srcOfC ff b).length)
      (closeTag ++ post) := by
    have := inpAt_append (inpAt_append hIB); simpa [closeTag] using this
  have h2 := lex_cbody ff LT _ (Or.inr ⟨_, rfl⟩) b [] _ hw (Or.inl rfl) (fun h => absurd rfl h) hIB
  refine (((open_tag_runs LT nm _ hnm hin).trans h2).trans (close_tag_runs LT post hIC)).mono (by simp) ?_ (by omega)
  simp [textItem, endItems]

end

section
variable (ff : UInt64 → Bytes)

/-- `{template .name}` body `{/template}` -/
def frameSrc (nm : Bytes) (b : CBody) : Bytes := openTag nm ++ (srcOfC ff b ++ closeTag)

/-- the offset of the body -/
def bodyStart (nm : Bytes) : Nat := 0 + 1 + kwT.length + 1 + (46 :: nm).length + 1

/-- the items `lex` sends for the framed body (exact END offsets) -/
def frameItems (nm : Bytes) (b : CBody) : List Item :=
  openItems 0 nm ++ itemsB ff (bodyStart nm) b ++ closeItems (bodyStart nm + (srcOfC ff b).length) ++
    [⟨.tEOF, bodyStart nm + (srcOfC ff b).length + 1 + (47 :: kwT).length + 1, []⟩]

variable (LT : LexTableOK)
include LT

theorem lex_frame (nm : Bytes) (hnm : NameOk nm) (b : CBody) (hw : WFL ff b) :
    lexAll (frameSrc ff nm b) false = .items (frameItems ff nm b) := by
  have hI0 : InpAt (frameSrc ff nm b).toArray 0 (openTag nm ++ (srcOfC ff b ++ (closeTag ++ []))) := by
    simpa [frameSrc] using inpAt_zero (frameSrc ff nm b)
  have h0 := C15c.text_open_runs (t := []) (Or.inl rfl) (holds_of_inpAt (post := []) (by simpa [openTag] using hI0))
  have h1 := frame_run LT ff nm hnm b hw [] hI0
  have hol : (openTag nm).length = 1 + kwT.length + 1 + (46 :: nm).length + 1 := by simp [openTag]; omega
  have hcl : closeTag.length = 1 + (47 :: kwT).length + 1 := by simp [closeTag]; omega
  have hE : InpAt (frameSrc ff nm b).toArray
      (0 + 1 + kwT.length + 1 + (46 :: nm).length + 1 + (srcOfC ff b).length + 1 + (47 :: kwT).length + 1) ([] ++ []) := by
    have := inpAt_append (inpAt_append (inpAt_append hI0)); rw [hol, hcl] at this; simpa [Nat.add_assoc] using this
  refine (((h0.trans h1).trans (text_end_runs (Or.inl rfl) hE (Or.inl rfl))).mono rfl ?_ (Nat.le_refl _)).lexAll_eq
    (by simp [frameSrc, hol, hcl]; omega)
  simp [frameItems, bodyStart, textItem, endItems]

end

section
open SoyVerif.Model.FileParser (FState FP Node NodeList textOrTag itemListLoop skipComments beginTag parseFile parseSource)
open SoyVerif.Props.C15c (textNodes toList_append)
variable (ff : UInt64 → Bytes) (pf : Bytes → Option UInt64)

/-- `textOrTag` handed a `{` whose command token is no until token: it is `beginTag`'s business -/
theorem textOrTag_begin (ef f : Nat) (untl : List ItemType) (hu1 : untl.contains .tLeftDelim = false) (ld : Item)
    (hld : ld.typ = .tLeftDelim) (t2 : Tk) (ht2 : untl.contains t2.typ = false) (s : List Tk) (st : FState)
    (hst : At st.p (t2 :: s)) :
    ∃ p3, At p3 (t2 :: s) ∧ ∀ (n : Option Node) (st' : FState), beginTag pf ef (f + 1) { st with p := p3 } = .ok (n, st') →
      textOrTag pf ef (f + 2) ld untl st = .ok ((n, false), st') := by
  obtain ⟨x2, _, hn2, p2, rfl, hty, hv, hj2⟩ := Ok.fnext hst
  obtain ⟨_, _, hb3, p3, rfl, ha3⟩ := Ok.fbackup (st := { st with p := p2 }) hj2
  rw [tk_eq hty hv] at ha3
  exact ⟨p3, ha3.at, fun n st' hbt =>
    textOrTag_tag pf (skipComments_id f ld st (by rw [hld]; decide)) hld hu1 hn2 (by rw [hty]; exact ht2) hb3 hbt⟩

/-- one round of `itemList` on `{` and a command token `t2` that is no until token: `beginTag` — started from `p3`, where
    `t2` is backed up — reads the command, and its node is appended -/
theorem loop_cmd (ef f : Nat) (untl : List ItemType) (hu1 : untl.contains .tLeftDelim = false) (t2 : Tk)
    (ht2 : untl.contains t2.typ = false) (s : List Tk) (lpos : Option Nat) (nodes : NodeList) (st : FState)
    (hst : At st.p (⟨.tLeftDelim, [123]⟩ :: t2 :: s)) :
    ∃ lpos' p3, At p3 (t2 :: s) ∧ ∀ (n : Node) (st' : FState), beginTag pf ef (f + 1) { st with p := p3 } = .ok (some n, st') →
      itemListLoop pf ef (f + 3) untl lpos nodes st =
        itemListLoop pf ef (f + 2) untl lpos' (nodes.append (.cons n .nil)) st' := by
  obtain ⟨ld, _, hn1, p1, rfl, hlt, _, hj1⟩ := Ok.fnext hst
  obtain ⟨p3, ha3, H⟩ := textOrTag_begin pf ef f untl hu1 ld hlt t2 ht2 s { st with p := p1 } hj1.at
  refine ⟨some (lpos.getD ld.pos), p3, ha3, fun n st' hbt => ?_⟩
  exact C15c.itemListLoop_round (f := f + 2) (node := some n) pf hn1 (H (some n) st' hbt)

variable (T : TableOK)
include T

/-- the TEMPLATE around a body, token level: `beginTag` on `template` `.name` `}` body `{` `/template` `}` -/
theorem template_body (ef G y : Nat) (b : CBody) (hw : WFL ff b) (hc : CanonB ff pf b) (hfu : FuelB ff ef G b)
    (hy : G + (tksB ff b).length + 4 ≤ y) (tv ev name : Bytes) (rest : List Tk) (st : FState)
    (hst : At st.p (⟨.tTemplate, tv⟩ :: ⟨.tDotIdent, name⟩ :: tRD ::
      (tksB ff b ++ ⟨.tLeftDelim, [123]⟩ :: ⟨.tTemplateEnd, ev⟩ :: tRD :: rest))) :
    ∃ tpos lp nl p', beginTag pf ef (y + 2) st =
        .ok (some (Node.template tpos (st.ns ++ name) (.list lp nl) .unspecified false), { st with p := p' }) ∧
      NodesMatch nl.toList b ∧ At p' rest := by
  obtain ⟨y', rfl⟩ : ∃ y', y = y' + 1 := ⟨y - 1, by omega⟩
  exact template_around pf ef y' tv name _ rest (fun _ nl => NodesMatch nl.toList b) st hst fun p5 h5 => by
    obtain ⟨lp, nl, p6, tail, hil, hnl, hm, ha6⟩ := parse_xbody_until ff pf T ef G [.tTemplateEnd] (by decide) (by decide)
      (by decide) ⟨.tLeftDelim, [123]⟩ (⟨.tTemplateEnd, ev⟩ :: tRD :: rest) (by decide) (by decide)
      (fun p' => At p' (tRD :: rest))
      (fun g n p1 st hty _ hj => textOrTag_close pf ef g [.tTemplateEnd] (by decide) ⟨.tTemplateEnd, ev⟩ (by simp) n hty _ p1 st hj)
      (b.map BPiece.toX) (toX_wf ff b hw) (toX_canon ff pf b hc) (toX_fuel ff ef G b hfu) [] (by simp) (y' + 1) none .nil
      { st with p := p5 } (by rw [toX_tksB]; simpa using h5) (by rw [toX_tksB]; simpa using hy)
    have hm := toX_match b tail hm
    have hnl' : nl.toList = tail := by simpa [NodeList.toList] using hnl
    exact ⟨lp, nl, p6, hil, by rw [hnl']; exact hm, ha6⟩

end

section
open SoyVerif.Model.FileParser (FState FP Node NodeList textOrTag itemListLoop skipComments beginTag parseFile parseSource)
variable (ff : UInt64 → Bytes) (pf : Bytes → Option UInt64) (LT : LexTableOK) (T : TableOK)
include LT T

/-- `body_source_spec_cmds` inside a template: for a template name `nm` (`NameOk`) and a
    well-formed body `b` (text runs and arbitrary print commands), `parse.SoyFile` on
    `{template .nm}` ++ `srcOfC ff b` ++ `{/template}`:

    * the lexer sends exactly `frameItems ff nm b` — LeftDelim Template DotIdent RightDelim, the items of the body,
      LeftDelim TemplateEnd RightDelim, EOF — every item at its exact END offset;
    * the parser returns the one template node, named `.nm` (no namespace), autoescape unspecified, not private, whose
      body list is the RawText / Print nodes of the body in order, print nodes modulo positions (`NodesMatch`). -/
theorem template_frame_spec (nm : Bytes) (hnm : NameOk nm) (b : CBody) (hw : WFL ff b) (hc : CanonB ff pf b) :
    lexAll (frameSrc ff nm b) false = .items (frameItems ff nm b) ∧
      ∃ tpos lp nl, parseSource pf (frameSrc ff nm b) =
          .ok [Node.template tpos (46 :: nm) (.list lp nl) .unspecified false] ∧ NodesMatch nl.toList b := by
  have hl := lex_frame ff LT nm hnm b hw
  refine ⟨hl, ?_⟩
  have htk : (frameItems ff nm b).map Item.tk = ⟨.tLeftDelim, [123]⟩ :: ⟨.tTemplate, kwT⟩ :: ⟨.tDotIdent, 46 :: nm⟩ :: tRD ::
      (tksB ff b ++ ⟨.tLeftDelim, [123]⟩ :: ⟨.tTemplateEnd, 47 :: kwT⟩ :: tRD :: [⟨.tEOF, []⟩]) := by
    simp [frameItems, openItems, closeItems, itemsB_tk, Item.tk, tRD]
  have hlen : (tksB ff b).length + 8 = (frameItems ff nm b).length := by
    have := congrArg List.length htk
    simp at this; omega
  have hfu := fuelB_of_lenB ff b (frameItems ff nm b).length (by omega)
  have hst0 := at_init (frameItems ff nm b)
  rw [htk] at hst0
  obtain ⟨lpos1, p3, ha3, H⟩ := loop_cmd pf (8 * (frameItems ff nm b).length + 64) (8 * (frameItems ff nm b).length + 61) [.tEOF]
    (by decide) ⟨.tTemplate, kwT⟩ (by decide) _ none .nil { p := initState (frameItems ff nm b) } hst0
  obtain ⟨tpos, lp, nl, p4, hbt, hm, ha4⟩ := template_body ff pf T (8 * (frameItems ff nm b).length + 64)
    (2 * (frameItems ff nm b).length + 2) (8 * (frameItems ff nm b).length + 60) b hw hc hfu (by omega) kwT (47 :: kwT) (46 :: nm)
    [⟨.tEOF, []⟩] { p := p3 } ha3
  obtain ⟨lp2, st5, hr5⟩ := loop_eof pf (8 * (frameItems ff nm b).length + 64) (8 * (frameItems ff nm b).length + 60) lpos1
    (NodeList.nil.append (.cons (Node.template tpos (46 :: nm) (.list lp nl) .unspecified false) .nil)) [] { p := p4 } ha4
  exact ⟨tpos, lp, nl, C15c.parseSource_of_loop pf hl ((H _ _ hbt).trans hr5), hm⟩

end

/-- `namespace` -/
def kwN : Bytes := [110, 97, 109, 101, 115, 112, 97, 99, 101]

/-- `{namespace ` name `}` -/
def nsTag (ns : Bytes) : Bytes := 123 :: (kwN ++ 32 :: (ns ++ [125]))

/-- a (one-part) namespace name: an identifier that is no word of `builtinIdents` — the condition `C17c.DirNameOk` puts on
    the name of a directive; `NameOk` above is the one for a name behind a `.`, where the first letter may be of any script
    and no keyword is read -/
def IdentOk (ns : Bytes) : Prop :=
  ∃ c k, ns = c :: k ∧ isIdStart c = true ∧ alnumBytes k = true ∧ Gen.builtinIdents.lookup (c :: k) = none

/-- the items of `{namespace n}` at offset `q` -/
def nsItems (q : Nat) (ns : Bytes) : List Item :=
  [⟨.tLeftDelim, q + 1, [123]⟩, ⟨.tNamespace, q + 1 + kwN.length, kwN⟩,
   ⟨.tIdent, q + 1 + kwN.length + 1 + ns.length, ns⟩,
   ⟨.tRightDelim, q + 1 + kwN.length + 1 + ns.length + 1, [125]⟩]

section
variable (LT : LexTableOK)
include LT

theorem ns_tag_run {inp : Array UInt8} {q : Nat} (ns post : Bytes) (hns : IdentOk ns)
    (hin : InpAt inp q (nsTag ns ++ post)) (w : Int) (dd : Bool) (ts : Int) (le : Item) (its : Array Item) (f : Nat) :
    ∃ (w' : Int) (le' : Item) (its' : Array Item),
      run (f + 9) .leftDelim (Lexer.mk inp q q w dd ts le its) =
        run f .text (Lexer.mk inp ((q + 1 + kwN.length + 1 + ns.length + 1 : Nat) : Int)
          ((q + 1 + kwN.length + 1 + ns.length + 1 : Nat) : Int) w' false (q : Int) le' its') ∧
      its'.toList = its.toList ++ nsItems q ns := by
  obtain ⟨c, k, rfl, hc, hk, hlook⟩ := hns
  have hin' : InpAt inp q (123 :: (kwN ++ 32 :: ((c :: k) ++ 125 :: post))) := by simpa [nsTag] using hin
  exact kw_tag_run ⟨.tNamespace, kwN⟩ ⟨.tIdent, c :: k⟩ 110 [97, 109, 101, 115, 112, 97, 99, 101] post rfl (by decide)
    (by decide) (by decide) (by decide) hin'
    (fun le its => step_word LT (c := 110) (k := [97, 109, 101, 115, 112, 97, 99, 101]) (inpAt_tail hin') (by decide)
      (by decide) ⟨by decide, by decide⟩ .tNamespace (Or.inl ⟨by decide, by decide, by decide⟩) le its)
    (fun le its => step_word (tg := (q : Int)) LT (inpAt_tail (inpAt_append (inpAt_tail hin'))) hc hk (rest := 125 :: post)
      ⟨by decide, by decide⟩ .tIdent (Or.inr ⟨hlook, rfl⟩) le its)
    w dd ts le its f

theorem ns_tag_runs {inp : Array UInt8} {q : Nat} (ns post : Bytes) (hns : IdentOk ns)
    (hin : InpAt inp q (nsTag ns ++ post)) :
    Runs inp .leftDelim q (some .text) (q + 1 + kwN.length + 1 + ns.length + 1) (nsItems q ns) 9 :=
  Runs.of_steps fun w dd ts le its f => by
    obtain ⟨w', le', its', hr, hi⟩ := ns_tag_run LT ns post hns hin w dd ts le its f
    exact ⟨w', false, _, le', its', hi, hr⟩

end

section
variable (ff : UInt64 → Bytes)

/-- `{namespace ns}⏎{template .nm}` body `{/template}⏎` -/
def nsSrc (ns nm : Bytes) (b : CBody) : Bytes :=
  nsTag ns ++ (10 :: (openTag nm ++ (srcOfC ff b ++ (closeTag ++ [10]))))

/-- the offset of the `{` of the template tag -/
def tplStart (ns : Bytes) : Nat := 0 + 1 + kwN.length + 1 + ns.length + 1 + 1

/-- the items `lex` sends for that file (exact END offsets; the two line breaks are dropped) -/
def nsFileItems (ns nm : Bytes) (b : CBody) : List Item :=
  nsItems 0 ns ++ openItems (tplStart ns) nm ++ itemsB ff (tplStart ns + 1 + kwT.length + 1 + (46 :: nm).length + 1) b ++
    closeItems (tplStart ns + 1 + kwT.length + 1 + (46 :: nm).length + 1 + (srcOfC ff b).length) ++
    [⟨.tEOF, tplStart ns + 1 + kwT.length + 1 + (46 :: nm).length + 1 + (srcOfC ff b).length + 1 + (47 :: kwT).length + 1 + 1, []⟩]

variable (LT : LexTableOK)
include LT


theorem lex_nsfile (ns nm : Bytes) (hns : IdentOk ns) (hnm : NameOk nm) (b : CBody) (hw : WFL ff b) :
    lexAll (nsSrc ff ns nm b) false = .items (nsFileItems ff ns nm b) := by
  have hI0 : InpAt (nsSrc ff ns nm b).toArray 0 (nsTag ns ++ ([10] ++ (openTag nm ++ (srcOfC ff b ++ (closeTag ++ ([10] ++ [])))))) := by
    simpa [nsSrc] using inpAt_zero (nsSrc ff ns nm b)
  have hnl : (nsTag ns).length = 1 + kwN.length + 1 + ns.length + 1 := by simp [nsTag]; omega
  have hol : (openTag nm).length = 1 + kwT.length + 1 + (46 :: nm).length + 1 := by simp [openTag]; omega
  have hcl : closeTag.length = 1 + (47 :: kwT).length + 1 := by simp [closeTag]; omega
  have hI1 : InpAt (nsSrc ff ns nm b).toArray (0 + 1 + kwN.length + 1 + ns.length + 1)
      ([10] ++ (openTag nm ++ (srcOfC ff b ++ (closeTag ++ ([10] ++ []))))) := by
    have := inpAt_append hI0; rw [hnl] at this; simpa [Nat.add_assoc] using this
  have hI2 : InpAt (nsSrc ff ns nm b).toArray (tplStart ns) (openTag nm ++ (srcOfC ff b ++ (closeTag ++ ([10] ++ [])))) :=
    inpAt_append hI1
  have hIE : InpAt (nsSrc ff ns nm b).toArray
      (tplStart ns + 1 + kwT.length + 1 + (46 :: nm).length + 1 + (srcOfC ff b).length + 1 + (47 :: kwT).length + 1) ([10] ++ []) := by
    have := inpAt_append (inpAt_append (inpAt_append hI2)); rw [hol, hcl] at this; simpa [Nat.add_assoc] using this
  have hdrop : dropped [10] = true := by
    simp [dropped, allSpaceWithNewline, allSpaceLoop, Lex.decodeRune, byteAt, Lex.isSpaceEOL, Lex.isSpace, Lex.isEndOfLine]
  have h0 := C15c.text_open_runs (t := []) (Or.inl rfl) (holds_of_inpAt (post := []) (by simpa [nsTag] using hI0))
  have h1 := ns_tag_runs LT ns _ hns hI0
  have h2 := C15c.text_open_runs (t := [10]) (Or.inr (by decide)) (holds_of_inpAt (post := []) (by simpa [openTag] using hI1))
  have h3 := frame_run LT ff nm hnm b hw _ hI2
  have h4 := text_end_runs (t := [10]) (Or.inr (by decide)) hIE (Or.inl rfl)
  refine (((((h0.trans h1).trans h2).trans h3).trans h4).mono rfl ?_ (Nat.le_refl _)).lexAll_eq
    (by simp [nsSrc, hnl, hol, hcl]; omega)
  simp [nsFileItems, tplStart, textItem, endItems, hdrop]

end

section
open SoyVerif.Model.FileParser (FState FP Node NodeList textOrTag itemListLoop skipComments beginTag parseFile parseSource)
variable (ff : UInt64 → Bytes) (pf : Bytes → Option UInt64)

/-- `beginTag` on `namespace` name `}` (no namespace yet): the namespace node; the state remembers the name -/
theorem namespace_tag (ef y : Nat) (nv name : Bytes) (rest : List Tk) (st : FState) (hns : st.ns = [])
    (hst : At st.p (⟨.tNamespace, nv⟩ :: ⟨.tIdent, name⟩ :: tRD :: rest)) :
    ∃ pos p', beginTag pf ef (y + 3) st = .ok (some (Node.nspace pos name .unspecified), { st with p := p', ns := name }) ∧
      At p' rest := by
  have hG : Ok (beginTag pf ef (y + 3)) st fun v st' => ∃ pos p', v = some (Node.nspace pos name .unspecified) ∧
      st' = { st with p := p', ns := name } ∧ At p' rest := by
    unfold beginTag
    refine (Ok.fnext hst).bindK fun tt p1 ⟨htt, _, hj1⟩ => ?_
    have htt' : tt.typ = .tNamespace := htt
    simp only [htt']
    refine Ok.seq (Q := fun n st' => ∃ p', n = Node.nspace tt.pos name .unspecified ∧
      st' = { st with p := p', ns := name } ∧ At p' rest) ?_ fun n st' ⟨p', hn, hs, ha⟩ => Ok.pure ⟨tt.pos, p', by rw [hn], hs, ha⟩
    unfold FileParser.parseNamespace
    refine Ok.get ?_
    have hne : ((({ st with p := p1 } : FState).ns) != []) = false := by show (st.ns != []) = false; rw [hns]; rfl
    simp only [hne, Bool.false_eq_true, if_false]
    refine (Ok.fexpect (t := ⟨.tIdent, name⟩) hj1.at).bindK fun idt p2 ⟨_, hdv, hj2⟩ => ?_
    unfold FileParser.namespaceLoop
    refine (Ok.fnext (t := tRD) hj2.at).bindK fun r1 p3 ⟨hr1, hr1v, hj3⟩ => ?_
    have hr1' : r1.typ = .tRightDelim := hr1
    simp only [hr1', show (ItemType.tRightDelim == ItemType.tDotIdent) = false by decide, Bool.false_eq_true, if_false]
    refine (Ok.fbackup hj3).bindK fun _ p4 ha4 => ?_
    rw [tk_eq hr1 hr1v] at ha4
    refine (parseAttrs_none [FileParser.kAutoescape] y ha4.at).bindK ?_
    rintro _ p6 ⟨rfl, ha6⟩
    simp only [FileParser.parseAutoescape, FileParser.lookup, List.find?_nil, Option.map_none, Option.getD_none,
      beq_self_eq_true, if_true, pure_bind]
    refine (Ok.fexpect (t := tRD) ha6.at).bindK fun _ p7 ⟨_, _, hj7⟩ => ?_
    -- `modify fun s => { s with ns := name }`, the one step that writes a field other than `p`
    rw [show idt.val = name from hdv]
    exact ⟨_, _, rfl, p7, rfl, rfl, hj7.at⟩
  obtain ⟨_, _, h, pos, p', rfl, rfl, ha⟩ := hG
  exact ⟨pos, p', h, ha⟩

end

section
open SoyVerif.Model.FileParser (FState FP Node NodeList textOrTag itemListLoop skipComments beginTag parseFile parseSource)
variable (ff : UInt64 → Bytes) (pf : Bytes → Option UInt64) (LT : LexTableOK) (T : TableOK)
include LT T

/-- A complete minimal Soy file (without soydoc): `parse.SoyFile` on
    `{namespace ns}⏎{template .nm}` ++ `srcOfC ff b` ++ `{/template}⏎`:

    * the lexer sends exactly `nsFileItems ff ns nm b` — LeftDelim Namespace Ident RightDelim, LeftDelim Template DotIdent
      RightDelim, the items of the body, LeftDelim TemplateEnd RightDelim, EOF (the two line breaks are dropped) — every
      item at its exact END offset;
    * the parser returns the namespace node and the template node named `ns.nm`, whose body list is the RawText / Print
      nodes of the body in order, print nodes modulo positions (`NodesMatch`). -/
theorem namespace_frame_spec (ns nm : Bytes) (hns : IdentOk ns) (hnm : NameOk nm) (b : CBody) (hw : WFL ff b)
    (hc : CanonB ff pf b) :
    lexAll (nsSrc ff ns nm b) false = .items (nsFileItems ff ns nm b) ∧
      ∃ npos tpos lp nl, parseSource pf (nsSrc ff ns nm b) =
          .ok [Node.nspace npos ns .unspecified, Node.template tpos (ns ++ 46 :: nm) (.list lp nl) .unspecified false] ∧
        NodesMatch nl.toList b := by
  have hl := lex_nsfile ff LT ns nm hns hnm b hw
  refine ⟨hl, ?_⟩
  have htk : (nsFileItems ff ns nm b).map Item.tk = ⟨.tLeftDelim, [123]⟩ :: ⟨.tNamespace, kwN⟩ :: ⟨.tIdent, ns⟩ :: tRD ::
      ⟨.tLeftDelim, [123]⟩ :: ⟨.tTemplate, kwT⟩ :: ⟨.tDotIdent, 46 :: nm⟩ :: tRD ::
      (tksB ff b ++ ⟨.tLeftDelim, [123]⟩ :: ⟨.tTemplateEnd, 47 :: kwT⟩ :: tRD :: [⟨.tEOF, []⟩]) := by
    simp [nsFileItems, nsItems, openItems, closeItems, itemsB_tk, Item.tk, tRD]
  have hlen : (tksB ff b).length + 12 = (nsFileItems ff ns nm b).length := by
    have := congrArg List.length htk
    simp at this; omega
  have hfu := fuelB_of_lenB ff b (nsFileItems ff ns nm b).length (by omega)
  have hst0 := at_init (nsFileItems ff ns nm b)
  rw [htk] at hst0
  -- three rounds of `itemList`: the namespace tag, the template, EOF
  obtain ⟨lpos1, p3, ha3, H1⟩ := loop_cmd pf (8 * (nsFileItems ff ns nm b).length + 64) (8 * (nsFileItems ff ns nm b).length + 61)
    [.tEOF] (by decide) ⟨.tNamespace, kwN⟩ (by decide) _ none .nil { p := initState (nsFileItems ff ns nm b) } hst0
  obtain ⟨npos, p4, hbt1, ha4⟩ := namespace_tag pf (8 * (nsFileItems ff ns nm b).length + 64)
    (8 * (nsFileItems ff ns nm b).length + 59) kwN ns _ { p := p3 } rfl ha3
  obtain ⟨lpos2, p6, ha6, H2⟩ := loop_cmd pf (8 * (nsFileItems ff ns nm b).length + 64) (8 * (nsFileItems ff ns nm b).length + 60)
    [.tEOF] (by decide) ⟨.tTemplate, kwT⟩ (by decide) _ lpos1 (NodeList.nil.append (.cons (Node.nspace npos ns .unspecified) .nil))
    { p := p4, ns := ns } ha4
  obtain ⟨tpos, lp, nl, p7, hbt2, hm, ha7⟩ := template_body ff pf T (8 * (nsFileItems ff ns nm b).length + 64)
    (2 * (nsFileItems ff ns nm b).length + 2) (8 * (nsFileItems ff ns nm b).length + 59) b hw hc hfu (by omega) kwT (47 :: kwT)
    (46 :: nm) [⟨.tEOF, []⟩] { p := p6, ns := ns } ha6
  obtain ⟨lp2, st5, hr5⟩ := loop_eof pf (8 * (nsFileItems ff ns nm b).length + 64) (8 * (nsFileItems ff ns nm b).length + 59) lpos2
    ((NodeList.nil.append (.cons (Node.nspace npos ns .unspecified) .nil)).append
      (.cons (Node.template tpos (ns ++ 46 :: nm) (.list lp nl) .unspecified false) .nil)) [] { p := p7, ns := ns } ha7
  exact ⟨npos, tpos, lp, nl, C15c.parseSource_of_loop pf hl (((H1 _ _ hbt1).trans (H2 _ _ hbt2)).trans hr5), hm⟩

end

end SoyVerif.Props.C17d

/-! # the lone print command: the body of one piece

  What `lexAll_cbody` and `body_source_spec_cmds` say of the body `[.cmd arg dirs]`, in the terms of Props/C17c. -/

namespace SoyVerif.Props.C17c
open SoyVerif SoyVerif.Model SoyVerif.Model.Lex SoyVerif.Model.Parser SoyVerif.Model.PrintTokens
open SoyVerif.Model.Printer SoyVerif.Lemmas.LexPrint SoyVerif.Lemmas.ParserBasic
open SoyVerif.Lemmas.ParserAdj SoyVerif.Lemmas.ParserToks

section
variable (ff : UInt64 → Bytes) (LT : LexTableOK)
include LT

/-- lexing — in file mode — the text `PrintNode.String()` writes for a print command
    yields exactly the LeftDelim item, the printed tokens of the expression, `|` Ident [`:` tokens (`,` tokens)*] for every
    directive, the RightDelim item and EOF -/
theorem lex_print_cmd_items (arg : Expr) (dirs : List Directive) (h : CmdOk ff arg dirs) :
    lexAll (printPrint ff arg dirs) false = .items (cmdItems ff arg dirs) := by
  have := C17d.lexAll_cbody ff LT [.cmd arg dirs] ⟨h, trivial⟩
  simpa [C17d.srcOfC, C17d.itemsOfC, cmdItems, tagItems] using this

/-- … position-free: `{`, the tokens of the expression and of the directives, `}`, EOF -/
theorem lex_print_cmd (arg : Expr) (dirs : List Directive) (h : CmdOk ff arg dirs) :
    ∃ items, lexAll (printPrint ff arg dirs) false = .items items ∧
      items.map Item.tk = ⟨.tLeftDelim, [123]⟩ :: (unsp (piecesBody ff arg dirs) ++ [⟨.tRightDelim, [125]⟩, ⟨.tEOF, []⟩]) :=
  ⟨_, lex_print_cmd_items ff LT arg dirs h, by simp [cmdItems, emitT_tk, Item.tk]⟩

end

section
open SoyVerif.Model.FileParser (FState parsePrint Node)
variable (ff : UInt64 → Bytes) (pf : Bytes → Option UInt64) (LT : LexTableOK) (T : TableOK)
include LT T

/-- C17 for print commands, from bytes to tree (the tag alone): the text `PrintNode.String()` writes, lexed by `lex` (file
    mode) and — behind its `{` — parsed by the file parser's `parsePrint` (models), gives the print node back modulo
    positions: the expression, and every directive with its name and its arguments; what is left in the stream is EOF.
    (`beginTag`'s dispatch to `parsePrint` is `beginTag_print`; the file around the tag `print_cmd_file_roundtrip`.) -/
theorem print_cmd_roundtrip_bytes (arg : Expr) (dirs : List Directive) (hN : CmdOk ff arg dirs) (hC : CmdCanon ff pf arg dirs)
    (token : Item) :
    ∃ items e' ds' p2, lexAll (printPrint ff arg dirs) false = .items items ∧
      parsePrint pf (8 * items.length + 1) (2 * items.length + 2) token { p := initState items.tail } =
        .ok (Node.print token.pos e' ds', { p := p2 }) ∧
      erase e' = erase arg ∧ ds'.map eraseDir = dirs.map eraseDir ∧ At p2 [⟨.tEOF, []⟩] := by
  obtain ⟨items, hl, ht⟩ := lex_print_cmd ff LT arg dirs hN
  cases items with
  | nil => simp at ht
  | cons x its =>
    simp only [List.map_cons, List.cons.injEq] at ht
    have hlen : (unsp (piecesBody ff arg dirs)).length ≤ (x :: its).length := by
      have := congrArg List.length ht.2
      simp at this ⊢; omega
    obtain ⟨f1, f2, f3⟩ := fuel_ok ff arg dirs (x :: its).length hlen
    have hst : At (initState its) (unsp (piecesBody ff arg dirs) ++ tRD :: [⟨.tEOF, []⟩]) := by
      have := at_init its
      rw [ht.2] at this
      simpa [tRD] using this
    obtain ⟨e', ds', p2, h1, h2, h3, h4⟩ := parsePrint_rt ff pf T arg dirs hC _ _ f1 f2 f3 token [⟨.tEOF, []⟩]
      { p := initState its } hst
    exact ⟨x :: its, e', ds', p2, hl, h1, h2, h3, h4⟩

/-- C17, the statement of the property for print commands: two print commands (expression and directives with their
    arguments) that print the same TEXT are the same command, modulo positions -/
theorem print_cmd_injective_bytes (a b : Expr) (da db : List Directive) (hNa : CmdOk ff a da) (hNb : CmdOk ff b db)
    (hCa : CmdCanon ff pf a da) (hCb : CmdCanon ff pf b db) (h : printPrint ff a da = printPrint ff b db) :
    erase a = erase b ∧ da.map eraseDir = db.map eraseDir := by
  obtain ⟨i1, e1, d1, p1, hl1, hp1, he1, hd1, _⟩ := print_cmd_roundtrip_bytes ff pf LT T a da hNa hCa Item.zero
  obtain ⟨i2, e2, d2, p2, hl2, hp2, he2, hd2, _⟩ := print_cmd_roundtrip_bytes ff pf LT T b db hNb hCb Item.zero
  rw [h, hl2] at hl1
  injection hl1 with hi
  subst hi
  rw [hp2] at hp1
  injection hp1 with hp1
  simp only [Prod.mk.injEq, Node.print.injEq] at hp1
  obtain ⟨⟨_, rfl, rfl⟩, _⟩ := hp1
  exact ⟨by rw [← he1, ← he2], by rw [← hd1, ← hd2]⟩

end

section
open SoyVerif.Model.FileParser (Node parseSource parseFile)
variable (ff : UInt64 → Bytes) (pf : Bytes → Option UInt64) (LT : LexTableOK) (T : TableOK)
include LT T

/-- C17 for print commands, from bytes to tree, the file: `parse.SoyFile` (lexer ∘ parser, `parseSource`) on the
    text `PrintNode.String()` writes returns the file whose node list is exactly the one print node, and that node is
    the printed one modulo positions — the expression, and every directive with its name and its arguments:
    `body_source_spec_cmds` for the body of one command.  (The frame is the one of C15c's `body_source_spec`: the model's `parse.SoyFile` does not ask for a
    `{namespace}`/`{template}` around the body — neither does the code: parse.SoyFile is `itemList(itemEOF)`.) -/
theorem print_cmd_file_roundtrip (arg : Expr) (dirs : List Directive) (hN : CmdOk ff arg dirs)
    (hC : CmdCanon ff pf arg dirs) :
    ∃ pos e' ds', parseSource pf (printPrint ff arg dirs) = .ok [Node.print pos e' ds'] ∧
      erase e' = erase arg ∧ ds'.map eraseDir = dirs.map eraseDir := by
  obtain ⟨_, nl, hp, pos, e', ds', rest, rfl, he, hd, rfl⟩ :=
    C17d.body_source_spec_cmds ff pf LT T [.cmd arg dirs] ⟨hN, trivial⟩ ⟨hC, trivial⟩
  exact ⟨pos, e', ds', by simpa [C17d.srcOfC] using hp, he, hd⟩

/-- two print commands (`CmdOk`, `CmdCanon`) on whose texts `parse.SoyFile` returns the same result are the same command,
    modulo positions (so in particular two that print the same text) -/
theorem print_cmd_file_injective (a b : Expr) (da db : List Directive) (hNa : CmdOk ff a da) (hNb : CmdOk ff b db)
    (hCa : CmdCanon ff pf a da) (hCb : CmdCanon ff pf b db)
    (h : parseSource pf (printPrint ff a da) = parseSource pf (printPrint ff b db)) :
    erase a = erase b ∧ da.map eraseDir = db.map eraseDir := by
  obtain ⟨p1, e1, d1, h1, he1, hd1⟩ := print_cmd_file_roundtrip ff pf LT T a da hNa hCa
  obtain ⟨p2, e2, d2, h2, he2, hd2⟩ := print_cmd_file_roundtrip ff pf LT T b db hNb hCb
  rw [h1, h2] at h
  simp only [Except.ok.injEq, List.cons.injEq, Node.print.injEq, and_true] at h
  obtain ⟨_, rfl, rfl⟩ := h
  exact ⟨by rw [← he1, ← he2], by rw [← hd1, ← hd2]⟩

end

end SoyVerif.Props.C17c
