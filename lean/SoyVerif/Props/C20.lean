/-
  C20 — Go values convert faithfully to Soy data and the value laws hold.

  Theorems about the models of data/value.go (Model/Value.lean) and data/convert.go
  (Model/Convert.lean); the models are tied to the code by the correspondences C20f64 / C20val /
  C20conv.  `Spec.JsonLike` / `Spec.Shape` (Spec/Convert.lean) state "JSON-like input" and "same
  structure and scalar values" from the property text.
-/
import SoyVerif.Lemmas.Value
import SoyVerif.Lemmas.Convert

namespace SoyVerif.C20
open SoyVerif SoyVerif.Spec SoyVerif.Convert

/-- equality is symmetric -/
theorem equals_symm (a b : Value) : a.equals b = b.equals a := by
  cases a <;> cases b <;> simp [Value.equals, F64.eq_comm, BEq.comm]

/-- equality across int/float is the IEEE comparison of the converted integer, in both directions -/
theorem equals_int_float_numeric (i : Int64) (f : F64) :
    Value.equals (.int i) (.float f) = F64.eq (F64.ofInt64 i) f ∧
    Value.equals (.float f) (.int i) = F64.eq (F64.ofInt64 i) f := by
  constructor
  · rfl
  · simp [Value.equals, F64.eq_comm]

/-- NaN equals nothing, not even itself -/
theorem equals_nan (f : F64) (h : f.isNaN = true) (v : Value) : Value.equals (.float f) v = false := by
  cases v <;> simp [Value.equals, F64.eq_nan_left _ _ h]

/-- no coercion: string / int, string / float, bool / int, null / undefined, string / bool and null / int are never equal -/
theorem equals_no_coercion (s : Bytes) (i : Int64) (b : Bool) (f : F64) :
    Value.equals (.str s) (.int i) = false ∧ Value.equals (.str s) (.float f) = false ∧
    Value.equals (.bool b) (.int i) = false ∧ Value.equals .null .undefined = false ∧
    Value.equals (.str s) (.bool b) = false ∧ Value.equals .null (.int i) = false := by
  simp [Value.equals]

/-- the truthiness table, exactly: undefined, null, false, 0, ±0.0, NaN and "" are falsy and nothing else is.
    `isZero`/`isNaN` are the concrete bit-level predicates of the soft-float (see `F64.isNaN_iff`). -/
theorem truthy_table (v : Value) :
    v.truthy = false ↔
      v = .undefined ∨ v = .null ∨ v = .bool false ∨ v = .int 0 ∨
      (∃ f, v = .float f ∧ (f.isZero = true ∨ f.isNaN = true)) ∨ v = .str [] := by
  cases v with
  | undefined => simp [Value.truthy]
  | null => simp [Value.truthy]
  | bool b => cases b <;> simp [Value.truthy]
  | int i => simp [Value.truthy]
  | float f =>
    simp only [Value.truthy]
    constructor
    · intro h
      refine Or.inr (Or.inr (Or.inr (Or.inr (Or.inl ⟨f, rfl, ?_⟩))))
      cases hz : F64.eq f F64.zero
      · simp [hz] at h
        exact Or.inr h
      · exact Or.inl ((F64.eq_zero_iff f).1 hz)
    · rintro (h | h | h | h | ⟨g, hg, h⟩ | h)
      · cases h
      · cases h
      · cases h
      · cases h
      · cases hg
        rcases h with h | h
        · simp [(F64.eq_zero_iff f).2 h]
        · simp [h]
      · cases h
  | str s => cases s <;> simp [Value.truthy]
  | list i xs => simp [Value.truthy]
  | map i kvs => simp [Value.truthy]

/-- NaN is falsy (the concrete NaN predicate: exponent all ones, fraction non-zero) -/
theorem nan_falsy (f : F64) (h : F64.infMag < f.bits.toNat % F64.two63) : Value.truthy (.float f) = false :=
  (truthy_table _).2 (Or.inr (Or.inr (Or.inr (Or.inr (Or.inl ⟨f, rfl, Or.inr ((F64.isNaN_iff f).2 h)⟩)))))

/-- every list and map is truthy, the empty ones included -/
theorem collections_truthy (i : Nat) (xs : List Value) (kvs : List (Bytes × Value)) :
    Value.truthy (.list i xs) = true ∧ Value.truthy (.map i kvs) = true := ⟨rfl, rfl⟩

/-- printing is deterministic: whatever order the runtime ranges over the maps in (any permutation,
    chosen per map and even per call), `String()` returns the same bytes or panics the same way -/
theorem toString_order_independent (o₁ o₂ : List Bytes → List Bytes)
    (h₁ : ∀ l, (o₁ l).Perm l) (h₂ : ∀ l, (o₂ l).Perm l) (v : Value) :
    v.toString o₁ = v.toString o₂ :=
  Value.toString_oi o₁ o₂ h₁ h₂ v

/-- printing undefined fails (a map prints an undefined member as "undefined"; anywhere else it makes the whole print fail) -/
theorem toString_undefined (o : List Bytes → List Bytes) : Value.toString o .undefined = none := by
  simp [Value.toString]

/-- an existing Soy value is returned as is … -/
theorem convert_idempotent (lc : Bool) (v : Value) : convert lc (.value v) = some v := by
  simp [convert, convM]

/-- … hence converting the result of a conversion again changes nothing -/
theorem convert_twice (lc : Bool) (g : GoVal) (v : Value) (_ : convert lc g = some v) :
    convert lc (.value v) = some v :=
  convert_idempotent lc v

/-- JSON-like values never panic and convert to a value of the same shape with the same scalars;
    struct fields appear under `fieldKey lc name` and unexported fields do not appear. -/
theorem convert_shape (lc : Bool) (g : GoVal) (h : JsonLike (fieldKey lc) g = true) :
    ∃ v, convert lc g = some v ∧ Shape (fieldKey lc) g v := by
  obtain ⟨v, n', e, s, _⟩ := shapeM lc g (freshBase g) (by unfold freshBase; omega) h
  exact ⟨v, by simp [convert, e], s⟩

/-- the same, read from the result -/
theorem convert_shape_of_result (lc : Bool) (g : GoVal) (v : Value) (h : JsonLike (fieldKey lc) g = true)
    (e : convert lc g = some v) : Shape (fieldKey lc) g v := by
  obtain ⟨v', e', s⟩ := convert_shape lc g h
  rw [e] at e'
  cases e'
  exact s

/-- scalars, kind by kind -/
theorem convert_scalars (lc : Bool) :
    convert lc .nil = some .null ∧ convert lc .nilPtr = some .null ∧
    (∀ b, convert lc (.bool b) = some (.bool b)) ∧
    (∀ k i, convert lc (.int k i) = some (.int i)) ∧
    (∀ f, convert lc (.float32 f) = some (.float f)) ∧ (∀ f, convert lc (.float64 f) = some (.float f)) ∧
    (∀ s, convert lc (.string s) = some (.str s)) ∧ (∀ s, convert lc (.time s) = some (.str s)) ∧
    convert lc .nilSlice = some (.list 0 []) := by
  simp [convert, convM, convK]

/-- unsigned integers keep their value exactly under the guard `u < 2^63` … -/
theorem convert_uint (lc : Bool) (k : UintKind) (u : UInt64) (h : u.toNat < 2 ^ 63) :
    ∃ i : Int64, convert lc (.uint k u) = some (.int i) ∧ i.toInt = (u.toNat : Int) :=
  ⟨u.toInt64, by simp [convert, convM, convK], uint_guard u h⟩

/-- … and the guard is needed: `uint64(2^63)` becomes a negative Int (the known quirk of `Int(v.Uint())`) -/
theorem convert_uint_guard_needed :
    ∃ i : Int64, convert true (.uint .uint64 9223372036854775808) = some (.int i) ∧ i.toInt < 0 :=
  ⟨(9223372036854775808 : UInt64).toInt64, by simp [convert, convM, convK], by decide⟩

/-- pointers and interface holders are transparent on JSON-like values -/
theorem convert_ptr (lc : Bool) (g : GoVal) (h : JsonLike (fieldKey lc) g = true) :
    ∃ v, convert lc (.ptr g) = some v ∧ Shape (fieldKey lc) g v := by
  obtain ⟨v, e, s⟩ := convert_shape lc (.ptr g) (by simpa [JsonLike] using h)
  cases s with
  | ptr s' => exact ⟨v, e, s'⟩

/-- the conversions that panic: unsupported kinds, non-empty maps with non-string keys; a nil pointer to a
    marshaler type is null like every nil pointer -/
theorem convert_panics (lc : Bool) (n : Nat) :
    convert lc .unsupported = none ∧ convert lc (.keyedMap (n + 1)) = none ∧
    convert lc .nilMarshalerPtr = some .null ∧ convert lc (.slice [.unsupported]) = none := by
  simp [convert, convM, convK, convList]

/-- a Marshaler converts to what it marshals to; so does a pointer to one -/
theorem convert_marshaler (lc : Bool) (r : Value) (u : GoVal) (pr : Bool) :
    convert lc (.marshaler false r u) = some r ∧ convert lc (.ptr (.marshaler pr r u)) = some r := by
  simp [convert, convM]

/-- struct fields appear under their lowerCamel names: the key of a field is `lowerFirst name` when
    the option is set and the name itself otherwise, and for a name starting with an ASCII byte this is
    the name with that first letter lower-cased. -/
theorem lowerCamel_keys :
    (∀ name, fieldKey true name = lowerFirst name) ∧ (∀ name, fieldKey false name = name) ∧
    (∀ (c : UInt8) (rest : Bytes), c < 128 → lowerFirst (c :: rest) = asciiLowerFirst (c :: rest)) := by
  refine ⟨fun _ => rfl, fun _ => rfl, ?_⟩
  intro c rest h
  have hc : c.toNat < 128 := by simpa [UInt8.lt_iff_toNat_lt] using h
  have hd : decodeRune (c :: rest) = (c.toNat, 1) := by simp [decodeRune, h]
  unfold lowerFirst
  rw [hd]
  simp only [lower_ascii c h, asciiLowerFirst, List.drop_succ_cons, List.drop_zero, List.cons_append, List.nil_append]

/-- a converted struct lists its exported fields, in order, under those keys -/
theorem lowerCamel_struct (lc : Bool) (fs : List (Bytes × Bool × GoVal))
    (h : JsonLike (fieldKey lc) (.struct fs) = true) :
    ∃ id m, convert lc (.struct fs) = some (.map id m) ∧ ShapeFields (fieldKey lc) fs m := by
  obtain ⟨v, e, s⟩ := convert_shape lc (.struct fs) h
  cases s with
  | struct _ sf => exact ⟨_, _, e, sf⟩

-- "Foo": int8(5), unexported "bar": chan  ⟶  {foo: 5}
example : convert true (.struct [([70,111,111], true, .int .int8 5), ([98,97,114], false, .unsupported)])
    = some (.map 2 [([102,111,111], .int 5)]) := by
  simp [convert, convM, convK, convFields, freshBase, maxId, maxIdFields, Value.insert, fieldKey, lowerFirst,
    decodeRune, toLower, encodeRune]

example : JsonLike (fieldKey true)
    (.struct [([70,111,111], true, .ptr (.slice [.nil, .uint .uint8 200])), ([98,97,114], false, .unsupported)]) = true := by
  simp [JsonLike, JsonLikeFields, JsonLikeList]

example : JsonLike (fieldKey true) (.slice [.value .null]) = false := by simp [JsonLike, JsonLikeList]

example : Value.equals (.int 3) (.float (F64.ofInt64 3)) = true := by decide
example : Value.equals (.float F64.nan) (.float F64.nan) = false := by decide
example : Value.truthy (.float F64.nan) = false := by decide
example : Value.truthy (.float F64.negZero) = false := by decide
example : Value.truthy (.str [48]) = true := by decide
example : Value.equals (.list 0 []) (.list 1 []) = false := by decide

-- {b: undefined, a: [1, true]} printed under two iteration orders
example : (Value.map 2 [([98], .undefined), ([97], .list 3 [.int 1, .bool true])]).toString id
    = some [123, 97, 58, 32, 91, 49, 44, 32, 116, 114, 117, 101, 93, 44, 32, 98, 58, 32, 117, 110, 100, 101, 102, 105, 110, 101, 100, 125] := by
  decide
example : (Value.map 2 [([98], .undefined), ([97], .list 3 [.int 1, .bool true])]).toString List.reverse
    = (Value.map 2 [([98], .undefined), ([97], .list 3 [.int 1, .bool true])]).toString id :=
  toString_order_independent _ _ (fun l => List.reverse_perm l) (fun l => List.Perm.refl l) _

end SoyVerif.C20
