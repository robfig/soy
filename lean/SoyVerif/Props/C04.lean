/-
  C04 — Go renderer ≡ generated JavaScript: the EXPRESSION stage, partial.

  `gen_correct_expr_partial`: for closed Soy expressions built from null / boolean / integer /
  string literals with unary minus, `not`, `* % + -`, the six comparisons, `and` / `or`, `?:` and
  the conditional operator, whenever the JavaScript text the generator writes has a value under
  the semantics of the common subset (Spec/JsSem: exact integers, well-typed operands), the Soy
  specification (Spec/Eval, Appendix A of DESIGN.md) gives the corresponding value.

  What is and is not covered (hence `_partial`):
    * the link between the generator and the semantics is `walkExpr_renders`: the pieces
      `walkExpr` writes for such an expression are exactly `render` of a `JsExpr` (the shapes
      `(- a)`, `!(a)`, `((a) op (b))`, `((c) ?a:b)`, `((a) != null ? a : b)`);
    * variables, data references and the built-in functions are the subject of Props/C04c, of which this file is the
      closed instance; floats, lists and maps as values are decided by C04exec (execution of every generated program in
      otto), not by a theorem.

  Both theorems are the closed instances of Props/C04c (`walkExpr_renders`, `gen_correct_refs_partial`): `emb` puts the
  expressions of Spec/JsSem among those of Spec/JsSemRef, `eval_emb` says that the larger semantics computes on them
  what the smaller one computes, and a closed expression does not look at the environment (`eval_closed`).  The
  definitions (`toAst`, `render`, `Runs`, `toJs`) are in Props/C04Ops.
-/
import SoyVerif.Props.C04c

namespace SoyVerif.Props.C04
open SoyVerif SoyVerif.Model SoyVerif.Model.JsGen SoyVerif.Spec.JsSem

/-- the expressions of Spec/JsSem among those of Spec/JsSemRef -/
def emb : JsExpr → Spec.JsSemRef.JsExpr
  | .null => .null
  | .bool b => .bool b
  | .num i => .num i
  | .str s => .str s
  | .neg a => .neg (emb a)
  | .not a => .not (emb a)
  | .bin op a b => .bin op (emb a) (emb b)
  | .cond c a b => .cond (emb c) (emb a) (emb b)
  | .nonNull a a' b => .nonNullElse (emb a) (emb a') (emb b)

def embV : JVal → Spec.JsSemRef.JVal
  | .null => .null
  | .bool b => .bool b
  | .num i => .num i
  | .str s => .str s

def embO : JOut → Spec.JsSemRef.JOut
  | .val v => .val (embV v)
  | .unspec => .unspec

theorem embO_bind (o : JOut) (f : JVal → JOut) (g : Spec.JsSemRef.JVal → Spec.JsSemRef.JOut)
    (h : ∀ v, g (embV v) = embO (f v)) : (embO o).bind g = embO (o.bind f) := by
  cases o with
  | val v => exact h v
  | unspec => rfl

theorem numRes_emb (i : Int) : Spec.JsSemRef.numRes i = embO (numRes i) := by
  unfold Spec.JsSemRef.numRes numRes
  split <;> rfl

/-- the two operator tables are the same text: on two numbers the same arithmetic with the same exactness test (`numRes_emb`),
    everywhere else each entry is a closed term on both sides -/
theorem binop_emb (op : JsOp) (a b : JVal) : Spec.JsSemRef.binop op (embV a) (embV b) = embO (binop op a b) := by
  cases a <;> cases b
  case num.num x y =>
    cases op
    case mod =>
      simp only [Spec.JsSemRef.binop, binop, embV]
      split
      · rfl
      · exact numRes_emb _
    all_goals first | rfl | exact numRes_emb _
  all_goals cases op <;> rfl

/-- CONSERVATIVE EXTENSION: on the expressions of Spec/JsSem, in every environment, Spec/JsSemRef computes what Spec/JsSem computes -/
theorem eval_emb (jenv : Spec.JsSemRef.JEnv) : ∀ j : JsExpr, Spec.JsSemRef.eval jenv (emb j) = embO (eval j)
  | .null => rfl
  | .bool _ => rfl
  | .num i => by
    unfold emb Spec.JsSemRef.eval eval
    split <;> rfl
  | .str _ => rfl
  | .neg a => by
    unfold emb Spec.JsSemRef.eval eval
    rw [eval_emb jenv a]
    exact embO_bind _ _ _ (fun v => by cases v <;> first | rfl | exact numRes_emb _)
  | .not a => by
    unfold emb Spec.JsSemRef.eval eval
    rw [eval_emb jenv a]
    exact embO_bind _ _ _ (fun v => by cases v <;> rfl)
  | .cond c a b => by
    unfold emb Spec.JsSemRef.eval eval
    rw [eval_emb jenv c]
    refine embO_bind _ _ _ (fun v => ?_)
    have : Spec.JsSemRef.toBoolean (embV v) = toBoolean v := by cases v <;> rfl
    rw [this]
    split
    · exact eval_emb jenv a
    · exact eval_emb jenv b
  | .nonNull a a' b => by
    unfold emb Spec.JsSemRef.eval eval
    rw [eval_emb jenv a]
    refine embO_bind _ _ _ (fun v => ?_)
    cases v
    · exact eval_emb jenv b
    all_goals exact eval_emb jenv a'
  | .bin op a b => by
    have ha := eval_emb jenv a
    have hb := eval_emb jenv b
    have hbool : ∀ vb : JVal, (match embV vb with | .bool y => Spec.JsSemRef.JOut.val (.bool y) | _ => .unspec) =
        embO (match vb with | .bool y => .val (.bool y) | _ => .unspec) := by
      intro vb; cases vb <;> rfl
    cases op
    case and =>
      unfold emb Spec.JsSemRef.eval eval
      rw [ha]
      refine embO_bind _ _ _ (fun va => ?_)
      cases va <;> try rfl
      rename_i x
      cases x
      · rfl
      · show (Spec.JsSemRef.eval jenv (emb b)).bind _ = _
        rw [hb]
        exact embO_bind _ _ _ hbool
    case or =>
      unfold emb Spec.JsSemRef.eval eval
      rw [ha]
      refine embO_bind _ _ _ (fun va => ?_)
      cases va <;> try rfl
      rename_i x
      cases x
      · show (Spec.JsSemRef.eval jenv (emb b)).bind _ = _
        rw [hb]
        exact embO_bind _ _ _ hbool
      · rfl
    all_goals
      unfold emb Spec.JsSemRef.eval eval
      rw [ha]
      refine embO_bind _ _ _ (fun va => ?_)
      rw [hb]
      exact embO_bind _ _ _ (fun vb => binop_emb _ va vb)

section
variable [C04c.Globals]

theorem toAst_emb (sc : Scope) : ∀ (e : Expr) (j : JsExpr), toAst e = some j → C04c.toAst sc e = some (emb j)
  | .null _, j, h | .bool _ _, j, h | .int _ _, j, h | .str _ _ _, j, h => by cases h; rfl
  | .neg _ a, j, h | .not _ a, j, h => by
    simp only [toAst, Option.map_eq_some_iff] at h
    obtain ⟨ja, ha, rfl⟩ := h
    simp [C04c.toAst, toAst_emb sc a ja ha, emb]
  | .bin op _ a b, j, h => by
    unfold toAst at h
    split at h
    · split at h
      · rename_i ja jb hja hjb
        cases h
        simp [C04c.toAst, toAst_emb sc a ja hja, toAst_emb sc b jb hjb, emb]
      · cases h
    · split at h
      · rename_i hne jo ja jb hop hja hjb
        cases h
        unfold C04c.toAst
        cases op <;> first | exact absurd rfl (hne ·) | simp_all [toAst_emb sc a ja hja, toAst_emb sc b jb hjb, emb]
      · cases h
  | .tern _ c a b, j, h => by
    unfold toAst at h
    split at h
    · rename_i jc ja jb hjc hja hjb
      cases h
      simp [C04c.toAst, toAst_emb sc c jc hjc, toAst_emb sc a ja hja, toAst_emb sc b jb hjb, emb]
    · cases h
  | .float _ _, j, h | .global _ _, j, h | .func _ _ _, j, h | .list _ _, j, h | .map _ _, j, h | .dataRef _ _ _, j, h => by
    simp [toAst] at h

end

theorem render_emb : ∀ j : JsExpr, C04c.render (emb j) = render j
  | .null | .bool _ | .num _ | .str _ => rfl
  | .neg a | .not a => by simp [emb, C04c.render, render, render_emb a]
  | .bin op a b => by simp [emb, C04c.render, render, render_emb a, render_emb b]
  | .cond c a b => by simp [emb, C04c.render, render, render_emb c, render_emb a, render_emb b]
  | .nonNull a a' b => by simp [emb, C04c.render, render, render_emb a, render_emb a', render_emb b]

theorem toJs_of_image [C04c.Globals] {v : Spec.Eval.Val} {jv : JVal} (h : C04c.toJsV v = some (embV jv)) : toJs v = some jv := by
  have hi := C04c.toJsV_inv h
  cases jv <;> simp only [embV] at hi
  case num => rw [hi.1]; rfl
  all_goals (rw [hi]; rfl)

theorem eval_closed (env env' : Spec.Eval.Env) : ∀ (e : Expr) (j : JsExpr), toAst e = some j →
    Spec.Eval.eval env e = Spec.Eval.eval env' e
  | .null _, _, _ | .bool _ _, _, _ | .int _ _, _, _ | .str _ _ _, _, _ => by simp [Spec.Eval.eval]
  | .neg _ a, j, h | .not _ a, j, h => by
    simp only [toAst, Option.map_eq_some_iff] at h
    obtain ⟨ja, ha, rfl⟩ := h
    simp only [Spec.Eval.eval, eval_closed env env' a ja ha]
  | .bin op _ a b, j, h => by
    obtain ⟨ja, jb, hja, hjb⟩ : ∃ ja jb, toAst a = some ja ∧ toAst b = some jb := by
      unfold toAst at h
      split at h
      · split at h
        · exact ⟨_, _, ‹_›, ‹_›⟩
        · cases h
      · split at h
        · exact ⟨_, _, ‹_›, ‹_›⟩
        · cases h
    cases op <;> simp only [Spec.Eval.eval, eval_closed env env' a ja hja, eval_closed env env' b jb hjb]
  | .tern _ c a b, j, h => by
    unfold toAst at h
    split at h
    · rename_i jc ja jb hjc hja hjb
      simp only [Spec.Eval.eval, eval_closed env env' c jc hjc, eval_closed env env' a ja hja, eval_closed env env' b jb hjb]
    · cases h
  | .float _ _, j, h | .global _ _, j, h | .func _ _ _, j, h | .list _ _, j, h | .map _ _, j, h | .dataRef _ _ _, j, h => by
    simp [toAst] at h

/-- For an expression of the fragment the model of the generator
    writes, from every state and under every option, exactly the text of its translation -/
theorem walkExpr_renders (sk : List Bytes → List Bytes) (o : Options) :
    ∀ (e : Expr) (j : JsExpr), toAst e = some j → Runs (walkExpr sk o e) (render j) := by
  intro e j h s
  letI : C04c.Globals := ⟨o.globals⟩
  haveI : C04c.GlobalsAre o := ⟨rfl⟩
  obtain ⟨s', h', _, _⟩ := C04c.walkExpr_renders sk o s.scope e (emb j) (toAst_emb s.scope e j h) s rfl
  exact ⟨s', render_emb j ▸ h'⟩

open SoyVerif.Spec.Eval (Val Out)

theorem showVal_toStr : ∀ (v : Val) (jv : JVal), toJs v = some jv → Spec.Eval.showVal v = .val (toStr jv) := by
  intro v jv h
  cases v <;> simp [toJs] at h <;> subst h <;> simp [Spec.Eval.showVal, toStr, Spec.Eval.sNull, Spec.Eval.sTrue, Spec.Eval.sFalse]

/-- For every closed expression of the fragment and every
    environment, if the JavaScript text the generator writes for it (`walkExpr_renders`) has the
    value `jv` under the semantics of the common subset, then the Soy specification evaluates the
    expression to a value, and that value corresponds to `jv`. -/
theorem gen_correct_expr_partial (env : Spec.Eval.Env) :
    ∀ (e : Expr) (j : JsExpr) (jv : JVal), toAst e = some j → eval j = .val jv →
      ∃ v, Spec.Eval.eval env e = .val v ∧ toJs v = some jv := by
  intro e j jv h hj
  letI : C04c.Globals := ⟨[]⟩
  let env0 : Spec.Eval.Env := { vars := [], loops := [], ij := none, globals := [] }
  let sc0 : Scope := { stack := [], n := 0 }
  let jenv0 : Spec.JsSemRef.JEnv := { optData := [], ijData := none, locals := [] }
  have hrel : C04c.EnvRel env0.vars sc0 env0 jenv0 :=
    C04c.envRel_params sc0 env0 jenv0 (fun _ => rfl) rfl rfl (fun _ _ _ h => by cases h)
  obtain ⟨v, hv, hvj⟩ := C04c.gen_correct_refs_partial sc0 env0 jenv0 hrel e (emb j) (embV jv)
    (toAst_emb _ e j h) (by rw [eval_emb, hj]; rfl)
  exact ⟨v, by rw [eval_closed env env0 e j h]; exact hv, toJs_of_image hvj⟩

/-- `(1 + 2) * 3 < 10 ? 'a' + 1 : null`  -/
def sampleExpr : Expr :=
  .tern 0 (.bin .lt 0 (.bin .mul 0 (.bin .add 0 (.int 0 1) (.int 0 2)) (.int 0 3)) (.int 0 10))
    (.bin .add 0 (.str 0 [] [97]) (.int 0 1)) (.null 0)

example : ∃ j, toAst sampleExpr = some j ∧ eval j = .val (.str [97, 49]) := ⟨_, rfl, by decide⟩

/-- the fragment's guard is real: 2^53 + 1 is not exact, the semantics does not speak -/
example : eval (.bin .add (.num 9007199254740992) (.num 1)) = .unspec := by decide
/-- … and neither for a mixed-type comparison -/
example : eval (.bin .eq (.num 1) (.str [49])) = .unspec := by decide

end SoyVerif.Props.C04
