/-
  C11, over the interpreter — the theorems of Props/C11.lean speak about Model/MsgRender.lean, a model of its
  own (`ρ` renders a placeholder from its source text).  This file ties Model/Eval's execution of a {msg}
  command with a bundle installed (`execCmd` → `evalMParts` / `pickPh` / `walkMsgBody`) to that model, for

      FLAT messages: the body is raw text and placeholders (print commands, html tags, any command whose run
      only writes — `Writes`), no {plural}; the translation is raw text and placeholder parts;
      ONE-{plural} messages: a flat case and a flat default (what `pomsg.Validate` accepts).

  `src` labels a placeholder body with the "source text" Model/MsgRender identifies it by (any function: the
  printed source as in C11, the variable name for prints of variables); `ρ` is what that placeholder writes.
  The two placeholder searches (`pickPh` over `phAll`; `Msg.placeholder`) have to agree: `PickAgrees`, proved
  for both shapes.  Outside: other plural shapes; the PO-string form (msgid / msgid_plural through `Msg.parts`)
  of the plural identity.

  In `.msg p id x y z body` the binders `p id x y z` are the fields `pos id meaning desc bodyPos` of `Cmd.msg`; the
  run reads `id` (the bundle entry) and `body` only.
-/
import SoyVerif.Props.C11
import SoyVerif.Lemmas.ExecRefine

namespace SoyVerif.Props.C11b
open SoyVerif SoyVerif.Model SoyVerif.Model.Eval SoyVerif.Refine
open SoyVerif.Model.Msg (RPart TPart)

/-- from every state with that heap the run ends ok, writes `w` — whatever the buffer holds — and changes neither the
    scope nor the heap -/
def Writes (run : Run) (ctx : Scope) (heap : List Cell) (w : Bytes) : Prop :=
  ∀ st, st.heap = heap → (run ctx st).cls = .ok ∧ (run ctx st).ctx = ctx ∧ (run ctx st).st.heap = heap ∧
    bufBytes (run ctx st).st.out = bufBytes st.out ++ w

/-- no {plural} in the message body.  `toR`, `AllPh`, `identityParts` below stop at a {plural} with a value that
    means nothing; every statement that uses them assumes `flatBody` (and `flatT` for `toT`). -/
def flatBody : MsgParts → Bool
  | .nil => true
  | .text _ _ r => flatBody r
  | .ph _ _ _ r => flatBody r
  | .plural .. => false

def flatT : MParts → Bool
  | .nil => true
  | .cons (.raw _) r => flatT r
  | .cons (.ph _) r => flatT r
  | .cons (.plural _ _) _ => false

/-- a flat message body as Model/MsgRender sees it (at a {plural}: cut off) -/
def toR (src : MsgPhBody → Bytes) : MsgParts → List RPart
  | .nil => []
  | .text _ t r => .text t :: toR src r
  | .ph _ name b r => .ph name (src b) :: toR src r
  | .plural .. => []

/-- a flat translation as Model/MsgRender sees it (a plural part: skipped) -/
def toT : MParts → List TPart
  | .nil => []
  | .cons (.raw t) r => .text t :: toT r
  | .cons (.ph n) r => .ph n :: toT r
  | .cons (.plural _ _) r => toT r

def AllPh (P : MsgPhBody → Prop) : MsgParts → Prop
  | .nil => True
  | .text _ _ r => AllPh P r
  | .ph _ _ b r => P b ∧ AllPh P r
  | .plural .. => True

theorem isFlat_toR (src : MsgPhBody → Bytes) : ∀ body, Msg.isFlat (toR src body) = true
  | .nil => rfl
  | .text _ _ r => isFlat_toR src r
  | .ph _ _ _ r => isFlat_toR src r
  | .plural .. => rfl

/-- `pickPh`'s loop with its state (the best depth and run so far) as the result: `pickPh` and `Spec.Eval.pickPhS`
    return only the run at the end, and the search of a list `a ++ b` is stated through the state after `a` -/
def pickSt (name : Bytes) : List (Nat × Bytes × Run) → Option (Nat × Run) → Option (Nat × Run)
  | [], best => best
  | (d, n, run) :: r, best =>
    if n == name then
      match best with
      | some (bd, _) => if d < bd then pickSt name r (some (d, run)) else pickSt name r best
      | none => pickSt name r (some (d, run))
    else pickSt name r best

theorem pickPh_eq_pickSt (name : Bytes) : ∀ l best, pickPh name l best = (pickSt name l best).map (·.2)
  | [], best => rfl
  | (d, n, run) :: r, best => by
    cases best with
    | none =>
      simp only [pickPh, pickSt]
      split <;> exact pickPh_eq_pickSt name r _
    | some br =>
      obtain ⟨bd, r0⟩ := br
      simp only [pickPh, pickSt]
      split
      · split <;> exact pickPh_eq_pickSt name r _
      · exact pickPh_eq_pickSt name r _

theorem pickSt_append (name : Bytes) : ∀ a b best, pickSt name (a ++ b) best = pickSt name b (pickSt name a best)
  | [], b, best => rfl
  | (d, n, run) :: r, b, best => by
    simp only [List.cons_append, pickSt]
    split
    · split
      · split <;> exact pickSt_append name r b _
      · exact pickSt_append name r b _
    · exact pickSt_append name r b _

section
variable (g : GEnv) (esc : Bool) (call : Registry.Tmpl → Run) (src : MsgPhBody → Bytes) (ρ : Bytes → Bytes)
  (ctx : Scope) (heap : List Cell) (name : Bytes)

/-- `pickPh`'s loop over the placeholders of a flat list at depth `d`: the best so far stays when it is at depth
    ≤ `d` or the list has no placeholder of that name, else the first one of that name replaces it -/
theorem pickSt_flat (d : Nat) : ∀ (B : MsgParts), flatBody B = true →
    AllPh (fun b => Writes (execPh g esc call b) ctx heap (ρ (src b))) B → ∀ (best : Option (Nat × Run)),
    (∀ bd r, best = some (bd, r) → bd ≤ d → pickSt name (phAll g esc call B d) best = best) ∧
    (∀ (hb : ∀ bd r, best = some (bd, r) → d < bd),
      match Msg.findSrc name (toR src B) with
      | none => pickSt name (phAll g esc call B d) best = best
      | some s => ∃ run, pickSt name (phAll g esc call B d) best = some (d, run) ∧ Writes run ctx heap (ρ s))
  | .nil, _, _, best => ⟨fun _ _ _ _ => rfl, fun _ => rfl⟩
  | .text _ _ r, hf, hw, best => pickSt_flat d r hf hw best
  | .ph _ n b r, hf, hw, best => by
    rw [phAll]
    simp only [pickSt, toR, Msg.findSrc]
    have ihr := pickSt_flat d r hf hw.2
    by_cases hn : (n == name) = true
    · simp only [hn, if_true]
      refine ⟨fun bd r0 hb hle => ?_, fun hb => ?_⟩
      · subst hb
        simp only [Nat.not_lt.mpr hle, if_false]
        exact (ihr _).1 bd r0 rfl hle
      · cases best with
        | none => exact ⟨_, (ihr _).1 d _ rfl (Nat.le_refl _), hw.1⟩
        | some br =>
          obtain ⟨bd, r0⟩ := br
          simp only [hb bd r0 rfl, if_true]
          exact ⟨_, (ihr _).1 d _ rfl (Nat.le_refl _), hw.1⟩
    · simp only [hn, if_false, Bool.false_eq_true]
      exact ihr best
  | .plural .., hf, _, _ => by simp [flatBody] at hf
end

/-- the interpreter's placeholder search (`pickPh` over `phAll`: smallest depth in the node tree, first in
    document order) and Model/MsgRender's (`Msg.placeholder`: breadth-first over its queue) find the same
    placeholder, and that placeholder is a writer -/
def PickAgrees (ρ : Bytes → Bytes) (ctx : Scope) (heap : List Cell) (phs : List (Nat × Bytes × Run)) (R : List RPart) : Prop :=
  ∀ name, match Msg.placeholder name R with
    | none => pickPh name phs none = none
    | some s => ∃ run, pickPh name phs none = some run ∧ Writes run ctx heap (ρ s)

theorem pickAgrees_flat (g : GEnv) (esc : Bool) (call : Registry.Tmpl → Run) (src : MsgPhBody → Bytes) (ρ : Bytes → Bytes)
    (ctx : Scope) (heap : List Cell) (body : MsgParts) (hf : flatBody body = true)
    (hw : AllPh (fun b => Writes (execPh g esc call b) ctx heap (ρ (src b))) body) :
    PickAgrees ρ ctx heap (phAll g esc call body 0) (toR src body) := by
  intro name
  rw [Msg.placeholder_flat name _ (isFlat_toR src body), pickPh_eq_pickSt]
  have h := (pickSt_flat g esc call src ρ ctx heap name 0 body hf hw none).2 (fun _ _ h => by cases h)
  cases hfs : Msg.findSrc name (toR src body) with
  | none => rw [hfs] at h; simp only [h]; rfl
  | some s => rw [hfs] at h; obtain ⟨run, h1, h2⟩ := h; exact ⟨run, by rw [h1]; rfl, h2⟩

/-- the run writes what the reference renders, and fails where the reference has no rendering -/
def WritesOr (run : Run) (ctx : Scope) (heap : List Cell) : Option Bytes → Prop
  | some out => Writes run ctx heap out
  | none => ∀ st, st.heap = heap → (run ctx st).cls = .err

theorem WritesOr.after {r1 rest run : Run} {ctx : Scope} {heap : List Cell} {w : Bytes} {o : Option Bytes}
    (h1 : Writes r1 ctx heap w) (h2 : WritesOr rest ctx heap o)
    (heq : ∀ st, run ctx st = match (r1 ctx st).cls with
      | .ok => rest (r1 ctx st).ctx (r1 ctx st).st
      | _ => r1 ctx st) :
    WritesOr run ctx heap (match (generalizing := false) some w, o with
      | some a, some b => some (a ++ b)
      | _, _ => none) := by
  cases o with
  | none =>
    intro st hs
    obtain ⟨r1ok, r1ctx, r1heap, _⟩ := h1 st hs
    rw [heq, r1ok, r1ctx]
    exact h2 _ r1heap
  | some b =>
    intro st hs
    obtain ⟨r1ok, r1ctx, r1heap, r1out⟩ := h1 st hs
    rw [heq, r1ok, r1ctx]
    obtain ⟨k1, k2, k3, k4⟩ := h2 _ r1heap
    exact ⟨k1, k2, k3, by rw [k4, r1out, List.append_assoc]⟩

def flatCases : MCases → Bool
  | .nil => true
  | .cons ps r => flatT ps && flatCases r

def toTCases : MCases → List (List TPart)
  | .nil => []
  | .cons ps r => toT ps :: toTCases r

section
variable (g : GEnv) (phs : List (Nat × Bytes × Run)) (body : MsgParts) (R : List RPart) (ρ : Bytes → Bytes)
  (ν : Bytes → Int) (sel : Int → Int) (ctx : Scope) (heap : List Cell) (hp : PickAgrees ρ ctx heap phs R)
include hp

theorem evalMParts_flat : ∀ (ps : MParts), flatT ps = true →
    WritesOr (evalMParts g phs body ps) ctx heap (Msg.renderTs ρ ν sel R (toT ps))
  | .nil, _ => fun st hs => by
    rw [evalMParts]
    exact ⟨rfl, rfl, hs, (List.append_nil _).symm⟩
  | .cons (.raw t) rest, hf => by
    simp only [toT, Msg.renderTs, Msg.renderT]
    exact WritesOr.after (run := evalMParts g phs body (.cons (.raw t) rest)) (r1 := fun c s => ⟨.ok, c, write s t⟩)
      (fun st hs => ⟨rfl, rfl, hs, bufBytes_write st t⟩) (evalMParts_flat rest hf) fun st => by rw [evalMParts]
  | .cons (.ph name) rest, hf => by
    have hpn := hp name
    simp only [toT, Msg.renderTs, Msg.renderT]
    cases hfs : Msg.placeholder name R with
    | none =>
      rw [hfs] at hpn
      intro st _
      rw [evalMParts, hpn]
    | some s =>
      rw [hfs] at hpn
      obtain ⟨run, hpick, hrun⟩ := hpn
      simp only [Option.map_some]
      exact WritesOr.after (run := evalMParts g phs body (.cons (.ph name) rest)) hrun (evalMParts_flat rest hf)
        fun st => by rw [evalMParts]; simp only [hpick]; rfl
  | .cons (.plural _ _) _, hf => by simp [flatT] at hf

theorem evalMCases_flat : ∀ (cs : MCases) (n : Nat), flatCases cs = true →
    WritesOr (evalMCases g phs body cs n) ctx heap (Msg.renderTCase ρ ν sel R (toTCases cs) n)
  | .nil, n, _ => fun st _ => by rw [evalMCases]
  | .cons ps r, 0, hf => by
    simp only [flatCases, Bool.and_eq_true] at hf
    simp only [toTCases, Msg.renderTCase, evalMCases]
    exact evalMParts_flat g phs body R ρ ν sel ctx heap hp ps hf.1
  | .cons ps r, n + 1, hf => by
    simp only [flatCases, Bool.and_eq_true] at hf
    simp only [toTCases, Msg.renderTCase, evalMCases]
    exact evalMCases_flat r n hf.2

/-- the plural clause of `evalMParts`: the value of the plural variable is `evalIn` of the source {plural}'s
    expression (`ν s = i`), the form is the one the bundle's `pluralCase` selects -/
theorem evalMParts_plural (b : MsgBundle) (hb : g.msgs = some b)
    (vn : Bytes) (ve : Expr) (s : Bytes) (hfp : findPlural body vn = some ve) (hfn : Msg.findPluralNode vn R = some s)
    (i : Int64) (hval : ∀ st, st.heap = heap → ∃ st1, evalIn g ve ctx st = some (.int i, st1)) (hν : ν s = i.toInt)
    (mcs : MCases) (hflat : flatCases mcs = true) :
    WritesOr (evalMParts g phs body (.cons (.plural vn mcs) .nil)) ctx heap
      (Msg.renderT ρ ν b.pluralCase R (.plural vn (toTCases mcs))) := by
  have hc := evalMCases_flat g phs body R ρ ν b.pluralCase ctx heap hp mcs (b.pluralCase i.toInt).toNat hflat
  rw [Msg.renderT]
  simp only [hfn, hν] at hc ⊢
  by_cases hneg : b.pluralCase i.toInt < 0
  · simp only [hneg, if_true]
    intro st hs
    obtain ⟨st1, he⟩ := hval st hs
    rw [evalMParts]
    simp only [hfp, he, hb, hneg, if_true]
  · simp only [hneg, if_false]
    cases hr : Msg.renderTCase ρ ν b.pluralCase R (toTCases mcs) (b.pluralCase i.toInt).toNat with
    | none =>
      rw [hr] at hc
      intro st hs
      obtain ⟨st1, he⟩ := hval st hs
      obtain ⟨n, rfl⟩ := evalIn_next he
      rw [evalMParts]
      simp only [hfp, he, hb, hneg, if_false, hc { st with next := n } hs]
    | some out =>
      rw [hr] at hc
      intro st hs
      obtain ⟨st1, he⟩ := hval st hs
      obtain ⟨n, rfl⟩ := evalIn_next he
      obtain ⟨c1, c2, c3, c4⟩ := hc { st with next := n } hs
      rw [evalMParts]
      simp only [hfp, he, hb, hneg, if_false, c1]
      rw [evalMParts]
      exact ⟨rfl, c2, c3, c4⟩
end

section
variable (g : GEnv) (esc : Bool) (call : Registry.Tmpl → Run) (src : MsgPhBody → Bytes) (ρ : Bytes → Bytes)
  (ctx : Scope) (heap : List Cell) (ν : Bytes → Int)

theorem walkMsgBody_flat : ∀ (body : MsgParts), flatBody body = true →
    AllPh (fun b => Writes (execPh g esc call b) ctx heap (ρ (src b))) body →
    Writes (walkMsgBody g esc call body) ctx heap (Msg.renderSrcList ρ ν (toR src body))
  | .nil, _, _, st, hs => by
    rw [walkMsgBody]; exact ⟨rfl, rfl, hs, by simp [toR, Msg.renderSrcList]⟩
  | .text p t r, hf, hw, st, hs => by
    rw [walkMsgBody]
    obtain ⟨h1, h2, h3, h4⟩ := walkMsgBody_flat r hf hw (write (atNode st p) t) hs
    refine ⟨h1, h2, h3, ?_⟩
    rw [h4, bufBytes_write]
    simp [toR, Msg.renderSrcList, Msg.renderSrc, atNode]
  | .ph _ _ b r, hf, hw, st, hs => by
    rw [walkMsgBody]
    obtain ⟨r1, r2, r3, r4⟩ := hw.1 st hs
    simp only [r1]
    rw [r2]
    obtain ⟨h1, h2, h3, h4⟩ := walkMsgBody_flat r hf hw.2 _ r3
    refine ⟨h1, h2, h3, ?_⟩
    rw [h4, r4]
    simp [toR, Msg.renderSrcList, Msg.renderSrc]
  | .plural .., hf, _, _, _ => by simp [flatBody] at hf

end

theorem walkBlockOf_writes {run : Run} {ctx : Scope} {st : St} {w : Bytes}
    (h : Writes run (push ctx st).1 (push ctx st).2.heap w) :
    (walkBlockOf run ctx st).cls = .ok ∧ bufBytes (walkBlockOf run ctx st).st.out = bufBytes st.out ++ w := by
  obtain ⟨h1, h2, _, h4⟩ := h _ rfl
  rw [walkBlockOf_ok h1 h2]
  exact ⟨rfl, h4⟩

/-- the bridge: what a {msg} command appends, in Model/Eval, is what Model/MsgRender renders — for a flat
    message whose placeholders are writers (in the scope the message body runs in: the current scope under the
    block frame `evalMsg` pushes) -/
theorem execCmd_msg_eq_msgRender (g : GEnv) (esc : Bool) (call : Registry.Tmpl → Run) (src : MsgPhBody → Bytes)
    (ρ : Bytes → Bytes) (ν : Bytes → Int) (p id : Nat) (x : Bytes) (y : Bytes) (z : Nat) (body : MsgParts)
    (ctx : Scope) (st : St) (hfb : flatBody body = true)
    (hw : AllPh (fun b => Writes (execPh g esc call b) (push ctx st).1 (push ctx st).2.heap (ρ (src b))) body) :
    match g.msgs with
    | none =>
      (execCmd g esc call (.msg p id x y z body) ctx st).cls = .ok ∧
      bufBytes (execCmd g esc call (.msg p id x y z body) ctx st).st.out =
        bufBytes st.out ++ Msg.renderSource ρ ν (toR src body)
    | some b =>
      match b.message id with
      | none =>
        (execCmd g esc call (.msg p id x y z body) ctx st).cls = .ok ∧
        bufBytes (execCmd g esc call (.msg p id x y z body) ctx st).st.out =
          bufBytes st.out ++ Msg.renderSource ρ ν (toR src body)
      | some ps =>
        flatT ps = true →
        match Msg.renderTranslated ρ ν b.pluralCase (toR src body) (toT ps) with
        | some out =>
          (execCmd g esc call (.msg p id x y z body) ctx st).cls = .ok ∧
          bufBytes (execCmd g esc call (.msg p id x y z body) ctx st).st.out = bufBytes st.out ++ out
        | none => (execCmd g esc call (.msg p id x y z body) ctx st).cls = .err := by
  have hsrc := walkMsgBody_flat g esc call src ρ _ _ ν body hfb hw
  rw [execCmd]
  cases hm : g.msgs with
  | none => exact walkBlockOf_writes hsrc
  | some b =>
    simp only
    cases hid : b.message id with
    | none => exact walkBlockOf_writes hsrc
    | some ps =>
      intro hft
      have ht := evalMParts_flat g _ body _ ρ ν b.pluralCase _ _ (pickAgrees_flat g esc call src ρ _ _ body hfb hw) ps hft
      unfold Msg.renderTranslated
      cases hr : Msg.renderTs ρ ν b.pluralCase (toR src body) (toT ps) with
      | none => rw [hr] at ht; exact walkBlockOf_err (ht _ rfl)
      | some out => rw [hr] at ht; exact walkBlockOf_writes ht

theorem htmlTag_writes (g : GEnv) (esc : Bool) (call : Registry.Tmpl → Run) (p : Nat) (text : Bytes) (ctx : Scope)
    (heap : List Cell) : Writes (execPh g esc call (.htmlTag p text)) ctx heap text := by
  intro st hs
  rw [execPh]
  exact ⟨rfl, rfl, hs, by rw [bufBytes_write]; rfl⟩

theorem evalIn_var (g : GEnv) (q : Nat) (k : Bytes) (hk : (k == sIj) = false) (ctx : Scope) (st : St) :
    evalIn g (.dataRef q k .nil) ctx st = some (lookup st.heap ctx k, st) := by
  unfold evalIn
  rw [evalE]
  simp only [hk, Bool.false_eq_true, if_false, evalAccesses, eenv]

/-- `{$k}` (no directives, none obligatory): it writes the text of the value `k` has in the scope, escaped iff
    the walk's mode flag is on -/
theorem print_var_writes (g : GEnv) (esc : Bool) (call : Registry.Tmpl → Run) (hob : g.oblig = []) (p q : Nat) (k : Bytes)
    (hk : (k == sIj) = false) (ctx : Scope) (heap : List Cell) (v : Value) (s : Bytes)
    (hv : lookup heap ctx k = v) (hu : v ≠ .undefined) (hs : str v = some s) :
    Writes (execPh g esc call (.cmd (.print p (.dataRef q k .nil) []))) ctx heap (if esc then htmlEscape s else s) := by
  intro st hst
  rw [execPh, execCmd]
  unfold evalPrint evalPrintAt
  rw [evalIn_var g q k hk]
  simp only [atNode, hst, hv]
  cases v with
  | undefined => exact absurd rfl hu
  | _ =>
    simp only [hob, obligDirs, List.map_nil, List.append_nil, runDirectives, hs]
    cases esc
    · simp [atNode, hst, write, bufBytes]
    · simp [bufBytes_writeAll, escChunks_flatten, atNode, hst, (writeAll_heap _ _).1]

/-- a flat translation (soymsg parts) as the interpreter's bundle holds it -/
def ofMsgParts : List Msg.MsgPart → MParts
  | [] => .nil
  | .text b :: r => .cons (.raw b) (ofMsgParts r)
  | .ph n :: r => .cons (.ph n) (ofMsgParts r)

theorem toT_ofMsgParts : ∀ ts, toT (ofMsgParts ts) = Msg.liftParts ts
  | [] => rfl
  | .text b :: r => congrArg (TPart.text b :: ·) (toT_ofMsgParts r)
  | .ph n :: r => congrArg (TPart.ph n :: ·) (toT_ofMsgParts r)

theorem flatT_ofMsgParts : ∀ ts, flatT (ofMsgParts ts) = true
  | [] => rfl
  | .text _ :: r => flatT_ofMsgParts r
  | .ph _ :: r => flatT_ofMsgParts r

section
variable (g : GEnv) (esc : Bool) (call : Registry.Tmpl → Run) (src : MsgPhBody → Bytes) (ρ : Bytes → Bytes)
  (p id : Nat) (x y : Bytes) (z : Nat) (body : MsgParts) (ctx : Scope) (st : St) (hfb : flatBody body = true)
  (hw : AllPh (fun b => Writes (execPh g esc call b) (push ctx st).1 (push ctx st).2.heap (ρ (src b))) body)
  (b : MsgBundle) (hb : g.msgs = some b)
include hfb hw hb

/-- the `some b`, `some ps` branch of `execCmd_msg_eq_msgRender`.  The three corollaries below use it at
    `ν := fun _ => 0`: `ν` values the plural variables, and a flat body has none. -/
theorem msg_translated (ν : Bytes → Int) (ps : MParts) (hid : b.message id = some ps) (hft : flatT ps = true) :
    match Msg.renderTranslated ρ ν b.pluralCase (toR src body) (toT ps) with
    | some out =>
      (execCmd g esc call (.msg p id x y z body) ctx st).cls = .ok ∧
      bufBytes (execCmd g esc call (.msg p id x y z body) ctx st).st.out = bufBytes st.out ++ out
    | none => (execCmd g esc call (.msg p id x y z body) ctx st).cls = .err := by
  have h := execCmd_msg_eq_msgRender g esc call src ρ ν p id x y z body ctx st hfb hw
  rw [hb] at h
  simp only [hid] at h
  exact h hft

/-- C11 `translation_renders_segments` over `execCmd`: a {msg} whose translation is the flat part list `ts`, all
    of whose placeholders the message has, appends — in the translation's order — the text segments and what the
    named placeholders write -/
theorem msg_translation_renders_segments (ts : List Msg.MsgPart) (hid : b.message id = some (ofMsgParts ts))
    (hts : ∀ t ∈ ts, (C11.segOut ρ (toR src body) t).isSome = true) :
    (execCmd g esc call (.msg p id x y z body) ctx st).cls = .ok ∧
    bufBytes (execCmd g esc call (.msg p id x y z body) ctx st).st.out =
      bufBytes st.out ++ (ts.map fun t => (C11.segOut ρ (toR src body) t).getD []).flatten := by
  have h := msg_translated g esc call src ρ p id x y z body ctx st hfb hw b hb (fun _ => 0) _ hid (flatT_ofMsgParts ts)
  rwa [toT_ofMsgParts, C11.translation_renders_segments ρ (fun _ => 0) b.pluralCase (toR src body) ts hts] at h

/-- C11 `reorder_reorders` over `execCmd`: a translation that reorders (repeats, omits) the segments `ts` —
    `idx` says which comes where — makes the {msg} append exactly the reordered sequence of what the segments
    write: a translation that reorders placeholders reorders exactly their rendered values -/
theorem msg_reorder_reorders (ts : List Msg.MsgPart) (hts : ∀ t ∈ ts, (C11.segOut ρ (toR src body) t).isSome = true)
    (idx : List Nat) (hidx : ∀ i ∈ idx, i < ts.length)
    (hid : b.message id = some (ofMsgParts (idx.map fun i => ts.getD i (.text [])))) :
    (execCmd g esc call (.msg p id x y z body) ctx st).cls = .ok ∧
    bufBytes (execCmd g esc call (.msg p id x y z body) ctx st).st.out =
      bufBytes st.out ++ (idx.map fun i => (C11.segOut ρ (toR src body) (ts.getD i (.text []))).getD []).flatten := by
  have h := msg_translated g esc call src ρ p id x y z body ctx st hfb hw b hb (fun _ => 0) _ hid (flatT_ofMsgParts _)
  rwa [toT_ofMsgParts, C11.reorder_reorders ρ (fun _ => 0) b.pluralCase (toR src body) ts hts idx hidx] at h

/-- a translation naming a placeholder the message does not have makes the {msg} command FAIL (C11
    `translation_unknown_placeholder`) -/
theorem msg_unknown_placeholder (ts₁ ts₂ : List Msg.MsgPart) (n : Bytes) (hn : Msg.placeholder n (toR src body) = none)
    (hid : b.message id = some (ofMsgParts (ts₁ ++ .ph n :: ts₂))) :
    (execCmd g esc call (.msg p id x y z body) ctx st).cls = .err := by
  have h := msg_translated g esc call src ρ p id x y z body ctx st hfb hw b hb (fun _ => 0) _ hid (flatT_ofMsgParts _)
  rwa [toT_ofMsgParts, C11.translation_unknown_placeholder ρ (fun _ => 0) b.pluralCase (toR src body) ts₁ ts₂ n hn] at h
end

/-- the identity translation of a message, on the tree: its own text pieces and, for each placeholder, the
    placeholder part of the name the tree carries (assigned by `setPlaceholderNames`) -/
def identityParts : MsgParts → MParts
  | .nil => .nil
  | .text _ t r => .cons (.raw t) (identityParts r)
  | .ph _ name _ r => .cons (.ph name) (identityParts r)
  | .plural .. => .nil

theorem flatT_identityParts : ∀ body, flatT (identityParts body) = true
  | .nil => rfl
  | .text _ _ r => flatT_identityParts r
  | .ph _ _ _ r => flatT_identityParts r
  | .plural .. => rfl

/-- placeholders bearing one name write the same (C10 `names_distinct`: in a compiled message one name is one
    source text; here only what is needed — the same OUTPUT) -/
def NamesAgree (ρ : Bytes → Bytes) (R : List RPart) : Prop :=
  ∀ n s s', RPart.ph n s ∈ R → RPart.ph n s' ∈ R → ρ s = ρ s'

/-- Model/MsgRender: the identity translation of a flat piece `rs` of a message `R` renders what the source renders.
    `L` is where `R`'s placeholder search looks (`hlook`: `R` itself for a flat message, default ++ case for the
    one-plural shape); the parts of `rs` lie in `L`, and one name writes one thing in `L`. -/
theorem renderTs_identityParts (src : MsgPhBody → Bytes) (ρ : Bytes → Bytes) (ν : Bytes → Int) (sel : Int → Int)
    (R L : List RPart) (hlook : ∀ n, Msg.placeholder n R = Msg.findSrc n L) (hu : NamesAgree ρ L) :
    ∀ (rs : MsgParts), flatBody rs = true → (∀ x ∈ toR src rs, x ∈ L) →
      Msg.renderTs ρ ν sel R (toT (identityParts rs)) = some (Msg.renderSrcList ρ ν (toR src rs))
  | .nil, _, _ => rfl
  | .text _ t r, hf, hsub => by
    have ih := renderTs_identityParts src ρ ν sel R L hlook hu r hf
      (fun x hx => hsub x (by simp [toR, hx]))
    simp only [identityParts, toT, toR, Msg.renderTs, Msg.renderT, ih, Msg.renderSrcList, Msg.renderSrc]
  | .ph _ name b r, hf, hsub => by
    have ih := renderTs_identityParts src ρ ν sel R L hlook hu r hf
      (fun x hx => hsub x (by simp [toR, hx]))
    have hmem : RPart.ph name (src b) ∈ L := hsub _ (by simp [toR])
    obtain ⟨s', hs', hm'⟩ := Msg.findSrc_of_mem name (src b) L hmem
    simp only [identityParts, toT, toR, Msg.renderTs, Msg.renderT, ih, Msg.renderSrcList, Msg.renderSrc,
      hlook name, hs', Option.map_some, hu name s' (src b) hm' hmem]
  | .plural .., hf, _ => by simp [flatBody] at hf

section
variable (g : GEnv) (esc : Bool) (call : Registry.Tmpl → Run) (src : MsgPhBody → Bytes) (ρ : Bytes → Bytes)
  (p id : Nat) (x y : Bytes) (z : Nat) (body : MsgParts) (ctx : Scope) (st : St) (hfb : flatBody body = true)
  (hw : AllPh (fun b => Writes (execPh g esc call b) (push ctx st).1 (push ctx st).2.heap (ρ (src b))) body)
  (hu : NamesAgree ρ (toR src body))
  (b : MsgBundle) (hb : g.msgs = some b)
include hfb hw hu hb

/-- C11 `identity_translation` over `execCmd`, on the tree: with the identity translation installed the {msg}
    command appends exactly the source rendering `Msg.renderSource` (for any `ν`: a flat body has no plural
    variable to value) — which is what it appends without a catalogue (`msg_identity_same_as_no_catalogue`) -/
theorem msg_identity_translation (ν : Bytes → Int) (hid : b.message id = some (identityParts body)) :
    (execCmd g esc call (.msg p id x y z body) ctx st).cls = .ok ∧
    bufBytes (execCmd g esc call (.msg p id x y z body) ctx st).st.out =
      bufBytes st.out ++ Msg.renderSource ρ ν (toR src body) := by
  have h2 := msg_translated g esc call src ρ p id x y z body ctx st hfb hw b hb ν _ hid (flatT_identityParts body)
  unfold Msg.renderTranslated at h2
  rw [renderTs_identityParts src ρ ν b.pluralCase _ _ (fun n => Msg.placeholder_flat n _ (isFlat_toR src body)) hu body hfb
    (fun _ h => h)] at h2
  exact h2

/-- … and through the PO layer, as C11 states it: the catalogue entry whose msgstr is the message's msgid
    (`Msg.msgid`, split back into parts by `Msg.parts`: `newMessage [] [msgid]`), under C11's guards — no text run
    contains something of the shape `{[A-Z0-9_]+}`, the names are in `[A-Z0-9_]+` -/
theorem msg_identity_translation_po (ν : Bytes → Int)
    (hguard : Msg.NoMatch (Msg.leadText (Msg.toNList (toR src body)))) (hok : Msg.FlatOK (Msg.toNList (toR src body)))
    (ps : MParts) (hid : b.message id = some ps) (hft : flatT ps = true)
    (hps : ∃ msgid, Msg.msgid (toR src body) = some msgid ∧ toT ps = Msg.newMessage [] [msgid]) :
    (execCmd g esc call (.msg p id x y z body) ctx st).cls = .ok ∧
    bufBytes (execCmd g esc call (.msg p id x y z body) ctx st).st.out =
      bufBytes st.out ++ Msg.renderSource ρ ν (toR src body) := by
  have hR := isFlat_toR src body
  obtain ⟨mid, hmid, hps⟩ := hps
  rw [C11.msgid_flat _ hR] at hmid
  simp only [Option.some.injEq] at hmid
  subst hmid
  have h2 := msg_translated g esc call src ρ p id x y z body ctx st hfb hw b hb ν ps hid hft
  have hr : Msg.renderTranslated ρ ν b.pluralCase (toR src body) (toT ps) = some (Msg.renderSource ρ ν (toR src body)) := by
    rw [hps]
    exact Msg.render_parts_writeph ρ ν b.pluralCase _ _ (fun n => Msg.placeholder_flat n _ hR) hu _ hR (fun _ h => h)
      hguard hok
  rw [hr] at h2
  exact h2
end

/-- the headline: a {msg} with the identity translation installed appends byte for byte what the same {msg}
    appends without a catalogue (`{ g with msgs := none }`: `g` with no bundle; the placeholders are the same writers in both) -/
theorem msg_identity_same_as_no_catalogue (g : GEnv) (esc : Bool) (call : Registry.Tmpl → Run) (src : MsgPhBody → Bytes)
    (ρ : Bytes → Bytes) (p id : Nat) (x y : Bytes) (z : Nat) (body : MsgParts) (ctx : Scope) (st : St)
    (hfb : flatBody body = true) (b : MsgBundle) (hb : g.msgs = some b) (hid : b.message id = some (identityParts body))
    (hw : AllPh (fun b => Writes (execPh g esc call b) (push ctx st).1 (push ctx st).2.heap (ρ (src b))) body)
    (hw0 : AllPh (fun b => Writes (execPh { g with msgs := none } esc call b) (push ctx st).1 (push ctx st).2.heap (ρ (src b))) body)
    (hu : NamesAgree ρ (toR src body)) :
    (execCmd g esc call (.msg p id x y z body) ctx st).cls = .ok ∧
    (execCmd { g with msgs := none } esc call (.msg p id x y z body) ctx st).cls = .ok ∧
    bufBytes (execCmd g esc call (.msg p id x y z body) ctx st).st.out =
      bufBytes (execCmd { g with msgs := none } esc call (.msg p id x y z body) ctx st).st.out := by
  have h1 := msg_identity_translation g esc call src ρ p id x y z body ctx st hfb hw hu b hb (fun _ => 0) hid
  have h0 := execCmd_msg_eq_msgRender { g with msgs := none } esc call src ρ (fun _ => 0) p id x y z body ctx st hfb hw0
  simp only at h0
  exact ⟨h1.1, h0.1, by rw [h1.2, h0.2]⟩

/-! ### {plural} messages: one {plural} with flat cases and default (what the PO format represents)

  For flat bodies `PickAgrees` is `pickAgrees_flat`; for the one-plural shape both searches visit the default
  before the cases (`Msg.placeholder_poPlural`; `phAll`: default at depth 2, cases at depth 3): it is a NAMED
  HYPOTHESIS of the bridge (`hpick`), discharged for that shape by `pickAgrees_plural` below. -/

/-- `{plural $e}{case k}C{default}D{/plural}` as the whole body of a message -/
def pluralBody (pp : Nat) (vn : Bytes) (ve : Expr) (cp : Nat) (k : Int) (cbp : Nat) (C : MsgParts) (dp : Nat) (D : MsgParts) : MsgParts :=
  .plural pp vn ve (.cons cp k cbp C .nil) dp D .nil

/-- … as Model/MsgRender sees it (`s`: the label of the plural's expression) -/
def pluralR (src : MsgPhBody → Bytes) (vn s : Bytes) (k : Int) (C D : MsgParts) : List RPart :=
  [.plural vn s [(k, toR src C)] (toR src D)]

section
variable (g : GEnv) (esc : Bool) (call : Registry.Tmpl → Run) (src : MsgPhBody → Bytes) (ρ : Bytes → Bytes) (ν : Bytes → Int)
  (ctx : Scope) (heap : List Cell)
  (pp : Nat) (vn : Bytes) (ve : Expr) (cp : Nat) (k : Int) (cbp : Nat) (C : MsgParts) (dp : Nat) (D : MsgParts) (s : Bytes)
  (hC : flatBody C = true) (hD : flatBody D = true)
  (hwC : AllPh (fun b => Writes (execPh g esc call b) ctx heap (ρ (src b))) C)
  (hwD : AllPh (fun b => Writes (execPh g esc call b) ctx heap (ρ (src b))) D)
  (i : Int64) (hval : ∀ st, st.heap = heap → ∃ st1, evalIn g ve ctx st = some (.int i, st1)) (hν : ν s = i.toInt)
include hC hD hwC hwD hval hν

theorem walkMsgBody_plural :
    Writes (walkMsgBody g esc call (pluralBody pp vn ve cp k cbp C dp D)) ctx heap
      (Msg.renderSource ρ ν (pluralR src vn s k C D)) := by
  intro st hs
  obtain ⟨st1, he⟩ := hval st hs
  obtain ⟨n, rfl⟩ := evalIn_next he
  unfold pluralBody
  rw [walkMsgBody]
  simp only [he]
  rw [walkPluralCases]
  simp only [Msg.renderSource, pluralR, Msg.renderSrcList, Msg.renderSrc, Msg.renderSrcCases, hν, List.append_nil]
  by_cases hk : (i.toInt == k) = true
  · simp only [hk, if_true]
    obtain ⟨h1, h2, h3, h4⟩ := walkMsgBody_flat g esc call src ρ ctx heap ν C hC hwC { st with next := n } hs
    simp only [h1]
    rw [walkMsgBody]
    exact ⟨rfl, h2, h3, h4⟩
  · simp only [hk, if_false, Bool.false_eq_true]
    rw [walkPluralCases]
    obtain ⟨h1, h2, h3, h4⟩ := walkMsgBody_flat g esc call src ρ ctx heap ν D hD hwD { st with next := n } hs
    simp only [h1]
    rw [walkMsgBody]
    exact ⟨rfl, h2, h3, h4⟩
end

/-- the bridge for a message that is ONE {plural} with a flat case and a flat default (the shape
    `pomsg.Validate` accepts): what the {msg} command appends in Model/Eval is what Model/MsgRender renders.
    Hypotheses: the placeholders of the case and of the default are writers; the plural's expression evaluates
    to the integer `i` in the message's scope, `ν s = i`; and `hpick`, the agreement of the two placeholder
    searches (see `PickAgrees`) — `pickAgrees_plural` proves it from `hC hD hwC hwD`, and so the callers supply it. -/
theorem execCmd_msg_plural_eq_msgRender (g : GEnv) (esc : Bool) (call : Registry.Tmpl → Run) (src : MsgPhBody → Bytes)
    (ρ : Bytes → Bytes) (ν : Bytes → Int) (p id : Nat) (x y : Bytes) (z : Nat) (ctx : Scope) (st : St)
    (pp : Nat) (vn : Bytes) (ve : Expr) (cp : Nat) (k : Int) (cbp : Nat) (C : MsgParts) (dp : Nat) (D : MsgParts) (s : Bytes)
    (hC : flatBody C = true) (hD : flatBody D = true)
    (hwC : AllPh (fun b => Writes (execPh g esc call b) (push ctx st).1 (push ctx st).2.heap (ρ (src b))) C)
    (hwD : AllPh (fun b => Writes (execPh g esc call b) (push ctx st).1 (push ctx st).2.heap (ρ (src b))) D)
    (i : Int64) (hval : ∀ st', st'.heap = (push ctx st).2.heap → ∃ st1, evalIn g ve (push ctx st).1 st' = some (.int i, st1))
    (hν : ν s = i.toInt)
    (hpick : PickAgrees ρ (push ctx st).1 (push ctx st).2.heap
      (phAll g esc call (pluralBody pp vn ve cp k cbp C dp D) 0) (pluralR src vn s k C D)) :
    match g.msgs with
    | none =>
      (execCmd g esc call (.msg p id x y z (pluralBody pp vn ve cp k cbp C dp D)) ctx st).cls = .ok ∧
      bufBytes (execCmd g esc call (.msg p id x y z (pluralBody pp vn ve cp k cbp C dp D)) ctx st).st.out =
        bufBytes st.out ++ Msg.renderSource ρ ν (pluralR src vn s k C D)
    | some b =>
      match b.message id with
      | none =>
        (execCmd g esc call (.msg p id x y z (pluralBody pp vn ve cp k cbp C dp D)) ctx st).cls = .ok ∧
        bufBytes (execCmd g esc call (.msg p id x y z (pluralBody pp vn ve cp k cbp C dp D)) ctx st).st.out =
          bufBytes st.out ++ Msg.renderSource ρ ν (pluralR src vn s k C D)
      | some ps =>
        ∀ mcs, ps = .cons (.plural vn mcs) .nil → flatCases mcs = true →
        match Msg.renderTranslated ρ ν b.pluralCase (pluralR src vn s k C D) [.plural vn (toTCases mcs)] with
        | some out =>
          (execCmd g esc call (.msg p id x y z (pluralBody pp vn ve cp k cbp C dp D)) ctx st).cls = .ok ∧
          bufBytes (execCmd g esc call (.msg p id x y z (pluralBody pp vn ve cp k cbp C dp D)) ctx st).st.out =
            bufBytes st.out ++ out
        | none => (execCmd g esc call (.msg p id x y z (pluralBody pp vn ve cp k cbp C dp D)) ctx st).cls = .err := by
  have hsrc := walkMsgBody_plural g esc call src ρ ν _ _ pp vn ve cp k cbp C dp D s hC hD hwC hwD i hval hν
  rw [execCmd]
  cases hm : g.msgs with
  | none => exact walkBlockOf_writes hsrc
  | some b =>
    simp only
    cases hid : b.message id with
    | none => exact walkBlockOf_writes hsrc
    | some ps =>
      simp only
      intro mcs hps hfl
      subst hps
      have hfp : findPlural (pluralBody pp vn ve cp k cbp C dp D) vn = some ve := by simp [pluralBody, findPlural]
      have hfn : Msg.findPluralNode vn (pluralR src vn s k C D) = some s := by simp [pluralR, Msg.findPluralNode]
      have ht := evalMParts_plural g _ (pluralBody pp vn ve cp k cbp C dp D) (pluralR src vn s k C D) ρ ν _ _ hpick
        b hm vn ve s hfp hfn i hval hν mcs hfl
      have hrt : Msg.renderTranslated ρ ν b.pluralCase (pluralR src vn s k C D) [.plural vn (toTCases mcs)] =
          (Msg.renderT ρ ν b.pluralCase (pluralR src vn s k C D) (.plural vn (toTCases mcs))).map (· ++ []) := by
        unfold Msg.renderTranslated
        rw [Msg.renderTs, Msg.renderTs]
        cases Msg.renderT ρ ν b.pluralCase (pluralR src vn s k C D) (.plural vn (toTCases mcs)) <;> rfl
      rw [hrt]
      cases hr : Msg.renderT ρ ν b.pluralCase (pluralR src vn s k C D) (.plural vn (toTCases mcs)) with
      | none => rw [hr] at ht; exact walkBlockOf_err (ht _ rfl)
      | some out =>
        rw [hr] at ht
        simp only [Option.map_some, List.append_nil]
        exact walkBlockOf_writes ht

theorem findSrc_append (name : Bytes) (C : List RPart) : ∀ (D : List RPart),
    Msg.findSrc name (D ++ C) = (Msg.findSrc name D).or (Msg.findSrc name C)
  | [] => rfl
  | .ph n s :: l => by simp only [List.cons_append, Msg.findSrc]; split <;> simp [findSrc_append name C l]
  | .text _ :: l => by simpa [Msg.findSrc] using findSrc_append name C l
  | .plural .. :: l => by simpa [Msg.findSrc] using findSrc_append name C l

/-- the two placeholder searches agree on the one-plural shape: both look in the default first, then in the
    case (`Msg.placeholder_poPlural`; `phAll`: the default's placeholders at depth 2, the case's at depth 3) -/
theorem pickAgrees_plural (g : GEnv) (esc : Bool) (call : Registry.Tmpl → Run) (src : MsgPhBody → Bytes) (ρ : Bytes → Bytes)
    (ctx : Scope) (heap : List Cell)
    (pp : Nat) (vn : Bytes) (ve : Expr) (cp : Nat) (k : Int) (cbp : Nat) (C : MsgParts) (dp : Nat) (D : MsgParts) (s : Bytes)
    (hC : flatBody C = true) (hD : flatBody D = true)
    (hwC : AllPh (fun b => Writes (execPh g esc call b) ctx heap (ρ (src b))) C)
    (hwD : AllPh (fun b => Writes (execPh g esc call b) ctx heap (ρ (src b))) D) :
    PickAgrees ρ ctx heap (phAll g esc call (pluralBody pp vn ve cp k cbp C dp D) 0) (pluralR src vn s k C D) := by
  intro name
  unfold pluralBody pluralR
  rw [Msg.placeholder_poPlural name vn s k _ _ (isFlat_toR src C) (isFlat_toR src D)]
  rw [phAll, phAllCases, phAllCases, phAll, List.append_nil, List.append_nil, pickPh_eq_pickSt, pickSt_append]
  have hCc := (pickSt_flat g esc call src ρ ctx heap name 3 C hC hwC none).2 (fun _ _ h => by cases h)
  rw [findSrc_append]
  cases hfC : Msg.findSrc name (toR src C) with
  | none =>
    rw [hfC] at hCc
    rw [hCc]
    have hDd := (pickSt_flat g esc call src ρ ctx heap name 2 D hD hwD none).2 (fun _ _ h => by cases h)
    cases hfD : Msg.findSrc name (toR src D) with
    | none => rw [hfD] at hDd; simp only [hDd]; rfl
    | some sd =>
      rw [hfD] at hDd
      obtain ⟨run, h1, h2⟩ := hDd
      exact ⟨run, by rw [h1]; rfl, h2⟩
  | some sc =>
    rw [hfC] at hCc
    obtain ⟨runC, hc1, hc2⟩ := hCc
    rw [hc1]
    have hDd := (pickSt_flat g esc call src ρ ctx heap name 2 D hD hwD (some (3, runC))).2
      (fun bd r h => by simp only [Option.some.injEq, Prod.mk.injEq] at h; omega)
    cases hfD : Msg.findSrc name (toR src D) with
    | none => rw [hfD] at hDd; simp only [hDd]; exact ⟨runC, rfl, hc2⟩
    | some sd =>
      rw [hfD] at hDd
      obtain ⟨run, h1, h2⟩ := hDd
      exact ⟨run, by rw [h1]; rfl, h2⟩

/-- the identity translation of `{plural $e}{case 1}C{default}D{/plural}`: one plural part with the two forms
    [identity of C, identity of D] -/
def pluralIdentity (vn : Bytes) (C D : MsgParts) : MParts :=
  .cons (.plural vn (.cons (identityParts C) (.cons (identityParts D) .nil))) .nil

/-- the two-form selector: n = 1 → form 0, else form 1 (the function `C11.sel₂`) -/
def twoForm (n : Int) : Int := if n == 1 then 0 else 1

theorem render_plural_identity (src : MsgPhBody → Bytes) (ρ : Bytes → Bytes) (ν : Bytes → Int) (vn s : Bytes) (C D : MsgParts)
    (hC : flatBody C = true) (hD : flatBody D = true) (hu : NamesAgree ρ (toR src D ++ toR src C))
    (sel : Int → Int) (hsel : ∀ n, sel n = twoForm n) :
    Msg.renderTranslated ρ ν sel (pluralR src vn s 1 C D)
        [.plural vn (toTCases (.cons (identityParts C) (.cons (identityParts D) .nil)))] =
      some (Msg.renderSource ρ ν (pluralR src vn s 1 C D)) := by
  have hlook : ∀ n, Msg.placeholder n (pluralR src vn s 1 C D) = Msg.findSrc n (toR src D ++ toR src C) :=
    fun n => Msg.placeholder_poPlural n vn s 1 _ _ (isFlat_toR src C) (isFlat_toR src D)
  have hc := renderTs_identityParts src ρ ν sel _ _ hlook hu C hC (fun x hx => by simp [hx])
  have hd := renderTs_identityParts src ρ ν sel _ _ hlook hu D hD (fun x hx => by simp [hx])
  exact Msg.renderTranslated_twoForms ρ ν sel vn s _ _ _ _ (by rw [hsel]; rfl)
    (fun n hn => by rw [hsel, twoForm, if_neg (by simpa using hn)]) hc hd

/-- C11 `identity_translation_plural` over `execCmd`: with the identity translation of the one-plural message
    installed and the two-form selector, the {msg} command appends exactly `Msg.renderSource` — what it appends
    with no bundle (`execCmd_msg_plural_eq_msgRender`, `none` branch) -/
theorem msg_plural_identity_translation (g : GEnv) (esc : Bool) (call : Registry.Tmpl → Run) (src : MsgPhBody → Bytes)
    (ρ : Bytes → Bytes) (ν : Bytes → Int) (p id : Nat) (x y : Bytes) (z : Nat) (ctx : Scope) (st : St)
    (pp : Nat) (vn : Bytes) (ve : Expr) (cp cbp : Nat) (C : MsgParts) (dp : Nat) (D : MsgParts) (s : Bytes)
    (hC : flatBody C = true) (hD : flatBody D = true)
    (hwC : AllPh (fun b => Writes (execPh g esc call b) (push ctx st).1 (push ctx st).2.heap (ρ (src b))) C)
    (hwD : AllPh (fun b => Writes (execPh g esc call b) (push ctx st).1 (push ctx st).2.heap (ρ (src b))) D)
    (i : Int64) (hval : ∀ st', st'.heap = (push ctx st).2.heap → ∃ st1, evalIn g ve (push ctx st).1 st' = some (.int i, st1))
    (hν : ν s = i.toInt) (hu : NamesAgree ρ (toR src D ++ toR src C))
    (b : MsgBundle) (hb : g.msgs = some b) (hid : b.message id = some (pluralIdentity vn C D))
    (hsel : ∀ n, b.pluralCase n = twoForm n) :
    (execCmd g esc call (.msg p id x y z (pluralBody pp vn ve cp 1 cbp C dp D)) ctx st).cls = .ok ∧
    bufBytes (execCmd g esc call (.msg p id x y z (pluralBody pp vn ve cp 1 cbp C dp D)) ctx st).st.out =
      bufBytes st.out ++ Msg.renderSource ρ ν (pluralR src vn s 1 C D) := by
  have hpick := pickAgrees_plural g esc call src ρ (push ctx st).1 (push ctx st).2.heap pp vn ve cp 1 cbp C dp D s hC hD hwC hwD
  have h := execCmd_msg_plural_eq_msgRender g esc call src ρ ν p id x y z ctx st pp vn ve cp 1 cbp C dp D s hC hD hwC hwD
    i hval hν hpick
  rw [hb] at h
  simp only [hid] at h
  have h2 := h _ rfl (by simp [flatCases, flatT_identityParts])
  rw [render_plural_identity src ρ ν vn s C D hC hD hu b.pluralCase hsel] at h2
  exact h2

/-- the headline for plural messages: with the identity translation and the two-form selector installed the
    {msg} appends byte for byte what it appends without a catalogue (`g` with no bundle) -/
theorem msg_plural_identity_same_as_no_catalogue (g : GEnv) (esc : Bool) (call : Registry.Tmpl → Run) (src : MsgPhBody → Bytes)
    (ρ : Bytes → Bytes) (ν : Bytes → Int) (p id : Nat) (x y : Bytes) (z : Nat) (ctx : Scope) (st : St)
    (pp : Nat) (vn : Bytes) (ve : Expr) (cp cbp : Nat) (C : MsgParts) (dp : Nat) (D : MsgParts) (s : Bytes)
    (hC : flatBody C = true) (hD : flatBody D = true)
    (hwC : AllPh (fun b => Writes (execPh g esc call b) (push ctx st).1 (push ctx st).2.heap (ρ (src b))) C)
    (hwD : AllPh (fun b => Writes (execPh g esc call b) (push ctx st).1 (push ctx st).2.heap (ρ (src b))) D)
    (hwC0 : AllPh (fun b => Writes (execPh { g with msgs := none } esc call b) (push ctx st).1 (push ctx st).2.heap (ρ (src b))) C)
    (hwD0 : AllPh (fun b => Writes (execPh { g with msgs := none } esc call b) (push ctx st).1 (push ctx st).2.heap (ρ (src b))) D)
    (i : Int64) (hval : ∀ st', st'.heap = (push ctx st).2.heap → ∃ st1, evalIn g ve (push ctx st).1 st' = some (.int i, st1))
    (hval0 : ∀ st', st'.heap = (push ctx st).2.heap →
      ∃ st1, evalIn { g with msgs := none } ve (push ctx st).1 st' = some (.int i, st1))
    (hν : ν s = i.toInt) (hu : NamesAgree ρ (toR src D ++ toR src C))
    (b : MsgBundle) (hb : g.msgs = some b) (hid : b.message id = some (pluralIdentity vn C D))
    (hsel : ∀ n, b.pluralCase n = twoForm n) :
    (execCmd g esc call (.msg p id x y z (pluralBody pp vn ve cp 1 cbp C dp D)) ctx st).cls = .ok ∧
    (execCmd { g with msgs := none } esc call (.msg p id x y z (pluralBody pp vn ve cp 1 cbp C dp D)) ctx st).cls = .ok ∧
    bufBytes (execCmd g esc call (.msg p id x y z (pluralBody pp vn ve cp 1 cbp C dp D)) ctx st).st.out =
      bufBytes (execCmd { g with msgs := none } esc call (.msg p id x y z (pluralBody pp vn ve cp 1 cbp C dp D)) ctx st).st.out := by
  have h1 := msg_plural_identity_translation g esc call src ρ ν p id x y z ctx st pp vn ve cp cbp C dp D s hC hD hwC hwD
    i hval hν hu b hb hid hsel
  have hpick0 := pickAgrees_plural { g with msgs := none } esc call src ρ (push ctx st).1 (push ctx st).2.heap
    pp vn ve cp 1 cbp C dp D s hC hD hwC0 hwD0
  have h0 := execCmd_msg_plural_eq_msgRender { g with msgs := none } esc call src ρ ν p id x y z ctx st pp vn ve cp 1 cbp C dp D s
    hC hD hwC0 hwD0 i hval0 hν hpick0
  simp only at h0
  exact ⟨h1.1, h0.1, by rw [h1.2, h0.2]⟩

/-! ### non-vacuity: `{msg}<b>{$x}</b>{/msg}` (placeholders START_BOLD, X, END_BOLD) with the translation
    `{X}: {START_BOLD}{END_BOLD}` — the hypotheses are satisfiable (html tags and a print of a variable are
    writers) and the {msg} command appends the reordered values -/

def exBody : MsgParts :=
  .ph 1 [83] (.htmlTag 1 [60, 98, 62]) (.ph 2 [88] (.cmd (.print 2 (.dataRef 2 [120] .nil) []))
    (.ph 3 [69] (.htmlTag 3 [60, 47, 98, 62]) .nil))
def exSrc : MsgPhBody → Bytes
  | .htmlTag _ t => t
  | .cmd _ => [36, 120]
def exRho (s : Bytes) : Bytes := if s == [36, 120] then [38, 108, 116, 59] else s
def exBundle : MsgBundle := { message := fun _ => some (ofMsgParts [.ph [88], .text [58, 32], .ph [83], .ph [69]]), pluralCase := fun _ => 0 }
def exG : GEnv := { reg := [], globals := [], ij := none, msgs := some exBundle, tbl := [], oblig := [] }
def exSt : St := { heap := [⟨[([120], .str [60])], false⟩], out := [], next := 5, foreign := 0 }

example (call : Registry.Tmpl → Run) :
    (execCmd exG true call (.msg 0 7 [] [] 0 exBody) [⟨0, false⟩] exSt).cls = .ok ∧
    bufBytes (execCmd exG true call (.msg 0 7 [] [] 0 exBody) [⟨0, false⟩] exSt).st.out =
      [38, 108, 116, 59, 58, 32, 60, 98, 62, 60, 47, 98, 62] := by
  have hw : AllPh (fun b => Writes (execPh exG true call b) (push [⟨0, false⟩] exSt).1 (push [⟨0, false⟩] exSt).2.heap
      (exRho (exSrc b))) exBody :=
    ⟨htmlTag_writes _ _ _ _ _ _ _, print_var_writes exG true call rfl 2 2 [120] (by decide) _ _ (.str [60]) [60]
      rfl (fun h => by cases h) rfl, htmlTag_writes _ _ _ _ _ _ _, trivial⟩
  have h := msg_translation_renders_segments exG true call exSrc exRho 0 7 [] [] 0 exBody [⟨0, false⟩] exSt (by decide) hw
    exBundle rfl [.ph [88], .text [58, 32], .ph [83], .ph [69]] rfl (by decide)
  exact h

/-- the identity translation of the same message: `<b>&lt;</b>`, what it renders without a catalogue -/
def exBundleId : MsgBundle := { message := fun _ => some (identityParts exBody), pluralCase := fun _ => 0 }
def exGId : GEnv := { reg := [], globals := [], ij := none, msgs := some exBundleId, tbl := [], oblig := [] }

theorem exNames : NamesAgree exRho (toR exSrc exBody) := by
  intro n s s' h h'
  simp only [toR, exBody, exSrc, List.mem_cons, RPart.ph.injEq, List.not_mem_nil, or_false] at h h'
  rcases h with ⟨rfl, rfl⟩ | ⟨rfl, rfl⟩ | ⟨rfl, rfl⟩ <;> rcases h' with ⟨h1, rfl⟩ | ⟨h1, rfl⟩ | ⟨h1, rfl⟩ <;>
    first | rfl | (exact absurd h1 (by decide))

example (call : Registry.Tmpl → Run) :
    (execCmd exGId true call (.msg 0 7 [] [] 0 exBody) [⟨0, false⟩] exSt).cls = .ok ∧
    bufBytes (execCmd exGId true call (.msg 0 7 [] [] 0 exBody) [⟨0, false⟩] exSt).st.out =
      [60, 98, 62, 38, 108, 116, 59, 60, 47, 98, 62] := by
  have hw : AllPh (fun b => Writes (execPh exGId true call b) (push [⟨0, false⟩] exSt).1 (push [⟨0, false⟩] exSt).2.heap
      (exRho (exSrc b))) exBody :=
    ⟨htmlTag_writes _ _ _ _ _ _ _, print_var_writes exGId true call rfl 2 2 [120] (by decide) _ _ (.str [60]) [60]
      rfl (fun h => by cases h) rfl, htmlTag_writes _ _ _ _ _ _ _, trivial⟩
  exact msg_identity_translation exGId true call exSrc exRho 0 7 [] [] 0 exBody [⟨0, false⟩] exSt (by decide) hw exNames
    exBundleId rfl (fun _ => 0) rfl

/-! a plural message through the theorem: `{msg}{plural $n}{case 1}one{default}{$n}s{/plural}{/msg}` with the identity
    translation [one | {N}s] and the two-form selector: n = 1 gives "one", n = 5 gives "5s" -/

def plC : MsgParts := .text 3 [111, 110, 101] .nil
def plD : MsgParts := .ph 5 [78] (.cmd (.print 5 (.dataRef 5 [110] .nil) [])) (.text 6 [115] .nil)
def plBundle : MsgBundle := { message := fun _ => some (pluralIdentity [78] plC plD), pluralCase := twoForm }
def plG : GEnv := { reg := [], globals := [], ij := none, msgs := some plBundle, tbl := [], oblig := [] }
def plSt (n : Int64) : St := { heap := [⟨[([110], .int n)], false⟩], out := [], next := 5, foreign := 0 }
def plSrc : MsgPhBody → Bytes := fun _ => [36, 110]

theorem plNames (ρ : Bytes → Bytes) : NamesAgree ρ (toR plSrc plD ++ toR plSrc plC) := by
  intro n s s' h h'
  simp only [toR, plD, plC, plSrc, List.mem_append, List.mem_cons, RPart.ph.injEq, List.not_mem_nil, or_false,
    reduceCtorEq, false_or] at h h'
  rw [h.2, h'.2]

theorem plExample (call : Registry.Tmpl → Run) (n : Int64) (txt : Bytes) (hs : str (.int n) = some txt) :
    (execCmd plG true call (.msg 0 7 [] [] 0 (pluralBody 1 [78] (.dataRef 2 [110] .nil) 3 1 3 plC 4 plD)) [⟨0, false⟩] (plSt n)).cls = .ok ∧
    bufBytes (execCmd plG true call (.msg 0 7 [] [] 0 (pluralBody 1 [78] (.dataRef 2 [110] .nil) 3 1 3 plC 4 plD)) [⟨0, false⟩] (plSt n)).st.out =
      Msg.renderSource (fun _ => htmlEscape txt) (fun _ => n.toInt) (pluralR plSrc [78] [36, 110] 1 plC plD) := by
  have hwD : AllPh (fun b => Writes (execPh plG true call b) (push [⟨0, false⟩] (plSt n)).1 (push [⟨0, false⟩] (plSt n)).2.heap
      ((fun _ => htmlEscape txt) (plSrc b))) plD :=
    ⟨print_var_writes plG true call rfl 5 5 [110] (by decide) _ _ (.int n) txt rfl (fun h => by cases h) hs, trivial⟩
  have h := msg_plural_identity_translation plG true call plSrc (fun _ => htmlEscape txt) (fun _ => n.toInt) 0 7 [] [] 0
    [⟨0, false⟩] (plSt n) 1 [78] (.dataRef 2 [110] .nil) 3 3 plC 4 plD [36, 110] (by decide) (by decide) trivial hwD n
    (fun st' h' => ⟨_, by rw [evalIn_var plG 2 [110] (by decide), h']; rfl⟩) rfl (plNames _) plBundle rfl rfl (fun _ => rfl)
  simpa [plSt, bufBytes] using h

example (call : Registry.Tmpl → Run) :
    bufBytes (execCmd plG true call (.msg 0 7 [] [] 0 (pluralBody 1 [78] (.dataRef 2 [110] .nil) 3 1 3 plC 4 plD)) [⟨0, false⟩] (plSt 1)).st.out
      = [111, 110, 101] ∧
    bufBytes (execCmd plG true call (.msg 0 7 [] [] 0 (pluralBody 1 [78] (.dataRef 2 [110] .nil) 3 1 3 plC 4 plD)) [⟨0, false⟩] (plSt 5)).st.out
      = [53, 115] := by
  refine ⟨?_, ?_⟩
  · rw [(plExample call 1 [49] (by decide)).2]; decide
  · rw [(plExample call 5 [53] (by decide)).2]; decide

end SoyVerif.Props.C11b
