/-
  C06 — Rendering any compiled bundle with any data returns output or an error.

  Theorems about the interpreter model (Model/Eval.lean), for EVERY registry, template name, data map,
  injected data, message bundle, directive table and call-depth fuel — ill-typed programs and hostile
  data included (the model's functions are total on all trees and all values).

  * `exec_no_panic`: `execute` never ends in the class `panic` provided every node of the entry template
    lies within the source registered under its name (`posOk`) — the one place where a Go panic could
    escape `Execute` is the recover handler itself (`errFromNode` → `Registry.LineNumber` →
    `src[:pos]`).  `Registry.add` rejects duplicate template names, so the source is the template's own
    file; that the parser model's positions are inside it is Props/C06pos.lean, and for the real parser it is
    checked on every correspondence case (the model would answer PANIC).  `exec_panic_needs_bad_position` is
    the converse reading.
  * every Go panic site inside the walk (type assertions, `%` by zero, index out of range, nil map,
    Undefined.String(), funcs.go's explicit panics) is an explicit `err` of the model; no model function
    is partial (Lean accepts only total functions; list accesses are `[i]?` / `getD`), so no failing
    access can hide behind the result types.
  * `evalExpr_total`, `setGlobals_total`: the standalone entry points have no panic class at all
    (EvalExpr's error path takes the nil-template branch of errFromNode: no position lookup).
-/
import SoyVerif.Lemmas.EvalGood
import SoyVerif.Lemmas.RegistryNames

namespace SoyVerif.Props.C06
open SoyVerif SoyVerif.Model SoyVerif.Model.Eval

/-- a panic can only come from the recover handler slicing the source at an out-of-range position -/
theorem exec_panic_needs_bad_position (g : GEnv) (name : Bytes) (data : Frame) (fuel : Nat)
    (h : (execute g name data fuel).cls = .panic) :
    ∃ t, Registry.lookup g.reg name = some t ∧ posOk t = false :=
  (execute_spec g name data fuel).1 h

/-- `Execute` never lets a panic escape, given that every node of the entry template lies inside its source -/
theorem exec_no_panic (g : GEnv) (name : Bytes) (data : Frame) (fuel : Nat)
    (hpos : ∀ t, Registry.lookup g.reg name = some t → posOk t = true) :
    (execute g name data fuel).cls ≠ .panic := by
  intro h
  obtain ⟨t, ht, hp⟩ := exec_panic_needs_bad_position g name data fuel h
  rw [hpos t ht] at hp
  exact absurd hp (by decide)

/-- rendering returns output or an error (or runs out of call depth) -/
theorem exec_total (g : GEnv) (name : Bytes) (data : Frame) (fuel : Nat)
    (hpos : ∀ t, Registry.lookup g.reg name = some t → posOk t = true) :
    (execute g name data fuel).cls = .ok ∨ (execute g name data fuel).cls = .err ∨
    (execute g name data fuel).cls = .fuelOut := by
  have h := exec_no_panic g name data fuel hpos
  cases hc : (execute g name data fuel).cls with
  | ok => exact Or.inl rfl
  | err => exact Or.inr (Or.inl rfl)
  | fuelOut => exact Or.inr (Or.inr rfl)
  | panic => exact absurd hc h

/-- the API contract in one statement: `Execute` returns normally — with output (`ok`), with an error value
    (`err`), or it exceeds the call depth the fuel stands for (`fuelOut`; Go: the goroutine stack, excluded by
    the property's "recursion bounded by the data") — and the ONLY way a panic can leave it is the recover
    handler slicing the entry template's source at a node position outside that source (`¬ posOk`).

    `posOk` for registries built from parser output: Props/C06pos.lean (`soyFile_posOk`, `addAll_posOk`). -/
theorem execute_contract (g : GEnv) (name : Bytes) (data : Frame) (fuel : Nat) :
    ((execute g name data fuel).cls = .ok ∨ (execute g name data fuel).cls = .err ∨
      (execute g name data fuel).cls = .fuelOut ∨
      ((execute g name data fuel).cls = .panic ∧ ∃ t, Registry.lookup g.reg name = some t ∧ posOk t = false)) ∧
    ((∀ t, Registry.lookup g.reg name = some t → posOk t = true) → (execute g name data fuel).cls ≠ .panic) := by
  refine ⟨?_, exec_no_panic g name data fuel⟩
  cases hc : (execute g name data fuel).cls with
  | ok => exact Or.inl rfl
  | err => exact Or.inr (Or.inl rfl)
  | fuelOut => exact Or.inr (Or.inr (Or.inl rfl))
  | panic => exact Or.inr (Or.inr (Or.inr ⟨rfl, exec_panic_needs_bad_position g name data fuel hc⟩))

/-- inside the walk nothing panics at all: every template invocation, from any state whose top frame is
    an own frame, ends ok / err / fuelOut — positions play no role below the entry point -/
theorem walk_no_panic (g : GEnv) (fuel : Nat) (t : Registry.Tmpl) (ctx : Scope) (st : St) (h : Own ctx st) :
    (runTmpl g fuel t ctx st).cls ≠ .panic :=
  (runTmpl_good g fuel t ctx st h).np

/-- no command panics when the runner of its calls is `GoodRun`: whatever a nested call does, the command does not
    end in `panic` -/
theorem call_failure_is_error (g : GEnv) (esc : Bool) (call : Registry.Tmpl → Run) (hcall : ∀ t, GoodRun (call t))
    (c : Cmd) (ctx : Scope) (st : St) (h : Own ctx st) : (execCmd g esc call c ctx st).cls ≠ .panic :=
  (execCmd_good g esc call hcall c ctx st h).np

/-- EvalExpr returns a value or an error -/
theorem evalExpr_total (globals : Frame) (e : Expr) :
    (∃ v, evalExprEntry globals e = some v) ∨ evalExprEntry globals e = none := by
  cases h : evalExprEntry globals e with
  | none => exact Or.inr rfl
  | some v => exact Or.inl ⟨v, rfl⟩

/-- SetGlobals returns nil or an error -/
theorem setGlobals_total (reg : Registry.Reg) (globals : Frame) :
    setGlobals reg globals = true ∨ setGlobals reg globals = false := by
  cases setGlobals reg globals <;> simp

/-- … and it accepts exactly the registries all of whose globals are defined -/
theorem setGlobals_ok_iff (reg : Registry.Reg) (globals : Frame) :
    setGlobals reg globals = true ↔
      ∀ t ∈ reg, ∀ n ∈ globalsBlock t.body, (Frame.find globals n).isSome = true := by
  simp [setGlobals, List.all_eq_true]

/-- `Registry.Add` keeps the template names pairwise different (what makes `Registry.lookup name` THE template of
    that name, carrying the source of its own file) -/
theorem registry_unique_names : ∀ (fs : List SoyFile) (reg reg' : Registry.Reg),
    Registry.addAll reg fs = some reg' → (reg.map (·.name)).Nodup → (reg'.map (·.name)).Nodup := by
  intro fs
  induction fs with
  | nil => intro reg reg' h hn; simp [Registry.addAll] at h; subst h; exact hn
  | cons f rest ih =>
    intro reg reg' h hn
    simp only [Registry.addAll, Option.bind_eq_some_iff] at h
    obtain ⟨r1, h1, h2⟩ := h
    refine ih r1 reg' h2 ?_
    unfold Registry.add at h1
    split at h1
    · simp at h1
    · exact addTemplates_names _ _ _ _ _ _ _ _ h1 hn

def gEmpty (reg : Registry.Reg) : GEnv :=
  { reg := reg, globals := [], ij := none, msgs := none, tbl := [], oblig := [] }

/-- `{template .t}{print $u}{/template}`: printing an undefined value -/
def tUndef : Registry.Tmpl :=
  { name := [116], params := [], body := .mk 0 (.cons (.print 1 (.dataRef 2 [117] .nil) []) .nil),
    autoescape := .unspecified, nsName := [110], nsAutoescape := .unspecified, pos := 0, file := [102], text := [0, 0, 0, 0] }

/-- … is an error, … -/
example : (execute (gEmpty [tUndef]) [116] [] 5).cls = .err := by decide +kernel
/-- … and it would be a panic escaping Execute if the node lay outside the registered source -/
example : (execute (gEmpty [{ tUndef with text := [] }]) [116] [] 5).cls = .panic := by decide +kernel
/-- `{template .r}{call .r /}{/template}` runs out of call depth -/
def tRec : Registry.Tmpl :=
  { tUndef with name := [114], body := .mk 0 (.cons (.call 1 [114] false none .nil) .nil) }
example : (execute (gEmpty [tRec]) [114] [] 2).cls = .fuelOut := by decide +kernel
example : (execute (gEmpty [tRec]) [120] [] 2).cls = .err := by decide +kernel   -- template not found
/-- the four disjuncts of `execute_contract` are all inhabited: ok here, err / panic / fuelOut above -/
example : (execute (gEmpty [{ tUndef with body := .mk 0 .nil }]) [116] [] 2).cls = .ok := by decide +kernel

end SoyVerif.Props.C06
