/-
  C07 (last sentence) — rendering an accepted template never looks up a name that nothing binds.

  The checker model (Model/Check.lean; Props/C07 gives the declarative rules of Spec/Valid.lean) is joined here
  with the interpreter model (Model/Eval.lean).  `misses heap ctx k` is the branch of `scope.lookup`
  (soyhtml/scope.go) that falls through every frame, calls `verifUnbound(k)` and returns `data.Undefined{}`.

  `SafeCmd … c ctx st` (and `SafeBody`, `SafeCmds`, …) says: along THE execution of `c` from `(ctx, st)` — every
  successor state is the one the model computes — every expression the walk evaluates has all its variable
  references (`exprKeys`, except `$ij` and the names in the exemption set `X`) bound in the scope it is
  evaluated in.  Nothing in Model/Eval is instrumented: the predicates follow the clauses of `execCmd` one by
  one and put `HitExprs` where the clause calls `evalIn` / `evalList` / `matchCase` / `evalPrint` (expression
  evaluation changes neither the scope nor the heap; so the keys of one command's own expressions are stated
  at the heap the command starts from or — where a {let}, a param or a loop variable has been bound in
  between — at the state the model is in at that point).

  The exemption set of an invocation of a template:
      - entered by `execute` or by a {call} WITHOUT data attribute:
          the OPTIONAL params of the template that the entry scope does not bind
          (a {call} without data passes every required param: checker rule R5);
      - entered by a {call} with data="all" or data="$e":
          the declared params of the callee (the checker does not look into data).
  Names bound by {let} / {foreach} / {for} are never exempt, in any template, however it was entered.

  The loop functions: `index($x)` / `isFirst($x)` look up `x.index`, `isLast($x)` also `x.lastIndex`
  (`applyLoopFunc`, on the key of the first argument).  With the checker rule R_loopfn (`Spec.LoopArgOk`,
  /repo e0343b6) `x` is the variable of an enclosing loop, and `forLoop` binds the two helpers with it in one
  frame: these lookups are part of every expression position (`HitExprs` = `HitKeys` ∧ `HitHelpers`) and
  never exempt.

  {msg} through a message bundle: `SafeCmd` of a {msg} follows `evalMsg` — without a bundle, or without a
  translation of the message, the walk of its body; else `evalMsgParts`: a placeholder part walks the SOURCE
  placeholder of that name in the message's own scope, a plural part evaluates the value expression of the
  source {plural} of that variable; a translation naming a placeholder or a plural variable the message does
  not have is an ERROR of the render, not a miss.  No hypothesis about `g.msgs`.
-/
import SoyVerif.Props.C07
import SoyVerif.Props.C02
import SoyVerif.Lemmas.ExecRefine
import SoyVerif.Lemmas.ExecEqns
import SoyVerif.Lemmas.PickPh

namespace SoyVerif.Props.C07b
open SoyVerif SoyVerif.Model SoyVerif.Model.Eval SoyVerif.Spec
open SoyVerif.Props.C02 (ScopeOk)

/-- `scope.lookup(k)` finds `k` in no frame: `verifUnbound(k); return data.Undefined{}` -/
def misses (heap : List Cell) : Scope → Bytes → Bool
  | [], _ => true
  | f :: r, k =>
    match Frame.find (heapGet heap f.ref) k with
    | some _ => false
    | none => misses heap r k

/-- the miss branch is the `[]` branch of the model's `lookup` -/
theorem lookup_of_misses (heap : List Cell) : ∀ (ctx : Scope) (k : Bytes), misses heap ctx k = true →
    lookup heap ctx k = .undefined
  | [], _, _ => rfl
  | f :: r, k, h => by
    simp only [misses, lookup] at h ⊢
    split at h
    · cases h
    · rename_i hf; simp only [hf]; exact lookup_of_misses heap r k h

theorem misses_eq_false_iff (heap : List Cell) : ∀ (ctx : Scope) (k : Bytes),
    misses heap ctx k = false ↔ ∃ f ∈ ctx, (Frame.find (heapGet heap f.ref) k).isSome = true
  | [], k => by simp [misses]
  | f :: r, k => by
    simp only [misses, List.mem_cons, exists_eq_or_imp]
    cases hf : Frame.find (heapGet heap f.ref) k with
    | some v => simp
    | none => simp [misses_eq_false_iff heap r k]

theorem misses_eq (heap : List Cell) : ∀ (ctx : Scope) (k : Bytes), misses heap ctx k = (scopeFind heap ctx k).isNone
  | [], _ => rfl
  | f :: r, k => by
    simp only [misses, scopeFind]
    cases Frame.find (heapGet heap f.ref) k with
    | some v => rfl
    | none => exact misses_eq heap r k

theorem misses_ext_W {W : Nat → Prop} {st st' : St} (e : Ext W st st') (ctx : Scope) (hok : ScopeOk ctx st)
    (hw : ∀ f ∈ ctx, ¬ W f.ref) (k : Bytes) : misses st'.heap ctx k = misses st.heap ctx k := by
  rw [misses_eq, misses_eq, scopeFind_ext_W e ctx hok hw]

theorem misses_heap_eq {st st' : St} (h : st'.heap = st.heap) (ctx : Scope) (k : Bytes) :
    misses st'.heap ctx k = misses st.heap ctx k := by rw [h]

theorem misses_set {ctx : Scope} {st st2 : St} {name : Bytes} {v : Value} (hown : Own ctx st)
    (h : set ctx st name v = some st2) (k : Bytes) :
    misses st2.heap ctx k = if k == name then false else misses st.heap ctx k := by
  rw [misses_eq, misses_eq, scopeFind_set hown h]; split <;> rfl

theorem misses_push (ctx : Scope) (st : St) (hok : ScopeOk ctx st) (k : Bytes) :
    misses (push ctx st).2.heap (push ctx st).1 k = misses st.heap ctx k := by
  rw [misses_eq, misses_eq, scopeFind_push ctx st hok]

/-- from `st` to `st'` the scope `ctx` loses no binding and binds `ks` -/
structure Binds (ks : List Bytes) (ctx : Scope) (st st' : St) : Prop where
  keep : ∀ k, misses st.heap ctx k = false → misses st'.heap ctx k = false
  new : ∀ k ∈ ks, misses st'.heap ctx k = false

theorem Binds.of_eq {ctx : Scope} {st st' : St} (h : ∀ k, misses st'.heap ctx k = misses st.heap ctx k) :
    Binds [] ctx st st' := ⟨fun k hk => by rw [h]; exact hk, nofun⟩

theorem Binds.set {ctx : Scope} {st st2 : St} {name : Bytes} {v : Value} (hown : Own ctx st)
    (hs : set ctx st name v = some st2) : Binds [name] ctx st st2 :=
  ⟨fun k hk => by rw [misses_set hown hs]; split <;> simp [hk],
   fun k hk => by rw [misses_set hown hs, List.mem_singleton.mp hk]; simp⟩

theorem Binds.trans {a b : List Bytes} {ctx : Scope} {s0 s1 s2 : St} (h1 : Binds a ctx s0 s1) (h2 : Binds b ctx s1 s2) :
    Binds (a ++ b) ctx s0 s2 :=
  ⟨fun k hk => h2.keep k (h1.keep k hk),
   fun k hk => (List.mem_append.mp hk).elim (fun h => h2.keep k (h1.new k h)) (h2.new k)⟩

/- `scall callee viaData cctx st2` is what is required of a callee on the scope it is entered on (`viaData`: the call
   had a data attribute); `SafeTmpl` below puts `SafeTmpl` one level down there.  `X` is the exemption set. -/
section
variable (g : GEnv) (esc : Bool) (call : Registry.Tmpl → Run)
  (scall : Registry.Tmpl → Bool → Scope → St → Prop) (X : Bytes → Bool)

/-- every variable reference among `ks` — other than `$ij` and the exempt names — is bound in `ctx` -/
def HitKeys (heap : List Cell) (ctx : Scope) (ks : List Bytes) : Prop :=
  ∀ k ∈ ks, k ≠ ijName → X k = false → misses heap ctx k = false

/-- what `applyLoopFunc` is given: the key of the first argument, when that is a reference (`evalE`) -/
def loopKeyOf : ExprList → Option Bytes
  | .cons (.dataRef _ key _) _ => some key
  | _ => none

/-- the names the loop functions look up (funcs.go): `index` and `isFirst` the loop's `<x>.index`,
    `isLast` also `<x>.lastIndex` -/
def helperKeys : List LoopOcc → List Bytes
  | [] => []
  | (name, args) :: r =>
    (match loopKeyOf args with
     | none => []
     | some k =>
       if name == fIsLast then [k ++ sIndexSuffix, k ++ sLastIndexSuffix] else [k ++ sIndexSuffix])
      ++ helperKeys r

/-- every helper name that the loop functions among `ls` look up is bound in `ctx` (no exemptions) -/
def HitHelpers (heap : List Cell) (ctx : Scope) (ls : List LoopOcc) : Prop :=
  ∀ k ∈ helperKeys ls, misses heap ctx k = false

/-- an expression position: its references `ks` and the helper names of its loop functions `ls` -/
def HitExprs (heap : List Cell) (ctx : Scope) (ks : List Bytes) (ls : List LoopOcc) : Prop :=
  HitKeys X heap ctx ks ∧ HitHelpers heap ctx ls

/-- walkBlock: the body runs on the pushed scope -/
def SafeWalk (sbody : Scope → St → Prop) (ctx : Scope) (st : St) : Prop :=
  sbody (push ctx st).1 (push ctx st).2

/-- renderBlock: walkBlock on a buffer -/
def SafeRender (sbody : Scope → St → Prop) (ctx : Scope) (st : St) : Prop :=
  SafeWalk sbody ctx { st with out := [] }

/-- `forLoop`: each iteration on a frame of its own that binds the loop variable and its helpers -/
def SafeLoop (body : Run) (sbody : Scope → St → Prop) (var : Bytes) (last : Int) : List Value → Nat → Scope → St → Prop
  | [], _, _, _ => True
  | item :: rest, i, ctx, st =>
    match set (push ctx st).1 (push ctx st).2 (var ++ sLastIndexSuffix) (.int (Int64.ofInt last)) with
    | none => True
    | some st2 =>
      match set (push ctx st).1 st2 var item with
      | none => True
      | some st3 =>
        match set (push ctx st).1 st3 (var ++ sIndexSuffix) (.int (Int64.ofInt i)) with
        | none => True
        | some st4 =>
          sbody (push ctx st).1 st4 ∧
          ((body (push ctx st).1 st4).cls = .ok →
            match pop (body (push ctx st).1 st4).ctx with
            | none => True
            | some ctx2 => SafeLoop body sbody var last rest (i + 1) ctx2 (body (push ctx st).1 st4).st)

/-- the remembered {default} of a switch, as `pickDefault` -/
def pickSafe (values : List Expr) (sbody : Scope → St → Prop) (sd : Option (Scope → St → Prop)) :
    Option (Scope → St → Prop) :=
  if values.isEmpty && sd.isNone then some sbody else sd

mutual
/-- `evalMsgParts` (a {msg} rendered through a translation): raw text; a placeholder part walks the source
    placeholder of that name (`phs`: the runs, `sphs`: what is required of them; no such placeholder is an
    error, not a miss); a plural part evaluates the value of the plural variable and takes the form the
    bundle selects -/
def SafeMParts (phs : List (Nat × Bytes × Run)) (sphs : List (Nat × Bytes × (Scope → St → Prop))) (body : MsgParts) :
    MParts → Scope → St → Prop
  | .nil, _, _ => True
  | .cons (.raw t) rest, ctx, st => SafeMParts phs sphs body rest ctx (write st t)
  | .cons (.ph name) rest, ctx, st =>
    match pickPh name phs none with
    | none => True
    | some run =>
      (∃ s, Spec.Eval.pickPhS name sphs none = some s ∧ s ctx st) ∧
      ((run ctx st).cls = .ok → SafeMParts phs sphs body rest (run ctx st).ctx (run ctx st).st)
  | .cons (.plural vn cases) rest, ctx, st =>
    match findPlural body vn with
    | none => True
    | some ve =>
      HitExprs X st.heap ctx (exprKeys ve) (exprLoops ve) ∧
      match evalIn g ve ctx st with
      | some (.int i, st1) =>
        match g.msgs with
        | none => True
        | some b =>
          if b.pluralCase i.toInt < 0 then True
          else
            SafeMCases phs sphs body cases (b.pluralCase i.toInt).toNat ctx st1 ∧
            ((evalMCases g phs body cases (b.pluralCase i.toInt).toNat ctx st1).cls = .ok →
              SafeMParts phs sphs body rest (evalMCases g phs body cases (b.pluralCase i.toInt).toNat ctx st1).ctx
                (evalMCases g phs body cases (b.pluralCase i.toInt).toNat ctx st1).st)
      | _ => True
/-- `part.Cases[pluralCaseIndex]` -/
def SafeMCases (phs : List (Nat × Bytes × Run)) (sphs : List (Nat × Bytes × (Scope → St → Prop))) (body : MsgParts) :
    MCases → Nat → Scope → St → Prop
  | .nil, _, _, _ => True
  | .cons parts _, 0, ctx, st => SafeMParts phs sphs body parts ctx st
  | .cons _ rest, n + 1, ctx, st => SafeMCases phs sphs body rest n ctx st
end

mutual
/-- `execCmd` -/
def SafeCmd : Cmd → Scope → St → Prop
  | .rawText .., _, _ => True
  -- evalPrint: the argument, then the arguments of the directives left to right
  | .print _ arg dirs, ctx, st => HitExprs X st.heap ctx (exprKeys arg ++ dirsKeys dirs) (exprLoops arg ++ dirsLoops dirs)
  -- evalMsg: the body is a block of its own; without a bundle, or without a translation of this message, its
  -- parts are walked, else the translation's parts are (`evalMsgParts`)
  | .msg _ id _ _ _ body, ctx, st =>
    SafeWalk (fun ctx1 st1 =>
      match g.msgs with
      | none => SafeParts body ctx1 st1
      | some b =>
        match b.message id with
        | none => SafeParts body ctx1 st1
        | some parts => SafeMParts g X (phAll g esc call body 0) (SafePhAll body 0) body parts ctx1 st1) ctx st
  | .css _ e _, ctx, st => HitExprs X st.heap ctx (optKeys e) (optLoops e)
  | .debugger _, _, _ => True
  | .log _ body, ctx, st => SafeRender (SafeBody body) ctx st
  | .ifc _ conds, ctx, st => SafeConds conds ctx st
  | .forc _ var list body ifEmpty, ctx, st =>
    HitExprs X st.heap ctx (exprKeys list) (exprLoops list) ∧
    match evalIn g list ctx st with
    | some (.list _ xs, st1) =>
      if xs.isEmpty then
        match ifEmpty with
        | some b => SafeWalk (SafeBody b) ctx st1
        | none => True
      else SafeLoop (execBody g esc call body) (SafeBody body) var ((xs.length : Int) - 1) xs 0 ctx st1
    | _ => True
  | .switch _ value cases, ctx, st =>
    HitExprs X st.heap ctx (exprKeys value) (exprLoops value) ∧
    match evalIn g value ctx st with
    | none => True
    | some (sv, st1) => SafeCases cases none sv ctx st1
  -- evalCall: the data expression, the params (in the caller's scope), then the callee on the entered scope
  | .call _ name allData data params, ctx, st =>
    match Registry.lookup g.reg name with
    | none => True
    | some callee =>
      HitExprs X st.heap ctx (optKeys data) (optLoops data) ∧
      match callData g allData data ctx st with
      | none => True
      | some (cd, st1) =>
        SafeParams params cd ctx st1 ∧
        ((execParams g esc call params cd ctx st1).cls = .ok →
          match enter cd (execParams g esc call params cd ctx st1).st with
          | none => True
          | some (cctx, st2) => scall callee (allData || data.isSome) cctx st2)
  | .letValue _ _ e, ctx, st => HitExprs X st.heap ctx (exprKeys e) (exprLoops e)
  | .letContent _ _ body, ctx, st => SafeRender (SafeBody body) ctx st
  | .headerParam .., _, _ => True
  | .namespace .., _, _ => True
  | .template .., _, _ => True
  | .soyDoc .., _, _ => True
/-- `execBody` -/
def SafeBody : Block → Scope → St → Prop
  | .mk p cmds, ctx, st => SafeCmds cmds ctx (atNode st p)
/-- `execCmds`: the next command starts where the model's `execCmd` ended -/
def SafeCmds : CmdList → Scope → St → Prop
  | .nil, _, _ => True
  | .cons c rest, ctx, st =>
    SafeCmd c ctx (atNode st (cmdPos c)) ∧
    ((execCmd g esc call c ctx (atNode st (cmdPos c))).cls = .ok →
      SafeCmds rest (execCmd g esc call c ctx (atNode st (cmdPos c))).ctx (execCmd g esc call c ctx (atNode st (cmdPos c))).st)
/-- `execConds` -/
def SafeConds : CondList → Scope → St → Prop
  | .nil, _, _ => True
  | .cons _ cond body rest, ctx, st =>
    match cond with
    | none => SafeWalk (SafeBody body) ctx st
    | some c =>
      HitExprs X st.heap ctx (exprKeys c) (exprLoops c) ∧
      match evalIn g c ctx st with
      | none => True
      | some (v, st1) => if v.truthy then SafeWalk (SafeBody body) ctx st1 else SafeConds rest ctx st1
/-- `execCases` (with the remembered default) -/
def SafeCases : CaseList → Option (Scope → St → Prop) → Value → Scope → St → Prop
  | .nil, sd, _, ctx, st =>
    match sd with
    | some s => s ctx st
    | none => True
  | .cons _ values body rest, sd, sv, ctx, st =>
    HitExprs X st.heap ctx (listKeys values) (listLoops values) ∧
    match matchCase g ctx sv values st with
    | none => True
    | some (true, st1) => SafeWalk (SafeBody body) ctx st1
    | some (false, st1) => SafeCases rest (pickSafe values (SafeWalk (SafeBody body)) sd) sv ctx st1
/-- `execParams`: values evaluated / content rendered in the CALLER's scope -/
def SafeParams : ParamList → Scope → Scope → St → Prop
  | .nil, _, _, _ => True
  | .value _ key e rest, cd, ctx, st =>
    HitExprs X st.heap ctx (exprKeys e) (exprLoops e) ∧
    match evalIn g e ctx st with
    | none => True
    | some (v, st1) =>
      match set cd st1 key v with
      | none => True
      | some st2 => SafeParams rest cd ctx st2
  | .content _ key body rest, cd, ctx, st =>
    SafeRender (SafeBody body) ctx st ∧
    ((renderBlockOf (execBody g esc call body) ctx st).1.cls = .ok →
      match set cd (renderBlockOf (execBody g esc call body) ctx st).1.st key
          (.str (renderBlockOf (execBody g esc call body) ctx st).2) with
      | none => True
      | some st2 => SafeParams rest cd (renderBlockOf (execBody g esc call body) ctx st).1.ctx st2)
/-- `walkMsgBody` -/
def SafeParts : MsgParts → Scope → St → Prop
  | .nil, _, _ => True
  | .text p t rest, ctx, st => SafeParts rest ctx (write (atNode st p) t)
  | .ph _ _ body rest, ctx, st =>
    SafePh body ctx st ∧
    ((execPh g esc call body ctx st).cls = .ok →
      SafeParts rest (execPh g esc call body ctx st).ctx (execPh g esc call body ctx st).st)
  | .plural _ _ value cases _ dflt rest, ctx, st =>
    HitExprs X st.heap ctx (exprKeys value) (exprLoops value) ∧
    match evalIn g value ctx st with
    | some (.int i, st1) =>
      SafePl cases (SafeParts dflt) i.toInt ctx st1 ∧
      ((walkPluralCases g esc call cases (walkMsgBody g esc call dflt) i.toInt ctx st1).cls = .ok →
        SafeParts rest (walkPluralCases g esc call cases (walkMsgBody g esc call dflt) i.toInt ctx st1).ctx
          (walkPluralCases g esc call cases (walkMsgBody g esc call dflt) i.toInt ctx st1).st)
    | _ => True
/-- `walkPluralCases` -/
def SafePl : PluralCases → (Scope → St → Prop) → Int → Scope → St → Prop
  | .nil, sd, _, ctx, st => sd ctx st
  | .cons _ v _ body rest, sd, i, ctx, st =>
    if i == v then SafeParts body ctx st else SafePl rest sd i ctx st
/-- `execPh` -/
def SafePh : MsgPhBody → Scope → St → Prop
  | .htmlTag .., _, _ => True
  | .cmd c, ctx, st => SafeCmd c ctx (atNode st (cmdPos c))
/-- `phAll`: what is required of each placeholder run -/
def SafePhAll : MsgParts → Nat → List (Nat × Bytes × (Scope → St → Prop))
  | .nil, _ => []
  | .text _ _ rest, d => SafePhAll rest d
  | .ph _ name body rest, d => (d, name, SafePh body) :: SafePhAll rest d
  | .plural _ _ _ cases _ dflt rest, d => SafePhAllCases cases (d + 3) ++ SafePhAll dflt (d + 2) ++ SafePhAll rest d
def SafePhAllCases : PluralCases → Nat → List (Nat × Bytes × (Scope → St → Prop))
  | .nil, _ => []
  | .cons _ _ _ body rest, d => SafePhAll body d ++ SafePhAllCases rest d
end
end

/-- the names an invocation of `t` may miss: entered with data="all" / data="$e", its declared params (the
    checker does not look into data); otherwise its OPTIONAL params that the entry scope does not bind -/
def exemptOf (t : Registry.Tmpl) (viaData : Bool) (ctx : Scope) (st : St) (k : Bytes) : Bool :=
  if viaData then t.params.any (fun p => p.name == k)
  else t.params.any (fun p => p.optional && p.name == k) && misses st.heap ctx k

/-- `runTmpl`: the body of the template, callees at every depth the fuel allows -/
def SafeTmpl (g : GEnv) : Nat → Registry.Tmpl → Bool → Scope → St → Prop
  | 0, _, _, _, _ => True
  | fuel + 1, t, viaData, ctx, st =>
    SafeBody g (escapeOf t) (runTmpl g fuel) (SafeTmpl g fuel) (exemptOf t viaData ctx st) t.body ctx (atNode st t.pos)

/-- every variable of the lexical environment `env` and every non-exempt declared param is bound -/
structure Inv (X : Bytes → Bool) (params : List Bytes) (env : Env) (ctx : Scope) (st : St) : Prop where
  vars : ∀ b ∈ env, misses st.heap ctx b.name = false
  pars : ∀ p ∈ params, X p = false → misses st.heap ctx p = false
  /-- a loop variable comes with its helpers `<x>.index`, `<x>.lastIndex` (`forLoop` binds the three in one frame) -/
  helpers : ∀ b ∈ env, b.isLet = false →
    misses st.heap ctx (b.name ++ sIndexSuffix) = false ∧ misses st.heap ctx (b.name ++ sLastIndexSuffix) = false

section
variable {X : Bytes → Bool} {params : List Bytes}

theorem hitKeys_of_bound {env : Env} {ctx : Scope} {st : St} {ks : List Bytes}
    (hb : KeysBound params env ks) (hi : Inv X params env ctx st) : HitKeys X st.heap ctx ks := by
  intro k hk hij hx
  obtain ⟨t, ht⟩ := hb k hk
  cases ht with
  | ij h => exact absurd h hij
  | var i b _ hb' hn _ => rw [← hn]; exact hi.vars b (List.mem_of_getElem? hb')
  | param _ _ hp => exact hi.pars k hp hx

/-- an occurrence the checker accepted (R_loopfn) is applied to what the interpreter takes the key of -/
theorem loopKeyOf_of_loopArg {args : ExprList} {x : Bytes} (h : Check.loopArg args = some x) :
    loopKeyOf args = some x := by
  unfold Check.loopArg at h
  split at h
  · simpa [loopKeyOf] using h
  · cases h

theorem hitHelpers_of_ok {env : Env} {ctx : Scope} {st : St} : ∀ {ls : List LoopOcc},
    LoopsOk env ls → Inv X params env ctx st → HitHelpers st.heap ctx ls
  | [], _, _ => by intro k hk; simp [helperKeys] at hk
  | (name, args) :: r, hl, hi => by
    intro k hk
    simp only [helperKeys, List.mem_append] at hk
    rcases hk with hk | hk
    · obtain ⟨x, hx, b, hb, hn, hlet⟩ := hl (name, args) List.mem_cons_self
      rw [loopKeyOf_of_loopArg hx] at hk
      have hh := hi.helpers b hb hlet
      rw [hn] at hh
      simp only at hk
      split at hk
      · simp only [List.mem_cons, List.not_mem_nil, or_false] at hk
        rcases hk with rfl | rfl
        · exact hh.1
        · exact hh.2
      · simp only [List.mem_singleton] at hk
        rw [hk]; exact hh.1
    · exact hitHelpers_of_ok (ls := r) (fun o ho => hl o (List.mem_cons_of_mem _ ho)) hi k hk

theorem hit_of_bound {env : Env} {ctx : Scope} {st : St} {ks : List Bytes} {ls : List LoopOcc}
    (hb : ExprsOk params env ks ls) (hi : Inv X params env ctx st) : HitExprs X st.heap ctx ks ls :=
  ⟨hitKeys_of_bound hb.1 hi, hitHelpers_of_ok hb.2 hi⟩

theorem Inv.congr {env : Env} {ctx ctx' : Scope} {st st' : St} (hi : Inv X params env ctx st)
    (h : ∀ k, misses st'.heap ctx' k = misses st.heap ctx k) : Inv X params env ctx' st' :=
  ⟨fun b hb => by rw [h]; exact hi.vars b hb, fun p hp hx => by rw [h]; exact hi.pars p hp hx,
   fun b hb hl => by rw [h, h]; exact hi.helpers b hb hl⟩

theorem Inv.of_ext {env : Env} {ctx : Scope} {st st' : St} {W : Nat → Prop} (hi : Inv X params env ctx st)
    (e : Ext W st st') (hok : ScopeOk ctx st) (hW : ∀ f ∈ ctx, ¬ W f.ref) : Inv X params env ctx st' :=
  hi.congr (misses_ext_W e ctx hok hW)

theorem Inv.of_heap {env : Env} {ctx : Scope} {st st' : St} (hi : Inv X params env ctx st)
    (h : st'.heap = st.heap) : Inv X params env ctx st' := hi.congr (misses_heap_eq h ctx)

theorem Inv.weaken {env env' : Env} {ctx : Scope} {st : St} (hi : Inv X params env ctx st)
    (h : ∀ b ∈ env', b ∈ env) : Inv X params env' ctx st :=
  ⟨fun b hb => hi.vars b (h b hb), hi.pars, fun b hb hl => hi.helpers b (h b hb) hl⟩

theorem Inv.pushed {env : Env} {ctx : Scope} {st : St} (hi : Inv X params env ctx st) (hok : ScopeOk ctx st) :
    Inv X params env (push ctx st).1 (push ctx st).2 := hi.congr (misses_push ctx st hok)

/-- the environment grows by bindings `bs` that the stretch made: every name among `ks`, and a loop variable
    together with its two helpers (`forLoop` binds the three in one frame) -/
theorem Inv.binds {env bs : Env} {ctx : Scope} {st st' : St} {ks : List Bytes} (hi : Inv X params env ctx st)
    (h : Binds ks ctx st st')
    (hbs : ∀ b ∈ bs, b.name ∈ ks ∧ (b.isLet = false → b.name ++ sIndexSuffix ∈ ks ∧ b.name ++ sLastIndexSuffix ∈ ks)) :
    Inv X params (env ++ bs) ctx st' := by
  refine ⟨fun b hb => ?_, fun p hp hx => h.keep p (hi.pars p hp hx), fun b hb hl => ?_⟩ <;>
    rcases List.mem_append.mp hb with hb | hb
  · exact h.keep _ (hi.vars b hb)
  · exact h.new _ (hbs b hb).1
  · exact ⟨h.keep _ (hi.helpers b hb hl).1, h.keep _ (hi.helpers b hb hl).2⟩
  · exact ⟨h.new _ ((hbs b hb).2 hl).1, h.new _ ((hbs b hb).2 hl).2⟩

theorem Inv.set {env : Env} {ctx : Scope} {st st2 : St} {name : Bytes} {v : Value}
    (hi : Inv X params env ctx st) (hown : Own ctx st) (hs : Eval.set ctx st name v = some st2) :
    Inv X params (env ++ [{ name := name, isLet := true }]) ctx st2 := hi.binds (.set hown hs) (by simp)

end

section
variable (g : GEnv) (esc : Bool) (call : Registry.Tmpl → Run) (hcall : ∀ t, GoodRun (call t))
  (scall : Registry.Tmpl → Bool → Scope → St → Prop) (X : Bytes → Bool) (params : List Bytes)

omit hcall in
theorem walk_safe {sbody : Scope → St → Prop} {env : Env} {ctx : Scope} {st : St}
    (hb : ∀ ctx' st', Inv X params env ctx' st' → Own ctx' st' → ScopeOk ctx' st' → sbody ctx' st')
    (hi : Inv X params env ctx st) (hok : ScopeOk ctx st) : SafeWalk sbody ctx st :=
  hb _ _ (hi.pushed hok) (push_spec ctx st).2.1 (C02.ScopeOk.pushed hok)

omit hcall in
theorem render_safe {sbody : Scope → St → Prop} {env : Env} {ctx : Scope} {st : St}
    (hb : ∀ ctx' st', Inv X params env ctx' st' → Own ctx' st' → ScopeOk ctx' st' → sbody ctx' st')
    (hi : Inv X params env ctx st) (hok : ScopeOk ctx st) : SafeRender sbody ctx st :=
  walk_safe X params hb (hi.of_heap rfl) hok

omit hcall in
/-- the iterations of a {foreach}: the body is required safe on every scope satisfying the invariant for `env` with
    the loop variable (not a {let}: it comes with its helpers) -/
theorem loop_safe (body : Run) (hgb : GoodRun body) (sbody : Scope → St → Prop) (var : Bytes) (last : Int) (env : Env)
    (hb : ∀ ctx' st', Inv X params (env ++ [{ name := var, isLet := false }]) ctx' st' → Own ctx' st' → ScopeOk ctx' st' →
      sbody ctx' st') :
    ∀ (xs : List Value) (i : Nat) (ctx : Scope) (st : St), Inv X params env ctx st → Own ctx st → ScopeOk ctx st →
      SafeLoop body sbody var last xs i ctx st := by
  intro xs
  induction xs with
  | nil => intro i ctx st _ _ _; rw [SafeLoop]; trivial
  | cons x rest ih =>
    intro i ctx st hi hown hok
    rw [SafeLoop]
    obtain ⟨st2, st3, st4, h2, h3, h4, -⟩ := forLoop_cons body var last x rest i ctx st
    simp only [h2, h3, h4]
    obtain ⟨hctx1, hown1, -, -⟩ := push_spec ctx st
    have hok1 := C02.ScopeOk.pushed hok
    have e2 := set_ext hown1 h2
    have e23 := e2.trans (set_ext (hown1.ext e2) h3) (fun _ _ h => h)
    have e24 := e23.trans (set_ext (hown1.ext e23) h4) (fun _ _ h => h)
    -- the loop frame binds x.lastIndex, x, x.index: the one loop binding `x` with its helpers
    have hiB : Inv X params (env ++ [{ name := var, isLet := false }]) (push ctx st).1 st4 :=
      (hi.pushed hok).binds (((Binds.set hown1 h2).trans (.set (hown1.ext e2) h3)).trans (.set (hown1.ext e23) h4)) (by simp)
    refine ⟨hb _ _ hiB (hown1.ext e24) (C02.ScopeOk.ext hok1 e24), fun hcls => ?_⟩
    have hg := hgb _ st4 (hown1.ext e24)
    rw [hg.ctx_eq hcls, hctx1]
    simp only [pop]
    -- back on the caller's scope: what happened in the loop frame wrote none of its cells
    have eB := goodLaw.fresh (e24.trans hg.ext fun _ _ h => h)
    exact ih (i + 1) ctx _ (hi.of_ext eB hok fun _ _ h => h) (hown.ext eB) (hok.ext eB)

include hcall in
/-- after a command that ended ok: the scope is the same, the invariant holds for the environment extended by what the
    command declares (a {let}: its name; everything else leaves the existing frames alone, `C02.block_cmd_scoped`) -/
theorem inv_after (c : Cmd) (env : Env) (ctx : Scope) (st : St) (hi : Inv X params env ctx st) (hown : Own ctx st)
    (hok : ScopeOk ctx st) (hcls : (execCmd g esc call c ctx st).cls = .ok) :
    (execCmd g esc call c ctx st).ctx = ctx ∧ Inv X params (env ++ decl c) ctx (execCmd g esc call c ctx st).st ∧
      Own ctx (execCmd g esc call c ctx st).st ∧ ScopeOk ctx (execCmd g esc call c ctx st).st := by
  have hg := execCmd_good g esc call hcall c ctx st hown
  refine ⟨hg.ctx_eq hcls, ?_, hown.ext hg.ext, C02.ScopeOk.ext hok hg.ext⟩
  have nonlet : decl c = [] → (∀ p n e, c ≠ .letValue p n e) → (∀ p n b, c ≠ .letContent p n b) →
      Inv X params (env ++ decl c) ctx (execCmd g esc call c ctx st).st := by
    intro hd hnl hnc
    rw [hd, List.append_nil]
    exact hi.of_ext (C02.block_cmd_scoped g esc call hcall c hnl hnc ctx st hown).ext hok (fun _ _ h => h)
  cases c
  case letValue p name e =>
    rw [execCmd] at hcls ⊢
    cases he : evalIn g e ctx st with
    | none => rw [he] at hcls; cases hcls
    | some r =>
      obtain ⟨v, st1⟩ := r
      rw [he] at hcls
      simp only at hcls ⊢
      have e1 := evalIn_ext (fun _ => False) he
      cases hs : Eval.set ctx st1 name v with
      | none => rw [hs] at hcls; simp at hcls
      | some st2 =>
        simp only [decl]
        exact (hi.of_ext e1 hok (fun _ _ h => h)).set (hown.ext e1) hs
  case letContent p name b =>
    rw [execCmd] at hcls ⊢
    have hgr := (renderBlockOf_good' (execBody_good g esc call hcall b) ctx st).1
    cases hc : (renderBlockOf (execBody g esc call b) ctx st).1.cls with
    | ok =>
      simp only [hc] at hcls ⊢
      have hctx := hgr.ctx_eq hc
      cases hs : Eval.set (renderBlockOf (execBody g esc call b) ctx st).1.ctx (renderBlockOf (execBody g esc call b) ctx st).1.st
          name (.str (renderBlockOf (execBody g esc call b) ctx st).2) with
      | none => rw [hs] at hcls; cases hcls
      | some st2 =>
        simp only [hs, decl]
        rw [hctx] at hs
        exact (hi.of_ext hgr.ext hok (fun _ _ h => h)).set (hown.ext hgr.ext) hs
    | err => simp [hc] at hcls
    | panic => simp [hc] at hcls
    | fuelOut => simp [hc] at hcls
  all_goals exact nonlet rfl (by intros; simp) (by intros; simp)

end

theorem callee_toCheck : ∀ (reg : Registry.Reg) (name : Bytes) (t : Registry.Tmpl), Registry.lookup reg name = some t →
    Spec.callee (Registry.toCheck reg) name = some { name := t.name, params := t.params, body := t.body }
  | [], _, _, h => by simp [Registry.lookup] at h
  | t0 :: r, name, t, h => by
    simp only [Registry.lookup, List.find?] at h
    simp only [Spec.callee, Registry.toCheck, List.map_cons, List.find?]
    by_cases hn : t0.name = name
    · have hb : (t0.name == name) = true := by simpa using hn
      simp only [hb] at h
      simp only [Option.some.injEq] at h
      subst h
      simp [hn]
    · have hb : (t0.name == name) = false := by simpa using hn
      simp only [hb] at h
      simp only [hn, decide_false]
      exact callee_toCheck r name t h

theorem mem_toCheck {reg : Registry.Reg} {t : Registry.Tmpl} (h : t ∈ reg) :
    ({ name := t.name, params := t.params, body := t.body } : Check.Template) ∈ Registry.toCheck reg :=
  List.mem_map.mpr ⟨t, h, rfl⟩

theorem scopeOk_newScope (m : Frame) (ro : Bool) (st : St) : ScopeOk (newScope m ro st).1 (newScope m ro st).2 := by
  intro f hf
  simp only [newScope, List.mem_singleton] at hf
  subst hf
  simp [newScope]

theorem callData_scopeOk {g : GEnv} {allData : Bool} {data : Option Expr} {ctx cd : Scope} {st st1 : St}
    (h : callData g allData data ctx st = some (cd, st1)) (hok : ScopeOk ctx st) : ScopeOk cd st1 := by
  unfold callData at h
  split at h
  · split at h
    · simp at h
    · rename_i sc hsc
      simp only [Option.some.injEq, Prod.mk.injEq] at h
      obtain ⟨rfl, rfl⟩ := h
      obtain ⟨pre, f, r, e1, e2, _, _⟩ := C02.alldata_spec ctx sc hsc
      refine C02.ScopeOk.pushed (fun x hx => hok x ?_)
      rw [e1]; rw [e2] at hx; exact List.mem_append_right _ hx
  · split at h
    · split at h
      · simp only [Option.some.injEq, Prod.mk.injEq] at h
        obtain ⟨rfl, rfl⟩ := h
        exact C02.ScopeOk.pushed (scopeOk_newScope _ _ _)
      · simp at h
    · simp only [Option.some.injEq, Prod.mk.injEq] at h
      obtain ⟨rfl, rfl⟩ := h
      exact scopeOk_newScope _ _ _

section
variable (g : GEnv) (esc : Bool) (call : Registry.Tmpl → Run) (hcall : ∀ t, GoodRun (call t))
include hcall

/-- the params a call passed without error are bound in the callee's data scope `cd` -/
theorem params_bound : (ps : ParamList) → ∀ (cd ctx : Scope) (st : St), Own cd st → ScopeOk cd st →
    (execParams g esc call ps cd ctx st).cls = .ok → Binds (callKeys ps) cd st (execParams g esc call ps cd ctx st).st
  | .nil, cd, ctx, st, _, _, _ => by rw [execParams]; exact .of_eq fun _ => rfl
  | .value _ key e rest, cd, ctx, st, owncd, hokcd, hcls => by
    obtain ⟨v, st1, st2, he, hs, heq⟩ := execParams_value_ok hcls
    rw [heq] at hcls ⊢
    have e1 := evalIn_ext (fun _ => False) he
    have e2 := set_ext (owncd.ext e1) hs
    exact ((Binds.of_eq (misses_ext_W e1 cd hokcd fun _ _ h => h)).trans (.set (owncd.ext e1) hs)).trans
      (params_bound rest cd ctx st2 ((owncd.ext e1).ext e2) ((hokcd.ext e1).ext e2) hcls)
  | .content _ key body rest, cd, ctx, st, owncd, hokcd, hcls => by
    obtain ⟨_, st2, hs, heq⟩ := execParams_content_ok hcls
    rw [heq] at hcls ⊢
    have e1 := (renderBlockOf_good' (execBody_good g esc call hcall body) ctx st).1.ext
    have e2 := set_ext (owncd.ext e1) hs
    exact ((Binds.of_eq (misses_ext_W e1 cd hokcd fun _ _ h => h)).trans (.set (owncd.ext e1) hs)).trans
      (params_bound rest cd _ st2 ((owncd.ext e1).ext e2) ((hokcd.ext e1).ext e2) hcls)

end

section
variable (g : GEnv) (X : Bytes → Bool) (params : List Bytes)

/-- the placeholder runs of a message with what is required of them: in every state satisfying the invariant
    the requirement holds, and the run keeps the invariant (a placeholder declares nothing) -/
inductive PhSafe (env : Env) : List (Nat × Bytes × Run) → List (Nat × Bytes × (Scope → St → Prop)) → Prop where
  | nil : PhSafe env [] []
  | cons {d : Nat} {n : Bytes} {run : Run} {s : Scope → St → Prop} {l l'} :
      GoodRun run →
      (∀ ctx st, Inv X params env ctx st → Own ctx st → ScopeOk ctx st →
        s ctx st ∧ ((run ctx st).cls = .ok → Inv X params env ctx (run ctx st).st)) →
      PhSafe env l l' → PhSafe env ((d, n, run) :: l) ((d, n, s) :: l')

theorem PhSafe.append {env : Env} {l1 l2 : List (Nat × Bytes × Run)} {m1 m2} (h1 : PhSafe X params env l1 m1)
    (h2 : PhSafe X params env l2 m2) : PhSafe X params env (l1 ++ l2) (m1 ++ m2) := by
  induction h1 with
  | nil => exact h2
  | cons hg ha _ ih => exact .cons hg ha ih

theorem PhSafe.good {env : Env} {l : List (Nat × Bytes × Run)} {m} (h : PhSafe X params env l m) : ∀ e ∈ l, GoodRun e.2.2 := by
  induction h with
  | nil => intro e he; cases he
  | cons hg _ _ ih =>
    intro e he
    rcases List.mem_cons.mp he with rfl | he
    · exact hg
    · exact ih e he

/-- in the item-by-item form of Lemmas/PickPh: `pickPh` on the runs and `pickPhS` on the requirements find related items -/
theorem PhSafe.zip {env : Env} {l : List (Nat × Bytes × Run)} {m} (h : PhSafe X params env l m) :
    PhZip (fun run s => GoodRun run ∧ ∀ ctx st, Inv X params env ctx st → Own ctx st → ScopeOk ctx st →
      s ctx st ∧ ((run ctx st).cls = .ok → Inv X params env ctx (run ctx st).st)) l m := by
  induction h with
  | nil => exact .nil
  | cons hg ha _ ih => exact .cons ⟨hg, ha⟩ ih

theorem findPlural_ok (reg : List Check.Template) (env : Env) : ∀ (body : MsgParts), OkParts reg params env body →
    ∀ n ve, findPlural body n = some ve → ExprsOk params env (exprKeys ve) (exprLoops ve)
  | .nil, _, _, _, h => by cases h
  | .text _ _ r, hk, n, ve, h => findPlural_ok reg env r hk n ve h
  | .ph _ _ (.htmlTag _ _) r, hk, n, ve, h => findPlural_ok reg env r (And.right hk) n ve h
  | .ph _ _ (.cmd _) r, hk, n, ve, h => findPlural_ok reg env r (And.right hk) n ve h
  | .plural _ vn v _ _ _ r, hk, n, ve, h => by
    obtain ⟨⟨hv, _⟩, hr⟩ := hk
    rw [findPlural] at h
    split at h
    · simp only [Option.some.injEq] at h; rw [← h]; exact hv
    · exact findPlural_ok reg env r hr n ve h

section
variable (reg : List Check.Template) (env : Env) (body : MsgParts) (hbody : OkParts reg params env body)
  (phs : List (Nat × Bytes × Run)) (sphs : List (Nat × Bytes × (Scope → St → Prop)))
  (hrel : PhSafe X params env phs sphs)
include hbody hrel

mutual
theorem mparts_safe : (ps : MParts) → ∀ (ctx : Scope) (st : St), Inv X params env ctx st → Own ctx st → ScopeOk ctx st →
    SafeMParts g X phs sphs body ps ctx st ∧
      ((evalMParts g phs body ps ctx st).cls = .ok → Inv X params env ctx (evalMParts g phs body ps ctx st).st)
  | .nil, ctx, st, hi, _, _ => ⟨True.intro, fun _ => hi⟩
  | .cons (.raw t) rest, ctx, st, hi, hown, hok =>
    mparts_safe rest ctx (write st t) (hi.of_heap rfl) (hown.ext (write_ext (fun _ => False) _ t)) hok
  | .cons (.ph name) rest, ctx, st, hi, hown, hok => by
    rw [evalMParts]
    rw [SafeMParts]
    -- the interpreter's `pickPh` and the requirement list find the same placeholder
    have hp := (PhSafe.zip X params hrel).pick name .none
    rw [← pickPh_eq_pickPhS] at hp
    cases hm : pickPh name phs none with
    | none => exact ⟨trivial, fun h => by simp at h⟩
    | some run =>
      rw [hm] at hp
      obtain ⟨s, hs, hgr, hsafe⟩ := hp.of_some_left
      obtain ⟨h1, h2⟩ := hsafe ctx st hi hown hok
      have hg := hgr ctx st hown
      simp only
      by_cases hcls : (run ctx st).cls = .ok
      · have ih := mparts_safe rest ctx (run ctx st).st (h2 hcls) (hown.ext hg.ext) (C02.ScopeOk.ext hok hg.ext)
        rw [hcls, hg.ctx_eq hcls]
        exact ⟨⟨⟨s, hs, h1⟩, fun _ => ih.1⟩, ih.2⟩
      · exact ⟨⟨⟨s, hs, h1⟩, fun h' => absurd h' hcls⟩, fun h' => by split at h' <;> contradiction⟩
  | .cons (.plural vn cases) rest, ctx, st, hi, hown, hok => by
    rw [evalMParts]
    rw [SafeMParts]
    cases hfp : findPlural body vn with
    | none => exact ⟨trivial, fun h => by simp at h⟩
    | some ve =>
      simp only
      have hhit := hit_of_bound (findPlural_ok params reg env body hbody vn ve hfp) hi
      cases he : evalIn g ve ctx st with
      | none => exact ⟨⟨hhit, by simp⟩, fun h' => by simp at h'⟩
      | some r =>
        obtain ⟨v, st1⟩ := r
        have e1 := evalIn_ext (fun _ => False) he
        have hi1 := hi.of_ext e1 hok (fun _ _ h => h)
        have hown1 := hown.ext e1
        have hok1 := C02.ScopeOk.ext hok e1
        cases v with
        | int i =>
          simp only
          cases hgm : g.msgs with
          | none => exact ⟨⟨hhit, by simp⟩, fun h' => by simp at h'⟩
          | some b =>
            simp only
            by_cases hneg : b.pluralCase i.toInt < 0
            · simp only [hneg, if_true]; exact ⟨⟨hhit, trivial⟩, fun h' => by simp at h'⟩
            · simp only [hneg, if_false]
              have hc := mcases_safe cases (b.pluralCase i.toInt).toNat ctx st1 hi1 hown1 hok1
              have hg := evalMCases_good g phs body (PhSafe.good X params hrel) cases (b.pluralCase i.toInt).toNat ctx st1 hown1
              by_cases hcls : (evalMCases g phs body cases (b.pluralCase i.toInt).toNat ctx st1).cls = .ok
              · have ih := mparts_safe rest ctx _ (hc.2 hcls) (hown1.ext hg.ext) (C02.ScopeOk.ext hok1 hg.ext)
                rw [hcls, hg.ctx_eq hcls]
                exact ⟨⟨hhit, hc.1, fun _ => ih.1⟩, ih.2⟩
              · exact ⟨⟨hhit, hc.1, fun h' => absurd h' hcls⟩, fun h' => by split at h' <;> contradiction⟩
        | _ => exact ⟨⟨hhit, by simp⟩, fun h' => by simp at h'⟩
theorem mcases_safe : (cs : MCases) → ∀ (n : Nat) (ctx : Scope) (st : St), Inv X params env ctx st → Own ctx st → ScopeOk ctx st →
    SafeMCases g X phs sphs body cs n ctx st ∧
      ((evalMCases g phs body cs n ctx st).cls = .ok → Inv X params env ctx (evalMCases g phs body cs n ctx st).st)
  | .nil, n, ctx, st, _, _, _ => ⟨True.intro, fun h => by cases h⟩
  | .cons parts _, 0, ctx, st, hi, hown, hok => mparts_safe parts ctx st hi hown hok
  | .cons _ rest, n + 1, ctx, st, hi, hown, hok => mcases_safe rest n ctx st hi hown hok
end
end
end

section
variable (g : GEnv) (esc : Bool) (call : Registry.Tmpl → Run) (hcall : ∀ t, GoodRun (call t))
  (scall : Registry.Tmpl → Bool → Scope → St → Prop) (X : Bytes → Bool) (params : List Bytes)
  -- the contract at a callee's entry: a template of the registry, entered on a scope that binds every param outside its
  -- exemption set, satisfies `scall` (`render_never_misses` supplies the induction hypothesis one fuel level down)
  (hsc : ∀ (callee : Registry.Tmpl) (viaData : Bool) (cctx : Scope) (st2 : St), callee ∈ g.reg →
    Own cctx st2 → ScopeOk cctx st2 →
    (∀ p ∈ callee.params, exemptOf callee viaData cctx st2 p.name = false → misses st2.heap cctx p.name = false) →
    scall callee viaData cctx st2)
include hcall hsc

omit hsc in
theorem forc_safe (var : Bytes) (list : Expr) (body : Block) (ifE : Option Block) (env : Env) (ctx : Scope) (st : St)
    {p : Nat} (hl : ExprsOk params env (exprKeys list) (exprLoops list)) (hi : Inv X params env ctx st) (hown : Own ctx st)
    (hok : ScopeOk ctx st)
    (hb : ∀ ctx' st', Inv X params (env ++ [{ name := var, isLet := false }]) ctx' st' → Own ctx' st' → ScopeOk ctx' st' →
      SafeBody g esc call scall X body ctx' st')
    (he : ∀ b, ifE = some b → ∀ ctx' st', Inv X params env ctx' st' → Own ctx' st' → ScopeOk ctx' st' →
      SafeBody g esc call scall X b ctx' st') :
    SafeCmd g esc call scall X (.forc p var list body ifE) ctx st := by
  rw [SafeCmd]
  refine ⟨hit_of_bound hl hi, ?_⟩
  cases hev : evalIn g list ctx st with
  | none => trivial
  | some r =>
    obtain ⟨v, st1⟩ := r
    obtain ⟨n, rfl⟩ := evalIn_next hev
    cases v with
    | list id xs =>
      simp only
      split
      · cases ifE with
        | none => trivial
        | some b => exact walk_safe X params (he b rfl) (hi.of_heap rfl) hok
      · exact loop_safe X params (execBody g esc call body) (execBody_good g esc call hcall body) _ var _ env hb xs 0 ctx _
          (hi.of_heap rfl) hown hok
    | _ => trivial

mutual
theorem cmd_safe : (c : Cmd) → ∀ (env : Env) (ctx : Scope) (st : St), OkCmd (Registry.toCheck g.reg) params env c →
    Inv X params env ctx st → Own ctx st → ScopeOk ctx st → SafeCmd g esc call scall X c ctx st
  | .rawText _ _, _, _, _, _, _, _, _ => True.intro
  | .debugger _, _, _, _, _, _, _, _ => True.intro
  | .headerParam .., _, _, _, _, _, _, _ => True.intro
  | .namespace .., _, _, _, _, _, _, _ => True.intro
  | .template .., _, _, _, _, _, _, _ => True.intro
  | .soyDoc .., _, _, _, _, _, _, _ => True.intro
  | .print _ arg dirs, env, ctx, st, h, hi, _, _ => hit_of_bound h hi
  | .css _ e _, env, ctx, st, h, hi, _, _ => hit_of_bound h hi
  | .letValue _ _ e, env, ctx, st, h, hi, _, _ => hit_of_bound (And.right h) hi
  | .msg _ id _ _ _ body, env, ctx, st, h, hi, _, hok => by
    -- the body is a block of its own: the invariant on the pushed scope
    have hi' := hi.pushed hok
    have ho' := (push_spec ctx st).2.1
    have hk' := C02.ScopeOk.pushed hok
    rw [SafeCmd, SafeWalk]
    cases hgm : g.msgs with
    | none => exact (parts_safe body env _ _ h hi' ho' hk').1
    | some b =>
      simp only
      cases hbm : b.message id with
      | none => exact (parts_safe body env _ _ h hi' ho' hk').1
      | some parts =>
        exact (mparts_safe g X params (Registry.toCheck g.reg) env body h _ _ (safePhAll_rel body env h 0)
          parts _ _ hi' ho' hk').1
  | .log _ b, env, ctx, st, h, hi, _, hok =>
    render_safe X params (fun ctx' st' hi' ho' hk' => body_safe b env ctx' st' h hi' ho' hk') hi hok
  | .letContent _ _ b, env, ctx, st, h, hi, _, hok =>
    render_safe X params (fun ctx' st' hi' ho' hk' => body_safe b env ctx' st' (And.right h) hi' ho' hk') hi hok
  | .ifc _ conds, env, ctx, st, h, hi, hown, hok => conds_safe conds env ctx st h hi hown hok
  | .forc _ var list body none, env, ctx, st, h, hi, hown, hok =>
    forc_safe g esc call hcall scall X params var list body none env ctx st h.1 hi hown hok
      (fun ctx' st' hi' ho' hk' => body_safe body _ ctx' st' h.2.1 hi' ho' hk') nofun
  | .forc _ var list body (some bE), env, ctx, st, h, hi, hown, hok =>
    forc_safe g esc call hcall scall X params var list body (some bE) env ctx st h.1 hi hown hok
      (fun ctx' st' hi' ho' hk' => body_safe body _ ctx' st' h.2.1 hi' ho' hk')
      (fun b hb ctx' st' hi' ho' hk' => body_safe bE env ctx' st' h.2.2 hi' ho' hk' |> (Option.some.inj hb ▸ ·))
  | .switch _ value cases, env, ctx, st, h, hi, hown, hok => by
    rw [SafeCmd]
    refine ⟨hit_of_bound h.1 hi, ?_⟩
    cases he : evalIn g value ctx st with
    | none => trivial
    | some r =>
      obtain ⟨sv, st1⟩ := r
      obtain ⟨n, rfl⟩ := evalIn_next he
      exact cases_safe cases env none sv ctx _ h.2 nofun (hi.of_heap rfl) hown hok
  | .call _ name allData data ps, env, ctx, st, h, hi, hown, hok => by
    obtain ⟨hco, hd, hps⟩ := h
    rw [SafeCmd]
    cases hl : Registry.lookup g.reg name with
    | none => simp
    | some callee =>
      simp only
      refine ⟨hit_of_bound hd hi, ?_⟩
      cases hcd : callData g allData data ctx st with
      | none => simp
      | some pr =>
        obtain ⟨cd, st1⟩ := pr
        simp only
        obtain ⟨e0, owncd, htop⟩ := callData_spec hcd
        have hokcd := callData_scopeOk hcd hok
        have hne : ∀ f ∈ ctx, f.ref ≠ top cd := fun f hf e => by have := hok f hf; omega
        refine ⟨params_safe ps env cd ctx st1 hps (hi.of_ext e0 hok (fun _ _ h => h)) (hown.ext e0)
          (C02.ScopeOk.ext hok e0) owncd hne, fun hcls => ?_⟩
        have hpg := execParams_good g esc call hcall ps cd ctx st1 owncd
        have hpb := params_bound g esc call hcall ps cd ctx st1 owncd hokcd hcls
        have hpext := hpg.ext
        generalize hP : (execParams g esc call ps cd ctx st1).st = P at *
        have ownP : Own cd P := owncd.ext hpext
        have hokP : ScopeOk cd P := C02.ScopeOk.ext hokcd hpext
        obtain ⟨f, r, c, hcdeq, _, _⟩ := ownP
        subst hcdeq
        have hokE : ScopeOk ({ f with entered := true } :: r) P := hokP.entered
        have hent : enter (f :: r) P = some (push ({ f with entered := true } :: r) P) := rfl
        rw [hent]
        simp only
        refine hsc callee (allData || data.isSome) _ _ (List.mem_of_find?_eq_some hl) (push_spec _ _).2.1
          (C02.ScopeOk.pushed hokE) ?_
        intro p hp hex
        rw [misses_push _ _ hokE]
        have hflag : ∀ k, misses P.heap ({ f with entered := true } :: r) k = misses P.heap (f :: r) k := fun _ => rfl
        rw [hflag]
        by_cases hvd : (allData || data.isSome) = true
        · -- entered through data: every declared param is exempt
          exfalso
          simp only [exemptOf, hvd, if_true, List.any_eq_false, beq_iff_eq] at hex
          exact hex p hp rfl
        · have hvd' : (allData || data.isSome) = false := by simpa using hvd
          have hall : allData = false := by
            cases hA : allData with
            | false => rfl
            | true => rw [hA] at hvd'; simp at hvd'
          have hdat : data.isSome = false := by rw [hall] at hvd'; simpa using hvd'
          simp only [exemptOf, hvd', Bool.false_eq_true, if_false] at hex
          cases hopt : p.optional with
          | true =>
            -- an optional param: exempt exactly when the entry scope does not bind it
            have hany : (callee.params.any fun q => q.optional && q.name == p.name) = true :=
              List.any_eq_true.mpr ⟨p, hp, by simp [hopt]⟩
            rw [hany, Bool.true_and, misses_push _ _ hokE, hflag] at hex
            exact hex
          | false =>
            -- a required param: rule R5, the call passes it
            obtain ⟨c', hc', _, hreq⟩ := hco
            rw [callee_toCheck g.reg name callee hl] at hc'
            simp only [Option.some.injEq] at hc'
            subst hc'
            have hmem := hreq hdat p hp hopt
            have hpa : passedByAll (Registry.toCheck g.reg) params name allData = [] := by
              rw [hall]; simp [passedByAll]
            rw [hpa, List.nil_append] at hmem
            exact hpb.new p.name hmem
theorem body_safe : (b : Block) → ∀ (env : Env) (ctx : Scope) (st : St), OkBlock (Registry.toCheck g.reg) params env b →
    Inv X params env ctx st → Own ctx st → ScopeOk ctx st → SafeBody g esc call scall X b ctx st
  | .mk p cmds, env, ctx, st, h, hi, hown, hok => cmds_safe cmds env ctx _ h (hi.of_heap rfl) (hown.of_heap rfl) hok
theorem cmds_safe : (cs : CmdList) → ∀ (env : Env) (ctx : Scope) (st : St), OkCmds (Registry.toCheck g.reg) params env cs →
    Inv X params env ctx st → Own ctx st → ScopeOk ctx st → SafeCmds g esc call scall X cs ctx st
  | .nil, _, _, _, _, _, _, _ => True.intro
  | .cons c rest, env, ctx, st, h, hi, hown, hok => by
    obtain ⟨hc, _, hr⟩ := h
    rw [SafeCmds]
    have hi0 : Inv X params env ctx (atNode st (cmdPos c)) := hi.of_heap rfl
    have hown0 : Own ctx (atNode st (cmdPos c)) := hown.of_heap rfl
    have hok0 : ScopeOk ctx (atNode st (cmdPos c)) := hok
    refine ⟨cmd_safe c env ctx _ hc hi0 hown0 hok0, fun hcls => ?_⟩
    obtain ⟨hctx, hi1, hown1, hok1⟩ := inv_after g esc call hcall X params c env ctx _ hi0 hown0 hok0 hcls
    rw [hctx]
    exact cmds_safe rest (env ++ decl c) ctx _ hr hi1 hown1 hok1
theorem conds_safe : (cs : CondList) → ∀ (env : Env) (ctx : Scope) (st : St), OkConds (Registry.toCheck g.reg) params env cs →
    Inv X params env ctx st → Own ctx st → ScopeOk ctx st → SafeConds g esc call scall X cs ctx st
  | .nil, _, _, _, _, _, _, _ => True.intro
  | .cons _ none body rest, env, ctx, st, h, hi, _, hok =>
    walk_safe X params (fun ctx' st' hi' ho' hk' => body_safe body env ctx' st' (And.left h).2 hi' ho' hk') hi hok
  | .cons _ (some c) body rest, env, ctx, st, h, hi, hown, hok => by
    rw [SafeConds]
    refine ⟨hit_of_bound h.1.1 hi, ?_⟩
    cases he : evalIn g c ctx st with
    | none => trivial
    | some r =>
      obtain ⟨v, st1⟩ := r
      obtain ⟨n, rfl⟩ := evalIn_next he
      simp only
      split
      · exact walk_safe X params (fun ctx' st' hi' ho' hk' => body_safe body env ctx' st' h.1.2 hi' ho' hk') (hi.of_heap rfl) hok
      · exact conds_safe rest env ctx _ h.2 (hi.of_heap rfl) hown hok
theorem cases_safe : (cs : CaseList) → ∀ (env : Env) (sd : Option (Scope → St → Prop)) (sv : Value) (ctx : Scope) (st : St),
    OkCases (Registry.toCheck g.reg) params env cs →
    (∀ s, sd = some s → ∀ st', Inv X params env ctx st' → Own ctx st' → ScopeOk ctx st' → s ctx st') →
    Inv X params env ctx st → Own ctx st → ScopeOk ctx st → SafeCases g esc call scall X cs sd sv ctx st
  | .nil, env, sd, sv, ctx, st, _, hsd, hi, hown, hok => by
    cases sd with
    | none => trivial
    | some s => exact hsd s rfl st hi hown hok
  | .cons _ vs b rest, env, sd, sv, ctx, st, h, hsd, hi, hown, hok => by
    obtain ⟨⟨hb, hv⟩, hr⟩ := h
    rw [SafeCases]
    refine ⟨hit_of_bound hv hi, ?_⟩
    have hwalk : ∀ st', Inv X params env ctx st' → Own ctx st' → ScopeOk ctx st' →
        SafeWalk (SafeBody g esc call scall X b) ctx st' :=
      fun st' hi' _ hk' => walk_safe X params (fun ctx' st'' hi'' ho'' hk'' => body_safe b env ctx' st'' hb hi'' ho'' hk'') hi' hk'
    cases hm : matchCase g ctx sv vs st with
    | none => trivial
    | some r =>
      obtain ⟨hit, st1⟩ := r
      obtain ⟨n, rfl⟩ := matchCase_next _ hm
      cases hit with
      | true => exact hwalk _ (hi.of_heap rfl) hown hok
      | false =>
        refine cases_safe rest env _ sv ctx _ hr ?_ (hi.of_heap rfl) hown hok
        intro s hs
        unfold pickSafe at hs
        split at hs
        · simp only [Option.some.injEq] at hs; subst hs; exact hwalk
        · exact hsd s hs
theorem params_safe : (ps : ParamList) → ∀ (env : Env) (cd ctx : Scope) (st : St),
    OkParams (Registry.toCheck g.reg) params env ps → Inv X params env ctx st → Own ctx st → ScopeOk ctx st →
    Own cd st → (∀ f ∈ ctx, f.ref ≠ top cd) → SafeParams g esc call scall X ps cd ctx st
  | .nil, _, _, _, _, _, _, _, _, _, _ => True.intro
  | .value _ key e rest, env, cd, ctx, st, h, hi, hown, hok, owncd, hne => by
    obtain ⟨hx, hr⟩ := h
    rw [SafeParams]
    refine ⟨hit_of_bound hx hi, ?_⟩
    cases he : evalIn g e ctx st with
    | none => simp
    | some r =>
      obtain ⟨v, st1⟩ := r
      have e1 := evalIn_ext (fun _ => False) he
      simp only
      cases hs : Eval.set cd st1 key v with
      | none => simp
      | some st2 =>
        simp only
        have e2 := set_ext (owncd.ext e1) hs
        exact params_safe rest env cd ctx st2 hr
          ((hi.of_ext e1 hok (fun _ _ h => h)).of_ext e2 (C02.ScopeOk.ext hok e1) hne)
          ((hown.ext e1).ext e2) (C02.ScopeOk.ext (C02.ScopeOk.ext hok e1) e2) ((owncd.ext e1).ext e2) hne
  | .content _ key body rest, env, cd, ctx, st, h, hi, hown, hok, owncd, hne => by
    obtain ⟨hb, hr⟩ := h
    rw [SafeParams]
    refine ⟨render_safe X params (fun ctx' st' hi' ho' hk' => body_safe body env ctx' st' hb hi' ho' hk') hi hok,
      fun hcls => ?_⟩
    have hgr := (renderBlockOf_good' (execBody_good g esc call hcall body) ctx st).1
    have hctx := hgr.ctx_eq hcls
    generalize hR : (renderBlockOf (execBody g esc call body) ctx st) = R at *
    cases hs : Eval.set cd R.1.st key (.str R.2) with
    | none => simp
    | some st2 =>
      simp only
      have e2 := set_ext (owncd.ext hgr.ext) hs
      rw [hctx]
      exact params_safe rest env cd ctx st2 hr
        ((hi.of_ext hgr.ext hok (fun _ _ h => h)).of_ext e2 (C02.ScopeOk.ext hok hgr.ext) hne)
        ((hown.ext hgr.ext).ext e2) (C02.ScopeOk.ext (C02.ScopeOk.ext hok hgr.ext) e2) ((owncd.ext hgr.ext).ext e2) hne
/-- `walkMsgBody`.  The walks of a message (`parts_safe`, `pl_safe`, `mparts_safe`, `mcases_safe`) also conclude the
    invariant after an ok run: they are not commands, so `inv_after` (which is about `execCmd`) does not speak of
    them, and the part after a placeholder needs it. -/
theorem parts_safe : (ps : MsgParts) → ∀ (env : Env) (ctx : Scope) (st : St), OkParts (Registry.toCheck g.reg) params env ps →
    Inv X params env ctx st → Own ctx st → ScopeOk ctx st →
    SafeParts g esc call scall X ps ctx st ∧
      ((walkMsgBody g esc call ps ctx st).cls = .ok → Inv X params env ctx (walkMsgBody g esc call ps ctx st).st)
  | .nil, _, _, _, _, hi, _, _ => ⟨True.intro, fun _ => hi⟩
  | .text p t rest, env, ctx, st, h, hi, hown, hok =>
    parts_safe rest env ctx _ h (hi.of_heap rfl) (hown.of_heap rfl) hok
  | .ph _ _ (.htmlTag p t) rest, env, ctx, st, h, hi, hown, hok => by
    have ih := parts_safe rest env ctx (write (atNode st p) t) (And.right h) (hi.of_heap rfl) (hown.of_heap rfl) hok
    rw [SafeParts, SafePh]
    exact ⟨⟨trivial, fun _ => ih.1⟩, ih.2⟩
  | .ph _ _ (.cmd c) rest, env, ctx, st, h, hi, hown, hok => by
    obtain ⟨⟨hc, hd⟩, hr⟩ := h
    rw [walkMsgBody]
    rw [SafeParts]
    have hi0 : Inv X params env ctx (atNode st (cmdPos c)) := hi.of_heap rfl
    have hown0 : Own ctx (atNode st (cmdPos c)) := hown.of_heap rfl
    have hok0 : ScopeOk ctx (atNode st (cmdPos c)) := hok
    simp only [execPh]
    have hcs := cmd_safe c env ctx _ hc hi0 hown0 hok0
    by_cases hcls : (execCmd g esc call c ctx (atNode st (cmdPos c))).cls = .ok
    · obtain ⟨hctx, hi1, hown1, hok1⟩ := inv_after g esc call hcall X params c env ctx _ hi0 hown0 hok0 hcls
      rw [hd, List.append_nil] at hi1
      have ih := parts_safe rest env ctx _ hr hi1 hown1 hok1
      rw [hcls, hctx]
      exact ⟨⟨hcs, fun _ => ih.1⟩, ih.2⟩
    · exact ⟨⟨hcs, fun h' => absurd h' hcls⟩, fun h' => by split at h' <;> contradiction⟩
  | .plural _ _ value cases _ dflt rest, env, ctx, st, h, hi, hown, hok => by
    obtain ⟨⟨hv, hcs, hd⟩, hr⟩ := h
    rw [walkMsgBody]
    rw [SafeParts]
    cases he : evalIn g value ctx st with
    | none => exact ⟨⟨hit_of_bound hv hi, by simp⟩, fun h' => by simp at h'⟩
    | some r =>
      obtain ⟨v, st1⟩ := r
      have e1 := evalIn_ext (fun _ => False) he
      have hi1 := hi.of_ext e1 hok (fun _ _ h => h)
      have hown1 := hown.ext e1
      have hok1 := C02.ScopeOk.ext hok e1
      cases v with
      | int i =>
        simp only
        have hp := pl_safe cases env (SafeParts g esc call scall X dflt) (walkMsgBody g esc call dflt) i.toInt ctx st1 hcs
          (fun ctx' st' hi' ho' hk' => parts_safe dflt env ctx' st' hd hi' ho' hk') hi1 hown1 hok1
        have hg := walkPluralCases_good g esc call hcall cases (walkMsgBody g esc call dflt)
          (walkMsgBody_good g esc call hcall dflt) i.toInt ctx st1 hown1
        by_cases hcls : (walkPluralCases g esc call cases (walkMsgBody g esc call dflt) i.toInt ctx st1).cls = .ok
        · have ih := parts_safe rest env ctx _ hr (hp.2 hcls) (hown1.ext hg.ext) (C02.ScopeOk.ext hok1 hg.ext)
          rw [hcls, hg.ctx_eq hcls]
          exact ⟨⟨hit_of_bound hv hi, hp.1, fun _ => ih.1⟩, ih.2⟩
        · exact ⟨⟨hit_of_bound hv hi, hp.1, fun h' => absurd h' hcls⟩, fun h' => by split at h' <;> contradiction⟩
      | _ => exact ⟨⟨hit_of_bound hv hi, by simp⟩, fun h' => by simp at h'⟩
theorem pl_safe : (cs : PluralCases) → ∀ (env : Env) (sd : Scope → St → Prop) (dflt : Run) (i : Int) (ctx : Scope) (st : St),
    OkPlCases (Registry.toCheck g.reg) params env cs →
    (∀ ctx' st', Inv X params env ctx' st' → Own ctx' st' → ScopeOk ctx' st' →
      sd ctx' st' ∧ ((dflt ctx' st').cls = .ok → Inv X params env ctx' (dflt ctx' st').st)) →
    Inv X params env ctx st → Own ctx st → ScopeOk ctx st →
    SafePl g esc call scall X cs sd i ctx st ∧
      ((walkPluralCases g esc call cs dflt i ctx st).cls = .ok →
        Inv X params env ctx (walkPluralCases g esc call cs dflt i ctx st).st)
  | .nil, env, sd, dflt, i, ctx, st, _, hd, hi, hown, hok => hd ctx st hi hown hok
  | .cons _ v _ body rest, env, sd, dflt, i, ctx, st, h, hd, hi, hown, hok => by
    rw [walkPluralCases]
    rw [SafePl]
    split
    · exact parts_safe body env ctx st (And.left h) hi hown hok
    · exact pl_safe rest env sd dflt i ctx st (And.right h) hd hi hown hok
/-- the placeholders of an accepted message: each run is safe and keeps the invariant -/
theorem safePhAll_rel : (ps : MsgParts) → ∀ (env : Env), OkParts (Registry.toCheck g.reg) params env ps → ∀ (d : Nat),
    PhSafe X params env (phAll g esc call ps d) (SafePhAll g esc call scall X ps d)
  | .nil, _, _, d => .nil
  | .text _ _ rest, env, h, d => safePhAll_rel rest env h d
  | .ph _ name (.htmlTag p t) rest, env, h, d =>
    .cons (execPh_good g esc call hcall _) (fun ctx st hi _ _ => ⟨True.intro, fun _ => hi.of_heap rfl⟩)
      (safePhAll_rel rest env (And.right h) d)
  | .ph _ name (.cmd c) rest, env, h, d => by
    obtain ⟨⟨hc, hd⟩, hr⟩ := h
    refine .cons (execPh_good g esc call hcall _) (fun ctx st hi hown hok => ?_) (safePhAll_rel rest env hr d)
    show SafeCmd g esc call scall X c ctx (atNode st (cmdPos c)) ∧ _
    have hi0 : Inv X params env ctx (atNode st (cmdPos c)) := hi.of_heap rfl
    have hown0 : Own ctx (atNode st (cmdPos c)) := hown.of_heap rfl
    refine ⟨cmd_safe c env ctx _ hc hi0 hown0 hok, fun hcls => ?_⟩
    have := (inv_after g esc call hcall X params c env ctx _ hi0 hown0 hok hcls).2.1
    rw [hd, List.append_nil] at this
    exact this
  | .plural _ _ v cases _ dflt rest, env, h, d => by
    obtain ⟨⟨_, hcs, hd⟩, hr⟩ := h
    exact ((safePhAllCases_rel cases env hcs (d + 3)).append X params (safePhAll_rel dflt env hd (d + 2))).append X params
      (safePhAll_rel rest env hr d)
theorem safePhAllCases_rel : (cs : PluralCases) → ∀ (env : Env), OkPlCases (Registry.toCheck g.reg) params env cs → ∀ (d : Nat),
    PhSafe X params env (phAllCases g esc call cs d) (SafePhAllCases g esc call scall X cs d)
  | .nil, _, _, d => .nil
  | .cons _ _ _ body rest, env, h, d =>
    (safePhAll_rel body env (And.left h) d).append X params (safePhAllCases_rel rest env (And.right h) d)
end

end

/-- An accepted bundle never looks up a name that nothing binds — outside the stated exemptions:
    for every template `t` of a registry the checker accepts, entered (by `execute`, or by a {call} at any
    depth) on a scope that binds every declared param of `t` outside `exemptOf t viaData`, every expression
    the walk of `t` evaluates — in `t`'s own body, and in every callee at every depth the fuel allows — has
    all its variable references bound, except

      * an OPTIONAL param of a template that its entry scope does not bind (the caller did not pass it), and
      * the declared params of a callee entered with data="all" / data="$e".

    {let} and loop variables are never exempt.  A {msg} is followed through the message bundle, if one is
    installed. -/
theorem render_never_misses (g : GEnv) (hc : Check.check (Registry.toCheck g.reg) = true) :
    ∀ (fuel : Nat) (t : Registry.Tmpl), t ∈ g.reg → ∀ (viaData : Bool) (cctx : Scope) (st : St),
      Own cctx st → ScopeOk cctx st →
      (∀ p ∈ t.params, exemptOf t viaData cctx st p.name = false → misses st.heap cctx p.name = false) →
      SafeTmpl g fuel t viaData cctx st := by
  have hvalid := C07.check_sound _ hc
  intro fuel
  induction fuel with
  | zero => intro t _ vd cctx st _ _ _; rw [SafeTmpl]; trivial
  | succ n ih =>
    intro t ht vd cctx st hown hok hp
    rw [SafeTmpl]
    have hvt := hvalid _ (mem_toCheck ht)
    refine body_safe g (escapeOf t) (runTmpl g n) (runTmpl_good g n) (SafeTmpl g n) (exemptOf t vd cctx st)
      (t.params.map (·.name)) (fun callee vd' cctx' st2 hm ho hk hp' => ih callee hm vd' cctx' st2 ho hk hp')
      t.body [] cctx (atNode st t.pos) hvt.1 ⟨fun b hb => (by simp at hb), ?_, fun b hb => (by simp at hb)⟩ (hown.of_heap rfl) hok
    intro p hp' hx
    obtain ⟨q, hq, rfl⟩ := List.mem_map.mp hp'
    exact hp q hq hx

/-- `execute` with data that binds every declared param of the entry template (optional ones too): no
    name is exempt in the entry template, and `SafeTmpl` holds for it.  The scope and state written out in the
    statement are the ones `execute` starts the walk of the entry template on (`execute_some`, Lemmas/ExecEqns) — to
    be compared by reading: the statement does not mention `execute`. -/
theorem execute_never_misses (g : GEnv) (hc : Check.check (Registry.toCheck g.reg) = true)
    (name : Bytes) (t : Registry.Tmpl) (hl : Registry.lookup g.reg name = some t) (data : Frame)
    (hdata : ∀ p ∈ t.params, (Frame.find data p.name).isSome = true) (fuel : Nat) :
    (∀ k, exemptOf t false [⟨1, false⟩, ⟨0, true⟩]
        { heap := [⟨data, true⟩, ⟨[], false⟩], out := [], next := freshBase g data, foreign := 0 } k = false) ∧
    SafeTmpl g fuel t false [⟨1, false⟩, ⟨0, true⟩]
      { heap := [⟨data, true⟩, ⟨[], false⟩], out := [], next := freshBase g data, foreign := 0 } := by
  have hm : ∀ p ∈ t.params, misses [⟨data, true⟩, ⟨[], false⟩] [⟨1, false⟩, ⟨0, true⟩] p.name = false := by
    intro p hp
    have := hdata p hp
    cases hf : Frame.find data p.name with
    | none => rw [hf] at this; cases this
    | some v => simp [misses, heapGet, Frame.find, hf]
  refine ⟨fun k => ?_, ?_⟩
  · simp only [exemptOf, Bool.false_eq_true, if_false]
    cases ha : (t.params.any fun p => p.optional && p.name == k) with
    | false => rfl
    | true =>
      obtain ⟨p, hp, hpk⟩ := List.any_eq_true.mp ha
      simp only [Bool.and_eq_true, beq_iff_eq] at hpk
      rw [← hpk.2, hm p hp]; rfl
  · exact render_never_misses g hc fuel t (List.mem_of_find?_eq_some hl) false _ _
      (Own.init rfl) (ScopeOk.init rfl)
      (fun p hp _ => hm p hp)

/-- the same statement as `render_never_misses` -/
theorem render_never_misses_partial (g : GEnv) (hc : Check.check (Registry.toCheck g.reg) = true) :
    ∀ (fuel : Nat) (t : Registry.Tmpl), t ∈ g.reg → ∀ (viaData : Bool) (cctx : Scope) (st : St),
      Own cctx st → ScopeOk cctx st →
      (∀ p ∈ t.params, exemptOf t viaData cctx st p.name = false → misses st.heap cctx p.name = false) →
      SafeTmpl g fuel t viaData cctx st := render_never_misses g hc

/-! ### examples

    {template a}  @param x          {let $v: $x /}{$v}{call b}{param w: $v /}{/call}
    {template b}  @param w  @param? y   {$w}{if $y}Y{/if}

  The bundle is accepted; `a` rendered on {x: 'X'} satisfies the hypotheses (`SafeTmpl` holds with an empty
  exemption set for `a`); `b`, entered by a call that passes `w` only, does NOT get `y`: the lookup of `$y` in
  `{if $y}` misses — the exemption of un-passed optional params is needed.  (`calleeEntry` builds that entry by hand,
  from `a`'s entry scope and with the literal 'X' for `$v`; it is not the state the run of `a` reaches.) -/
namespace Examples

def kx : Bytes := [120]
def ky : Bytes := [121]
def kw : Bytes := [119]
def kv : Bytes := [118]

def tA : Registry.Tmpl :=
  { name := [97], params := [⟨kx, false⟩],
    body := .mk 1 (.cons (.letValue 2 kv (.dataRef 2 kx .nil)) (.cons (.print 3 (.dataRef 3 kv .nil) [])
      (.cons (.call 4 [98] false none (.value 5 kw (.dataRef 5 kv .nil) .nil)) .nil))),
    autoescape := .unspecified, nsName := [110], nsAutoescape := .unspecified, pos := 0, file := [102], text := [] }

def tB : Registry.Tmpl :=
  { name := [98], params := [⟨kw, false⟩, ⟨ky, true⟩],
    body := .mk 11 (.cons (.print 12 (.dataRef 12 kw .nil) [])
      (.cons (.ifc 13 (.cons 13 (some (.dataRef 13 ky .nil)) (.mk 14 (.cons (.rawText 14 [89]) .nil)) .nil)) .nil)),
    autoescape := .unspecified, nsName := [110], nsAutoescape := .unspecified, pos := 10, file := [102], text := [] }

def gEx : GEnv := { reg := [tA, tB], globals := [], ij := none, msgs := none, tbl := [], oblig := [] }

theorem accepted : Check.check (Registry.toCheck gEx.reg) = true := by decide +kernel

def dataX : Frame := [(kx, .str [88])]

/-- the hypotheses are satisfiable: `a` on {x: 'X'} — nothing is exempt in `a`, every lookup of the walk hits
    (in `a`, and in `b` except for its un-passed optional `y`) -/
example : (∀ k, exemptOf tA false [⟨1, false⟩, ⟨0, true⟩]
      { heap := [⟨dataX, true⟩, ⟨[], false⟩], out := [], next := freshBase gEx dataX, foreign := 0 } k = false) ∧
    SafeTmpl gEx 3 tA false [⟨1, false⟩, ⟨0, true⟩]
      { heap := [⟨dataX, true⟩, ⟨[], false⟩], out := [], next := freshBase gEx dataX, foreign := 0 } :=
  execute_never_misses gEx accepted [97] tA rfl dataX (by decide) 3

/-- … and the render succeeds: "XX" -/
example : (execute gEx [97] dataX 3).cls = .ok ∧ (execute gEx [97] dataX 3).chunks.flatten = [88, 88] := by
  decide +kernel

/-- the scope and state `b` is entered on by `{call b}{param w: 'X' /}{/call}` from the entry scope of `a` -/
def calleeEntry : Option (Scope × St) :=
  let ctxA : Scope := [⟨1, false⟩, ⟨0, true⟩]
  let stA : St := { heap := [⟨dataX, true⟩, ⟨[], false⟩], out := [], next := 2, foreign := 0 }
  match callData gEx false none ctxA stA with
  | none => none
  | some (cd, s1) =>
    enter cd (execParams gEx true (runTmpl gEx 0) (.value 5 kw (.str 5 [] [88]) .nil) cd ctxA s1).st

/-- an optional param the caller did not pass DOES miss: on `b`'s entry scope `$w` is bound, `$y` (read by
    `{if $y}`) is not — it is exempt by `exemptOf`, and the exemption is needed -/
theorem unpassed_optional_param_misses :
    calleeEntry.map (fun p => (misses p.2.heap p.1 kw, misses p.2.heap p.1 ky, exemptOf tB false p.1 p.2 ky)) =
      some (false, true, true) := by
  decide +kernel

/-- a template the checker REJECTS: `{$q}` with no such param -/
def tBad : Registry.Tmpl :=
  { name := [99], params := [], body := .mk 1 (.cons (.print 2 (.dataRef 2 [113] .nil) []) .nil),
    autoescape := .unspecified, nsName := [110], nsAutoescape := .unspecified, pos := 0, file := [102], text := [] }

def gBad : GEnv := { reg := [tBad], globals := [], ij := none, msgs := none, tbl := [], oblig := [] }

example : Check.check (Registry.toCheck gBad.reg) = false := by decide +kernel

-- `SafeTmpl` is not vacuous: `tBad` is not safe (its lookup of `$q` does miss)
example : ¬ SafeTmpl gBad 1 tBad false [⟨1, false⟩, ⟨0, true⟩]
    { heap := [⟨[], true⟩, ⟨[], false⟩], out := [], next := 2, foreign := 0 } := by
  intro h
  have := h.1.1 [113] (by simp [exprKeys, accessKeys, dirsKeys]) (by decide) (by simp [exemptOf, tBad])
  simp [misses, heapGet, atNode, Frame.find] at this

/-! the loop functions: `{foreach $i in $x}{index($i)}{isLast($i)}{/foreach}` is accepted, renders, and is safe
    (the lookups of `i.index` / `i.lastIndex` hit: `Inv.helpers`); `{isFirst($x)}` on the param `x` is what
    the checker rejects (R_loopfn, /repo e0343b6) — its lookup of `x.index` misses. -/

/-- the checker's loop functions are the interpreter's -/
example : Check.loopFn = isLoopFunc := rfl

def ki : Bytes := [105]
def tLoop : Registry.Tmpl :=
  { name := [108], params := [⟨kx, false⟩],
    body := .mk 1 (.cons (.forc 2 ki (.dataRef 2 kx .nil) (.mk 3 (.cons
      (.print 4 (.func 4 fIndex (.cons (.dataRef 4 ki .nil) .nil)) []) (.cons
      (.print 5 (.func 5 fIsLast (.cons (.dataRef 5 ki .nil) .nil)) []) .nil))) none) .nil),
    autoescape := .unspecified, nsName := [110], nsAutoescape := .unspecified, pos := 0, file := [102],
    text := List.replicate 8 32 }
def gLoop : GEnv := { reg := [tLoop], globals := [], ij := none, msgs := none, tbl := [], oblig := [] }
def dataL : Frame := [(kx, .list 7 [.str [97], .str [98]])]

example : Check.check (Registry.toCheck gLoop.reg) = true := by decide +kernel
example : (execute gLoop [108] dataL 3).cls = .ok ∧
    (execute gLoop [108] dataL 3).chunks.flatten = [48, 102, 97, 108, 115, 101, 49, 116, 114, 117, 101] := by
  decide +kernel
example : SafeTmpl gLoop 3 tLoop false [⟨1, false⟩, ⟨0, true⟩]
    { heap := [⟨dataL, true⟩, ⟨[], false⟩], out := [], next := freshBase gLoop dataL, foreign := 0 } :=
  (execute_never_misses gLoop (by decide +kernel) [108] tLoop rfl dataL (by decide) 3).2

def tLoopBad : Registry.Tmpl :=
  { name := [99], params := [⟨kx, false⟩],
    body := .mk 1 (.cons (.print 2 (.func 2 fIsFirst (.cons (.dataRef 2 kx .nil) .nil)) []) .nil),
    autoescape := .unspecified, nsName := [110], nsAutoescape := .unspecified, pos := 0, file := [102], text := [] }
def gLoopBad : GEnv := { reg := [tLoopBad], globals := [], ij := none, msgs := none, tbl := [], oblig := [] }

example : Check.check (Registry.toCheck gLoopBad.reg) = false := by decide +kernel
example : ¬ SafeTmpl gLoopBad 1 tLoopBad false [⟨1, false⟩, ⟨0, true⟩]
    { heap := [⟨dataX, true⟩, ⟨[], false⟩], out := [], next := 2, foreign := 0 } := by
  intro h
  have := h.1.2 (kx ++ sIndexSuffix) (by
    simp [helperKeys, exprLoops, exprsLoops, accessLoops, dirsLoops, Check.loopFn, fIsFirst, loopKeyOf, fIsLast])
  revert this
  decide

/-! a {msg} through a bundle: `{msg}H{$x} and {$n}{/msg}` with the translation `[{N}|{X}]` (placeholders
    reordered), and `{msg}{plural $n}{case 1}one{default}{$n}s{/plural}{/msg}` with a plural translation; a
    second bundle whose translation names a placeholder `Q` the message does not have: the render FAILS
    (an error), `SafeTmpl` still holds (no lookup missed). -/

def kn : Bytes := [110]

def tM : Registry.Tmpl :=
  { name := [109], params := [⟨kx, false⟩, ⟨kn, false⟩],
    body := .mk 1 (.cons (.msg 2 77 [] [] 3
        (.text 3 [72] (.ph 4 [88] (.cmd (.print 4 (.dataRef 4 kx .nil) []))
          (.text 5 [32] (.ph 6 [78] (.cmd (.print 6 (.dataRef 6 kn .nil) [])) .nil)))))
      (.cons (.msg 7 78 [] [] 8
        (.plural 8 [86] (.dataRef 8 kn .nil)
          (.cons 9 1 10 (.text 10 [111, 110, 101] .nil) .nil) 11
          (.ph 11 [78] (.cmd (.print 11 (.dataRef 11 kn .nil) [])) (.text 12 [115] .nil)) .nil)) .nil)),
    autoescape := .unspecified, nsName := [110], nsAutoescape := .unspecified, pos := 0, file := [102],
    text := [32, 32, 32, 32, 32, 32, 32, 32, 32, 32, 32, 32, 32, 32, 32, 32, 32, 32, 32, 32] }

def bundleOk : MsgBundle :=
  { message := fun id =>
      if id == 77 then some (.cons (.raw [91]) (.cons (.ph [78]) (.cons (.raw [124]) (.cons (.ph [88]) (.cons (.raw [93]) .nil)))))
      else if id == 78 then some (.cons (.plural [86]
        (.cons (.cons (.raw [101, 105, 110, 115]) .nil)
          (.cons (.cons (.ph [78]) (.cons (.raw [32, 118, 105, 101, 108, 101]) .nil)) .nil))) .nil)
      else none
    pluralCase := fun n => if n == 1 then 0 else 1 }

def bundleBad : MsgBundle :=
  { message := fun id => if id == 77 then some (.cons (.ph [81]) .nil) else none, pluralCase := fun _ => 0 }

def gM (b : MsgBundle) : GEnv := { reg := [tM], globals := [], ij := none, msgs := some b, tbl := [], oblig := [] }

def dataM : Frame := [(kx, .str [111, 117, 116]), (kn, .int 3)]

theorem acceptedM (b : MsgBundle) : Check.check (Registry.toCheck (gM b).reg) = true := by
  show Check.check (Registry.toCheck [tM]) = true
  decide +kernel

/-- through the translations: "[3|out]3 viele" -/
example : (execute (gM bundleOk) [109] dataM 3).cls = .ok ∧
    (execute (gM bundleOk) [109] dataM 3).chunks.flatten = [91, 51, 124, 111, 117, 116, 93, 51, 32, 118, 105, 101, 108, 101] := by
  decide +kernel

example : SafeTmpl (gM bundleOk) 3 tM false [⟨1, false⟩, ⟨0, true⟩]
    { heap := [⟨dataM, true⟩, ⟨[], false⟩], out := [], next := freshBase (gM bundleOk) dataM, foreign := 0 } :=
  (execute_never_misses (gM bundleOk) (acceptedM _) [109] tM rfl dataM (by decide) 3).2

/-- a translation naming a placeholder the message does not have: an error of the render — and no miss -/
example : (execute (gM bundleBad) [109] dataM 3).cls = .err := by decide +kernel

example : SafeTmpl (gM bundleBad) 3 tM false [⟨1, false⟩, ⟨0, true⟩]
    { heap := [⟨dataM, true⟩, ⟨[], false⟩], out := [], next := freshBase (gM bundleBad) dataM, foreign := 0 } :=
  (execute_never_misses (gM bundleBad) (acceptedM _) [109] tM rfl dataM (by decide) 3).2

end Examples

end SoyVerif.Props.C07b
