/-
  Declarative specification of property C07: the data-reference rules of a bundle.

  Written from the property statement, not from parsepasses/datarefcheck.go: there is
  no checker state here.  A reference `$k` is interpreted in its LEXICAL ENVIRONMENT
  (`Env`, the {let} and loop variables whose scope contains the reference, innermost
  last) by the relation `Resolves`; "a let / a param is used" is an existential over the
  reference occurrences of a region of the tree (`refs…`, the resolved free reference
  occurrences of a subtree under an environment).

  Rules (names as in the property statement):
    R1 `RefBound`   every reference is bound: `$ij`, an enclosing let whose tag precedes the
                    reference, an enclosing loop whose BODY contains it, or a declared param
    R2 `ParamUsed`  every declared param is the target of some reference, or is passed on by
                    a `{call … data="all"}` to a callee that declares it
    R3 `LetUsed`    every let is the target of some reference in its scope (innermost binding wins)
    R4 `LetNameOk`  no let is called `ij`
    R5 `CallOk`     the callee exists, only declared params are passed, all required params
                    are passed unless the call has a `data=` expression
    R6              no `{@param}` node is left in a template body
    R_loopfn `LoopArgOk`  every occurrence of `index` / `isFirst` / `isLast` has exactly one argument,
                    a plain reference `$x` (no access), and `x` is the variable of a loop whose BODY
                    contains the occurrence (a {let} of the same name inside that body does not matter:
                    the functions speak about the loop)

  Scopes: a let binds from just after its own tag to the end of the innermost enclosing
  node that has children (command list of a template / if-branch / case / loop body /
  ifempty / let or param content / log; a msg placeholder).  The position of a binding in
  the environment (its *level*) identifies it: environments only grow at the end, so a
  level means the same binding throughout the scope of that binding.
-/
import SoyVerif.Model.Ast
import SoyVerif.Model.Check

namespace SoyVerif.Spec
open SoyVerif SoyVerif.Model

/-- the name `ij` -/
def ijName : Bytes := [105, 106]

/-- a variable introduced by {let} (`isLet`) or by a loop -/
structure Binding where
  name : Bytes
  isLet : Bool
  deriving Repr, DecidableEq, Inhabited

/-- lexical environment: the let/loop variables in scope, innermost LAST -/
abbrev Env := List Binding

/-- what a reference denotes -/
inductive Target where
  | ij                       -- the injected data
  | var (level : Nat)        -- the binding at this position of the environment
  | param (name : Bytes)     -- a declared param of the template
  deriving Repr, DecidableEq, Inhabited

/-- `t` is not a variable of level `n` or above (it survives leaving a scope entered at level `n`) -/
def Target.below (n : Nat) : Target → Bool
  | .var i => decide (i < n)
  | _ => true

/-- `Resolves params env k t`: the reference `$k` in environment `env` of a template that declares
    `params` denotes `t`.  `ij` first, then the INNERMOST variable called `k`, then a param. -/
inductive Resolves (params : List Bytes) (env : Env) (k : Bytes) : Target → Prop where
  | ij : k = ijName → Resolves params env k .ij
  | var (i : Nat) (b : Binding) :
      k ≠ ijName → env[i]? = some b → b.name = k →
      (∀ j b', i < j → env[j]? = some b' → b'.name ≠ k) →
      Resolves params env k (.var i)
  | param : k ≠ ijName → (∀ b ∈ env, b.name ≠ k) → k ∈ params → Resolves params env k (.param k)

/-- level of the innermost (last) binding called `k` -/
def lastIndex (k : Bytes) : Env → Option Nat
  | [] => none
  | b :: rest =>
    match lastIndex k rest with
    | some i => some (i + 1)
    | none => if b.name = k then some 0 else none

/-- the function computing `Resolves` (see `resolve_eq_some_iff`) -/
def resolve (params : List Bytes) (env : Env) (k : Bytes) : Option Target :=
  if k = ijName then some .ij
  else match lastIndex k env with
    | some i => some (.var i)
    | none => if k ∈ params then some (.param k) else none

/-! ### reference occurrences of expressions (expressions bind nothing) -/

mutual
  /-- the keys of the references `$k…` occurring in an expression, in source order -/
  def exprKeys : Expr → List Bytes
    | .dataRef _ key acc => key :: accessKeys acc
    | .func _ _ args => exprsKeys args
    | .list _ items => exprsKeys items
    | .map _ items => mapKeys items
    | .not _ a => exprKeys a
    | .neg _ a => exprKeys a
    | .bin _ _ a b => exprKeys a ++ exprKeys b
    | .tern _ c a b => exprKeys c ++ (exprKeys a ++ exprKeys b)
    | _ => []
  def exprsKeys : ExprList → List Bytes
    | .nil => []
    | .cons e r => exprKeys e ++ exprsKeys r
  def mapKeys : MapItems → List Bytes
    | .nil => []
    | .cons _ e r => exprKeys e ++ mapKeys r
  def accessKeys : AccessList → List Bytes
    | .nil => []
    | .cons a r =>
      (match a with
       | .expr _ _ e => exprKeys e
       | _ => []) ++ accessKeys r
end

/-! ### occurrences of the loop functions

  `index($x)`, `isFirst($x)`, `isLast($x)` speak about a loop: each occurrence is listed, in source
  order, as the function's name and its argument list. -/

/-- an occurrence of a loop function: its name and its arguments -/
abbrev LoopOcc := Bytes × ExprList

mutual
  def exprLoops : Expr → List LoopOcc
    | .dataRef _ _ acc => accessLoops acc
    | .func _ name args => (if Check.loopFn name then [(name, args)] else []) ++ exprsLoops args
    | .list _ items => exprsLoops items
    | .map _ items => mapLoops items
    | .not _ a => exprLoops a
    | .neg _ a => exprLoops a
    | .bin _ _ a b => exprLoops a ++ exprLoops b
    | .tern _ c a b => exprLoops c ++ (exprLoops a ++ exprLoops b)
    | _ => []
  def exprsLoops : ExprList → List LoopOcc
    | .nil => []
    | .cons e r => exprLoops e ++ exprsLoops r
  def mapLoops : MapItems → List LoopOcc
    | .nil => []
    | .cons _ e r => exprLoops e ++ mapLoops r
  def accessLoops : AccessList → List LoopOcc
    | .nil => []
    | .cons a r =>
      (match a with
       | .expr _ _ e => exprLoops e
       | _ => []) ++ accessLoops r
end

def optLoops : Option Expr → List LoopOcc
  | none => []
  | some e => exprLoops e

def listLoops : List Expr → List LoopOcc
  | [] => []
  | e :: r => exprLoops e ++ listLoops r

def dirsLoops : List Directive → List LoopOcc
  | [] => []
  | d :: r => listLoops d.args ++ dirsLoops r

def optKeys : Option Expr → List Bytes
  | none => []
  | some e => exprKeys e

def listKeys : List Expr → List Bytes
  | [] => []
  | e :: r => exprKeys e ++ listKeys r

def dirsKeys : List Directive → List Bytes
  | [] => []
  | d :: r => listKeys d.args ++ dirsKeys r

/-- the keys of the `{param}`s of a call -/
def callKeys : ParamList → List Bytes
  | .nil => []
  | .value _ k _ r => k :: callKeys r
  | .content _ k _ r => k :: callKeys r

/-- the binding a command leaves behind for the commands that follow it in the same list -/
def decl : Cmd → List Binding
  | .letValue _ name _ => [{ name := name, isLet := true }]
  | .letContent _ name _ => [{ name := name, isLet := true }]
  | _ => []

/-! ### the rules -/

section
variable (reg : List Check.Template) (params : List Bytes)

/-- R1 for the references of an expression position -/
def RefBound (env : Env) (k : Bytes) : Prop := ∃ t, Resolves params env k t

def KeysBound (env : Env) (ks : List Bytes) : Prop := ∀ k ∈ ks, RefBound params env k

/-- R_loopfn for one occurrence of a loop function: it is applied to one plain reference `$x`, and
    `x` names the variable of an enclosing `{foreach}` / `{for}` (some binding of that name in scope is
    a loop variable; a `{let}` of the same name inside the loop does not matter) -/
def LoopArgOk (env : Env) (o : LoopOcc) : Prop :=
  ∃ x, Check.loopArg o.2 = some x ∧ ∃ b ∈ env, b.name = x ∧ b.isLet = false

def LoopsOk (env : Env) (ls : List LoopOcc) : Prop := ∀ o ∈ ls, LoopArgOk env o

/-- R1 and R_loopfn for an expression position with reference keys `ks` and loop-function
    occurrences `ls` -/
def ExprsOk (env : Env) (ks : List Bytes) (ls : List LoopOcc) : Prop :=
  KeysBound params env ks ∧ LoopsOk env ls

/-- the resolved reference occurrences among `ks` -/
def refsKeys (env : Env) (ks : List Bytes) : List Target := ks.filterMap (resolve params env)

/-- R3: the let at `level` is the target of one of the reference occurrences of its scope -/
def LetUsed (level : Nat) (scopeRefs : List Target) : Prop := Target.var level ∈ scopeRefs

/-- R4 -/
def LetNameOk (name : Bytes) : Prop := name ≠ ijName

/-- `Registry.Template(name)`: the first template of that name -/
def callee (name : Bytes) : Option Check.Template := reg.find? (fun t => decide (t.name = name))

/-- the caller's params that a `data="all"` call hands to a callee declaring them -/
def passedByAll (name : Bytes) (allData : Bool) : List Bytes :=
  match allData, callee reg name with
  | true, some c => params.filter (fun p => decide (p ∈ c.params.map (·.name)))
  | _, _ => []

/-- R5 -/
def CallOk (name : Bytes) (allData hasData : Bool) (keys : List Bytes) : Prop :=
  ∃ c, callee reg name = some c ∧
    (∀ k ∈ keys, k ∈ c.params.map (·.name)) ∧
    (hasData = false →
      ∀ p ∈ c.params, p.optional = false → p.name ∈ passedByAll reg params name allData ++ keys)

mutual
  /-- the resolved FREE reference occurrences of a command in environment `env`: the targets of
      its references that are not bound inside the command itself (plus, for a `data="all"` call,
      the params it passes on) -/
  def refsCmd (env : Env) : Cmd → List Target
    | .print _ a dirs => refsKeys params env (exprKeys a ++ dirsKeys dirs)
    | .msg _ _ _ _ _ body => refsParts env body
    | .css _ e _ => refsKeys params env (optKeys e)
    | .log _ b => refsBlock env b
    | .ifc _ conds => refsConds env conds
    | .forc _ v l b ie =>
      refsKeys params env (exprKeys l)
        ++ ((refsBlock (env ++ [{ name := v, isLet := false }]) b).filter (Target.below env.length)
        ++ (match ie with
            | some b' => refsBlock env b'
            | none => []))
    | .switch _ v cases => refsKeys params env (exprKeys v) ++ refsCases env cases
    | .call _ name allData d ps =>
      (passedByAll reg params name allData).map Target.param
        ++ (refsKeys params env (optKeys d) ++ refsParams env ps)
    | .letValue _ _ e => refsKeys params env (exprKeys e)      -- not in the scope of the variable
    | .letContent _ _ b => refsBlock env b                      -- not in the scope of the variable
    | .template _ _ b _ _ => refsBlock env b
    | _ => []
  /-- a command list is a scope: references to the lets declared in it are not free -/
  def refsBlock (env : Env) : Block → List Target
    | .mk _ cmds => (refsCmds env cmds).filter (Target.below env.length)
  /-- a let binds in the commands that follow it -/
  def refsCmds (env : Env) : CmdList → List Target
    | .nil => []
    | .cons c r => refsCmd env c ++ refsCmds (env ++ decl c) r
  def refsConds (env : Env) : CondList → List Target
    | .nil => []
    | .cons _ c b r => (refsKeys params env (optKeys c) ++ refsBlock env b) ++ refsConds env r
  def refsCases (env : Env) : CaseList → List Target
    | .nil => []
    | .cons _ vs b r => (refsBlock env b ++ refsKeys params env (listKeys vs)) ++ refsCases env r
  def refsParams (env : Env) : ParamList → List Target
    | .nil => []
    | .value _ _ e r => refsKeys params env (exprKeys e) ++ refsParams env r
    | .content _ _ b r => refsBlock env b ++ refsParams env r
  def refsParts (env : Env) : MsgParts → List Target
    | .nil => []
    | .text _ _ r => refsParts env r
    | .ph _ _ body r =>
      (match body with
       | .htmlTag .. => []
       | .cmd c => refsCmd env c) ++ refsParts env r
    | .plural _ _ v cases _ d r =>
      (refsKeys params env (exprKeys v) ++ (refsPlCases env cases ++ refsParts env d)) ++ refsParts env r
  def refsPlCases (env : Env) : PluralCases → List Target
    | .nil => []
    | .cons _ _ _ b r => refsParts env b ++ refsPlCases env r
end

mutual
  /-- the rules R1, R3–R6 and R_loopfn for a command in environment `env` -/
  def OkCmd (env : Env) : Cmd → Prop
    | .print _ a dirs => ExprsOk params env (exprKeys a ++ dirsKeys dirs) (exprLoops a ++ dirsLoops dirs)
    | .msg _ _ _ _ _ body => OkParts env body
    | .css _ e _ => ExprsOk params env (optKeys e) (optLoops e)
    | .log _ b => OkBlock env b
    | .ifc _ conds => OkConds env conds
    | .forc _ v l b ie =>
      ExprsOk params env (exprKeys l) (exprLoops l)                          -- the list is outside the loop variable's scope
        ∧ (OkBlock (env ++ [{ name := v, isLet := false }]) b    -- only the body is inside
        ∧ (match ie with
           | some b' => OkBlock env b'
           | none => True))
    | .switch _ v cases => ExprsOk params env (exprKeys v) (exprLoops v) ∧ OkCases env cases
    | .call _ name allData d ps =>
      CallOk reg params name allData d.isSome (callKeys ps)      -- R5
        ∧ (ExprsOk params env (optKeys d) (optLoops d) ∧ OkParams env ps)
    | .letValue _ name e => LetNameOk name ∧ ExprsOk params env (exprKeys e) (exprLoops e)   -- R4
    | .letContent _ name b => LetNameOk name ∧ OkBlock env b                      -- R4
    | .headerParam .. => False                                                     -- R6
    | .template _ _ b _ _ => OkBlock env b
    | _ => True
  def OkBlock (env : Env) : Block → Prop
    | .mk _ cmds => OkCmds env cmds
  /-- R3: a let must be the target of a reference among the commands that follow it -/
  def OkCmds (env : Env) : CmdList → Prop
    | .nil => True
    | .cons c r =>
      OkCmd env c
        ∧ (decl c ≠ [] → LetUsed env.length (refsCmds reg params (env ++ decl c) r))
        ∧ OkCmds (env ++ decl c) r
  def OkConds (env : Env) : CondList → Prop
    | .nil => True
    | .cons _ c b r => (ExprsOk params env (optKeys c) (optLoops c) ∧ OkBlock env b) ∧ OkConds env r
  def OkCases (env : Env) : CaseList → Prop
    | .nil => True
    | .cons _ vs b r => (OkBlock env b ∧ ExprsOk params env (listKeys vs) (listLoops vs)) ∧ OkCases env r
  def OkParams (env : Env) : ParamList → Prop
    | .nil => True
    | .value _ _ e r => ExprsOk params env (exprKeys e) (exprLoops e) ∧ OkParams env r
    | .content _ _ b r => OkBlock env b ∧ OkParams env r
  def OkParts (env : Env) : MsgParts → Prop
    | .nil => True
    | .text _ _ r => OkParts env r
    | .ph _ _ body r =>
      (match body with
       | .htmlTag .. => True
       | .cmd c => OkCmd env c ∧ decl c = [])     -- R3: nothing follows a let here, it cannot be used
        ∧ OkParts env r
    | .plural _ _ v cases _ d r =>
      (ExprsOk params env (exprKeys v) (exprLoops v) ∧ (OkPlCases env cases ∧ OkParts env d)) ∧ OkParts env r
  def OkPlCases (env : Env) : PluralCases → Prop
    | .nil => True
    | .cons _ _ _ b r => OkParts env b ∧ OkPlCases env r
end

end

/-! ### R1 on its own: the reference occurrences with their lexical environments

  `occsCmd env c` lists every reference `$k` of the subtree together with the environment at
  that point.  (`OkCmd` implies that each of them is bound: `Lemmas.Check.okCmd_occs` …, Lemmas/CheckRefs.) -/

/-- a reference occurrence: the environment at the reference, and its key -/
abbrev Occ := Env × Bytes

def occsKeys (env : Env) (ks : List Bytes) : List Occ := ks.map fun k => (env, k)

mutual
  def occsCmd (env : Env) : Cmd → List Occ
    | .print _ a dirs => occsKeys env (exprKeys a ++ dirsKeys dirs)
    | .msg _ _ _ _ _ body => occsParts env body
    | .css _ e _ => occsKeys env (optKeys e)
    | .log _ b => occsBlock env b
    | .ifc _ conds => occsConds env conds
    | .forc _ v l b ie =>
      occsKeys env (exprKeys l)
        ++ (occsBlock (env ++ [{ name := v, isLet := false }]) b
        ++ (match ie with
            | some b' => occsBlock env b'
            | none => []))
    | .switch _ v cases => occsKeys env (exprKeys v) ++ occsCases env cases
    | .call _ _ _ d ps => occsKeys env (optKeys d) ++ occsParams env ps
    | .letValue _ _ e => occsKeys env (exprKeys e)
    | .letContent _ _ b => occsBlock env b
    | .template _ _ b _ _ => occsBlock env b
    | _ => []
  def occsBlock (env : Env) : Block → List Occ
    | .mk _ cmds => occsCmds env cmds
  def occsCmds (env : Env) : CmdList → List Occ
    | .nil => []
    | .cons c r => occsCmd env c ++ occsCmds (env ++ decl c) r
  def occsConds (env : Env) : CondList → List Occ
    | .nil => []
    | .cons _ c b r => (occsKeys env (optKeys c) ++ occsBlock env b) ++ occsConds env r
  def occsCases (env : Env) : CaseList → List Occ
    | .nil => []
    | .cons _ vs b r => (occsBlock env b ++ occsKeys env (listKeys vs)) ++ occsCases env r
  def occsParams (env : Env) : ParamList → List Occ
    | .nil => []
    | .value _ _ e r => occsKeys env (exprKeys e) ++ occsParams env r
    | .content _ _ b r => occsBlock env b ++ occsParams env r
  def occsParts (env : Env) : MsgParts → List Occ
    | .nil => []
    | .text _ _ r => occsParts env r
    | .ph _ _ body r =>
      (match body with
       | .htmlTag .. => []
       | .cmd c => occsCmd env c) ++ occsParts env r
    | .plural _ _ v cases _ d r =>
      (occsKeys env (exprKeys v) ++ (occsPlCases env cases ++ occsParts env d)) ++ occsParts env r
  def occsPlCases (env : Env) : PluralCases → List Occ
    | .nil => []
    | .cons _ _ _ b r => occsParts env b ++ occsPlCases env r
end

/-- R1 for a template: every reference occurrence of the body is bound -/
def AllRefsBound (t : Check.Template) : Prop :=
  ∀ o ∈ occsBlock [] t.body, RefBound (t.params.map (·.name)) o.1 o.2

/-- R2: the param is the target of a free reference occurrence of the body (or is passed on by `data="all"`) -/
def ParamUsed (reg : List Check.Template) (params : List Bytes) (body : Block) (p : Bytes) : Prop :=
  Target.param p ∈ refsBlock reg params [] body

def ValidTemplate (reg : List Check.Template) (t : Check.Template) : Prop :=
  OkBlock reg (t.params.map (·.name)) [] t.body
    ∧ ∀ p ∈ t.params.map (·.name), ParamUsed reg (t.params.map (·.name)) t.body p

/-- the bundle satisfies the data-reference rules -/
def Valid (reg : List Check.Template) : Prop := ∀ t ∈ reg, ValidTemplate reg t

end SoyVerif.Spec
