-- Root of the `SoyVerif` library: everything `./setup.sh` pre-builds.
import SoyVerif.Base.Bytes
import SoyVerif.Base.SExp
import SoyVerif.Base.Utf8
import SoyVerif.Model.Token
import SoyVerif.Model.Ast
import SoyVerif.Model.AstWire
import SoyVerif.Model.Printer
import SoyVerif.Model.Quote
import SoyVerif.Model.Parser
import SoyVerif.Model.Check
import SoyVerif.Model.Registry
import SoyVerif.Model.Writer
import SoyVerif.Props.C15
import SoyVerif.Props.C12
import SoyVerif.Props.C03
import SoyVerif.Props.C16
import SoyVerif.Inst.C03
import SoyVerif.Props.C20
import SoyVerif.Props.C10
import SoyVerif.Model.JsGen
import SoyVerif.Props.C13
import SoyVerif.Props.C18
import SoyVerif.Props.C09
import SoyVerif.Inst.C16
import SoyVerif.Props.C05
import SoyVerif.Props.C07
import SoyVerif.Props.C07b
import SoyVerif.Props.C11
import SoyVerif.Props.C11b
import SoyVerif.Props.C14
import SoyVerif.Model.PrintTokens
import SoyVerif.Props.C17
import SoyVerif.Inst.C17
import SoyVerif.Props.C17b
import SoyVerif.Inst.C17b
import SoyVerif.Model.Eval
import SoyVerif.Spec.Eval
import SoyVerif.Ops.Eval
import SoyVerif.Ops.EvalSpec
import SoyVerif.Lemmas.EvalFrame
import SoyVerif.Lemmas.EvalErrPos
import SoyVerif.Lemmas.EvalWalk
import SoyVerif.Lemmas.EvalGood
import SoyVerif.Props.C02
import SoyVerif.Props.C06
import SoyVerif.Props.C08
import SoyVerif.Lemmas.EvalRefine
import SoyVerif.Lemmas.RegistryNames
import SoyVerif.Props.C01
import SoyVerif.Lemmas.ScopeFind
import SoyVerif.Lemmas.ExecRefine
import SoyVerif.Props.C02Spec
import SoyVerif.Props.C02SpecLib
import SoyVerif.Props.C09b
import SoyVerif.Props.C12b
import SoyVerif.Props.C05parse
import SoyVerif.Props.C19
import SoyVerif.Props.C04
import SoyVerif.Lemmas.EvalPos
import SoyVerif.Props.C19b
import SoyVerif.Props.C03b
import SoyVerif.Props.C18file
import SoyVerif.Props.C04b
import SoyVerif.Props.C04c
import SoyVerif.Props.C04dTr
import SoyVerif.Props.C04dInv
import SoyVerif.Props.C04dSim
import SoyVerif.Props.C04dLed
import SoyVerif.Props.C04d
import SoyVerif.Props.C04e
import SoyVerif.Props.C04f
import SoyVerif.Props.C04fFile
import SoyVerif.Props.C04g
import SoyVerif.Props.C04h
import SoyVerif.Props.C14b
import SoyVerif.Props.C13b
import SoyVerif.Model.JsonMarshal
import SoyVerif.Spec.Json
import SoyVerif.Props.C16b
import SoyVerif.Props.C15b
import SoyVerif.Props.SrcLex
import SoyVerif.Props.C15c
import SoyVerif.Props.C05c
import SoyVerif.Props.C05linear
import SoyVerif.Lemmas.EvalShaped
import SoyVerif.Props.C02b
import SoyVerif.Lemmas.RangeRefine
import SoyVerif.Props.C06pos
import SoyVerif.Props.C20b
import SoyVerif.Props.C10b
import SoyVerif.Model.CheckErr
import SoyVerif.Props.C13c
import SoyVerif.Spec.JsParse
import SoyVerif.Props.C14c
import SoyVerif.Props.C14d
import SoyVerif.Props.C17c
import SoyVerif.Props.C17d
import SoyVerif.Props.C17e
import SoyVerif.Props.C15d
import SoyVerif.Inst.C17c
